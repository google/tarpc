import TarpcModel.Lemmas.ServerMon06
/-!
The server's C18 monitor (`checkC18`, `Monitors/Server.lean`: what the handler is given — trace id, sampling decision,
a fresh span id, the deadline of the request read last for that id) accepts every trace of the server model whose
injected requests carry caller-chosen (`given`) span ids.

* `Ext18` / `T18`: what the parts of the model do to the observation buffer (no request read, no request handed out)
  and to the executions' identity (rid / id / deadline / trace / number), the span counter and the inbound queue;
* `I18`: the invariant — span ids of executions are pairwise distinct `fresh k`, `k` below the counter; the book lists
  the spans of the executions handed out; inbound requests carry `given` spans; a request started in the current poll
  (`pend`) matches the request read last for its id;
* `C18`: the invariant along the observation buffer of the current op together with the verdict so far (`CK`); the steps of
  one poll it survives (`c18_readSteps`, `c18_limitSteps`, `c18_writeSteps`: `c18_requestsPollNext` by the walk of
  `ServerPollWalk`), the end of the poll, where the one `yielded` observation is accepted (`c18_pskFinish`).
-/
namespace TarpcModel.Server.Mon18
open TarpcModel TarpcModel.Server TarpcModel.Server.Flow TarpcModel.Server.ObsMon TarpcModel.Server.Mon06
  TarpcModel.Server.Tab

def isCore18 : Obs → Bool
  | .tNext _ (.item (.request _ _ _ _)) => true
  | .yielded _ _ _ _ => true
  | _ => false

theorem isCore_of_18 (o : Obs) (h : isCore o = false) : isCore18 o = false := by
  cases o <;> simp [isCore, isCore18] at h ⊢

/-- `s'` extends the observation buffer of `s` by observations that read no request and hand none out -/
def Ext18 (s s' : St) : Prop := ∃ l, s'.obs = l ++ s.obs ∧ ∀ o ∈ l, isCore18 o = false
-- (`Adds (fun o => isCore18 o = false)`, and used through the lemmas of `Adds`)

theorem Ext18.pre {s s0 s' : St} (h : Ext18 s0 s') (h1 : s0.obs = s.obs) : Ext18 s s' := Adds.after h h1
theorem Ext18.of_ext {s s' : St} (h : Ext s s') : Ext18 s s' := Adds.mono h isCore_of_18

/-- the spans of the executions the book lists -/
def bspans (b : Book) : List Span := b.execs.map (·.trace.span)

theorem updExec_spans (b : Book) (r : Nat) (f : BExec → BExec) (hf : ∀ e, (f e).trace = e.trace) :
    bspans (b.updExec r f) = bspans b := by
  unfold bspans Book.updExec
  simp only [List.map_map]
  apply List.map_congr_left
  intro e _
  simp only [Function.comp]
  split
  · rw [hf e]
  · rfl

theorem preRead_rr (b : Book) : (preRead b).reqReads = b.reqReads ∧ bspans (preRead b) = bspans b := by
  obtain ⟨t, a, e⟩ := preRead_frame b
  rw [e]; exact ⟨rfl, rfl⟩

theorem swept_spans (b1 : Book) (l : Option Nat) : bspans (sweptBook b1 l) = bspans b1 := by
  unfold bspans
  rw [swept_execs_eq]
  exact map_ite_same b1.execs (fun e => e.tick ≤ b1.now) (fun e => { e with expiredSeen := true }) (·.trace.span) (fun e => rfl)

theorem quiet_rr {b b' : Book} (h : FlowMon.Quiet b b') : b'.reqReads = b.reqReads ∧ bspans b' = bspans b := by
  obtain ⟨g, jr, fl, st, bl, sw, pr, lc, hg, rfl⟩ := h
  refine ⟨rfl, ?_⟩
  unfold bspans
  simp only [List.map_map]
  apply List.map_congr_left
  intro e _
  obtain ⟨c, h, d, he⟩ := hg e
  simp only [Function.comp, he]

theorem ite_swept_rr (b1 : Book) (c : Bool) (l : Option Nat) :
    (if c then sweptBook b1 l else b1).reqReads = b1.reqReads ∧ bspans (if c then sweptBook b1 l else b1) = bspans b1 := by
  cases c
  · exact ⟨rfl, rfl⟩
  · exact ⟨rfl, swept_spans _ _⟩

theorem step18 (b : Book) (o : Obs) (h : isCore18 o = false) :
    (b.step (.obs o)).reqReads = b.reqReads ∧ bspans (b.step (.obs o)) = bspans b := by
  induction o using FlowMon.obs_cases with
  | quiet o hb => exact quiet_rr (FlowMon.step_quiet b o hb)
  | yielded r id d tr => cases h
  | tNext ep r =>
    rw [step_tNext_eq]
    obtain ⟨h1, h2⟩ := preRead_rr b
    cases r with
    | item m =>
      cases m with
      | request id d tr body => cases h
      | cancel id tr =>
        simp only
        split
        · next r' _ =>
          exact ⟨h1, (updExec_spans (preRead b) r' (fun e => { e with cancelRead := true }) (fun e => rfl)).trans h2⟩
        · exact ⟨h1, h2⟩
      | response id res => exact ⟨h1, h2⟩
    | _ => exact ⟨h1, h2⟩
  | resp ep id res ok => cases ok <;> exact ⟨rfl, rfl⟩
  | ret k r =>
    rw [step_ret_eq]
    cases r <;> exact ite_swept_rr _ _ _
  | spin t => exact ⟨rfl, rfl⟩
  | panic t w => exact ⟨rfl, rfl⟩

theorem bo_ext18 (b0 : Book) {s s' : St} (h : Ext18 s s') :
    (bo b0 s'.obs).reqReads = (bo b0 s.obs).reqReads ∧ bspans (bo b0 s'.obs) = bspans (bo b0 s.obs) :=
  bo_adds (P := fun b b' => b'.reqReads = b.reqReads ∧ bspans b' = bspans b) (fun _ => ⟨rfl, rfl⟩)
    (fun h1 h2 => ⟨h2.1.trans h1.1, h2.2.trans h1.2⟩) step18 b0 h

/-- the identity of an execution, as far as C18 is concerned -/
structure XT where
  rid : Nat
  id : Nat
  deadline : Nat
  trace : Trace
  vis : Option Nat

def xt (e : Exec) : XT := ⟨e.rid, e.id, e.deadline, e.trace, e.vis⟩

structure T18 (s s' : St) : Prop where
  execs : s'.execs.map xt = s.execs.map xt
  fresh : s'.nextFresh = s.nextFresh
  inb : ∀ m ∈ s'.t.inbound, m ∈ s.t.inbound

/-- quiet for the C18 book, and the same identities -/
def Q18 (s s' : St) : Prop := Ext18 s s' ∧ T18 s s'

theorem T18.refl (s : St) : T18 s s := ⟨rfl, rfl, fun _ h => h⟩
theorem T18.trans {a b c : St} (h1 : T18 a b) (h2 : T18 b c) : T18 a c :=
  ⟨h2.execs.trans h1.execs, h2.fresh.trans h1.fresh, fun m hm => h1.inb m (h2.inb m hm)⟩
theorem T18.of_eq {s s' : St} (h1 : s'.execs = s.execs) (h2 : s'.nextFresh = s.nextFresh) (h3 : s'.t = s.t) : T18 s s' :=
  ⟨by rw [h1], h2, fun m hm => by rw [h3] at hm; exact hm⟩

theorem Q18.refl (s : St) : Q18 s s := ⟨Adds.refl _ s, T18.refl s⟩
theorem Q18.trans {a b c : St} (h1 : Q18 a b) (h2 : Q18 b c) : Q18 a c := ⟨Adds.trans h1.1 h2.1, h1.2.trans h2.2⟩
theorem Q18.of_eq {s s' : St} (h0 : s'.obs = s.obs) (h1 : s'.execs = s.execs) (h2 : s'.nextFresh = s.nextFresh)
    (h3 : s'.t = s.t) : Q18 s s' := ⟨Adds.of_eq h0, T18.of_eq h1 h2 h3⟩
theorem Q18.pre {s s0 s' : St} (h : Q18 s0 s') (h0 : s0.obs = s.obs) (h1 : s0.execs = s.execs)
    (h2 : s0.nextFresh = s.nextFresh) (h3 : s0.t = s.t) : Q18 s s' := (Q18.of_eq h0 h1 h2 h3).trans h
theorem Q18.emit (s : St) (o : Obs) (h : isCore18 o = false) : Q18 s (emit s o) :=
  ⟨Adds.emit s h, T18.of_eq rfl rfl rfl⟩

theorem q18_updExec (s : St) (r : Nat) (f : Exec → Exec) (hf : ∀ e, xt (f e) = xt e) : Q18 s (updExec s r f) := by
  refine ⟨Adds.of_eq rfl, ?_, rfl, fun _ h => h⟩
  unfold updExec
  simp only [List.map_map]
  apply List.map_congr_left
  intro e _
  simp only [Function.comp]
  split
  · exact hf e
  · rfl

theorem q18_upd_ident (s : St) (r : Nat) (f : Exec → Exec) (hf : Ident f) : Q18 s (updExec s r f) :=
  q18_updExec s r f (fun e => by
    obtain ⟨h1, h2, h3, h4, h5, _⟩ := hf e
    unfold xt; rw [h1, h2, h3, h4, h5])

theorem q18_execRel : ExecRel Q18 where
  refl := Q18.refl
  trans := Q18.trans
  inert := fun hi => Q18.of_eq hi.obs hi.execs hi.nextFresh hi.t
  upd := fun s r f hf _ => q18_upd_ident s r f hf
  updPhase := q18_upd_ident
  wake := fun s _ => Q18.emit s _ rfl
  noop := fun s => Q18.emit s _ rfl
  retExec := fun s _ _ => Q18.emit s _ rfl
  handler := fun s _ _ _ => Q18.emit s _ rfl

theorem q18_transRel : TransRel Q18 where
  toWakeRel := q18_execRel.toWakeRel
  setT := fun s t ht => ⟨Adds.of_eq rfl, rfl, rfl, fun m hm => by rw [← ht]; exact hm⟩
  viol := fun s ep w => Q18.emit s _ rfl
  spin := fun s t => Q18.emit s _ rfl
  tReady := fun s ep r => Q18.emit s _ rfl
  tFlush := fun s ep r => Q18.emit s _ rfl

theorem q18_noiseRel : NoiseRel Q18 where
  toWakeRel := q18_execRel.toWakeRel
  gone := fun s r => q18_updExec s r _ (fun _ => rfl)
  abort := fun s r => q18_updExec s r _ (fun _ => rfl)
  tables := fun _ _ _ => Q18.of_eq rfl rfl rfl rfl
  spin := fun s _ => Q18.emit s _ rfl
  panic := fun _ _ _ => (Q18.emit _ _ rfl).pre rfl rfl rfl rfl

theorem q18_wakeServer (s : St) : Q18 s (wakeServer s) := q18_execRel.wakeServer (Q18.refl s)
theorem q18_baseStartSend (s : St) (id : Nat) (res : Res) : Q18 s (baseStartSend s id res).1 :=
  q18_noiseRel.baseStartSend q18_transRel (fun s _ _ _ => Q18.emit s _ rfl) id res (Q18.refl s)

/-- an inbound message: a request carries a caller-chosen span id -/
def GivenMsg : Inb → Prop
  | .msg (.request _ _ tr _) => ∃ n, tr.span = .given n
  | _ => True

/-- the request read last for the id of `x` is `x`'s: same deadline, trace id, sampling decision; its span is `given` -/
def Match (rr : List (Nat × Nat × Trace × Nat)) (x : XT) : Prop :=
  ∃ tr' body, rr.reverse.find? (·.1 == x.id) = some (x.id, x.deadline, tr', body) ∧
    x.trace.traceId = tr'.traceId ∧ x.trace.sampled = tr'.sampled ∧ ∃ n, tr'.span = .given n

/-- `rr`: the book's request log; `sp`: the spans of the executions the book lists; `X`: the executions' identities;
`nf`: the span counter; `inb`: the inbound queue; `pend`: the rid of a request started and not yet handed out -/
structure I18 (rr : List (Nat × Nat × Trace × Nat)) (sp : List Span) (X : List XT) (nf : Nat) (inb : List Inb)
    (pend : Option Nat) : Prop where
  nd : (X.map (·.trace.span)).Nodup
  fr : ∀ x ∈ X, ∃ k, x.trace.span = .fresh k ∧ k < nf
  inb : ∀ m ∈ inb, GivenMsg m
  bk : ∀ s ∈ sp, ∃ x ∈ X, x.vis.isSome = true ∧ x.trace.span = s
  pd : ∀ r, pend = some r → ∀ x ∈ X, x.rid = r → x.vis = none ∧ Match rr x
  ridLt : ∀ x ∈ X, x.rid < X.length

/-- the invariant along the observation buffer of the current op -/
def J18 (b0 : Book) (pend : Option Nat) (s : St) : Prop :=
  I18 (bo b0 s.obs).reqReads (bspans (bo b0 s.obs)) (s.execs.map xt) s.nextFresh s.t.inbound pend

theorem I18.weaken {rr sp X nf inb pend} (h : I18 rr sp X nf inb pend) : I18 rr sp X nf inb none :=
  ⟨h.nd, h.fr, h.inb, h.bk, (fun r hr => by cases hr), h.ridLt⟩

theorem I18.sub {rr sp X nf inb inb' pend} (h : I18 rr sp X nf inb pend) (hs : ∀ m ∈ inb', m ∈ inb) :
    I18 rr sp X nf inb' pend :=
  ⟨h.nd, h.fr, fun m hm => h.inb m (hs m hm), h.bk, h.pd, h.ridLt⟩

theorem j18_q {b0 : Book} {pend : Option Nat} {s s' : St} (hq : Q18 s s') (h : J18 b0 pend s) : J18 b0 pend s' := by
  unfold J18 at *
  obtain ⟨h1, h2⟩ := bo_ext18 b0 hq.1
  rw [h1, h2, hq.2.execs, hq.2.fresh]
  exact h.sub hq.2.inb

theorem j18_weaken {b0 : Book} {pend : Option Nat} {s : St} (h : J18 b0 pend s) : J18 b0 none s := I18.weaken h

theorem I18.rr_none {rr rr' sp X nf inb} (h : I18 rr sp X nf inb none) : I18 rr' sp X nf inb none :=
  ⟨h.nd, h.fr, h.inb, h.bk, (fun r hr => by cases hr), h.ridLt⟩

theorem I18.start {rr0 sp X nf inb} (id d : Nat) (tr : Trace) (body : Nat)
    (h : I18 (rr0 ++ [(id, d, tr, body)]) sp X nf inb none) (hg : ∃ n, tr.span = .given n) :
    I18 (rr0 ++ [(id, d, tr, body)]) sp (X ++ [⟨X.length, id, d, { tr with span := .fresh nf }, none⟩]) (nf + 1) inb
      (some X.length) := by
  refine ⟨?_, ?_, h.inb, ?_, ?_, ?_⟩
  · refine nodup_map_snoc (fun x : XT => x.trace.span) _ h.nd (fun x hx heq => ?_)
    obtain ⟨k, hk, hlt⟩ := h.fr x hx
    rw [hk] at heq
    cases heq
    exact Nat.lt_irrefl _ hlt
  · intro x hx
    simp only [List.mem_append, List.mem_singleton] at hx
    rcases hx with hx | rfl
    · obtain ⟨k, hk, hlt⟩ := h.fr x hx
      exact ⟨k, hk, Nat.lt_succ_of_lt hlt⟩
    · exact ⟨nf, rfl, Nat.lt_succ_self _⟩
  · intro s hs
    obtain ⟨x, hx, h1, h2⟩ := h.bk s hs
    exact ⟨x, List.mem_append_left _ hx, h1, h2⟩
  · intro r hr x hx hxr
    cases hr
    simp only [List.mem_append, List.mem_singleton] at hx
    rcases hx with hx | rfl
    · exact absurd hxr (Nat.ne_of_lt (h.ridLt x hx))
    · refine ⟨rfl, tr, body, ?_, rfl, rfl, hg⟩
      simp
  · intro x hx
    simp only [List.mem_append, List.mem_singleton] at hx
    rw [List.length_append]
    rcases hx with hx | rfl
    · have := h.ridLt x hx; simp; omega
    · simp

theorem I18.yield {rr sp X nf inb} {r : Nat} (v : Nat) (h : I18 rr sp X nf inb (some r)) (x0 : XT) (hx0 : x0 ∈ X)
    (hr0 : x0.rid = r) :
    I18 rr (sp ++ [x0.trace.span]) (X.map (fun x => if x.rid == r then { x with vis := some v } else x)) nf inb none := by
  have hspan : (X.map (fun x => if x.rid == r then { x with vis := some v } else x)).map (·.trace.span) =
      X.map (·.trace.span) := by
    rw [List.map_map]
    apply List.map_congr_left
    intro x _
    simp only [Function.comp]
    split <;> rfl
  have hmem : ∀ x' ∈ X.map (fun x => if x.rid == r then { x with vis := some v } else x),
      ∃ x ∈ X, x' = (if x.rid == r then { x with vis := some v } else x) := by
    intro x' hx'; obtain ⟨x, hx, rfl⟩ := List.mem_map.mp hx'; exact ⟨x, hx, rfl⟩
  refine ⟨by rw [hspan]; exact h.nd, ?_, h.inb, ?_, (fun r' hr' => by cases hr'), ?_⟩
  · intro x' hx'
    obtain ⟨x, hx, rfl⟩ := hmem x' hx'
    obtain ⟨k, hk, hlt⟩ := h.fr x hx
    refine ⟨k, ?_, hlt⟩
    split <;> exact hk
  · intro s hs
    simp only [List.mem_append, List.mem_singleton] at hs
    rcases hs with hs | rfl
    · obtain ⟨x, hx, h1, h2⟩ := h.bk s hs
      refine ⟨_, List.mem_map_of_mem (f := fun x => if x.rid == r then { x with vis := some v } else x) hx, ?_, ?_⟩
      · split
        · rfl
        · exact h1
      · split <;> exact h2
    · refine ⟨_, List.mem_map_of_mem (f := fun x => if x.rid == r then { x with vis := some v } else x) hx0, ?_, ?_⟩
      · rw [if_pos (by simpa using hr0)]; rfl
      · split <;> rfl
  · intro x' hx'
    obtain ⟨x, hx, rfl⟩ := hmem x' hx'
    rw [List.length_map]
    have := h.ridLt x hx
    split <;> exact this

theorem I18.check {rr sp X nf inb} {r : Nat} (h : I18 rr sp X nf inb (some r)) (x0 : XT) (hx0 : x0 ∈ X) (hr0 : x0.rid = r) :
    Match rr x0 ∧ (∃ k, x0.trace.span = .fresh k) ∧ x0.trace.span ∉ sp := by
  obtain ⟨hv, hm⟩ := h.pd r rfl x0 hx0 hr0
  obtain ⟨k, hk, _⟩ := h.fr x0 hx0
  refine ⟨hm, ⟨k, hk⟩, fun hin => ?_⟩
  obtain ⟨x, hx, h1, h2⟩ := h.bk _ hin
  have : x = x0 := eq_of_map_nodup (f := (·.trace.span)) h.nd hx hx0 h2
  rw [this, hv] at h1
  cases h1

theorem pollNext_sub (t : SimT) :
    (∀ x ∈ t.pollNext.1.inbound, x ∈ t.inbound) ∧ ∀ m, t.pollNext.2 = .item m → Inb.msg m ∈ t.inbound := by
  rcases SimT.pollNext_out t with ⟨_, he⟩ | ⟨_, u, _, hi, he⟩
  · rw [he]; exact ⟨fun x hx => hx, fun m hm => by cases hm⟩
  · rw [he, ← hi]
    cases hq : u.inbound with
    | nil => simp only; split <;> exact ⟨fun x hx => by simp [hq] at hx, fun m hm => by cases hm⟩
    | cons a rest =>
      cases a with
      | msg m0 =>
        refine ⟨fun x hx => List.mem_cons_of_mem _ hx, fun m hm => ?_⟩
        simp only at hm
        cases hm
        exact List.mem_cons_self ..
      | err => exact ⟨fun x hx => List.mem_cons_of_mem _ hx, fun m hm => by cases hm⟩

theorem tNext_frame18 (s : St) :
    (tNext s).1.execs = s.execs ∧ (tNext s).1.nextFresh = s.nextFresh ∧
    (∀ x ∈ (tNext s).1.t.inbound, x ∈ s.t.inbound) ∧ ∀ m, (tNext s).2 = .item m → Inb.msg m ∈ s.t.inbound := by
  refine ⟨by simp, ?_, ?_, ?_⟩
  · unfold tNext; split
    · rfl
    · simp only; split <;> rfl
  · rw [tNext_t]; split
    · exact fun x hx => hx
    · exact (pollNext_sub s.t).1
  · rw [tNext_res]; split
    · intro m hm; cases hm
    · exact (pollNext_sub s.t).2

theorem step_req_rr (b : Book) (ep : TaskId) (id d : Nat) (tr : Trace) (body : Nat) :
    (b.step (.obs (.tNext ep (.item (.request id d tr body))))).reqReads = b.reqReads ++ [(id, d, tr, body)] ∧
    bspans (b.step (.obs (.tNext ep (.item (.request id d tr body))))) = bspans b := by
  rw [step_tNext_eq]
  obtain ⟨p1, p2⟩ := preRead_rr b
  refine ⟨?_, p2⟩
  show (preRead b).reqReads ++ _ = _
  rw [p1]

theorem j18_tNext {b0 : Book} {s : St} (h : J18 b0 none s) :
    J18 b0 none (tNext s).1 ∧
    ∀ id d tr body, (tNext s).2 = .item (.request id d tr body) →
      (∃ n, tr.span = .given n) ∧ ∃ rr0, (bo b0 (tNext s).1.obs).reqReads = rr0 ++ [(id, d, tr, body)] := by
  obtain ⟨f1, f2, f3, f4⟩ := tNext_frame18 s
  by_cases hf : s.readFused = true
  · rw [tNext_fused_eq s hf]
    exact ⟨h, fun id d tr body hr => by cases hr⟩
  · have hf' : s.readFused = false := by simpa using hf
    have hobs := tNext_obs s hf'
    have hgiven : ∀ id d tr body, (tNext s).2 = .item (.request id d tr body) → ∃ n, tr.span = .given n := by
      intro id d tr body hr
      exact h.inb _ (f4 _ hr)
    have hbase : I18 (bo b0 s.obs).reqReads (bspans (bo b0 s.obs)) ((tNext s).1.execs.map xt) (tNext s).1.nextFresh
        (tNext s).1.t.inbound none := by
      rw [f1, f2]; exact I18.sub h f3
    unfold J18
    rw [hobs, bo_cons]
    by_cases hreq : ∃ id d tr body, (tNext s).2 = .item (.request id d tr body)
    · obtain ⟨id, d, tr, body, hr⟩ := hreq
      rw [hr]
      obtain ⟨e1, e2⟩ := step_req_rr (bo b0 s.obs) (tid s) id d tr body
      refine ⟨?_, fun id' d' tr' body' hr' => ?_⟩
      · rw [e1, e2]
        exact hbase.rr_none
      · cases hr'
        exact ⟨hgiven _ _ _ _ hr, _, e1⟩
    · have hnc : isCore18 (.tNext (tid s) (tNext s).2) = false := by
        cases hres : (tNext s).2 with
        | item m =>
          cases m with
          | request id d tr body => exact absurd ⟨id, d, tr, body, hres⟩ hreq
          | _ => rfl
        | _ => rfl
      obtain ⟨e1, e2⟩ := step18 (bo b0 s.obs) _ hnc
      refine ⟨?_, fun id d tr body hr => absurd ⟨id, d, tr, body, hr⟩ hreq⟩
      rw [e1, e2]; exact hbase

theorem wakeServer_nextFresh (s : St) : (wakeServer s).nextFresh = s.nextFresh := by
  unfold wakeServer; split <;> rfl

theorem startRequest_eff18 (s : St) (now id d : Nat) (tr : Trace) (body : Nat) :
    ((startRequest s now id d tr body).2 = none ∧ Q18 s (startRequest s now id d tr body).1) ∨
    (∃ ex, (startRequest s now id d tr body).2 = some ex ∧ ex.rid = s.execs.length ∧
      Ext18 s (startRequest s now id d tr body).1 ∧
      (startRequest s now id d tr body).1.execs.map xt =
        s.execs.map xt ++ [⟨s.execs.length, id, d, { tr with span := .fresh s.nextFresh }, none⟩] ∧
      (startRequest s now id d tr body).1.nextFresh = s.nextFresh + 1 ∧
      (startRequest s now id d tr body).1.t = s.t) := by
  rcases startRequest_out s now id d tr body with ⟨_, e⟩ | ⟨_, _, e⟩ | ⟨_, q, key, w, _, e⟩ <;> rw [e]
  · exact Or.inl ⟨rfl, Q18.refl s⟩
  · exact Or.inl ⟨rfl, (Q18.emit _ _ rfl).pre rfl rfl rfl rfl⟩
  · -- accepted: beyond the new execution and entry only the queue's self-wake (`startWoke s w`) shows
    have hx : Ext18 s (startWoke s w) := by
      unfold startWoke
      cases w with
      | false => exact Adds.of_eq rfl
      | true => exact Adds.trans (q18_wakeServer s).1 (Adds.of_eq rfl)
    have ht : (startWoke s w).t = s.t := by
      unfold startWoke
      cases w with
      | false => rfl
      | true => simp
    exact Or.inr ⟨_, rfl, rfl, Adds.trans hx (Adds.of_eq rfl), by simp [newExec, xt], rfl, ht⟩

theorem j18_startRequest {b0 : Book} {s : St} (now id d : Nat) (tr : Trace) (body : Nat) (h : J18 b0 none s)
    (hg : ∃ n, tr.span = .given n) (hrr : ∃ rr0, (bo b0 s.obs).reqReads = rr0 ++ [(id, d, tr, body)]) :
    match (startRequest s now id d tr body).2 with
    | some ex => J18 b0 (some ex.rid) (startRequest s now id d tr body).1
    | none => J18 b0 none (startRequest s now id d tr body).1 := by
  rcases startRequest_eff18 s now id d tr body with ⟨h1, h2⟩ | ⟨ex, h1, hr, hx, he, hn, ht⟩
  · rw [h1]; exact j18_q h2 h
  · rw [h1]
    simp only
    obtain ⟨rr0, hrr0⟩ := hrr
    obtain ⟨e1, e2⟩ := bo_ext18 b0 hx
    unfold J18 at h ⊢
    rw [e1, e2, he, hn, ht, hr, hrr0]
    rw [hrr0] at h
    have := I18.start id d tr body h hg
    rw [List.length_map] at this
    exact this

/-- a `yielded` observation -/
def isY : Obs → Bool
  | .yielded _ _ _ _ => true
  | _ => false

theorem isY_execQuiet : ExecQuiet isY := ⟨⟨⟨fun _ => rfl, rfl, fun _ _ => rfl⟩, fun _ _ => rfl⟩, fun _ _ _ => rfl⟩

/-- what the check needs at a `yielded` observation, on the book at that point -/
def YOK (b : Book) (x : XT) : Prop :=
  Match b.reqReads x ∧ (∃ k, x.trace.span = .fresh k) ∧ x.trace.span ∉ bspans b

theorem check18_ok (b : Book) (v : Nat) (x : XT) (h : YOK b x) :
    (checkC18 b () (.obs (.yielded v x.id x.deadline x.trace))).2 = none := by
  obtain ⟨⟨tr', body, hf, h1, h2, n, hn⟩, ⟨k, hk⟩, hnot⟩ := h
  simp only [checkC18, hf]
  have hany : (b.execs.any fun e => e.trace.span == x.trace.span) = false := by
    rw [List.any_eq_false]
    intro e he heq
    exact hnot (by
      unfold bspans
      rw [← (by simpa using heq : e.trace.span = x.trace.span)]
      exact List.mem_map_of_mem he)
  simp [h1, h2, hk, hn]
  rw [hk] at hany
  have hex : ¬ ∃ x, x ∈ b.execs ∧ x.trace.span = Span.fresh k := by
    rintro ⟨e, he, hs⟩
    have := List.any_eq_false.mp hany e he
    simp [hs] at this
  rw [if_neg hex]

theorem check18_other (b : Book) (e : SEv) (h : ∀ v id d tr, e ≠ .obs (.yielded v id d tr)) :
    (checkC18 b () e).2 = none := by
  unfold checkC18
  split
  · next r id d tr => exact absurd rfl (h r id d tr)
  · rfl

theorem c18_other (o : Obs) (h : isY o = false) (b : Book) : chkOf checkC18 b o = none :=
  check18_other b _ (fun v id d tr he => by cases he; cases h)

/-- every observation so far was accepted by `checkC18`, and `J18` -/
def C18 (b0 : Book) (pend : Option (Nat × Nat)) (s : St) : Prop :=
  CK (chkOf checkC18) b0 s.obs ∧ J18 b0 (pend.map (·.1)) s

theorem isY_of_core18 {o : Obs} (h : isCore18 o = false) : isY o = false := by
  cases o <;> simp [isCore18, isY] at h ⊢

theorem CK.ext18 {b0 : Book} {s s' : St} (hx : Ext18 s s') (h : CK (chkOf checkC18) b0 s.obs) :
    CK (chkOf checkC18) b0 s'.obs := by
  obtain ⟨l, hl, hp⟩ := hx
  rw [hl]
  exact h.append l (fun o ho => c18_other o (isY_of_core18 (hp o ho)))

variable {b0 : Book} {now : Nat}

theorem c18_q {pend : Option (Nat × Nat)} {s s' : St} (hq : Q18 s s') (h : C18 b0 pend s) : C18 b0 pend s' :=
  ⟨CK.ext18 hq.1 h.1, j18_q hq h.2⟩

theorem c18_weaken {pend : Option (Nat × Nat)} {s : St} (h : C18 b0 pend s) : C18 b0 none s := ⟨h.1, j18_weaken h.2⟩

theorem ck_tNext {s : St} (h : CK (chkOf checkC18) b0 s.obs) : CK (chkOf checkC18) b0 (tNext s).1.obs := by
  by_cases hf : s.readFused = true
  · rw [tNext_fused_eq s hf]; exact h
  · rw [tNext_obs s (by simpa using hf)]
    exact ⟨h, Or.inr (c18_other _ rfl _)⟩

theorem ext18_startRequest (s : St) (now id d : Nat) (tr : Trace) (b : Nat) : Ext18 s (startRequest s now id d tr b).1 := by
  rcases startRequest_eff18 s now id d tr b with ⟨_, h⟩ | ⟨_, _, _, h, _⟩
  · exact h.1
  · exact h

theorem c18_readSteps (b0 : Book) (now : Nat) : ReadSteps now (fun _ => True) (C18 b0)
    (fun s id d tr b => (∃ n, tr.span = .given n) ∧ ∃ rr0, (bo b0 s.obs).reqReads = rr0 ++ [(id, d, tr, b)]) where
  bpCancel := fun s _ h => c18_q (q18_noiseRel.bpCancel (Q18.refl s)) h
  expire := fun s _ h => c18_q (q18_noiseRel.pollExpired now (Q18.refl s)) h
  read := fun _ _ _ _ h => ⟨⟨ck_tNext h.1, (j18_tNext h.2).1⟩, (j18_tNext h.2).2⟩
  cancel := fun _ id _ _ _ _ h =>
    c18_q (q18_noiseRel.cancelRequest id (Q18.refl _)) ⟨ck_tNext h.1, (j18_tNext h.2).1⟩
  start := fun s id d tr b _ h hc => by
    refine ⟨CK.ext18 (ext18_startRequest s now id d tr b) h.1, ?_⟩
    have := j18_startRequest now id d tr b h.2 hc.1 hc.2
    generalize startRequest s now id d tr b = p at this ⊢
    obtain ⟨s', o⟩ := p
    cases o <;> exact this

theorem c18_limitSteps (b0 : Book) (now : Nat) : LimitSteps now (fun _ => True) (C18 b0) where
  ready := fun s _ h => c18_q (q18_transRel.tReady' (Q18.refl s)) h
  refuse := fun s _ id _ h => c18_q (q18_baseStartSend s id _) (c18_weaken h)
  mark := fun _ _ _ h => c18_q (q18_updExec _ _ _ (fun _ => rfl)) h

theorem c18_writeSteps (b0 : Book) (now : Nat) : WriteSteps now (fun _ => True) (C18 b0 none) (C18 b0) (C18 b0) where
  arm := fun s r _ h => c18_q (q18_noiseRel.armRead r (Q18.refl s)) h
  pump := fun s rc _ _ h => c18_q (q18_noiseRel.pumpWrite q18_transRel (fun s _ _ _ => Q18.emit s _ rfl) rc (Q18.refl s)) h
  drop := fun s rc rid id _ _ h _ => c18_q (q18_noiseRel.dropOffered rid id (Q18.refl _))
    (c18_q (q18_noiseRel.pumpWrite q18_transRel (fun s _ _ _ => Q18.emit s _ rfl) rc (Q18.refl s)) (c18_weaken h))
  again := fun _ h => h

theorem c18_requestsPollNext (fuel : Nat) (s : St) (h : C18 b0 none s) (hel : s.ensureLoop = false) :
    PostRq (C18 b0 none) (C18 b0) (requestsPollNext fuel s now) :=
  requestsPollNext_limited (LoopClosed.true now) (c18_readSteps b0 now) (c18_limitSteps b0 now) (c18_writeSteps b0 now)
    (fun s h => c18_q (Q18.emit s _ rfl) h) (fun _ h => h) fuel s trivial hel h

theorem step_yielded18 (b : Book) (r id d : Nat) (tr : Trace) :
    (b.step (.obs (.yielded r id d tr))).reqReads = b.reqReads ∧
    bspans (b.step (.obs (.yielded r id d tr))) = bspans b ++ [tr.span] := by
  refine ⟨rfl, ?_⟩
  simp [bspans, Book.step]

theorem j18_yield {b0 : Book} {s : St} {rid : Nat} {e : Exec} (hg : getExec s rid = some e) (h : J18 b0 (some rid) s) :
    YOK (bo b0 s.obs) (xt e) ∧
    J18 b0 none (emit (updExec { s with nextVis := s.nextVis + 1 } rid (fun x => { x with vis := some s.nextVis }))
      (.yielded s.nextVis e.id e.deadline e.trace)) := by
  obtain ⟨hem, her⟩ := getExec_mem hg
  have hx0 : xt e ∈ s.execs.map xt := List.mem_map_of_mem hem
  refine ⟨I18.check h (xt e) hx0 her, ?_⟩
  unfold J18
  have e1 : (emit (updExec { s with nextVis := s.nextVis + 1 } rid (fun x => { x with vis := some s.nextVis }))
      (.yielded s.nextVis e.id e.deadline e.trace)).obs = .yielded s.nextVis e.id e.deadline e.trace :: s.obs := rfl
  rw [e1, bo_cons]
  obtain ⟨r1, r2⟩ := step_yielded18 (bo b0 s.obs) s.nextVis e.id e.deadline e.trace
  rw [r1, r2]
  have := I18.yield s.nextVis h (xt e) hx0 her
  have hex : (emit (updExec { s with nextVis := s.nextVis + 1 } rid (fun x => { x with vis := some s.nextVis }))
      (.yielded s.nextVis e.id e.deadline e.trace)).execs.map xt =
      (s.execs.map xt).map (fun x => if x.rid == rid then { x with vis := some s.nextVis } else x) := by
    show (List.map (fun e' => if e'.rid == rid then { e' with vis := some s.nextVis } else e') s.execs).map xt = _
    rw [List.map_map, List.map_map]
    apply List.map_congr_left
    intro e' _
    simp only [Function.comp]
    have hxr : (xt e').rid = e'.rid := rfl
    by_cases hc : (e'.rid == rid) = true
    · rw [if_pos hc, if_pos (by rw [hxr]; exact hc)]; rfl
    · rw [if_neg hc, if_neg (by rw [hxr]; exact hc)]
  rw [hex]
  exact this

/-- the end of a poll: the one `yielded` is accepted where it is emitted -/
theorem c18_pskFinish {s : St} {r : ReqPoll} (h : PostRq (C18 b0 none) (C18 b0) (s, r)) : C18 b0 none (pskFinish s r) := by
  have hfin : ∀ (s1 : St) (rt : Ret), C18 b0 none s1 →
      C18 b0 none (emit (emit s1 (.ret (tid s1) rt)) (.counts (tid s1) s1.inflight.length s1.timers.len)) :=
    fun s1 rt h1 => c18_q ((Q18.emit _ _ rfl).trans (Q18.emit _ _ rfl)) h1
  cases r with
  | pending => exact hfin s .pending h
  | spin => exact hfin s .pending h
  | none => exact hfin { s with done := some .readyNone } .readyNone (c18_q (Q18.of_eq rfl rfl rfl rfl) h)
  | err a => exact hfin { s with done := some (.readyItemErr a) } _ (c18_q (Q18.of_eq rfl rfl rfl rfl) h)
  | item rid =>
    obtain ⟨id, hck, hj⟩ := h
    simp only [pskFinish, pskRet]
    split
    · next e he =>
      obtain ⟨hy, hj'⟩ := j18_yield he hj
      exact hfin _ .readyItem ⟨⟨hck, Or.inr (check18_ok _ s.nextVis (xt e) hy)⟩, hj'⟩
    · exact hfin s .readyItem ⟨hck, j18_weaken hj⟩

theorem q18_dropServer (s : St) : Q18 s (dropServer s) :=
  q18_noiseRel.dropServer q18_execRel.noop (fun _ => Q18.of_eq rfl rfl rfl rfl) (Q18.refl s)

theorem c18_pollServer {s : St} (h0 : s.obs = []) (hdd : DoneDropped s) (h : C18 b0 none s)
    (hcfg : s.throttleAfterRead = false) (hel : s.ensureLoop = false) : C18 b0 none (pollServer s now) :=
  (pollServer_walkR (R := C18 b0) hdd (fun _ h => c18_q (Q18.emit s _ rfl) h)
    (fun _ h => c18_requestsPollNext _ _ (c18_q (Q18.of_eq rfl rfl rfl rfl) h) hel)
    (fun s1 r he _ h1 => by
      -- no spin is recorded in a poll from an empty buffer with `ensureLoop = false`
      have hns := NS_requestsPollNext now (pollFuel { s with woken := false }) { s with woken := false }
        (by unfold pollFuel; simp only; omega) (NS_of_obs (s := s) (by unfold NS; rw [h0]; rfl) rfl) hcfg hel
      rw [he] at hns
      exact absurd h1 (by rw [show hasSpin s1.obs = false from hns]; exact Bool.false_ne_true))
    (fun _ _ _ _ _ hp => c18_pskFinish hp) (fun _ _ _ _ _ _ hp => c18_q (q18_dropServer _) (c18_pskFinish hp))
    (fun _ _ h => c18_q (Q18.of_eq rfl rfl rfl rfl) h) (Or.inl h)).elim id (fun ⟨_, _, h⟩ => c18_weaken h)

theorem q18_liftT (s : St) (r : SimT × Bool) : Q18 { s with t := r.1 } (liftT s r) := by
  unfold liftT
  exact rel_ite _ (q18_wakeServer _) (Q18.refl _)

theorem j18_liftT {b0 : Book} {pend : Option Nat} {s : St} (r : SimT × Bool)
    (hin : ∀ m ∈ r.1.inbound, m ∈ s.t.inbound ∨ GivenMsg m) (h : J18 b0 pend s) : J18 b0 pend (liftT s r) := by
  refine j18_q (q18_liftT s r) ?_
  unfold J18 at h ⊢
  exact ⟨h.nd, h.fr, fun m hm => (hin m hm).elim (h.inb m) id, h.bk, h.pd, h.ridLt⟩

theorem q18_took (ms : List Msg) (s : St) : Q18 s (ms.foldl (fun s m => emit s (.took (tid s) m)) s) := by
  induction ms generalizing s with
  | nil => exact Q18.refl s
  | cons m ms ih => exact (Q18.emit s _ rfl).trans (ih _)

theorem q18_onAdvance (s : St) (n : Nat) : Q18 s (onAdvance s n) := by
  unfold onAdvance
  split
  · split
    · exact (q18_wakeServer _).pre rfl rfl rfl rfl
    · exact Q18.refl s
  · exact Q18.refl s

/-- the requests an op injects carry caller-chosen span ids -/
def GivenOp : SOp → Prop
  | .injectReq _ _ tr _ => ∃ n, tr.span = .given n
  | _ => True

theorem opBook_rr (b : Book) (op : SOp) : (opBook b op).reqReads = b.reqReads ∧ bspans (opBook b op) = bspans b := by
  have he : b.endOp.reqReads = b.reqReads ∧ bspans b.endOp = bspans b := by
    constructor
    · obtain ⟨ex, ao, h⟩ := FlowMon.endOp_frame b; rw [h]
    · unfold bspans
      cases hc : b.curDropExec with
      | none => rw [endOp_execs_none b hc]
      | some r =>
        rw [endOp_execs_some b r hc]
        exact updExec_spans b r _ (fun e => by split <;> rfl)
  unfold opBook
  have hn : ∀ b' : Book, (b'.noteFinish (.op op)).reqReads = b'.reqReads ∧ bspans (b'.noteFinish (.op op)) = bspans b' := by
    intro b'
    unfold Book.noteFinish
    split
    · exact ⟨rfl, updExec_spans _ _ _ (fun e => by split <;> rfl)⟩
    · exact ⟨rfl, rfl⟩
  rw [(hn _).1, (hn _).2]
  cases op <;> exact he

/-- the invariant between ops -/
def OI18 (b : Book) (c : Sys) : Prop :=
  I18 b.reqReads (bspans b) (c.s.execs.map xt) c.s.nextFresh c.s.t.inbound none ∧ DoneDropped c.s ∧
  c.s.throttleAfterRead = false ∧ c.s.ensureLoop = false

theorem OI18.of_clr {b : Book} {c : Sys} (h : I18 b.reqReads (bspans b) (c.s.execs.map xt) c.s.nextFresh c.s.t.inbound none)
    (hd : DoneDropped c.s) (h1 : c.s.throttleAfterRead = false) (h2 : c.s.ensureLoop = false) : OI18 b (clr c) :=
  ⟨h, hd, h1, h2⟩

theorem op18 {b : Book} {c : Sys} (op : SOp) (h : OI18 b c) (hop : GivenOp op) :
    OI18 (bo (opBook b op) (applyOp (clr c) op).s.obs) (stepOp c op).1 ∧
    CK (chkOf checkC18) (opBook b op) (applyOp (clr c) op).s.obs := by
  rw [stepOp_fst]
  generalize hc0 : clr c = c0
  have hobs0 : c0.s.obs = [] := by rw [← hc0]; rfl
  have hJ0 : C18 (opBook b op) none c0.s := by
    refine ⟨by rw [hobs0]; trivial, ?_⟩
    show J18 _ none _
    unfold J18
    rw [hobs0, bo_nil, (opBook_rr b op).1, (opBook_rr b op).2, ← hc0]
    exact h.1
  have hdd0 : DoneDropped c0.s := by rw [← hc0]; exact h.2.1
  have hcfg0 : c0.s.throttleAfterRead = false ∧ c0.s.ensureLoop = false := by rw [← hc0]; exact h.2.2
  have hcfgA := cfg_reach c0 [op]
  have hbase : C18 (opBook b op) none (applyOp c0 op).s →
      OI18 (bo (opBook b op) (applyOp c0 op).s.obs) (clr (applyOp c0 op)) ∧
        CK (chkOf checkC18) (opBook b op) (applyOp c0 op).s.obs :=
    fun hC => ⟨OI18.of_clr hC.2 (DoneDropped_applyOp c0 op hdd0) (hcfgA.2.2.2.trans hcfg0.1) (hcfgA.2.2.1.trans hcfg0.2), hC.1⟩
  have hq : Q18 c0.s (applyOp c0 op).s → _ := fun hq => hbase (c18_q hq hJ0)
  have hlift : ∀ (r : SimT × Bool), (∀ m ∈ r.1.inbound, m ∈ c0.s.t.inbound ∨ GivenMsg m) →
      (applyOp c0 op).s = liftT c0.s r → _ := fun r hin he =>
    hbase (by rw [he]; exact ⟨CK.ext18 (s := { c0.s with t := r.1 }) (q18_liftT c0.s r).1 hJ0.1, j18_liftT r hin hJ0.2⟩)
  have hinj : ∀ x : Inb, GivenMsg x → ∀ m ∈ (c0.s.t.inject x).1.inbound, m ∈ c0.s.t.inbound ∨ GivenMsg m := by
    intro x hx m hm
    simp only [SimT.inject, List.mem_append, List.mem_singleton] at hm
    rcases hm with hm | rfl
    · exact Or.inl hm
    · exact Or.inr hx
  cases op with
  | pollServer => exact hbase (c18_pollServer hobs0 hdd0 hJ0 hcfg0.1 hcfg0.2)
  | dropServer => exact hq (q18_dropServer _)
  | pollExec r => exact hq (q18_execRel.pollExec _ _ (Q18.refl _))
  | dropExec r => exact hq (q18_execRel.dropExec _ _ (Q18.refl _))
  | finish r res => exact hq (q18_execRel.finishHandler q18_execRel.noop _ _ (Q18.refl _))
  | injectReq id d tr b' => exact hlift _ (hinj (.msg (.request id d tr b')) hop) rfl
  | injectCancel id tr => exact hlift _ (hinj (.msg (.cancel id tr)) trivial) rfl
  | injectErr => exact hlift _ (hinj .err trivial) rfl
  | eof => exact hlift c0.s.t.setEof (fun m hm => Or.inl hm) rfl
  | setReady b' =>
    refine hlift (c0.s.t.setReady b') (fun m hm => Or.inl ?_) rfl
    simp only [SimT.setReady, SimT.wakeIfReady] at hm
    split at hm <;> exact hm
  | setFlush b' =>
    refine hlift (c0.s.t.setFlush b') (fun m hm => Or.inl ?_) rfl
    simp only [SimT.setFlush, SimT.wakeIfReady] at hm
    split at hm <;> exact hm
  | fault k =>
    refine hq ⟨Adds.of_eq rfl, rfl, rfl, fun m hm => ?_⟩
    cases k <;> exact hm
  | faultSkip n => exact hq ⟨Adds.of_eq rfl, rfl, rfl, fun m hm => hm⟩
  | selfWake b' => exact hq ⟨Adds.of_eq rfl, rfl, rfl, fun m hm => hm⟩
  | take n =>
    refine hq ?_
    show Q18 c0.s (List.foldl (fun s m => emit s (.took (tid s) m)) { c0.s with t := (c0.s.t.take n).1 } (c0.s.t.take n).2)
    exact Q18.trans (b := { c0.s with t := (c0.s.t.take n).1 }) ⟨Adds.of_eq rfl, rfl, rfl, fun m hm => hm⟩ (q18_took _ _)
  | advance n => exact hq (q18_onAdvance _ _)

/-- all the requests a script injects carry caller-chosen span ids -/
def GivenOps (ops : List SOp) : Prop := ∀ op ∈ ops, GivenOp op

theorem c18_trace (ops : List SOp) (c : Sys) (m : Mon Unit) (hb : m.bad = none) (hI : OI18 m.book c) (hg : GivenOps ops) :
    ((trace c ops).foldl (Mon.step checkC18) m).bad = none :=
  trace_core (I := fun b c ops => OI18 b c ∧ GivenOps ops) (fun _ _ => rfl) (fun op _ h =>
    have := op18 op h.1 (h.2 op (List.mem_cons_self ..))
    ⟨⟨this.1, fun op' ho' => h.2 op' (List.mem_cons_of_mem _ ho')⟩, this.2⟩) ops c m hb ⟨hI, hg⟩

theorem oi18_init (limit : Option Nat) (respCap tcap : Nat) (coupled : Bool) :
    OI18 ({ limit := limit } : Book) (initSys limit respCap tcap coupled) := by
  -- `rfl, rfl`: `Gen.throttleAfterRead`, `Gen.serverEnsureLoop` (`Gen/Flags.lean`) are `false`; `c18_pollServer` needs both for
  -- "no spin in a poll" (`NS_requestsPollNext`, the legacy limiter).
  refine ⟨⟨by simp [initSys, init], ?_, ?_, ?_, (fun r hr => by cases hr), ?_⟩, (fun h => by cases h), rfl, rfl⟩
  all_goals (intro x hx; simp [initSys, init, bspans] at hx)

theorem c18_accepts (limit : Option Nat) (respCap tcap : Nat) (coupled : Bool) (ops : List SOp) (hg : GivenOps ops) :
    (monC18 limit (trace (initSys limit respCap tcap coupled) ops)).bad = none :=
  c18_trace ops _ _ rfl (oi18_init limit respCap tcap coupled) hg

end TarpcModel.Server.Mon18
