import TarpcModel.Lemmas.ClientTrack
/-!
# The third clauses of `checkC03` and `checkC11` along a trace

The coupling between the monitors' book and the model that the "liveness-flavoured" clauses need, on top of the
coupling `Good` of `Lemmas/ClientTop.lean`:

* `Tracked`: a request written successfully whose response was not read, whose cancel was not written, whose deadline
  has not passed — with no transport failure observed, the dispatch alive and not shutting down — is in the in-flight
  table;
* a terminal error of the dispatch means that the book has seen a failure.

`OwedInv` packages these with the state invariants (`StInv`, `CqI`); `OwedInv.step` carries it across one op of a script
and `owed_at_ret` / `reclaimed_at_counts` discharge the third clauses at the end of a top-level dispatch poll.
-/
namespace TarpcModel.Client

/-! ### the book across an op event -/

theorem step_op_eq (b : Book) (op : COp) : ∃ calls handles nh cd,
    b.step (.op op) =
      { b with
        calls := calls, handles := handles, nextHandle := nh, curDrop := cd, topPoll := decide (op = .pollDispatch),
        pollReadyP := false, now := b.now + opAdv op } := by
  unfold Book.step
  simp only
  rw [Book.endOp_eq]
  cases op with
  | call h d tr body => dsimp only; split <;> exact ⟨_, _, _, _, rfl⟩
  | clone h => dsimp only; split <;> exact ⟨_, _, _, _, rfl⟩
  | _ => exact ⟨_, _, _, _, rfl⟩

theorem step_op_keeps (b : Book) (op : COp) :
    (b.step (.op op)).sends = b.sends ∧ (b.step (.op op)).reads = b.reads ∧ (b.step (.op op)).cancels = b.cancels ∧
    (b.step (.op op)).failed = b.failed ∧ (b.step (.op op)).dispatchRet = b.dispatchRet ∧
    (b.step (.op op)).pollReadyP = false ∧
    (b.step (.op op)).now = b.now + opAdv op := by
  obtain ⟨_, _, _, _, e⟩ := step_op_eq b op
  rw [e]
  exact ⟨rfl, rfl, rfl, rfl, rfl, rfl, rfl⟩

theorem step_op_topPoll (b : Book) (op : COp) : (b.step (.op op)).topPoll = true ↔ op = .pollDispatch := by
  obtain ⟨_, _, _, _, e⟩ := step_op_eq b op
  rw [e]
  exact decide_eq_true_iff (p := op = .pollDispatch)

/-! ### tracked requests -/

/-- A request written successfully, neither answered nor cancelled nor expired, is tracked (while no failure was
observed and the dispatch is alive). -/
def Tracked (s : St) (now : Nat) (bk : Book) : Prop :=
  ∀ sd ∈ bk.sends, sd.ok = true → (∀ rd ∈ bk.reads, rd.id ≠ sd.id) → (∀ p ∈ bk.cancels, p.1 ≠ sd.id) →
    bk.failed = false → now < sd.deadline → s.dDropped = false → s.poisoned = false → s.termErr = none →
    Kept sd.id sd.deadline s

theorem any_of_hasT {p q : Obs → Bool} {s : St} (h : HasT p s) (hpq : ∀ o, p o = true → q o = true) :
    s.obs.reverse.any q = true := by
  obtain ⟨o, ho, hp⟩ := h
  rw [List.any_eq_true]
  exact ⟨o, List.mem_reverse.mpr (List.mem_filter.mp ho).1, hpq o hp⟩

theorem hasT_any {p : Obs → Bool} {s : St} (h : HasT p s) : s.obs.reverse.any p = true :=
  any_of_hasT h (fun _ => id)

/-- `Tracked` across a step of the model (`TR0`) and the corresponding growth of the book. -/
theorem Tracked.step {s s' : St} {now now' : Nat} {bk bk' : Book} (h : Tracked s now bk) (t : TR0 now' s s')
    (hnow : now ≤ now') (hsobs : s.obs.filter Flow.isT = [])
    (hsends : ∀ sd ∈ bk'.sends, sd ∈ bk.sends ∨
      ∃ ep tr, Obs.tSend ep (.request sd.id sd.deadline tr sd.body) sd.ok ∈ s'.obs)
    (hreads : ∀ rd ∈ bk.reads, rd ∈ bk'.reads) (hreads' : ∀ id, HasT (isRead id) s' → ∃ rd ∈ bk'.reads, rd.id = id)
    (hcan : ∀ p ∈ bk.cancels, p ∈ bk'.cancels) (hcan' : ∀ id, HasT (isCancelOk id) s' → ∃ p ∈ bk'.cancels, p.1 = id)
    (hfail : bk'.failed = false → bk.failed = false) (hfail' : HasT isFail s' → bk'.failed = true) :
    Tracked s' now' bk' := by
  intro sd hsd hok hnr hnc hnf hdl hdd hpo hte
  -- no excuse applies
  have noexc : ¬ Exc now' sd.id sd.deadline s' := by
    rintro (hx | hx | hx | hx | hx | hx | hx)
    · obtain ⟨rd, hrd, hid⟩ := hreads' _ hx; exact hnr rd hrd hid
    · obtain ⟨p, hp, hid⟩ := hcan' _ hx; exact hnc p hp hid
    · rw [hfail' hx] at hnf; cases hnf
    · omega
    · rw [hdd] at hx; cases hx
    · rw [hpo] at hx; cases hx
    · rw [hte] at hx; cases hx
  rcases hsends sd hsd with hold | ⟨ep, tr, hnew⟩
  · -- an older write: it was tracked before the step
    have hk : Kept sd.id sd.deadline s := by
      refine h sd hold hok (fun rd hrd => hnr rd (hreads rd hrd)) (fun p hp => hnc p (hcan p hp)) (hfail hnf)
        (by omega) ?_ ?_ ?_
      · cases hd : s.dDropped with
        | false => rfl
        | true => rw [t.dd hd] at hdd; cases hdd
      · cases hp : s.poisoned with
        | false => rfl
        | true => rw [t.po hp] at hpo; cases hpo
      · cases ht : s.termErr with
        | none => rfl
        | some a => have := t.te (by rw [ht]; rfl); rw [hte] at this; cases this
    obtain ⟨e, he, hid, hdl'⟩ := hk
    rcases t.keep e he with hk' | hx
    · rw [hid, hdl'] at hk'; exact hk'
    · rw [hid, hdl'] at hx; exact absurd hx noexc
  · -- written in this step
    have hm : Obs.tSend ep (.request sd.id sd.deadline tr sd.body) sd.ok ∈ s'.obs.filter Flow.isT :=
      List.mem_filter.mpr ⟨hnew, rfl⟩
    rcases t.new _ hm sd.id sd.deadline (by simp [isReqOk, hok]) with hx | hx | hx
    · rw [hsobs] at hx; cases hx
    · exact hx
    · exact absurd hx noexc

/-! ### the observations of a top-level dispatch poll -/

/-- the observations grow by wakes / panics / transport observations -/
def Ext (s s' : St) : Prop := ∃ l, s'.obs = l ++ s.obs ∧ ∀ o ∈ l, dispObs o = true

theorem Ext.refl (s : St) : Ext s s := ⟨[], rfl, fun _ h => by cases h⟩
theorem Ext.trans {a b c : St} (h1 : Ext a b) (h2 : Ext b c) : Ext a c := by
  obtain ⟨l1, e1, d1⟩ := h1
  obtain ⟨l2, e2, d2⟩ := h2
  exact ⟨l2 ++ l1, by rw [e2, e1, List.append_assoc], fun o ho => (List.mem_append.mp ho).elim (d2 o) (d1 o)⟩
theorem Ext.of_obs {s s' : St} (h : s'.obs = s.obs) : Ext s s' := ⟨[], by simp [h], fun _ h => by cases h⟩
theorem ext_emit (s : St) (o : Obs) (h : dispObs o = true) : Ext s (emit s o) :=
  ⟨[o], rfl, fun x hx => by simp at hx; rw [hx]; exact h⟩
theorem ext_foldl {α : Type} (f : St → α → St) (hf : ∀ s a, Ext s (f s a)) (l : List α) (s : St) : Ext s (l.foldl f s) :=
  foldl_keeps (P := Ext s) (fun b a hb => hb.trans (hf b a)) l (Ext.refl s)

theorem ext_wakeCall (s : St) (cid : Nat) : Ext s (wakeCall s cid) := by
  rcases Flow.wakeCall_out s cid with ⟨_, _, _, e⟩ | ⟨_, e⟩ <;> rw [e]
  · exact (Ext.of_obs rfl : Ext s (updCall s cid _)).trans (ext_emit _ _ rfl)
  · exact Ext.refl _

theorem ext_osDropTx (s : St) (cid : Nat) : Ext s (osDropTx s cid) := by
  rcases Flow.osDropTx_out s cid with ⟨_, e⟩ | ⟨_, _, _, e⟩ <;> rw [e]
  · exact Ext.refl _
  · split
    · exact (Ext.of_obs rfl : Ext s (updCall s cid _)).trans (ext_wakeCall _ _)
    · exact Ext.of_obs rfl

theorem ext_dropDispatch (s : St) : Ext s (dropDispatch s) := by
  rw [dropDispatch_stages]
  split
  · exact ext_emit _ _ rfl
  · have h1 : Ext s (pqClose { s with dDropped := true, dWoken := false }) := by
      unfold pqClose
      exact (Ext.of_obs rfl : Ext s { s with dDropped := true, dWoken := false, pqClosed := true, pqWaiters := [] }).trans
        (ext_foldl _ (fun s w => ext_wakeCall s w) _ _)
    generalize pqClose { s with dDropped := true, dWoken := false } = s2 at h1
    have h2 : Ext s2 (dropQ s2) := by
      unfold dropQ
      exact (Ext.of_obs rfl : Ext s2 { s2 with pq := [], pqAvail := s2.bufCap - s2.pqAssigned.length }).trans
        (ext_foldl _ (fun s (r : DReq) => ext_osDropTx s r.cid) _ _)
    generalize dropQ s2 = s3 at h2
    have h3 : Ext s3 (dropI s3) := by
      unfold dropI
      exact (Ext.of_obs rfl : Ext s3 { s3 with inflight := [], timers := {} }).trans
        (ext_foldl _ (fun s (e : Entry) => ext_osDropTx s e.cid) _ _)
    exact ((h1.trans h2).trans h3).trans (Ext.of_obs rfl)

/-- `ret` of the dispatch, `counts`: what only the end of a poll emits -/
def isEnd : Obs → Bool
  | .ret (.dispatch _) _ => true
  | .counts _ _ _ => true
  | _ => false

theorem not_isEnd_of_disp {o : Obs} (h : dispObs o = true) : isEnd o = false := by
  cases o <;> simp_all [dispObs, isEnd, Flow.isT]

/-- where an end-of-poll observation sits in `A ++ [x, y] ++ D` when `A` and `D` contain none -/
theorem split_at_end {A D os1 os2 : List Obs} {x y o : Obs} (hA : ∀ a ∈ A, isEnd a = false) (hD : ∀ a ∈ D, isEnd a = false)
    (ho : isEnd o = true) (h : A ++ x :: y :: D = os1 ++ o :: os2) :
    (os1 = A ∧ o = x ∧ os2 = y :: D) ∨ (os1 = A ++ [x] ∧ o = y ∧ os2 = D) := by
  rcases List.append_eq_append_iff.mp h with ⟨a1, ha1, ha2⟩ | ⟨c1, hc1, hc2⟩
  · -- os1 = A ++ a1
    cases a1 with
    | nil =>
      simp only [List.append_nil, List.nil_append, List.cons.injEq] at ha1 ha2
      exact Or.inl ⟨ha1, ha2.1.symm, ha2.2.symm⟩
    | cons u a2 =>
      simp only [List.cons_append, List.cons.injEq] at ha2
      obtain ⟨rfl, ha2⟩ := ha2
      cases a2 with
      | nil =>
        simp only [List.nil_append, List.cons.injEq] at ha2
        exact Or.inr ⟨ha1, ha2.1.symm, ha2.2.symm⟩
      | cons v a3 =>
        simp only [List.cons_append, List.cons.injEq] at ha2
        obtain ⟨rfl, ha2⟩ := ha2
        have : o ∈ D := by rw [ha2]; simp
        rw [hD o this] at ho; cases ho
  · -- A = os1 ++ c1
    cases c1 with
    | nil =>
      simp only [List.append_nil, List.nil_append, List.cons.injEq] at hc1 hc2
      exact Or.inl ⟨hc1.symm, hc2.1, hc2.2⟩
    | cons u c2 =>
      simp only [List.cons_append, List.cons.injEq] at hc2
      have : o ∈ A := by rw [hc1, ← hc2.1]; simp
      rw [hA o this] at ho; cases ho

/-- **The observations of a top-level dispatch poll** (from a state without observations): either none of them is an
end-of-poll observation, or the poll ran `pollDispatchCore` (result `(c1, r)`, not poisoned), whose observations are
followed by `ret r`, `counts` and — only if the dispatch completed — what its drop emits. -/
theorem pollDispatch_obs_shape {x : Option Nat} {b : Snap} {now : Nat} {s : St} (hi : Inv' x b s now) (h0 : s.obs = []) :
    (∀ o ∈ (pollDispatch s now).obs, isEnd o = false) ∨
    ∃ c1 r D, pollDispatchCore { s with dWoken := false } now = (c1, r) ∧
      (s.dDropped || s.done.isSome || s.poisoned) = false ∧ c1.poisoned = false ∧
      (∀ o ∈ c1.obs, dispObs o = true) ∧ (∀ o ∈ D, dispObs o = true) ∧
      (pollDispatch s now).obs = D ++ .counts (tid c1) c1.inflight.length c1.timers.len :: .ret (tid c1) r :: c1.obs := by
  have keepDone_obs : ∀ r (K : St), (Flow.keepDone r K).obs = K.obs := fun r K => by
    unfold Flow.keepDone; split <;> rfl
  -- a completed dispatch is dropped right away: that adds dispatch observations only
  refine Flow.pollDispatch_cases
    (motive := fun S => (∀ o ∈ S.obs, isEnd o = false) ∨ ∃ c1 r D, pollDispatchCore { s with dWoken := false } now = (c1, r) ∧
      (s.dDropped || s.done.isSome || s.poisoned) = false ∧ c1.poisoned = false ∧
      (∀ o ∈ c1.obs, dispObs o = true) ∧ (∀ o ∈ D, dispObs o = true) ∧
      S.obs = D ++ .counts (tid c1) c1.inflight.length c1.timers.len :: .ret (tid c1) r :: c1.obs) s now ?keep ?drop
  case drop =>
    obtain ⟨l, hl, hd⟩ := ext_dropDispatch (pollDispatchKeep s now)
    rcases ?keep with hK | ⟨c1, r, D, e, hg, hpo, hc, hD, hobs⟩
    · left
      intro o ho
      rw [hl] at ho
      rcases List.mem_append.mp ho with h | h
      · exact not_isEnd_of_disp (hd o h)
      · exact hK o h
    · right
      refine ⟨c1, r, l ++ D, e, hg, hpo, hc, fun o ho => (List.mem_append.mp ho).elim (hd o) (hD o), ?_⟩
      rw [hl, hobs, List.append_assoc]
  case keep =>
    have core : ∀ {c1 r}, pollDispatchCore { s with dWoken := false } now = (c1, r) → ∀ o ∈ c1.obs, dispObs o = true := by
      intro c1 r e o ho
      have h1 : TR now { s with dWoken := false } c1 :=
        of_fst e (tr_pollDispatchCore (hi.quiet (by exact .of_same)))
      rcases h1.disp o ho with h | h
      · rw [h0] at h; cases h
      · exact h
    refine Flow.pollDispatchKeep_cases (motive := fun S => (∀ o ∈ S.obs, isEnd o = false) ∨ ∃ c1 r D,
      pollDispatchCore { s with dWoken := false } now = (c1, r) ∧
      (s.dDropped || s.done.isSome || s.poisoned) = false ∧ c1.poisoned = false ∧
      (∀ o ∈ c1.obs, dispObs o = true) ∧ (∀ o ∈ D, dispObs o = true) ∧
      S.obs = D ++ .counts (tid c1) c1.inflight.length c1.timers.len :: .ret (tid c1) r :: c1.obs) s now ?_ ?_ ?_ ?_
    · intro _; left; intro o ho; simp [emit, h0] at ho; rw [ho]; rfl
    · intro c1 r _ _ _; left; intro o ho
      rw [keepDone_obs, h0] at ho; simp at ho; rw [ho]; rfl
    · intro c1 r _ e _ _; left; intro o ho
      rw [keepDone_obs] at ho; exact not_isEnd_of_disp (core e o ho)
    · intro c1 r hg e _ hpo; right
      exact ⟨c1, r, [], e, hg, hpo, core e, (fun _ h => by cases h), (by rw [keepDone_obs]; rfl)⟩

/-! ### the invariant of op boundaries -/

/-- between two ops, while no task has spun or panicked: the book of an accepting monitor coupled with the model, the state
invariants, and the two couplings of the third clauses (`te`, `tr`) -/
structure OwedInv (c : Sys) (bk : Book) (ops : List COp) : Prop where
  good : ∃ mc : Mon C01St, mc.book = bk ∧ mc.bad = none ∧ Good mc c ops
  span : ∀ op ∈ ops, SpanOk op
  st : StInv c.s c.now
  cq : CqI none c.s
  now : bk.now = c.now
  te : c.s.termErr.isSome = true → bk.failed = true
  tr : Tracked c.s c.now bk

theorem isStop_of_isSpin {o : Obs} (h : Flow.isSpinObs o = true) : isStop o = true := by
  cases o <;> simp_all [Flow.isSpinObs, isStop]

/-- the book after the observations of a state whose observation list started empty -/
theorem tracked_book_facts (bk : Book) (op : COp) (s' : St) :
    (∀ sd ∈ (obsBook (bk.step (.op op)) s'.obs.reverse).sends, sd ∈ bk.sends ∨
      ∃ ep tr, Obs.tSend ep (.request sd.id sd.deadline tr sd.body) sd.ok ∈ s'.obs) ∧
    (∀ rd ∈ bk.reads, rd ∈ (obsBook (bk.step (.op op)) s'.obs.reverse).reads) ∧
    (∀ id, HasT (isRead id) s' → ∃ rd ∈ (obsBook (bk.step (.op op)) s'.obs.reverse).reads, rd.id = id) ∧
    (∀ p ∈ bk.cancels, p ∈ (obsBook (bk.step (.op op)) s'.obs.reverse).cancels) ∧
    (∀ id, HasT (isCancelOk id) s' → ∃ p ∈ (obsBook (bk.step (.op op)) s'.obs.reverse).cancels, p.1 = id) ∧
    ((obsBook (bk.step (.op op)) s'.obs.reverse).failed = false → bk.failed = false) ∧
    (HasT isFail s' → (obsBook (bk.step (.op op)) s'.obs.reverse).failed = true) := by
  obtain ⟨f1, f2, f3, f4, _, _, _⟩ := step_op_keeps bk op
  refine ⟨?_, ?_, ?_, ?_, ?_, ?_, ?_⟩
  · intro sd hsd
    rcases obsBook_sends_new _ _ sd hsd with h | ⟨ep, tr, h⟩
    · exact Or.inl (f1 ▸ h)
    · exact Or.inr ⟨ep, tr, List.mem_reverse.mp h⟩
  · intro rd hrd; exact obsBook_reads_mono _ _ rd (f2.symm ▸ hrd)
  · intro id h; exact obsBook_read _ _ id (hasT_any h)
  · intro p hp; exact obsBook_cancels_mono _ _ p (f3.symm ▸ hp)
  · intro id h; exact obsBook_cancel _ _ id (hasT_any h)
  · intro h
    rw [obsBook_failed, f4] at h
    simp only [Bool.or_eq_false_iff] at h
    exact h.1
  · intro h
    rw [obsBook_failed, hasT_any h]; simp

/-- stated for a variable `c`: at `applyOp c op` each of the seven `rfl`s would unfold the op -/
theorem cqi_clr {c : Sys} (h : CqI none c.s) : CqI none (clr c).s :=
  h.qc (QCq.of_calls rfl rfl rfl rfl rfl rfl rfl)

/-- one op: a task spins or panics, or the invariant holds again -/
theorem OwedInv.step {c : Sys} {bk : Book} {op : COp} {ops : List COp} (h : OwedInv c bk (op :: ops)) :
    (bookOf (bk.step (.op op)) ((stepOp c op).2.map CEv.obs)).spun = true ∨
    OwedInv (stepOp c op).1 (bookOf (bk.step (.op op)) ((stepOp c op).2.map CEv.obs)) ops := by
  obtain ⟨mc, hb, hbad, g⟩ := h.good
  obtain ⟨hb', hg'⟩ := g.step (h.span op List.mem_cons_self)
  have hbook : (((stepOp c op).2.map CEv.obs).foldl (Mon.step chk) (Mon.step chk mc (.op op))).book
      = bookOf (bk.step (.op op)) ((stepOp c op).2.map CEv.obs) := by
    rw [foldl_mon_book, Mon.step_book, hb]
  by_cases hsp : (bookOf (bk.step (.op op)) ((stepOp c op).2.map CEv.obs)).spun = true
  · exact Or.inl hsp
  · right
    have hg'' : Good (((stepOp c op).2.map CEv.obs).foldl (Mon.step chk) (Mon.step chk mc (.op op))) (stepOp c op).1 ops := by
      rcases hg' with h1 | h1
      · rw [hbook] at h1; exact absurd h1 hsp
      · exact h1
    have hc0 := Sys.obs_nil_eq c g.obs
    have hclr : clr c = c := hc0
    -- the state after the op, with its observations
    have e1 : (stepOp c op).1 = clr (applyOp c op) := by rw [stepOp_fst, hclr]
    have e2 : (stepOp c op).2 = (applyOp c op).s.obs.reverse := by rw [stepOp_snd, hclr]
    have hinv : Inv none (view c.s) := g.j.inv
    have hcq' : CqI none (applyOp c op).s := applyOp_cq hinv h.cq op
    have ht0 := tr0_applyOp h.st op
    have hnow' : (stepOp c op).1.now = c.now + opAdv op := stepOp_now c op
    have hnowa : (applyOp c op).now = c.now + opAdv op := applyOp_now c op
    obtain ⟨b1, b2, b3, b4, b5, b6, b7⟩ := tracked_book_facts bk op (applyOp c op).s
    rw [← e2] at b1 b2 b3 b4 b5 b6 b7
    have hspun' : (obsBook (bk.step (.op op)) (stepOp c op).2).spun = false := by simpa using hsp
    refine ⟨⟨_, hbook, hb', hg''⟩, fun o ho => h.span o (List.mem_cons_of_mem _ ho), inv_stepOp h.st op, ?_, ?_, ?_, ?_⟩
    · rw [e1]; exact cqi_clr hcq'
    · show (obsBook (bk.step (.op op)) (stepOp c op).2).now = (stepOp c op).1.now
      rw [obsBook_now, (step_op_keeps bk op).2.2.2.2.2.2, h.now, hnow']
    · intro hte
      have hte' : (applyOp c op).s.termErr.isSome = true := by rw [e1] at hte; exact hte
      rcases te_applyOp h.st op hte' with h1 | h1 | h1
      · have := h.te h1
        cases hf : (bookOf (bk.step (.op op)) ((stepOp c op).2.map CEv.obs)).failed with
        | true => rfl
        | false => rw [b6 hf] at this; cases this
      · exact b7 h1
      · exfalso
        have : (obsBook (bk.step (.op op)) (stepOp c op).2).spun = true := by
          rw [obsBook_spun, e2, any_of_hasT h1 (fun o => isStop_of_isSpin)]; simp
        rw [hspun'] at this; cases this
    · have := h.tr.step (bk' := bookOf (bk.step (.op op)) ((stepOp c op).2.map CEv.obs)) ht0
        (by rw [hnowa]; omega) (by rw [g.obs]; rfl) b1 b2 b3 b4 b5 b6 b7
      rw [e1]
      rw [hnowa] at this
      show Tracked (clr (applyOp c op)).s (clr (applyOp c op)).now _
      have hn : (clr (applyOp c op)).now = c.now + opAdv op := hnowa
      rw [hn]
      exact this

/-! ### the end of a top-level dispatch poll -/

/-- What is known when the core of a top-level dispatch poll has returned `Pending` and the book (after the
observations of the core) shows a writable, failure-free poll: the cancellation queue is empty, every tracked request
belongs to an awaiting call, transmitted live requests are tracked, and the book is coupled with the model. -/
structure AtEnd (c1 : St) (now : Nat) (bp : Book) : Prop where
  inv : Inv none (view c1)
  cq : CqI none c1
  cqNil : c1.cq = []
  tr : Tracked c1 now bp
  cpl : ∃ used, Cpl none (view c1) bp used
  alive : c1.dDropped = false ∧ c1.poisoned = false ∧ c1.termErr = none

theorem at_end_of_poll {c : Sys} {bk : Book} {ops : List COp} (h : OwedInv c bk (.pollDispatch :: ops))
    {c1 : St} (hcore : pollDispatchCore { c.s with dWoken := false } c.now = (c1, .pending))
    (hg : (c.s.dDropped || c.s.done.isSome || c.s.poisoned) = false) (hpo : c1.poisoned = false)
    (hsp : (obsBook (bk.step (.op .pollDispatch)) c1.obs.reverse).spun = false)
    (hrp : (obsBook (bk.step (.op .pollDispatch)) c1.obs.reverse).pollReadyP = false)
    (hfl : (obsBook (bk.step (.op .pollDispatch)) c1.obs.reverse).failed = false) :
    AtEnd c1 c.now (obsBook (bk.step (.op .pollDispatch)) c1.obs.reverse) := by
  obtain ⟨mc, hb, hbad, g⟩ := h.good
  have hinv : Inv none (view c.s) := g.j.inv
  have hobs : c.s.obs = [] := g.obs
  -- the book facts, read off the observations of the core
  rw [obsBook_spun] at hsp
  rw [obsBook_pollReadyP] at hrp
  rw [obsBook_failed, (step_op_keeps bk .pollDispatch).2.2.2.1] at hfl
  simp only [Bool.or_eq_false_iff] at hsp hrp hfl
  have hnoRP : ¬ HasT readyP c1 := fun hx => by rw [hasT_any hx] at hrp; exact absurd hrp.2 (by simp)
  have hnoFail : ¬ HasT isFail c1 := fun hx => by rw [hasT_any hx] at hfl; exact absurd hfl.2 (by simp)
  have hnoSpin : ¬ HasT Flow.isSpinObs c1 := fun hx => by
    rw [any_of_hasT hx (fun o => isStop_of_isSpin)] at hsp; exact absurd hsp.2 (by simp)
  -- no terminal error before, none after
  have hte0 : c.s.termErr = none := by
    cases ht : c.s.termErr with
    | none => rfl
    | some a => have := h.te (by rw [ht]; rfl); rw [hfl.1] at this; cases this
  have hi0 : StInv { c.s with dWoken := false } c.now := h.st.quiet (by exact .of_same)
  have hte := te_pollDispatchCore hi0
  rw [hcore] at hte
  have hte1 : c1.termErr = none := by
    cases ht : c1.termErr with
    | none => rfl
    | some a =>
      rcases hte.te (by rw [ht]; rfl) with h1 | h1 | h1
      · rw [show ({ c.s with dWoken := false } : St).termErr = c.s.termErr from rfl, hte0] at h1; cases h1
      · exact absurd h1 hnoFail
      · exact absurd h1 hnoSpin
  -- drained
  have hdr := pollDispatchCore_drained (s := { c.s with dWoken := false }) (now := c.now)
  rw [hcore] at hdr
  have hcq : c1.cq = [] := (hdr rfl hte1 hpo).resolve_left hnoRP
  -- the state invariants
  have hcq1 : CqI none c1 := by
    have := cqi_pollDispatchCore (D := none) (s := { c.s with dWoken := false }) hinv
      (h.cq.qc (QCq.of_calls rfl rfl rfl rfl rfl rfl rfl)) c.now
    rw [hcore] at this; exact this
  have htr := tr_pollDispatchCore hi0
  rw [hcore] at htr
  have hdd1 : c1.dDropped = false := by
    rw [htr.dd]
    cases hd : c.s.dDropped with
    | false => rfl
    | true => simp [hd] at hg
  -- the coupling with the monitors' book
  have hB : J (Mon.step chk mc (.op .pollDispatch)) none (view c.s) := g.afterOpEvent rfl
  have hJ : J (Mon.step chk mc (.op .pollDispatch)) none (view c1) := by
    have := pollDispatchCore_pres (J.presD (Mon.step chk mc (.op .pollDispatch))) (s := { c.s with dWoken := false }) hB c.now
    rw [hcore] at this; exact this
  have heq : MEq (monOf (Mon.step chk mc (.op .pollDispatch)) c1.obs)
      (monOf (Mon.step chk mc (.op .pollDispatch)) (view c1).rel) := monOf_filter _ c1.obs
  have hbookA : (monOf (Mon.step chk mc (.op .pollDispatch)) c1.obs).book
      = obsBook (bk.step (.op .pollDispatch)) c1.obs.reverse := by
    rw [← foldl_obs_eq, foldl_mon_book, Mon.step_book, hb]
  have hspA : (monOf (Mon.step chk mc (.op .pollDispatch)) (view c1).rel).book.spun = false := by
    rw [← heq.spun, hbookA, obsBook_spun]
    simp [hsp.1, hsp.2]
  have hcpl : ∃ used, Cpl none (view c1) (obsBook (bk.step (.op .pollDispatch)) c1.obs.reverse) used := by
    rcases hJ.cpl with h1 | h1
    · rw [hspA] at h1; cases h1
    · exact ⟨_, h1.of_norm (by rw [← hbookA]; exact heq.book)⟩
  -- transmitted requests are tracked
  obtain ⟨b1, b2, b3, b4, b5, b6, b7⟩ := tracked_book_facts bk .pollDispatch c1
  have t0 : TR0 c.now c.s c1 :=
    ((TB.of_same rfl rfl (fun h => h) rfl : TB c.s { c.s with dWoken := false }).tr c.now rfl).tr0.trans htr.tr0
  have htrk : Tracked c1 c.now (obsBook (bk.step (.op .pollDispatch)) c1.obs.reverse) :=
    h.tr.step t0 (Nat.le_refl _) (by rw [hobs]; rfl) b1 b2 b3 b4 b5 b6 b7
  exact ⟨hJ.inv, hcq1, hcq, htrk, hcpl, hdd1, hpo, hte1⟩

/-- with the cancellation queue empty, every entry in flight belongs to a call that is awaiting it -/
theorem AtEnd.awaiting {c1 : St} {now : Nat} {bp : Book} (h : AtEnd c1 now bp) {e : Entry} (he : e ∈ c1.inflight) :
    ∃ cl ∈ c1.calls, cl.cid = e.cid ∧ cl.phase = Phase.awaiting := by
  rcases h.cq.ent_call he with hx | ⟨cl, hcl, h1, h2, _⟩
  · rw [h.cqNil] at hx; cases hx
  · exact ⟨cl, hcl, h1, h2⟩

/-- … and then no abandoned call is owed a cancel. -/
theorem AtEnd.not_owed {c1 : St} {now : Nat} {bp : Book} (h : AtEnd c1 now bp) (hnow : bp.now = now)
    (hfl : bp.failed = false)
    {ci : BCall} (hci : ci ∈ bp.calls) (hdrop : ci.dropped = true) {sd : BSend} (hsd : bp.sendOfBody ci.body = some sd)
    (hne : reqEnded bp sd = false) (hnc : bp.cancels.any (·.1 == sd.id) = false) : False := by
  obtain ⟨used, hc⟩ := h.cpl
  have hi := h.inv
  have hsdm : sd ∈ bp.sends := List.mem_of_find?_eq_some hsd
  have hsdb : sd.body = ci.body := by simpa using List.find?_some hsd
  -- the request has not ended
  unfold reqEnded at hne
  simp only [Bool.or_eq_false_iff, Bool.not_eq_false', List.any_eq_false, beq_iff_eq, decide_eq_false_iff_not,
    Nat.not_le] at hne
  obtain ⟨⟨hok, hnr⟩, hdl⟩ := hne
  have hnc' : ∀ p ∈ bp.cancels, p.1 ≠ sd.id := by
    intro p hp
    have := List.any_eq_false.mp hnc p hp
    simpa using this
  -- so it is tracked
  obtain ⟨e, he, hid, _⟩ := h.tr sd hsdm hok (fun rd hrd => hnr rd hrd) hnc' hfl (by rw [← hnow]; exact hdl)
    h.alive.1 h.alive.2.1 h.alive.2.2
  obtain ⟨cl, hcl, hcid, hph⟩ := h.awaiting he
  have hget : (view c1).get e.cid = some cl.v := by
    have := getCall_of_mem_inv hi hcl
    rw [hcid] at this
    exact view_getCall_some this
  obtain ⟨cv, hcv, _, hcvid, _⟩ := hi.inf e he
  rw [hget] at hcv; injection hcv with hcv; subst hcv
  -- the abandoned call, in the model
  obtain ⟨cvi, hcvi, hrc⟩ := hc.calls.mem_fwd hci
  have hcvid' : cvi.phase = .dropped := hrc.dropped hdrop
  -- the call that sent the request
  obtain ⟨j, cj, hgj, henq, hjid, hjb, _⟩ := hc.sends sd hsdm
  have hcjm : cj ∈ (view c1).calls := View.get_mem hgj
  have : cj = cvi := eq_of_map_nodup hc.bodies hcjm hcvi (by rw [← hjb, hsdb, hrc.body])
  subst this
  -- it is the awaiting call: same request id
  have hj : j = e.cid := by
    refine hi.idInj j e.cid cj cl.v hgj hget henq.polled (Or.inr (Or.inl ?_)) (by rw [hjid, hcvid, hid])
    exact hph
  subst hj
  rw [hget] at hgj; injection hgj with hgj
  rw [← hgj] at hcvid'
  have : cl.v.phase = cl.phase := rfl
  rw [this, hph] at hcvid'
  cases hcvid'

/-! ### the third clause of `checkC03` -/

/-- the third clause of `checkC03` alone -/
def checkC03c (b : Book) (u : Unit) : CEv → Unit × Option String
  | .obs (.ret (.dispatch k) r) => checkC03 b u (.obs (.ret (.dispatch k) r))
  | _ => ((), none)

theorem init_owed (m b tc : Nat) (coupled : Bool) (ops : List COp) (hb : (callBodies ops).Nodup)
    (hsp : ∀ op ∈ ops, SpanOk op) : OwedInv (initSys m b tc coupled) {} ops := by
  refine ⟨⟨{ st := [] }, rfl, rfl, init_good m b tc coupled ops hb⟩, hsp, inv_init 0 m b tc coupled 0, init_cq 0 m b tc coupled,
    rfl, (fun h => by cases h), ?_⟩
  intro sd hsd
  cases hsd

/-- the observations of a top-level `poll-dispatch` op, located: an end-of-poll observation in them is the `ret` or the
`counts` that follows the observations of `pollDispatchCore` -/
theorem locate_end {c : Sys} {bk : Book} {ops : List COp} (h : OwedInv c bk (.pollDispatch :: ops))
    {os1 os2 : List Obs} {o : Obs} (hos : (stepOp c .pollDispatch).2 = os1 ++ o :: os2) (ho : isEnd o = true) :
    ∃ c1 r, pollDispatchCore { c.s with dWoken := false } c.now = (c1, r) ∧
      (c.s.dDropped || c.s.done.isSome || c.s.poisoned) = false ∧ c1.poisoned = false ∧
      ((os1 = c1.obs.reverse ∧ o = .ret (tid c1) r) ∨
       (os1 = c1.obs.reverse ++ [.ret (tid c1) r] ∧ o = .counts (tid c1) c1.inflight.length c1.timers.len)) := by
  obtain ⟨mc, hb, hbad, g⟩ := h.good
  have hclr : clr c = c := Sys.obs_nil_eq c g.obs
  rw [stepOp_snd, hclr] at hos
  change (pollDispatch c.s c.now).obs.reverse = os1 ++ o :: os2 at hos
  rcases pollDispatch_obs_shape h.st g.obs with hno | ⟨c1, r, D, hc, hg, hpo, hd1, hdD, hobs⟩
  · have : o ∈ (pollDispatch c.s c.now).obs := by
      rw [← List.mem_reverse, hos]; simp
    rw [hno o this] at ho; cases ho
  · rw [hobs] at hos
    simp only [List.reverse_append, List.reverse_cons, List.append_assoc, List.singleton_append] at hos
    have hA : ∀ a ∈ c1.obs.reverse, isEnd a = false := fun a ha => not_isEnd_of_disp (hd1 a (List.mem_reverse.mp ha))
    have hD : ∀ a ∈ D.reverse, isEnd a = false := fun a ha => not_isEnd_of_disp (hdD a (List.mem_reverse.mp ha))
    have hos' : c1.obs.reverse ++ .ret (tid c1) r :: .counts (tid c1) c1.inflight.length c1.timers.len :: D.reverse
        = os1 ++ o :: os2 := by
      rw [← hos]; simp
    rcases split_at_end hA hD ho hos' with ⟨e1, e2, _⟩ | ⟨e1, e2, _⟩
    · exact ⟨c1, r, hc, hg, hpo, Or.inl ⟨e1, e2⟩⟩
    · exact ⟨c1, r, hc, hg, hpo, Or.inr ⟨e1, e2⟩⟩

theorem owed_at_ret {c : Sys} {bk : Book} {op : COp} {ops : List COp} {os1 os2 : List Obs} {o : Obs}
    (h : OwedInv c bk (op :: ops)) (hos : (stepOp c op).2 = os1 ++ o :: os2)
    (hsp : (bookOf (bk.step (.op op)) (os1.map CEv.obs)).spun = false) :
    (checkC03c (bookOf (bk.step (.op op)) (os1.map CEv.obs)) () (.obs o)).2 = none := by
  cases o with
  | ret t r =>
    cases t with
    | dispatch k =>
      show (checkC03 (obsBook (bk.step (.op op)) os1) () (.obs (.ret (.dispatch k) r))).2 = none
      unfold checkC03
      simp only
      split
      · rename_i hcond
        simp only [Bool.and_eq_true, Bool.not_eq_true', beq_iff_eq] at hcond
        obtain ⟨⟨⟨htop, hrp⟩, hfl⟩, hr⟩ := hcond
        subst hr
        -- a top-level dispatch poll
        rw [obsBook_topPoll, step_op_topPoll] at htop
        subst htop
        obtain ⟨c1, r, hcore, hg, hpo, hpos⟩ := locate_end h hos rfl
        rcases hpos with ⟨e1, e2⟩ | ⟨_, e2⟩
        · injection e2 with _ e2
          subst e2
          subst e1
          have hae := at_end_of_poll h hcore hg hpo hsp hrp hfl
          have hnow : (obsBook (bk.step (.op .pollDispatch)) c1.obs.reverse).now = c.now := by
            rw [obsBook_now, (step_op_keeps bk .pollDispatch).2.2.2.2.2.2, h.now]; rfl
          -- nobody is owed a cancel
          generalize hF : List.filter _ (obsBook (bk.step (.op .pollDispatch)) c1.obs.reverse).calls = owed
          have hnil : owed = [] := by
            rw [← hF, List.filter_eq_nil_iff]
            intro ci hci hp
            simp only [Bool.and_eq_true] at hp
            obtain ⟨hdrop, hm⟩ := hp
            cases hsd : (obsBook (bk.step (.op .pollDispatch)) c1.obs.reverse).sendOfBody ci.body with
            | none => simp only [hsd] at hm; cases hm
            | some sd =>
              simp only [hsd, Bool.and_eq_true, Bool.not_eq_true'] at hm
              exact hae.not_owed hnow hfl hci hdrop hsd hm.1 hm.2
          rw [hnil]
        · cases e2
      · rfl
    | _ => rfl
  | _ => rfl

/-- A checker that only judges observations, and passes at every observation of an op started from `OwedInv`, never
objects to a trace of the model. -/
theorem owed_clause_accepts (check : Book → Unit → CEv → Unit × Option String)
    (hop : ∀ b op, (check b () (.op op)).2 = none)
    (hobs : ∀ {c : Sys} {bk : Book} {op : COp} {ops : List COp} {os1 os2 : List Obs} {o : Obs},
      OwedInv c bk (op :: ops) → (stepOp c op).2 = os1 ++ o :: os2 →
      (bookOf (bk.step (.op op)) (os1.map CEv.obs)).spun = false →
      (check (bookOf (bk.step (.op op)) (os1.map CEv.obs)) () (.obs o)).2 = none)
    (m b tc : Nat) (coupled : Bool) (ops : List COp) (hb : (callBodies ops).Nodup) (hsp : ∀ op ∈ ops, SpanOk op) :
    (Mon.run check () (trace (initSys m b tc coupled) ops)).bad = none := by
  unfold Mon.run
  have := traceOf.fold (f := Mon.step check) (Z := fun mo => mo.bad = none ∧ mo.book.spun = true) (Mon.spun_absorbs check)
    (K := fun mo c ops => mo.bad = none ∧ OwedInv c mo.book ops)
    (fun mo c op ops ⟨hbad, hI⟩ => by
      have h1 : (Mon.step check mo (.op op)).bad = none := Mon.step_ok hbad (hop _ _)
      have hbk : (Mon.step check mo (.op op)).book = mo.book.step (.op op) := Mon.step_book ..
      have h2 := mon_accepts_of_splits check _ ((stepOp c op).2.map CEv.obs) h1 (fun pre e post he st hs => by
        obtain ⟨os1, rest, hsplit, rfl, hrest⟩ := List.map_eq_append_iff.mp he
        obtain ⟨o, os2, rfl, rfl, rfl⟩ := List.map_eq_cons_iff.mp hrest
        rw [hbk] at hs ⊢
        exact hobs hI hsplit hs)
      rw [foldl_mon_book, hbk]
      exact hI.step.imp (fun hs => ⟨h2, hs⟩) (fun hI' => ⟨h2, hI'⟩))
    ops { st := () } (initSys m b tc coupled) (.inr ⟨rfl, init_owed m b tc coupled ops hb hsp⟩)
  rcases this with h | ⟨_, h, _⟩
  · exact h.1
  · exact h

/-- **The third clause of `checkC03` never objects to a trace of the model.** -/
theorem monC03c_accepts (m b tc : Nat) (coupled : Bool) (ops : List COp) (hb : (callBodies ops).Nodup)
    (hsp : ∀ op ∈ ops, SpanOk op) :
    (Mon.run checkC03c () (trace (initSys m b tc coupled) ops)).bad = none :=
  owed_clause_accepts checkC03c (fun _ _ => rfl) owed_at_ret m b tc coupled ops hb hsp

/-! ### putting the clauses of a monitor together -/

/-- A monitor without a state of its own accepts iff its checker passes at every position (not judged once spun). -/
theorem unit_mon_accepts_iff (check : Book → Unit → CEv → Unit × Option String) (m : Mon Unit) (evs : List CEv) :
    (evs.foldl (Mon.step check) m).bad = none ↔
      m.bad = none ∧ ∀ pre e post, evs = pre ++ e :: post → (preBook (bookOf m.book pre) e).spun = false →
        (check (preBook (bookOf m.book pre) e) () e).2 = none := by
  constructor
  · intro h
    induction evs generalizing m with
    | nil => exact ⟨h, fun pre e post he => by simp at he⟩
    | cons e0 evs ih =>
      simp only [List.foldl_cons] at h
      obtain ⟨hb1, hrest⟩ := ih _ h
      obtain ⟨hb0, hr0⟩ := Mon.step_bad_none.mp hb1
      refine ⟨hb0, ?_⟩
      intro pre e post he hs
      cases pre with
      | nil =>
        simp only [List.nil_append, List.cons.injEq] at he
        obtain ⟨rfl, _⟩ := he
        simp only [bookOf_nil] at hs ⊢
        unfold Mon.res at hr0
        rw [Mon.pre_eq] at hr0
        simp only [hs, Bool.false_eq_true, ↓reduceIte] at hr0; exact hr0
      | cons e1 pre' =>
        simp only [List.cons_append, List.cons.injEq] at he
        obtain ⟨rfl, he⟩ := he
        have := hrest pre' e post he
        rw [Mon.step_book] at this
        exact this hs
  · rintro ⟨hb, h⟩
    exact mon_accepts_of_splits check m evs hb (fun pre e post he _ => h pre e post he)

theorem checkC03_split (b : Book) (e : CEv) :
    (checkC03 b () e).2 = none ↔ (checkC03ab b () e).2 = none ∧ (checkC03c b () e).2 = none := by
  cases e with
  | op o => exact ⟨fun h => ⟨h, rfl⟩, fun h => h.1⟩
  | obs o =>
    cases o with
    | ret t r =>
      cases t with
      | dispatch k => exact ⟨fun h => ⟨rfl, h⟩, fun h => h.2⟩
      | _ => exact ⟨fun h => ⟨h, rfl⟩, fun h => h.1⟩
    | _ => exact ⟨fun h => ⟨h, rfl⟩, fun h => h.1⟩

/-- **`monC03` — all three clauses — accepts every trace of the model** (scripts whose calls have pairwise distinct
bodies and caller-chosen span ids). -/
theorem monC03_accepts (m b tc : Nat) (coupled : Bool) (ops : List COp) (hb : (callBodies ops).Nodup)
    (hsp : ∀ op ∈ ops, SpanOk op) : (monC03 (trace (initSys m b tc coupled) ops)).ok = true := by
  have h1 : (Mon.run checkC03ab () (trace (initSys m b tc coupled) ops)).bad = none := by
    have := (combined_ok (combined_accepts m b tc coupled ops hb hsp)).2.2
    simpa [Mon.ok, monC03ab] using this
  have h2 := monC03c_accepts m b tc coupled ops hb hsp
  unfold Mon.run at h1 h2
  obtain ⟨_, p1⟩ := (unit_mon_accepts_iff checkC03ab _ _).mp h1
  obtain ⟨_, p2⟩ := (unit_mon_accepts_iff checkC03c _ _).mp h2
  have h3 : ((trace (initSys m b tc coupled) ops).foldl (Mon.step checkC03) { st := () }).bad = none := by
    refine (unit_mon_accepts_iff checkC03 _ _).mpr ⟨rfl, ?_⟩
    intro pre e post he hs
    exact (checkC03_split _ e).mpr ⟨p1 pre e post he hs, p2 pre e post he hs⟩
  simp [monC03, Mon.run, Mon.ok, h3]

/-! ### the third clause of `checkC11`: tracked state is reclaimed -/

/-- the third clause of `checkC11` alone -/
def checkC11c (b : Book) (_ : Unit) : CEv → Unit × Option String
  | .obs (.counts (.dispatch _) inflight _) =>
      if b.topPoll && !b.pollReadyP && !b.failed && b.liveCalls.isEmpty && b.dispatchRet.isNone && inflight != 0 then
        ((), some s!"all calls resolved or dropped, transport writable, yet {inflight} requests still tracked")
      else ((), none)
  | _ => ((), none)

/-- … and once every call is resolved or dropped nothing is tracked. -/
theorem AtEnd.reclaimed {c1 : St} {now : Nat} {bp : Book} (h : AtEnd c1 now bp) (hlive : bp.liveCalls.isEmpty = true) :
    c1.inflight = [] := by
  obtain ⟨used, hc⟩ := h.cpl
  have hi := h.inv
  cases hinf : c1.inflight with
  | nil => rfl
  | cons e rest =>
    exfalso
    have he : e ∈ c1.inflight := by rw [hinf]; exact List.mem_cons_self
    obtain ⟨cl, hcl, -, hph⟩ := h.awaiting he
    have hclv : cl.v ∈ (view c1).calls := List.mem_map_of_mem hcl
    obtain ⟨bc, hbc, hrc⟩ := hc.calls.mem_bwd hclv
    -- but the book says it is resolved or dropped
    have hdead : bc.dropped = true ∨ bc.resolved.isSome = true := by
      unfold Book.liveCalls at hlive
      rw [List.isEmpty_iff, List.filter_eq_nil_iff] at hlive
      have := hlive bc hbc
      simp only [Bool.and_eq_true, Bool.not_eq_true', not_and] at this
      cases hd : bc.dropped with
      | true => exact Or.inl rfl
      | false =>
        right
        have := this hd
        cases hr : bc.resolved with
        | none => simp [hr] at this
        | some o => rfl
    have hvp : cl.v.phase = cl.phase := rfl
    rcases hdead with hd | hr
    · have := hrc.dropped hd
      rw [hvp, hph] at this; cases this
    · rw [hrc.resolved] at hr
      have := (hi.outc cl.cid cl.v (hi.get_of_mem hclv)).mp hr
      rw [hvp, hph] at this; cases this

theorem step_ret_pending (b : Book) (k : Nat) : b.step (.obs (.ret (.dispatch k) .pending)) = b := by
  simp [Book.step]

theorem step_ret_dispatchRet (b : Book) (k : Nat) (r : Ret) (hr : r ≠ .pending) :
    (b.step (.obs (.ret (.dispatch k) r))).dispatchRet = some r := by
  unfold Book.step
  simp only
  split
  · rename_i h; exact absurd (by simpa using h) hr
  · rfl

theorem reclaimed_at_counts {c : Sys} {bk : Book} {op : COp} {ops : List COp} {os1 os2 : List Obs} {o : Obs}
    (h : OwedInv c bk (op :: ops)) (hos : (stepOp c op).2 = os1 ++ o :: os2)
    (hsp : (bookOf (bk.step (.op op)) (os1.map CEv.obs)).spun = false) :
    (checkC11c (bookOf (bk.step (.op op)) (os1.map CEv.obs)) () (.obs o)).2 = none := by
  cases o with
  | counts t i tm =>
    cases t with
    | dispatch k =>
      show (checkC11c (obsBook (bk.step (.op op)) os1) () (.obs (.counts (.dispatch k) i tm))).2 = none
      unfold checkC11c
      simp only
      split
      · rename_i hcond
        exfalso
        simp only [Bool.and_eq_true, Bool.not_eq_true', bne_iff_ne, ne_eq] at hcond
        obtain ⟨⟨⟨⟨⟨htop, hrp⟩, hfl⟩, hlive⟩, hret⟩, hne⟩ := hcond
        rw [obsBook_topPoll, step_op_topPoll] at htop
        subst htop
        obtain ⟨c1, r, hcore, hg, hpo, hpos⟩ := locate_end h hos rfl
        rcases hpos with ⟨_, e2⟩ | ⟨e1, e2⟩
        · cases e2
        · injection e2 with _ e2 _
          subst e1
          -- the book before `counts` is the book after `ret r`
          have hbk : obsBook (bk.step (.op .pollDispatch)) (c1.obs.reverse ++ [.ret (tid c1) r])
              = (obsBook (bk.step (.op .pollDispatch)) c1.obs.reverse).step (.obs (.ret (tid c1) r)) := by
            unfold obsBook
            rw [List.map_append, bookOf_append]; rfl
          by_cases hr : r = .pending
          · subst hr
            have hbk' : obsBook (bk.step (.op .pollDispatch)) (c1.obs.reverse ++ [.ret (tid c1) .pending])
                = obsBook (bk.step (.op .pollDispatch)) c1.obs.reverse := by
              rw [hbk]; exact step_ret_pending _ _
            change (obsBook _ _).spun = false at hsp
            rw [hbk'] at hsp hrp hfl hlive
            have hae := at_end_of_poll h hcore hg hpo hsp hrp hfl
            have := hae.reclaimed hlive
            rw [e2, this] at hne
            exact hne rfl
          · rw [hbk, show tid c1 = .dispatch c1.k from rfl, step_ret_dispatchRet _ _ _ hr] at hret
            cases hret
      · rfl
    | _ => rfl
  | _ => rfl

/-- **The third clause of `checkC11` never objects to a trace of the model.** -/
theorem monC11c_accepts (m b tc : Nat) (coupled : Bool) (ops : List COp) (hb : (callBodies ops).Nodup)
    (hsp : ∀ op ∈ ops, SpanOk op) :
    (Mon.run checkC11c () (trace (initSys m b tc coupled) ops)).bad = none :=
  owed_clause_accepts checkC11c (fun _ _ => rfl) reclaimed_at_counts m b tc coupled ops hb hsp

end TarpcModel.Client
