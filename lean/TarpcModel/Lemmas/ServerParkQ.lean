import TarpcModel.Lemmas.ServerTable
import TarpcModel.Lemmas.C02
/-!
# A parked request stream does not sit on work it could do

`SPk s`: the sink is not ready and holds the stream task's waker (`WSink`) — or the task is registered on the (empty)
response queue (`WrReg`) and on the read side of the transport, whose inbound queue is empty, or the read side has
ended (`RdReg`).  `SPI s`: an alive stream task that has not panicked and has not been woken since its last poll
satisfies `SPk`.

* the write pump: `pumpWrite → Pending / None` leaves the sink blocked (`SimT.Blocked`, the sink lemmas are shared
  with the client) or the task registered on the empty response queue (`pumpWrite_parks`);
* the read side: `BaseChannel::poll_next → Pending / None` leaves the task registered on the empty inbound queue (or
  the stream fused); the `MaxRequests` limiter at its limit returns `Pending` from `poll_ready → Pending`: then the
  task is parked on the sink's write waker, and it is the sink that must wake it when its own flush makes room
  (`selfWake`): with a self-waking sink "woken or parked on a not-ready sink" survives the write pump (`QG`,
  `qg_pumpWrite`);
* every other op preserves `SPI`; `reach_spi` is the invariant over all reachable states, for scripts without a limit
  or that never switch the sink's self-wake off.
-/
namespace TarpcModel.Server
open Flow
open TarpcModel.SimT (WSink pollReady_wsink pollFlush_wsink startSend_not_ready startSend_writeWaker)

/-! ### the transport: what the write-side calls leave alone -/

/-- the read side and the configuration of the transport -/
structure TK (t t' : SimT) : Prop where
  selfWake : t'.selfWake = t.selfWake
  inbound : t'.inbound = t.inbound
  readWaker : t'.readWaker = t.readWaker
  eof : t'.eof = t.eof

theorem TK.refl (t : SimT) : TK t t := ⟨rfl, rfl, rfl, rfl⟩
theorem TK.trans {a b c : SimT} (h1 : TK a b) (h2 : TK b c) : TK a c :=
  ⟨h2.selfWake.trans h1.selfWake, h2.inbound.trans h1.inbound, h2.readWaker.trans h1.readWaker, h2.eof.trans h1.eof⟩

theorem _root_.TarpcModel.SimT.WKeep.tk {t t' : SimT} (h : SimT.WKeep t t') : TK t t' :=
  ⟨h.selfWake, h.inbound, h.readWaker, h.eof⟩

/-! ### where the stream task is registered -/

/-- registered on the empty inbound queue, or the read side has ended -/
def RdReg (s : St) : Prop := (s.t.inbound = [] ∧ s.t.readWaker = true) ∨ s.readFused = true
/-- registered on the empty response queue -/
def WrReg (s : St) : Prop := s.respQ = [] ∧ s.rqRxWaker = true
/-- a parked stream task: on a sink that is not ready, or on both the response queue and the read side -/
def SPk (s : St) : Prop := WSink s.t ∨ (WrReg s ∧ RdReg s)
/-- the parking invariant: an alive stream task that has not panicked and has not been woken since its last poll is parked -/
def SPI (s : St) : Prop := s.dropped = false → s.done = none → s.poisoned = false → s.woken = false → SPk s

/-- a step of the write side: the read side of the transport, `readFused`, `dropped`, `done` are left alone; the task
may get woken -/
structure WS (s s' : St) : Prop where
  tk : TK s.t s'.t
  fused : s'.readFused = s.readFused
  dropped : s'.dropped = s.dropped
  done : s'.done = s.done
  nextVis : s'.nextVis = s.nextVis
  wok : s.woken = true → s'.woken = true

theorem WS.refl (s : St) : WS s s := ⟨TK.refl _, rfl, rfl, rfl, rfl, id⟩
theorem WS.trans {a b c : St} (h1 : WS a b) (h2 : WS b c) : WS a c :=
  ⟨h1.tk.trans h2.tk, h2.fused.trans h1.fused, h2.dropped.trans h1.dropped, h2.done.trans h1.done,
   h2.nextVis.trans h1.nextVis, fun h => h2.wok (h1.wok h)⟩

theorem RdReg.ws {s s' : St} (h : RdReg s) (w : WS s s') : RdReg s' := by
  rcases h with ⟨a, b⟩ | a
  · exact Or.inl ⟨by rw [w.tk.inbound]; exact a, by rw [w.tk.readWaker]; exact b⟩
  · exact Or.inr (by rw [w.fused]; exact a)

theorem ws_set {s s' : St} (ht : s'.t = s.t) (hf : s'.readFused = s.readFused) (hd : s'.dropped = s.dropped)
    (hn : s'.done = s.done) (hv : s'.nextVis = s.nextVis) (hw : s'.woken = s.woken) : WS s s' :=
  ⟨ht ▸ TK.refl _, hf, hd, hn, hv, fun h => hw.trans h⟩

/-- the fine actions that are steps of the write side: the sink's calls keep the read side of the transport -/
def WsK : Act → Prop
  | .setT t t' => SimT.WKeep t t'
  | .emit _ | .spin | .woken | .upd _ | .rqGrant | .rqFree | .popResp | .rqRx _ | .timers | .forget | .panic _ => True
  | _ => False

theorem ws_fine : Has WsK WS where
  refl := WS.refl
  trans := WS.trans
  prim := by
    intro k a b hk hp
    cases hp with
    | setT s t' => exact ⟨hk.tk, rfl, rfl, rfl, rfl, id⟩
    | woken s => exact ⟨TK.refl _, rfl, rfl, rfl, rfl, fun _ => rfl⟩
    | emit | spin | upd | rqGrant | rqFree | popResp | rqRx | timers | forget | panic => exact ws_set rfl rfl rfl rfl rfl rfl
    | _ => exact hk.elim

theorem sink_le_ws {Q : Obs → Prop} : ∀ k, SinkK Q k → WsK k := by
  intro k hk
  cases hk with
  | setT h => exact h
  | _ => exact trivial

theorem table_le_ws : ∀ k, TableK k → WsK k := by intro k hk; cases hk <;> exact trivial

theorem wake_le_ws : ∀ k, WakeK k → WsK k := by intro k hk; cases hk <;> exact trivial

theorem ws_tReady (s : St) : WS s (tReady s).1 := ws_fine.steps ((tReady_steps s).mono sink_le_ws)
theorem ws_tFlush (s : St) : WS s (tFlush s).1 := ws_fine.steps ((tFlush_steps s).mono sink_le_ws)
theorem ws_tSend (s : St) (m : Msg) : WS s (tSend s m).1 := ws_fine.steps ((tSend_steps s m).mono sink_le_ws)
theorem ws_rqRelease (s : St) : WS s (rqRelease s) := ws_fine.steps ((rqRelease_steps s).mono wake_le_ws)
theorem ws_removeRequest (s : St) (id : Nat) : WS s (removeRequest s id).1 :=
  ws_fine.steps ((removeRequest_steps s id).mono table_le_ws)
theorem ws_armRead (s : St) (r : SPoll Exec) : WS s (armRead s r) :=
  ws_fine.steps ((armRead_steps s r).mono (by rintro k rfl; exact trivial))

/-- woken, or parked on a sink that is not ready -/
def WokenOrSink (s : St) : Prop := s.woken = true ∨ WSink s.t

theorem wokenOrSink_tReady {s : St} (h : WokenOrSink s) : WokenOrSink (tReady s).1 := by
  rcases h with h | h
  · exact Or.inl ((ws_tReady s).wok h)
  · right
    rw [tReady_t]; exact (pollReady_wsink h).1

theorem wokenOrSink_tFlush {s : St} (hd : s.dropped = false) (hn : s.done = none) (hs : s.t.selfWake = true) (h : WokenOrSink s) :
    WokenOrSink (tFlush s).1 := by
  rcases h with h | h
  · exact Or.inl ((ws_tFlush s).wok h)
  · rcases pollFlush_wsink h hs with hw | hw
    · right; rw [tFlush_t]; exact hw
    · left
      obtain ⟨o, he⟩ := tFlush_shape' s
      rw [he, if_pos hw]
      exact wakeServer_woken _ hd hn

theorem wokenOrSink_tSend {s : St} (m : Msg) (h : WokenOrSink s) : WokenOrSink (tSend s m).1 := by
  rcases h with h | h
  · exact Or.inl ((ws_tSend s m).wok h)
  · right
    rw [tSend_t]
    exact ⟨startSend_not_ready m h.1, by rw [startSend_writeWaker]; exact h.2⟩

theorem WokenOrSink.of_ws_t {s s' : St} (h : WokenOrSink s) (w : WS s s') (ht : s'.t = s.t) : WokenOrSink s' := by
  rcases h with h | h
  · exact Or.inl (w.wok h)
  · exact Or.inr (by rw [ht]; exact h)

/-! ### `ensure_writeable` -/

/-- `WokenOrSink` for an alive stream task on a sink that wakes its owner: what the limiter's early `Pending` is good for -/
def QG (s : St) : Prop := s.dropped = false ∧ s.done = none ∧ s.t.selfWake = true ∧ WokenOrSink s

theorem QG.step {s s' : St} (h : QG s) (w : WS s s') (q : WokenOrSink s') : QG s' :=
  ⟨w.dropped.trans h.1, w.done.trans h.2.1, w.tk.selfWake.trans h.2.2.1, q⟩

theorem QG.of_ws_t {s s' : St} (w : WS s s') (ht : s'.t = s.t) (h : QG s) : QG s' := h.step w (h.2.2.2.of_ws_t w ht)

theorem qg_tReady (s : St) (h : QG s) : QG (tReady s).1 := h.step (ws_tReady s) (wokenOrSink_tReady h.2.2.2)
theorem qg_tFlush (s : St) (h : QG s) : QG (tFlush s).1 := h.step (ws_tFlush s) (wokenOrSink_tFlush h.1 h.2.1 h.2.2.1 h.2.2.2)
theorem qg_tSend (s : St) (m : Msg) (h : QG s) : QG (tSend s m).1 := h.step (ws_tSend s m) (wokenOrSink_tSend m h.2.2.2)

theorem tReady_pending_t {s s1 : St} (h : tReady s = (s1, .pending)) :
    s1.t.isReadyNow = false ∧ s1.t.writeWaker = true ∧ s1.t.coupled = s.t.coupled ∧ s1.t.flushOpen = s.t.flushOpen ∧
    s1.t.buffered = s.t.buffered := by
  have e : s1.t = s.t.pollReady.1 := by have := tReady_t s; rw [h] at this; exact this
  have r : s.t.pollReady.2.1 = .pending := by have := tReady_res s; rw [h] at this; exact this.symm
  rw [e]; exact SimT.pollReady_pending_spec _ r

theorem tFlush_pending_t {s s1 : St} (h : tFlush s = (s1, .pending)) :
    s1.t.writeWaker = true ∧ s1.t.coupled = true ∧ s1.t.flushOpen = false ∧ s1.t.buffered ≠ [] ∧
    s1.t.isReadyNow = s.t.isReadyNow := by
  have e : s1.t = s.t.pollFlush.1 := by have := tFlush_t s; rw [h] at this; exact this
  have r : s.t.pollFlush.2.1 = .pending := by have := tFlush_res s; rw [h] at this; exact this.symm
  rw [e]; exact SimT.pollFlush_pending_spec _ r

theorem tFlush_ready_t {s s1 : St} (h : tFlush s = (s1, .ready)) : s1.t.buffered = [] := by
  have e : s1.t = s.t.pollFlush.1 := by have := tFlush_t s; rw [h] at this; exact this
  have r : s.t.pollFlush.2.1 = .ready := by have := tFlush_res s; rw [h] at this; exact this.symm
  rw [e]; exact SimT.pollFlush_ready r

/-- `ensure_writeable → Pending` leaves a blocked sink -/
theorem ensureOnce_pending_blocked {s : St} (h : (ensureOnce s).2 = .pending) : SimT.Blocked (ensureOnce s).1.t := by
  have ho := ensureOnce_out s
  generalize ensureOnce s = p at ho h
  cases ho with
  | flushPending h1 h2 =>
    obtain ⟨a1, _, _, _, _⟩ := tReady_pending_t (Prod.ext rfl h1 : tReady s = ((tReady s).1, .pending))
    obtain ⟨b1, b2, b3, b4, b5⟩ := tFlush_pending_t (Prod.ext rfl h2 : tFlush (tReady s).1 = (_, .pending))
    exact ⟨by rw [b5]; exact a1, b1, Or.inl ⟨b2, b3, b4⟩⟩
  | pending2 h1 h2 h3 =>
    obtain ⟨c1, c2, _, _, c5⟩ := tReady_pending_t (Prod.ext rfl h3 : tReady (tFlush (tReady s).1).1 = (_, .pending))
    exact ⟨c1, c2, Or.inr (by rw [c5]; exact tFlush_ready_t (Prod.ext rfl h2 : tFlush (tReady s).1 = (_, .ready)))⟩
  | _ => cases h

/-! ### the write pump -/

theorem ws_has : Has (fun k => CallK k ∨ k = .removeReq ∨ k = .tSend) WS where
  refl := WS.refl
  trans := WS.trans
  prim := by
    intro k a b hk hp
    cases hp with
    | tReady s => exact ws_tReady _
    | tFlush s => exact ws_tFlush _
    | tSend s m => exact ws_tSend _ m
    | rqRelease s => exact ws_rqRelease _
    | removeReq s id => exact ws_removeRequest _ id
    | baseSend s id res =>
      exact (baseStartSend_calls _ id res).kept (P := WS a) (fun hk hp h => by
        rcases hk with rfl | rfl <;> cases hp
        · exact h.trans (ws_removeRequest _ _)
        · exact h.trans (ws_tSend _ _)) (WS.refl _)
    | spin | popResp | rqRx => exact ws_set rfl rfl rfl rfl rfl rfl
    | _ => rcases hk with hk | hk | hk <;> cases hk

theorem ws_baseStartSend (s : St) (id : Nat) (res : Res) : WS s (baseStartSend s id res).1 :=
  ws_has.steps ((baseStartSend_calls s id res).mono fun _ hk => .inr hk)

theorem ws_pumpWrite (s : St) (rc : Bool) : WS s (pumpWrite s rc).1 :=
  ws_has.steps ((pumpWrite_calls s rc).mono fun _ hk => .inl hk)

theorem qg_pumpWrite (s : St) (rc : Bool) (h : QG s) : QG (pumpWrite s rc).1 :=
  (pumpWrite_calls s rc).kept (P := QG) (fun {k a b} hk hp h => by
    cases hp with
    | tReady s => exact qg_tReady _ h
    | tFlush s => exact qg_tFlush _ h
    | rqRelease s => exact QG.of_ws_t (ws_rqRelease _) (rqRelease_t _) h
    | baseSend s id res =>
      exact (baseStartSend_calls _ id res).kept (P := QG) (fun hk hp h => by
        rcases hk with rfl | rfl <;> cases hp
        · exact QG.of_ws_t (ws_removeRequest _ _) (by simp) h
        · exact qg_tSend _ _ h) h
    | spin | popResp | rqRx => exact QG.of_ws_t (ws_set rfl rfl rfl rfl rfl rfl) rfl h
    | _ => cases hk) h

/-- **an idle write pump is parked**: `pump_write → Pending / None` leaves the sink blocked or the task registered on
the empty response queue -/
theorem pumpWrite_parks {s : St} (hel : s.ensureLoop = false) (rc : Bool)
    (hr : (pumpWrite s rc).2 = .pending ∨ (pumpWrite s rc).2 = .none) :
    SimT.Blocked (pumpWrite s rc).1.t ∨ WrReg (pumpWrite s rc).1 := by
  have hb := ensureOnce_pending_blocked (s := s)
  have hw : ensureOnce s = ensureWriteable s := by unfold ensureWriteable; rw [if_neg (by simp [hel])]
  rw [hw] at hb
  have hk := ensureWriteable_rk s
  have ho := pumpWrite_out s rc
  generalize pumpWrite s rc = p at ho hr
  cases ho with
  | blocked s1 he =>
    rw [he] at hb
    rw [flushArm_fst, tFlush_t]
    exact Or.inl (SimT.pollFlush_of_blocked (hb rfl)).1
  | idle s1 he hq =>
    rw [he] at hk
    have hf := flushArm_rk { s1 with rqRxWaker := true } rc
    exact Or.inr ⟨hf.1.trans hq, hf.2⟩
  | _ => rcases hr with hr | hr <;> cases hr

/-! ### the read side -/

theorem pollNext_selfWake (t : SimT) : t.pollNext.1.selfWake = t.selfWake := by
  obtain ⟨i, r, f, k, h⟩ := SimT.pollNext_frame t; rw [h]

theorem tNext_selfWake (s : St) : (tNext s).1.t.selfWake = s.t.selfWake := by
  rw [tNext_t]; split
  · rfl
  · exact pollNext_selfWake _

theorem tNext_pending_reg {s : St} (h : (tNext s).2 = .pending) :
    (tNext s).1.t.inbound = [] ∧ (tNext s).1.t.readWaker = true := by
  rw [tNext_res] at h
  rw [tNext_t]
  split at h
  · cases h
  · rename_i hf
    rw [if_neg hf]
    exact SimT.pollNext_pending_reg _ h

theorem tNext_eof_fused {s : St} (h : (tNext s).2 = .eof) : (tNext s).1.readFused = true :=
  tNext_fuses s (Or.inr h)

/-- one iteration of `BaseChannel::poll_next` that decides to go idle or to end: the task is registered on the empty
inbound queue, or the read side has ended -/
theorem bpStep_parks (s : St) (now : Nat) (h : (bpStep s now).2 = some .pending ∨ (bpStep s now).2 = some .none) :
    RdReg (bpStep s now).1 := by
  have key : (bpOther (bp3 s now) (bpNx s now)).2 ≠ .ready → bpNx s now ≠ .err →
      (∀ id d tr b, bpNx s now ≠ .item (.request id d tr b)) → RdReg (bpOther (bp3 s now) (bpNx s now)).1 := by
    intro hnr hne hnq
    rw [bpOther_not_ready hnr]
    unfold bp3
    cases hnx : bpNx s now with
    | err => exact absurd hnx hne
    | pending =>
      have := tNext_pending_reg (s := bp2 s now) hnx
      exact Or.inl this
    | eof => exact Or.inr (tNext_eof_fused (s := bp2 s now) hnx)
    | item m =>
      rw [hnx] at hnr
      cases m with
      | request id d tr b => exact absurd hnx (hnq id d tr b)
      | cancel id tr => exact absurd rfl hnr
      | response id r => exact absurd rfl hnr
  have nr : bpSt s now ≠ .ready → (bpOther (bp3 s now) (bpNx s now)).2 ≠ .ready := by
    intro hst hr
    apply hst
    unfold bpSt
    rw [hr]
    generalize combine (bpCancel s).2 (expStatus (pollExpired (bpCancel s).1 now).2) = x
    cases x <;> rfl
  have ho := bpStep_out s now
  revert h
  generalize bpStep s now = p at ho
  intro h
  cases ho with
  | closed _ hne hnq _ hst => exact key (nr (by rw [hst]; nofun)) hne hnq
  | pending _ hne hnq _ hst => exact key (nr (by rw [hst]; nofun)) hne hnq
  | _ => rcases h with h | h <;> cases h

theorem basePollNext_parks (now fuel : Nat) (s : St) :
    ((basePollNext fuel s now).2 = .pending ∨ (basePollNext fuel s now).2 = .none) → RdReg (basePollNext fuel s now).1 :=
  basePollNext_loop (I := fun _ => True) (Φ := fun s r => (r = .pending ∨ r = .none) → RdReg s)
    (fun s _ => .of_eq (fun _ => trivial)
      (fun r hr h => bpStep_parks s now (h.imp (fun e => by rw [hr, e]) (fun e => by rw [hr, e])))) (fun _ _ => nofun)
    fuel s trivial

/-- the limiter (`MaxRequests::poll_next` as it is in tarpc): it goes idle registered on the read side — or, at its limit, on
the write waker of a sink that is not ready -/
theorem limitedLegacy_parks (limit now fuel : Nat) (s : St) :
    ((limitedPollNextLegacy limit fuel s now).2 = .pending ∨ (limitedPollNextLegacy limit fuel s now).2 = .none) →
    RdReg (limitedPollNextLegacy limit fuel s now).1 ∨ WSink (limitedPollNextLegacy limit fuel s now).1.t :=
  limitedLegacy_post (I := fun _ => True) (Φ := fun s r => (r = .pending ∨ r = .none) → RdReg s ∨ WSink s.t)
    { ready := fun _ _ _ => trivial
      pending := fun s _ h _ => Or.inr (by
        obtain ⟨a1, a2, _⟩ := tReady_pending_t (s := s) (s1 := (tReady s).1) (Prod.ext rfl h)
        exact ⟨a1, a2⟩)
      readyErr := fun _ _ _ => nofun
      req := fun _ _ _ _ _ => trivial
      other := fun fuel s r _ _ hr h => Or.inl (basePollNext_parks now fuel s (by rw [hr]; exact h))
      sent := fun _ _ _ _ _ => trivial
      sendErr := fun _ _ _ _ _ => nofun
      upd := fun _ _ _ => trivial
      spin := fun _ _ => nofun }
    limit (fun fuel s _ _ h => Or.inl (basePollNext_parks now fuel s h)) fuel s trivial

theorem channelPollNext_parks {s : St} (hcfg : s.throttleAfterRead = false) (now : Nat)
    (h : (channelPollNext s now).2 = .pending ∨ (channelPollNext s now).2 = .none) :
    RdReg (channelPollNext s now).1 ∨ (s.limit ≠ none ∧ WSink (channelPollNext s now).1.t) := by
  unfold channelPollNext at h ⊢
  split
  · rename_i hl
    rw [hl] at h
    exact Or.inl (basePollNext_parks now _ s h)
  · rename_i l hl
    rw [hl] at h
    simp only [hcfg, Bool.false_eq_true, ↓reduceIte] at h ⊢
    rcases limitedLegacy_parks l now _ s h with x | x
    · exact Or.inl x
    · exact Or.inr ⟨by rw [hl]; simp, x⟩

/-- `nextVis` and the sink's self-wake switch are left alone -/
def Keep (s s' : St) : Prop := s'.nextVis = s.nextVis ∧ s'.t.selfWake = s.t.selfWake

theorem Keep.refl (s : St) : Keep s s := ⟨rfl, rfl⟩
theorem Keep.trans {a b c : St} (h1 : Keep a b) (h2 : Keep b c) : Keep a c := ⟨h2.1.trans h1.1, h2.2.trans h1.2⟩

theorem WS.keep {s s' : St} (w : WS s s') : Keep s s' := ⟨w.nextVis, w.tk.selfWake⟩

theorem keep_has (now : Nat) : Has (PumpK now) Keep where
  refl := Keep.refl
  trans := Keep.trans
  prim := by
    intro k a b hk hp
    cases hp with
    | setT s t' => cases hk with | setT h => exact ⟨rfl, h.selfWake⟩
    | removeReq s id => exact ⟨by simp, by simp⟩
    | expire s n => exact ⟨by simp, by simp⟩
    | tNext s => exact ⟨by simp, tNext_selfWake _⟩
    | readStart s n id d tr b hq => exact ⟨by simp, by simp [tNext_selfWake]⟩
    | cancelRead s id tr hq => exact ⟨by simp, by simp [tNext_selfWake]⟩
    | baseSend s id res => exact (ws_baseStartSend _ _ _).keep
    | emit | spin | upd | woken | rqGrant | rqFree | popResp | rqRx | popCancel | cancelRx | pushCancel => exact ⟨rfl, rfl⟩
    | _ => cases hk

theorem keep_channelPollNext (s : St) (now : Nat) : Keep s (channelPollNext s now).1 :=
  (keep_has now).steps (channelPollNext_pump (.refl s))

/-- some execution has this `rid` -/
def HasE (s : St) (rid : Nat) : Prop := ∃ e ∈ s.execs, e.rid = rid

theorem HasE.getExec {s : St} {rid : Nat} (h : HasE s rid) : ∃ e, getExec s rid = some e := by
  obtain ⟨e, he, hr⟩ := h
  cases hg : Server.getExec s rid with
  | some e' => exact ⟨e', rfl⟩
  | none =>
    unfold Server.getExec at hg
    have := List.find?_eq_none.mp hg e he
    simp [hr] at this

theorem HasE.updExec {s : St} {rid : Nat} (h : HasE s rid) (r : Nat) (f : Exec → Exec) (hf : ∀ e, (f e).rid = e.rid) :
    HasE (updExec s r f) rid := by
  obtain ⟨e, he, hr⟩ := h
  refine ⟨if e.rid == r then f e else e, ?_, ?_⟩
  · show _ ∈ s.execs.map _
    exact List.mem_map_of_mem (f := fun e => if e.rid == r then f e else e) he
  · split
    · rw [hf]; exact hr
    · exact hr

theorem HasE.of_execs {s s' : St} {rid : Nat} (h : HasE s rid) (e : s'.execs = s.execs) : HasE s' rid := by
  unfold HasE; rw [e]; exact h

/-- the fine actions of the pumps only update executions in place or append one -/
theorem hasE_fine {rid : Nat} {k : Act} {a b : St} (hk : PumpFK k) (hp : Step k a b) (h : HasE a rid) : HasE b rid := by
  cases hk <;> cases hp
  case started => obtain ⟨x, hx, hr⟩ := h; exact ⟨x, List.mem_append_left _ hx, hr⟩
  case uwoken | gone | arm | dropped | abort => exact h.updExec _ _ fun _ => rfl
  all_goals exact h.of_execs rfl

theorem startRequest_hasE {s : St} {now id d : Nat} {tr : Trace} {b : Nat} {ex : Exec}
    (h : (startRequest s now id d tr b).2 = some ex) : HasE (startRequest s now id d tr b).1 ex.rid := by
  rcases startRequest_out s now id d tr b with ⟨_, e⟩ | ⟨_, _, e⟩ | ⟨_, q, key, w, _, e⟩ <;> rw [e] at h ⊢
  · cases h
  · cases h
  · cases h; exact ⟨_, List.mem_append_right _ (List.mem_singleton.mpr rfl), rfl⟩

theorem bpStep_some_hasE (s : St) (now : Nat) (ex : Exec) (h : (bpStep s now).2 = some (.some ex)) :
    HasE (bpStep s now).1 ex.rid := by
  have ho := bpStep_out s now
  revert h
  generalize bpStep s now = p at ho
  intro h
  cases ho with
  | started id d tr b ex' _ _ hs =>
    simp only [Option.some.injEq, SPoll.some.injEq] at h
    subst h
    exact startRequest_hasE hs
  | _ => cases h

theorem bpStep_spin (s : St) (now : Nat) (h : (bpStep s now).2 = some .spin) : (bpStep s now).1.poisoned = true := by
  have ho := bpStep_out s now
  revert h
  generalize bpStep s now = p at ho
  intro h
  cases ho with
  | poisoned2 hp => exact hp
  | startPanic _ _ _ _ _ _ _ hp => exact hp
  | otherPoisoned _ _ _ hp => exact hp
  | _ => cases h

/-- a result that is marked: the task panicked or a `spin` was recorded -/
def Marked (s : St) : Prop := s.poisoned = true ∨ hasSpin s.obs = true

theorem marked_emit_spin (s : St) : Marked (emit s (.spin (tid s))) := Or.inr (by simp [hasSpin])

theorem basePollNext_some_spin (now fuel : Nat) (s : St) :
    (∀ ex, (basePollNext fuel s now).2 = .some ex → HasE (basePollNext fuel s now).1 ex.rid) ∧
    ((basePollNext fuel s now).2 = .spin → Marked (basePollNext fuel s now).1) :=
  basePollNext_loop (I := fun _ => True)
    (Φ := fun s r => (∀ ex, r = .some ex → HasE s ex.rid) ∧ (r = .spin → Marked s))
    (fun s _ => .of_eq (fun _ => trivial) (fun r hr =>
      ⟨fun ex e => bpStep_some_hasE s now ex (by rw [hr, e]), fun e => Or.inl (bpStep_spin s now (by rw [hr, e]))⟩))
    (fun s _ => ⟨(fun _ h => nomatch h), fun _ => marked_emit_spin s⟩) fuel s trivial

theorem limitedLegacy_some_spin (limit now fuel : Nat) (s : St) :
    (∀ ex, (limitedPollNextLegacy limit fuel s now).2 = .some ex → HasE (limitedPollNextLegacy limit fuel s now).1 ex.rid) ∧
    ((limitedPollNextLegacy limit fuel s now).2 = .spin → Marked (limitedPollNextLegacy limit fuel s now).1) :=
  limitedLegacy_post (I := fun _ => True) (Φ := fun s r => (∀ ex, r = .some ex → HasE s ex.rid) ∧ (r = .spin → Marked s))
    { ready := fun _ _ _ => trivial
      pending := fun _ _ _ => ⟨(fun _ h => nomatch h), fun h => nomatch h⟩
      readyErr := fun _ _ _ => ⟨(fun _ h => nomatch h), fun h => nomatch h⟩
      req := fun _ _ _ _ _ => trivial
      other := fun fuel s r _ _ hr => hr ▸ basePollNext_some_spin now fuel s
      sent := fun _ _ _ _ _ => trivial
      sendErr := fun _ _ _ _ _ => ⟨(fun _ h => nomatch h), fun h => nomatch h⟩
      upd := fun _ _ _ => trivial
      spin := fun s _ => ⟨(fun _ h => nomatch h), fun _ => marked_emit_spin s⟩ }
    limit (fun fuel s _ _ => basePollNext_some_spin now fuel s) fuel s trivial

theorem channelPollNext_some_spin {s : St} (hcfg : s.throttleAfterRead = false) (now : Nat) :
    (∀ ex, (channelPollNext s now).2 = .some ex → HasE (channelPollNext s now).1 ex.rid) ∧
    ((channelPollNext s now).2 = .spin → Marked (channelPollNext s now).1) := by
  unfold channelPollNext
  split
  · exact basePollNext_some_spin now _ s
  · simp only [hcfg, Bool.false_eq_true, ↓reduceIte]
    exact limitedLegacy_some_spin _ now _ s

/-! ### `Requests::poll_next` -/

theorem pumpWrite_hasE {s : St} {rid : Nat} (h : HasE s rid) (rc : Bool) : HasE (pumpWrite s rc).1 rid :=
  (((pumpWrite_steps s rc).mono (write_le_pump (now := 0))).bind pump_fine).kept (P := fun s => HasE s rid) hasE_fine h

theorem spk_armRead_cfg (s : St) (r : SPoll Exec) :
    (armRead s r).ensureLoop = s.ensureLoop ∧ (armRead s r).throttleAfterRead = s.throttleAfterRead ∧
    (armRead s r).limit = s.limit := by
  unfold armRead; split <;> exact ⟨rfl, rfl, rfl⟩

/-- no request limit, or a sink that wakes its owner when its own flush makes room -/
def Env (s : St) : Prop := s.limit = none ∨ s.t.selfWake = true

/-- what a poll of `Requests::poll_next` from `s` guarantees about its result: `nextVis` and the self-wake switch are
left alone; a `Pending` result leaves the task woken or parked; a yielded request is an existing execution; a `spin`
result is marked -/
def PollOk (s : St) (p : St × ReqPoll) : Prop :=
  Keep s p.1 ∧ (p.2 = .pending → p.1.woken = true ∨ SPk p.1) ∧ (∀ rid, p.2 = .item rid → HasE p.1 rid) ∧
    (p.2 = .spin → Marked p.1)

theorem PollOk.after {s s1 : St} {p : St × ReqPoll} (k : Keep s s1) (h : PollOk s1 p) : PollOk s p :=
  ⟨Keep.trans k h.1, h.2⟩

theorem PollOk.pending {s s' : St} (k : Keep s s') (h : s'.woken = true ∨ SPk s') : PollOk s (s', .pending) :=
  ⟨k, fun _ => h, nofun, nofun⟩
theorem PollOk.none {s s' : St} (k : Keep s s') : PollOk s (s', .none) := ⟨k, nofun, nofun, nofun⟩
theorem PollOk.err {s s' : St} (k : Keep s s') (a : Activity) : PollOk s (s', .err a) := ⟨k, nofun, nofun, nofun⟩
theorem PollOk.item {s s' : St} (k : Keep s s') {rid : Nat} (h : HasE s' rid) : PollOk s (s', .item rid) :=
  ⟨k, nofun, fun _ e => by cases e; exact h, nofun⟩
theorem PollOk.spin {s s' : St} (k : Keep s s') (h : Marked s') : PollOk s (s', .spin) := ⟨k, nofun, nofun, fun _ => h⟩

theorem keep_dropOffered (s : St) (rid id : Nat) : Keep s (dropOffered s rid id) :=
  (keep_has 0).steps ((dropOffered_steps s rid id).mono drop_le_pump)

/-- the state a poll starts from: the code's flags (head of `Lemmas/ServerTable.lean`), an alive stream, `Env` -/
def PollIn (s : St) : Prop :=
  s.ensureLoop = false ∧ s.throttleAfterRead = false ∧ s.dropped = false ∧ s.done = none ∧ Env s

theorem requestsPollNext_parks (now fuel : Nat) (s0 : St) (hel : s0.ensureLoop = false)
    (hcfg : s0.throttleAfterRead = false) (hdr : s0.dropped = false) (hdn : s0.done = none) (hsw : Env s0) :
    PollOk s0 (requestsPollNext fuel s0 now) := by
  have key : ∀ s : St, PollIn s →
      (rpStep s now).2.elim (Keep s (rpStep s now).1 ∧ PollIn (rpStep s now).1) (fun r => PollOk s ((rpStep s now).1, r)) := by
    intro s ⟨hel, hcfg, hdr, hdn, hsw⟩
    have c_keep := keep_channelPollNext s now
    have c_park := channelPollNext_parks hcfg now
    have c_ss := channelPollNext_some_spin hcfg now
    have c_cfg := (cfg_closed s now).channelPollNext s ⟨rfl, rfl, rfl, rfl⟩
    have c_dd := (dd_closed s.done s.dropped now).channelPollNext s ⟨rfl, rfl⟩
    -- the two calls of an iteration, named
    obtain ⟨s1, read, e1⟩ : ∃ s1 read, rpRd s now = (s1, read) := ⟨_, _, rfl⟩
    rw [show channelPollNext s now = (s1, read) from e1] at c_keep c_park c_ss c_cfg c_dd
    dsimp only at c_keep c_park c_ss c_cfg c_dd
    have wa := ws_armRead s1 read
    obtain ⟨ca1, ca2, ca3⟩ := spk_armRead_cfg s1 read
    have hela : (armRead s1 read).ensureLoop = false := by rw [ca1, c_cfg.2.2.1]; exact hel
    have hdra : (armRead s1 read).dropped = false := by rw [wa.dropped, c_dd.2]; exact hdr
    have hdna : (armRead s1 read).done = none := by rw [wa.done, c_dd.1]; exact hdn
    have w := ws_pumpWrite (armRead s1 read) (readClosedOf read)
    have p_cfg := (cfg_closed (armRead s1 read) now).pumpWrite (armRead s1 read) (readClosedOf read) ⟨rfl, rfl, rfl, rfl⟩
    have p_parks := pumpWrite_parks hela (readClosedOf read)
    have p_ns := pumpWrite_ne_spin _ (readClosedOf read) hela
    have p_q := qg_pumpWrite (armRead s1 read) (readClosedOf read)
    have p_he := fun rid (hh : HasE (armRead s1 read) rid) => pumpWrite_hasE hh (readClosedOf read)
    obtain ⟨s3, write, e3⟩ : ∃ s3 write, rpWr s now = (s3, write) := ⟨_, _, rfl⟩
    have hpw : pumpWrite (armRead s1 read) (readClosedOf read) = (s3, write) := by rw [← e3]; unfold rpWr; rw [e1]
    rw [hpw] at w p_cfg p_parks p_ns p_q p_he
    dsimp only at w p_cfg p_parks p_ns p_q p_he
    have k3 : Keep s s3 := Keep.trans c_keep (Keep.trans wa.keep w.keep)
    have F_item : ∀ ex, read = .some ex → HasE s3 ex.rid := by
      intro ex he
      subst he
      exact p_he _ ((c_ss.1 ex rfl).updExec _ _ (fun _ => rfl))
    have F_park : (read = .pending ∨ read = .none) → (write = .pending ∨ write = .none) → s3.woken = true ∨ SPk s3 := by
      intro hr hw
      rcases c_park hr with x | ⟨xl, x⟩
      · rcases p_parks hw with y | y
        · exact Or.inr (Or.inl (SimT.Blocked.wsink y))
        · exact Or.inr (Or.inr ⟨y, (x.ws wa).ws w⟩)
      · have hsa : (armRead s1 read).t.selfWake = true :=
          (wa.tk.selfWake.trans c_keep.2).trans (hsw.resolve_left xl)
        exact (p_q ⟨hdra, hdna, hsa, Or.inr (by rw [armRead_t]; exact x)⟩).2.2.2.imp_right Or.inl
    have F_rec : Keep s s3 ∧ PollIn s3 :=
      ⟨k3, p_cfg.2.2.1.trans hela, by rw [p_cfg.2.2.2, ca2, c_cfg.2.2.2]; exact hcfg, w.dropped.trans hdra,
        w.done.trans hdna, hsw.imp (fun e => by rw [p_cfg.2.1, ca3, c_cfg.2.1]; exact e) (fun e => k3.2.trans e)⟩
    have ho := rpStep_out s now
    generalize rpStep s now = p at ho ⊢
    cases ho with
    | readErr a _ => rw [e1]; exact .err c_keep a
    | readSpin h => rw [e1] at h ⊢; exact .spin c_keep (c_ss.2 h)
    | writeErr a _ _ =>
      rw [e1, e3]
      cases read with
      | some ex => exact .err (Keep.trans k3 (keep_dropOffered s3 ex.rid ex.id)) a
      | _ => exact .err k3 a
    | writeSpin _ h => rw [e3] at h; exact absurd h p_ns
    | closed _ _ => rw [e3]; exact .none k3
    | item ex hr _ => rw [e1] at hr; rw [e3]; exact .item k3 (F_item ex hr)
    | again _ _ => rw [e3]; exact F_rec
    | idle hr hw => rw [e1] at hr; rw [e3] at hw ⊢; exact .pending k3 (F_park hr hw)
  refine requestsPollNext_loop (I := fun s => Keep s0 s ∧ PollIn s) (Φ := fun s r => PollOk s0 (s, r)) (fun s h => ?_)
    (fun s h => .spin (Keep.trans h.1 ⟨rfl, rfl⟩) (marked_emit_spin s)) fuel s0
    ⟨Keep.refl s0, hel, hcfg, hdr, hdn, hsw⟩
  have k := key s h.2
  revert k
  generalize rpStep s now = p
  obtain ⟨s', r⟩ := p
  cases r with
  | none => exact fun k => ⟨Keep.trans h.1 k.1, k.2⟩
  | some r => exact fun k => PollOk.after h.1 k

/-! ### the executions and the other ops -/

/-- a step outside the stream task: its own state is left alone, it may get woken, and the response queue changes under
a sleeping task only if the task was not registered on it -/
structure SQS (s s' : St) : Prop where
  dd : s'.dropped = s.dropped
  dn : s'.done = s.done
  po : s'.poisoned = s.poisoned
  wok : s.woken = true → s'.woken = true
  t : s'.t = s.t
  fused : s'.readFused = s.readFused
  rq : s'.woken = false → s.dropped = false → s.done = none →
    (s'.respQ = s.respQ ∧ s'.rqRxWaker = s.rqRxWaker) ∨ s.rqRxWaker = false

theorem SQS.same {s s' : St}
    (h : (s'.dropped, s'.done, s'.poisoned, s'.woken, s'.t, s'.readFused, s'.respQ, s'.rqRxWaker) =
      (s.dropped, s.done, s.poisoned, s.woken, s.t, s.readFused, s.respQ, s.rqRxWaker)) : SQS s s' := by
  simp only [Prod.mk.injEq] at h
  obtain ⟨dd, dn, po, wk, t, fu, rq, rx⟩ := h
  exact ⟨dd, dn, po, fun h => wk.trans h, t, fu, fun _ _ _ => Or.inl ⟨rq, rx⟩⟩

theorem SQS.refl (s : St) : SQS s s := .same rfl

theorem SQS.trans {a b c : St} (h1 : SQS a b) (h2 : SQS b c) : SQS a c := by
  refine ⟨h2.dd.trans h1.dd, h2.dn.trans h1.dn, h2.po.trans h1.po, fun h => h2.wok (h1.wok h), h2.t.trans h1.t,
    h2.fused.trans h1.fused, ?_⟩
  intro wk dd dn
  have wk1 : b.woken = false := by
    cases hb : b.woken with
    | false => rfl
    | true => have := h2.wok hb; rw [wk] at this; cases this
  rcases h2.rq wk (by rw [h1.dd]; exact dd) (by rw [h1.dn]; exact dn) with ⟨a1, a2⟩ | b1
  · rcases h1.rq wk1 dd dn with ⟨c1, c2⟩ | c
    · exact Or.inl ⟨a1.trans c1, a2.trans c2⟩
    · exact Or.inr c
  · rcases h1.rq wk1 dd dn with ⟨c1, c2⟩ | c
    · exact Or.inr (by rw [← c2]; exact b1)
    · exact Or.inr c

theorem SQS.after {a b c : St} (h2 : SQS b c) (h1 : SQS a b) : SQS a c := h1.trans h2

theorem SPI.sqs {s s' : St} (h : SPI s) (r : SQS s s') : SPI s' := by
  intro dd dn po wk
  have dd0 : s.dropped = false := by rw [← r.dd]; exact dd
  have dn0 : s.done = none := by rw [← r.dn]; exact dn
  have po0 : s.poisoned = false := by rw [← r.po]; exact po
  have wk0 : s.woken = false := by
    cases hb : s.woken with
    | false => rfl
    | true => have := r.wok hb; rw [wk] at this; cases this
  rcases h dd0 dn0 po0 wk0 with x | ⟨x, y⟩
  · exact Or.inl (by rw [r.t]; exact x)
  · right
    refine ⟨?_, ?_⟩
    · rcases r.rq wk dd0 dn0 with ⟨a1, a2⟩ | b1
      · exact ⟨by rw [a1]; exact x.1, by rw [a2]; exact x.2⟩
      · rw [x.2] at b1; cases b1
    · rcases y with ⟨y1, y2⟩ | y
      · exact Or.inl ⟨by rw [r.t]; exact y1, by rw [r.t]; exact y2⟩
      · exact Or.inr (by rw [r.fused]; exact y)

theorem sqs_emit (s : St) (o : Obs) : SQS s (emit s o) := .same rfl
theorem sqs_updExec (s : St) (r : Nat) (f : Exec → Exec) : SQS s (updExec s r f) := .same rfl

theorem sqs_wakeServer (s : St) : SQS s (wakeServer s) :=
  ⟨by simp, by simp, by simp, wakeServer_woken_mono s, by simp, by simp,
   fun _ _ _ => Or.inl ⟨by simp, by unfold wakeServer; split <;> rfl⟩⟩

/-- the handler's result is queued: a task registered on the response queue is woken -/
theorem sqs_queueAndFinish (s : St) (e : Exec) (res : Res) (n : Nat) : SQS s (queueAndFinish s e res n) := by
  unfold queueAndFinish
  simp only
  refine (sqs_emit _ _).after ((sqs_updExec _ _ _).after ?_)
  split
  · exact SQS.refl _
  · split
    · rename_i hd hw
      refine ⟨by simp, by simp, by simp, fun h => wakeServer_woken_mono _ h, by simp, by simp, ?_⟩
      intro wk dd dn
      have := wakeServer_woken { s with respQ := s.respQ ++ [(e.id, res)], rqRxWaker := false } dd dn
      rw [wk] at this; cases this
    · rename_i hd hw
      exact ⟨rfl, rfl, rfl, fun h => h, rfl, rfl, fun _ _ _ => Or.inr (by simpa using hw)⟩

theorem sqs_has : Has (fun k => ExecCallK k ∨ FinishK k) SQS where
  refl := SQS.refl
  trans := SQS.trans
  prim := by
    intro k a b hk hp
    cases hp with
    | queueFinish s e res n => exact sqs_queueAndFinish _ e res n
    | woken s => exact ⟨rfl, rfl, rfl, fun _ => rfl, rfl, rfl, fun wk => by cases wk⟩
    | emit | upd | rqUnsend | rqUnassign | rqTake | rqWait | rqGrant | rqFree | pushCancel | cancelRx => exact .same rfl
    | _ => rcases hk with hk | hk <;> cases hk

theorem sqs_pollExec (s : St) (vid n : Nat) : SQS s (pollExec s vid n) :=
  sqs_has.steps ((pollExec_calls s vid n).mono fun _ => .inl)
theorem sqs_dropExec (s : St) (vid n : Nat) : SQS s (dropExec s vid n) :=
  sqs_has.steps ((dropExec_calls s vid n).mono fun _ => .inl)
theorem sqs_finishHandler (s : St) (vid : Nat) (res : Res) : SQS s (finishHandler s vid res) :=
  sqs_has.steps ((finishHandler_steps s vid res).mono fun _ => .inr)

theorem sqs_onAdvance (s : St) (n : Nat) : SQS s (onAdvance s n) := by
  unfold onAdvance
  cases s.timers.nextFire with
  | none => exact SQS.refl _
  | some t => exact ite_of ((sqs_wakeServer _).after (.same rfl)) (SQS.refl _)

theorem sqs_took (ms : List Msg) (s : St) : SQS s (ms.foldl (fun s m => emit s (.took (tid s) m)) s) :=
  foldl_keeps (P := SQS s) (fun _ _ h => h.trans (sqs_emit _ _)) ms (SQS.refl s)

/-- an external event on the transport -/
theorem spi_liftT {s : St} (h : SPI s) (r : SimT × Bool)
    (hk : r.2 = false → (WSink s.t → WSink r.1) ∧
      ((s.t.inbound = [] ∧ s.t.readWaker = true) → (r.1.inbound = [] ∧ r.1.readWaker = true))) :
    SPI (liftT s r) := by
  unfold liftT
  simp only
  split
  · intro dd dn po wk
    have := wakeServer_woken { s with t := r.1 } (by simpa using dd) (by simpa using dn)
    rw [wk] at this; cases this
  · rename_i hr
    have hr' : r.2 = false := by simpa using hr
    intro dd dn po wk
    rcases h dd dn po wk with x | ⟨x, y⟩
    · exact Or.inl ((hk hr').1 x)
    · right
      refine ⟨x, ?_⟩
      rcases y with y | y
      · exact Or.inl ((hk hr').2 y)
      · exact Or.inr y

theorem spi_setT {s : St} (h : SPI s) (t' : SimT) (h1 : t'.isReadyNow = s.t.isReadyNow) (h2 : t'.writeWaker = s.t.writeWaker)
    (h3 : t'.inbound = s.t.inbound) (h4 : t'.readWaker = s.t.readWaker) : SPI { s with t := t' } := by
  have := spi_liftT h (t', false) (fun _ => ⟨fun x => ⟨by rw [h1]; exact x.1, by rw [h2]; exact x.2⟩,
    fun x => ⟨by rw [h3]; exact x.1, by rw [h4]; exact x.2⟩⟩)
  exact this

theorem spi_dropServer {s : St} (h : SPI s) : SPI (dropServer s) := by
  by_cases hd : (s.dropped || s.poisoned) = true
  · rw [dropServer_eq, if_pos hd]
    exact h.sqs (sqs_emit _ _)
  · intro dd
    rw [dropServer_dropped s (Bool.not_eq_true _ ▸ hd)] at dd
    cases dd

/-! ### one poll of the request stream -/

theorem SPk.of_fields {s s' : St} (h : SPk s) (e1 : s'.t = s.t) (e2 : s'.respQ = s.respQ) (e3 : s'.rqRxWaker = s.rqRxWaker)
    (e4 : s'.readFused = s.readFused) : SPk s' := by
  rcases h with x | ⟨x, y⟩
  · exact Or.inl (by rw [e1]; exact x)
  · refine Or.inr ⟨⟨by rw [e2]; exact x.1, by rw [e3]; exact x.2⟩, ?_⟩
    rcases y with y | y
    · exact Or.inl (by rw [e1]; exact y)
    · exact Or.inr (by rw [e4]; exact y)

theorem done_none {s : St} (h : s.done.isSome = false) : s.done = none := by
  cases hd : s.done with
  | none => rfl
  | some r => rw [hd] at h; cases h

theorem hasSpin_of_cons (o : Obs) (l : List Obs) (h : hasSpin l = true) : hasSpin (o :: l) = true := by
  unfold hasSpin at *; simp [h]

/-- **One poll of the request stream establishes the invariant** (an alive stream), for a state without a request limit
or with a self-waking sink. -/
theorem spi_pollServer {s : St} (hns : NS s) (hcfg : s.throttleAfterRead = false) (hel : s.ensureLoop = false)
    (hsw : Env s) (h : SPI s) (now : Nat) : SPI (pollServer s now) := by
  have ho := pollServer_out s now
  generalize pollServer s now = s' at ho ⊢
  cases ho with
  | drop hc _ =>
    intro _ dn
    rw [dropServer_done] at dn
    rw [dn] at hc; cases hc
  | yielded _ _ _ => intro _ _ _ wk; cases wk
  | keep hb1 hb2 =>
    have hk := pollServerKeep_out s now
    generalize pollServerKeep s now = k at hk hb1 hb2 ⊢
    cases hk with
    | dead _ => exact h.sqs (sqs_emit _ _)
    | reset _ _ _ _ _ _ => intro _ _ po _; cases po
    | poisoned _ _ _ _ hpo => intro _ _ po _; rw [hpo] at po; cases po
    | fin hl p1 r he hp =>
      intro dd dn po wk
      have hns1 := NS_requestsPollNext now (pollFuel { s with woken := false }) { s with woken := false }
        (by unfold pollFuel; simp only; omega) (NS_of_obs hns rfl) hcfg hel
      have hpo := requestsPollNext_parks now (pollFuel { s with woken := false }) { s with woken := false }
        hel hcfg hl.1 (done_none hl.2.1) hsw
      rw [he] at hns1 hpo
      obtain ⟨⟨f1, _⟩, f2, f3, f4⟩ := hpo
      dsimp only at hns1 f1 f2 f3 f4
      cases r with
      | pending =>
        -- `pskFinish p1 .pending` is `p1` with two more observations
        obtain ⟨o, ho⟩ : ∃ o, pskFinish p1 .pending = { p1 with obs := o } := ⟨_, rfl⟩
        rw [ho] at wk ⊢
        rcases f2 rfl with x | x
        · rw [show p1.woken = false from wk] at x; cases x
        · exact x.of_fields rfl rfl rfl rfl
      | none =>
        have : (pskFinish p1 .none).done = some .readyNone := rfl
        rw [this] at dn; cases dn
      | err a =>
        have : (pskFinish p1 (.err a)).done = some (.readyItemErr a) := rfl
        rw [this] at dn; cases dn
      | spin =>
        rcases f4 rfl with x | x
        · rw [hp] at x; cases x
        · unfold NS at hns1; rw [hns1] at x; cases x
      | item rid =>
        -- a yielded request advances `nextVis`: the path is `yielded`, not `keep`
        exfalso
        obtain ⟨e, hg⟩ := (f3 rid rfl).getExec
        have hnv : (pskFinish p1 (.item rid)).nextVis = p1.nextVis + 1 := by
          unfold pskFinish pskRet
          simp only [hg]
          rfl
        have hdr : (pskFinish p1 (.item rid)).dropped = false := dd
        rw [hnv, hdr] at hb2
        have : p1.nextVis = s.nextVis := f1
        simp only [Bool.not_false, Bool.and_true, decide_eq_false_iff_not] at hb2
        omega

/-! ### the invariant over scripts -/

/-- the script never switches the sink's self-wake off -/
def SelfWakeOn (ops : List SOp) : Prop := ∀ op ∈ ops, op ≠ .selfWake false

theorem pollServerKeep_selfWake {s : St} (hcfg : s.throttleAfterRead = false) (hel : s.ensureLoop = false) (hsw : Env s)
    (now : Nat) : (pollServerKeep s now).t.selfWake = s.t.selfWake := by
  have f1 := fun hl : s.dropped = false ∧ s.done.isSome = false ∧ s.poisoned = false =>
    (requestsPollNext_parks now (pollFuel { s with woken := false }) { s with woken := false }
      hel hcfg hl.1 (done_none hl.2.1) hsw).1.2
  have ho := pollServerKeep_out s now
  generalize pollServerKeep s now = k at ho ⊢
  cases ho with
  | dead _ => rfl
  | reset hl s1 r he _ _ => have := f1 hl; rw [he] at this; exact this
  | poisoned hl s1 r he _ => have := f1 hl; rw [he] at this; exact this
  | fin hl s1 r he _ => have := f1 hl; rw [he] at this; exact (congrArg SimT.selfWake (pskFinish_t _ _)).trans this

theorem env_of_t {s s' : St} (h : Env s) (e1 : s'.limit = s.limit) (e2 : s'.t.selfWake = s.t.selfWake) : Env s' := by
  rcases h with h | h
  · exact Or.inl (by rw [e1]; exact h)
  · exact Or.inr (by rw [e2]; exact h)

theorem env_pollServer {s : St} (hcfg : s.throttleAfterRead = false) (hel : s.ensureLoop = false) (hsw : Env s) (now : Nat) :
    Env (pollServer s now) := by
  have hk := pollServerKeep_selfWake hcfg hel hsw now
  refine env_of_t hsw ((cfg_closed s now).pollServer s ⟨rfl, rfl, rfl, rfl⟩).2.1 ?_
  have ho := pollServer_out s now
  generalize pollServer s now = s' at ho ⊢
  cases ho with
  | drop _ _ => exact (congrArg SimT.selfWake (dropServer_t _)).trans hk
  | yielded _ _ _ => exact hk
  | keep _ _ => exact hk

theorem wakeIfReady_selfWake (t : SimT) : t.wakeIfReady.1.selfWake = t.selfWake := by
  unfold SimT.wakeIfReady; split <;> rfl

/-- The ops from outside are told apart (here and in `spi_applyOp`): what matters is what the particular call does to the
transport, which their common class `Flow.ExtK` (any `.setT`) does not say. -/
theorem env_applyOp {c : Sys} (hcfg : c.s.throttleAfterRead = false) (hel : c.s.ensureLoop = false) (h : Env c.s)
    (op : SOp) (hop : op ≠ .selfWake false) : Env (applyOp c op).s := by
  have hcf : Cfg c.s (applyOp c op).s := by simpa using cfg_reach c [op]
  have key : (applyOp c op).s.t.selfWake = c.s.t.selfWake → Env (applyOp c op).s := env_of_t h hcf.2.1
  cases op with
  | pollServer => exact env_pollServer hcfg hel h _
  | dropServer => exact key (by show (dropServer c.s).t.selfWake = _; rw [dropServer_t])
  | pollExec r =>
    exact key (by show (pollExec c.s r c.now).t.selfWake = _; rw [(tFrame_closed c.s.t).pollExec c.s r c.now rfl])
  | dropExec r =>
    exact key (by show (dropExec c.s r c.now).t.selfWake = _; rw [(tFrame_closed c.s.t).dropExec c.s r c.now rfl])
  | finish r res =>
    exact key (by show (finishHandler c.s r res).t.selfWake = _; rw [(tFrame_closed c.s.t).finishHandler c.s r res rfl])
  | injectReq id d tr b => exact key (by show (liftT c.s _).t.selfWake = _; rw [liftT_t]; rfl)
  | injectCancel id tr => exact key (by show (liftT c.s _).t.selfWake = _; rw [liftT_t]; rfl)
  | injectErr => exact key (by show (liftT c.s _).t.selfWake = _; rw [liftT_t]; rfl)
  | eof => exact key (by show (liftT c.s _).t.selfWake = _; rw [liftT_t]; rfl)
  | setReady b => exact key (by show (liftT c.s _).t.selfWake = _; rw [liftT_t]; exact wakeIfReady_selfWake _)
  | setFlush b => exact key (by show (liftT c.s _).t.selfWake = _; rw [liftT_t]; exact wakeIfReady_selfWake _)
  | fault k => exact key (by cases k <;> rfl)
  | faultSkip n => exact key rfl
  | selfWake b =>
    cases b with
    | false => exact absurd rfl hop
    | true => exact h.elim Or.inl (fun _ => Or.inr rfl)
  | take n =>
    exact key (by
      show ((c.s.t.take n).2.foldl (fun s m => emit s (.took (tid s) m)) { c.s with t := (c.s.t.take n).1 }).t.selfWake = _
      rw [took_t]; rfl)
  | advance n => exact key (by show (onAdvance c.s _).t.selfWake = _; rw [onAdvance_t])

theorem spi_inject {s : St} (h : SPI s) (i : Inb) : SPI (liftT s (s.t.inject i)) :=
  spi_liftT h _ (fun hr => ⟨fun x => x, fun x => Bool.noConfusion (x.2.symm.trans hr)⟩)

/-- **One op of a script** preserves the parking invariant of the stream task. -/
theorem spi_applyOp {c : Sys} (hns : NS c.s) (hcfg : c.s.throttleAfterRead = false) (hel : c.s.ensureLoop = false)
    (hsw : Env c.s) (h : SPI c.s) (op : SOp) : SPI (applyOp c op).s := by
  cases op with
  | pollServer => exact spi_pollServer hns hcfg hel hsw h _
  | dropServer => exact spi_dropServer h
  | pollExec r => exact h.sqs (sqs_pollExec _ _ _)
  | dropExec r => exact h.sqs (sqs_dropExec _ _ _)
  | finish r res => exact h.sqs (sqs_finishHandler _ _ _)
  | injectReq id d tr b => exact spi_inject h _
  | injectCancel id tr => exact spi_inject h _
  | injectErr => exact spi_inject h _
  | eof => exact spi_liftT h _ (fun hr => ⟨fun x => x, fun x => Bool.noConfusion (x.2.symm.trans hr)⟩)
  | setReady b =>
    refine spi_liftT h _ (fun hw => ⟨fun x => ?_, fun x => ?_⟩)
    · by_cases hr : ({ c.s.t with readyOpen := b } : SimT).isReadyNow = false
      · exact SimT.wakeIfReady_spec _ hw hr x.2
      · exfalso
        have hr' : ({ c.s.t with readyOpen := b } : SimT).isReadyNow = true := by simpa using hr
        have : ({ c.s.t with readyOpen := b } : SimT).wakeIfReady.2 = true := by
          unfold SimT.wakeIfReady
          rw [if_pos (by rw [hr']; simp; exact x.2)]
        rw [SimT.setReady] at hw
        rw [this] at hw; cases hw
    · show (SimT.wakeIfReady _).1.inbound = [] ∧ (SimT.wakeIfReady _).1.readWaker = true
      unfold SimT.wakeIfReady; split <;> exact x
  | setFlush b =>
    refine spi_liftT h _ (fun hw => ⟨fun x => SimT.wakeIfReady_spec _ hw x.1 x.2, fun x => ?_⟩)
    show (SimT.wakeIfReady _).1.inbound = [] ∧ (SimT.wakeIfReady _).1.readWaker = true
    unfold SimT.wakeIfReady; split <;> exact x
  | fault k => exact spi_setT h _ (by cases k <;> rfl) (by cases k <;> rfl) (by cases k <;> rfl) (by cases k <;> rfl)
  | faultSkip n => exact spi_setT h _ rfl rfl rfl rfl
  | selfWake b => exact spi_setT h _ rfl rfl rfl rfl
  | take n => exact (spi_setT h (c.s.t.take n).1 rfl rfl rfl rfl).sqs (sqs_took _ _)
  | advance n => exact h.sqs (sqs_onAdvance _ _)

theorem selfWakeOn_cons {op : SOp} {ops : List SOp} (h : SelfWakeOn (op :: ops)) : op ≠ .selfWake false ∧ SelfWakeOn ops :=
  ⟨h op (by simp), fun o ho => h o (by simp [ho])⟩

/-- **The parking invariant of the stream task holds in every reachable state**, for a server without a request limit
or a script that never switches the sink's self-wake off. -/
theorem reach_spi (limit : Option Nat) (respCap tcap : Nat) (coupled : Bool) (ops : List SOp)
    (henv : limit = none ∨ SelfWakeOn ops) : SPI (ops.foldl applyOp (initSys limit respCap tcap coupled)).s := by
  refine (foldl_keeps_rest (f := applyOp)
    (K := fun c ops => NS c.s ∧ c.s.throttleAfterRead = false ∧ c.s.ensureLoop = false ∧
      (c.s.limit = none ∨ (c.s.t.selfWake = true ∧ SelfWakeOn ops)) ∧ SPI c.s)
    (fun c op ops ⟨hns, hcfg, hel, henv, h⟩ => ?_) ops
    ⟨by unfold NS; rfl, rfl, rfl, henv.imp id fun e => ⟨rfl, e⟩, fun _ _ _ wk => by cases wk⟩).2.2.2.2
  have hcfg' : Cfg c.s (applyOp c op).s := by
    have := cfg_reach c [op]
    simpa using this
  refine ⟨NS_applyOp c op hns hcfg hel, by rw [hcfg'.2.2.2]; exact hcfg, by rw [hcfg'.2.2.1]; exact hel, ?_,
    spi_applyOp hns hcfg hel (henv.elim Or.inl (fun x => Or.inr x.1)) h op⟩
  rcases henv with e | ⟨e1, e2⟩
  · exact Or.inl (by rw [hcfg'.2.1]; exact e)
  · obtain ⟨hop, hrest⟩ := selfWakeOn_cons e2
    rcases env_applyOp hcfg hel (Or.inr e1) op hop with x | x
    · exact Or.inl x
    · exact Or.inr ⟨x, hrest⟩

end TarpcModel.Server
