import TarpcModel.Lemmas.ServerMonRun
/-!
The transport-level server monitors `monC14`, `monC10` (`Monitors/Server.lean`) and `monC09np` (`monC09` without its "panic"
clause, which is C16's business; defined here, the driver never runs it: `C09S_check_eq_np`, `Props/C09ServerMon`) accept every
trace of the server model (`monitors_accept`).  The three monitors' states, with the two bits of the `Book` they depend on, run
side by side as a fold over the observations that does not mention the `Book` (`FS`, `fstep`).  `Ok X f0 s`: the fold over
`s.obs` from `f0` is `Clean` and satisfies `X`, or it is past a spin / panic (`Bye`: the monitors skip everything after one).
The bound `4` (`ok_tReady`, `IdleX`, `NoneX`) is `Client.c14ReadyPLimit`.  `Requests::poll_next` is walked here on its own, for
the legacy limiter only: the postconditions change phase along a poll (`MidX 0 false` before the limiter, `MidX k g` after it).
The fold is tied to the monitors by `sim_run` (ServerMonRun, whose head says when a monitor is treated this way).
-/
namespace TarpcModel.Server.FlowMon
open TarpcModel TarpcModel.Server TarpcModel.Server.Flow

/-- `checkC09` without its last clause ("panic"): a panic is C16's business (`C16_server_no_panic`) -/
def checkC09np (b : Book) (exp : C09St) : SEv → C09St × Option String
  | .obs (.panic _ _) => (exp, none)
  | e => checkC09 b exp e

def monC09np (limit : Option Nat) (evs : List SEv) : Mon C09St := Mon.run limit checkC09np none evs

structure FS where
  m14 : Client.C14St := {}
  e9 : C09St := none
  u10 : Nat := 0
  eof : Bool := false
  spun : Bool := false
  sawSpin : Bool := false
  bad14 : Bool := false
  bad9 : Bool := false
  bad10 : Bool := false

def isSpin : Obs → Bool
  | .spin _ => true
  | _ => false

/-- a book of which only `eofSeen` matters (all `checkC10` looks at) -/
def eofBook (b : Bool) : Book := { eofSeen := b }

def fstep (f : FS) (o : Obs) : FS :=
  if f.spun then { f with sawSpin := f.sawSpin || isSpin o } else
  { m14 := (Client.checkC14Obs f.m14 o).1
    e9 := (checkC09np {} f.e9 (.obs o)).1
    u10 := (checkC10 (eofBook f.eof) f.u10 (.obs o)).1
    eof := f.eof || isEof o
    spun := isPoison o
    sawSpin := f.sawSpin || isSpin o
    bad14 := f.bad14 || (Client.checkC14Obs f.m14 o).2.isSome
    bad9 := f.bad9 || (checkC09np {} f.e9 (.obs o)).2.isSome
    bad10 := f.bad10 || (checkC10 (eofBook f.eof) f.u10 (.obs o)).2.isSome }

/-- a new op begins -/
def fop (f : FS) : FS := if f.spun then f else { f with m14 := { f.m14 with readyP := 0 }, e9 := none }

/-- the fold over the observation buffer (most recent first) -/
def fo (f0 : FS) (obs : List Obs) : FS := obs.foldr (fun o f => fstep f o) f0

@[simp] theorem fo_nil (f0 : FS) : fo f0 [] = f0 := rfl
@[simp] theorem fo_cons (f0 : FS) (o : Obs) (l : List Obs) : fo f0 (o :: l) = fstep (fo f0 l) o := rfl

/-- observations none of the three monitors reacts to -/
def isSilent : Obs → Bool
  | .wake _ | .tViolation _ _ | .handler _ _ _ | .yielded _ _ _ _ | .counts _ _ _ | .took _ _ | .noop => true
  | .ret (.exec _) _ => true
  | _ => false

theorem silent_checks (o : Obs) (h : isSilent o = true) (s : Client.C14St) (e : C09St) (b : Book) (u : Nat) :
    Client.checkC14Obs s o = (s, none) ∧ checkC09np {} e (.obs o) = (e, none) ∧ checkC10 b u (.obs o) = (u, none) ∧
    isSpin o = false ∧ isPoison o = false ∧ isEof o = false := by
  cases o with
  | ret t r =>
    cases t with
    | exec v => cases r <;> exact ⟨rfl, rfl, rfl, rfl, rfl, rfl⟩
    | _ => cases h
  | wake t => exact ⟨rfl, rfl, rfl, rfl, rfl, rfl⟩
  | tViolation ep w => exact ⟨rfl, rfl, rfl, rfl, rfl, rfl⟩
  | handler r ev t => exact ⟨rfl, rfl, rfl, rfl, rfl, rfl⟩
  | yielded r id d tr => exact ⟨rfl, rfl, rfl, rfl, rfl, rfl⟩
  | counts ep a c => exact ⟨rfl, rfl, rfl, rfl, rfl, rfl⟩
  | took ep m => exact ⟨rfl, rfl, rfl, rfl, rfl, rfl⟩
  | noop => exact ⟨rfl, rfl, rfl, rfl, rfl, rfl⟩
  | _ => cases h

theorem fstep_silent (f : FS) (o : Obs) (h : isSilent o = true) : fstep f o = f := by
  obtain ⟨h1, h2, h3, h4, h5, h6⟩ := silent_checks o h f.m14 f.e9 (eofBook f.eof) f.u10
  unfold fstep
  rw [h1, h2, h3, h4, h5, h6]
  obtain ⟨m14, e9, u10, eof, spun, sawSpin, b14, b9, b10⟩ := f
  cases spun <;> simp

/-- past a spin, or past a panic with no check fired before it: nothing can fire any more -/
def Bye (f : FS) : Prop :=
  f.sawSpin = true ∨ (f.spun = true ∧ f.bad14 = false ∧ f.bad9 = false ∧ f.bad10 = false)

structure Clean (f : FS) : Prop where
  spun : f.spun = false
  sawSpin : f.sawSpin = false
  b14 : f.bad14 = false
  b9 : f.bad9 = false
  b10 : f.bad10 = false

theorem Bye.step {f : FS} (h : Bye f) (o : Obs) : Bye (fstep f o) := by
  rcases h with h | ⟨h1, h2, h3, h4⟩
  · left; unfold fstep; split <;> simp [h]
  · right; unfold fstep; simp [h1, h2, h3, h4]

theorem Bye.fo {f0 : FS} {l : List Obs} (h : Bye (fo f0 l)) (l' : List Obs) : Bye (fo f0 (l' ++ l)) := by
  induction l' with
  | nil => exact h
  | cons o l' ih => exact ih.step o

theorem Clean.panic {f : FS} (h : Clean f) (t : TaskId) (w : String) : Bye (fstep f (.panic t w)) := by
  right
  simp only [fstep, h.spun, Bool.false_eq_true, ↓reduceIte, Client.checkC14Obs, checkC09np, checkC10, isPoison,
    h.b14, Option.isSome_none, Bool.or_self, h.b9, h.b10, and_self]

theorem Clean.spin {f : FS} (h : Clean f) (t : TaskId) : Bye (fstep f (.spin t)) := by
  left; simp [fstep, h.spun, isSpin]

-- from `s` to `s'` as the fold sees it: past a spin / panic it stays there; a clean fold is unchanged or goes past one; `poisoned`
-- is set only together with such an observation; `readFused` is kept
structure NzS (s s' : St) : Prop where
  bye : ∀ f0, Bye (fo f0 s.obs) → Bye (fo f0 s'.obs)
  clean : ∀ f0, Clean (fo f0 s.obs) → fo f0 s'.obs = fo f0 s.obs ∨ Bye (fo f0 s'.obs)
  pois : s'.poisoned = true → s.poisoned = true ∨ ∀ f0, Clean (fo f0 s.obs) → Bye (fo f0 s'.obs)
  fused : s'.readFused = s.readFused

theorem NzS.refl (s : St) : NzS s s := ⟨fun _ h => h, fun _ _ => Or.inl rfl, fun h => Or.inl h, rfl⟩

theorem NzS.trans {a b c : St} (h1 : NzS a b) (h2 : NzS b c) : NzS a c := by
  refine ⟨fun f0 h => h2.bye f0 (h1.bye f0 h), fun f0 h => ?_, fun h => ?_, h2.fused.trans h1.fused⟩
  · rcases h1.clean f0 h with he | hb
    · rcases h2.clean f0 (he ▸ h) with he2 | hb2
      · exact Or.inl (he2.trans he)
      · exact Or.inr hb2
    · exact Or.inr (h2.bye f0 hb)
  · rcases h2.pois h with hp | hp
    · rcases h1.pois hp with hp1 | hp1
      · exact Or.inl hp1
      · exact Or.inr fun f0 hc => h2.bye f0 (hp1 f0 hc)
    · right
      intro f0 hc
      rcases h1.clean f0 hc with he | hb
      · exact hp f0 (he ▸ hc)
      · exact h2.bye f0 hb

theorem NzS.of_eq {s s' : St} (h1 : s'.obs = s.obs) (h2 : s'.poisoned = s.poisoned) (h3 : s'.readFused = s.readFused) :
    NzS s s' :=
  ⟨fun f0 h => by rw [h1]; exact h, fun f0 _ => Or.inl (by rw [h1]), fun h => Or.inl (by rw [← h2]; exact h), h3⟩


theorem NzS.pre {s s0 s' : St} (h : NzS s0 s') (h1 : s0.obs = s.obs) (h2 : s0.poisoned = s.poisoned)
    (h3 : s0.readFused = s.readFused) : NzS s s' :=
  (NzS.of_eq h1 h2 h3).trans h

theorem NzS.emit_silent (s : St) (o : Obs) (h : isSilent o = true) : NzS s (emit s o) :=
  ⟨fun _ hb => hb.step o, fun _ _ => Or.inl (fstep_silent _ o h), fun hp => Or.inl hp, rfl⟩

theorem NzS.emit_spin (s : St) (t : TaskId) : NzS s (emit s (.spin t)) :=
  ⟨fun _ hb => hb.step _, fun _ hc => Or.inr (hc.spin t), fun hp => Or.inl hp, rfl⟩

theorem NzS.panic (s : St) (t : TaskId) (w : String) : NzS s (emit { s with poisoned := true } (.panic t w)) :=
  ⟨fun _ hb => hb.step _, fun _ hc => Or.inr (hc.panic t w), fun _ => Or.inr fun _ hc => hc.panic t w, rfl⟩

theorem nz_emitViolations (s : St) (n : Nat) : NzS s (emitViolations s n) :=
  emitViolations_ind (P := NzS s) (fun a _ h => h.trans (NzS.emit_silent a _ rfl)) s n (NzS.refl s)

theorem nz_updExec (s : St) (r : Nat) (f : Exec → Exec) : NzS s (updExec s r f) := NzS.of_eq rfl rfl rfl

theorem nz_noiseRel : ObsMon.NoiseRel NzS where
  refl := NzS.refl
  trans := NzS.trans
  inert := fun hi => NzS.of_eq hi.obs hi.poisoned hi.readFused
  upd := fun s r f _ _ => nz_updExec s r f
  wake := fun s _ => NzS.emit_silent s _ rfl
  gone := fun s r => nz_updExec s r _
  abort := fun s r => nz_updExec s r _
  tables := fun _ _ _ => NzS.of_eq rfl rfl rfl
  spin := fun s t => NzS.emit_spin s t
  panic := fun s t w => NzS.panic s t w

theorem nz_startRequest (s : St) (now id d : Nat) (tr : Trace) (b : Nat) : NzS s (startRequest s now id d tr b).1 :=
  nz_noiseRel.startRequest (fun _ _ _ _ _ => NzS.of_eq rfl rfl rfl) now id d tr b (NzS.refl s)

def Ok (X : FS → St → Prop) (f0 : FS) (s : St) : Prop :=
  Bye (fo f0 s.obs) ∨ (Clean (fo f0 s.obs) ∧ X (fo f0 s.obs) s)

theorem Ok.mono {X Y : FS → St → Prop} {f0 : FS} {s : St} (h : Ok X f0 s) (hxy : ∀ f, X f s → Y f s) : Ok Y f0 s :=
  h.imp id (fun ⟨hc, hx⟩ => ⟨hc, hxy _ hx⟩)

theorem Ok.step {X Y : FS → St → Prop} {f0 : FS} {s s' : St} (o : Obs) (h : Ok X f0 s)
    (hfo : fo f0 s'.obs = fstep (fo f0 s.obs) o)
    (hstep : ∀ f, Clean f → X f s → Clean (fstep f o) ∧ Y (fstep f o) s') : Ok Y f0 s' := by
  unfold Ok
  rw [hfo]
  rcases h with hb | ⟨hc, hx⟩
  · exact Or.inl (hb.step o)
  · exact Or.inr (hstep _ hc hx)

theorem Ok.noise {X Y : FS → St → Prop} {f0 : FS} {s s' : St} (h : Ok X f0 s) (hn : NzS s s')
    (hx : ∀ f, X f s → s.poisoned = false ∧ (s'.poisoned = false → Y f s')) : Ok Y f0 s' := by
  rcases h with hb | ⟨hc, hX⟩
  · exact Or.inl (hn.bye f0 hb)
  · rcases hn.clean f0 hc with he | hb
    · by_cases hp : s'.poisoned = true
      · rcases hn.pois hp with hp0 | hp1
        · rw [(hx _ hX).1] at hp0; cases hp0
        · exact Or.inl (hp1 f0 hc)
      · right; rw [he]; exact ⟨hc, (hx _ hX).2 (by simpa using hp)⟩
    · exact Or.inl hb

theorem Ok.noise' {X Y : FS → St → Prop} {f0 : FS} {s s' : St} (h : Ok X f0 s) (hn : NzS s s')
    (hx : ∀ f, X f s → Y f s') : Ok Y f0 s' := by
  rcases h with hb | ⟨hc, hX⟩
  · exact Or.inl (hn.bye f0 hb)
  · rcases hn.clean f0 hc with he | hb
    · right; rw [he]; exact ⟨hc, hx _ hX⟩
    · exact Or.inl hb

/-- no transport call has failed in this poll, none ever -/
structure Live (f : FS) : Prop where
  e9 : f.e9 = none
  failed : f.m14.failed = false
  readFailed : f.m14.readFailed = false
  closed : f.m14.closed = false

/-- in the middle of a poll: at most `k` consecutive `poll_ready → Pending`; if `g`, the sink is ready -/
structure MidF (k : Nat) (g : Bool) (f : FS) : Prop where
  live : Live f
  rp : f.m14.readyP ≤ k
  gr : g = true → f.m14.gotReady = true

/-- the link to the state: not poisoned; the monitor has seen the end of the inbound stream if the model has -/
def StP (f : FS) (s : St) : Prop := s.poisoned = false ∧ (s.readFused = true → f.eof = true)

abbrev MidX (k : Nat) (g : Bool) : FS → St → Prop := fun f s => MidF k g f ∧ StP f s

/-- a transport call has failed with activity `a` -/
structure FailF (a : Activity) (f : FS) : Prop where
  e9 : f.e9 = some a
  closed : f.m14.closed = false

abbrev FailX (a : Activity) : FS → St → Prop := fun f s => FailF a f ∧ s.poisoned = false

/-- the last write-side call was a flush that completed or is pending -/
def IdleF (f : FS) : Prop := f.m14.unflushed = 0 ∨ f.m14.flushPendingAfterWrite = true

/-- what `ret none` asks of the fold: nothing written is unflushed (C14), no response is owed (C10) -/
def NoneF (f : FS) : Prop := f.m14.unflushed = 0 ∧ f.u10 = 0

theorem MidF.weaken {k g k' g'} {f : FS} (h : MidF k g f) (hk : k ≤ k') (hg : g' = true → g = true) : MidF k' g' f :=
  ⟨h.live, Nat.le_trans h.rp hk, fun h' => h.gr (hg h')⟩

theorem MidX.frame {k g} {f : FS} {s s' : St} (h : MidX k g f s) (hf : s'.readFused = s.readFused) :
    s.poisoned = false ∧ (s'.poisoned = false → MidX k g f s') :=
  ⟨h.2.1, fun hp => ⟨h.1, hp, fun hr => h.2.2 (hf ▸ hr)⟩⟩

theorem Ok.noiseMid {k g} {f0 : FS} {s s' : St} (h : Ok (MidX k g) f0 s) (hn : NzS s s') : Ok (MidX k g) f0 s' :=
  h.noise hn (fun _ hX => MidX.frame hX hn.fused)

theorem Ok.bye_of_poisoned {k g} {f0 : FS} {s : St} (h : Ok (MidX k g) f0 s) (hp : s.poisoned = true) :
    Bye (fo f0 s.obs) := by
  rcases h with hb | ⟨_, hX⟩
  · exact hb
  · rw [hX.2.1] at hp; cases hp

theorem fo_emitViolations (f0 : FS) (s : St) (n : Nat) : fo f0 (emitViolations s n).obs = fo f0 s.obs :=
  emitViolations_ind (P := fun a => fo f0 a.obs = fo f0 s.obs) (fun _ _ h => (fstep_silent _ _ rfl).trans h) s n rfl

theorem fo_wakeServer (f0 : FS) (s : St) : fo f0 (wakeServer s).obs = fo f0 s.obs := by
  unfold wakeServer; split
  · rfl
  · exact fstep_silent _ _ rfl

theorem fo_sinkCall (f0 : FS) (s : St) (t' : SimT) (o : Obs) (w : Bool) :
    fo f0 (sinkCall s t' o w).obs = fstep (fo f0 s.obs) o := by
  unfold sinkCall
  split
  · rw [fo_wakeServer, emit_obs, fo_cons, fo_emitViolations]
  · rw [emit_obs, fo_cons, fo_emitViolations]

theorem fo_tReady (f0 : FS) (s : St) : fo f0 (tReady s).1.obs = fstep (fo f0 s.obs) (.tReady (tid s) (tReady s).2) := by
  rw [tReady_call]; exact fo_sinkCall ..

theorem fo_tFlush (f0 : FS) (s : St) : fo f0 (tFlush s).1.obs = fstep (fo f0 s.obs) (.tFlush (tid s) (tFlush s).2) := by
  rw [tFlush_call]; exact fo_sinkCall ..

theorem fo_tSend (f0 : FS) (s : St) (m : Msg) :
    fo f0 (tSend s m).1.obs = fstep (fo f0 s.obs) (.tSend (tid s) m (tSend s m).2) := by
  rw [tSend_call]; exact fo_sinkCall ..

theorem fo_tNext (f0 : FS) (s : St) (h : s.readFused = false) :
    fo f0 (tNext s).1.obs = fstep (fo f0 s.obs) (.tNext (tid s) (tNext s).2) := by
  rw [tNext_obs, tNext_res, h]; rfl

/-- a clean fold in the middle of a poll, written out: on it `fstep` computes -/
theorem MidF.nf {k g} {f : FS} (hc : Clean f) (hm : MidF k g f) :
    ∃ gr u fp rp u10 eof, rp ≤ k ∧ (g = true → gr = true) ∧
      f = ({ m14 := ({ gotReady := gr, unflushed := u, flushPendingAfterWrite := fp, readyP := rp } : Client.C14St),
             u10 := u10, eof := eof } : FS) := by
  obtain ⟨h1, h2, h3, h4, h5⟩ := hc
  obtain ⟨⟨l1, l2, l3, l4⟩, m2, m3⟩ := hm
  obtain ⟨⟨gr, cl, fa, u, fp, rf, rp⟩, e9, u10, eof, spun, sawSpin, b14, b9, b10⟩ := f
  simp only at h1 h2 h3 h4 h5 l1 l2 l3 l4 m2 m3
  subst h1 h2 h3 h4 h5 l1 l2 l3 l4
  exact ⟨gr, u, fp, rp, u10, eof, m2, m3, rfl⟩

theorem st_ready_ready {k g} {f : FS} (ep : TaskId) (hc : Clean f) (hm : MidF k g f) :
    Clean (fstep f (.tReady ep .ready)) ∧ MidF 0 true (fstep f (.tReady ep .ready)) ∧
    (fstep f (.tReady ep .ready)).eof = f.eof := by
  obtain ⟨gr, u, fp, rp, u10, eof, hk, hg, rfl⟩ := hm.nf hc
  exact ⟨⟨rfl, rfl, rfl, rfl, rfl⟩, ⟨⟨rfl, rfl, rfl, rfl⟩, Nat.le_refl _, fun _ => rfl⟩, Bool.or_false _⟩

theorem st_ready_pending {k g} {f : FS} (ep : TaskId) (hc : Clean f) (hm : MidF k g f) (hk : k < 4) :
    Clean (fstep f (.tReady ep .pending)) ∧ MidF (k + 1) g (fstep f (.tReady ep .pending)) ∧
    (fstep f (.tReady ep .pending)).eof = f.eof := by
  obtain ⟨gr, u, fp, rp, u10, eof, hrp, hg, rfl⟩ := hm.nf hc
  have hlt : ¬ (rp + 1 > Client.c14ReadyPLimit) := by unfold Client.c14ReadyPLimit; omega
  simp only [fstep, Client.checkC14Obs, if_neg hlt]
  exact ⟨⟨rfl, rfl, rfl, rfl, rfl⟩, ⟨⟨rfl, rfl, rfl, rfl⟩, Nat.succ_le_succ hrp, hg⟩, Bool.or_false _⟩

theorem st_ready_err {k g} {f : FS} (ep : TaskId) (hc : Clean f) (hm : MidF k g f) :
    Clean (fstep f (.tReady ep .err)) ∧ FailF .ready (fstep f (.tReady ep .err)) := by
  obtain ⟨gr, u, fp, rp, u10, eof, hk, hg, rfl⟩ := hm.nf hc
  exact ⟨⟨rfl, rfl, rfl, rfl, rfl⟩, ⟨rfl, rfl⟩⟩

theorem st_flush_ready {k g} {f : FS} (ep : TaskId) (hc : Clean f) (hm : MidF k g f) :
    Clean (fstep f (.tFlush ep .ready)) ∧ MidF k g (fstep f (.tFlush ep .ready)) ∧
    (fstep f (.tFlush ep .ready)).eof = f.eof ∧ NoneF (fstep f (.tFlush ep .ready)) := by
  obtain ⟨gr, u, fp, rp, u10, eof, hk, hg, rfl⟩ := hm.nf hc
  exact ⟨⟨rfl, rfl, rfl, rfl, rfl⟩, ⟨⟨rfl, rfl, rfl, rfl⟩, hk, hg⟩, Bool.or_false _, rfl, rfl⟩

theorem st_flush_pending {k g} {f : FS} (ep : TaskId) (hc : Clean f) (hm : MidF k g f) :
    Clean (fstep f (.tFlush ep .pending)) ∧ MidF k g (fstep f (.tFlush ep .pending)) ∧
    (fstep f (.tFlush ep .pending)).eof = f.eof ∧ IdleF (fstep f (.tFlush ep .pending)) := by
  obtain ⟨gr, u, fp, rp, u10, eof, hk, hg, rfl⟩ := hm.nf hc
  exact ⟨⟨rfl, rfl, rfl, rfl, rfl⟩, ⟨⟨rfl, rfl, rfl, rfl⟩, hk, hg⟩, Bool.or_false _, Or.inr rfl⟩

theorem st_flush_err {k g} {f : FS} (ep : TaskId) (hc : Clean f) (hm : MidF k g f) :
    Clean (fstep f (.tFlush ep .err)) ∧ FailF .flush (fstep f (.tFlush ep .err)) := by
  obtain ⟨gr, u, fp, rp, u10, eof, hk, hg, rfl⟩ := hm.nf hc
  exact ⟨⟨rfl, rfl, rfl, rfl, rfl⟩, ⟨rfl, rfl⟩⟩

theorem st_send_ok {k} {f : FS} (ep : TaskId) (id : Nat) (res : Res) (hc : Clean f) (hm : MidF k true f) :
    Clean (fstep f (.tSend ep (.response id res) true)) ∧ MidF 0 false (fstep f (.tSend ep (.response id res) true)) ∧
    (fstep f (.tSend ep (.response id res) true)).eof = f.eof := by
  obtain ⟨gr, u, fp, rp, u10, eof, hk, hg, rfl⟩ := hm.nf hc
  cases hg rfl
  exact ⟨⟨rfl, rfl, rfl, rfl, rfl⟩, ⟨⟨rfl, rfl, rfl, rfl⟩, Nat.le_refl _, fun h => by cases h⟩, Bool.or_false _⟩

theorem st_send_fail {k} {f : FS} (ep : TaskId) (id : Nat) (res : Res) (hc : Clean f) (hm : MidF k true f) :
    Clean (fstep f (.tSend ep (.response id res) false)) ∧ FailF .write (fstep f (.tSend ep (.response id res) false)) := by
  obtain ⟨gr, u, fp, rp, u10, eof, hk, hg, rfl⟩ := hm.nf hc
  cases hg rfl
  exact ⟨⟨rfl, rfl, rfl, rfl, rfl⟩, ⟨rfl, rfl⟩⟩

theorem st_next_err {k g} {f : FS} (ep : TaskId) (hc : Clean f) (hm : MidF k g f) :
    Clean (fstep f (.tNext ep .err)) ∧ FailF .read (fstep f (.tNext ep .err)) := by
  obtain ⟨gr, u, fp, rp, u10, eof, hk, hg, rfl⟩ := hm.nf hc
  exact ⟨⟨rfl, rfl, rfl, rfl, rfl⟩, ⟨rfl, rfl⟩⟩

theorem st_next_other {k g} {f : FS} (ep : TaskId) (r : NextRes) (hr : r ≠ .err) (hc : Clean f) (hm : MidF k g f) :
    Clean (fstep f (.tNext ep r)) ∧ MidF k g (fstep f (.tNext ep r)) ∧
    (f.eof = true ∨ r = .eof → (fstep f (.tNext ep r)).eof = true) := by
  obtain ⟨gr, u, fp, rp, u10, eof, hk, hg, rfl⟩ := hm.nf hc
  cases r with
  | err => exact absurd rfl hr
  | eof => exact ⟨⟨rfl, rfl, rfl, rfl, rfl⟩, ⟨⟨rfl, rfl, rfl, rfl⟩, Nat.zero_le _, hg⟩, fun _ => Bool.or_true _⟩
  | pending =>
    exact ⟨⟨rfl, rfl, rfl, rfl, rfl⟩, ⟨⟨rfl, rfl, rfl, rfl⟩, Nat.zero_le _, hg⟩,
      fun h => h.elim (fun h => by rw [show eof = true from h]; rfl) (fun h => by cases h)⟩
  | item m =>
    exact ⟨⟨rfl, rfl, rfl, rfl, rfl⟩, ⟨⟨rfl, rfl, rfl, rfl⟩, Nat.zero_le _, hg⟩,
      fun h => h.elim (fun h => by rw [show eof = true from h]; rfl) (fun h => by cases h)⟩

theorem StP.frame {f f' : FS} {s s' : St} (h : StP f s) (hp : s'.poisoned = s.poisoned)
    (hf : s'.readFused = true → s.readFused = true ∨ f'.eof = true) (he : f.eof = true → f'.eof = true) : StP f' s' :=
  ⟨hp.trans h.1, fun hr => (hf hr).elim (fun h1 => he (h.2 h1)) id⟩

theorem ok_tReady {f0 : FS} {k : Nat} {g : Bool} {s : St} (h : Ok (MidX k g) f0 s) (hk : k < 4) :
    ((tReady s).2 = .ready → Ok (MidX 0 true) f0 (tReady s).1) ∧
    ((tReady s).2 = .pending → Ok (MidX (k + 1) g) f0 (tReady s).1) ∧
    ((tReady s).2 = .err → Ok (FailX .ready) f0 (tReady s).1) := by
  have hfo := fo_tReady f0 s
  refine ⟨fun hr => ?_, fun hr => ?_, fun hr => ?_⟩ <;> rw [hr] at hfo
  · exact h.step _ hfo (fun f hc hX =>
      have ⟨a, b, c⟩ := st_ready_ready _ hc hX.1
      ⟨a, b, hX.2.frame (by simp) (fun hf => Or.inl (by simpa using hf)) (fun he => by rw [c]; exact he)⟩)
  · exact h.step _ hfo (fun f hc hX =>
      have ⟨a, b, c⟩ := st_ready_pending _ hc hX.1 hk
      ⟨a, b, hX.2.frame (by simp) (fun hf => Or.inl (by simpa using hf)) (fun he => by rw [c]; exact he)⟩)
  · exact h.step _ hfo (fun f hc hX => have ⟨a, b⟩ := st_ready_err _ hc hX.1; ⟨a, b, by simpa using hX.2.1⟩)

theorem ok_tFlush {f0 : FS} {k : Nat} {g : Bool} {s : St} (h : Ok (MidX k g) f0 s) :
    ((tFlush s).2 = .ready → Ok (fun f s => MidX k g f s ∧ NoneF f) f0 (tFlush s).1) ∧
    ((tFlush s).2 = .pending → Ok (fun f s => MidX k g f s ∧ IdleF f) f0 (tFlush s).1) ∧
    ((tFlush s).2 = .err → Ok (FailX .flush) f0 (tFlush s).1) := by
  have hfo := fo_tFlush f0 s
  refine ⟨fun hr => ?_, fun hr => ?_, fun hr => ?_⟩ <;> rw [hr] at hfo
  · exact h.step _ hfo (fun f hc hX =>
      have ⟨a, b, c, d⟩ := st_flush_ready _ hc hX.1
      ⟨a, ⟨b, hX.2.frame (by simp) (fun hf => Or.inl (by simpa using hf)) (fun he => by rw [c]; exact he)⟩, d⟩)
  · exact h.step _ hfo (fun f hc hX =>
      have ⟨a, b, c, d⟩ := st_flush_pending _ hc hX.1
      ⟨a, ⟨b, hX.2.frame (by simp) (fun hf => Or.inl (by simpa using hf)) (fun he => by rw [c]; exact he)⟩, d⟩)
  · exact h.step _ hfo (fun f hc hX => have ⟨a, b⟩ := st_flush_err _ hc hX.1; ⟨a, b, by simpa using hX.2.1⟩)

theorem ok_tSend {f0 : FS} {k : Nat} {s : St} (h : Ok (MidX k true) f0 s) (id : Nat) (res : Res) :
    ((tSend s (.response id res)).2 = true → Ok (MidX 0 false) f0 (tSend s (.response id res)).1) ∧
    ((tSend s (.response id res)).2 = false → Ok (FailX .write) f0 (tSend s (.response id res)).1) := by
  have hfo := fo_tSend f0 s (.response id res)
  refine ⟨fun hr => ?_, fun hr => ?_⟩ <;> rw [hr] at hfo
  · exact h.step _ hfo (fun f hc hX =>
      have ⟨a, b, c⟩ := st_send_ok _ id res hc hX.1
      ⟨a, b, hX.2.frame (by simp) (fun hf => Or.inl (by simpa using hf)) (fun he => by rw [c]; exact he)⟩)
  · exact h.step _ hfo (fun f hc hX => have ⟨a, b⟩ := st_send_fail _ id res hc hX.1; ⟨a, b, by simpa using hX.2.1⟩)

theorem tNext_fused_inv (s : St) (h : (tNext s).1.readFused = true) : s.readFused = true ∨ (tNext s).2 = .eof := by
  by_cases hfu : s.readFused = true
  · exact Or.inl hfu
  · right
    rw [tNext_res, if_neg hfu]
    unfold tNext at h
    rw [if_neg hfu] at h
    simp only at h
    by_cases he : s.t.pollNext.2 = .eof
    · exact he
    · rw [if_neg (by simpa using he)] at h
      exact absurd h hfu

theorem ok_tNext {f0 : FS} {k : Nat} {g : Bool} {s : St} (h : Ok (MidX k g) f0 s) :
    ((tNext s).2 = .err → Ok (FailX .read) f0 (tNext s).1) ∧
    ((tNext s).2 ≠ .err → Ok (MidX k g) f0 (tNext s).1) := by
  by_cases hfu : s.readFused = true
  · have : tNext s = (s, .eof) := by unfold tNext; simp [hfu]
    rw [this]; exact ⟨fun h' => (by cases h'), fun _ => h⟩
  · have hfu' : s.readFused = false := by simpa using hfu
    have hfo := fo_tNext f0 s hfu'
    refine ⟨fun hr => ?_, fun hr => ?_⟩
    · rw [hr] at hfo; exact h.step _ hfo (fun f hc hX => have ⟨a, b⟩ := st_next_err _ hc hX.1; ⟨a, b, by simpa using hX.2.1⟩)
    · exact h.step _ hfo (fun f hc hX =>
        have ⟨a, b, c⟩ := st_next_other (tid s) _ hr hc hX.1
        ⟨a, b, hX.2.frame (by simp) (fun hf => (tNext_fused_inv s hf).imp id (fun he => c (Or.inr he)))
          (fun he => c (Or.inl he))⟩)

/-- postcondition of `BaseChannel::poll_next` -/
def PostBase (f0 : FS) (k : Nat) (g : Bool) : St × SPoll Exec → Prop
  | (s', .err a) => a = .read ∧ Ok (FailX .read) f0 s'
  | (s', .spin) => Bye (fo f0 s'.obs)
  | (s', _) => Ok (MidX k g) f0 s'

theorem ok_bpStep (now : Nat) {f0 : FS} {k : Nat} {g : Bool} {s : St} (h : Ok (MidX k g) f0 s) :
    IterSpec (Ok (MidX k g) f0) (fun s r => PostBase f0 k g (s, r)) (bpStep s now) := by
  have h2 : Ok (MidX k g) f0 (bp2 s now) := h.noiseMid (nz_noiseRel.pollExpired now (nz_noiseRel.bpCancel (NzS.refl s)))
  have h3 := ok_tNext h2
  have h3' : bpNx s now ≠ .err → Ok (MidX k g) f0 (bp3 s now) := h3.2
  have ho := bpStep_out s now
  generalize bpStep s now = out at ho ⊢
  cases ho with
  | poisoned2 hp => exact h2.bye_of_poisoned hp
  | readErr hp hn => exact (⟨rfl, h3.1 hn⟩ : Activity.read = .read ∧ _)
  | started id d tr b ex hp hn hs => exact (h3' (by rw [hn]; simp)).noiseMid (nz_startRequest _ _ _ _ _ _)
  | startPanic id d tr b hp hn hs hpo =>
    exact ((h3' (by rw [hn]; simp)).noiseMid (nz_startRequest _ _ _ _ _ _)).bye_of_poisoned hpo
  | duplicate id d tr b hp hn hs hpo => exact (h3' (by rw [hn]; simp)).noiseMid (nz_startRequest _ _ _ _ _ _)
  | otherPoisoned hp hn1 hn2 hpo => exact ((h3' hn1).noiseMid (nz_noiseRel.bpOther _ (NzS.refl _))).bye_of_poisoned hpo
  | again hp hn1 hn2 hpo hc => exact (h3' hn1).noiseMid (nz_noiseRel.bpOther _ (NzS.refl _))
  | closed hp hn1 hn2 hpo hc => exact (h3' hn1).noiseMid (nz_noiseRel.bpOther _ (NzS.refl _))
  | pending hp hn1 hn2 hpo hc => exact (h3' hn1).noiseMid (nz_noiseRel.bpOther _ (NzS.refl _))

theorem ok_spin {X : FS → St → Prop} {f0 : FS} {s : St} (h : Ok X f0 s) (t : TaskId) :
    Bye (fo f0 (emit s (.spin t)).obs) := by
  rcases h with hb | ⟨hc, _⟩
  · exact hb.step _
  · exact hc.spin t

theorem ok_basePollNext (now : Nat) {f0 : FS} {k : Nat} {g : Bool} (fuel : Nat) (s : St) (h : Ok (MidX k g) f0 s) :
    PostBase f0 k g (basePollNext fuel s now) :=
  basePollNext_loop (Φ := fun s r => PostBase f0 k g (s, r)) (fun _ h => ok_bpStep now h) (fun _ h => ok_spin h _) fuel s h

/-- postcondition of `BaseChannel::start_send` -/
def PostSend (f0 : FS) : St × Option Bool → Prop
  | (s', some false) => Ok (FailX .write) f0 s'
  | (s', _) => Ok (MidX 0 false) f0 s'

theorem ok_baseStartSend {f0 : FS} {s : St} (h : Ok (MidX 0 true) f0 s) (id : Nat) (res : Res) :
    PostSend f0 (baseStartSend s id res) := by
  have h1 := h.noiseMid (nz_noiseRel.removeRequest id (NzS.refl s))
  have ho := baseStartSend_out s id res
  generalize baseStartSend s id res = p at ho ⊢
  cases ho with
  | untracked s1 he =>
    rw [he] at h1
    exact h1.mono (fun f hX => ⟨hX.1.weaken (Nat.le_refl _) (fun h => by cases h), hX.2⟩)
  | sent s1 he =>
    rw [he] at h1
    have hs := ok_tSend h1 id res
    generalize tSend s1 (.response id res) = q at hs ⊢
    obtain ⟨s2, ok⟩ := q
    cases ok
    · exact hs.2 rfl
    · exact hs.1 rfl

theorem PostSend.other {f0 : FS} {s : St} {r : Option Bool} (h : PostSend f0 (s, r)) (hne : r ≠ some false) :
    Ok (MidX 0 false) f0 s := by
  cases r with
  | none => exact h
  | some b => cases b with
    | true => exact h
    | false => exact absurd rfl hne

/-- postcondition of the channel's `poll_next` (with or without limiter) -/
def PostCh (f0 : FS) : St × SPoll Exec → Prop
  | (s', .err a) => Ok (FailX a) f0 s'
  | (s', .spin) => Bye (fo f0 s'.obs)
  | (s', _) => Ok (MidX 1 false) f0 s'

theorem PostBase.ch {f0 : FS} {g : Bool} {p : St × SPoll Exec} (h : PostBase f0 0 g p) : PostCh f0 p := by
  obtain ⟨s2, r⟩ := p
  cases r with
  | err a => obtain ⟨rfl, hb⟩ := h; exact hb
  | spin => exact h
  | some ex => exact Ok.mono h (fun f hX => ⟨hX.1.weaken (by omega) (fun h => by cases h), hX.2⟩)
  | pending => exact Ok.mono h (fun f hX => ⟨hX.1.weaken (by omega) (fun h => by cases h), hX.2⟩)
  | none => exact Ok.mono h (fun f hX => ⟨hX.1.weaken (by omega) (fun h => by cases h), hX.2⟩)

theorem ok_limitedLegacy (limit now : Nat) {f0 : FS} (fuel : Nat) (s : St) (h : Ok (MidX 0 false) f0 s) :
    PostCh f0 (limitedPollNextLegacy limit fuel s now) := by
  refine limitedLegacy_loop (I := fun _ s => Ok (MidX 0 false) f0 s) (Φ := fun s r => PostCh f0 (s, r))
    (fun _ s h => ?_) (fun s h => ok_spin h _) fuel s h
  have ht := ok_tReady h (by omega : 0 < 4)
  have ho := llStep_out limit s now
  generalize llStep limit s now = p at ho ⊢
  cases ho with
  | below hl => exact (ok_basePollNext now (baseFuel s) s h).ch
  | pending hl he => exact ht.2.1 he
  | readyErr hl he => exact ht.2.2 he
  | through hl he hne => exact (ok_basePollNext now _ _ (ht.1 he)).ch
  | refuseErr hl he s2 ex hb hs =>
    have hbp := ok_basePollNext now (baseFuel (tReady s).1) _ (ht.1 he)
    rw [hb] at hbp
    have hsd := ok_baseStartSend hbp ex.id (.err throttleKindIdx)
    generalize baseStartSend s2 ex.id (.err throttleKindIdx) = q at hs hsd ⊢
    obtain ⟨s3, o⟩ := q
    cases hs
    exact hsd
  | refused hl he s2 ex hb hs =>
    have hbp := ok_basePollNext now (baseFuel (tReady s).1) _ (ht.1 he)
    rw [hb] at hbp
    exact ((ok_baseStartSend hbp ex.id (.err throttleKindIdx)).other hs).noiseMid (nz_updExec _ _ _)

theorem ok_channelPollNext (now : Nat) {f0 : FS} {s : St} (h : Ok (MidX 0 false) f0 s)
    (hcfg : s.throttleAfterRead = false) : PostCh f0 (channelPollNext s now) := by
  unfold channelPollNext
  split
  · exact (ok_basePollNext now (baseFuel s) s h).ch
  · simp only [hcfg]
    exact ok_limitedLegacy _ now _ s h

/-- postcondition of `ensure_writeable` -/
def PostEW (f0 : FS) : St × EW → Prop
  | (s', .ready) => Ok (MidX 0 true) f0 s'
  | (s', .pending) => Ok (MidX 3 false) f0 s'
  | (s', .err a) => Ok (FailX a) f0 s'
  | (_, .spin) => False

theorem ok_ensureOnce {f0 : FS} {s : St} (h : Ok (MidX 1 false) f0 s) : PostEW f0 (ensureOnce s) := by
  have ht := ok_tReady h (by omega : 1 < 4)
  have hf := fun h1 => ok_tFlush (ht.2.1 h1)
  -- the second `poll_ready`, after a flush that completed
  have ht2 := fun h1 h2 => ok_tReady (k := 2) (g := false) (((hf h1).1 h2).mono (fun f hX => hX.1)) (by omega)
  have ho := ensureOnce_out s
  generalize ensureOnce s = p at ho ⊢
  cases ho with
  | ready h1 => exact ht.1 h1
  | readyErr h1 => exact ht.2.2 h1
  | flushPending h1 h2 => exact ((hf h1).2.1 h2).mono (fun f hX => ⟨hX.1.1.weaken (by omega) id, hX.1.2⟩)
  | flushErr h1 h2 => exact (hf h1).2.2 h2
  | ready2 h1 h2 h3 => exact (ht2 h1 h2).1 h3
  | readyErr2 h1 h2 h3 => exact (ht2 h1 h2).2.2 h3
  | pending2 h1 h2 h3 => exact (ht2 h1 h2).2.1 h3

theorem ok_ensureWriteable {f0 : FS} {s : St} (h : Ok (MidX 1 false) f0 s) (hel : s.ensureLoop = false) :
    PostEW f0 (ensureWriteable s) := by
  unfold ensureWriteable
  simp only [hel]
  exact ok_ensureOnce h

/-- what the poll may go idle on: the write side flushed or flushing -/
abbrev IdleX : FS → St → Prop := fun f s => MidX 4 false f s ∧ IdleF f
/-- what the request stream may end on -/
abbrev NoneX : FS → St → Prop := fun f s => MidX 4 false f s ∧ NoneF f

theorem NoneF.idle {f : FS} (h : NoneF f) : IdleF f := Or.inl h.1

/-- postcondition of the write pump (`some`: a response was taken off the queue) -/
def PostPW (f0 : FS) (rc : Bool) : St × SPoll Unit → Prop
  | (s', .pending) => Ok IdleX f0 s'
  | (s', .none) => rc = true ∧ Ok NoneX f0 s'
  | (s', .err a) => Ok (FailX a) f0 s'
  | (s', .some _) => Ok (MidX 0 false) f0 s'
  | (_, .spin) => False

theorem ok_flushArm {f0 : FS} {k : Nat} {g : Bool} {s : St} (h : Ok (MidX k g) f0 s) (hk : k ≤ 4) (rc : Bool) :
    PostPW f0 rc (flushArm s rc) := by
  rw [flushArm_eq]
  have hf := ok_tFlush h
  have wk : ∀ {Y : FS → Prop} {Y' : FS → Prop}, (∀ f, Y f → Y' f) →
      Ok (fun f s => MidX k g f s ∧ Y f) f0 (tFlush s).1 → Ok (fun f s => MidX 4 false f s ∧ Y' f) f0 (tFlush s).1 :=
    fun hy h1 => h1.mono (fun f hX => ⟨⟨hX.1.1.weaken hk (fun h => by cases h), hX.1.2⟩, hy f hX.2⟩)
  cases hr : (tFlush s).2 with
  | pending => exact wk (fun _ h => h) (hf.2.1 hr)
  | err => exact hf.2.2 hr
  | ready =>
    dsimp only
    split
    · next hc =>
      simp only [Bool.and_eq_true] at hc
      exact ⟨hc.1, wk (fun _ h => h) (hf.1 hr)⟩
    · exact wk (fun _ h => h.idle) (hf.1 hr)

theorem ok_pumpWrite {f0 : FS} {s : St} (h : Ok (MidX 1 false) f0 s) (hel : s.ensureLoop = false) (rc : Bool) :
    PostPW f0 rc (pumpWrite s rc) := by
  have he := ok_ensureWriteable h hel
  have ho := pumpWrite_out s rc
  generalize pumpWrite s rc = p at ho ⊢
  have sendFrom : ∀ {s1 : St} (id : Nat) (res : Res) (rest : List (Nat × Res)), PostEW f0 (s1, .ready) →
      PostSend f0 (baseStartSend (rqRelease { s1 with respQ := rest }) id res) := fun {s1} id res rest he =>
    have h2 : Ok (MidX 0 true) f0 (rqRelease { s1 with respQ := rest }) :=
      Ok.noiseMid he (nz_noiseRel.rqRelease (NzS.of_eq rfl rfl rfl))
    ok_baseStartSend h2 id res
  cases ho with
  | blocked s1 heq => rw [heq] at he; exact ok_flushArm he (by omega) rc
  | err s1 a heq => rw [heq] at he; exact he
  | spin s1 heq => rw [heq] at he; exact he.elim
  | sent s1 id res rest heq hq hs => rw [heq] at he; exact PostSend.other (sendFrom id res rest he) hs
  | sendErr s1 id res rest heq hq hs =>
    rw [heq] at he
    have := sendFrom id res rest he
    generalize baseStartSend (rqRelease { s1 with respQ := rest }) id res = q at hs this ⊢
    obtain ⟨s2, o⟩ := q
    cases hs
    exact this
  | idle s1 heq hq =>
    rw [heq] at he
    have h2 : Ok (MidX 0 true) f0 { s1 with rqRxWaker := true } := Ok.noiseMid he (NzS.of_eq rfl rfl rfl)
    exact ok_flushArm h2 (by omega) rc

/-- postcondition of `Requests::poll_next` -/
def PostReq (f0 : FS) : St × ReqPoll → Prop
  | (s', .pending) => Ok IdleX f0 s'
  | (s', .none) => Ok (fun f s => NoneX f s ∧ f.eof = true) f0 s'
  | (s', .item _) => Ok (MidX 4 false) f0 s'
  | (s', .err a) => Ok (FailX a) f0 s'
  | (s', .spin) => Bye (fo f0 s'.obs)

theorem PostCh.other {f0 : FS} {s : St} {r : SPoll Exec} (h : PostCh f0 (s, r)) (h1 : ∀ a, r ≠ .err a)
    (h2 : r ≠ .spin) : Ok (MidX 1 false) f0 s := by
  cases r with
  | err a => exact absurd rfl (h1 a)
  | spin => exact absurd rfl h2
  | _ => exact h

theorem PostPW.mid {f0 : FS} {rc : Bool} {s : St} {w : SPoll Unit} (h : PostPW f0 rc (s, w)) (h1 : ∀ a, w ≠ .err a)
    (h2 : w ≠ .spin) : Ok (MidX 4 false) f0 s := by
  cases w with
  | err a => exact absurd rfl (h1 a)
  | spin => exact absurd rfl h2
  | pending => exact Ok.mono h (fun f hX => hX.1)
  | none => exact Ok.mono h.2 (fun f hX => hX.1)
  | some u => exact Ok.mono h (fun f hX => ⟨hX.1.weaken (by omega) id, hX.2⟩)

theorem PostPW.idle {f0 : FS} {rc : Bool} {s : St} {w : SPoll Unit} (h : PostPW f0 rc (s, w)) (h1 : ∀ a, w ≠ .err a)
    (h2 : w ≠ .spin) (h3 : ∀ u, w ≠ .some u) : Ok IdleX f0 s := by
  cases w with
  | err a => exact absurd rfl (h1 a)
  | spin => exact absurd rfl h2
  | pending => exact h
  | none => exact Ok.mono h.2 (fun f hX => ⟨hX.1, hX.2.idle⟩)
  | some u => exact absurd rfl (h3 u)

theorem armRead_cfg (s : St) (r : SPoll Exec) :
    (armRead s r).ensureLoop = s.ensureLoop ∧ (armRead s r).throttleAfterRead = s.throttleAfterRead := by
  unfold armRead; split <;> simp

/-- `pending` and `none` are neither an error, nor a spin, nor an item -/
theorem idle_ne {α : Type} {r : SPoll α} (h : r = .pending ∨ r = .none) :
    (∀ a, r ≠ .err a) ∧ r ≠ .spin ∧ ∀ u, r ≠ .some u := by
  rcases h with rfl | rfl
  · exact ⟨nofun, nofun, nofun⟩
  · exact ⟨nofun, nofun, nofun⟩

theorem ok_requestsPollNext (now : Nat) {f0 : FS} (fuel : Nat) (s : St) (h : Ok (MidX 0 false) f0 s)
    (hcfg : s.throttleAfterRead = false) (hel : s.ensureLoop = false) : PostReq f0 (requestsPollNext fuel s now) := by
  refine requestsPollNext_loop (I := fun s => Ok (MidX 0 false) f0 s ∧ s.throttleAfterRead = false ∧ s.ensureLoop = false)
    (Φ := fun s r => PostReq f0 (s, r)) (fun s ⟨h, hcfg, hel⟩ => ?_) (fun s h => ok_spin h.1 _) fuel s ⟨h, hcfg, hel⟩
  have hch : PostCh f0 ((rpRd s now).1, (rpRd s now).2) := ok_channelPollNext now h hcfg
  have hc1 : Cfg s (rpRd s now).1 := (cfg_closed s now).channelPollNext s ⟨rfl, rfl, rfl, rfl⟩
  have write : (∀ a, (rpRd s now).2 ≠ .err a) → (rpRd s now).2 ≠ .spin →
      PostPW f0 (readClosedOf (rpRd s now).2) ((rpWr s now).1, (rpWr s now).2) ∧
      (rpWr s now).1.throttleAfterRead = false ∧ (rpWr s now).1.ensureLoop = false ∧
      ((rpRd s now).2 = .none → (rpWr s now).1.readFused = true) := by
    intro h1 h2
    have h2' : Ok (MidX 1 false) f0 (armRead (rpRd s now).1 (rpRd s now).2) :=
      (hch.other h1 h2).noiseMid (nz_noiseRel.armRead _ (NzS.refl _))
    have hel2 : (armRead (rpRd s now).1 (rpRd s now).2).ensureLoop = false := by
      rw [(armRead_cfg _ _).1, hc1.2.2.1]; exact hel
    have hcfg2 : (armRead (rpRd s now).1 (rpRd s now).2).throttleAfterRead = false := by
      rw [(armRead_cfg _ _).2, hc1.2.2.2]; exact hcfg
    have hc3 := (cfg_closed (armRead (rpRd s now).1 (rpRd s now).2) now).pumpWrite _ (readClosedOf (rpRd s now).2)
      ⟨rfl, rfl, rfl, rfl⟩
    refine ⟨ok_pumpWrite h2' hel2 _, hc3.2.2.2.trans hcfg2, hc3.2.2.1.trans hel2, fun hn => ?_⟩
    refine (fused_closed now).pumpWrite _ _ ?_
    have : (rpRd s now).1.readFused = true := channelPollNext_none_fused s now hn
    rw [show (rpRd s now).2 = .none from hn]
    simpa [armRead] using this
  have ho := rpStep_out s now
  generalize rpStep s now = p at ho ⊢
  cases ho with
  | readErr a hr => rw [hr] at hch; exact hch
  | readSpin hr => rw [hr] at hch; exact hch
  | writeErr a hr hw =>
    obtain ⟨hpw, -⟩ := write hr.1 hr.2
    rw [hw] at hpw
    exact Ok.noise hpw (nz_noiseRel.dropRead _ (NzS.refl _)) (fun f hX => ⟨hX.2, fun hp => ⟨hX.1, hp⟩⟩)
  | writeSpin hr hw =>
    obtain ⟨hpw, -⟩ := write hr.1 hr.2
    rw [hw] at hpw
    exact hpw.elim
  | closed hr hw =>
    obtain ⟨hpw, -, -, hfu⟩ := write (by rw [hr]; nofun) (by rw [hr]; nofun)
    rw [hw] at hpw
    show Ok (fun f s => NoneX f s ∧ f.eof = true) f0 (rpWr s now).1
    exact hpw.2.mono (fun f hX => ⟨hX, hX.1.2.2 (hfu hr)⟩)
  | item ex hr hw =>
    obtain ⟨hpw, -⟩ := write (by rw [hr]; nofun) (by rw [hr]; nofun)
    show PostReq f0 ((rpWr s now).1, .item ex.rid)
    exact hpw.mid hw.1 hw.2
  | again hr hw =>
    obtain ⟨hpw, h1, h2, -⟩ := write (idle_ne hr).1 (idle_ne hr).2.1
    rw [hw] at hpw
    exact ⟨hpw, h1, h2⟩
  | idle hr hw =>
    obtain ⟨hpw, -⟩ := write (idle_ne hr).1 (idle_ne hr).2.1
    show PostReq f0 ((rpWr s now).1, .pending)
    exact hpw.idle (idle_ne hw).1 (idle_ne hw).2.1 (idle_ne hw).2.2

/-- what holds between ops (clean fold, unpoisoned state): the monitor has seen no close; while the request
stream is live no transport failure has been seen, and an end of the inbound stream the model knows of has
been seen -/
structure RelF (f : FS) (s : St) : Prop where
  closed : f.m14.closed = false
  live : (s.dropped || s.done.isSome) = false →
    f.m14.failed = false ∧ f.m14.readFailed = false ∧ (s.readFused = true → f.eof = true)

abbrev RelX : FS → St → Prop := fun f s => s.poisoned = false ∧ RelF f s
/-- … at the start of an op -/
abbrev StartX : FS → St → Prop := fun f s => RelX f s ∧ f.e9 = none ∧ f.m14.readyP = 0

theorem RelX.frame {f : FS} {s s' : St} (hX : RelX f s) (hd : s'.dropped = false → s.dropped = false)
    (hdn : s'.done = s.done) (hf : s'.readFused = s.readFused) :
    s.poisoned = false ∧ (s'.poisoned = false → RelX f s') := by
  refine ⟨hX.1, fun hp => ⟨hp, hX.2.closed, fun hl => ?_⟩⟩
  simp only [Bool.or_eq_false_iff] at hl
  rw [hf]
  exact hX.2.live (by simp [hd hl.1, ← hdn, hl.2])

theorem Ok.bye_of {X : FS → St → Prop} {f0 : FS} {s : St} (h : Ok X f0 s) (hx : ∀ f, X f s → False) :
    Bye (fo f0 s.obs) := by
  rcases h with hb | ⟨_, hX⟩
  · exact hb
  · exact (hx _ hX).elim

theorem PostReq.bye_of_poisoned {f0 : FS} {s : St} {r : ReqPoll} (h : PostReq f0 (s, r)) (hp : s.poisoned = true) :
    Bye (fo f0 s.obs) := by
  cases r with
  | pending =>
    have h' : Ok IdleX f0 s := h
    exact Ok.bye_of h' (fun f hX => by have := hX.1.2.1; rw [hp] at this; cases this)
  | none =>
    have h' : Ok (fun f s => NoneX f s ∧ f.eof = true) f0 s := h
    exact Ok.bye_of h' (fun f hX => by have := hX.1.1.2.1; rw [hp] at this; cases this)
  | item r =>
    have h' : Ok (MidX 4 false) f0 s := h
    exact Ok.bye_of h' (fun f hX => by have := hX.2.1; rw [hp] at this; cases this)
  | err a =>
    have h' : Ok (FailX a) f0 s := h
    exact Ok.bye_of h' (fun f hX => by have := hX.2; rw [hp] at this; cases this)
  | spin => exact h

/-! what the `ret` observation that ends a poll does to the fold: nothing, in each of the four cases -/

theorem FS.ext9 {a b : FS} (h1 : a.m14 = b.m14) (h2 : a.e9 = b.e9) (h3 : a.u10 = b.u10) (h4 : a.eof = b.eof)
    (h5 : a.spun = b.spun) (h6 : a.sawSpin = b.sawSpin) (h7 : a.bad14 = b.bad14) (h8 : a.bad9 = b.bad9)
    (h9 : a.bad10 = b.bad10) : a = b := by
  cases a; cases b; simp only [FS.mk.injEq]; exact ⟨h1, h2, h3, h4, h5, h6, h7, h8, h9⟩

/- On the written-out fold `fstep` computes: every field but `eof` (`eof || false`) is back by `rfl`. -/
theorem st_ret_pending {k g} {f : FS} (i : Nat) (hc : Clean f) (hm : MidF k g f) (hi : IdleF f) :
    fstep f (.ret (.server i) .pending) = f := by
  obtain ⟨gr, u, fp, rp, u10, eof, hk, hg, rfl⟩ := hm.nf hc
  rcases hi with hi | hi
  · simp only at hi; subst hi; exact FS.ext9 rfl rfl rfl (Bool.or_false _) rfl rfl rfl rfl rfl
  · simp only at hi; subst hi
    -- `u > 0 && !true` computes once `u` is a numeral or a successor
    cases u <;> exact FS.ext9 rfl rfl rfl (Bool.or_false _) rfl rfl rfl rfl rfl

theorem st_ret_none {k g} {f : FS} (i : Nat) (hc : Clean f) (hm : MidF k g f) (hn : NoneF f) (he : f.eof = true) :
    fstep f (.ret (.server i) .readyNone) = f := by
  obtain ⟨gr, u, fp, rp, u10, eof, hk, hg, rfl⟩ := hm.nf hc
  obtain ⟨n1, n2⟩ := hn
  simp only at n1 n2 he
  subst n1 n2 he
  exact FS.ext9 rfl rfl rfl rfl rfl rfl rfl rfl rfl

theorem st_ret_item {k g} {f : FS} (i : Nat) (hc : Clean f) (hm : MidF k g f) :
    fstep f (.ret (.server i) .readyItem) = f := by
  obtain ⟨gr, u, fp, rp, u10, eof, hk, hg, rfl⟩ := hm.nf hc
  exact FS.ext9 rfl rfl rfl (Bool.or_false _) rfl rfl rfl rfl rfl

theorem st_ret_err {a : Activity} {f : FS} (i : Nat) (hc : Clean f) (hm : FailF a f) :
    fstep f (.ret (.server i) (.readyItemErr a)) = f := by
  obtain ⟨h1, h2, h3, h4, h5⟩ := hc
  obtain ⟨l1, l2⟩ := hm
  cases f with
  | mk m14 e9 u10 eof spun sawSpin b14 b9 b10 =>
  simp only at h1 h2 h3 h4 h5 l1 l2
  subst h1 h2 h3 h4 h5 l1
  simp [fstep, isSpin, isPoison, isEof, Client.checkC14Obs, checkC09np, checkC09, checkC10]

theorem Ok.emit_same {X : FS → St → Prop} {f0 : FS} {s : St} (h : Ok X f0 s) (o : Obs)
    (hs : ∀ f, Clean f → X f s → fstep f o = f) : Ok (fun f _ => X f s) f0 (emit s o) :=
  h.step o rfl (fun f hc hX => by rw [hs f hc hX]; exact ⟨hc, hX⟩)

theorem Ok.emit_silent {X : FS → St → Prop} {f0 : FS} {s : St} (h : Ok X f0 s) (o : Obs) (ho : isSilent o = true) :
    Ok (fun f _ => X f s) f0 (emit s o) :=
  h.emit_same o (fun f _ _ => fstep_silent f o ho)

theorem ok_pskFinish {f0 : FS} {s : St} {r : ReqPoll} (h : PostReq f0 (s, r)) : Ok RelX f0 (pskFinish s r) := by
  cases r with
  | pending =>
    have h1 := (Ok.emit_same h (.ret (tid s) .pending) (fun f hc hX => st_ret_pending _ hc hX.1.1 hX.2)).emit_silent
      (.counts (tid s) s.inflight.length s.timers.len) rfl
    exact h1.mono (fun f hX => ⟨hX.1.2.1, hX.1.1.live.closed,
      fun _ => ⟨hX.1.1.live.failed, hX.1.1.live.readFailed, hX.1.2.2⟩⟩)
  | none =>
    have h0 : Ok (fun f s => NoneX f s ∧ f.eof = true) f0 { s with done := some .readyNone } := h
    have h1 := (Ok.emit_same h0 (.ret (tid s) .readyNone) (fun f hc hX => st_ret_none _ hc hX.1.1.1 hX.1.2 hX.2)).emit_silent
      (.counts (tid s) s.inflight.length s.timers.len) rfl
    exact h1.mono (fun f hX => ⟨hX.1.1.2.1, hX.1.1.1.live.closed, fun hl => by simp at hl⟩)
  | err a =>
    have h0 : Ok (FailX a) f0 { s with done := some (.readyItemErr a) } := h
    have h1 := (Ok.emit_same h0 (.ret (tid s) (.readyItemErr a)) (fun f hc hX => st_ret_err _ hc hX.1)).emit_silent
      (.counts (tid s) s.inflight.length s.timers.len) rfl
    exact h1.mono (fun f hX => ⟨hX.2, hX.1.closed, fun hl => by simp at hl⟩)
  | spin =>
    exact Or.inl ((Bye.step h _).step _)
  | item rid =>
    have hfin : ∀ s1 : St, Ok (MidX 4 false) f0 s1 →
        Ok RelX f0 (emit (emit s1 (.ret (tid s1) .readyItem)) (.counts (tid s1) s1.inflight.length s1.timers.len)) := by
      intro s1 h1
      have h2 := (Ok.emit_same h1 (.ret (tid s1) .readyItem) (fun f hc hX => st_ret_item _ hc hX.1)).emit_silent
        (.counts (tid s1) s1.inflight.length s1.timers.len) rfl
      exact h2.mono (fun f hX => ⟨hX.2.1, hX.1.live.closed, fun _ => ⟨hX.1.live.failed, hX.1.live.readFailed, hX.2.2⟩⟩)
    simp only [pskFinish, pskRet]
    split
    · next e he =>
      refine hfin _ ?_
      have h0 : Ok (MidX 4 false) f0 s := h
      have h1 : Ok (MidX 4 false) f0 (updExec { s with nextVis := s.nextVis + 1 } rid (fun x => { x with vis := some s.nextVis })) :=
        Ok.noiseMid h0 ((nz_updExec _ _ _).pre rfl rfl rfl)
      exact (h1.emit_silent (.yielded s.nextVis e.id e.deadline e.trace) rfl).mono (fun f hX => ⟨hX.1, hX.2⟩)
    · exact hfin s h

theorem ok_pollServerKeep (now : Nat) {f0 : FS} {s : St} (h : Ok StartX f0 s) (hcfg : s.throttleAfterRead = false)
    (hel : s.ensureLoop = false) : Ok RelX f0 (pollServerKeep s now) := by
  have hp : s.dropped = false ∧ s.done.isSome = false ∧ s.poisoned = false →
      PostReq f0 (requestsPollNext (pollFuel { s with woken := false }) { s with woken := false } now) := fun hl =>
    ok_requestsPollNext now _ { s with woken := false } (h.imp id (fun ⟨hc, hX⟩ =>
      have hlv := hX.1.2.live (by simp [hl.1, hl.2.1])
      ⟨hc, ⟨⟨hX.2.1, hlv.1, hlv.2.1, hX.1.2.closed⟩, by rw [hX.2.2]; exact Nat.le_refl 0, fun hg => by cases hg⟩, hX.1.1,
        hlv.2.2⟩)) hcfg hel
  have ho := pollServerKeep_out s now
  generalize pollServerKeep s now = p at ho ⊢
  cases ho with
  | dead _ => exact (h.emit_silent .noop rfl).mono (fun f hX => (RelX.frame (s' := emit s .noop) hX.1 id rfl rfl).2 hX.1.1)
  | reset hl s1 r he h0 h1 => exact Or.inl (ok_spin h _)
  | poisoned hl s1 r he hpo => have := hp hl; rw [he] at this; exact Or.inl (PostReq.bye_of_poisoned this hpo)
  | fin hl s1 r he hpo => have := hp hl; rw [he] at this; exact ok_pskFinish this

def loud (o : Obs) : Bool := !isSilent o

theorem fo_filter_loud (f0 : FS) (l : List Obs) : fo f0 (l.filter loud) = fo f0 l :=
  foldObs_filter fstep loud (fun f o h => fstep_silent f o (by simpa [loud] using h)) f0 l

theorem NzS.of_loud {s s' : St} (h : s'.obs.filter loud = s.obs.filter loud) (hp : s'.poisoned = s.poisoned)
    (hf : s'.readFused = s.readFused) : NzS s s' := by
  have he : ∀ f0, fo f0 s'.obs = fo f0 s.obs := fun f0 => by
    rw [← fo_filter_loud f0 s'.obs, h, fo_filter_loud]
  exact ⟨fun f0 hb => by rw [he]; exact hb, fun f0 _ => Or.inl (he f0), fun h => Or.inl (by rw [← hp]; exact h), hf⟩

theorem loud_execQuiet : ObsMon.ExecQuiet loud :=
  ⟨⟨⟨fun _ => rfl, rfl, fun _ _ => rfl⟩, fun _ _ => rfl⟩, fun _ _ _ => rfl⟩

/-- the state fields the between-ops relation looks at -/
def Fr4 (s s' : St) : Prop :=
  s'.poisoned = s.poisoned ∧ s'.readFused = s.readFused ∧ s'.dropped = s.dropped ∧ s'.done = s.done

theorem fr4_closed (s0 : St) : ExecClosed (Fr4 s0) where
  inert := fun s s' hi h => by unfold Fr4 at *; rw [hi.poisoned, hi.readFused, hi.dropped, hi.done]; exact h
  emit := fun s o _ h => h
  upd := fun s r f _ h => h

theorem ok_quietOp {f0 : FS} {s s' : St} (h : Ok RelX f0 s) (hl : s'.obs.filter loud = s.obs.filter loud)
    (hfr : Fr4 s s') : Ok RelX f0 s' :=
  h.noise (NzS.of_loud hl hfr.1 hfr.2.1)
    (fun f hX => RelX.frame hX (fun h => by rw [← hfr.2.2.1]; exact h) hfr.2.2.2 hfr.2.1)

theorem ok_dropServer {f0 : FS} {s : St} (h : Ok RelX f0 s) : Ok RelX f0 (dropServer s) :=
  h.noise (NzS.of_loud (ObsMon.fx_dropServer loud_execQuiet.toWakeQuiet s) (by simp) (by simp))
    (fun f hX => RelX.frame hX (fun hd => by
      by_cases hs : s.dropped = true
      · rw [dropServer_dropped_mono s hs] at hd; cases hd
      · rw [dropServer_dropped s (by simp [hX.1]; simpa using hs)] at hd; cases hd) (by simp) (by simp))

theorem ok_pollServer (now : Nat) {f0 : FS} {s : St} (h : Ok StartX f0 s) (hcfg : s.throttleAfterRead = false)
    (hel : s.ensureLoop = false) : Ok RelX f0 (pollServer s now) := by
  have hk := ok_pollServerKeep now h hcfg hel
  exact pollServer_ind (P := Ok RelX f0) s now hk (ok_dropServer hk)
    (hk.noise (NzS.of_eq rfl rfl rfl) (fun f hX => RelX.frame hX id rfl rfl))

theorem ok_applyOp {f0 : FS} (c : Sys) (op : SOp) (h : Ok StartX f0 c.s) (hcfg : c.s.throttleAfterRead = false)
    (hel : c.s.ensureLoop = false) : Ok RelX f0 (applyOp c op).s := by
  by_cases hp : op = .pollServer
  · subst hp; exact ok_pollServer _ h hcfg hel
  · have hr : Ok RelX f0 c.s := h.mono (fun f hX => hX.1)
    by_cases hd : op = .dropServer
    · subst hd; exact ok_dropServer hr
    · exact ok_quietOp hr (ObsMon.fx_applyOp loud_execQuiet c op hp)
        (ObsMon.applyOp_closed (fr4_closed c.s) (fun _ _ h => h) (fun _ _ h => h) c op hp hd ⟨rfl, rfl, rfl, rfl⟩)

/-- the fold over trace events -/
def fev (f : FS) : SEv → FS := foldEv fstep fop f

def ftrace (f : FS) (evs : List SEv) : FS := evs.foldl fev f

/-- the relation between the fold so far and the state between ops -/
def Inv (f : FS) (s : St) : Prop := Bye f ∨ (Clean f ∧ RelX f s)

theorem Bye.fop {f : FS} (h : Bye f) : Bye (fop f) := by
  unfold FlowMon.fop
  split
  · exact h
  · rcases h with h | h
    · exact Or.inl h
    · rename_i hs; exact absurd h.1 hs

theorem inv_start {f : FS} {s : St} (h : Inv f s) : Ok StartX (fop f) { s with obs := [] } := by
  rcases h with hb | ⟨hc, hX⟩
  · exact Or.inl hb.fop
  · right
    have hf : fop f = { f with m14 := { f.m14 with readyP := 0 }, e9 := none } := by
      unfold fop; rw [if_neg (by simp [hc.spun])]
    show Clean (fop f) ∧ StartX (fop f) { s with obs := [] }
    rw [hf]
    exact ⟨⟨hc.spun, hc.sawSpin, hc.b14, hc.b9, hc.b10⟩, ⟨hX.1, hX.2.closed, hX.2.live⟩, rfl, rfl⟩

theorem inv_of_ok {f0 : FS} {s : St} (h : Ok RelX f0 s) : Inv (fo f0 s.obs) { s with obs := [] } :=
  h.imp id (fun ⟨hc, hX⟩ => ⟨hc, hX.1, hX.2.closed, hX.2.live⟩)

theorem inv_trace (ops : List SOp) (c : Sys) (f : FS) (h : Inv f c.s) (hcfg : c.s.throttleAfterRead = false)
    (hel : c.s.ensureLoop = false) : Bye (ftrace f (trace c ops)) ∨ Clean (ftrace f (trace c ops)) := by
  obtain ⟨_, h, _⟩ := fold_trace fstep fop
    (Inv := fun f c => Inv f c.s ∧ c.s.throttleAfterRead = false ∧ c.s.ensureLoop = false)
    (fun f c op ⟨h, hcfg, hel⟩ => by
      refine ⟨?_, (stepOp_cfg c op).2.2.2.trans hcfg, (stepOp_cfg c op).2.2.1.trans hel⟩
      rw [stepOp_fst]; exact inv_of_ok (ok_applyOp (clr c) op (inv_start h) hcfg hel))
    ops c f ⟨h, hcfg, hel⟩
  exact h.imp id (fun h => h.1)

theorem inv_init (limit : Option Nat) (respCap tcap : Nat) (coupled : Bool) :
    Inv {} (initSys limit respCap tcap coupled).s :=
  Or.inr ⟨⟨rfl, rfl, rfl, rfl, rfl⟩, rfl, rfl, fun _ => ⟨rfl, rfl, fun h => by simp [initSys, init] at h⟩⟩

theorem fev_sawSpin (f : FS) (e : SEv) :
    (fev f e).sawSpin = (f.sawSpin || match e with | .obs o => isSpin o | .op _ => false) := by
  cases e with
  | op o => simp only [fev, foldEv, fop]; split <;> simp
  | obs o => simp only [fev, foldEv, fstep]; split <;> rfl

theorem sawSpin_ftrace (evs : List SEv) : ∀ f : FS, (ftrace f evs).sawSpin = true →
    f.sawSpin = true ∨ ∃ t, SEv.obs (.spin t) ∈ evs := by
  induction evs with
  | nil => intro f h; exact Or.inl h
  | cons e evs ih =>
    intro f h
    rcases ih (fev f e) h with h1 | ⟨t, ht⟩
    · rw [fev_sawSpin] at h1
      simp only [Bool.or_eq_true] at h1
      rcases h1 with h1 | h1
      · exact Or.inl h1
      · right
        cases e with
        | op o => cases h1
        | obs o =>
          cases o <;> simp [isSpin] at h1
          exact ⟨_, List.mem_cons_self ..⟩
    · exact Or.inr ⟨t, List.mem_cons_of_mem _ ht⟩

theorem flow_accepts (limit : Option Nat) (respCap tcap : Nat) (coupled : Bool) (ops : List SOp) :
    (ftrace {} (trace (initSys limit respCap tcap coupled) ops)).bad14 = false ∧
    (ftrace {} (trace (initSys limit respCap tcap coupled) ops)).bad9 = false ∧
    (ftrace {} (trace (initSys limit respCap tcap coupled) ops)).bad10 = false := by
  -- `rfl rfl`: `throttleAfterRead`, `ensureLoop` of `initSys` are `Gen.throttleAfterRead`, `Gen.serverEnsureLoop` (`Gen/Flags.lean`,
  -- both `false`).  With the retry loop the statement is false (`C14_server_spin_witness`); the limiter that throttles after the
  -- read sends its refusal after a `poll_ready → Ready` only because a poll adds at most one request to the table, of which this
  -- file knows nothing.
  rcases inv_trace ops _ _ (inv_init limit respCap tcap coupled) rfl rfl with hb | hc
  · rcases hb with hs | ⟨_, h1, h2, h3⟩
    · rcases sawSpin_ftrace _ _ hs with h0 | ⟨t, ht⟩
      · cases h0
      · exact absurd ht (Flow.trace_no_spin ops _ rfl rfl t)
    · exact ⟨h1, h2, h3⟩
  · exact ⟨hc.b14, hc.b9, hc.b10⟩

theorem fev_spun (f : FS) (e : SEv) : (fev f e).spun = (f.spun || poisonEv e) := by
  cases e with
  | op o => simp only [fev, foldEv, fop, poisonEv]; split <;> simp
  | obs o => simp only [fev, foldEv, fstep, poisonEv]; split <;> simp [*]

theorem fev_eof (f : FS) (e : SEv) (h : f.spun = false) : (fev f e).eof = (f.eof || eofEv e) := by
  cases e with
  | op o => simp [fev, foldEv, fop, eofEv, h]
  | obs o => simp [fev, foldEv, fstep, eofEv, h]

structure SimG {σ : Type} (proj : FS → σ) (badp : FS → Bool) (m : Mon σ) (f : FS) : Prop where
  spun : m.book.spun = f.spun
  eof : f.spun = false → m.book.eofSeen = f.eof
  st : m.st = proj f
  bad : badp f = false → m.bad = none

theorem simG_step {σ : Type} (check : Book → σ → SEv → σ × Option String) (proj : FS → σ) (badp : FS → Bool)
    (hfrozen : ∀ f e, f.spun = true → proj (fev f e) = proj f ∧ badp (fev f e) = badp f)
    (hlive : ∀ (b : Book) f e, f.spun = false → b.eofSeen = f.eof →
      proj (fev f e) = (check b (proj f) e).1 ∧ badp (fev f e) = (badp f || (check b (proj f) e).2.isSome))
    (m : Mon σ) (f : FS) (e : SEv) (h : SimG proj badp m f) : SimG proj badp (Mon.step check m e) (fev f e) := by
  rw [mon_step_def]
  cases hs : f.spun with
  | true =>
    have hbs : (bookOf m.book e).spun = true := by rw [bookOf_spun, h.spun, hs]
    simp only [hbs, if_true]
    obtain ⟨hp, hb⟩ := hfrozen f e hs
    refine ⟨?_, ?_, ?_, ?_⟩
    · simp [step_spun, fev_spun, h.spun, hs]
    · intro hf; rw [fev_spun, hs] at hf; simp at hf
    · rw [hp]; exact h.st
    · rw [hb]; exact h.bad
  | false =>
    have hbs : (bookOf m.book e).spun = false := by rw [bookOf_spun, h.spun, hs]
    simp only [hbs, Bool.false_eq_true, if_false]
    obtain ⟨hp, hb⟩ := hlive (bookOf m.book e) f e hs (by rw [bookOf_eofSeen]; exact h.eof hs)
    rw [← h.st] at hp hb
    have hspun : ((m.book.step e).noteFinish e).spun = (fev f e).spun := by
      simp [step_spun, fev_spun, h.spun]
    have heof : (fev f e).spun = false → ((m.book.step e).noteFinish e).eofSeen = (fev f e).eof := by
      intro _; simp [step_eofSeen, fev_eof f e hs, h.eof hs]
    cases hc : (check (bookOf m.book e) m.st e).2 with
    | none =>
      rw [hc] at hb
      exact ⟨hspun, heof, hp.symm, fun hbad => h.bad (by rw [hb] at hbad; simpa using hbad)⟩
    | some why =>
      rw [hc] at hb
      refine ⟨?_, ?_, ?_, fun hbad => ?_⟩
      · rw [fail_book]; exact hspun
      · rw [fail_book]; exact heof
      · rw [fail_st]; exact hp.symm
      · rw [hb] at hbad; simp at hbad

theorem simG_run {σ : Type} (check : Book → σ → SEv → σ × Option String) (proj : FS → σ) (badp : FS → Bool)
    (hfrozen : ∀ f e, f.spun = true → proj (fev f e) = proj f ∧ badp (fev f e) = badp f)
    (hlive : ∀ (b : Book) f e, f.spun = false → b.eofSeen = f.eof →
      proj (fev f e) = (check b (proj f) e).1 ∧ badp (fev f e) = (badp f || (check b (proj f) e).2.isSome))
    (evs : List SEv) : ∀ (m : Mon σ) (f : FS), SimG proj badp m f →
      SimG proj badp (evs.foldl (Mon.step check) m) (ftrace f evs) :=
  sim_run check fev (SimG proj badp) evs (fun e _ m f => simG_step check proj badp hfrozen hlive m f e)

theorem fev_frozen (f : FS) (e : SEv) (h : f.spun = true) :
    (fev f e).m14 = f.m14 ∧ (fev f e).e9 = f.e9 ∧ (fev f e).u10 = f.u10 ∧ (fev f e).bad14 = f.bad14 ∧
    (fev f e).bad9 = f.bad9 ∧ (fev f e).bad10 = f.bad10 := by
  cases e with
  | op o => simp [fev, foldEv, fop, h]
  | obs o => simp [fev, foldEv, fstep, h]

theorem sim14_run (limit : Option Nat) (evs : List SEv) :
    SimG (·.m14) (·.bad14) (monC14 limit evs) (ftrace {} evs) := by
  refine simG_run checkC14 _ _ (fun f e h => ?_) (fun b f e h _ => ?_) evs _ _ ⟨rfl, fun _ => rfl, rfl, fun _ => rfl⟩
  · have := fev_frozen f e h; exact ⟨this.1, this.2.2.2.1⟩
  · cases e with
    | op o => simp [fev, foldEv, fop, h, checkC14]
    | obs o => simp [fev, foldEv, fstep, h, checkC14]

theorem checkC09np_book (b : Book) (st : C09St) (e : SEv) : checkC09np b st e = checkC09np {} st e := by
  unfold checkC09np
  split
  · rfl
  · unfold checkC09; rfl

theorem sim9_run (limit : Option Nat) (evs : List SEv) :
    SimG (·.e9) (·.bad9) (monC09np limit evs) (ftrace {} evs) := by
  refine simG_run checkC09np _ _ (fun f e h => ?_) (fun b f e h _ => ?_) evs _ _ ⟨rfl, fun _ => rfl, rfl, fun _ => rfl⟩
  · have := fev_frozen f e h; exact ⟨this.2.1, this.2.2.2.2.1⟩
  · rw [checkC09np_book]
    cases e with
    | op o => simp [fev, foldEv, fop, h, checkC09np, checkC09]
    | obs o => simp [fev, foldEv, fstep, h]

theorem checkC10_book (b : Book) (st : Nat) (e : SEv) : checkC10 b st e = checkC10 (eofBook b.eofSeen) st e := by
  unfold checkC10; split <;> rfl

theorem sim10_run (limit : Option Nat) (evs : List SEv) :
    SimG (·.u10) (·.bad10) (monC10 limit evs) (ftrace {} evs) := by
  refine simG_run checkC10 _ _ (fun f e h => ?_) (fun b f e h hb => ?_) evs _ _ ⟨rfl, fun _ => rfl, rfl, fun _ => rfl⟩
  · have := fev_frozen f e h; exact ⟨this.2.2.1, this.2.2.2.2.2⟩
  · rw [checkC10_book, hb]
    cases e with
    | op o => simp [fev, foldEv, fop, h, checkC10]
    | obs o => simp [fev, foldEv, fstep, h]

/-- (none of the three checks looks at the limit its monitor is told about) -/
theorem monitors_accept (l14 l9 l10 limit : Option Nat) (respCap tcap : Nat) (coupled : Bool) (ops : List SOp) :
    (monC14 l14 (trace (initSys limit respCap tcap coupled) ops)).ok = true ∧
    (monC09np l9 (trace (initSys limit respCap tcap coupled) ops)).ok = true ∧
    (monC10 l10 (trace (initSys limit respCap tcap coupled) ops)).ok = true := by
  obtain ⟨h1, h2, h3⟩ := flow_accepts limit respCap tcap coupled ops
  unfold Mon.ok
  rw [(sim14_run l14 _).bad h1, (sim9_run l9 _).bad h2, (sim10_run l10 _).bad h3]
  exact ⟨rfl, rfl, rfl⟩

end TarpcModel.Server.FlowMon
