import TarpcModel.Server.Run
import TarpcModel.Lemmas.Basic
/-!
`InFlightRequests::poll_expired` of the server model (`rearm`, `expireStep`, `pollExpiredLoop`, `pollExpired`) presented for
proofs: the two outcomes of a re-arm, the paths of one iteration, the rule of the loop (an instance of `fuel_loop`,
`Lemmas/Basic.lean`).
-/
namespace TarpcModel.Server

/-- what `rearm` does to a tracked entry: the entries with the id get the new key and pay the armed
timeout out of their remainder -/
def rearmUpd (id key now : Nat) (x : SEntry) : SEntry :=
  if x.id == id then
    { x with timerKey := key,
             dueAt := now + clampTimeout (restOf now x),
             remainder := restOf now x - clampTimeout (restOf now x) }
  else x

/- `unfold rearm` (or `delta`, `simp only [rearm]`, `dsimp only` on the unfolded goal) has the kernel compare `rearm s now en`
with a `match` on `DelayQ.insert …`: it unfolds the matcher first and evaluates `DelayQ.insert` on free variables, for
minutes.  Against a λ it unfolds `rearm` and finds the bodies equal. -/
theorem rearm_fun : rearm = fun s now en =>
    match s.timers.insert now (clampTimeout (restOf now en)) en.id with
    | (_, .panic, _) => none
    | (q, .ok key, woke) =>
        let s := if woke then wakeServer s else s
        some { s with timers := q,
                      inflight := s.inflight.map (fun x =>
                        if x.id == en.id then
                          { x with timerKey := key,
                                   dueAt := now + clampTimeout (restOf now x),
                                   remainder := restOf now x - clampTimeout (restOf now x) }
                        else x) } := rfl

theorem rearm_out (s : St) (now : Nat) (en : SEntry) :
    ((s.timers.insert now (clampTimeout (restOf now en)) en.id).2.1 = .panic ∧ rearm s now en = none) ∨
    (∃ q key w, s.timers.insert now (clampTimeout (restOf now en)) en.id = (q, .ok key, w) ∧
      rearm s now en = some { (if w = true then wakeServer s else s) with
        timers := q, inflight := s.inflight.map (rearmUpd en.id key now) }) := by
  rw [congrFun (congrFun (congrFun rearm_fun s) now) en]
  generalize s.timers.insert now (clampTimeout (restOf now en)) en.id = r
  obtain ⟨q, res, w⟩ := r
  cases res with
  | panic => exact .inl ⟨rfl, rfl⟩
  | ok key =>
    refine .inr ⟨q, key, w, rfl, ?_⟩
    cases w
    · rfl
    · have : (wakeServer s).inflight = s.inflight := by unfold wakeServer; split <;> rfl
      simp only [if_true, this]; rfl

theorem rearm_some {s s2 : St} {now : Nat} {en : SEntry} (h : rearm s now en = some s2) :
    ∃ q key w, s.timers.insert now (clampTimeout (restOf now en)) en.id = (q, .ok key, w) ∧
      s2 = { (if w = true then wakeServer s else s) with
        timers := q, inflight := s.inflight.map (rearmUpd en.id key now) } := by
  rcases rearm_out s now en with ⟨_, he⟩ | ⟨q, key, w, hi, he⟩
  · rw [he] at h; cases h
  · rw [he] at h; cases h; exact ⟨q, key, w, hi, rfl⟩

theorem rearm_none {s : St} {now : Nat} {en : SEntry} (h : rearm s now en = none) :
    (s.timers.insert now (clampTimeout (restOf now en)) en.id).2.1 = .panic := by
  rcases rearm_out s now en with ⟨hp, _⟩ | ⟨q, key, w, hi, he⟩
  · exact hp
  · rw [he] at h; cases h

@[simp] theorem rearmUpd_id (id key now : Nat) (x : SEntry) : (rearmUpd id key now x).id = x.id := by
  unfold rearmUpd; split <;> rfl

@[simp] theorem rearmUpd_rid (id key now : Nat) (x : SEntry) : (rearmUpd id key now x).rid = x.rid := by
  unfold rearmUpd; split <;> rfl

theorem rearmUpd_ne {id key now : Nat} {x : SEntry} (h : x.id ≠ id) : rearmUpd id key now x = x := by
  unfold rearmUpd; rw [if_neg (by simpa using h)]

/-- the fields a successful `rearm` never touches -/
structure RearmFrame (s s' : St) : Prop where
  sidx : s'.sidx = s.sidx
  limit : s'.limit = s.limit
  ensureLoop : s'.ensureLoop = s.ensureLoop
  throttleAfterRead : s'.throttleAfterRead = s.throttleAfterRead
  cancelQ : s'.cancelQ = s.cancelQ
  cancelRxWaker : s'.cancelRxWaker = s.cancelRxWaker
  respQ : s'.respQ = s.respQ
  readFused : s'.readFused = s.readFused
  execs : s'.execs = s.execs
  done : s'.done = s.done
  dropped : s'.dropped = s.dropped
  t : s'.t = s.t
  rqWaiters : s'.rqWaiters = s.rqWaiters
  rqAssigned : s'.rqAssigned = s.rqAssigned
  rqAvail : s'.rqAvail = s.rqAvail
  nextVis : s'.nextVis = s.nextVis
  poisoned : s'.poisoned = s.poisoned
  nextFresh : s'.nextFresh = s.nextFresh
  respCap : s'.respCap = s.respCap
  rqRxWaker : s'.rqRxWaker = s.rqRxWaker

theorem rearm_frame {s s2 : St} {now : Nat} {en : SEntry} (h : rearm s now en = some s2) : RearmFrame s s2 := by
  rcases rearm_out s now en with ⟨_, he⟩ | ⟨q, key, w, _, he⟩
  · rw [he] at h; cases h
  · rw [he] at h
    cases h
    cases w <;> constructor <;> first | rfl | (simp only [if_true]; unfold wakeServer; split <;> rfl)

/-- the paths of one iteration of `poll_expired`'s loop -/
inductive ExpOut (s : St) (now : Nat) : St → Option ExpRes → Prop
  | idleNone (q : DelayQ) (hp : s.timers.pollExpired now = (q, .none)) :
      ExpOut s now { s with timers := q } (some .closed)
  | idlePending (q : DelayQ) (hp : s.timers.pollExpired now = (q, .pending)) :
      ExpOut s now { s with timers := q } (some .pending)
  | orphan (q : DelayQ) (e : DqEntry) (hp : s.timers.pollExpired now = (q, .expired e))
      (hf : findEntry { s with timers := q } e.val = none) : ExpOut s now { s with timers := q } (some .ready)
  | abort (q : DelayQ) (e : DqEntry) (en : SEntry) (hp : s.timers.pollExpired now = (q, .expired e))
      (hf : findEntry { s with timers := q } e.val = some en) (h0 : restOf now en = 0) :
      ExpOut s now (abortExec { s with timers := q, inflight := s.inflight.filter (·.id != e.val) } en.rid) (some .ready)
  | rearmed (q : DelayQ) (e : DqEntry) (en : SEntry) (s2 : St) (hp : s.timers.pollExpired now = (q, .expired e))
      (hf : findEntry { s with timers := q } e.val = some en) (h0 : restOf now en ≠ 0)
      (hr : rearm { s with timers := q } now en = some s2) : ExpOut s now s2 none
  | panicked (q : DelayQ) (e : DqEntry) (en : SEntry) (hp : s.timers.pollExpired now = (q, .expired e))
      (hf : findEntry { s with timers := q } e.val = some en) (h0 : restOf now en ≠ 0)
      (hr : rearm { s with timers := q } now en = none) :
      ExpOut s now (emit { s with poisoned := true } (.panic (tid s) "DelayQueue::insert: invalid deadline"))
        (some .closed)

theorem expireStep_out (s : St) (now : Nat) : ExpOut s now (expireStep s now).1 (expireStep s now).2 := by
  unfold expireStep
  split
  · next q e hp =>
    simp only
    split
    · next en hf =>
      split
      · next h0 =>
        have h0' : restOf now en ≠ 0 := by simpa using h0
        split
        · next s2 hr => exact ExpOut.rearmed q e en s2 hp hf h0' hr
        · next hr => exact ExpOut.panicked q e en hp hf h0' hr
      · next h0 =>
        have h0' : restOf now en = 0 := by simpa using h0
        exact ExpOut.abort q e en hp hf h0'
    · next hf => exact ExpOut.orphan q e hp hf
  · next q hp => exact ExpOut.idleNone q hp
  · next q hp => exact ExpOut.idlePending q hp

theorem pollExpiredLoop_zero (s : St) (now : Nat) :
    pollExpiredLoop 0 s now = (emit s (.spin (tid s)), .pending) := rfl

theorem pollExpiredLoop_succ (fuel : Nat) (s : St) (now : Nat) :
    pollExpiredLoop (fuel + 1) s now =
      match expireStep s now with
      | (s', some r) => (s', r)
      | (s', none) => pollExpiredLoop fuel s' now := rfl

theorem pollExpiredLoop_iter (now n : Nat) (s s' : St) (o : Option ExpRes) (h : expireStep s now = (s', o)) :
    pollExpiredLoop (n + 1) s now = o.elim (pollExpiredLoop n s' now) fun r => (s', r) := by
  rw [pollExpiredLoop_succ, h]; cases o <;> rfl

/-- `poll_expired`: `hempty` is the exit on an empty table -/
theorem pollExpired_loop {now : Nat} {I : St → Prop} {Φ : St → ExpRes → Prop}
    (hstep : ∀ s, I s → IterSpec I Φ (expireStep s now))
    (hspin : ∀ s, I s → Φ (emit s (.spin (tid s))) .pending) (hempty : ∀ s, I s → Φ s .closed) (s : St) (h : I s) :
    Φ (pollExpired s now).1 (pollExpired s now).2 := by
  unfold pollExpired
  split
  · exact hempty s h
  · exact fuel_loop (loop := fun n s => pollExpiredLoop n s now) (step := fun s => expireStep s now)
      (pollExpiredLoop_iter now) (I := fun _ => I)
      (fun _ => hstep) hspin _ s h

theorem pollExpired_ind {P : St → Prop} (now : Nat) (hspin : ∀ s, P s → P (emit s (.spin (tid s))))
    (hstep : ∀ s, P s → P (expireStep s now).1) (s : St) (h : P s) : P (pollExpired s now).1 :=
  pollExpired_loop (Φ := fun s _ => P s) (fun s h => .const (hstep s h)) hspin (fun _ h => h) s h

/-- the relational form -/
theorem pollExpired_rel {R : St → St → Prop} (now : Nat) (hrefl : ∀ s, R s s)
    (htrans : ∀ a b c, R a b → R b c → R a c) (hspin : ∀ s, R s (emit s (.spin (tid s))))
    (hstep : ∀ s, R s (expireStep s now).1) (s : St) : R s (pollExpired s now).1 :=
  pollExpired_ind (P := R s) now (fun s1 h => htrans _ _ _ h (hspin s1)) (fun s1 h => htrans _ _ _ h (hstep s1)) s (hrefl s)

end TarpcModel.Server
