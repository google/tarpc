import TarpcModel.Monitors.C19
/-
Lemmas for the C19 property theorems (`Props/C19.lean`).  The idea of most proofs: `both` and `beforeList` are derived forms,
so an induction over stacks has three real cases (`Serve.ind3`).
-/
namespace TarpcModel.Hooks

/-- The context after the (passing) before-hooks `hs` have edited it in order. -/
def applyEdits (hs : List Hook) (c : Ctx) : Ctx := hs.foldl (fun c h => h.edit.apply c) c

def allPass (hs : List Hook) : Prop := ∀ h ∈ hs, h.fail = false

def Event.isBefore : Event → Bool
  | .before .. => true
  | _ => false

def Event.isBeforeOk : Event → Bool
  | .before _ _ _ false => true
  | _ => false

def Event.isHandler : Event → Bool
  | .handler .. => true
  | _ => false

def Event.isAfter : Event → Bool
  | .after .. => true
  | _ => false

@[simp] theorem isBefore_before (t c q f) : (Event.before t c q f).isBefore = true := rfl
@[simp] theorem isBefore_handler (t c q) : (Event.handler t c q).isBefore = false := rfl
@[simp] theorem isBefore_after (t c r) : (Event.after t c r).isBefore = false := rfl
@[simp] theorem isHandler_before (t c q f) : (Event.before t c q f).isHandler = false := rfl
@[simp] theorem isHandler_handler (t c q) : (Event.handler t c q).isHandler = true := rfl
@[simp] theorem isHandler_after (t c r) : (Event.after t c r).isHandler = false := rfl
@[simp] theorem isAfter_before (t c q f) : (Event.before t c q f).isAfter = false := rfl
@[simp] theorem isAfter_handler (t c q) : (Event.handler t c q).isAfter = false := rfl
@[simp] theorem isAfter_after (t c r) : (Event.after t c r).isAfter = true := rfl

theorem not_isHandler_of_isBeforeOk : ∀ {e : Event}, e.isBeforeOk = true → ¬ e.isHandler = true
  | .before .., _ => by simp
  | .handler .., h => by cases h
  | .after .., h => by cases h

theorem not_isHandler_of_isAfter : ∀ {e : Event}, e.isAfter = true → ¬ e.isHandler = true
  | .before .., h => by cases h
  | .handler .., h => by cases h
  | .after .., _ => by simp

/-- Number of after-hook invocations. -/
def afterCount (evs : List Event) : Nat := (evs.filter Event.isAfter).length

/-- All before-hooks of a stack in the order outermost wrapper first, list elements left to right. -/
def befores : Serve → List Hook
  | .leaf _ _ => []
  | .before h s => h :: befores s
  | .beforeList hs s => hs ++ befores s
  | .after s _ => befores s
  | .both h s => h :: befores s

def handlerTag : Serve → Nat
  | .leaf t _ => t
  | .before _ s => handlerTag s
  | .beforeList _ s => handlerTag s
  | .after s _ => handlerTag s
  | .both _ s => handlerTag s

/-- Replace every hook's after-part context edit. -/
def Hook.withAedit (h : Hook) (e : CtxEdit) : Hook := { h with aedit := e }

def setAedits (f : Hook → CtxEdit) : Serve → Serve
  | .leaf t r => .leaf t r
  | .before h s => .before (h.withAedit (f h)) (setAedits f s)
  | .beforeList hs s => .beforeList (hs.map fun h => h.withAedit (f h)) (setAedits f s)
  | .after s h => .after (setAedits f s) (h.withAedit (f h))
  | .both h s => .both (h.withAedit (f h)) (setAedits f s)

/-! ### `then`, lists -/

theorem thenL_eq_append (l : List Hook) (h : Hook) : thenL l h = l ++ [h] := by
  induction l with
  | nil => rfl
  | cons f r ih => simp [thenL, ih]

theorem foldl_thenL (acc hs : List Hook) : hs.foldl thenL acc = acc ++ hs := by
  induction hs generalizing acc with
  | nil => simp
  | cons h hs ih => simp [ih, thenL_eq_append]

theorem chain_eq (hs : List Hook) : chain hs = hs := by
  simp [chain, foldl_thenL]

@[simp] theorem applyEdits_nil (c : Ctx) : applyEdits [] c = c := rfl

@[simp] theorem applyEdits_cons (h : Hook) (hs : List Hook) (c : Ctx) :
    applyEdits (h :: hs) c = applyEdits hs (h.edit.apply c) := rfl

theorem applyEdits_append (l1 l2 : List Hook) (c : Ctx) :
    applyEdits (l1 ++ l2) c = applyEdits l2 (applyEdits l1 c) := by
  simp [applyEdits, List.foldl_append]

theorem runList_cons_pass (h : Hook) (hs : List Hook) (c : Ctx) (q : Req) (hf : h.fail = false) :
    runList (h :: hs) c q =
      (.before h.tag c q false :: (runList hs (h.edit.apply c) q).1, (runList hs (h.edit.apply c) q).2) := by
  simp [runList, hf]

theorem runList_cons_fail (h : Hook) (hs : List Hook) (c : Ctx) (q : Req) (hf : h.fail = true) :
    runList (h :: hs) c q = ([.before h.tag c q true], .err h.tag) := by
  simp [runList, hf]

theorem runList_append (l1 l2 : List Hook) (c : Ctx) (q : Req) :
    runList (l1 ++ l2) c q =
      match (runList l1 c q).2 with
      | .err e => ((runList l1 c q).1, .err e)
      | .ok c' => ((runList l1 c q).1 ++ (runList l2 c' q).1, (runList l2 c' q).2) := by
  induction l1 generalizing c with
  | nil => simp [runList]
  | cons h hs ih =>
    by_cases hf : h.fail = true
    · simp [runList, hf]
    · simp only [List.cons_append, runList, hf]
      rw [ih]
      cases hr : (runList hs (h.edit.apply c) q).2 <;> simp

theorem runList_allPass (hs : List Hook) (c : Ctx) (q : Req) (hp : allPass hs) :
    (runList hs c q).2 = .ok (applyEdits hs c) ∧ (runList hs c q).1.length = hs.length ∧
      ∀ e ∈ (runList hs c q).1, e.isBeforeOk = true := by
  induction hs generalizing c with
  | nil => simp [runList]
  | cons h hs ih =>
    have h1 : h.fail = false := hp h (by simp)
    have h2 : allPass hs := fun x hx => hp x (by simp [hx])
    have := ih (h.edit.apply c) h2
    simp [runList, h1, this, Event.isBeforeOk]
    exact this.2.2

/-- A failing hook after passing ones: it is the last invocation and its error is the outcome. -/
theorem runList_first_failure (pre post : List Hook) (h : Hook) (c : Ctx) (q : Req)
    (hp : allPass pre) (hf : h.fail = true) :
    runList (pre ++ h :: post) c q =
      ((runList pre c q).1 ++ [.before h.tag (applyEdits pre c) q true], .err h.tag) := by
  rw [runList_append, (runList_allPass pre c q hp).1]
  simp [runList, hf]

theorem runList_pass_at (pre post : List Hook) (h : Hook) (c : Ctx) (q : Req)
    (hp : allPass pre) (hf : h.fail = false) :
    runList (pre ++ h :: post) c q =
      ((runList pre c q).1 ++ .before h.tag (applyEdits pre c) q false ::
          (runList post (applyEdits (pre ++ [h]) c) q).1,
        (runList post (applyEdits (pre ++ [h]) c) q).2) := by
  rw [runList_append, (runList_allPass pre c q hp).1]
  simp [runList, hf, applyEdits_append]

/-- The outcome of a list is either the fully edited context (all pass) or the error of the first
failing hook. -/
theorem runList_outcome (hs : List Hook) (c : Ctx) (q : Req) :
    (allPass hs ∧ (runList hs c q).2 = .ok (applyEdits hs c)) ∨
    (∃ pre h post, hs = pre ++ h :: post ∧ allPass pre ∧ h.fail = true ∧
        (runList hs c q).2 = .err h.tag) := by
  induction hs generalizing c with
  | nil => left; simp [runList, allPass]
  | cons h hs ih =>
    rcases Bool.eq_false_or_eq_true h.fail with hf | hf'
    · right; exact ⟨[], h, hs, rfl, by simp [allPass], hf, by simp [runList, hf]⟩
    · rcases ih (h.edit.apply c) with ⟨hp, ho⟩ | ⟨pre, x, post, he, hp, hx, ho⟩
      · exact .inl ⟨List.forall_mem_cons.mpr ⟨hf', hp⟩, by simp [runList, hf', ho]⟩
      · exact .inr ⟨h :: pre, x, post, by simp [he], List.forall_mem_cons.mpr ⟨hf', hp⟩, hx,
          by simp [runList, hf', ho]⟩

/-! ### equations of `eval` in rewriting form -/

theorem eval_leaf (t : Nat) (r : Res) (c : Ctx) (q : Req) :
    eval (.leaf t r) c q = ([.handler t c q], r) := rfl

theorem eval_before_fail (h : Hook) (s : Serve) (c : Ctx) (q : Req) (hf : h.fail = true) :
    eval (.before h s) c q = ([.before h.tag c q true], .err h.tag) := by
  simp [eval, hf]

theorem eval_before_pass (h : Hook) (s : Serve) (c : Ctx) (q : Req) (hf : h.fail = false) :
    eval (.before h s) c q =
      (.before h.tag c q false :: (eval s (h.edit.apply c) q).1, (eval s (h.edit.apply c) q).2) := by
  simp [eval, hf]

theorem eval_beforeList_err (hs : List Hook) (s : Serve) (c : Ctx) (q : Req) (e : Nat)
    (hr : (runList hs c q).2 = .err e) :
    eval (.beforeList hs s) c q = ((runList hs c q).1, .err e) := by
  simp [eval, hr]

theorem eval_beforeList_ok (hs : List Hook) (s : Serve) (c c' : Ctx) (q : Req)
    (hr : (runList hs c q).2 = .ok c') :
    eval (.beforeList hs s) c q = ((runList hs c q).1 ++ (eval s c' q).1, (eval s c' q).2) := by
  simp [eval, hr]

theorem eval_after (s : Serve) (h : Hook) (c : Ctx) (q : Req) :
    eval (.after s h) c q =
      ((eval s c q).1 ++ [.after h.tag c (eval s c q).2], h.redit.apply (eval s c q).2) := by
  simp [eval]

theorem eval_both_fail (h : Hook) (s : Serve) (c : Ctx) (q : Req) (hf : h.fail = true) :
    eval (.both h s) c q = ([.before h.tag c q true], .err h.tag) := by
  simp [eval, hf]

theorem eval_both_pass (h : Hook) (s : Serve) (c : Ctx) (q : Req) (hf : h.fail = false) :
    eval (.both h s) c q =
      (.before h.tag c q false ::
          ((eval s (h.edit.apply c) q).1 ++
            [.after h.tag (h.edit.apply c) (eval s (h.edit.apply c) q).2]),
        h.redit.apply (eval s (h.edit.apply c) q).2) := by
  simp [eval, hf]

/-! ### `serving` / `beforeList` -/

theorem eval_beforeList_nil (s : Serve) (c : Ctx) (q : Req) :
    eval (.beforeList [] s) c q = eval s c q := by
  rw [eval_beforeList_ok [] s c c q (by simp [runList])]
  simp [runList]

theorem eval_serving (hs : List Hook) (s : Serve) (c : Ctx) (q : Req) :
    eval (serving hs s) c q = eval (.beforeList hs s) c q := by
  cases hs with
  | nil => simp [serving, eval_beforeList_nil]
  | cons h hs => rfl

theorem eval_beforeList_cons (h : Hook) (hs : List Hook) (s : Serve) (c : Ctx) (q : Req) :
    eval (.beforeList (h :: hs) s) c q = eval (.before h (.beforeList hs s)) c q := by
  rcases Bool.eq_false_or_eq_true h.fail with hf | hf'
  · rw [eval_before_fail _ _ _ _ hf, eval_beforeList_err _ _ _ _ h.tag (by simp [runList, hf])]
    simp [runList, hf]
  · rw [eval_before_pass _ _ _ _ hf']
    cases hr : (runList hs (h.edit.apply c) q).2 with
    | err e =>
      rw [eval_beforeList_err _ _ _ _ e hr, eval_beforeList_err _ _ _ _ e (by simp [runList, hf', hr])]
      simp [runList, hf']
    | ok c' =>
      rw [eval_beforeList_ok _ _ _ c' _ hr, eval_beforeList_ok _ _ _ c' _ (by simp [runList, hf', hr])]
      simp [runList, hf']

theorem eval_before_congr (h : Hook) {s s' : Serve} {q : Req} (e : ∀ c, eval s c q = eval s' c q) (c : Ctx) :
    eval (.before h s) c q = eval (.before h s') c q := by
  rcases Bool.eq_false_or_eq_true h.fail with hf | hf
  · rw [eval_before_fail _ _ _ _ hf, eval_before_fail _ _ _ _ hf]
  · rw [eval_before_pass _ _ _ _ hf, eval_before_pass _ _ _ _ hf, e]

theorem eval_beforeList_congr (hs : List Hook) {s s' : Serve} {q : Req} (e : ∀ c, eval s c q = eval s' c q) (c : Ctx) :
    eval (.beforeList hs s) c q = eval (.beforeList hs s') c q := by
  cases hr : (runList hs c q).2 with
  | err t => rw [eval_beforeList_err _ _ _ _ t hr, eval_beforeList_err _ _ _ _ t hr]
  | ok c' => rw [eval_beforeList_ok _ _ _ c' _ hr, eval_beforeList_ok _ _ _ c' _ hr, e]

theorem eval_beforeList_singleton (h : Hook) (s : Serve) (c : Ctx) (q : Req) :
    eval (.beforeList [h] s) c q = eval (.before h s) c q := by
  rw [eval_beforeList_cons]; exact eval_before_congr h (fun c => eval_beforeList_nil s c q) c

theorem eval_beforeList_append (l1 l2 : List Hook) (s : Serve) (c : Ctx) (q : Req) :
    eval (.beforeList (l1 ++ l2) s) c q = eval (.beforeList l1 (.beforeList l2 s)) c q := by
  induction l1 generalizing c with
  | nil => simp [eval_beforeList_nil]
  | cons h hs ih =>
    rw [List.cons_append, eval_beforeList_cons, eval_beforeList_cons]
    exact eval_before_congr h ih c

/-! ### `both` and `beforeList` are derived forms

`both h s` behaves as `before h (after s h)`, `beforeList (h :: hs) s` as `before h (beforeList hs s)`: a property that cannot
tell them apart needs the cases `leaf`, `before`, `after` only (`Serve.ind3`). -/

theorem eval_both (h : Hook) (s : Serve) (c : Ctx) (q : Req) :
    eval (.both h s) c q = eval (.before h (.after s h)) c q := by
  rcases Bool.eq_false_or_eq_true h.fail with hf | hf
  · rw [eval_both_fail _ _ _ _ hf, eval_before_fail _ _ _ _ hf]
  · rw [eval_both_pass _ _ _ _ hf, eval_before_pass _ _ _ _ hf, eval_after]

theorem conforms_both (h : Hook) (s : Serve) (c : Ctx) (q : Req) (evs : List Event) (r : Res) :
    conforms (.both h s) c q evs r = conforms (.before h (.after s h)) c q evs r := by
  simp only [conforms]

theorem conforms_beforeList_nil (s : Serve) (c : Ctx) (q : Req) (evs : List Event) (r : Res) :
    conforms (.beforeList [] s) c q evs r = conforms s c q evs r := by
  simp only [conforms, conformsList]

theorem conforms_beforeList_cons (h : Hook) (hs : List Hook) (s : Serve) (c : Ctx) (q : Req) (evs : List Event)
    (r : Res) : conforms (.beforeList (h :: hs) s) c q evs r = conforms (.before h (.beforeList hs s)) c q evs r := by
  simp only [conforms, conformsList]

theorem Serve.ind3 {P : Serve → Prop}
    (leaf : ∀ t r, P (.leaf t r))
    (before : ∀ h s, P s → P (.before h s))
    (after : ∀ s h, P s → P (.after s h))
    (listNil : ∀ s, P s → P (.beforeList [] s))
    (listCons : ∀ h hs s, P (.before h (.beforeList hs s)) → P (.beforeList (h :: hs) s))
    (both : ∀ h s, P (.before h (.after s h)) → P (.both h s)) : ∀ s, P s
  | .leaf t r => leaf t r
  | .before h s => before h s (ind3 leaf before after listNil listCons both s)
  | .after s h => after s h (ind3 leaf before after listNil listCons both s)
  | .both h s => both h s (before h _ (after s h (ind3 leaf before after listNil listCons both s)))
  | .beforeList hs s => by
    induction hs with
    | nil => exact listNil s (ind3 leaf before after listNil listCons both s)
    | cons h hs ih => exact listCons h hs s (before h _ ih)

/-! ### shape of the invocation sequence -/

/-- `before-ok* (handler | before-fail) after*`, and a failing before-hook's error is what the next
after-hook sees or, when no after-hook follows, the response. -/
def Shape (evs : List Event) (r : Res) : Prop :=
  ∃ bs m as, evs = bs ++ m :: as ∧ (∀ e ∈ bs, e.isBeforeOk = true) ∧ (∀ e ∈ as, e.isAfter = true) ∧
    ((∃ t c q, m = .handler t c q) ∨
     (∃ t c q, m = .before t c q true ∧
        ((as = [] ∧ r = .err t) ∨ (∃ t' c' as', as = .after t' c' (.err t) :: as'))))

theorem Shape.cons_before {evs : List Event} {r : Res} (t : Nat) (c : Ctx) (q : Req)
    (h : Shape evs r) : Shape (.before t c q false :: evs) r := by
  obtain ⟨bs, m, as, he, hb, ha, hm⟩ := h
  exact ⟨.before t c q false :: bs, m, as, by simp [he], List.forall_mem_cons.mpr ⟨rfl, hb⟩, ha, hm⟩

theorem Shape.snoc_after {evs : List Event} {r : Res} (t : Nat) (c : Ctx) (r' : Res)
    (h : Shape evs r) : Shape (evs ++ [.after t c r]) r' := by
  obtain ⟨bs, m, as, he, hb, ha, hm⟩ := h
  refine ⟨bs, m, as ++ [.after t c r], by simp [he], hb,
    List.forall_mem_append.mpr ⟨ha, List.forall_mem_singleton.mpr rfl⟩, ?_⟩
  rcases hm with hm | ⟨t0, c0, q0, hm, hx⟩
  · exact Or.inl hm
  · refine Or.inr ⟨t0, c0, q0, hm, Or.inr ?_⟩
    rcases hx with ⟨hnil, hr⟩ | ⟨t', c', as', has⟩
    · exact ⟨t, c, [], by simp [hnil, hr]⟩
    · exact ⟨t', c', as' ++ [.after t c r], by simp [has]⟩

theorem Shape.fail (t : Nat) (c : Ctx) (q : Req) : Shape [.before t c q true] (.err t) :=
  ⟨[], .before t c q true, [], rfl, by simp, by simp, Or.inr ⟨t, c, q, rfl, Or.inl ⟨rfl, rfl⟩⟩⟩

theorem eval_shape (s : Serve) (c : Ctx) (q : Req) : Shape (eval s c q).1 (eval s c q).2 := by
  revert c
  refine Serve.ind3 (P := fun s => ∀ c, Shape (eval s c q).1 (eval s c q).2) ?_ ?_ ?_ ?_ ?_ ?_ s
  · intro t r c; exact ⟨[], .handler t c q, [], rfl, by simp, by simp, Or.inl ⟨t, c, q, rfl⟩⟩
  · intro h s ih c
    rcases Bool.eq_false_or_eq_true h.fail with hf | hf'
    · rw [eval_before_fail _ _ _ _ hf]; exact Shape.fail _ _ _
    · rw [eval_before_pass _ _ _ _ hf']; exact (ih _).cons_before _ _ _
  · intro s h ih c; rw [eval_after]; exact (ih c).snoc_after _ _ _
  · intro s ih c; rw [eval_beforeList_nil]; exact ih c
  · intro h hs s ih c; rw [eval_beforeList_cons]; exact ih c
  · intro h s ih c; rw [eval_both]; exact ih c

theorem shapeRun_append (p : Option Phase) (l1 l2 : List Event) :
    shapeRun p (l1 ++ l2) = shapeRun (shapeRun p l1) l2 := by
  simp [shapeRun, List.foldl_append]

theorem shapeRun_fixed (p : Option Phase) (l : List Event) (h : ∀ e ∈ l, shapeStep p e = p) :
    shapeRun p l = p := by
  induction l with
  | nil => rfl
  | cons e l ih =>
    have : shapeRun p (e :: l) = shapeRun (shapeStep p e) l := rfl
    rw [this, h e (by simp), ih fun x hx => h x (by simp [hx])]

theorem shapeStep_beforeOk : ∀ {e : Event}, e.isBeforeOk = true → shapeStep (some .down) e = some .down
  | .before _ _ _ false, _ => rfl
  | .before _ _ _ true, h => by cases h
  | .handler .., h => by cases h
  | .after .., h => by cases h

theorem shapeStep_after : ∀ {e : Event}, e.isAfter = true → shapeStep (some .up) e = some .up
  | .before .., h => by cases h
  | .handler .., h => by cases h
  | .after .., _ => rfl

theorem shapeRun_beforeOk (bs : List Event) (hb : ∀ e ∈ bs, e.isBeforeOk = true) :
    shapeRun (some .down) bs = some .down :=
  shapeRun_fixed _ _ fun e he => shapeStep_beforeOk (hb e he)

theorem shapeRun_after_up (as : List Event) (ha : ∀ e ∈ as, e.isAfter = true) :
    shapeRun (some .up) as = some .up :=
  shapeRun_fixed _ _ fun e he => shapeStep_after (ha e he)

theorem shapeOk_of_shape {evs : List Event} {r : Res} (h : Shape evs r) : shapeOk evs r = true := by
  obtain ⟨bs, m, as, he, hb, ha, hm⟩ := h
  subst he
  unfold shapeOk
  rw [shapeRun_append, shapeRun_beforeOk bs hb]
  rcases hm with ⟨t, c, q, rfl⟩ | ⟨t, c, q, rfl, hx⟩
  · have : shapeRun (some .down) (.handler t c q :: as) = shapeRun (some .up) as := rfl
    rw [this, shapeRun_after_up as ha]
  · have h1 : shapeRun (some .down) (.before t c q true :: as) = shapeRun (some (.failed t)) as := rfl
    rw [h1]
    rcases hx with ⟨rfl, rfl⟩ | ⟨t', c', as', rfl⟩
    · simp [shapeRun]
    · have h2 : shapeRun (some (.failed t)) (.after t' c' (.err t) :: as') = shapeRun (some .up) as' := by
        simp [shapeRun, shapeStep]
      rw [h2, shapeRun_after_up as' (fun x hx => ha x (by simp [hx]))]

/-! ### `conforms` is exactly "is the behaviour of `eval`" -/

theorem conforms_before_iff (h : Hook) (s : Serve) (c : Ctx) (q : Req) (evs : List Event) (r : Res) :
    conforms (.before h s) c q evs r = true ↔
      ∃ rest, evs = .before h.tag c q h.fail :: rest ∧
        if h.fail then rest = [] ∧ r = .err h.tag else conforms s (h.edit.apply c) q rest r = true := by
  cases evs with
  | nil => simp [conforms]
  | cons ev rest => cases ev <;> simp [conforms, and_assoc]

theorem conforms_after_iff (s : Serve) (h : Hook) (c : Ctx) (q : Req) (evs : List Event) (r : Res) :
    conforms (.after s h) c q evs r = true ↔
      ∃ init rin, evs = init ++ [.after h.tag c rin] ∧ r = h.redit.apply rin ∧
        conforms s c q init rin = true := by
  rcases List.eq_nil_or_concat evs with rfl | ⟨init, ev, rfl⟩
  · simp [conforms]
  · cases ev <;> simp [conforms, and_assoc]

theorem conforms_iff (s : Serve) (c : Ctx) (q : Req) (evs : List Event) (r : Res) :
    conforms s c q evs r = true ↔ eval s c q = (evs, r) := by
  revert c evs r
  refine Serve.ind3 (P := fun s => ∀ c evs r, conforms s c q evs r = true ↔ eval s c q = (evs, r)) ?_ ?_ ?_ ?_ ?_ ?_ s
  · intro t r0 c evs r
    rw [eval_leaf, Prod.mk.injEq]
    simp only [conforms, Bool.and_eq_true, beq_iff_eq]
    exact ⟨fun ⟨h1, h2⟩ => ⟨h1.symm, h2.symm⟩, fun ⟨h1, h2⟩ => ⟨h1.symm, h2.symm⟩⟩
  · intro h s ih c evs r
    rw [conforms_before_iff]
    rcases Bool.eq_false_or_eq_true h.fail with hf | hf
    · simp only [eval_before_fail _ _ _ _ hf, hf, if_true]
      exact ⟨fun ⟨_, h1, h2, h3⟩ => by rw [h1, h2, h3], fun h => by cases h; exact ⟨[], rfl, rfl, rfl⟩⟩
    · simp only [eval_before_pass _ _ _ _ hf, hf, Bool.false_eq_true, if_false]
      exact ⟨fun ⟨_, h1, h2⟩ => by rw [h1, (ih _ _ _).1 h2], fun h => by cases h; exact ⟨_, rfl, (ih _ _ _).2 rfl⟩⟩
  · intro s h ih c evs r
    rw [conforms_after_iff, eval_after]
    exact ⟨fun ⟨_, _, h1, h2, h3⟩ => by rw [h1, h2, (ih _ _ _).1 h3],
      fun h => by cases h; exact ⟨_, _, rfl, rfl, (ih _ _ _).2 rfl⟩⟩
  · intro s ih c evs r; rw [conforms_beforeList_nil, eval_beforeList_nil]; exact ih c evs r
  · intro h hs s ih c evs r; rw [conforms_beforeList_cons, eval_beforeList_cons]; exact ih c evs r
  · intro h s ih c evs r; rw [conforms_both, eval_both]; exact ih c evs r

/-! ### the before-hooks of a whole stack behave as one flat list -/

/-- What the handler-invocations of a call must be, given the outcome of all before-hooks. -/
def handlerEvents (t : Nat) (q : Req) : BOut → List Event
  | .ok c' => [.handler t c' q]
  | .err _ => []

theorem eval_befores (s : Serve) (c : Ctx) (q : Req) :
    (eval s c q).1.filter Event.isBefore = (runList (befores s) c q).1 ∧
    (eval s c q).1.filter Event.isHandler =
      handlerEvents (handlerTag s) q (runList (befores s) c q).2 := by
  revert c
  refine Serve.ind3 (P := fun s => ∀ c, (eval s c q).1.filter Event.isBefore = (runList (befores s) c q).1 ∧
    (eval s c q).1.filter Event.isHandler = handlerEvents (handlerTag s) q (runList (befores s) c q).2)
    ?_ ?_ ?_ ?_ ?_ ?_ s
  · intro t r c
    simp [eval, befores, runList, Event.isBefore, Event.isHandler, handlerEvents, handlerTag]
  · intro h s ih c
    rcases Bool.eq_false_or_eq_true h.fail with hf | hf
    · simp [eval_before_fail _ _ _ _ hf, befores, runList_cons_fail _ _ _ _ hf, Event.isBefore,
        Event.isHandler, handlerEvents]
    · simp [eval_before_pass _ _ _ _ hf, befores, runList_cons_pass _ _ _ _ hf, List.filter_cons,
        ih (h.edit.apply c), handlerTag]
  · intro s h ih c
    simp [eval_after, befores, Event.isBefore, Event.isHandler, ih c, handlerTag]
  · intro s ih c; rw [eval_beforeList_nil]; exact ih c
  · intro h hs s ih c; rw [eval_beforeList_cons]; exact ih c
  · intro h s ih c; rw [eval_both]; exact ih c

/-! ### an after-hook's own context edit is invisible -/

theorem eval_setAedits (f : Hook → CtxEdit) (s : Serve) (c : Ctx) (q : Req) :
    eval (setAedits f s) c q = eval s c q := by
  revert c
  refine Serve.ind3 (P := fun s => ∀ c, eval (setAedits f s) c q = eval s c q) ?_ ?_ ?_ ?_ ?_ ?_ s
  · intro t r c; rfl
  · intro h s ih c; simp [setAedits, eval, Hook.withAedit, ih]
  · intro s h ih c; simp [setAedits, eval, Hook.withAedit, ih]
  · intro s ih c; simpa only [setAedits, List.map_nil, eval_beforeList_nil] using ih c
  · intro h hs s ih c; simpa only [setAedits, List.map_cons, eval_beforeList_cons] using ih c
  · intro h s ih c; simpa only [setAedits, eval_both] using ih c

/-! ### the monitor accepts every sequence of model calls -/

theorem foldl_monStep_evs (m : MonSt) (x : Serve × Ctx × Req) (hm : m.cur = some x) (evs : List Event) :
    (evs.map Obs.ev).foldl monStep m = { m with evs := evs.reverse ++ m.evs } := by
  induction evs generalizing m with
  | nil => simp
  | cons e evs ih =>
    simp only [List.map_cons, List.foldl_cons]
    have h1 : monStep m (.ev e) = { m with evs := e :: m.evs } := by simp [monStep, hm]
    rw [h1, ih _ (by simpa using hm)]
    simp

theorem mon_callObs (m : MonSt) (hok : m.ok = true) (hcur : m.cur = none) (hevs : m.evs = [])
    (s : Serve) (c : Ctx) (q : Req) :
    (callObs s c q).foldl monStep m = m := by
  unfold callObs
  simp only [List.foldl_cons, List.foldl_append, List.foldl_nil]
  have h1 : monStep m (.call s c q) = { m with cur := some (s, c, q), evs := [] } := by
    simp [monStep, hcur]
  rw [h1, foldl_monStep_evs _ (s, c, q) rfl]
  simp [monStep, shapeOk_of_shape (eval_shape s c q), (conforms_iff s c q _ _).2 rfl]
  cases m; simp_all

end TarpcModel.Hooks
