import TarpcModel.Lemmas.DelayQReach
/-!
What a timer queue looks like to its owner when the owner's poll has just gone idle (`DelayQ.Idle`), and the two ways
the client / server models establish it: the queue is empty, or the owner's last `poll_expired` on a queue satisfying
the two-sided wheel invariant reported nothing (`DelayQ.pollExpired_nothing_due`).
-/
namespace TarpcModel

/-- a timer that is the millisecond ceiling of a due time not after `dl` fires no later than the millisecond tick of `dl` -/
theorem tick_le_ceil {w due dl : Nat} (h4 : w * nsPerMs < due + nsPerMs) (hle : due ≤ dl) :
    w * nsPerMs ≤ ceilMs dl * nsPerMs := by
  unfold ceilMs nsPerMs at *
  omega

end TarpcModel

namespace TarpcModel.DelayQ

/-- The owner's poll has just gone idle at clock `now`: no entry is due, and — if entries remain — the owner's waker is
stored and the `Sleep` is registered for an instant that lies in the future and not after any remaining tick. -/
structure Idle (now : Nat) (q : DelayQ) : Prop where
  notDue : ∀ e ∈ q.items, now < e.whenMs * nsPerMs
  armed : ∀ e ∈ q.items, q.waker = true ∧ ∃ t, q.nextFire = some t ∧ now < t ∧ t ≤ e.whenMs * nsPerMs

theorem Idle.of_items_nil {now : Nat} {q : DelayQ} (h : q.items = []) : Idle now q := by
  constructor <;> (rw [h]; simp)

theorem Idle.of_empty {now : Nat} {q : DelayQ} (h : q.isEmpty = true) : Idle now q :=
  Idle.of_items_nil ((isEmpty_iff q).1 h)

theorem Idle.of_poll {now : Nat} {q q' : DelayQ} {r : PollRes} (hq : Complete q)
    (hp : q.pollExpired now = (q', r)) (hr : r = .pending ∨ r = .none) : Idle now q' := by
  obtain ⟨h1, h2, h3⟩ := pollExpired_nothing_due hq hp hr
  exact ⟨h1, fun e he => ⟨h2, h3 e he⟩⟩

/-- in terms of the `(key, value, tick)` triples -/
theorem Idle.cores {now : Nat} {q : DelayQ} (h : Idle now q) : ∀ k ∈ q.cores, now < k.2.2 * nsPerMs := by
  intro k hk
  obtain ⟨e, he, rfl⟩ := mem_cores_iff.1 hk
  exact h.notDue e he

/-- the wake-up is not late: at any clock at which a remaining entry is due, `nextFire` has been reached with the
waker stored (the condition under which the models' `onAdvance` wakes the owner) -/
theorem Idle.wakes {now : Nat} {q : DelayQ} (h : Idle now q) {e : DqEntry} (he : e ∈ q.items) {now' : Nat}
    (hdue : e.whenMs * nsPerMs ≤ now') : ∃ t, q.nextFire = some t ∧ (decide (t ≤ now') && q.waker) = true := by
  obtain ⟨hw, t, ht, _, hle⟩ := h.armed e he
  exact ⟨t, ht, by simp only [hw, Bool.and_true, decide_eq_true_eq]; omega⟩

end TarpcModel.DelayQ
