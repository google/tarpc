import TarpcModel.Lemmas.ServerTab1
/-!
The third coupling `Y` between the monitor's book and the model (on top of `Mon06.K` and `Tab.X`), for the table clause
of the C11 monitor ("channel idle: n reported in flight, m yielded requests unanswered, uncancelled, unexpired and not
abandoned"), for scripts whose deadlines lie within the clamp horizon (no timer is ever re-armed):

* (`gl`, `arm`) the book's `gone` mark of an execution says that it is no longer live; a live execution that has been handed out
  holds an armed guard;
* (`nv`, `pnd`) an entry of the model's table whose execution has not been handed out is the one pending in this poll, or its guard
  cancellation is queued;
* (`lo`, `rem0`, `near`) the timer of a tracked request is due no earlier than `max deadline yieldedAt` (`X.hi` has the other bound; never re-armed:
  `rem = 0`);
* (`cqab`, `i3`) the ids in the guard-cancellation queue belong to executions the book knows as abandoned; a tracked request the book
  knows as abandoned has its guard cancellation queued;
* (`i2`) every entry of the book's table is tracked by the model, or due, or abandoned.
-/
namespace TarpcModel.Server.Tab
open TarpcModel TarpcModel.Server TarpcModel.Server.Flow TarpcModel.Server.ObsMon TarpcModel.Server.Mon06

/-- (`pend`: the request started in this poll and not yet handed out) -/
structure Y (now : Nat) (pend : Option (Nat × Nat)) (B : BW) (S : MV) : Prop where
  gl : ∀ x ∈ S.execs, ∀ eb ∈ B.execs, x.vis = some eb.rid → (eb.gone = true ↔ x.live = false)
  arm : ∀ x ∈ S.execs, x.vis ≠ none → x.live = true → x.armed = true
  nv : ∀ x ∈ S.execs, x.vis = none → ∀ en ∈ S.ents, en.rid = x.rid → (∃ i, pend = some (x.rid, i)) ∨ x.id ∈ S.cq
  pnd : ∀ r i, pend = some (r, i) → (∃ en ∈ S.ents, en.id = i ∧ en.rid = r ∧ now ≤ en.due) ∧
    ∀ x ∈ S.execs, x.rid = r → x.live = true
  rem0 : ∀ en ∈ S.ents, en.rem = 0
  lo : ∀ en ∈ S.ents, ∀ x ∈ S.execs, x.rid = en.rid → ∀ eb ∈ B.execs, x.vis = some eb.rid →
    max eb.deadline eb.yieldedAt ≤ en.due
  near : ∀ i d tr b, Inb.msg (.request i d tr b) ∈ S.inb → d ≤ clampNs
  cqab : ∀ i ∈ S.cq, ∀ eb ∈ B.execs, eb.id = i → eb.abandoned = true
  i3 : S.dropped = false → ∀ en ∈ S.ents, ∀ x ∈ S.execs, x.rid = en.rid → ∀ eb ∈ B.execs, x.vis = some eb.rid →
    eb.abandoned = true → en.id ∈ S.cq
  i2 : S.dropped = false → ∀ p ∈ B.table, ∃ eb ∈ B.execs, eb.rid = p.2 ∧ eb.id = p.1 ∧
    ((∃ en ∈ S.ents, en.id = p.1) ∨ eb.tick ≤ B.now ∨ eb.abandoned = true)

variable {now : Nat} {pend : Option (Nat × Nat)}

theorem Y.book {B B' : BW} {S : MV} (h : Y now pend B S) (f : WB → WB) (hb : B'.execs = B.execs.map f)
    (hf : ∀ e, (f e).rid = e.rid ∧ (f e).id = e.id ∧ (f e).deadline = e.deadline ∧ (f e).yieldedAt = e.yieldedAt ∧
      (f e).abandoned = e.abandoned ∧ (f e).gone = e.gone)
    (htab : ∀ p ∈ B'.table, p ∈ B.table) (hbn : B'.now = B.now) : Y now pend B' S := by
  have hmem := mem_of_eq_map hb
  have htick : ∀ e, (f e).tick = e.tick := by
    intro e; unfold WB.tick; rw [(hf e).2.2.1, (hf e).2.2.2.1]
  refine ⟨?_, h.arm, h.nv, h.pnd, h.rem0, ?_, h.near, ?_, ?_, ?_⟩
  · intro x hx eb' heb' hv
    obtain ⟨eb, heb, rfl⟩ := hmem eb' heb'
    rw [(hf eb).1] at hv
    rw [(hf eb).2.2.2.2.2]
    exact h.gl x hx eb heb hv
  · intro en hen x hx hr eb' heb' hv
    obtain ⟨eb, heb, rfl⟩ := hmem eb' heb'
    rw [(hf eb).1] at hv
    rw [(hf eb).2.2.1, (hf eb).2.2.2.1]
    exact h.lo en hen x hx hr eb heb hv
  · intro j hj eb' heb' hei
    obtain ⟨eb, heb, rfl⟩ := hmem eb' heb'
    rw [(hf eb).2.1] at hei
    rw [(hf eb).2.2.2.2.1]
    exact h.cqab j hj eb heb hei
  · intro hd en hen x hx hr eb' heb' hv hab
    obtain ⟨eb, heb, rfl⟩ := hmem eb' heb'
    rw [(hf eb).1] at hv
    rw [(hf eb).2.2.2.2.1] at hab
    exact h.i3 hd en hen x hx hr eb heb hv hab
  · intro hd p hp
    obtain ⟨eb, heb, a1, a2, a3⟩ := h.i2 hd p (htab p hp)
    refine ⟨f eb, by rw [hb]; exact List.mem_map_of_mem heb, (hf eb).1.trans a1, (hf eb).2.1.trans a2, ?_⟩
    rw [htick, (hf eb).2.2.2.2.1, hbn]
    exact a3

theorem Y.le {B B' : BW} {S : MV} (h : Y now pend B S) (hl : BW.le B B') : Y now pend B' S :=
  h.book id (by rw [hl.execs, List.map_id]) (fun e => ⟨rfl, rfl, rfl, rfl, rfl, rfl⟩) hl.table hl.now

theorem Y.congr {B : BW} {S S' : MV} (h : Y now pend B S) (hex : S'.execs = S.execs) (hen : S'.ents = S.ents)
    (hcq : S'.cq = S.cq) (hinb : S'.inb = S.inb) (hdr : S'.dropped = S.dropped) : Y now pend B S' :=
  ⟨by rw [hex]; exact h.gl, by rw [hex]; exact h.arm, by rw [hex, hen, hcq]; exact h.nv, by rw [hex, hen]; exact h.pnd,
    by rw [hen]; exact h.rem0, by rw [hex, hen]; exact h.lo, by rw [hinb]; exact h.near, by rw [hcq]; exact h.cqab,
    by rw [hex, hen, hcq, hdr]; exact h.i3, by rw [hen, hdr]; exact h.i2⟩

theorem Y.forget {B B' : BW} {S : MV} (h : Y now pend B S) (hB : BW.le B B') (i : Nat) (cq' : List Nat)
    (heid : ∀ en ∈ S.ents, ∀ x ∈ S.execs, x.rid = en.rid → x.id = en.id)
    (hcq : ∀ j ∈ cq', j ∈ S.cq) (hcq' : ∀ j ∈ S.cq, j ≠ i → j ∈ cq')
    (hpk : ∀ r j, pend = some (r, j) → j ≠ i)
    (hgone : ∀ p ∈ B'.table, p.1 = i → ∀ eb ∈ B'.execs, eb.id = i → eb.tick ≤ B'.now ∨ eb.abandoned = true) :
    Y now pend B' { S.forget i with cq := cq' } := by
  replace h := h.le hB
  have hsub : ∀ en ∈ (S.forget i).ents, en ∈ S.ents ∧ en.id ≠ i := fun en hen => MV.mem_forget.mp hen
  refine ⟨h.gl, h.arm, fun x hx hv en hen hr => ?_, fun r j hp => ?_, fun en hen => h.rem0 en (hsub en hen).1,
    fun en hen => h.lo en (hsub en hen).1, h.near, fun j hj => h.cqab j (hcq j hj), fun hd en hen x hx hr eb heb hv hab => ?_,
    fun hd p hp => ?_⟩
  · obtain ⟨hen, hne⟩ := hsub en hen
    refine (h.nv x hx hv en hen hr).imp id (fun hc => hcq' _ hc ?_)
    rw [heid en hen x hx hr.symm]; exact hne
  · obtain ⟨⟨en, hen, h1, h2, h3⟩, hl⟩ := h.pnd r j hp
    exact ⟨⟨en, MV.mem_forget.mpr ⟨hen, h1 ▸ hpk r j hp⟩, h1, h2, h3⟩, hl⟩
  · obtain ⟨hen, hne⟩ := hsub en hen
    exact hcq' _ (h.i3 hd en hen x hx hr eb heb hv hab) hne
  · obtain ⟨eb, heb, h1, h2, h3⟩ := h.i2 hd p hp
    refine ⟨eb, heb, h1, h2, ?_⟩
    rcases h3 with ⟨en, hen, hei⟩ | h3
    · by_cases hc : en.id = i
      · exact Or.inr (hgone p hp (hei.symm.trans hc) eb heb (h2.trans (hei.symm.trans hc)))
      · exact Or.inl ⟨en, MV.mem_forget.mpr ⟨hen, hc⟩, hei⟩
    · exact Or.inr h3

theorem Y.popCq {B : BW} {S : MV} (h : Y now none B S)
    (heid : ∀ en ∈ S.ents, ∀ x ∈ S.execs, x.rid = en.rid → x.id = en.id) : Y now none B S.popCq := by
  unfold MV.popCq
  split
  · exact h
  · next i l hq =>
    refine h.forget (BW.le.refl _) i l heid (fun j hj => hq ▸ List.mem_cons_of_mem _ hj)
      (fun j hj hne => ?_) nofun (fun p _ _ eb heb hei => Or.inr (h.cqab i (hq ▸ List.mem_cons_self ..) eb heb hei))
    rw [hq] at hj
    exact (List.mem_cons.mp hj).resolve_left hne

theorem Y.read {B : BW} {S : MV} (h : Y now pend B S) (m : Inb) (l : List Inb) (hinb : S.inb = m :: l) :
    Y now pend B { S with inb := l } :=
  ⟨h.gl, h.arm, h.nv, h.pnd, h.rem0, h.lo,
    fun i d tr b hm => h.near i d tr b (by rw [hinb]; exact List.mem_cons_of_mem _ hm), h.cqab, h.i3, h.i2⟩

theorem Y.inject {B : BW} {S : MV} (h : Y now pend B S) (m : Inb)
    (hm : ∀ i d tr b, m = .msg (.request i d tr b) → d ≤ clampNs) : Y now pend B { S with inb := S.inb ++ [m] } := by
  refine ⟨h.gl, h.arm, h.nv, h.pnd, h.rem0, h.lo, ?_, h.cqab, h.i3, h.i2⟩
  intro i d tr b hmem
  rcases List.mem_append.mp hmem with h1 | h1
  · exact h.near i d tr b h1
  · exact hm i d tr b (List.mem_singleton.mp h1).symm

theorem Y.advance {B B' : BW} {S : MV} {now' : Nat} (h : Y now none B S) (hex : B'.execs = B.execs)
    (htab : B'.table = B.table) (hn : B.now ≤ B'.now) : Y now' none B' S := by
  refine ⟨by rw [hex]; exact h.gl, h.arm, h.nv, fun r i hp => (by cases hp), h.rem0, by rw [hex]; exact h.lo, h.near,
    by rw [hex]; exact h.cqab, by rw [hex]; exact h.i3, ?_⟩
  intro hd p hp
  rw [htab] at hp
  obtain ⟨eb, heb, h1, h2, h3⟩ := h.i2 hd p hp
  exact ⟨eb, by rw [hex]; exact heb, h1, h2, h3.imp id (Or.imp (fun h => Nat.le_trans h hn) id)⟩

theorem Y.start {B : BW} {S : MV} (h : Y now none B S) (y : YE) (z : ZE) (hy : y.vis = none ∧ y.live = true)
    (hz : z.id = y.id ∧ z.rid = y.rid ∧ z.rem = 0 ∧ now ≤ z.due) (hfx : ∀ x ∈ S.execs, x.rid ≠ y.rid) :
    Y now (some (y.rid, y.id)) B (S.start y z) := by
  have hmx : ∀ x ∈ (S.start y z).execs, x ∈ S.execs ∨ x = y := fun x hx =>
    (List.mem_append.mp hx).imp id List.mem_singleton.mp
  have hme : ∀ en ∈ (S.start y z).ents, en ∈ S.ents ∨ en = z := fun en hen =>
    (List.mem_append.mp hen).imp id List.mem_singleton.mp
  have hzin : z ∈ (S.start y z).ents := List.mem_append_right _ (List.mem_singleton.mpr rfl)
  refine ⟨?_, ?_, ?_, ?_, ?_, ?_, h.near, h.cqab, ?_, ?_⟩
  · intro x hx eb heb hv
    rcases hmx x hx with h1 | h1
    · exact h.gl x h1 eb heb hv
    · rw [h1, hy.1] at hv; cases hv
  · intro x hx hv hl
    rcases hmx x hx with h1 | h1
    · exact h.arm x h1 hv hl
    · rw [h1] at hv; exact absurd hy.1 hv
  · intro x hx hv en hen hr
    rcases hmx x hx with h1 | h1
    · rcases hme en hen with h2 | h2
      · rcases h.nv x h1 hv en h2 hr with ⟨j, hp⟩ | hc
        · cases hp
        · exact Or.inr hc
      · rw [h2, hz.2.1] at hr; exact absurd hr.symm (hfx x h1)
    · rw [h1]; exact Or.inl ⟨y.id, rfl⟩
  · intro r j hp
    simp only [Option.some.injEq, Prod.mk.injEq] at hp
    obtain ⟨rfl, rfl⟩ := hp
    refine ⟨⟨z, hzin, hz.1, hz.2.1, hz.2.2.2⟩, ?_⟩
    intro x hx hr
    rcases hmx x hx with h1 | h1
    · exact absurd hr (hfx x h1)
    · rw [h1]; exact hy.2
  · intro en hen
    rcases hme en hen with h2 | h2
    · exact h.rem0 en h2
    · rw [h2]; exact hz.2.2.1
  · intro en hen x hx hr eb heb hv
    rcases hmx x hx with h1 | h1
    · rcases hme en hen with h2 | h2
      · exact h.lo en h2 x h1 hr eb heb hv
      · rw [h2, hz.2.1] at hr; exact absurd hr (hfx x h1)
    · rw [h1, hy.1] at hv; cases hv
  · intro hd en hen x hx hr eb heb hv hab
    rcases hmx x hx with h1 | h1
    · rcases hme en hen with h2 | h2
      · exact h.i3 hd en h2 x h1 hr eb heb hv hab
      · rw [h2, hz.2.1] at hr; exact absurd hr (hfx x h1)
    · rw [h1, hy.1] at hv; cases hv
  · intro hd p hp
    obtain ⟨eb, heb, h1, h2, h3⟩ := h.i2 hd p hp
    refine ⟨eb, heb, h1, h2, ?_⟩
    rcases h3 with ⟨en, hen, hei⟩ | h3
    · exact Or.inl ⟨en, List.mem_append_left _ hen, hei⟩
    · exact Or.inr h3

theorem Y.giveUp {B : BW} {S : MV} (h : Y now (some (r0, i0)) B S)
    (hr0 : ∀ x ∈ S.execs, x.rid = r0 → x.vis = none ∧ x.id = i0) (hnoeb : ∀ eb ∈ B.execs, eb.id ≠ i0) :
    Y now none B (S.giveUp r0 i0) := by
  have hg : ∀ x : YE, (x.giveUp r0).rid = x.rid ∧ (x.giveUp r0).id = x.id ∧ (x.giveUp r0).vis = x.vis ∧
      (x.rid ≠ r0 → x.giveUp r0 = x) := by
    intro x; unfold YE.giveUp; split
    · next hc => exact ⟨rfl, rfl, rfl, fun hne => absurd (by simpa using hc) hne⟩
    · exact ⟨rfl, rfl, rfl, fun _ => rfl⟩
  have hmem : ∀ x' ∈ (S.giveUp r0 i0).execs, ∃ a ∈ S.execs, x' = a.giveUp r0 := fun x' hx' => by
    obtain ⟨a, ha, rfl⟩ := List.mem_map.mp hx'; exact ⟨a, ha, rfl⟩
  have hsame : ∀ a ∈ S.execs, a.vis ≠ none → a.giveUp r0 = a :=
    fun a ha hv => (hg a).2.2.2 (fun hr => hv (hr0 a ha hr).1)
  refine ⟨?_, ?_, ?_, fun r i hp => (by cases hp), h.rem0, ?_, h.near, ?_, ?_, h.i2⟩
  · intro x' hx' eb heb hv
    obtain ⟨a, ha, rfl⟩ := hmem x' hx'
    have hv' : a.vis = some eb.rid := by rw [← (hg a).2.2.1]; exact hv
    rw [hsame a ha (by rw [hv']; exact Option.some_ne_none _)]
    exact h.gl a ha eb heb hv'
  · intro x' hx' hv hl
    obtain ⟨a, ha, rfl⟩ := hmem x' hx'
    have hv' : a.vis ≠ none := by rw [← (hg a).2.2.1]; exact hv
    rw [hsame a ha hv'] at hl ⊢
    exact h.arm a ha hv' hl
  · intro x' hx' hv en hen hr
    obtain ⟨a, ha, rfl⟩ := hmem x' hx'
    obtain ⟨h1, h2, h3, _⟩ := hg a
    rw [h3] at hv
    rw [h1] at hr ⊢
    rw [h2]
    show _ ∨ a.id ∈ S.cq ++ [i0]
    rcases h.nv a ha hv en hen hr with ⟨j, hp⟩ | hc
    · simp only [Option.some.injEq, Prod.mk.injEq] at hp
      right
      rw [(hr0 a ha hp.1.symm).2]
      exact List.mem_append_right _ (List.mem_singleton.mpr rfl)
    · exact Or.inr (List.mem_append_left _ hc)
  · intro en hen x' hx' hr eb heb hv
    obtain ⟨a, ha, rfl⟩ := hmem x' hx'
    have hv' : a.vis = some eb.rid := by rw [← (hg a).2.2.1]; exact hv
    rw [(hg a).1] at hr
    exact h.lo en hen a ha hr eb heb hv'
  · intro j hj eb heb hei
    rcases List.mem_append.mp hj with h1 | h1
    · exact h.cqab j h1 eb heb hei
    · rw [List.mem_singleton.mp h1] at hei; exact absurd hei (hnoeb eb heb)
  · intro hd en hen x' hx' hr eb heb hv hab
    obtain ⟨a, ha, rfl⟩ := hmem x' hx'
    have hv' : a.vis = some eb.rid := by rw [← (hg a).2.2.1]; exact hv
    rw [(hg a).1] at hr
    exact List.mem_append_left _ (h.i3 hd en hen a ha hr eb heb hv' hab)

theorem Y.handOut {B : BW} {S : MV} {r i : Nat} (h : Y now (some (r, i)) B S) (hbv : ∀ eb ∈ B.execs, eb.rid ≠ S.nextVis)
    (harm : ∀ x ∈ S.execs, x.rid = r → x.armed = true) : Y now none B (S.handOut r) := by
  refine ⟨?_, ?_, ?_, fun r' i' hp => (by cases hp), h.rem0, ?_, h.near, h.cqab, ?_, h.i2⟩
  · intro x' hx' eb heb hv
    obtain ⟨x, hx, rfl⟩ := MV.mem_handOut hx'
    obtain ⟨e, hv⟩ := YE.setVis_old hbv x heb hv
    rw [e]; exact h.gl x hx eb heb hv
  · intro x' hx' hv hl
    obtain ⟨x, hx, rfl⟩ := MV.mem_handOut hx'
    obtain ⟨_, _, e3, _, e5, _, e7⟩ := YE.setVis_eq r S.nextVis x
    rw [e3] at hl
    rw [e5]
    by_cases hc : x.rid = r
    · exact harm x hx hc
    · rw [e7 hc] at hv; exact h.arm x hx hv hl
  · intro x' hx' hv en hen hr
    obtain ⟨x, hx, rfl⟩ := MV.mem_handOut hx'
    by_cases hc : x.rid = r
    · rw [(YE.setVis_eq r _ x).2.2.2.2.2.1 hc] at hv; cases hv
    · rw [(YE.setVis_eq r _ x).2.2.2.2.2.2 hc] at hv hr ⊢
      rcases h.nv x hx hv en hen hr with ⟨j, hp⟩ | hcq
      · exact absurd (Prod.mk.inj (Option.some.inj hp)).1.symm hc
      · exact Or.inr hcq
  · intro en hen x' hx' hr eb heb hv
    obtain ⟨x, hx, rfl⟩ := MV.mem_handOut hx'
    obtain ⟨e, hv⟩ := YE.setVis_old hbv x heb hv
    rw [e] at hr; exact h.lo en hen x hx hr eb heb hv
  · intro hd en hen x' hx' hr eb heb hv hab
    obtain ⟨x, hx, rfl⟩ := MV.mem_handOut hx'
    obtain ⟨e, hv⟩ := YE.setVis_old hbv x heb hv
    rw [e] at hr; exact h.i3 hd en hen x hx hr eb heb hv hab

theorem Y.track {B : BW} {S : MV} (h : Y now none B S) (v i d : Nat)
    (hlive : ∀ x ∈ S.execs, x.vis = some v → x.live = true)
    (hlo : ∀ x ∈ S.execs, x.vis = some v → ∀ en ∈ S.ents, x.rid = en.rid → max d B.now ≤ en.due)
    (hcq : i ∉ S.cq) (hen : ∃ en ∈ S.ents, en.id = i) : Y now none (B.track v i d) S := by
  have hbm : ∀ eb ∈ (B.track v i d).execs, eb ∈ B.execs ∨ eb = ⟨v, i, d, B.now, false, false, false⟩ := fun eb heb =>
    (List.mem_append.mp heb).imp id List.mem_singleton.mp
  refine ⟨?_, h.arm, h.nv, h.pnd, h.rem0, ?_, h.near, ?_, ?_, ?_⟩
  · intro x hx eb heb hxv
    rcases hbm eb heb with h1 | rfl
    · exact h.gl x hx eb h1 hxv
    · rw [hlive x hx hxv]; exact ⟨nofun, nofun⟩
  · intro en hen x hx hr eb heb hxv
    rcases hbm eb heb with h1 | rfl
    · exact h.lo en hen x hx hr eb h1 hxv
    · exact hlo x hx hxv en hen hr
  · intro j hj eb heb hei
    rcases hbm eb heb with h1 | rfl
    · exact h.cqab j hj eb h1 hei
    · exact absurd (show i = j from hei ▸ rfl) (fun e => hcq (e ▸ hj))
  · intro hd en hen x hx hr eb heb hxv hab
    rcases hbm eb heb with h1 | rfl
    · exact h.i3 hd en hen x hx hr eb h1 hxv hab
    · cases hab
  · intro hd p hp
    rcases List.mem_append.mp hp with h1 | h1
    · obtain ⟨eb, heb, a1, a2, a3⟩ := h.i2 hd p (List.mem_filter.mp h1).1
      exact ⟨eb, List.mem_append_left _ heb, a1, a2, a3⟩
    · rw [List.mem_singleton.mp h1]
      exact ⟨_, List.mem_append_right _ (List.mem_singleton.mpr rfl), rfl, rfl, Or.inl hen⟩

theorem Y.yield {rest : List Nat} {B : BW} {S : MV} {r i : Nat} (h : Y now (some (r, i)) B S) (hX : X rest B S) (d : Nat)
    (hr0 : ∀ x ∈ S.execs, x.rid = r → x.vis = none ∧ x.id = i)
    (hv : ∀ x ∈ S.execs, x.vis ≠ some S.nextVis) (hbv : ∀ eb ∈ B.execs, eb.rid ≠ S.nextVis)
    (harm : ∀ x ∈ S.execs, x.rid = r → x.armed = true)
    (hlo : ∀ en ∈ S.ents, en.rid = r → max d B.now ≤ en.due) : Y now none (B.track S.nextVis i d) (S.handOut r) := by
  obtain ⟨⟨en0, hen0, hen0i, hen0r, _⟩, hlive0⟩ := h.pnd r i rfl
  have hback : ∀ x' ∈ (S.handOut r).execs, x'.vis = some S.nextVis → ∃ x ∈ S.execs, x.rid = r ∧ x' = x.setVis r S.nextVis := by
    intro x' hx' hxv
    obtain ⟨x, hx, rfl⟩ := MV.mem_handOut hx'
    exact ⟨x, hx, Decidable.byContradiction fun hc => hv x hx (by rw [(YE.setVis_eq r _ x).2.2.2.2.2.2 hc] at hxv; exact hxv),
      rfl⟩
  refine (h.handOut hbv harm).track S.nextVis i d ?_ ?_ ?_ ⟨en0, hen0, hen0i⟩
  · intro x' hx' hxv
    obtain ⟨x, hx, hr, rfl⟩ := hback x' hx' hxv
    rw [(YE.setVis_eq r _ x).2.2.1]; exact hlive0 x hx hr
  · intro x' hx' hxv en hen he
    obtain ⟨x, hx, hr, rfl⟩ := hback x' hx' hxv
    rw [(YE.setVis_eq r _ x).1] at he
    exact hlo en hen (he.symm.trans hr)
  · -- a queued guard cancellation belongs to a finished execution, the pending one is live
    intro hj
    obtain ⟨xd, hxd, hxdi, hxdl⟩ := hX.cq i hj
    obtain ⟨x0, hx0, hx0r⟩ := hX.esrc en0 hen0
    have hx0r' : x0.rid = r := hx0r.trans hen0r
    have : x0 = xd := hX.id_inj hx0 hxd (by rw [(hr0 x0 hx0 hx0r').2, hxdi])
    rw [← this, hlive0 x0 hx0 hx0r'] at hxdl
    cases hxdl

/-- an op on an execution: `poll-exec`, `drop-exec` followed by the book's `endOp`, `finish` -/
theorem Y.execOp {B B' : BW} {S S' : MV} (h : Y now none B S) {α : Type} (l : List α) (p q : α → YE)
    (hS : S.execs = l.map p) (hS' : S'.execs = l.map q)
    (hg : ∀ a ∈ l, (q a).rid = (p a).rid ∧ (q a).id = (p a).id ∧ (q a).vis = (p a).vis ∧
      ((q a).live = true → (p a).live = true) ∧ ((q a).live = true → (p a).armed = true → (q a).armed = true))
    (f : WB → WB) (hb : B'.execs = B.execs.map f)
    (hf : ∀ e, (f e).rid = e.rid ∧ (f e).id = e.id ∧ (f e).deadline = e.deadline ∧ (f e).yieldedAt = e.yieldedAt ∧
      (e.abandoned = true → (f e).abandoned = true))
    (hgl : ∀ a ∈ l, ∀ eb ∈ B.execs, (p a).vis = some eb.rid → ((f eb).gone = true ↔ (q a).live = false))
    (hents : S'.ents = S.ents) (hinb : S'.inb = S.inb) (hdr : S'.dropped = S.dropped)
    (htab : B'.table = B.table) (hbn : B'.now = B.now)
    (hcq1 : ∀ i ∈ S.cq, i ∈ S'.cq)
    (hcq2 : ∀ i ∈ S'.cq, i ∈ S.cq ∨ ∀ eb ∈ B.execs, eb.id = i → (f eb).abandoned = true)
    (hab : S'.dropped = false → ∀ a ∈ l, ∀ eb ∈ B.execs, (p a).vis = some eb.rid → (f eb).abandoned = true →
      eb.abandoned = true ∨ (p a).id ∈ S'.cq)
    (heid : ∀ en ∈ S.ents, ∀ x ∈ S.execs, x.rid = en.rid → x.id = en.id) : Y now none B' S' := by
  have hmem := mem_of_eq_map hS'
  have hin0 := map_mem_of_eq hS
  have hbm := mem_of_eq_map hb
  have htick : ∀ e, (f e).tick = e.tick := by
    intro e; unfold WB.tick; rw [(hf e).2.2.1, (hf e).2.2.2.1]
  refine ⟨?_, ?_, ?_, fun r i hp => (by cases hp), by rw [hents]; exact h.rem0, ?_, by rw [hinb]; exact h.near, ?_, ?_, ?_⟩
  · intro x' hx' eb' heb' hv
    obtain ⟨a, ha, rfl⟩ := hmem x' hx'
    obtain ⟨eb, heb, rfl⟩ := hbm eb' heb'
    rw [(hg a ha).2.2.1, (hf eb).1] at hv
    exact hgl a ha eb heb hv
  · intro x' hx' hv hl
    obtain ⟨a, ha, rfl⟩ := hmem x' hx'
    obtain ⟨_, _, h3, h4, h5⟩ := hg a ha
    rw [h3] at hv
    exact h5 hl (h.arm (p a) (hin0 a ha) hv (h4 hl))
  · intro x' hx' hv en hen hr
    obtain ⟨a, ha, rfl⟩ := hmem x' hx'
    rw [hents] at hen
    obtain ⟨h1, h2, h3, _, _⟩ := hg a ha
    rw [h3] at hv
    rw [h1] at hr ⊢
    rcases h.nv (p a) (hin0 a ha) hv en hen hr with ⟨j, hp⟩ | hc
    · cases hp
    · exact Or.inr (by rw [h2]; exact hcq1 _ hc)
  · intro en hen x' hx' hr eb' heb' hv
    obtain ⟨a, ha, rfl⟩ := hmem x' hx'
    obtain ⟨eb, heb, rfl⟩ := hbm eb' heb'
    rw [hents] at hen
    rw [(hg a ha).2.2.1, (hf eb).1] at hv
    rw [(hg a ha).1] at hr
    rw [(hf eb).2.2.1, (hf eb).2.2.2.1]
    exact h.lo en hen (p a) (hin0 a ha) hr eb heb hv
  · intro j hj eb' heb' hei
    obtain ⟨eb, heb, rfl⟩ := hbm eb' heb'
    rw [(hf eb).2.1] at hei
    rcases hcq2 j hj with h1 | h1
    · exact (hf eb).2.2.2.2 (h.cqab j h1 eb heb hei)
    · exact h1 eb heb hei
  · intro hd en hen x' hx' hr eb' heb' hv hab'
    obtain ⟨a, ha, rfl⟩ := hmem x' hx'
    obtain ⟨eb, heb, rfl⟩ := hbm eb' heb'
    rw [hents] at hen
    rw [(hg a ha).2.2.1, (hf eb).1] at hv
    rw [(hg a ha).1] at hr
    rcases hab hd a ha eb heb hv hab' with h1 | h1
    · exact hcq1 _ (h.i3 (by rw [← hdr]; exact hd) en hen (p a) (hin0 a ha) hr eb heb hv h1)
    · rw [← heid en hen (p a) (hin0 a ha) hr]; exact h1
  · intro hd p' hp'
    rw [htab] at hp'
    obtain ⟨eb, heb, a1, a2, a3⟩ := h.i2 (by rw [← hdr]; exact hd) p' hp'
    refine ⟨f eb, by rw [hb]; exact List.mem_map_of_mem heb, (hf eb).1.trans a1, (hf eb).2.1.trans a2, ?_⟩
    rw [htick, hbn, hents]
    exact a3.imp id (Or.imp id (hf eb).2.2.2.2)

/-- (generic in the condition of the sweep, as `X.sweepG`) -/
theorem Y.sweepG {B B' : BW} {S : MV} (h : Y now pend B S) (c : WB → Prop) [DecidablePred c]
    (hb : B'.execs = B.execs.map (fun x => if c x then { x with expiredSeen := true } else x))
    (htab : ∀ p ∈ B'.table, p ∈ B.table) (hbn : B'.now = B.now) : Y now pend B' S := by
  refine h.book (fun x => if c x then { x with expiredSeen := true } else x) hb (fun e => ?_) htab hbn
  by_cases hce : c e
  · rw [if_pos hce]; exact ⟨rfl, rfl, rfl, rfl, rfl, rfl⟩
  · rw [if_neg hce]; exact ⟨rfl, rfl, rfl, rfl, rfl, rfl⟩

end TarpcModel.Server.Tab
