import TarpcModel.Lemmas.ClientFrames
import TarpcModel.Lemmas.DelayQFacts
/-
The error tag of the dispatch (C09, client): whenever a pump step returns `Err(a)`, the most recent transport observation is
the failing call, and `a` is that call's activity.  And: a failing `start_send` of a *request* is local to its call.
-/
namespace TarpcModel.Client.Flow

/-- `o` is the observation of a failing transport call whose failure the dispatch tags with activity `a`. -/
def errObs : Activity → Obs → Bool
  | .ready, .tReady _ .err => true
  | .flush, .tFlush _ .err => true
  | .close, .tClose _ .err => true
  | .read, .tNext _ .err => true
  | .write, .tSend _ (.cancel _ _) false => true
  | _, _ => false

/-- The most recent transport observation of `s` is `o`. -/
def LastT (s : St) (o : Obs) : Prop := (s.obs.filter isT).head? = some o

/-- The step returned `Err(a)` right after the transport call that failed, and `a` names that call. -/
def ErrTagged (s' : St) (a : Activity) : Prop := ∃ o, LastT s' o ∧ errObs a o = true

theorem tEmit_lastT (s : St) (t' : SimT) (o : Obs) (w : Bool) (ho : isT o = true) : LastT (tEmit s t' o w) o := by
  obtain ⟨l, dw, he, _, hh⟩ := tEmit_eq s t' o w
  unfold LastT
  rw [he]
  simp only [List.filter_append, List.head?_append, hh ho, Option.some_or]

theorem tReady_lastT (s : St) : LastT (tReady s).1 (.tReady (tid s) (tReady s).2) := by
  rw [tReady_eq]; exact tEmit_lastT _ _ _ _ rfl
theorem tFlush_lastT (s : St) : LastT (tFlush s).1 (.tFlush (tid s) (tFlush s).2) := by
  rw [tFlush_eq]; exact tEmit_lastT _ _ _ _ rfl
theorem tClose_lastT (s : St) : LastT (tClose s).1 (.tClose (tid s) (tClose s).2) := by
  rw [tClose_eq]; exact tEmit_lastT _ _ _ _ rfl
theorem tSend_lastT (s : St) (m : Msg) : LastT (tSend s m).1 (.tSend (tid s) m (tSend s m).2) := by
  rw [tSend_eq]; exact tEmit_lastT _ _ _ _ rfl

theorem tNext_lastT (s : St) (h : (tNext s).2 ≠ .eof) : LastT (tNext s).1 (.tNext (tid s) (tNext s).2) := by
  rw [tNext_eq] at h ⊢
  split
  · rename_i hf; simp [hf] at h
  · simp [LastT, List.filter_cons]

theorem ensureHead_errTagged (s : St) (a : Activity) :
    (∀ s1, tReady s = (s1, .ready) → EW.ready = .err a → ErrTagged s1 a) ∧
    (∀ s1, tReady s = (s1, .err) → EW.err .ready = .err a → ErrTagged s1 a) ∧
    (∀ s1 s2, tReady s = (s1, .pending) → tFlush s1 = (s2, .pending) → EW.pending = .err a → ErrTagged s2 a) ∧
    (∀ s1 s2, tReady s = (s1, .pending) → tFlush s1 = (s2, .err) → EW.err .flush = .err a → ErrTagged s2 a) := by
  refine ⟨?_, ?_, ?_, ?_⟩
  · intro _ _ h; cases h
  · intro s1 h1 h; cases h
    have := tReady_lastT s; rw [h1] at this; exact ⟨_, this, rfl⟩
  · intro _ _ _ _ h; cases h
  · intro s1 s2 _ h2 h; cases h
    have := tFlush_lastT s1; rw [h2] at this; exact ⟨_, this, rfl⟩

theorem ensureOnce_errTagged (s : St) (a : Activity) (h : (ensureOnce s).2 = .err a) :
    ErrTagged (ensureOnce s).1 a := by
  obtain ⟨c1, c2, c3, c4⟩ := ensureHead_errTagged s a
  revert h
  refine ensureOnce_cases (motive := fun p => p.2 = .err a → ErrTagged p.1 a) s c1 c2 c3 c4 ?_
  intro s1 s2 s3 r _ _ h3 h
  have := tReady_lastT s2; rw [h3] at this
  cases r <;> simp [readyEW] at h
  cases h; exact ⟨_, this, rfl⟩

theorem ensureLoop_errTagged (fuel : Nat) (s : St) (a : Activity) (h : (ensureLoop fuel s).2 = .err a) :
    ErrTagged (ensureLoop fuel s).1 a := by
  induction fuel generalizing s with
  | zero => rw [ensureLoop_zero] at h; cases h
  | succ fuel ih =>
    obtain ⟨c1, c2, c3, c4⟩ := ensureHead_errTagged s a
    revert h
    exact ensureLoop_cases (motive := fun p => p.2 = .err a → ErrTagged p.1 a) fuel s c1 c2 c3 c4
      (fun s1 s2 _ _ h => ih s2 h)

theorem ensureWriteable_errTagged (s : St) (a : Activity) (h : (ensureWriteable s).2 = .err a) :
    ErrTagged (ensureWriteable s).1 a := by
  unfold ensureWriteable at h ⊢; split
  · rename_i hl; rw [if_pos hl] at h; exact ensureLoop_errTagged _ _ _ h
  · rename_i hl; rw [if_neg hl] at h; exact ensureOnce_errTagged _ _ h

theorem nextRequestLoop_not_err (fuel : Nat) (s : St) (a : Activity) : (nextRequestLoop fuel s).2 ≠ .err a := fun h => by
  rcases (nextRequestLoop_out 0 fuel s).res with e | e | ⟨_, e⟩ <;> rw [h] at e <;> cases e

theorem nextCancelLoop_not_err (fuel : Nat) (s : St) (a : Activity) : (nextCancelLoop fuel s).2 ≠ .err a := fun h => by
  rcases (nextCancelLoop_out 0 fuel s).res with e | e | ⟨_, e⟩ <;> rw [h] at e <;> cases e

theorem pollNextRequest_errTagged (s : St) (a : Activity) (h : (pollNextRequest s).2 = .err a) :
    ErrTagged (pollNextRequest s).1 a := by
  revert h
  refine pollNextRequest_cases (motive := fun p => p.2 = .err a → ErrTagged p.1 a) s ?_ ?_ ?_
  · intro _ h; cases h
  · intro s1 e _ h1 _ h
    have := ensureWriteable_errTagged s a; rw [h1] at this
    cases e <;> simp [EW.toPW] at h
    subst h; exact this rfl
  · intro s1 _ _ h; exact absurd h (nextRequestLoop_not_err _ _ _)

theorem pollWriteRequest_errTagged (s : St) (now : Nat) (a : Activity) (h : (pollWriteRequest s now).2 = .err a) :
    ErrTagged (pollWriteRequest s now).1 a := by
  revert h
  refine pollWriteRequest_cases (motive := fun p => p.2 = .err a → ErrTagged p.1 a) s now ?_ ?_ ?_ ?_
  · intro s1 r h1 _ h
    have := pollNextRequest_errTagged s a; rw [h1] at this
    cases r <;> simp [PW.pass] at h
    subst h; exact this rfl
  · intro _ _ _ _ _ _ h; cases h
  · intro _ _ _ _ _ _ _ _ h; cases h
  · intro _ _ _ _ _ _ _ _ h; cases h

theorem pollNextCancellation_errTagged (s : St) (a : Activity) (h : (pollNextCancellation s).2 = .err a) :
    ErrTagged (pollNextCancellation s).1 a := by
  revert h
  refine pollNextCancellation_cases (motive := fun p => p.2 = .err a → ErrTagged p.1 a) s ?_ ?_
  · intro s1 e h1 _ h
    have := ensureWriteable_errTagged s a; rw [h1] at this
    cases e <;> simp [EW.toPW] at h
    subst h; exact this rfl
  · intro s1 _ h; exact absurd h (nextCancelLoop_not_err _ _ _)

theorem pollWriteCancel_errTagged (s : St) (a : Activity) (h : (pollWriteCancel s).2 = .err a) :
    ErrTagged (pollWriteCancel s).1 a := by
  revert h
  refine pollWriteCancel_cases (motive := fun p => p.2 = .err a → ErrTagged p.1 a) s ?_ ?_ ?_
  · intro s1 r h1 _ h
    have := pollNextCancellation_errTagged s a; rw [h1] at this
    cases r <;> simp [PW.pass] at h
    subst h; exact this rfl
  · intro _ _ _ _ _ h; cases h
  · intro s1 e s2 _ h3 h; cases h
    have := tSend_lastT s1 (.cancel e.id e.ctx.trace); rw [h3] at this
    exact ⟨_, this, rfl⟩

theorem pumpWrite_errTagged (s : St) (now : Nat) (a : Activity) (h : (pumpWrite s now).2 = .err a) :
    ErrTagged (pumpWrite s now).1 a := by
  revert h
  refine pumpWrite_cases (motive := fun p => p.2 = .err a → ErrTagged p.1 a) s now ?_ ?_ ?_ ?_ ?_ ?_
  · intro s1 r1 h1 _ h
    have := pollWriteRequest_errTagged s now a; rw [h1] at this; exact this h
  · intro s1 r1 s2 r2 _ _ h2 _ h
    have := pollWriteCancel_errTagged s1 a; rw [h2] at this; exact this h
  · intro _ _ _ _ _ _ _ _ _ _ h; cases h
  · intro _ _ _ _ _ _ _ _ _ _ _ h; cases h
  · intro s1 s2 s3 s4 r4 _ _ _ h4 h
    have := tClose_lastT s3; rw [h4] at this
    cases r4 <;> simp [closePW] at h
    subst h; exact ⟨_, this, rfl⟩
  · intro s1 r1 s2 r2 s3 s4 r4 _ _ _ _ _ _ h4 h
    have := tFlush_lastT s3; rw [h4] at this
    cases r4 <;> simp [flushPW] at h
    subst h; exact ⟨_, this, rfl⟩

theorem pumpRead_errTagged (s : St) (a : Activity) (h : (pumpRead s).2 = .err a) : ErrTagged (pumpRead s).1 a := by
  revert h
  refine pumpRead_cases (motive := fun p => p.2 = .err a → ErrTagged p.1 a) s ?_ ?_ ?_ ?_ ?_
  · intro _ _ h; cases h
  · intro _ _ h; cases h
  · intro s1 h1 h; cases h
    have := tNext_lastT s (by rw [h1]; simp); rw [h1] at this
    exact ⟨_, this, rfl⟩
  · intro _ _ _ _ h; cases h
  · intro _ _ _ _ h; cases h

theorem run_errTagged (fuel : Nat) (s : St) (now : Nat) (a : Activity) (h : (run fuel s now).2 = .err a) :
    ErrTagged (run fuel s now).1 a := by
  induction fuel generalizing s with
  | zero => rw [run_zero] at h; cases h
  | succ fuel ih =>
    revert h
    refine run_cases (motive := fun p => p.2 = .err a → ErrTagged p.1 a) fuel s now ?_ ?_ ?_ ?_ ?_ ?_ ?_ ?_ ?_
    · intro s1 a' h1 h; cases h
      have := pumpRead_errTagged s a; rw [h1] at this; exact this rfl
    · intro _ _ h; cases h
    · intro s1 rd s2 a' _ h2 h; cases h
      have := pumpWrite_errTagged s1 now a; rw [h2] at this; exact this rfl
    · intro _ _ _ _ _ h; cases h
    · intro _ _ _ _ _ _ h; cases h
    · intro _ _ _ _ _ _ _ h; cases h
    · intro _ _ _ _ _ h; cases h
    · intro s1 rd s2 wr _ _ _ h; exact ih s2 h
    · intro _ _ _ _ h; cases h

/-- Transport-free steps keep the most recent transport observation. -/
theorem LastT.of_frameA {s s' : St} {o : Obs} (hA : FrameA s s') (h : LastT s o) : LastT s' o := by
  unfold LastT at h ⊢; rw [hA.tobs]; exact h

/-! ### a failing request write is local to its call -/

theorem updCall_filter_ne (s : St) (cid : Nat) (f : Call → Call) (hf : ∀ c, (f c).cid = c.cid) :
    (updCall s cid f).calls.filter (·.cid != cid) = s.calls.filter (·.cid != cid) := by
  unfold updCall; simp only
  rw [List.filter_map]
  have h1 : ((fun c : Call => c.cid != cid) ∘ fun c => if c.cid == cid then f c else c) = (fun c => c.cid != cid) := by
    funext c; simp only [Function.comp]; split <;> simp [hf]
  rw [h1]
  conv => rhs; rw [← List.map_id (List.filter (fun c => c.cid != cid) s.calls)]
  apply List.map_congr_left
  intro c hc
  have := (List.mem_filter.mp hc).2
  have hne : (c.cid == cid) = false := by simpa using this
  simp [hne]

theorem wakeCall_filter_ne (s : St) (cid : Nat) :
    (wakeCall s cid).calls.filter (·.cid != cid) = s.calls.filter (·.cid != cid) := by
  rcases wakeCall_out s cid with ⟨_, _, _, e⟩ | ⟨_, e⟩ <;> rw [e]
  simp only [emit_calls]; exact updCall_filter_ne _ _ _ (fun _ => rfl)

theorem wakeCall_getCall_os (s : St) (cid : Nat) :
    (getCall (wakeCall s cid) cid).map (·.os) = (getCall s cid).map (·.os) := by
  unfold wakeCall
  split
  · rename_i c hg
    split
    · have : getCall (emit (updCall s cid fun c => { c with woken := true }) (.wake (.call cid))) cid =
          getCall (updCall s cid fun c => { c with woken := true }) cid := rfl
      rw [this, getCall_updCall s cid (fun c => { c with woken := true }) (fun _ => rfl), hg]; rfl
    · rfl
  · rfl

theorem osSend_filter_ne (s : St) (cid : Nat) (o : Outcome) :
    (osSend s cid o).calls.filter (·.cid != cid) = s.calls.filter (·.cid != cid) := by
  rcases osSend_out s cid o with ⟨_, e⟩ | ⟨_, _, _, e⟩ <;> rw [e]
  split
  · rw [wakeCall_filter_ne]; exact updCall_filter_ne _ _ _ (fun _ => rfl)
  · exact updCall_filter_ne _ _ _ (fun _ => rfl)

/-- `Sender::send` on an open oneshot stores the value. -/
theorem osSend_val {s : St} {cid : Nat} {c : Call} (o : Outcome) (hg : getCall s cid = some c)
    (hr : c.os.rxClosed = false) : (getCall (osSend s cid o) cid).map (·.os.val) = some (some o) := by
  unfold osSend
  simp only [hg, hr, Bool.false_eq_true, ↓reduceIte]
  have key : (getCall (updCall s cid fun c => { c with os := { c.os with val := some o, rxWaker := false } }) cid).map
      (·.os) = some { c.os with val := some o, rxWaker := false } := by
    rw [getCall_updCall s cid (fun c => { c with os := { c.os with val := some o, rxWaker := false } }) (fun _ => rfl), hg]; rfl
  split
  · have := wakeCall_getCall_os (updCall s cid fun c => { c with os := { c.os with val := some o, rxWaker := false } }) cid
    rw [key] at this
    rcases hgc : getCall (wakeCall (updCall s cid fun c => { c with os := { c.os with val := some o, rxWaker := false } }) cid) cid with _ | c'
    · rw [hgc] at this; cases this
    · rw [hgc] at this; simp only [Option.map_some, Option.some.injEq] at this ⊢; rw [this]
  · rcases hgc : getCall (updCall s cid fun c => { c with os := { c.os with val := some o, rxWaker := false } }) cid with _ | c'
    · rw [hgc] at key; cases key
    · rw [hgc] at key; simp only [Option.map_some, Option.some.injEq] at key ⊢; rw [key]

theorem pollNextRequest_open {s s' : St} {r : DReq} (h : pollNextRequest s = (s', .some r)) :
    osIsClosed s' r.cid = false := by
  have hs := pollNextRequest_steps 0 s
  rw [h] at hs
  obtain ⟨_, _, _, hc, _⟩ := hs
  exact hc

theorem insertRequest_ok {s s' : St} {now : Nat} {r : DReq} (h : insertRequest s now r = some s')
    (hp : s'.poisoned = false) :
    findEntry s r.id = none ∧ ∃ q key w os dw, s.timers.insert now (clampTimeout (r.ctx.deadline - now)) r.id = (q, .ok key, w) ∧
      s' = { s with timers := q, inflight := s.inflight ++ [entryOf r now key], obs := os, dWoken := dw } := by
  rcases insertRequest_some h with ⟨-, rfl⟩ | ⟨-, _, _, -, rfl⟩ | ⟨hf, q, key, w, hq, rfl⟩
  · cases hp
  · cases hp
  · refine ⟨hf, q, key, w, ?_⟩
    split
    · unfold wakeDispatch; split <;> exact ⟨_, _, hq, rfl⟩
    · exact ⟨_, _, hq, rfl⟩

theorem filter_ne_of_find_none {l : List Entry} {id : Nat} (h : l.find? (·.id == id) = none) :
    l.filter (·.id != id) = l := by
  rw [List.filter_eq_self]
  intro e he
  have := List.find?_eq_none.mp h e he
  simpa using this

theorem send_failure_local {s s1 s2 s3 : St} {now : Nat} {r : DReq}
    (h1 : pollNextRequest s = (s1, .some r)) (h2 : insertRequest s1 now r = some s2)
    (hp : s2.poisoned = false)
    (h3 : tSend s2 (.request r.id r.ctx.deadline r.ctx.trace r.body) = (s3, false)) :
    pollWriteRequest s now = ((completeRequest s3 r.id .send).1, .some ()) ∧
    (completeRequest s3 r.id .send).1.inflight = s1.inflight ∧
    (completeRequest s3 r.id .send).1.poisoned = false ∧
    (completeRequest s3 r.id .send).1.termErr = s.termErr ∧
    (completeRequest s3 r.id .send).1.calls.filter (·.cid != r.cid) = s1.calls.filter (·.cid != r.cid) ∧
    (getCall (completeRequest s3 r.id .send).1 r.cid).map (·.os.val) = some (some .send) := by
  obtain ⟨hfe, q, key, w, os2, dw2, hq, hs2⟩ := insertRequest_ok h2 hp
  have h2in : s2.inflight = s1.inflight ++ [entryOf r now key] := by
    rw [hs2]
  have h2ti : s2.timers = q := by rw [hs2]
  have h2ca : s2.calls = s1.calls := by rw [hs2]
  have h2te : s2.termErr = s1.termErr := by rw [hs2]
  -- `tSend` leaves the tables alone
  have e3 : s3 = (tSend s2 (.request r.id r.ctx.deadline r.ctx.trace r.body)).1 := by rw [h3]
  have hin : s3.inflight = s1.inflight ++ [entryOf r now key] := by
    rw [e3, tSend_inflight, h2in]
  have hti : s3.timers = q := by rw [e3, tSend_timers, h2ti]
  have hca : s3.calls = s1.calls := by rw [e3, tSend_calls, h2ca]
  have hpo : s3.poisoned = false := by rw [e3, tSend_poisoned]; exact hp
  have hte : s3.termErr = s.termErr := by
    rw [e3, tSend_termErr, h2te]
    have := (pollNextRequest_frameP s).termErr; rw [h1] at this; exact this
  -- the entry just inserted is the one `complete_request` finds
  have hfind : findEntry s3 r.id = some (entryOf r now key) := by
    unfold findEntry at hfe ⊢
    rw [hin, List.find?_append, hfe]; simp [entryOf]
  have hfil : s3.inflight.filter (·.id != r.id) = s1.inflight := by
    unfold findEntry at hfe
    rw [hin, List.filter_append, filter_ne_of_find_none hfe]; simp [entryOf]
  -- its timer key is valid
  obtain ⟨q', wk, hrm⟩ : ∃ q' wk, q.remove key = some (q', wk) := by
    have := TarpcModel.DelayQ.insert_has_key hq
    unfold DelayQ.remove; rw [if_pos this]; exact ⟨_, _, rfl⟩
  -- `complete_request` = remove the entry, disarm the timer (possibly a self-wake), send `Send`
  obtain ⟨sx, hcr, hxin, hxpo, hxte, hxca⟩ : ∃ sx, (completeRequest s3 r.id .send).1 = osSend sx r.cid .send ∧
      sx.inflight = s1.inflight ∧ sx.poisoned = s3.poisoned ∧ sx.termErr = s3.termErr ∧ sx.calls = s3.calls := by
    obtain ⟨os, dw, hrt⟩ := removeTimer_some (s := { s3 with inflight := s3.inflight.filter (·.id != r.id) })
      (show s3.timers.remove key = some (q', wk) by rw [hti]; exact hrm)
    refine ⟨removeTimer { s3 with inflight := s3.inflight.filter (·.id != r.id) } key, ?_, ?_, ?_, ?_, ?_⟩
    · unfold completeRequest; rw [hfind]; rfl
    · rw [hrt]; exact hfil
    · rw [hrt]
    · rw [hrt]
    · rw [hrt]
  -- the call is there and its receiver is open
  have hopen := pollNextRequest_open h1
  obtain ⟨c, hgc, hrx⟩ : ∃ c, getCall s1 r.cid = some c ∧ c.os.rxClosed = false := by
    unfold osIsClosed at hopen
    split at hopen
    · exact ⟨_, ‹_›, hopen⟩
    · cases hopen
  have hgc3 : getCall sx r.cid = some c := by
    unfold getCall at hgc ⊢; rw [hxca, hca]; exact hgc
  refine ⟨?_, ?_, ?_, ?_, ?_, ?_⟩
  · refine pollWriteRequest_cases (motive := fun p => p = ((completeRequest s3 r.id .send).1, PW.some ())) s now
      ?_ ?_ ?_ ?_
    · intro s1' r' h1' hns; rw [h1] at h1'; cases h1'; simp [PW.isSome] at hns
    · intro s1' r' s2' h1' h2' hp'; rw [h1] at h1'; cases h1'; rw [h2] at h2'; cases h2'; rw [hp] at hp'; cases hp'
    · intro s1' r' s2' s3' h1' h2' _ h3'
      rw [h1] at h1'; cases h1'; rw [h2] at h2'; cases h2'; rw [h3] at h3'; cases h3'
    · intro s1' r' s2' s3' h1' h2' _ h3'
      rw [h1] at h1'; cases h1'; rw [h2] at h2'; cases h2'; rw [h3] at h3'; cases h3'; rfl
  · rw [hcr, osSend_inflight, hxin]
  · rw [hcr, osSend_poisoned, hxpo]; exact hpo
  · rw [hcr, osSend_termErr, hxte]; exact hte
  · rw [hcr, osSend_filter_ne, hxca, hca]
  · rw [hcr]; exact osSend_val .send hgc3 hrx

end TarpcModel.Client.Flow
