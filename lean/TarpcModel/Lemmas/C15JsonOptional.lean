import TarpcModel.Lemmas.C15Json
/-!
Lemmas for the optional-member / member-order theorems of `Props/C15Json.lean`: the schema readers
`req` / `opt` look a member up by name, so they do not depend on the order of an object's members.
-/
namespace TarpcModel.Json

theorem lookupAll_perm (k : String) {l₁ l₂ : List (String × Json)} (h : l₁.Perm l₂) :
    (lookupAll k l₁).Perm (lookupAll k l₂) := by
  induction h with
  | nil => exact .nil
  | cons x _ ih => obtain ⟨k', v⟩ := x; simp only [lookupAll]; split <;> simp [ih]
  | swap x y l =>
    obtain ⟨k1, v1⟩ := x; obtain ⟨k2, v2⟩ := y
    simp only [lookupAll]
    split <;> split <;> first | exact .swap _ _ _ | exact .refl _
  | trans _ _ ih1 ih2 => exact ih1.trans ih2

theorem perm_short {α : Type} {a b : List α} (h : a.Perm b) :
    a = b ∨ ∃ x y a' x' y' b', a = x :: y :: a' ∧ b = x' :: y' :: b' := by
  match a, b, h with
  | [], b, h => exact .inl (List.nil_perm.mp h).symm
  | [v], b, h => exact .inl (List.perm_singleton.mp h.symm).symm
  | x :: y :: a', b, h =>
    match b, h.length_eq with
    | x' :: y' :: b', _ => exact .inr ⟨x, y, a', x', y', b', rfl, rfl⟩

theorem req_perm {α : Type} (k : String) {l₁ l₂ : List (String × Json)} (h : l₁.Perm l₂) (dec : Json → Option α) :
    req k l₁ dec = req k l₂ dec := by
  unfold req
  rcases perm_short (lookupAll_perm k h) with e | ⟨_, _, _, _, _, _, e1, e2⟩
  · rw [e]
  · rw [e1, e2]

theorem opt_perm {α : Type} (k : String) {l₁ l₂ : List (String × Json)} (h : l₁.Perm l₂) (dec : Json → Option α) (d : α) :
    opt k l₁ dec d = opt k l₂ dec d := by
  unfold opt
  rcases perm_short (lookupAll_perm k h) with e | ⟨_, _, _, _, _, _, e1, e2⟩
  · rw [e]
  · rw [e1, e2]

end TarpcModel.Json
