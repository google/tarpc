import TarpcModel.Prim.DelayQ
import TarpcModel.Lemmas.Basic
/-!
General facts about the `DelayQ` model (`Prim/DelayQ.lean`), independent of its users: content up to the wheel bookkeeping
(`items`, `cores`, `KeysOk`, `Frame`), wheel arithmetic with the slot width of a level as a variable, and "never early"
(`OnTime`, one induction over `cascade`/`wheelPoll`/`pollIdx`/`pollExpired` behind both `Sound` and `WF ∧ Timely`).
-/
namespace TarpcModel

theorem le_ceil_tick (dl : Nat) : dl ≤ ceilMs dl * nsPerMs := by
  unfold ceilMs nsPerMs
  omega

end TarpcModel

namespace TarpcModel.DelayQ

def items (q : DelayQ) : List DqEntry := q.entries ++ q.expired

/-- key, value, deadline (ms): a timer without its place in the wheel -/
def core (e : DqEntry) : Nat × Nat × Nat := (e.key, e.val, e.whenMs)

def cores (q : DelayQ) : List (Nat × Nat × Nat) := q.items.map core

theorem whenMs_eq_of_core_eq {a b : DqEntry} (h : core a = core b) : a.whenMs = b.whenMs :=
  congrArg (fun c => c.2.2) h

structure KeysOk (q : DelayQ) : Prop where
  nodup : (q.items.map (·.key)).Nodup
  lt : ∀ e ∈ q.items, e.key < q.nextKey

/-- One-sided wheel invariant (an entry at level `L < 5` lies before the end of the level-`L` block
the wheel clock is in; a level-5 entry is within the wheel's range), the `expired` stack holds only
entries that were already elapsed, and the wheel clocks are not ahead of the caller's clock. -/
structure Sound (q : DelayQ) (now : Nat) : Prop where
  lvl : ∀ e ∈ q.entries, e.level ≤ 5
  blk : ∀ e ∈ q.entries, e.level < 5 → e.whenMs / 64 ^ (e.level + 1) ≤ q.wheelElapsed / 64 ^ (e.level + 1)
  top : ∀ e ∈ q.entries, e.level = 5 → e.whenMs ≤ q.wheelElapsed + delayQMaxMs
  exp : ∀ e ∈ q.expired, e.whenMs ≤ q.wheelElapsed
  el : q.wheelElapsed * nsPerMs ≤ now
  wn : q.wheelNow * nsPerMs ≤ now

-- (the `_WF` names below are about `KeysOk`, not `DelayQ.WF`)
theorem WF_empty : KeysOk {} := ⟨by simp [items], by simp [items]⟩
theorem Sound_empty (now : Nat) : Sound {} now := by constructor <;> simp

theorem Sound.mono {q : DelayQ} {now now' : Nat} (h : Sound q now) (hle : now ≤ now') : Sound q now' :=
  ⟨h.lvl, h.blk, h.top, h.exp, Nat.le_trans h.el hle, Nat.le_trans h.wn hle⟩

theorem isEmpty_iff (q : DelayQ) : q.isEmpty = true ↔ q.items = [] := by
  simp [isEmpty, items]

theorem items_clear (q : DelayQ) : q.clear.items = [] := by simp [clear, items]

theorem len_eq (q : DelayQ) : q.len = q.items.length := by simp [len, items]

/-! ### helpers: the two elementary moves on the wheel -/

/-- move `e` to level `lvl` (re-pushed last) -/
def bump (q : DelayQ) (e : DqEntry) (lvl : Nat) : DelayQ :=
  { q with entries := (q.entries.filter (·.key != e.key)) ++ [{ e with level := lvl, seq := q.seqCtr }],
           seqCtr := q.seqCtr + 1 }

/-- remove `e` from the wheel -/
def pop (q : DelayQ) (e : DqEntry) : DelayQ := { q with entries := q.entries.filter (·.key != e.key) }

theorem mem_cores_iff {q : DelayQ} {c : Nat × Nat × Nat} : c ∈ q.cores ↔ ∃ e ∈ items q, core e = c := by
  simp [cores]

theorem mem_keys_iff (q : DelayQ) (k : Nat) : k ∈ q.items.map (·.key) ↔ ∃ c ∈ q.cores, c.1 = k := by
  unfold cores; simp only [List.mem_map]
  constructor
  · rintro ⟨e, he, rfl⟩; exact ⟨core e, ⟨e, he, rfl⟩, rfl⟩
  · rintro ⟨c, ⟨e, he, rfl⟩, rfl⟩; exact ⟨e, he, rfl⟩

theorem cores_key_unique {q : DelayQ} (hq : KeysOk q) {c c' : Nat × Nat × Nat} (hc : c ∈ q.cores) (hc' : c' ∈ q.cores)
    (h : c.1 = c'.1) : c = c' := by
  obtain ⟨e, he, rfl⟩ := List.mem_map.mp hc
  obtain ⟨e', he', rfl⟩ := List.mem_map.mp hc'
  rw [eq_of_map_nodup (f := (·.key)) hq.nodup he he' h]

theorem cores_key_lt {q : DelayQ} (hq : KeysOk q) {c : Nat × Nat × Nat} (hc : c ∈ q.cores) : c.1 < q.nextKey := by
  obtain ⟨e, he, rfl⟩ := List.mem_map.mp hc
  exact hq.lt e he

theorem nodup_middle {l x : List DqEntry} {e' : DqEntry} (h : ((l ++ x).map (·.key)).Nodup)
    (hf : ∀ a ∈ l ++ x, a.key ≠ e'.key) : ((l ++ e' :: x).map (·.key)).Nodup := by
  have hp : ((l ++ e' :: x).map (·.key)).Perm ((e' :: (l ++ x)).map (·.key)) :=
    List.Perm.map _ List.perm_middle
  rw [hp.nodup_iff, List.map_cons, List.nodup_cons]
  refine ⟨?_, h⟩
  intro hm
  obtain ⟨a, ha, hk⟩ := List.mem_map.1 hm
  exact hf a ha hk

theorem nodup_bump {l x : List DqEntry} {e e' : DqEntry} (he : e ∈ l) (hk : e'.key = e.key)
    (h : ((l ++ x).map (·.key)).Nodup) :
    (((l.filter (·.key != e.key) ++ [e']) ++ x).map (·.key)).Nodup := by
  simp only [List.map_append, List.nodup_append] at h ⊢
  grind

theorem nodup_pop {l x : List DqEntry} (k : Nat)
    (h : ((l ++ x).map (·.key)).Nodup) :
    (((l.filter (·.key != k)) ++ x.filter (·.key != k)).map (·.key)).Nodup := by
  refine List.Nodup.sublist ?_ h
  exact List.Sublist.map _ (List.Sublist.append List.filter_sublist List.filter_sublist)

theorem length_filter_lt {l : List DqEntry} {k : Nat} {e : DqEntry} (he : e ∈ l) (hk : e.key = k) :
    (l.filter (·.key != k)).length < l.length := by
  rw [List.length_filter_lt_length_iff_exists]
  exact ⟨e, he, by simp [hk]⟩

theorem bump_keysOk {q : DelayQ} {e : DqEntry} {lvl : Nat} (he : e ∈ q.entries) (hq : KeysOk q) :
    KeysOk (bump q e lvl) := by
  constructor
  · exact nodup_bump he rfl hq.nodup
  · have := hq.lt
    simp only [bump, items, List.mem_append, List.mem_filter] at this ⊢
    grind

theorem bump_cores {q : DelayQ} {e : DqEntry} {lvl : Nat} (he : e ∈ q.entries) (hq : KeysOk q)
    (c : Nat × Nat × Nat) : c ∈ (bump q e lvl).cores ↔ c ∈ q.cores := by
  have := hq.nodup
  simp only [items, List.map_append, List.nodup_append] at this
  simp only [bump, cores, items, List.map_append, List.mem_append, List.mem_map, List.mem_filter,
    List.mem_singleton]
  constructor
  · rintro ((⟨a, ⟨ha, -⟩, rfl⟩ | ⟨a, rfl, rfl⟩) | h)
    · exact .inl ⟨a, ha, rfl⟩
    · exact .inl ⟨e, he, rfl⟩
    · exact .inr h
  · rintro (⟨a, ha, rfl⟩ | h)
    · by_cases hk : a.key = e.key
      · have : a = e := eq_of_map_nodup this.1 ha he hk
        subst this
        exact .inl (.inr ⟨_, rfl, rfl⟩)
      · exact .inl (.inl ⟨a, ⟨ha, by simp [hk]⟩, rfl⟩)
    · exact .inr h

theorem bump_len {q : DelayQ} {e : DqEntry} {lvl : Nat} (he : e ∈ q.entries) :
    (bump q e lvl).entries.length ≤ q.entries.length := by
  have := length_filter_lt he rfl
  simp [bump]; omega

theorem pop_keysOk {q : DelayQ} {e : DqEntry} (hq : KeysOk q) : KeysOk (pop q e) := by
  constructor
  · refine List.Nodup.sublist ?_ hq.nodup
    exact List.Sublist.map _ (List.Sublist.append List.filter_sublist (List.Sublist.refl _))
  · have := hq.lt
    simp only [pop, items, List.mem_append, List.mem_filter] at this ⊢
    grind

theorem pop_cores {q : DelayQ} {e : DqEntry} (he : e ∈ q.entries) (hq : KeysOk q)
    (c : Nat × Nat × Nat) : c ∈ (pop q e).cores ↔ c ∈ q.cores ∧ c.1 ≠ e.key := by
  have := hq.nodup
  simp only [items, List.map_append, List.nodup_append] at this
  simp only [pop, cores, items, List.map_append, List.mem_append, List.mem_map, List.mem_filter]
  constructor
  · rintro (⟨a, ⟨ha, hk⟩, rfl⟩ | ⟨a, ha, rfl⟩)
    · exact ⟨.inl ⟨a, ha, rfl⟩, by simpa [core] using hk⟩
    · refine ⟨.inr ⟨a, ha, rfl⟩, ?_⟩
      simp only [core]
      intro h
      exact this.2.2 _ (List.mem_map.2 ⟨e, he, rfl⟩) _ (List.mem_map.2 ⟨a, ha, rfl⟩) h.symm
  · rintro ⟨⟨a, ha, rfl⟩ | ⟨a, ha, rfl⟩, hk⟩
    · exact .inl ⟨a, ⟨ha, by simpa [core] using hk⟩, rfl⟩
    · exact .inr ⟨a, ha, rfl⟩

theorem pop_len {q : DelayQ} {e : DqEntry} (he : e ∈ q.entries) :
    (pop q e).entries.length < q.entries.length := length_filter_lt he rfl


/-! ### frame relation: content (up to wheel bookkeeping) is unchanged -/

/-- `q'` has the content of `q`; the wheel may have re-filed entries -/
structure Frame (q q' : DelayQ) : Prop where
  expired : q'.expired = q.expired
  nextKey : q'.nextKey = q.nextKey
  len : q'.entries.length ≤ q.entries.length
  wf : KeysOk q → KeysOk q'
  cores : KeysOk q → ∀ c, c ∈ q'.cores ↔ c ∈ q.cores

theorem Frame.of_fields {q q' : DelayQ} (h1 : q'.entries = q.entries) (h2 : q'.expired = q.expired)
    (h3 : q'.nextKey = q.nextKey) : Frame q q' := by
  refine ⟨h2, h3, by simp [h1], ?_, ?_⟩
  · intro h
    exact ⟨by simpa [items, h1, h2] using h.nodup, by simpa [items, h1, h2, h3] using h.lt⟩
  · intro _ c
    simp [DelayQ.cores, items, h1, h2]

theorem Frame.refl (q : DelayQ) : Frame q q := Frame.of_fields rfl rfl rfl

theorem Frame.trans {a b c : DelayQ} (h1 : Frame a b) (h2 : Frame b c) : Frame a c :=
  ⟨h2.expired.trans h1.expired, h2.nextKey.trans h1.nextKey, Nat.le_trans h2.len h1.len,
   fun h => h2.wf (h1.wf h), fun h x => (h2.cores (h1.wf h) x).trans (h1.cores h x)⟩

theorem Frame.of_bump {q : DelayQ} {e : DqEntry} {lvl : Nat} (he : e ∈ q.entries) :
    Frame q (bump q e lvl) :=
  ⟨rfl, rfl, bump_len he, bump_keysOk he, fun h c => bump_cores he h c⟩

/-! ### `slotTop`, `cascade` -/

theorem slotTop_some {q : DelayQ} {l s : Nat} {e : DqEntry} (h : slotTop q l s = some e) :
    e ∈ q.entries ∧ e.level = l ∧ slotFor e.whenMs l = s := by
  unfold slotTop at h
  have key : ∀ (xs : List DqEntry) (acc : Option DqEntry),
      xs.foldl (fun acc e => match acc with
        | none => some e
        | some a => if e.seq > a.seq then some e else some a) acc = some e →
      acc = some e ∨ e ∈ xs := by
    intro xs
    induction xs with
    | nil => intro acc h; exact .inl h
    | cons x xs ih =>
      intro acc h
      simp only [List.foldl_cons] at h
      rcases ih _ h with h' | h'
      · cases acc with
        | none => simp at h'; right; simp [h']
        | some a =>
          simp only at h'
          split at h'
          · simp at h'; right; simp [h']
          · left; exact h'
      · right; simp [h']
  rcases key _ _ h with h' | h'
  · cases h'
  · simpa [List.mem_filter] using h'

theorem cascade_succ (fuel : Nat) (q : DelayQ) (l s : Nat) :
    cascade (fuel + 1) q l s =
      match slotTop q l s with
      | none => q
      | some e => cascade fuel (bump q e (l - 1)) l s := rfl

theorem cascade_frame (l s : Nat) : ∀ (fuel : Nat) (q : DelayQ), Frame q (cascade fuel q l s)
  | 0, q => Frame.refl q
  | fuel + 1, q => by
    rw [cascade_succ]
    split
    · exact Frame.refl q
    · next e he => exact (Frame.of_bump (slotTop_some he).1).trans (cascade_frame l s fuel _)

/-- the fields `cascade` does not touch -/
theorem cascade_fields (l s : Nat) : ∀ (fuel : Nat) (q : DelayQ),
    (cascade fuel q l s).wheelElapsed = q.wheelElapsed ∧ (cascade fuel q l s).wheelNow = q.wheelNow ∧
    (cascade fuel q l s).expired = q.expired
  | 0, q => ⟨rfl, rfl, rfl⟩
  | fuel + 1, q => by
    rw [cascade_succ]
    split
    · exact ⟨rfl, rfl, rfl⟩
    · exact cascade_fields l s fuel _

/-- every entry after a cascade is an old one, or an old one of the slot moved one level down -/
theorem cascade_entries (l s : Nat) : ∀ (fuel : Nat) (q : DelayQ), ∀ x ∈ (cascade fuel q l s).entries,
    x ∈ q.entries ∨ (x.level = l - 1 ∧ ∃ e ∈ q.entries, e.level = l ∧ slotFor e.whenMs l = s ∧
      x.whenMs = e.whenMs)
  | 0, q => fun x hx => .inl hx
  | fuel + 1, q => by
    rw [cascade_succ]
    split
    · exact fun x hx => .inl hx
    · next e he =>
      obtain ⟨hm, hl, hs⟩ := slotTop_some he
      intro x hx
      have hb : ∀ y ∈ (bump q e (l - 1)).entries, y ∈ q.entries ∨ (y.level = l - 1 ∧ y.whenMs = e.whenMs) := by
        intro y hy
        simp only [bump, List.mem_append, List.mem_filter, List.mem_singleton] at hy
        rcases hy with hy | rfl
        · exact .inl hy.1
        · exact .inr ⟨rfl, rfl⟩
      rcases cascade_entries l s fuel _ x hx with h | ⟨h1, e1, he1, h2, h3, h4⟩
      · rcases hb x h with h | ⟨h1, h2⟩
        · exact .inl h
        · exact .inr ⟨h1, e, hm, hl, hs, h2⟩
      · rcases hb e1 he1 with h | ⟨_, h5⟩
        · exact .inr ⟨h1, e1, h, h2, h3, h4⟩
        · exact .inr ⟨h1, e, hm, hl, hs, by rw [h4, h5]⟩


/-! ### `wheelPoll`, `pollIdx`: frame -/

/-- what a poll does to the content: nothing, or exactly one entry `e` is taken out -/
def PollFrame (q q' : DelayQ) : Option DqEntry → Prop
  | none => Frame q q'
  | some e => ∃ qm, Frame q qm ∧ e ∈ qm.entries ∧ Frame (pop qm e) q'

theorem PollFrame.pre {a q q' : DelayQ} {r : Option DqEntry} (h : Frame a q) (h' : PollFrame q q' r) :
    PollFrame a q' r := by
  cases r with
  | none => exact h.trans h'
  | some e => obtain ⟨qm, h1, h2, h3⟩ := h'; exact ⟨qm, h.trans h1, h2, h3⟩

theorem PollFrame.post {q q' b : DelayQ} {r : Option DqEntry} (h' : PollFrame q q' r) (h : Frame q' b) :
    PollFrame q b r := by
  cases r with
  | none => exact Frame.trans h' h
  | some e => obtain ⟨qm, h1, h2, h3⟩ := h'; exact ⟨qm, h1, h2, h3.trans h⟩

theorem wheelPoll_succ (fuel : Nat) (q : DelayQ) (now : Nat) :
    wheelPoll (fuel + 1) q now =
      match nextExpiration q with
      | none => ({ q with wheelElapsed := max q.wheelElapsed now }, none)
      | some ex =>
          if ex.deadline > now then ({ q with wheelElapsed := max q.wheelElapsed now }, none)
          else if ex.level == 0 then
            match slotTop q 0 ex.slot with
            | some e => (pop q e, some e)
            | none => (q, none)
          else
            wheelPoll fuel { cascade (q.entries.length + 1) q ex.level ex.slot with
              wheelElapsed := max (cascade (q.entries.length + 1) q ex.level ex.slot).wheelElapsed ex.deadline } now :=
  rfl

theorem wheelPoll_frame : ∀ (fuel : Nat) (q : DelayQ) (t : Nat),
    PollFrame q (wheelPoll fuel q t).1 (wheelPoll fuel q t).2
  | 0, q, t => Frame.refl q
  | fuel + 1, q, t => by
    rw [wheelPoll_succ]
    split
    · exact Frame.of_fields rfl rfl rfl
    · next ex hex =>
      split
      · exact Frame.of_fields rfl rfl rfl
      · split
        · split
          · next e he => exact ⟨q, Frame.refl q, (slotTop_some he).1, Frame.refl _⟩
          · exact Frame.refl q
        · refine PollFrame.pre ?_ (wheelPoll_frame fuel _ t)
          exact (cascade_frame _ _ _ q).trans (Frame.of_fields rfl rfl rfl)

/-- the entry a poll yielded, if any -/
def PollRes.entry : PollRes → Option DqEntry
  | .expired e => Option.some e
  | _ => Option.none

/-- the common tail of the two branches of `pollIdx` -/
def idxTail (rec : DelayQ → DelayQ × PollRes) (p : DelayQ × Option DqEntry) : DelayQ × PollRes :=
  match p.2 with
  | some e => ({ p.1 with delay := nextDeadline p.1 }, .expired e)
  | none =>
    if (nextDeadline p.1).isNone then ({ p.1 with delay := nextDeadline p.1, waker := true }, .none)
    else rec { p.1 with delay := nextDeadline p.1 }

theorem pollIdx_succ (fuel : Nat) (q : DelayQ) (now : Nat) :
    pollIdx (fuel + 1) q now =
      match q.delay with
      | some dl =>
          if now < dl * nsPerMs then ({ q with waker := true }, .pending)
          else idxTail (fun q => pollIdx fuel q now)
            (wheelPoll (wheelFuel { q with wheelNow := dl }) { q with wheelNow := dl } dl)
      | none => idxTail (fun q => pollIdx fuel q now) (wheelPoll (wheelFuel q) q q.wheelNow) := by
  rfl

theorem idxTail_frame {rec : DelayQ → DelayQ × PollRes} {p : DelayQ × Option DqEntry} {q : DelayQ}
    (hrec : ∀ q2, PollFrame q2 (rec q2).1 (rec q2).2.entry) (hp : PollFrame q p.1 p.2) :
    PollFrame q (idxTail rec p).1 (idxTail rec p).2.entry := by
  obtain ⟨p1, p2⟩ := p
  unfold idxTail
  cases p2 with
  | some e => exact PollFrame.post hp (Frame.of_fields rfl rfl rfl)
  | none =>
    simp only
    split
    · exact Frame.trans hp (Frame.of_fields rfl rfl rfl)
    · refine PollFrame.pre ?_ (hrec _)
      exact Frame.trans hp (Frame.of_fields rfl rfl rfl)

theorem pollIdx_frame : ∀ (fuel : Nat) (q : DelayQ) (now : Nat),
    PollFrame q (pollIdx fuel q now).1 (pollIdx fuel q now).2.entry
  | 0, q, now => Frame.refl q
  | fuel + 1, q, now => by
    rw [pollIdx_succ]
    split
    · split
      · exact Frame.of_fields rfl rfl rfl
      · refine idxTail_frame (fun q2 => pollIdx_frame fuel q2 now) (PollFrame.pre ?_ (wheelPoll_frame _ _ _))
        exact Frame.of_fields rfl rfl rfl
    · exact idxTail_frame (fun q2 => pollIdx_frame fuel q2 now) (wheelPoll_frame _ _ _)

theorem pollExpired_nil {q : DelayQ} (now : Nat) (hex : q.expired = []) :
    q.pollExpired now = pollIdx (wheelFuel { q with waker := true } + 8) { q with waker := true } now := by
  unfold pollExpired; simp only [hex]

theorem pollExpired_cons {q : DelayQ} (now : Nat) {e : DqEntry} {rest : List DqEntry} (hex : q.expired = e :: rest) :
    q.pollExpired now = ({ q with waker := true, expired := rest }, .expired e) := by
  unfold pollExpired; simp only [hex]

theorem pollExpired_frame {q q' : DelayQ} {now : Nat} {r : PollRes} (h : q.pollExpired now = (q', r)) :
    PollFrame q q' r.entry ∨
    ∃ e rest, q.expired = e :: rest ∧ q' = { q with waker := true, expired := rest } ∧ r = .expired e := by
  cases hx : q.expired with
  | nil =>
    have := pollIdx_frame (wheelFuel { q with waker := true } + 8) { q with waker := true } now
    rw [← pollExpired_nil now hx, h] at this
    exact .inl (PollFrame.pre (q := { q with waker := true }) (Frame.of_fields rfl rfl rfl) this)
  | cons e rest =>
    rw [pollExpired_cons now hx] at h
    cases h
    exact .inr ⟨e, rest, rfl, rfl, rfl⟩

theorem PollFrame.nextKey {q q' : DelayQ} {r : Option DqEntry} (h : PollFrame q q' r) :
    q'.nextKey = q.nextKey := by
  cases r with
  | none => exact Frame.nextKey h
  | some e => obtain ⟨qm, h1, _, h3⟩ := h; exact h3.nextKey.trans h1.nextKey

theorem PollFrame.expired_eq {q q' : DelayQ} {r : Option DqEntry} (h : PollFrame q q' r) :
    q'.expired = q.expired := by
  cases r with
  | none => exact Frame.expired h
  | some e => obtain ⟨qm, h1, _, h3⟩ := h; exact h3.expired.trans h1.expired

theorem pollIdx_expired (fuel : Nat) (q : DelayQ) (now : Nat) : (pollIdx fuel q now).1.expired = q.expired :=
  PollFrame.expired_eq (pollIdx_frame fuel q now)

theorem PollFrame.keysOk {q q' : DelayQ} {r : Option DqEntry} (h : PollFrame q q' r) (hq : KeysOk q) : KeysOk q' := by
  cases r with
  | none => exact Frame.wf h hq
  | some e => obtain ⟨qm, h1, _, h3⟩ := h; exact h3.wf (pop_keysOk (h1.wf hq))

theorem PollFrame.len_lt {q q' : DelayQ} {e : DqEntry} (h : PollFrame q q' (some e)) : q'.len < q.len := by
  obtain ⟨qm, h1, h2, h3⟩ := h
  have := h1.len; have := congrArg List.length h1.expired; have := h3.len
  have h4 := congrArg List.length h3.expired; have := pop_len h2
  have h5 : (pop qm e).expired = qm.expired := rfl
  rw [h5] at h4
  simp only [DelayQ.len]; omega

theorem PollFrame.len_le {q q' : DelayQ} {r : Option DqEntry} (h : PollFrame q q' r) : q'.len ≤ q.len := by
  cases r with
  | none => have := Frame.len h; have := congrArg List.length (Frame.expired h); simp only [DelayQ.len]; omega
  | some e => exact Nat.le_of_lt (PollFrame.len_lt h)

theorem PollFrame.cores_none {q q' : DelayQ} (h : PollFrame q q' none) (hq : KeysOk q) :
    ∀ c, c ∈ q'.cores ↔ c ∈ q.cores := Frame.cores h hq

theorem PollFrame.cores_some {q q' : DelayQ} {e : DqEntry} (h : PollFrame q q' (some e)) (hq : KeysOk q) :
    core e ∈ q.cores ∧ (∀ c, c ∈ q'.cores ↔ c ∈ q.cores ∧ c.1 ≠ e.key) := by
  obtain ⟨qm, h1, h2, h3⟩ := h
  have hm := h1.wf hq
  constructor
  · rw [← h1.cores hq]
    simp only [DelayQ.cores, items, List.map_append, List.mem_append, List.mem_map]
    exact .inl ⟨e, h2, rfl⟩
  · intro c
    rw [h3.cores (pop_keysOk hm), pop_cores h2 hm, h1.cores hq]

/-- popping the `expired` stack -/
theorem popx_keysOk {q : DelayQ} {e : DqEntry} {rest : List DqEntry} (hx : q.expired = e :: rest) (hq : KeysOk q) :
    KeysOk { q with waker := true, expired := rest } := by
  obtain ⟨h1, h2⟩ := hq
  simp only [items, hx] at h1 h2
  constructor
  · refine List.Nodup.sublist ?_ h1
    exact List.Sublist.map _ (List.Sublist.append (List.Sublist.refl _) (List.sublist_cons_self _ _))
  · intro a ha
    apply h2
    simp only [items, List.mem_append, List.mem_cons] at ha ⊢
    grind

theorem popx_cores {q : DelayQ} {e : DqEntry} {rest : List DqEntry} (hx : q.expired = e :: rest) (hq : KeysOk q)
    (c : Nat × Nat × Nat) :
    c ∈ (DelayQ.cores { q with waker := true, expired := rest }) ↔ c ∈ q.cores ∧ c.1 ≠ e.key := by
  have h1 := hq.nodup
  simp only [items, hx, List.map_append, List.map_cons, List.nodup_append, List.nodup_cons, List.mem_map,
    List.mem_cons] at h1
  simp only [DelayQ.cores, items, hx, List.map_append, List.map_cons, List.mem_append, List.mem_map, List.mem_cons]
  constructor
  · rintro (⟨a, ha, rfl⟩ | ⟨a, ha, rfl⟩)
    · refine ⟨.inl ⟨a, ha, rfl⟩, ?_⟩
      simp only [core]
      intro h
      exact h1.2.2 _ ⟨a, ha, rfl⟩ _ (.inl rfl) h
    · refine ⟨.inr (.inr ⟨a, ha, rfl⟩), ?_⟩
      simp only [core]
      intro h
      exact h1.2.1.1 ⟨a, ha, h⟩
  · rintro ⟨⟨a, ha, rfl⟩ | rfl | ⟨a, ha, rfl⟩, hk⟩
    · exact .inl ⟨a, ha, rfl⟩
    · exact absurd rfl hk
    · exact .inr ⟨a, ha, rfl⟩


/-! ### insert -/

/-- the deadline (ms) `insert` computes -/
def whenOf (q : DelayQ) (now timeout : Nat) : Nat := max (ceilMs (now + timeout)) q.wheelElapsed

theorem insert_cases {q q' : DelayQ} {now to v : Nat} {r : InsertRes} {w : Bool}
    (h : q.insert now to v = (q', r, w)) :
    (r = .panic ∧ q' = q ∧ delayQMaxMs < max (ceilMs (now + to)) q.wheelElapsed - q.wheelElapsed) ∨
    (r = .ok q.nextKey ∧ q'.nextKey = q.nextKey + 1 ∧ q'.wheelElapsed = q.wheelElapsed ∧
      q'.wheelNow = q.wheelNow ∧
      ((q'.entries = q.entries ∧
        q'.expired = { key := q.nextKey, val := v, whenMs := max (ceilMs (now + to)) q.wheelElapsed } :: q.expired ∧
        max (ceilMs (now + to)) q.wheelElapsed ≤ q.wheelElapsed) ∨
       (q'.entries = q.entries ++ [{
            key := q.nextKey, val := v, whenMs := max (ceilMs (now + to)) q.wheelElapsed,
            level := levelFor q.wheelElapsed (max (ceilMs (now + to)) q.wheelElapsed), seq := q.seqCtr }] ∧
        q'.expired = q.expired ∧ q.wheelElapsed < max (ceilMs (now + to)) q.wheelElapsed ∧
        max (ceilMs (now + to)) q.wheelElapsed - q.wheelElapsed ≤ delayQMaxMs))) := by
  unfold insert at h
  simp only at h
  split at h
  · next hp =>
    left
    simp only [Bool.and_eq_true, decide_eq_true_eq] at hp
    simp only [Prod.mk.injEq] at h
    exact ⟨h.2.1.symm, h.1.symm, hp.2⟩
  · next hp =>
    right
    simp only [Bool.and_eq_true, decide_eq_true_eq, not_and, Nat.not_lt] at hp
    by_cases hw : max (ceilMs (now + to)) q.wheelElapsed ≤ q.wheelElapsed
    · simp only [hw, if_true] at h
      split at h <;> split at h <;>
      · simp only [Prod.mk.injEq] at h
        obtain ⟨rfl, rfl, rfl⟩ := h
        exact ⟨rfl, rfl, rfl, rfl, .inl ⟨rfl, rfl, hw⟩⟩
    · simp only [hw, if_false] at h
      split at h <;> split at h <;>
      · simp only [Prod.mk.injEq] at h
        obtain ⟨rfl, rfl, rfl⟩ := h
        exact ⟨rfl, rfl, rfl, rfl, .inr ⟨rfl, rfl, by omega, hp (by omega)⟩⟩


theorem insert_panic {q q' : DelayQ} {now to v : Nat} {w : Bool}
    (h : q.insert now to v = (q', .panic, w)) : q' = q := by
  rcases insert_cases h with ⟨_, h, _⟩ | ⟨h, _⟩
  · exact h
  · cases h

theorem insert_panic_late {q q' : DelayQ} {now T S v : Nat} {w : Bool} (h : q.insert now T v = (q', .panic, w))
    (hT : T ≤ S * 1000000000) (hS : S * 1000 + 2 ^ 35 + 1 ≤ delayQMaxMs) : 2 ^ 35 * nsPerMs ≤ now := by
  rcases insert_cases h with ⟨-, -, hc⟩ | ⟨hr, -⟩
  · unfold ceilMs nsPerMs at hc
    unfold nsPerMs
    unfold delayQMaxMs at hc hS
    omega
  · cases hr

theorem insert_items {q q' : DelayQ} {now to v k : Nat} {w : Bool} (h : q.insert now to v = (q', .ok k, w)) :
    k = q.nextKey ∧ q'.nextKey = k + 1 ∧
    ∃ e', core e' = (k, v, max (ceilMs (now + to)) q.wheelElapsed) ∧ q'.items = q.entries ++ e' :: q.expired := by
  rcases insert_cases h with ⟨h, _⟩ | ⟨hk, hn, _, _, hc⟩
  · cases h
  · cases hk
    refine ⟨rfl, hn, ?_⟩
    rcases hc with ⟨e1, e2, _⟩ | ⟨e1, e2, _⟩
    · exact ⟨_, rfl, by rw [items, e1, e2]⟩
    · exact ⟨_, rfl, by rw [items, e1, e2, List.append_assoc, List.singleton_append]⟩

theorem insert_has_key {q q' : DelayQ} {now to v k : Nat} {w : Bool} (h : q.insert now to v = (q', .ok k, w)) :
    (q'.entries.any (·.key == k) || q'.expired.any (·.key == k)) = true := by
  obtain ⟨-, -, e', hc, hit⟩ := insert_items h
  rw [← List.any_append, show q'.entries ++ q'.expired = q'.items from rfl, hit]
  simp [show e'.key = k from congrArg (·.1) hc]

theorem insert_ok {q q' : DelayQ} {now to v k : Nat} {w : Bool}
    (h : q.insert now to v = (q', .ok k, w)) :
    k = q.nextKey ∧ q'.nextKey = k + 1 ∧
    (∀ c, c ∈ q'.cores ↔ c ∈ q.cores ∨ c = (k, v, max (ceilMs (now + to)) q.wheelElapsed)) := by
  obtain ⟨hk, hn, e', hc, hit⟩ := insert_items h
  refine ⟨hk, hn, fun c => ?_⟩
  rw [cores, hit, cores, items]
  simp only [List.map_append, List.map_cons, List.mem_append, List.mem_cons, hc]
  rw [or_left_comm, or_comm]

theorem insert_WF {q q' : DelayQ} {now to v : Nat} {r : InsertRes} {w : Bool}
    (h : q.insert now to v = (q', r, w)) (hq : KeysOk q) : KeysOk q' := by
  cases r with
  | panic => exact insert_panic h ▸ hq
  | ok k =>
    obtain ⟨hk, hn, e', hc, hit⟩ := insert_items h
    have hke : e'.key = q.nextKey := hk ▸ congrArg (fun c => c.1) hc
    have hlt : ∀ a ∈ q.entries ++ q.expired, a.key < q.nextKey := hq.lt
    constructor
    · rw [hit]
      exact nodup_middle hq.nodup (fun a ha => by have := hlt a ha; omega)
    · rw [hit, hn, hk]
      intro a ha
      rcases List.mem_append.1 ha with ha | ha
      · exact Nat.lt_succ_of_lt (hlt a (List.mem_append_left _ ha))
      · rcases List.mem_cons.1 ha with rfl | ha
        · omega
        · exact Nat.lt_succ_of_lt (hlt a (List.mem_append_right _ ha))

theorem insert_len {q q' : DelayQ} {now to v k : Nat} {w : Bool}
    (h : q.insert now to v = (q', .ok k, w)) : q'.len = q.len + 1 := by
  obtain ⟨-, -, e', -, hit⟩ := insert_items h
  rw [len_eq, len_eq, hit, items, List.length_append, List.length_append, List.length_cons]
  omega
/-! ### remove -/

theorem remove_none_iff (q : DelayQ) (k : Nat) : q.remove k = none ↔ k ∉ q.items.map (·.key) := by
  unfold remove
  split
  · next h =>
    simp only [Bool.or_eq_true, List.any_eq_true, beq_iff_eq] at h
    simp only [items, List.map_append, List.mem_append, List.mem_map]
    simp only [reduceCtorEq, false_iff, Classical.not_not]
    exact h
  · next h =>
    simp only [Bool.or_eq_true, List.any_eq_true, beq_iff_eq] at h
    simp only [items, List.map_append, List.mem_append, List.mem_map, true_iff]
    exact h

theorem remove_cases {q q' : DelayQ} {k : Nat} {w : Bool} (h : q.remove k = some (q', w)) :
    k ∈ q.items.map (·.key) ∧ q'.entries = q.entries.filter (·.key != k) ∧
    q'.expired = q.expired.filter (·.key != k) ∧ q'.nextKey = q.nextKey ∧
    q'.wheelElapsed = q.wheelElapsed ∧ q'.wheelNow = q.wheelNow := by
  refine ⟨?_, ?_⟩
  · apply Classical.byContradiction
    intro hk
    rw [(remove_none_iff q k).2 hk] at h
    cases h
  · unfold remove at h
    split at h
    · simp only [Option.some.injEq, Prod.mk.injEq] at h
      obtain ⟨rfl, -⟩ := h
      split <;> exact ⟨rfl, rfl, rfl, rfl, rfl⟩
    · cases h

theorem remove_some {q q' : DelayQ} {k : Nat} {w : Bool} (h : q.remove k = some (q', w)) :
    q'.nextKey = q.nextKey ∧ (∀ c, c ∈ q'.cores ↔ c ∈ q.cores ∧ c.1 ≠ k) := by
  obtain ⟨_, e1, e2, e3, _⟩ := remove_cases h
  refine ⟨e3, fun c => ?_⟩
  simp only [cores, items, e1, e2, List.map_append, List.mem_append, List.mem_map, List.mem_filter, core]
  grind

theorem remove_WF {q q' : DelayQ} {k : Nat} {w : Bool} (h : q.remove k = some (q', w)) (hq : KeysOk q) :
    KeysOk q' := by
  obtain ⟨_, e1, e2, e3, _⟩ := remove_cases h
  constructor
  · simp only [items, e1, e2]
    exact nodup_pop k hq.nodup
  · have := hq.lt
    simp only [items, e1, e2, e3, List.mem_append, List.mem_filter] at this ⊢
    grind

theorem remove_len {q q' : DelayQ} {k : Nat} {w : Bool} (h : q.remove k = some (q', w)) :
    q'.len < q.len := by
  obtain ⟨hk, e1, e2, _⟩ := remove_cases h
  simp only [items, List.map_append, List.mem_append, List.mem_map] at hk
  have h1 := List.length_filter_le (fun e : DqEntry => e.key != k) q.entries
  have h2 := List.length_filter_le (fun e : DqEntry => e.key != k) q.expired
  simp only [len, e1, e2]
  rcases hk with ⟨a, ha, hk⟩ | ⟨a, ha, hk⟩
  · have := length_filter_lt ha hk; omega
  · have := length_filter_lt ha hk; omega

/-! ### pollExpired -/

theorem pollExpired_nextKey {q q' : DelayQ} {now : Nat} {r : PollRes} (h : q.pollExpired now = (q', r)) :
    q'.nextKey = q.nextKey := by
  rcases pollExpired_frame h with hf | ⟨e, rest, hx, rfl, rfl⟩
  · exact hf.nextKey
  · rfl

theorem pollExpired_WF {q q' : DelayQ} {now : Nat} {r : PollRes} (h : q.pollExpired now = (q', r))
    (hq : KeysOk q) : KeysOk q' := by
  rcases pollExpired_frame h with hf | ⟨e, rest, hx, rfl, rfl⟩
  · exact hf.keysOk hq
  · exact popx_keysOk hx hq

/-- What comes out was in the queue, and exactly the entries with that key are gone. -/
theorem pollExpired_expired {q q' : DelayQ} {now : Nat} {e : DqEntry}
    (h : q.pollExpired now = (q', .expired e)) (hq : KeysOk q) :
    core e ∈ q.cores ∧ (∀ c, c ∈ q'.cores ↔ c ∈ q.cores ∧ c.1 ≠ e.key) := by
  rcases pollExpired_frame h with hf | ⟨e', rest, hx, rfl, he⟩
  · exact PollFrame.cores_some hf hq
  · cases he
    exact ⟨by simp [cores, items, hx], popx_cores hx hq⟩

theorem pollExpired_other {q q' : DelayQ} {now : Nat} {r : PollRes} (h : q.pollExpired now = (q', r)) (hq : KeysOk q)
    (hr : ∀ e, r ≠ .expired e) : ∀ c, c ∈ q'.cores ↔ c ∈ q.cores := by
  rcases pollExpired_frame h with hf | ⟨e', rest, hx, rfl, rfl⟩
  · cases r with
    | expired e => exact absurd rfl (hr e)
    | pending => exact PollFrame.cores_none hf hq
    | none => exact PollFrame.cores_none hf hq
  · exact absurd rfl (hr _)

theorem pollExpired_len_le {q q' : DelayQ} {now : Nat} {r : PollRes} (h : q.pollExpired now = (q', r)) :
    q'.len ≤ q.len := by
  rcases pollExpired_frame h with hf | ⟨e', rest, hx, rfl, rfl⟩
  · exact hf.len_le
  · simp [len, hx]

theorem pollExpired_len_lt {q q' : DelayQ} {now : Nat} {e : DqEntry}
    (h : q.pollExpired now = (q', .expired e)) : q'.len < q.len := by
  rcases pollExpired_frame h with hf | ⟨e', rest, hx, rfl, he⟩
  · exact PollFrame.len_lt hf
  · simp [len, hx]

/-! ### wheel arithmetic, with the slot width `b` of a level as a variable -/

/-- the deadline `levelNextExpiration` computes for slot `s` of a level with slots of `b` ms -/
def exDeadline (b E s : Nat) : Nat :=
  if E - E % (64 * b) + s * b < E then E - E % (64 * b) + s * b + 64 * b else E - E % (64 * b) + s * b

/-- with `E = 64b·n + r`, the rotation index `q / 64` is `n` or `n + 1` -/
theorem exDeadline_of_window {b E q : Nat} (hb : 0 < b) (h1 : E ≤ b * q) (h2 : b * q < E + 64 * b) :
    exDeadline b E (q % 64) = b * q := by
  have hm : b * q / (64 * b) = q / 64 := by rw [Nat.mul_comm 64 b, Nat.mul_div_mul_left _ _ hb]
  have hlo : E / (64 * b) ≤ q / 64 := hm ▸ Nat.div_le_div_right h1
  have hhi : q / 64 ≤ E / (64 * b) + 1 := by
    rw [← hm, ← Nat.add_div_right _ (show 0 < 64 * b by omega)]
    exact Nat.div_le_div_right (Nat.le_of_lt h2)
  have hx : b * q = 64 * b * (q / 64) + q % 64 * b := by
    rw [Nat.mul_comm (q % 64), Nat.mul_comm 64 b, Nat.mul_assoc, ← Nat.mul_add, Nat.div_add_mod]
  unfold exDeadline
  rw [← Nat.mul_div_self_eq_mod_sub_self]
  rcases Nat.eq_or_lt_of_le hlo with h | h
  · rw [h, ← hx, if_neg (Nat.not_lt.2 h1)]
  · have : q / 64 = E / (64 * b) + 1 := by omega
    rw [this, Nat.mul_succ] at hx
    rw [if_pos (by omega)]
    omega

theorem le_exDeadline {b : Nat} (hb : 0 < b) (E s : Nat) : E ≤ exDeadline b E s := by
  have := Nat.mod_lt E (show 0 < 64 * b by omega)
  have := Nat.mod_le E (64 * b)
  unfold exDeadline
  split <;> omega

/-- the arithmetic heart of "never early" -/
theorem div_le_exDeadline {b E w : Nat} (hb : 0 < b) (h : w < E + 64 * b) :
    w / b ≤ exDeadline b E (w / b % 64) / b := by
  rw [Nat.le_div_iff_mul_le hb, Nat.mul_comm]
  rcases Nat.lt_or_ge (b * (w / b)) E with h1 | h1
  · exact Nat.le_trans (Nat.le_of_lt h1) (le_exDeadline hb E _)
  · exact Nat.le_of_eq (exDeadline_of_window hb h1 (Nat.lt_of_le_of_lt (Nat.mul_div_le w b) h)).symm

/-- both clauses of the one-sided invariant give `w < E + 64 · 64 ^ L` -/
theorem casc_arith {L : Nat} (hL : L ≤ 5) (E w s : Nat) (hs : slotFor w L = s)
    (hb : L < 5 → w / 64 ^ (L + 1) ≤ E / 64 ^ (L + 1)) (ht : L = 5 → w ≤ E + delayQMaxMs) :
    w / 64 ^ L ≤ exDeadline (64 ^ L) E s / 64 ^ L := by
  subst hs
  refine div_le_exDeadline (Nat.pow_pos (by decide)) ?_
  rcases Nat.lt_or_ge L 5 with h | h
  · have h1 := hb h
    rw [Nat.pow_succ, Nat.mul_comm] at h1
    calc w < 64 * 64 ^ L * (w / (64 * 64 ^ L) + 1) :=
            Nat.lt_mul_div_succ w (Nat.mul_pos (by decide) (Nat.pow_pos (by decide)))
      _ ≤ 64 * 64 ^ L * (E / (64 * 64 ^ L) + 1) := Nat.mul_le_mul_left _ (Nat.succ_le_succ h1)
      _ ≤ E + 64 * 64 ^ L := Nat.add_le_add_right (Nat.mul_div_le E _) _
  · obtain rfl : L = 5 := by omega
    have := ht rfl
    have h36 : 64 * 64 ^ 5 = delayQMaxMs + 1 := by decide
    omega

theorem levelNextExpiration_some {q : DelayQ} {L : Nat} {ex : Expiration}
    (h : levelNextExpiration q L = some ex) :
    ex.level = L ∧ ex.slot < 64 ∧ ex.deadline = exDeadline (64 ^ L) q.wheelElapsed ex.slot := by
  unfold levelNextExpiration at h
  simp only at h
  split at h
  · cases h
  · cases h
    exact ⟨rfl, Nat.mod_lt _ (by decide), rfl⟩

theorem nextExpiration_some {q : DelayQ} {ex : Expiration} (h : nextExpiration q = some ex) :
    ex.level ≤ 5 ∧ ex.slot < 64 ∧ ex.deadline = exDeadline (64 ^ ex.level) q.wheelElapsed ex.slot := by
  obtain ⟨L, hL, hex⟩ := List.exists_of_findSome?_eq_some h
  obtain ⟨h1, h2, h3⟩ := levelNextExpiration_some hex
  have := List.mem_range.1 hL
  subst h1
  exact ⟨by omega, h2, h3⟩

theorem max_mul_le {a b n now : Nat} (ha : a * n ≤ now) (hb : b * n ≤ now) : max a b * n ≤ now := by
  rcases Nat.le_total a b with h | h
  · rwa [Nat.max_eq_right h]
  · rwa [Nat.max_eq_left h]

/-! ### `levelFor` -/

theorem xor_eq_zero {a b : Nat} (h : a ^^^ b = 0) : a = b := by
  have : a ^^^ (a ^^^ b) = b := by rw [← Nat.xor_assoc, Nat.xor_self, Nat.zero_xor]
  rw [h, Nat.xor_zero] at this
  exact this

theorem div_eq_of_xor_lt {a b k : Nat} (h : a ^^^ b < 2 ^ k) : a / 2 ^ k = b / 2 ^ k := by
  apply xor_eq_zero
  rw [← Nat.xor_div_two_pow]
  exact Nat.div_eq_of_lt h

theorem xor_lt_of_div_eq {a b k : Nat} (h : a / 2 ^ k = b / 2 ^ k) : a ^^^ b < 2 ^ k := by
  have : (a ^^^ b) / 2 ^ k = 0 := by rw [Nat.xor_div_two_pow, h, Nat.xor_self]
  exact Nat.lt_of_div_eq_zero (Nat.pow_pos (by decide)) this

theorem levelFor_bounds (E w : Nat) :
    levelFor E w ≤ 5 ∧ (levelFor E w < 5 → (E ^^^ w) ||| 63 < 2 ^ (6 * (levelFor E w + 1))) ∧
    2 ^ (6 * levelFor E w) ≤ (E ^^^ w) ||| 63 := by
  unfold levelFor msb
  simp only
  split
  · next hc =>
    have h35 : Nat.log2 (delayQMaxMs - 1) = 35 := by
      have hne : delayQMaxMs - 1 ≠ 0 := by decide
      have h1 : 35 ≤ Nat.log2 (delayQMaxMs - 1) := (Nat.le_log2 hne).2 (by decide)
      have h2 : Nat.log2 (delayQMaxMs - 1) < 36 := (Nat.log2_lt hne).2 (by decide)
      omega
    rw [h35]
    exact ⟨by decide, fun h => absurd h (by decide), Nat.le_trans (by decide) hc⟩
  · next hc =>
    have hne : (E ^^^ w) ||| 63 ≠ 0 := by
      have : 63 ≤ (E ^^^ w) ||| 63 := Nat.right_le_or
      omega
    have h36 : Nat.log2 ((E ^^^ w) ||| 63) < 36 :=
      (Nat.log2_lt hne).2 (Nat.lt_of_lt_of_le (Nat.lt_of_not_ge hc) (by decide))
    exact ⟨by omega, fun _ => (Nat.log2_lt hne).1 (by omega), (Nat.le_log2 hne).1 (by omega)⟩

theorem levelFor_le (E w : Nat) : levelFor E w ≤ 5 := (levelFor_bounds E w).1

theorem levelFor_eq_blk {E w : Nat} (h : levelFor E w < 5) :
    w / 64 ^ (levelFor E w + 1) = E / 64 ^ (levelFor E w + 1) := by
  have := div_eq_of_xor_lt (Nat.lt_of_le_of_lt Nat.left_le_or ((levelFor_bounds E w).2.1 h))
  rw [Nat.pow_mul] at this
  exact this.symm

theorem levelFor_ne {E w : Nat} (h : 1 ≤ levelFor E w) : w / 64 ^ levelFor E w ≠ E / 64 ^ levelFor E w := by
  intro heq
  have hx : E ^^^ w < 2 ^ (6 * levelFor E w) := xor_lt_of_div_eq (by rw [Nat.pow_mul]; exact heq.symm)
  have h63 : (63 : Nat) < 2 ^ (6 * levelFor E w) :=
    Nat.lt_of_lt_of_le (by decide : (63 : Nat) < 2 ^ 6) (Nat.pow_le_pow_right (by decide) (by omega))
  exact Nat.lt_irrefl _ (Nat.lt_of_le_of_lt (levelFor_bounds E w).2.2 (Nat.or_lt_two_pow hx h63))
/-! ### timing: the wheel clock never passes an entry, and nothing comes out early -/

/-- The block of `d`'s level that contains `d.whenMs` is not after the block containing `elapsed`. -/
def SlotUB (elapsed : Nat) (d : DqEntry) : Prop :=
  (d.level < 5 → d.whenMs / 64 ^ (d.level + 1) ≤ elapsed / 64 ^ (d.level + 1)) ∧
  (d.level = 5 → d.whenMs ≤ elapsed + delayQMaxMs)

theorem SlotUB.mono {E E' : Nat} {d : DqEntry} (h : SlotUB E d) (hle : E ≤ E') : SlotUB E' d :=
  ⟨fun hl => Nat.le_trans (h.1 hl) (Nat.div_le_div_right hle), fun hl => Nat.le_trans (h.2 hl) (by omega)⟩

structure Timely (q : DelayQ) (now : Nat) : Prop where
  elapsed : q.wheelElapsed * nsPerMs ≤ now
  wheelNow : q.wheelNow * nsPerMs ≤ now
  expired : ∀ d ∈ q.expired, d.whenMs * nsPerMs ≤ now

theorem Timely.mono {q : DelayQ} {now now' : Nat} (h : Timely q now) (hle : now ≤ now') : Timely q now' :=
  ⟨Nat.le_trans h.elapsed hle, Nat.le_trans h.wheelNow hle, fun d hd => Nat.le_trans (h.expired d hd) hle⟩

/-- implied by `Sound q now` and by `WF q ∧ Timely q now` (`Lemmas/DelayQInv.lean`) -/
structure OnTime (q : DelayQ) (now : Nat) : Prop where
  ub : ∀ d ∈ q.entries, SlotUB q.wheelElapsed d
  timely : Timely q now

/-- `q'` arose from `q` by polling (`old`: cascades only move entries down, which keeps `Sound.lvl`) -/
structure Adv (q q' : DelayQ) : Prop where
  mono : q.wheelElapsed ≤ q'.wheelElapsed
  old : ∀ d ∈ q'.entries, d ∈ q.entries ∨ d.level < 5
  sub : ∀ d ∈ q'.expired, d ∈ q.expired

theorem Adv.of_eq {q q' : DelayQ} (he : q'.entries = q.entries) (hx : q'.expired = q.expired)
    (hE : q'.wheelElapsed = q.wheelElapsed) : Adv q q' :=
  ⟨Nat.le_of_eq hE.symm, fun _ hd => .inl (he ▸ hd), fun _ hd => hx ▸ hd⟩

theorem Adv.refl (q : DelayQ) : Adv q q := Adv.of_eq rfl rfl rfl

theorem Adv.trans {a b c : DelayQ} (h1 : Adv a b) (h2 : Adv b c) : Adv a c :=
  ⟨Nat.le_trans h1.mono h2.mono, fun d hd => (h2.old d hd).elim (h1.old d) .inr,
    fun d hd => h1.sub d (h2.sub d hd)⟩

theorem Sound.onTime {q : DelayQ} {now : Nat} (h : Sound q now) : OnTime q now :=
  ⟨fun e he => ⟨h.blk e he, h.top e he⟩,
    h.el, h.wn, fun d hd => Nat.le_trans (Nat.mul_le_mul_right _ (h.exp d hd)) h.el⟩

theorem Sound.of_adv {q q' : DelayQ} {now : Nat} (h : Sound q now) (ha : Adv q q') (h' : OnTime q' now) :
    Sound q' now :=
  ⟨fun e he => (ha.old e he).elim (h.lvl e) Nat.le_of_lt, fun e he => (h'.ub e he).1, fun e he => (h'.ub e he).2,
    fun e he => Nat.le_trans (h.exp e (ha.sub e he)) ha.mono, h'.timely.elapsed, h'.timely.wheelNow⟩

/-- the timing side of a poll (`PollFrame` is the content side) -/
structure PollT (q : DelayQ) (now : Nat) (q' : DelayQ) (r : Option DqEntry) : Prop where
  adv : Adv q q'
  onTime : OnTime q' now
  due : ∀ e, r = some e → e.whenMs * nsPerMs ≤ now

theorem PollT.pre {a q q' : DelayQ} {now : Nat} {r : Option DqEntry} (h : Adv a q) (h' : PollT q now q' r) :
    PollT a now q' r :=
  ⟨h.trans h'.adv, h'.onTime, h'.due⟩

theorem cascade_onTime {q : DelayQ} {now L s D : Nat} (fuel : Nat) (hq : OnTime q now) (h1 : 1 ≤ L) (h5 : L ≤ 5)
    (hD : D = exDeadline (64 ^ L) q.wheelElapsed s) (hd : D * nsPerMs ≤ now) :
    Adv q { cascade fuel q L s with wheelElapsed := max (cascade fuel q L s).wheelElapsed D } ∧
    OnTime { cascade fuel q L s with wheelElapsed := max (cascade fuel q L s).wheelElapsed D } now := by
  obtain ⟨f1, f2, f3⟩ := cascade_fields L s fuel q
  have hent := cascade_entries L s fuel q
  subst hD
  refine ⟨⟨?_, ?_, fun d hd => f3 ▸ hd⟩, ⟨?_, ?_, ?_, fun d hd => hq.timely.expired d (f3 ▸ hd)⟩⟩
  · simp only [f1]
    exact Nat.le_max_left _ _
  · intro d hd
    rcases hent d hd with h | ⟨hl, _⟩
    · exact .inl h
    · exact .inr (by omega)
  · intro d hd
    simp only [f1]
    rcases hent d hd with h | ⟨hl, e, he, hel, hes, hw⟩
    · exact (hq.ub d h).mono (Nat.le_max_left _ _)
    · refine ⟨fun _ => ?_, fun h => by omega⟩
      rw [hl, hw, Nat.sub_add_cancel h1]
      exact Nat.le_trans (casc_arith h5 _ _ _ hes (hel ▸ (hq.ub e he).1) (hel ▸ (hq.ub e he).2))
        (Nat.div_le_div_right (Nat.le_max_right _ _))
  · simp only [f1]
    exact max_mul_le hq.timely.elapsed hd
  · show (cascade fuel q L s).wheelNow * nsPerMs ≤ now
    rw [f2]
    exact hq.timely.wheelNow

theorem wheelPoll_onTime (now t : Nat) (ht : t * nsPerMs ≤ now) : ∀ (fuel : Nat) (q : DelayQ), OnTime q now →
    PollT q now (wheelPoll fuel q t).1 (wheelPoll fuel q t).2 := by
  intro fuel
  induction fuel with
  | zero => exact fun q hq => ⟨Adv.refl q, hq, fun _ h => by cases h⟩
  | succ fuel ih =>
    intro q hq
    have hadv : PollT q now { q with wheelElapsed := max q.wheelElapsed t } none :=
      ⟨⟨Nat.le_max_left _ _, fun _ h => .inl h, fun _ h => h⟩,
        ⟨fun d hd => (hq.ub d hd).mono (Nat.le_max_left _ _),
          max_mul_le hq.timely.elapsed ht, hq.timely.wheelNow, hq.timely.expired⟩,
        fun _ h => by cases h⟩
    rw [wheelPoll_succ]
    split
    · exact hadv
    · next ex hex =>
      obtain ⟨h1, h2, h3⟩ := nextExpiration_some hex
      split
      · exact hadv
      · next hdl =>
        have hdl' : ex.deadline * nsPerMs ≤ now :=
          Nat.le_trans (Nat.mul_le_mul_right _ (Nat.le_of_not_gt hdl)) ht
        split
        · next hl0 =>
          have hl0 : ex.level = 0 := by simpa using hl0
          split
          · next e he =>
            obtain ⟨hm, hlv, hs⟩ := slotTop_some he
            refine ⟨⟨Nat.le_refl _, fun d hd => .inl (List.mem_filter.1 hd).1, fun _ h => h⟩,
              ⟨fun d hd => hq.ub d (List.mem_filter.1 hd).1,
                hq.timely.elapsed, hq.timely.wheelNow, hq.timely.expired⟩, ?_⟩
            intro e' he'
            cases he'
            -- a level-0 slot is one millisecond wide: the entry is not after the slot's deadline
            have := casc_arith (L := 0) (by omega) q.wheelElapsed e.whenMs ex.slot hs
              (fun h => hlv ▸ (hq.ub e hm).1 (hlv ▸ h)) (fun h => by omega)
            rw [hl0] at h3
            rw [← h3, Nat.pow_zero, Nat.div_one, Nat.div_one] at this
            exact Nat.le_trans (Nat.mul_le_mul_right _ this) hdl'
          · exact ⟨Adv.refl q, hq, fun _ h => by cases h⟩
        · next hl0 =>
          have hl0 : ex.level ≠ 0 := by simpa using hl0
          obtain ⟨ha, ho⟩ := cascade_onTime (q.entries.length + 1) hq (by omega) h1 h3 hdl'
          exact (ih _ ho).pre ha

theorem idxTail_onTime {rec : DelayQ → DelayQ × PollRes} {p : DelayQ × Option DqEntry} {q : DelayQ} {now : Nat}
    (hrec : ∀ q2, OnTime q2 now → PollT q2 now (rec q2).1 (rec q2).2.entry) (hp : PollT q now p.1 p.2) :
    PollT q now (idxTail rec p).1 (idxTail rec p).2.entry := by
  obtain ⟨p1, p2⟩ := p
  obtain ⟨h1, h2, h3⟩ := hp
  have ha : ∀ (d : Option Nat) (w : Bool), Adv q { p1 with delay := d, waker := w } :=
    fun d w => ⟨h1.mono, h1.old, h1.sub⟩
  have ho : ∀ (d : Option Nat) (w : Bool), OnTime { p1 with delay := d, waker := w } now :=
    fun d w => ⟨h2.ub, h2.timely.elapsed, h2.timely.wheelNow, h2.timely.expired⟩
  unfold idxTail
  cases p2 with
  | some e => exact ⟨ha _ _, ho _ _, fun e' he' => h3 e' (by simpa [PollRes.entry] using he')⟩
  | none =>
    simp only
    split
    · exact ⟨ha _ _, ho _ _, fun e' he' => by simp [PollRes.entry] at he'⟩
    · exact (hrec _ (ho _ _)).pre (ha _ _)

theorem pollIdx_onTime (now : Nat) : ∀ (fuel : Nat) (q : DelayQ), OnTime q now →
    PollT q now (pollIdx fuel q now).1 (pollIdx fuel q now).2.entry := by
  intro fuel
  induction fuel with
  | zero => exact fun q hq => ⟨Adv.refl q, hq, fun _ h => by simp [pollIdx, PollRes.entry] at h⟩
  | succ fuel ih =>
    intro q hq
    rw [pollIdx_succ]
    split
    · next dl hdl =>
      split
      · exact ⟨Adv.of_eq rfl rfl rfl,
          ⟨hq.ub, hq.timely.elapsed, hq.timely.wheelNow, hq.timely.expired⟩,
          fun _ h => by simp [PollRes.entry] at h⟩
      · next hlt =>
        have hdn : dl * nsPerMs ≤ now := Nat.le_of_not_gt hlt
        refine idxTail_onTime ih (PollT.pre (q := { q with wheelNow := dl })
          (Adv.of_eq rfl rfl rfl) (wheelPoll_onTime now dl hdn _ _ ?_))
        exact ⟨hq.ub, hq.timely.elapsed, hdn, hq.timely.expired⟩
    · exact idxTail_onTime ih (wheelPoll_onTime now _ hq.timely.wheelNow _ _ hq)

theorem pollExpired_onTime {q : DelayQ} {now : Nat} (hq : OnTime q now) :
    PollT q now (q.pollExpired now).1 (q.pollExpired now).2.entry := by
  cases h : q.expired with
  | nil =>
    rw [pollExpired_nil now h]
    exact PollT.pre (q := { q with waker := true }) (Adv.of_eq rfl rfl rfl)
      (pollIdx_onTime now _ _ ⟨hq.ub, hq.timely.elapsed, hq.timely.wheelNow, hq.timely.expired⟩)
  | cons e rest =>
    rw [pollExpired_cons now h]
    have hsub : ∀ d ∈ rest, d ∈ q.expired := fun d hd => h ▸ List.mem_cons_of_mem _ hd
    refine ⟨⟨Nat.le_refl _, fun _ h => .inl h, hsub⟩,
      ⟨hq.ub, hq.timely.elapsed, hq.timely.wheelNow, fun d hd => hq.timely.expired d (hsub d hd)⟩, ?_⟩
    intro e' he'
    simp only [PollRes.entry, Option.some.injEq] at he'
    subst he'
    exact hq.timely.expired e (h ▸ List.mem_cons_self)

theorem pollExpired_Sound {q q' : DelayQ} {now : Nat} {r : PollRes} (h : q.pollExpired now = (q', r))
    (hq : Sound q now) : Sound q' now := by
  have := pollExpired_onTime hq.onTime
  rw [h] at this
  exact hq.of_adv this.adv this.onTime

/-- **Never early** at the queue level. -/
theorem pollExpired_not_early {q q' : DelayQ} {now : Nat} {e : DqEntry}
    (h : q.pollExpired now = (q', .expired e)) (hq : Sound q now) : e.whenMs * nsPerMs ≤ now := by
  have := (pollExpired_onTime hq.onTime).due
  rw [h] at this
  exact this e rfl


/-- `Sound` survives dropping entries and advancing the clocks (within `now`) -/
theorem Sound.advance {q q' : DelayQ} {now : Nat} (hq : Sound q now)
    (he : ∀ e ∈ q'.entries, e ∈ q.entries) (hx : ∀ e ∈ q'.expired, e ∈ q.expired)
    (hE : q.wheelElapsed ≤ q'.wheelElapsed) (hel : q'.wheelElapsed * nsPerMs ≤ now)
    (hwn : q'.wheelNow * nsPerMs ≤ now) : Sound q' now := by
  constructor
  · exact fun e h => hq.lvl e (he e h)
  · exact fun e h hl => Nat.le_trans (hq.blk e (he e h) hl) (Nat.div_le_div_right hE)
  · exact fun e h hl => Nat.le_trans (hq.top e (he e h) hl) (Nat.add_le_add_right hE _)
  · exact fun e h => Nat.le_trans (hq.exp e (hx e h)) hE
  · exact hel
  · exact hwn

theorem remove_Sound {q q' : DelayQ} {k : Nat} {w : Bool} {t : Nat} (h : q.remove k = some (q', w))
    (hq : Sound q t) : Sound q' t := by
  obtain ⟨_, e1, e2, _, e4, e5⟩ := remove_cases h
  exact hq.advance (fun e he => (List.mem_filter.1 (e1 ▸ he)).1) (fun e he => (List.mem_filter.1 (e2 ▸ he)).1)
    (Nat.le_of_eq e4.symm) (e4 ▸ hq.el) (e5 ▸ hq.wn)

theorem insert_slotUB {q q' : DelayQ} {now to v : Nat} {r : InsertRes} {w : Bool} (h : q.insert now to v = (q', r, w))
    (hq : ∀ d ∈ q.entries, SlotUB q.wheelElapsed d) : ∀ d ∈ q'.entries, SlotUB q'.wheelElapsed d := by
  rcases insert_cases h with ⟨_, h, _⟩ | ⟨_, _, hE, _, hc⟩
  · exact h ▸ hq
  · rw [hE]
    rcases hc with ⟨e1, -, -⟩ | ⟨e1, -, -, hM⟩
    · rw [e1]; exact hq
    · rw [e1]
      refine List.forall_mem_append.2 ⟨hq, List.forall_mem_singleton.2
        ⟨fun hl => Nat.le_of_eq (levelFor_eq_blk hl), fun _ => ?_⟩⟩
      show max (ceilMs (now + to)) q.wheelElapsed ≤ q.wheelElapsed + delayQMaxMs
      omega

theorem insert_timely {q q' : DelayQ} {now to v : Nat} {r : InsertRes} {w : Bool} {t : Nat}
    (h : q.insert now to v = (q', r, w)) (ht : Timely q t) : Timely q' t := by
  rcases insert_cases h with ⟨_, h, _⟩ | ⟨_, _, hE, hN, hc⟩
  · exact h ▸ ht
  · refine ⟨hE ▸ ht.elapsed, hN ▸ ht.wheelNow, ?_⟩
    rcases hc with ⟨-, e2, hW⟩ | ⟨-, e2, -, -⟩
    · rw [e2]
      exact List.forall_mem_cons.2 ⟨Nat.le_trans (Nat.mul_le_mul_right _ hW) ht.elapsed, ht.expired⟩
    · rw [e2]; exact ht.expired

theorem insert_Sound {q q' : DelayQ} {now to v : Nat} {r : InsertRes} {w : Bool} {t : Nat}
    (h : q.insert now to v = (q', r, w)) (hq : Sound q t) : Sound q' t := by
  have hub := insert_slotUB h (fun e he => ⟨hq.blk e he, hq.top e he⟩)
  rcases insert_cases h with ⟨_, h, _⟩ | ⟨_, _, hE, hN, hc⟩
  · exact h ▸ hq
  · refine ⟨?_, fun e he => (hub e he).1, fun e he => (hub e he).2, ?_, hE ▸ hq.el, hN ▸ hq.wn⟩
    · rcases hc with ⟨e1, -, -⟩ | ⟨e1, -, -, -⟩
      · exact e1 ▸ hq.lvl
      · rw [e1]
        exact List.forall_mem_append.2 ⟨hq.lvl, List.forall_mem_singleton.2 (levelFor_le _ _)⟩
    · rw [hE]
      rcases hc with ⟨-, e2, hW⟩ | ⟨-, e2, -, -⟩
      · rw [e2]; exact List.forall_mem_cons.2 ⟨hW, hq.exp⟩
      · rw [e2]; exact hq.exp

end TarpcModel.DelayQ
