import TarpcModel.Lemmas.ServerMon06
import TarpcModel.Lemmas.ServerMon11
import TarpcModel.Lemmas.ServerDelayQBridge
/-!
The server monitors' table clauses (`checkC06Rest`, `checkC11Rest`): views, observation classes and the second
coupling `X` between the monitor's book and the model, on top of `Mon06.K`.

`mv` / `bw` are the views the couplings `X`, `Y`, `Z` read: they add guards, timers and hand-out times to `sview` / `bview`,
which are all `Mon06.K` needs and on which it stays (`sview_eq`: `mv` determines `sview`).  The model's functions are read as operations on `mv` (`MV.forget` … `BW.track`), and the
couplings are kept on these.
-/
namespace TarpcModel.Server.Tab
open TarpcModel TarpcModel.Server TarpcModel.Server.Flow TarpcModel.Server.ObsMon TarpcModel.Server.Mon06

/-- what the couplings read of an execution of the model -/
structure YE where
  rid : Nat
  id : Nat
  deadline : Nat
  vis : Option Nat
  live : Bool
  aborted : Bool
  armed : Bool

def ye (e : Exec) : YE := ⟨e.rid, e.id, e.deadline, e.vis, execLive e, e.aborted, e.guardArmed⟩

/-- … of an entry of the model's table (`rem`: what the clamp cut off the timer) -/
structure ZE where
  id : Nat
  rid : Nat
  due : Nat
  rem : Nat

def ze (en : SEntry) : ZE := ⟨en.id, en.rid, en.dueAt, en.remainder⟩

/-- the ids of the request messages among the unread inbound items -/
def inbIds : List Inb → List Nat
  | [] => []
  | .msg (.request id _ _ _) :: l => id :: inbIds l
  | .msg (.cancel _ _) :: l => inbIds l
  | .msg (.response _ _) :: l => inbIds l
  | .err :: l => inbIds l

structure MV where
  execs : List YE
  ents : List ZE
  cq : List Nat
  rq : List Nat
  inb : List Inb
  dropped : Bool
  nextVis : Nat

def mv (s : St) : MV :=
  ⟨s.execs.map ye, s.inflight.map ze, s.cancelQ, s.respQ.map (·.1), s.t.inbound, s.dropped, s.nextVis⟩

/-- what the couplings read of an execution of the book -/
structure WB where
  rid : Nat
  id : Nat
  deadline : Nat
  yieldedAt : Nat
  abandoned : Bool
  expiredSeen : Bool
  gone : Bool

def wb (e : BExec) : WB := ⟨e.rid, e.id, e.deadline, e.yieldedAt, e.abandoned, e.expiredSeen, e.gone⟩

def WB.tick (x : WB) : Nat := Client.ceilMsNs (max x.deadline x.yieldedAt)

theorem wb_tick (e : BExec) : (wb e).tick = e.tick := rfl

structure BW where
  now : Nat
  execs : List WB
  table : List (Nat × Nat)
  failed : Bool

def bw (b : Book) : BW := ⟨b.now, b.execs.map wb, b.table, b.failed⟩

/-- the same clock and executions; the table may have shrunk, a transport failure may have been recorded -/
structure BW.le (B B' : BW) : Prop where
  now : B'.now = B.now
  execs : B'.execs = B.execs
  table : ∀ p ∈ B'.table, p ∈ B.table
  failed : B.failed = true → B'.failed = true

theorem BW.le.refl (B : BW) : BW.le B B := ⟨rfl, rfl, fun _ h => h, id⟩
theorem BW.le.trans {A B C : BW} (h1 : BW.le A B) (h2 : BW.le B C) : BW.le A C :=
  ⟨h2.now.trans h1.now, h2.execs.trans h1.execs, fun p h => h1.table p (h2.table p h), fun h => h2.failed (h1.failed h)⟩

theorem mv_congr {s s' : St} (h1 : s'.execs.map ye = s.execs.map ye) (h2 : s'.inflight.map ze = s.inflight.map ze)
    (h3 : s'.cancelQ = s.cancelQ) (h4 : s'.respQ = s.respQ) (h5 : s'.t.inbound = s.t.inbound) (h6 : s'.dropped = s.dropped)
    (h7 : s'.nextVis = s.nextVis) : mv s' = mv s := by
  unfold mv; rw [h1, h2, h3, h4, h5, h6, h7]

theorem mv_emit (s : St) (o : Obs) : mv (emit s o) = mv s := rfl

theorem mv_setT (s : St) (t' : SimT) (h : t'.inbound = s.t.inbound) : mv { s with t := t' } = mv s :=
  mv_congr rfl rfl rfl rfl h rfl rfl

/-! ## the model's functions on the view -/

/-- the entries of id `i` forgotten -/
def MV.forget (S : MV) (i : Nat) : MV := { S with ents := S.ents.filter (·.id != i) }

theorem MV.mem_forget {S : MV} {i : Nat} {en : ZE} : en ∈ (S.forget i).ents ↔ en ∈ S.ents ∧ en.id ≠ i := by
  show en ∈ S.ents.filter (·.id != i) ↔ _
  simp [List.mem_filter]

theorem mv_removeRequest (s : St) (i : Nat) : mv (removeRequest s i).1 = (mv s).forget i := by
  have hents : (removeRequest s i).1.inflight.map ze = (s.inflight.map ze).filter (·.id != i) := by
    rcases removeRequest_inflight s i with ⟨_, he, hf⟩ | ⟨_, hi⟩
    · rw [he]
      exact (List.filter_eq_self.mpr (fun z hz => by
        obtain ⟨en, hen, rfl⟩ := List.mem_map.mp hz
        exact bne_iff_ne.mpr (findEntry_none hf en hen))).symm
    · rw [hi, List.filter_map]; rfl
  show MV.mk _ _ _ _ _ _ _ = MV.mk _ _ _ _ _ _ _
  rw [hents]
  simp [mv]

/-- the head of the guard-cancellation queue processed -/
def MV.popCq (S : MV) : MV :=
  match S.cq with
  | [] => S
  | i :: l => { S.forget i with cq := l }

theorem mv_bpCancel (s : St) : mv (bpCancel s).1 = (mv s).popCq := by
  unfold MV.popCq
  rw [show (mv s).cq = s.cancelQ from rfl]
  rcases bpCancel_out s with ⟨i, l, hq, he⟩ | ⟨hq, he⟩ <;> rw [he, hq]
  · exact (mv_removeRequest _ i).trans rfl
  · exact mv_congr rfl rfl hq.symm rfl rfl rfl rfl

def YE.giveUp (r : Nat) (x : YE) : YE := if x.rid == r then { x with live := false, armed := false } else x

/-- the pending request `(r, i)` given up before it was handed out -/
def MV.giveUp (S : MV) (r i : Nat) : MV := { S with execs := S.execs.map (YE.giveUp r), cq := S.cq ++ [i] }

/-- a request started: its execution `y`, its table entry `z` -/
def MV.start (S : MV) (y : YE) (z : ZE) : MV := { S with execs := S.execs ++ [y], ents := S.ents ++ [z] }

def YE.setVis (r v : Nat) (x : YE) : YE := if x.rid == r then { x with vis := some v } else x

/-- the request numbered `r` handed out under the next number -/
def MV.handOut (S : MV) (r : Nat) : MV :=
  { S with execs := S.execs.map (YE.setVis r S.nextVis), nextVis := S.nextVis + 1 }

/-- the book's side of `handOut` -/
def BW.track (B : BW) (v i d : Nat) : BW :=
  { B with execs := B.execs ++ [⟨v, i, d, B.now, false, false, false⟩], table := B.table.filter (·.1 != i) ++ [(i, v)] }

theorem bw_step_yielded (b : Book) (r id d : Nat) (tr : Trace) :
    bw (b.step (.obs (.yielded r id d tr))) = (bw b).track r id d := by
  simp [bw, BW.track, Book.step, wb]

/-- what `K` reads of the view -/
def svOf (S : MV) : SV :=
  ⟨S.execs.map (fun y => ⟨y.rid, y.id, y.deadline, y.vis, y.live, y.aborted⟩), S.ents.map (fun z => (z.id, z.rid)),
    S.nextVis, S.dropped⟩

theorem sview_eq (s : St) : sview s = svOf (mv s) := by
  simp only [sview, svOf, mv, List.map_map]; rfl

/-! ## what a part of a poll that reads nothing and answers nothing may emit -/

/-- `o` is none of the observations a poll of the request stream emits while it reads and answers -/
def isOut : Obs → Bool
  | .tReady _ _ => false
  | .tSend _ _ _ => false
  | .tFlush _ _ => false
  | .tNext _ _ => false
  | .tViolation _ _ => false
  | .wake _ => false
  | .spin _ => false
  | .panic _ _ => false
  | .noop => false
  | .took _ _ => false
  | _ => true

theorem isOut_wakeQuiet : WakeQuiet isOut := ⟨fun _ => rfl, rfl, fun _ _ => rfl⟩

theorem isOut_pollQuiet : PollQuiet isOut :=
  ⟨fun _ _ => rfl, fun _ _ _ => rfl, fun _ _ => rfl, fun _ _ => rfl, fun _ _ => rfl, fun _ => rfl, fun _ => rfl, fun _ _ => rfl⟩

/-- `Adds` of transport calls other than reads and responses, wake-ups, spin / panic -/
def ExtW (s s' : St) : Prop := ∃ l, s'.obs = l ++ s.obs ∧ ∀ o ∈ l, isCore o = false ∧ isOut o = false

theorem ExtW.ext {s s' : St} (h : ExtW s s') : Ext s s' := Adds.mono h fun _ ho => ho.1

theorem extW_of {s s' : St} (hx : Ext s s') (hf : Flt isOut s s') : ExtW s s' := by
  obtain ⟨l, e, p⟩ := hx
  refine ⟨l, e, fun o ho => ⟨p o ho, ?_⟩⟩
  unfold Flt at hf
  rw [e, List.filter_append] at hf
  have hnil : l.filter isOut = [] := List.append_left_eq_self.mp hf
  cases hc : isOut o with
  | false => rfl
  | true =>
    have : o ∈ l.filter isOut := List.mem_filter.mpr ⟨ho, hc⟩
    rw [hnil] at this; cases this

theorem updExec_wb (b : Book) (r : Nat) (f : BExec → BExec) (hf : ∀ e, wb (f e) = wb e) :
    bw (b.updExec r f) = bw b := by
  unfold bw Book.updExec
  simp only [List.map_map]
  congr 1
  apply List.map_congr_left
  intro e _
  simp only [Function.comp]
  split
  · exact hf e
  · rfl

theorem stepW (b : Book) (o : Obs) (h1 : isCore o = false) (h2 : isOut o = false) :
    BW.le (bw b) (bw (b.step (.obs o))) := by
  cases o with
  | tNext ep r => cases h1
  | tSend ep m ok =>
    cases m with
    | response id res => cases h1
    | _ => exact BW.le.refl _
  | tReady ep r =>
    obtain ⟨st, bl, e⟩ := step_tReady b ep r
    rw [e]
    exact ⟨rfl, rfl, fun _ h => h, fun (h : b.failed = true) => (congrArg (r == .err || ·) h).trans (Bool.or_true _)⟩
  | tFlush ep r =>
    rw [step_tFlush]
    exact ⟨rfl, rfl, fun _ h => h, fun (h : b.failed = true) => (congrArg (r == .err || ·) h).trans (Bool.or_true _)⟩
  | wake _ | tViolation _ _ | spin _ | panic _ _ | noop | took _ _ => exact BW.le.refl _
  | _ => cases h2

theorem bo_extW (b0 : Book) {s s' : St} (h : ExtW s s') :
    (bo b0 s'.obs).spun = true ∨
      (bview (bo b0 s'.obs) = bview (bo b0 s.obs) ∧ (bo b0 s'.obs).spun = (bo b0 s.obs).spun ∧
        BW.le (bw (bo b0 s.obs)) (bw (bo b0 s'.obs))) :=
  (bo_ext b0 h.ext).imp id fun hv => ⟨hv.1, hv.2, bo_adds (P := fun b b' => BW.le (bw b) (bw b')) (fun _ => BW.le.refl _)
    BW.le.trans (fun b o ho => stepW b o ho.1 ho.2) b0 h⟩

/-! ## while the monitor is not past a spin

`spun` is never reset: a claim "past a spin, or `P`" about a later book may assume every earlier book unspun. -/

theorem bo_extW_unspun (b0 : Book) {s s' : St} (h : ExtW s s') (hn : (bo b0 s'.obs).spun = false) :
    (bo b0 s.obs).spun = false ∧ bview (bo b0 s'.obs) = bview (bo b0 s.obs) ∧
      BW.le (bw (bo b0 s.obs)) (bw (bo b0 s'.obs)) := by
  obtain ⟨hv, hs, hle⟩ := of_unspun (bo_extW b0 h) hn
  exact ⟨hs ▸ hn, hv, hle⟩

theorem eq_false_of_imp {a b : Bool} (h : a = true → b = true) (hb : b = false) : a = false := by
  cases a with
  | false => rfl
  | true => rw [h rfl] at hb; cases hb

theorem BW.le.unfailed {B B' : BW} (h : BW.le B B') (hf : B'.failed = false) : B.failed = false :=
  eq_false_of_imp h.failed hf

theorem esc3 {a b c : Bool} {P : Prop} (h : a = false → b = false → c = false → P) : a = true ∨ b = true ∨ c = true ∨ P := by
  cases a
  · cases b
    · cases c
      · exact Or.inr (Or.inr (Or.inr (h rfl rfl rfl)))
      · exact Or.inr (Or.inr (Or.inl rfl))
    · exact Or.inr (Or.inl rfl)
  · exact Or.inl rfl

theorem of_esc3 {a b c : Bool} {P : Prop} (h : a = true ∨ b = true ∨ c = true ∨ P) (ha : a = false) (hb : b = false)
    (hc : c = false) : P := by
  rcases h with h | h | h | h
  · rw [ha] at h; cases h
  · rw [hb] at h; cases h
  · rw [hc] at h; cases h
  · exact h

/-! ## frame steps: quiet, and the same wide view of the model -/

/-- a quiet step of the model that keeps its view -/
def QM (s s' : St) : Prop := ExtW s s' ∧ mv s' = mv s

theorem QM.refl (s : St) : QM s s := ⟨Adds.refl _ s, rfl⟩
theorem QM.trans {a b c : St} (h1 : QM a b) (h2 : QM b c) : QM a c := ⟨Adds.trans h1.1 h2.1, h2.2.trans h1.2⟩
theorem QM.of_eq {s s' : St} (h : s'.obs = s.obs) (hv : mv s' = mv s) : QM s s' := ⟨Adds.of_eq h, hv⟩
theorem QM.pre {s s0 s' : St} (h : QM s0 s') (h1 : s0.obs = s.obs) (hv : mv s0 = mv s) : QM s s' :=
  (QM.of_eq h1 hv).trans h
theorem QM.emit (s : St) (o : Obs) (h1 : isCore o = false) (h2 : isOut o = false) : QM s (emit s o) :=
  ⟨Adds.emit s ⟨h1, h2⟩, rfl⟩

theorem sview_of_mv {s s' : St} (h : mv s' = mv s) : sview s' = sview s := by rw [sview_eq, sview_eq, h]

theorem updExec_ye (s : St) (r : Nat) (f : Exec → Exec) (hf : ∀ e, ye (f e) = ye e) :
    (updExec s r f).execs.map ye = s.execs.map ye := by
  unfold updExec
  simp only [List.map_map]
  apply List.map_congr_left
  intro e _
  simp only [Function.comp]
  split
  · exact hf e
  · rfl

theorem qm_updExec (s : St) (r : Nat) (f : Exec → Exec) (hf : ∀ e, ye (f e) = ye e) : QM s (updExec s r f) :=
  QM.of_eq rfl (mv_congr (updExec_ye s r f hf) rfl rfl rfl rfl rfl rfl)

/-- the primitive steps that keep `mv` and report nothing `bw` reads -/
def QmK : Act → Prop
  | .emit o => isCore o = false ∧ isOut o = false
  | .setT t t' => t'.inbound = t.inbound
  | .upd u => ∀ e, ye (u.f e) = ye e
  | .spin | .panic _ | .woken | .unwoken | .rqGrant | .rqFree | .rqTake | .rqWait | .rqUnassign | .rqUnsend | .rqRx _ | .cancelRx _
  | .timers | .timerWaker | .fused => True
  | _ => False

theorem qm_has : Has QmK QM where
  refl := QM.refl
  trans := QM.trans
  prim := by
    intro k a b hk hp
    cases hp with
    | emit s o => exact QM.emit _ _ hk.1 hk.2
    | spin s => exact QM.emit _ _ rfl rfl
    | panic s w => exact (QM.emit _ _ rfl rfl).pre rfl rfl
    | setT s t' => exact QM.of_eq rfl (mv_setT _ _ hk)
    | upd s r u => exact qm_updExec _ _ _ hk
    | woken | unwoken | rqGrant | rqFree | rqTake | rqWait | rqUnassign | rqUnsend | rqRx | cancelRx | timers | timerWaker | fused =>
      exact QM.of_eq rfl rfl
    | _ => exact hk.elim

theorem sink_le_qm {Q : Obs → Prop} (hQ : ∀ o, Q o → isCore o = false ∧ isOut o = false) : ∀ k, SinkK Q k → QmK k := by
  intro k hk
  cases hk with
  | obs h => exact hQ _ h
  | wake | viol => exact ⟨rfl, rfl⟩
  | woken => exact trivial
  | setT h => exact h.inbound

theorem wake_le_qm : ∀ k, WakeK k → QmK k := by
  intro k hk
  cases hk with
  | wake t => exact ⟨rfl, rfl⟩
  | uwoken => exact fun _ => rfl
  | _ => exact trivial

theorem qm_wakeServer (s : St) : QM s (wakeServer s) := qm_has.steps (wakeServer_in (fun _ => ⟨rfl, rfl⟩) trivial s)

theorem qm_wakeExec (s : St) (r : Nat) : QM s (wakeExec s r) :=
  qm_has.steps ((wakeExec_steps s r).mono fun k hk => wake_le_qm k (execWake_le_wake k hk))

theorem qm_rqRelease (s : St) : QM s (rqRelease s) := qm_has.steps ((rqRelease_steps s).mono wake_le_qm)

theorem qm_emitViolations (s : St) (n : Nat) : QM s (emitViolations s n) :=
  qm_has.steps ((emitViolations_steps (Q := fun _ => False) s n).mono (sink_le_qm fun _ h => h.elim))

theorem qm_flushArm (s : St) (rc : Bool) : QM s (flushArm s rc).1 :=
  qm_has.steps ((flushArm_steps s rc).mono (sink_le_qm fun o ho => by cases ho; exact ⟨rfl, rfl⟩))

theorem qm_ensureWriteable (s : St) : QM s (ensureWriteable s).1 :=
  qm_has.steps ((ensureWriteable_steps s).mono fun k hk => hk.elim
    (sink_le_qm (fun o ho => by cases ho <;> exact ⟨rfl, rfl⟩) k) (by rintro rfl; exact trivial))

theorem qm_removeTimer (s : St) (k : Nat) : QM s (removeTimer s k) :=
  qm_has.steps ((removeTimer_steps s k).mono fun k hk => by
    cases hk with
    | wake t => exact ⟨rfl, rfl⟩
    | _ => exact trivial)


/-! ## the second coupling -/

theorem inbIds_append (l : List Inb) (m : Inb) :
    inbIds (l ++ [m]) = inbIds l ++ inbIds [m] := by
  induction l with
  | nil => rfl
  | cons a l ih =>
    cases a with
    | err => simpa [inbIds] using ih
    | msg x => cases x <;> simp [inbIds, ih]

theorem ceilMs_mono {a b : Nat} (h : a ≤ b) : ceilMs a ≤ ceilMs b :=
  Nat.div_le_div_right (Nat.add_le_add_right h _)

/-- (`rest`: the ids the script has still to inject.)  `cq`, `rq`: the ids waiting in the two queues belong to finished
executions; `unt`: an execution that is live and not aborted is tracked; `expd`: a book execution whose expiry the monitor has
seen is tracked no more; `hi`: the armed timer of a tracked request is not due after the tick the monitor computes -/
structure X (rest : List Nat) (B : BW) (S : MV) : Prop where
  nd : (S.execs.map (·.id) ++ (inbIds S.inb ++ rest)).Nodup
  cq : ∀ i ∈ S.cq, ∃ x ∈ S.execs, x.id = i ∧ x.live = false
  rq : ∀ i ∈ S.rq, ∃ x ∈ S.execs, x.id = i ∧ x.live = false
  unt : ∀ x ∈ S.execs, (∃ en ∈ S.ents, en.rid = x.rid) ∨ x.aborted = true ∨ x.live = false
  esrc : ∀ en ∈ S.ents, ∃ x ∈ S.execs, x.rid = en.rid
  bsrc : ∀ eb ∈ B.execs, ∃ x ∈ S.execs, x.vis = some eb.rid
  bid : ∀ eb ∈ B.execs, ∀ x ∈ S.execs, x.vis = some eb.rid → x.id = eb.id
  expd : ∀ eb ∈ B.execs, eb.expiredSeen = true → ∀ en ∈ S.ents, en.id ≠ eb.id
  hi : ∀ en ∈ S.ents, ∀ x ∈ S.execs, x.rid = en.rid → ∀ eb ∈ B.execs, x.vis = some eb.rid →
    en.due + en.rem ≤ max eb.deadline eb.yieldedAt

theorem X.id_inj {rest : List Nat} {B : BW} {S : MV} (h : X rest B S) {x y : YE} (hx : x ∈ S.execs) (hy : y ∈ S.execs)
    (he : x.id = y.id) : x = y :=
  eq_of_map_nodup (f := (·.id)) (List.nodup_append.mp h.nd).1 hx hy he

theorem X.le {rest : List Nat} {B B' : BW} {S : MV} (h : X rest B S) (hl : BW.le B B') : X rest B' S := by
  obtain ⟨_, he, _, _⟩ := hl
  exact ⟨h.nd, h.cq, h.rq, h.unt, h.esrc, by rw [he]; exact h.bsrc, by rw [he]; exact h.bid, by rw [he]; exact h.expd,
    by rw [he]; exact h.hi⟩

theorem X.expa {rest : List Nat} {B : BW} {S : MV} (h : X rest B S)
    (heid : ∀ en ∈ S.ents, ∀ x ∈ S.execs, x.rid = en.rid → x.id = en.id)
    {eb : WB} (heb : eb ∈ B.execs) (hs : eb.expiredSeen = true) {x : YE} (hx : x ∈ S.execs) (hv : x.vis = some eb.rid) :
    x.aborted = true ∨ x.live = false := by
  rcases h.unt x hx with ⟨en, hen, hr⟩ | h1
  · exfalso
    have h1 := heid en hen x hx hr.symm
    have h2 := h.bid eb heb x hx hv
    exact h.expd eb heb hs en hen (h1.symm.trans h2)
  · exact h1

theorem X.due_untracked {rest : List Nat} {B : BW} {S : MV} (h : X rest B S)
    (heid : ∀ en ∈ S.ents, ∀ x ∈ S.execs, x.rid = en.rid → x.id = en.id) (now : Nat)
    (hidle : ∀ en ∈ S.ents, now < ceilMs en.due * nsPerMs) {eb : WB} (heb : eb ∈ B.execs) (ht : eb.tick ≤ now) :
    ∀ en ∈ S.ents, en.id ≠ eb.id := by
  intro en hen hid
  obtain ⟨x, hx, hr⟩ := h.esrc en hen
  obtain ⟨x0, hx0, hv0⟩ := h.bsrc eb heb
  have h1 := heid en hen x hx hr
  have h2 := h.bid eb heb x0 hx0 hv0
  have hxx : x = x0 := h.id_inj hx hx0 (by rw [h1, hid, h2])
  subst hxx
  have h3 := h.hi en hen x hx hr eb heb hv0
  have h4 := hidle en hen
  have h5 : ceilMs en.due ≤ ceilMs (max eb.deadline eb.yieldedAt) := ceilMs_mono (Nat.le_trans (Nat.le_add_right ..) h3)
  have h6 : eb.tick = ceilMs (max eb.deadline eb.yieldedAt) * nsPerMs := rfl
  rw [h6] at ht
  have := Nat.mul_le_mul_right nsPerMs h5
  omega

theorem mem_of_eq_map {α β : Type} {L : List β} {l : List α} {q : α → β} (h : L = l.map q) : ∀ y ∈ L, ∃ a ∈ l, y = q a := by
  intro y hy
  rw [h] at hy
  obtain ⟨a, ha, rfl⟩ := List.mem_map.mp hy
  exact ⟨a, ha, rfl⟩

theorem map_mem_of_eq {α β : Type} {L : List β} {l : List α} {p : α → β} (h : L = l.map p) : ∀ a ∈ l, p a ∈ L :=
  fun a ha => by rw [h]; exact List.mem_map_of_mem ha

/-- (`l`, `p`, `q`: the executions before and after, position by position) -/
theorem X.model {rest : List Nat} {B : BW} {S S' : MV} (h : X rest B S) {α : Type} (l : List α) (p q : α → YE)
    (hS : S.execs = l.map p) (hS' : S'.execs = l.map q)
    (hg : ∀ a ∈ l, (q a).rid = (p a).rid ∧ (q a).id = (p a).id ∧ (q a).vis = (p a).vis ∧
      ((q a).live = true → (p a).live = true) ∧ ((p a).aborted = true → (q a).aborted = true))
    (hents : ∀ en' ∈ S'.ents, ∃ en ∈ S.ents, en.id = en'.id ∧ en.rid = en'.rid ∧ en'.due + en'.rem ≤ en.due + en.rem)
    (hcq : ∀ i ∈ S'.cq, i ∈ S.cq ∨ ∃ a ∈ l, (p a).id = i ∧ (q a).live = false)
    (hrq : ∀ i ∈ S'.rq, i ∈ S.rq ∨ ∃ a ∈ l, (p a).id = i ∧ (q a).live = false)
    (hinb : S'.inb = S.inb)
    (hunt : ∀ a ∈ l, (∃ en ∈ S.ents, en.rid = (p a).rid) →
      (∃ en' ∈ S'.ents, en'.rid = (p a).rid) ∨ (q a).aborted = true ∨ (q a).live = false) :
    X rest B S' := by
  have hmem := mem_of_eq_map hS'
  have hmem0 := mem_of_eq_map hS
  have hin := map_mem_of_eq hS'
  have hin0 := map_mem_of_eq hS
  have hdead : ∀ a ∈ l, (p a).live = false → (q a).live = false := by
    intro a ha hl
    cases hgl : (q a).live with
    | false => rfl
    | true => rw [(hg a ha).2.2.2.1 hgl] at hl; cases hl
  have hids : S'.execs.map (·.id) = S.execs.map (·.id) := by
    rw [hS, hS', List.map_map, List.map_map]
    exact List.map_congr_left (fun a ha => (hg a ha).2.1)
  have hq : ∀ Q Q' : List Nat, (∀ i ∈ Q, ∃ x ∈ S.execs, x.id = i ∧ x.live = false) →
      (∀ i ∈ Q', i ∈ Q ∨ ∃ a ∈ l, (p a).id = i ∧ (q a).live = false) →
      ∀ i ∈ Q', ∃ x ∈ S'.execs, x.id = i ∧ x.live = false := by
    intro Q Q' h0 hstep i hi
    rcases hstep i hi with h1 | ⟨a, ha, hxi, hl⟩
    · obtain ⟨x, hx, hxi, hl⟩ := h0 i h1
      obtain ⟨a, ha, rfl⟩ := hmem0 x hx
      exact ⟨q a, hin a ha, (hg a ha).2.1.trans hxi, hdead a ha hl⟩
    · exact ⟨q a, hin a ha, (hg a ha).2.1.trans hxi, hl⟩
  refine ⟨?_, hq _ _ h.cq hcq, hq _ _ h.rq hrq, ?_, ?_, ?_, ?_, ?_, ?_⟩
  · rw [hids, hinb]; exact h.nd
  · intro x' hx'
    obtain ⟨a, ha, rfl⟩ := hmem x' hx'
    rw [(hg a ha).1]
    rcases h.unt (p a) (hin0 a ha) with ht | hab | hl
    · exact hunt a ha ht
    · exact Or.inr (Or.inl ((hg a ha).2.2.2.2 hab))
    · exact Or.inr (Or.inr (hdead a ha hl))
  · intro en' hen'
    obtain ⟨en, hen, _, hr, _⟩ := hents en' hen'
    obtain ⟨x, hx, hxr⟩ := h.esrc en hen
    obtain ⟨a, ha, rfl⟩ := hmem0 x hx
    exact ⟨q a, hin a ha, by rw [(hg a ha).1, hxr, hr]⟩
  · intro eb heb
    obtain ⟨x, hx, hv⟩ := h.bsrc eb heb
    obtain ⟨a, ha, rfl⟩ := hmem0 x hx
    exact ⟨q a, hin a ha, by rw [(hg a ha).2.2.1, hv]⟩
  · intro eb heb x' hx' hv
    obtain ⟨a, ha, rfl⟩ := hmem x' hx'
    rw [(hg a ha).2.2.1] at hv
    rw [(hg a ha).2.1]
    exact h.bid eb heb (p a) (hin0 a ha) hv
  · intro eb heb hs en' hen'
    obtain ⟨en, hen, hi, _, _⟩ := hents en' hen'
    rw [← hi]
    exact h.expd eb heb hs en hen
  · intro en' hen' x' hx' hr eb heb hv
    obtain ⟨a, ha, rfl⟩ := hmem x' hx'
    obtain ⟨en, hen, _, hr', hle⟩ := hents en' hen'
    rw [(hg a ha).2.2.1] at hv
    rw [(hg a ha).1] at hr
    exact Nat.le_trans hle (h.hi en hen (p a) (hin0 a ha) (hr.trans hr'.symm) eb heb hv)

theorem X.read {rest : List Nat} {B : BW} {S : MV} (h : X rest B S) (m : Inb) (l : List Inb) (hinb : S.inb = m :: l) :
    X rest B { S with inb := l } ∧
    ∀ i d tr b, m = .msg (.request i d tr b) → (S.execs.map (·.id) ++ i :: (inbIds l ++ rest)).Nodup := by
  have hsub : List.Sublist (inbIds l) (inbIds S.inb) := by
    rw [hinb]
    cases m with
    | err => exact List.Sublist.refl _
    | msg x => cases x <;> first | exact List.Sublist.refl _ | exact List.sublist_cons_self _ _
  refine ⟨⟨?_, h.cq, h.rq, h.unt, h.esrc, h.bsrc, h.bid, h.expd, h.hi⟩, ?_⟩
  · exact h.nd.sublist ((List.Sublist.refl _).append (hsub.append (List.Sublist.refl _)))
  · intro i d tr b hm
    have := h.nd
    rw [hinb, hm] at this
    exact this

theorem X.inject {rest rest' : List Nat} {B : BW} {S : MV} (h : X rest B S) (m : Inb)
    (hr : rest = inbIds [m] ++ rest') : X rest' B { S with inb := S.inb ++ [m] } := by
  refine ⟨?_, h.cq, h.rq, h.unt, h.esrc, h.bsrc, h.bid, h.expd, h.hi⟩
  show (S.execs.map (·.id) ++ (inbIds (S.inb ++ [m]) ++ rest')).Nodup
  rw [inbIds_append, List.append_assoc (inbIds S.inb), ← hr]
  exact h.nd

theorem X.start {rest : List Nat} {B : BW} {S : MV} (h : X rest B S) (y : YE) (z : ZE) (hy : y.vis = none)
    (hz : z.id = y.id ∧ z.rid = y.rid) (hnd : (S.execs.map (·.id) ++ y.id :: (inbIds S.inb ++ rest)).Nodup)
    (hfx : ∀ x ∈ S.execs, x.rid ≠ y.rid) : X rest B (S.start y z) := by
  have hinew : ∀ x ∈ S.execs, x.id ≠ y.id := by
    intro x hx hxi
    have h1 := (List.nodup_append.mp hnd).2.2
    exact h1 x.id (List.mem_map_of_mem hx) y.id (List.mem_cons_self ..) hxi
  have hxs : ∀ x ∈ (S.start y z).execs, x ∈ S.execs ∨ x = y := fun x hx =>
    (List.mem_append.mp hx).imp id List.mem_singleton.mp
  have hes : ∀ en ∈ (S.start y z).ents, en ∈ S.ents ∨ en = z := fun en he =>
    (List.mem_append.mp he).imp id List.mem_singleton.mp
  have hx' : ∀ x ∈ S.execs, x ∈ (S.start y z).execs := fun x hx => List.mem_append_left _ hx
  have hq : ∀ j, (∃ x ∈ S.execs, x.id = j ∧ x.live = false) → ∃ x ∈ (S.start y z).execs, x.id = j ∧ x.live = false :=
    fun j ⟨x, hx, hxi, hl⟩ => ⟨x, hx' x hx, hxi, hl⟩
  refine ⟨?_, fun j hj => hq j (h.cq j hj), fun j hj => hq j (h.rq j hj), ?_, ?_, ?_, ?_, ?_, ?_⟩
  · show ((S.execs ++ [y]).map (·.id) ++ (inbIds S.inb ++ rest)).Nodup
    rw [List.map_append, List.append_assoc]
    simpa using hnd
  · intro x hx
    rcases hxs x hx with hx | rfl
    · rcases h.unt x hx with ⟨en, hen0, hr⟩ | h1
      · exact Or.inl ⟨en, List.mem_append_left _ hen0, hr⟩
      · exact Or.inr h1
    · exact Or.inl ⟨z, List.mem_append_right _ (List.mem_singleton.mpr rfl), hz.2⟩
  · intro en hen'
    rcases hes en hen' with he | rfl
    · obtain ⟨x, hx, hr⟩ := h.esrc en he
      exact ⟨x, hx' x hx, hr⟩
    · exact ⟨y, List.mem_append_right _ (List.mem_singleton.mpr rfl), hz.2.symm⟩
  · intro eb heb
    obtain ⟨x, hx, hv⟩ := h.bsrc eb heb
    exact ⟨x, hx' x hx, hv⟩
  · intro eb heb x hx hv
    rcases hxs x hx with hx | rfl
    · exact h.bid eb heb x hx hv
    · rw [hy] at hv; cases hv
  · intro eb heb hs en hen'
    rcases hes en hen' with he | rfl
    · exact h.expd eb heb hs en he
    · rw [hz.1]
      obtain ⟨x, hx, hv⟩ := h.bsrc eb heb
      exact fun hc => hinew x hx ((h.bid eb heb x hx hv).trans hc.symm)
  · intro en hen' x hx hr eb heb hv
    rcases hxs x hx with hx0 | rfl
    · rcases hes en hen' with he | rfl
      · exact h.hi en he x hx0 hr eb heb hv
      · rw [hz.2] at hr
        exact absurd hr (hfx x hx0)
    · rw [hy] at hv; cases hv

theorem YE.setVis_eq (r v : Nat) (x : YE) :
    (x.setVis r v).rid = x.rid ∧ (x.setVis r v).id = x.id ∧ (x.setVis r v).live = x.live ∧
      (x.setVis r v).aborted = x.aborted ∧ (x.setVis r v).armed = x.armed ∧
      (x.rid = r → (x.setVis r v).vis = some v) ∧ (x.rid ≠ r → x.setVis r v = x) := by
  unfold YE.setVis
  by_cases hc : x.rid = r
  · rw [if_pos (by simpa using hc)]; exact ⟨rfl, rfl, rfl, rfl, rfl, fun _ => rfl, fun h => absurd hc h⟩
  · rw [if_neg (by simpa using hc)]; exact ⟨rfl, rfl, rfl, rfl, rfl, fun h => absurd h hc, fun _ => rfl⟩

/-- An execution that, after the hand-out of `r` under the fresh number `v`, reads a number the book already lists is not the
one handed out: it is unchanged. -/
theorem YE.setVis_old {B : BW} {r v : Nat} (hbv : ∀ eb ∈ B.execs, eb.rid ≠ v) (x : YE) {eb : WB} (heb : eb ∈ B.execs)
    (hv : (x.setVis r v).vis = some eb.rid) : x.setVis r v = x ∧ x.vis = some eb.rid := by
  by_cases hc : x.rid = r
  · rw [(YE.setVis_eq r v x).2.2.2.2.2.1 hc] at hv
    exact absurd (Option.some.inj hv).symm (hbv eb heb)
  · rw [(YE.setVis_eq r v x).2.2.2.2.2.2 hc] at hv ⊢; exact ⟨rfl, hv⟩

theorem MV.mem_handOut {S : MV} {r : Nat} {x' : YE} (h : x' ∈ (S.handOut r).execs) :
    ∃ x ∈ S.execs, x' = x.setVis r S.nextVis := by
  obtain ⟨x, hx, rfl⟩ := List.mem_map.mp h; exact ⟨x, hx, rfl⟩

theorem X.handOut {rest : List Nat} {B : BW} {S : MV} (h : X rest B S) (r : Nat)
    (hr0 : ∀ x ∈ S.execs, x.rid = r → x.vis = none) (hbv : ∀ eb ∈ B.execs, eb.rid ≠ S.nextVis) :
    X rest B (S.handOut r) := by
  have hin : ∀ x ∈ S.execs, x.setVis r S.nextVis ∈ (S.handOut r).execs := fun x hx => List.mem_map_of_mem hx
  have hq : ∀ j, (∃ x ∈ S.execs, x.id = j ∧ x.live = false) → ∃ x ∈ (S.handOut r).execs, x.id = j ∧ x.live = false :=
    fun j ⟨x, hx, hxi, hl⟩ =>
      ⟨_, hin x hx, (YE.setVis_eq r _ x).2.1.trans hxi, (YE.setVis_eq r _ x).2.2.1.trans hl⟩
  refine ⟨?_, fun j hj => hq j (h.cq j hj), fun j hj => hq j (h.rq j hj), ?_, ?_, ?_, ?_, h.expd, ?_⟩
  · have : (S.handOut r).execs.map (·.id) = S.execs.map (·.id) := by
      show (S.execs.map _).map _ = _
      rw [List.map_map]
      exact List.map_congr_left (fun x _ => (YE.setVis_eq r _ x).2.1)
    rw [this]; exact h.nd
  · intro x' hx'
    obtain ⟨x, hx, rfl⟩ := MV.mem_handOut hx'
    obtain ⟨e1, _, e3, e4, _⟩ := YE.setVis_eq r S.nextVis x
    rw [e1, e3, e4]; exact h.unt x hx
  · intro en hen
    obtain ⟨x, hx, hr⟩ := h.esrc en hen
    exact ⟨_, hin x hx, (YE.setVis_eq r _ x).1.trans hr⟩
  · intro eb heb
    obtain ⟨x, hx, hxv⟩ := h.bsrc eb heb
    refine ⟨_, hin x hx, ?_⟩
    rw [(YE.setVis_eq r _ x).2.2.2.2.2.2 (fun hc => by rw [hr0 x hx hc] at hxv; cases hxv)]; exact hxv
  · intro eb heb x' hx' hv
    obtain ⟨x, hx, rfl⟩ := MV.mem_handOut hx'
    obtain ⟨e, hv⟩ := YE.setVis_old hbv x heb hv
    rw [e]; exact h.bid eb heb x hx hv
  · intro en hen x' hx' hr eb heb hv
    obtain ⟨x, hx, rfl⟩ := MV.mem_handOut hx'
    obtain ⟨e, hv⟩ := YE.setVis_old hbv x heb hv
    rw [e] at hr; exact h.hi en hen x hx hr eb heb hv

theorem X.track {rest : List Nat} {B : BW} {S : MV} (h : X rest B S) (v i d : Nat) (hx0 : ∃ x ∈ S.execs, x.vis = some v)
    (hv : ∀ x ∈ S.execs, x.vis = some v → x.id = i ∧ ∀ en ∈ S.ents, x.rid = en.rid → en.due + en.rem ≤ max d B.now) :
    X rest (B.track v i d) S := by
  have hbm : ∀ eb ∈ (B.track v i d).execs, eb ∈ B.execs ∨ eb = ⟨v, i, d, B.now, false, false, false⟩ := fun eb heb =>
    (List.mem_append.mp heb).imp id List.mem_singleton.mp
  refine ⟨h.nd, h.cq, h.rq, h.unt, h.esrc, ?_, ?_, ?_, ?_⟩
  · intro eb heb
    rcases hbm eb heb with h1 | rfl
    · exact h.bsrc eb h1
    · exact hx0
  · intro eb heb x hx hxv
    rcases hbm eb heb with h1 | rfl
    · exact h.bid eb h1 x hx hxv
    · exact (hv x hx hxv).1
  · intro eb heb hs en hen
    rcases hbm eb heb with h1 | rfl
    · exact h.expd eb h1 hs en hen
    · cases hs
  · intro en hen x hx hr eb heb hxv
    rcases hbm eb heb with h1 | rfl
    · exact h.hi en hen x hx hr eb h1 hxv
    · exact (hv x hx hxv).2 en hen hr

theorem X.yield {rest : List Nat} {B : BW} {S : MV} (h : X rest B S) (r i d : Nat)
    (hr0 : ∀ x ∈ S.execs, x.rid = r → x.vis = none ∧ x.id = i) (hx0 : ∃ x ∈ S.execs, x.rid = r)
    (hv : ∀ x ∈ S.execs, x.vis ≠ some S.nextVis) (hbv : ∀ eb ∈ B.execs, eb.rid ≠ S.nextVis)
    (hhi : ∀ en ∈ S.ents, en.rid = r → en.due + en.rem ≤ max d B.now) :
    X rest (B.track S.nextVis i d) (S.handOut r) := by
  refine (h.handOut r (fun x hx hr => (hr0 x hx hr).1) hbv).track S.nextVis i d ?_ ?_
  · obtain ⟨x, hx, hr⟩ := hx0
    exact ⟨_, List.mem_map_of_mem hx, (YE.setVis_eq r _ x).2.2.2.2.2.1 hr⟩
  · intro x' hx' hxv
    obtain ⟨x, hx, rfl⟩ := MV.mem_handOut hx'
    obtain ⟨e1, e2, _, _, _, _, e7⟩ := YE.setVis_eq r S.nextVis x
    have hr : x.rid = r := Decidable.byContradiction fun hc => hv x hx (by rw [e7 hc] at hxv; exact hxv)
    rw [e1, e2]
    exact ⟨(hr0 x hx hr).2, fun en hen he => hhi en hen (he.symm.trans hr)⟩

theorem X.book {rest : List Nat} {B B' : BW} {S : MV} (h : X rest B S) (f : WB → WB)
    (hb : B'.execs = B.execs.map f)
    (hf : ∀ e ∈ B.execs, (f e).rid = e.rid ∧ (f e).id = e.id ∧ (f e).deadline = e.deadline ∧ (f e).yieldedAt = e.yieldedAt ∧
      ((f e).expiredSeen = true → e.expiredSeen = true ∨ ∀ en ∈ S.ents, en.id ≠ e.id)) : X rest B' S := by
  have hmem : ∀ eb' ∈ B'.execs, ∃ eb ∈ B.execs, eb' = f eb := by
    intro x' hx'; rw [hb] at hx'; obtain ⟨x, hx, rfl⟩ := List.mem_map.mp hx'; exact ⟨x, hx, rfl⟩
  refine ⟨h.nd, h.cq, h.rq, h.unt, h.esrc, ?_, ?_, ?_, ?_⟩
  · intro eb' heb'
    obtain ⟨eb, heb, rfl⟩ := hmem eb' heb'
    rw [(hf eb heb).1]; exact h.bsrc eb heb
  · intro eb' heb' x hx hv
    obtain ⟨eb, heb, rfl⟩ := hmem eb' heb'
    rw [(hf eb heb).1] at hv
    rw [(hf eb heb).2.1]; exact h.bid eb heb x hx hv
  · intro eb' heb' hs en hen
    obtain ⟨eb, heb, rfl⟩ := hmem eb' heb'
    rw [(hf eb heb).2.1]
    rcases (hf eb heb).2.2.2.2 hs with h1 | h1
    · exact h.expd eb heb h1 en hen
    · exact h1 en hen
  · intro en hen x hx hr eb' heb' hv
    obtain ⟨eb, heb, rfl⟩ := hmem eb' heb'
    rw [(hf eb heb).1] at hv
    rw [(hf eb heb).2.2.1, (hf eb heb).2.2.2.1]
    exact h.hi en hen x hx hr eb heb hv

/-- (generic in the condition `c` of the sweep, so that nothing ever evaluates it) -/
theorem X.sweepG {rest : List Nat} {B B' : BW} {S : MV} (h : X rest B S) (c : WB → Prop) [DecidablePred c]
    (hb : B'.execs = B.execs.map (fun x => if c x then { x with expiredSeen := true } else x))
    (hc : ∀ eb ∈ B.execs, c eb → ∀ en ∈ S.ents, en.id ≠ eb.id) : X rest B' S := by
  refine h.book (fun x => if c x then { x with expiredSeen := true } else x) hb ?_
  intro e he
  by_cases hce : c e
  · rw [if_pos hce]
    exact ⟨rfl, rfl, rfl, rfl, fun _ => Or.inr (hc e he hce)⟩
  · rw [if_neg hce]
    exact ⟨rfl, rfl, rfl, rfl, fun h' => Or.inl h'⟩

theorem X.forget {rest : List Nat} {B : BW} {S : MV} (h : X rest B S) (i : Nat)
    (heid : ∀ en ∈ S.ents, ∀ x ∈ S.execs, x.rid = en.rid → x.id = en.id)
    (hdead : ∀ x ∈ S.execs, x.id = i → x.aborted = true ∨ x.live = false) : X rest B (S.forget i) := by
  have hsub : ∀ en ∈ (S.forget i).ents, en ∈ S.ents := fun en hen => (MV.mem_forget.mp hen).1
  refine ⟨h.nd, h.cq, h.rq, fun x hx => ?_, fun en hen => h.esrc en (hsub en hen), h.bsrc, h.bid,
    fun eb heb hs en hen => h.expd eb heb hs en (hsub en hen), fun en hen => h.hi en (hsub en hen)⟩
  rcases h.unt x hx with ⟨en, hen, hr⟩ | h1
  · by_cases hc : en.id = i
    · exact Or.inr (hdead x hx ((heid en hen x hx hr.symm).trans hc))
    · exact Or.inl ⟨en, MV.mem_forget.mpr ⟨hen, hc⟩, hr⟩
  · exact Or.inr h1

theorem X.popCq {rest : List Nat} {B : BW} {S : MV} (h : X rest B S)
    (heid : ∀ en ∈ S.ents, ∀ x ∈ S.execs, x.rid = en.rid → x.id = en.id) : X rest B S.popCq := by
  unfold MV.popCq
  split
  · exact h
  · next i l hq =>
    have h1 := h.forget i heid (fun x hx hxi => by
      obtain ⟨x0, hx0, hi0, hl⟩ := h.cq i (hq ▸ List.mem_cons_self ..)
      rw [h.id_inj hx hx0 (hxi.trans hi0.symm)]; exact Or.inr hl)
    exact { h1 with cq := fun j hj => h1.cq j (hq ▸ List.mem_cons_of_mem _ hj) }

theorem X.giveUp {rest : List Nat} {B : BW} {S : MV} (h : X rest B S) (r i : Nat)
    (hp : ∃ x ∈ S.execs, x.rid = r ∧ x.id = i) : X rest B (S.giveUp r i) := by
  have hg : ∀ x : YE, (x.giveUp r).rid = x.rid ∧ (x.giveUp r).id = x.id ∧ (x.giveUp r).vis = x.vis ∧
      ((x.giveUp r).live = true → x.live = true) ∧ (x.aborted = true → (x.giveUp r).aborted = true) := by
    intro x; unfold YE.giveUp; split
    · exact ⟨rfl, rfl, rfl, nofun, id⟩
    · exact ⟨rfl, rfl, rfl, id, id⟩
  refine h.model S.execs id (YE.giveUp r) (by simp) rfl (fun a _ => hg a)
    (fun en' hen' => ⟨en', hen', rfl, rfl, Nat.le_refl _⟩) (fun j hj => ?_) (fun j hj => Or.inl hj) rfl
    (fun a _ ht => Or.inl ht)
  rcases List.mem_append.mp hj with h1 | h1
  · exact Or.inl h1
  · obtain ⟨x, hx, hr, hi⟩ := hp
    refine Or.inr ⟨x, hx, hi.trans (List.mem_singleton.mp h1).symm, ?_⟩
    show (YE.giveUp r x).live = false
    unfold YE.giveUp
    rw [if_pos (by simpa using hr)]

end TarpcModel.Server.Tab
