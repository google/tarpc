import TarpcModel.Lemmas.ClientFlowTransport
/-!
The client as a transition system on `St`.

`Act` names the atomic actions, `Step now a s s'` says what action `a` does at clock `now` (post-state by the model's own
primitives, premises = the equations of the sub-calls), `Steps now A s s'`: `s'` is reached from `s` by actions whose label lies
in the class `A`.  Each function `f` has one walk `f_steps : Steps now A_f s (f s)`.  A predicate kept by the actions in `A`
(`Steps.kept`), or a preorder containing them (`Steps.lift`; `WRel`/`DRel`/`CRel` recur), then holds along `f`: an invariant or a
frame says once, by one `cases` over `Step`, which actions it survives; `Steps.mono` passes a small class to a larger consumer.

The grain: on the dispatch side an item taken off a queue is consumed by the action that took it (`reqSent`, `cancel`, `read` …):
between `pqRecv` and `insertRequest` a request is in neither queue nor table, and no invariant should have to hold there.  The
call future's actions are single updates.

What the layer does not do.  The walks stop at `pollDispatchCore`, at the poll and the four drop stages of a call future, and at
the handle operations.  Above them a property is composed function by function (end of `ClientFlow`: `pollDispatchKeep_cases` —
the spun arm cuts the log back to the poll's start, which no step-wise relation survives —, `dropCall_walk`, `applyOp_cases`): an
invariant of the states is not kept action by action on the call side, so an op is not one walk.  What a function *returns* is
not the business of `Steps`: `ReqAt`/`CanAt`, the `…_spin` facts, the control flow of a poll that goes idle (`pumpWrite_idle` …)
and everything indexed by a result are read off the case principles `Flow.…_cases`, over which the walks are proved.
-/
namespace TarpcModel.Client

/-- the in-flight table has room for one more request (`poll_next_request` checks it before it dequeues) -/
def Room (s : St) : Prop := s.inflight.length < s.maxInFlight

/-- a spin or a panic has been observed, or the dispatch is poisoned: what a pump that gives up with `.spin` leaves behind -/
def Halted (s : St) : Prop :=
  (∃ o ∈ s.obs, match o with | .spin _ => True | .panic _ _ => True | _ => False) ∨ s.poisoned = true

theorem halted_spin (s : St) : Halted (emit s (.spin (tid s))) := .inl ⟨_, List.mem_cons_self, trivial⟩

def Permits (s s' : St) : Prop :=
  ∃ av ws asg i f, s' = { s with pqAvail := av, pqWaiters := ws, pqAssigned := asg, nextId := i, nextFresh := f }

inductive Act where
  -- `ensure_writeable`, `poll_close`
  | ready | flush | spin | close
  -- `poll_write_request`
  | pqIdle | pqSkip | reqPanic | reqSent | reqFailed
  -- `poll_write_cancel`, `poll_expired`, `pump_read`
  | cqIdle | cqMiss | cancel | expire | readIdle | read
  -- `shut_down_with_terminal_error` and the two field writes of `RequestDispatch::poll`
  | pqClose | failAll | drainFail | termErr | poison
  -- the call future
  | emit (o : Obs) | updCall (cid : Nat) (f : Call → Call) | permits | wakePq | wakeCq
  | osDropTx (cid : Nat) | pqRelease | pqPush (r : DReq) | cqPush (id : Nat)
  -- the owner of handles and futures
  | addCall (c : Call) | setHandles

/-- Only `reqPanic`, `reqSent`, `reqFailed`, `expire` read `now`: a walk without them may be taken at any clock (`0`). -/
inductive Step (now : Nat) : Act → St → St → Prop
  | ready (s : St) : Step now .ready s (tReady s).1
  | flush (s : St) : Step now .flush s (tFlush s).1
  | spin (s : St) : Step now .spin s (Client.emit s (.spin (tid s)))
  | close (s : St) : Step now .close s (tClose s).1
  | pqIdle {s : St} : (∀ r, (pqRecv s).2 ≠ .item r) → Step now .pqIdle s (pqRecv s).1
  | pqSkip {s s1 : St} {r : DReq} : pqRecv s = (s1, .item r) → osIsClosed s1 r.cid = true → Step now .pqSkip s s1
  | reqPanic {s s1 s2 : St} {r : DReq} : Room s → pqRecv s = (s1, .item r) → osIsClosed s1 r.cid = false →
      insertRequest s1 now r = some s2 → s2.poisoned = true → Step now .reqPanic s s2
  | reqSent {s s1 s2 s3 : St} {r : DReq} : Room s → pqRecv s = (s1, .item r) → osIsClosed s1 r.cid = false →
      insertRequest s1 now r = some s2 → s2.poisoned = false →
      tSend s2 (.request r.id r.ctx.deadline r.ctx.trace r.body) = (s3, true) → Step now .reqSent s s3
  | reqFailed {s s1 s2 s3 : St} {r : DReq} : Room s → pqRecv s = (s1, .item r) → osIsClosed s1 r.cid = false →
      insertRequest s1 now r = some s2 → s2.poisoned = false →
      tSend s2 (.request r.id r.ctx.deadline r.ctx.trace r.body) = (s3, false) →
      Step now .reqFailed s (completeRequest s3 r.id .send).1
  | cqIdle {s : St} : (∀ i, (cqRecv s).2 ≠ .item i) → Step now .cqIdle s (cqRecv s).1
  | cqMiss {s s1 : St} {i : Nat} : cqRecv s = (s1, .item i) → cancelRequest s1 i = (s1, none) → Step now .cqMiss s s1
  | cancel {s s1 s2 s3 : St} {i : Nat} {e : Entry} {ok : Bool} : cqRecv s = (s1, .item i) →
      cancelRequest s1 i = (s2, some e) → tSend s2 (.cancel e.id e.ctx.trace) = (s3, ok) → Step now .cancel s s3
  | expire (s : St) : Step now .expire s (expireStep s now).st
  | readIdle {s : St} : (∀ id res, (tNext s).2 ≠ .item (.response id res)) → Step now .readIdle s (tNext s).1
  | read {s s1 : St} {id : Nat} {res : Res} : tNext s = (s1, .item (.response id res)) →
      Step now .read s (completeRequest s1 id (outcomeOf res)).1
  | pqClose (s : St) : Step now .pqClose s (pqClose s)
  | failAll (s : St) (a : Activity) : Step now .failAll s (failAll s a)
  | drainFail {s s1 : St} {r : DReq} (a : Activity) : pqRecv s = (s1, .item r) → osIsClosed s1 r.cid = false →
      Step now .drainFail s (osSend s1 r.cid (.channel a))
  | termErr (s : St) (a : Activity) : Step now .termErr s { s with termErr := some a }
  | poison (s : St) : Halted s → Step now .poison s { s with poisoned := true }
  | emit (s : St) (o : Obs) : Step now (.emit o) s (Client.emit s o)
  | updCall (s : St) (cid : Nat) (f : Call → Call) : Step now (.updCall cid f) s (Client.updCall s cid f)
  | permits {s s' : St} : Permits s s' → Step now .permits s s'
  /-- the last sender went away: a dispatch parked on the request queue is woken -/
  | wakePq (s : St) : Step now .wakePq s (wakeDispatch { s with pqRxWaker := false })
  | wakeCq (s : St) : Step now .wakeCq s (wakeDispatch { s with cqRxWaker := false })
  | osDropTx (s : St) (cid : Nat) : Step now (.osDropTx cid) s (Client.osDropTx s cid)
  | pqRelease (s : St) : Step now .pqRelease s (Client.pqRelease s)
  /-- on an open queue: every caller has checked `pqClosed` -/
  | pqPush (s : St) (r : DReq) : s.pqClosed = false → Step now (.pqPush r) s (Client.pqPush s r)
  | cqPush (s : St) (id : Nat) : Step now (.cqPush id) s (Client.cqPush s id)
  | addCall (s : St) (c : Call) : Step now (.addCall c) s { s with calls := s.calls ++ [c] }
  | setHandles (s : St) (hs : List Nat) (n : Nat) : Step now .setHandles s { s with handles := hs, nextHandle := n }

inductive Steps (now : Nat) (A : Act → Prop) : St → St → Prop
  | refl (s : St) : Steps now A s s
  | tail {s s1 s2 : St} {a : Act} : Steps now A s s1 → A a → Step now a s1 s2 → Steps now A s s2

section
variable {now : Nat} {A B : Act → Prop} {s s1 s2 s' : St} {a : Act}

theorem Steps.one (h : Step now a s s') (ha : A a := by trivial) : Steps now A s s' := .tail (.refl _) ha h

theorem Steps.then (h1 : Steps now A s s1) (h : Step now a s1 s2) (ha : A a := by trivial) : Steps now A s s2 :=
  .tail h1 ha h

theorem Steps.trans (h1 : Steps now A s s1) (h2 : Steps now A s1 s2) : Steps now A s s2 := by
  induction h2 with
  | refl => exact h1
  | tail _ ha st ih => exact .tail ih ha st

theorem Steps.mono (hAB : ∀ a, A a → B a) (h : Steps now A s s') : Steps now B s s' := by
  induction h with
  | refl => exact .refl _
  | tail _ ha st ih => exact .tail ih (hAB _ ha) st

theorem Steps.lift {R : St → St → Prop} (refl : ∀ s, R s s) (trans : ∀ {a b c}, R a b → R b c → R a c)
    (act : ∀ {a s s'}, A a → Step now a s s' → R s s') (h : Steps now A s s') : R s s' := by
  induction h with
  | refl => exact refl _
  | tail _ ha st ih => exact trans ih (act ha st)

theorem Steps.kept {P : St → Prop} (act : ∀ {a s s'}, A a → Step now a s s' → P s → P s') (h : Steps now A s s')
    (h0 : P s) : P s' :=
  Steps.lift (R := fun s s' => P s → P s') (fun _ h => h) (fun h1 h2 h => h2 (h1 h)) act h h0

end

/-! ### classes of actions (each a `match` on the label: membership at a given label is found by evaluation, which the default
`(ha : A a := by trivial)` of `Steps.one` / `Steps.then` relies on) -/

/-- `ensure_writeable` after the fix: no spin -/
def OnceK : Act → Prop
  | .ready | .flush => True
  | _ => False

/-- `ensure_writeable` -/
def EnsureK : Act → Prop
  | .ready | .flush | .spin => True
  | _ => False

/-- `poll_next_request`: nothing is taken off the queue for good -/
def ReqScanK : Act → Prop
  | .ready | .flush | .spin | .pqIdle | .pqSkip => True
  | _ => False

/-- `poll_next_cancellation` up to the cancellation it returns -/
def CanScanK : Act → Prop
  | .ready | .flush | .spin | .cqIdle | .cqMiss => True
  | _ => False

/-- `poll_write_request` -/
def ReqK : Act → Prop
  | .ready | .flush | .spin | .pqIdle | .pqSkip | .reqPanic | .reqSent | .reqFailed => True
  | _ => False

/-- `poll_write_cancel` -/
def CanK : Act → Prop
  | .ready | .flush | .spin | .cqIdle | .cqMiss | .cancel => True
  | _ => False

/-- the write pump before `poll_close` -/
def WriteK : Act → Prop
  | .ready | .flush | .spin | .pqIdle | .pqSkip | .reqPanic | .reqSent | .reqFailed | .cqIdle | .cqMiss | .cancel
  | .expire => True
  | _ => False

/-- the write pump -/
def PumpK : Act → Prop
  | .ready | .flush | .spin | .pqIdle | .pqSkip | .reqPanic | .reqSent | .reqFailed | .cqIdle | .cqMiss | .cancel
  | .expire | .close => True
  | _ => False

/-- the rounds of `run` -/
def RoundK : Act → Prop
  | .ready | .flush | .spin | .pqIdle | .pqSkip | .reqPanic | .reqSent | .reqFailed | .cqIdle | .cqMiss | .cancel
  | .expire | .close | .readIdle | .read => True
  | _ => False

/-- the drain loop of `shut_down_with_terminal_error` -/
def DrainK : Act → Prop
  | .pqIdle | .pqSkip | .drainFail => True
  | _ => False

/-- `RequestDispatch::poll` below its bookkeeping -/
def CoreK : Act → Prop
  | .ready | .flush | .spin | .pqIdle | .pqSkip | .reqPanic | .reqSent | .reqFailed | .cqIdle | .cqMiss | .cancel
  | .expire | .close | .readIdle | .read | .pqClose | .failAll | .drainFail | .termErr | .poison => True
  | _ => False

/-- the last sender going away -/
def GoneK : Act → Prop
  | .wakePq | .wakeCq => True
  | _ => False

/-- the call future (its observations are none of the transport's) -/
def CallK : Act → Prop
  | .emit o => Flow.isT o = false
  | .updCall _ _ | .permits | .wakePq | .wakeCq | .osDropTx _ | .pqRelease | .pqPush _ | .cqPush _ => True
  | _ => False

/-- the call future, and `call` / `clone` / `drop` on a handle -/
def UserK : Act → Prop
  | .emit o => Flow.isT o = false
  | .updCall _ _ | .permits | .wakePq | .wakeCq | .osDropTx _ | .pqRelease | .pqPush _ | .cqPush _ | .addCall _
  | .setHandles => True
  | _ => False

/-! The direct inclusions, and those composites that some file uses.  Each by cases on the label: where the larger class holds
by evaluation, `trivial`; otherwise the two classes have the same value at that label (`False`, or the condition on `emit o`) and
the hypothesis is the goal. -/

theorem once_le_ensure : ∀ a, OnceK a → EnsureK a := fun a h => by cases a <;> first | trivial | exact h
theorem ensure_le_reqScan : ∀ a, EnsureK a → ReqScanK a := fun a h => by cases a <;> first | trivial | exact h
theorem ensure_le_canScan : ∀ a, EnsureK a → CanScanK a := fun a h => by cases a <;> first | trivial | exact h
theorem reqScan_le_req : ∀ a, ReqScanK a → ReqK a := fun a h => by cases a <;> first | trivial | exact h
theorem canScan_le_can : ∀ a, CanScanK a → CanK a := fun a h => by cases a <;> first | trivial | exact h
theorem req_le_write : ∀ a, ReqK a → WriteK a := fun a h => by cases a <;> first | trivial | exact h
theorem can_le_write : ∀ a, CanK a → WriteK a := fun a h => by cases a <;> first | trivial | exact h
theorem ensure_le_write : ∀ a, EnsureK a → WriteK a := fun a h => by cases a <;> first | trivial | exact h
theorem write_le_pump : ∀ a, WriteK a → PumpK a := fun a h => by cases a <;> first | trivial | exact h
theorem pump_le_round : ∀ a, PumpK a → RoundK a := fun a h => by cases a <;> first | trivial | exact h
theorem write_le_round : ∀ a, WriteK a → RoundK a := fun a h => by cases a <;> first | trivial | exact h
theorem round_le_core : ∀ a, RoundK a → CoreK a := fun a h => by cases a <;> first | trivial | exact h
theorem req_le_core : ∀ a, ReqK a → CoreK a := fun a h => by cases a <;> first | trivial | exact h
theorem can_le_core : ∀ a, CanK a → CoreK a := fun a h => by cases a <;> first | trivial | exact h
theorem write_le_core : ∀ a, WriteK a → CoreK a := fun a h => by cases a <;> first | trivial | exact h
theorem drain_le_core : ∀ a, DrainK a → CoreK a := fun a h => by cases a <;> first | trivial | exact h
theorem gone_le_call : ∀ a, GoneK a → CallK a := fun a h => by cases a <;> first | trivial | exact h
theorem call_le_user : ∀ a, CallK a → UserK a := fun a h => by cases a <;> first | trivial | exact h

theorem ensureOnce_steps (now : Nat) (s : St) : Steps now OnceK s (ensureOnce s).1 := by
  have rd : ∀ s, Steps now OnceK s (tReady s).1 := fun s => .one (.ready s)
  have fl : ∀ s, Steps now OnceK s (tFlush s).1 := fun s => .one (.flush s)
  refine Flow.ensureOnce_cases (motive := fun p => Steps now OnceK s p.1) s ?_ ?_ ?_ ?_ ?_
  · exact fun _ e1 => of_fst e1 (rd s)
  · exact fun _ e1 => of_fst e1 (rd s)
  · exact fun s1 _ e1 e2 => (of_fst e1 (rd s)).trans (of_fst e2 (fl s1))
  · exact fun s1 _ e1 e2 => (of_fst e1 (rd s)).trans (of_fst e2 (fl s1))
  · exact fun s1 s2 _ _ e1 e2 e3 =>
      ((of_fst e1 (rd s)).trans (of_fst e2 (fl s1))).trans (of_fst e3 (rd s2))

theorem ensureLoop_steps (now : Nat) (fuel : Nat) (s : St) : Steps now EnsureK s (ensureLoop fuel s).1 := by
  have rd : ∀ s, Steps now EnsureK s (tReady s).1 := fun s => .one (.ready s)
  have fl : ∀ s, Steps now EnsureK s (tFlush s).1 := fun s => .one (.flush s)
  induction fuel generalizing s with
  | zero => exact .one (.spin s)
  | succ fuel ih =>
    refine Flow.ensureLoop_cases (motive := fun p => Steps now EnsureK s p.1) fuel s ?_ ?_ ?_ ?_ ?_
    · exact fun _ e1 => of_fst e1 (rd s)
    · exact fun _ e1 => of_fst e1 (rd s)
    · exact fun s1 _ e1 e2 => (of_fst e1 (rd s)).trans (of_fst e2 (fl s1))
    · exact fun s1 _ e1 e2 => (of_fst e1 (rd s)).trans (of_fst e2 (fl s1))
    · exact fun s1 s2 e1 e2 => ((of_fst e1 (rd s)).trans (of_fst e2 (fl s1))).trans (ih s2)

theorem ensureWriteable_steps (now : Nat) (s : St) : Steps now EnsureK s (ensureWriteable s).1 := by
  unfold ensureWriteable; split
  · exact ensureLoop_steps now _ s
  · exact (ensureOnce_steps now s).mono once_le_ensure

theorem Room.of_eq {s s' : St} (hi : s'.inflight = s.inflight) (hm : s'.maxInFlight = s.maxInFlight) (h : Room s) :
    Room s' := by
  unfold Room; rw [hi, hm]; exact h

theorem Room.pqRecv {s s1 : St} {x : Recv DReq} (e : pqRecv s = (s1, x)) (h : Room s) : Room s1 :=
  h.of_eq (of_fst (P := fun S => S.inflight = s.inflight) e (Flow.pqRecv_inflight s))
    (of_fst (P := fun S => S.maxInFlight = s.maxInFlight) e (Flow.pqRecv_maxInFlight s))

theorem Room.ensureWriteable {s : St} (h : Room s) : Room (ensureWriteable s).1 :=
  (ensureWriteable_steps 0 s).kept (fun {a _ _} ha st h => by
    cases st with
    | ready => exact h.of_eq (Flow.tReady_inflight _) (Flow.tReady_maxInFlight _)
    | flush => exact h.of_eq (Flow.tFlush_inflight _) (Flow.tFlush_maxInFlight _)
    | spin => exact h
    | _ => exact False.elim ha) h

/-- The dequeue loop stops on a request that is still to be consumed: the action it belongs to is not complete. -/
def ReqAt (now : Nat) (s : St) : St × PW DReq → Prop
  | (s', .some r) => ∃ s0, Steps now ReqScanK s s0 ∧ pqRecv s0 = (s', .item r) ∧ osIsClosed s' r.cid = false ∧
      (Room s → Room s0)
  | (s', _) => Steps now ReqScanK s s'

theorem ReqAt.of_steps {now : Nat} {s s' : St} {x : PW DReq} (h : Steps now ReqScanK s s') (hx : x.isSome = false) :
    ReqAt now s (s', x) := by
  cases x <;> first | exact h | cases hx

theorem ReqAt.after {now : Nat} {a b : St} (h : Steps now ReqScanK a b) (hr : Room a → Room b) {p : St × PW DReq}
    (hp : ReqAt now b p) : ReqAt now a p := by
  obtain ⟨s', x⟩ := p
  cases x
  case some r => obtain ⟨s0, h0, h1, h2, h3⟩ := hp; exact ⟨s0, h.trans h0, h1, h2, fun ha => h3 (hr ha)⟩
  all_goals exact h.trans hp

theorem ReqAt.lift {now : Nat} {R : St → St → Prop} (refl : ∀ s, R s s) (trans : ∀ {a b c}, R a b → R b c → R a c)
    (act : ∀ {a s s'}, ReqScanK a → Step now a s s' → R s s') (recv : ∀ s, R s (pqRecv s).1) {s : St}
    {p : St × PW DReq} (h : ReqAt now s p) : R s p.1 := by
  obtain ⟨s', x⟩ := p
  cases x
  case some r => obtain ⟨s0, h0, h1, _⟩ := h; exact trans (h0.lift refl trans act) (of_fst h1 (recv s0))
  all_goals exact Steps.lift refl trans act h

/-- every way the dequeue loop ends (`Pending` also when the fuel runs out, which needs a queue at least as long) -/
def ReqLoopOut (now fuel : Nat) (s : St) : St × PW DReq → Prop
  | (s', .some r) => ∃ s0, Steps now ReqScanK s s0 ∧ pqRecv s0 = (s', .item r) ∧ osIsClosed s' r.cid = false ∧
      (Room s → Room s0)
  | (s', .none) => ∃ s0, Steps now ReqScanK s s0 ∧ pqRecv s0 = (s', .closed)
  | (s', .pending) => ∃ s0, Steps now ReqScanK s s0 ∧ (pqRecv s0 = (s', .pending) ∨ (s' = s0 ∧ fuel ≤ s.pq.length))
  | _ => False

theorem nextRequestLoop_out (now fuel : Nat) (s : St) : ReqLoopOut now fuel s (nextRequestLoop fuel s) := by
  induction fuel generalizing s with
  | zero => exact ⟨s, .refl s, .inr ⟨rfl, Nat.zero_le _⟩⟩
  | succ fuel ih =>
    unfold nextRequestLoop
    rcases h : pqRecv s with ⟨s1, x⟩
    cases x with
    | pending => exact ⟨s, .refl s, .inl h⟩
    | closed => exact ⟨s, .refl s, h⟩
    | item r =>
      dsimp only
      cases hc : osIsClosed s1 r.cid with
      | false => rw [if_neg (by simp)]; exact ⟨s, .refl s, h, hc, id⟩
      | true =>
        rw [if_pos rfl]
        have st : Steps now ReqScanK s s1 := .one (.pqSkip h hc)
        have hl : s.pq.length = s1.pq.length + 1 := by rw [Flow.pqRecv_item_pq h]; rfl
        have o := ih s1
        generalize nextRequestLoop fuel s1 = p at o ⊢
        obtain ⟨s', y⟩ := p
        cases y with
        | some r' => obtain ⟨s0, h0, h1, h2, h3⟩ := o; exact ⟨s0, st.trans h0, h1, h2, fun ha => h3 (Room.pqRecv h ha)⟩
        | none => obtain ⟨s0, h0, h1⟩ := o; exact ⟨s0, st.trans h0, h1⟩
        | pending =>
          obtain ⟨s0, h0, h1⟩ := o
          exact ⟨s0, st.trans h0, h1.imp id (fun ⟨e, hf⟩ => ⟨e, by omega⟩)⟩
        | err a => exact o
        | spin => exact o

/-- the loop returns `Pending`, `None` or a request -/
theorem ReqLoopOut.res {now fuel : Nat} {s : St} {p : St × PW DReq} (h : ReqLoopOut now fuel s p) :
    p.2 = .pending ∨ p.2 = .none ∨ ∃ r, p.2 = .some r := by
  obtain ⟨s', x⟩ := p
  cases x with
  | pending => exact .inl rfl
  | none => exact .inr (.inl rfl)
  | some r => exact .inr (.inr ⟨r, rfl⟩)
  | err a => exact h.elim
  | spin => exact h.elim

theorem ReqLoopOut.reqAt {now fuel : Nat} {s : St} {p : St × PW DReq} (h : ReqLoopOut now fuel s p) : ReqAt now s p := by
  have idle : ∀ {s0 s' x}, Steps now ReqScanK s s0 → pqRecv s0 = (s', x) → (∀ r, x ≠ .item r) → Steps now ReqScanK s s' :=
    fun h0 e hx => h0.trans (of_fst e (Steps.one (.pqIdle (by rw [e]; exact hx))))
  obtain ⟨s', x⟩ := p
  cases x with
  | some r => exact h
  | none => obtain ⟨s0, h0, h1⟩ := h; exact idle h0 h1 (fun _ e => by cases e)
  | pending =>
    obtain ⟨s0, h0, h1 | ⟨rfl, _⟩⟩ := h
    · exact idle h0 h1 (fun _ e => by cases e)
    · exact h0
  | err a => exact h.elim
  | spin => exact h.elim

theorem nextRequestLoop_steps (now : Nat) (fuel : Nat) (s : St) : ReqAt now s (nextRequestLoop fuel s) :=
  (nextRequestLoop_out now fuel s).reqAt

theorem pollNextRequest_steps (now : Nat) (s : St) : ReqAt now s (pollNextRequest s) := by
  have he : Steps now ReqScanK s (ensureWriteable s).1 := (ensureWriteable_steps now s).mono ensure_le_reqScan
  refine Flow.pollNextRequest_cases (motive := ReqAt now s) s ?_ ?_ ?_
  · exact fun _ => .refl s
  · intro s1 e _ h1 hne
    refine .of_steps (of_fst h1 he) ?_
    cases e <;> first | rfl | exact absurd rfl hne
  · intro s1 _ h1
    exact (nextRequestLoop_steps now _ s1).after (of_fst h1 he)
      (fun hr => of_fst (P := Room) h1 hr.ensureWriteable)

theorem pollNextRequest_room {s s1 : St} {r : DReq} (h : pollNextRequest s = (s1, .some r)) : Room s := by
  refine Flow.pollNextRequest_cases (motive := fun p => p = (s1, .some r) → Room s) s ?_ ?_ ?_ h
  · exact fun _ h => by cases h
  · intro _ e _ _ hne h; cases e <;> first | exact absurd rfl hne | cases h
  · exact fun _ hf _ _ => Nat.lt_of_not_ge hf

theorem pollWriteRequest_steps (s : St) (now : Nat) : Steps now ReqK s (pollWriteRequest s now).1 := by
  have h := pollNextRequest_steps now s
  refine Flow.pollWriteRequest_cases (motive := fun p => Steps now ReqK s p.1) s now ?_ ?_ ?_ ?_
  · intro s1 r e hr
    rw [e] at h
    cases r <;> first | exact h.mono reqScan_le_req | cases hr
  · intro s1 r s2 e hi hp
    rw [e] at h; obtain ⟨s0, h0, h1, hc, hr⟩ := h
    exact (h0.mono reqScan_le_req).then (.reqPanic (hr (pollNextRequest_room e)) h1 hc hi hp)
  · intro s1 r s2 s3 e hi hp ht
    rw [e] at h; obtain ⟨s0, h0, h1, hc, hr⟩ := h
    exact (h0.mono reqScan_le_req).then (.reqSent (hr (pollNextRequest_room e)) h1 hc hi hp ht)
  · intro s1 r s2 s3 e hi hp ht
    rw [e] at h; obtain ⟨s0, h0, h1, hc, hr⟩ := h
    exact (h0.mono reqScan_le_req).then (.reqFailed (hr (pollNextRequest_room e)) h1 hc hi hp ht)

/-- likewise for `poll_next_cancellation` -/
def CanAt (now : Nat) (s : St) : St × PW Entry → Prop
  | (s', .some e) => ∃ s0 s1 i, Steps now CanScanK s s0 ∧ cqRecv s0 = (s1, .item i) ∧ cancelRequest s1 i = (s', some e)
  | (s', _) => Steps now CanScanK s s'

theorem CanAt.after {now : Nat} {a b : St} (h : Steps now CanScanK a b) {p : St × PW Entry} (hp : CanAt now b p) :
    CanAt now a p := by
  obtain ⟨s', x⟩ := p
  cases x
  case some r => obtain ⟨s0, s1, i, h0, h1⟩ := hp; exact ⟨s0, s1, i, h.trans h0, h1⟩
  all_goals exact h.trans hp

theorem CanAt.lift {now : Nat} {R : St → St → Prop} (refl : ∀ s, R s s) (trans : ∀ {a b c}, R a b → R b c → R a c)
    (act : ∀ {a s s'}, CanScanK a → Step now a s s' → R s s') (recv : ∀ s, R s (cqRecv s).1)
    (cancel : ∀ s id, R s (cancelRequest s id).1) {s : St} {p : St × PW Entry} (h : CanAt now s p) : R s p.1 := by
  obtain ⟨s', x⟩ := p
  cases x
  case some r =>
    obtain ⟨s0, s1, i, h0, h1, h2⟩ := h
    exact trans (trans (h0.lift refl trans act) (of_fst h1 (recv s0))) (of_fst h2 (cancel s1 i))
  all_goals exact Steps.lift refl trans act h

/-- likewise for the loop of `poll_next_cancellation` -/
def CanLoopOut (now fuel : Nat) (s : St) : St × PW Entry → Prop
  | (s', .some e) => ∃ s0 s1 i, Steps now CanScanK s s0 ∧ cqRecv s0 = (s1, .item i) ∧ cancelRequest s1 i = (s', some e)
  | (s', .none) => ∃ s0, Steps now CanScanK s s0 ∧ cqRecv s0 = (s', .closed)
  | (s', .pending) => ∃ s0, Steps now CanScanK s s0 ∧ (cqRecv s0 = (s', .pending) ∨ (s' = s0 ∧ fuel ≤ s.cq.length))
  | _ => False

theorem nextCancelLoop_out (now fuel : Nat) (s : St) : CanLoopOut now fuel s (nextCancelLoop fuel s) := by
  induction fuel generalizing s with
  | zero => exact ⟨s, .refl s, .inr ⟨rfl, Nat.zero_le _⟩⟩
  | succ fuel ih =>
    unfold nextCancelLoop
    rcases h : cqRecv s with ⟨s1, x⟩
    cases x with
    | pending => exact ⟨s, .refl s, .inl h⟩
    | closed => exact ⟨s, .refl s, h⟩
    | item i =>
      dsimp only
      rcases hc : cancelRequest s1 i with ⟨s2, oe⟩
      cases oe with
      | some e => exact ⟨s, s1, i, .refl s, h, hc⟩
      | none =>
        obtain rfl : s2 = s1 := by
          rcases Flow.cancelRequest_out s1 i with ⟨_, e⟩ | ⟨_, _, e⟩ <;> rw [e] at hc <;> cases hc
          · rfl  -- no entry: the state is returned as it is (an entry found is returned: not this case)
        have st : Steps now CanScanK s s2 := .one (.cqMiss h hc)
        have hl : s.cq.length = s2.cq.length + 1 := by rw [Flow.cqRecv_item_cq h]; rfl
        have o := ih s2
        dsimp only
        generalize nextCancelLoop fuel s2 = p at o ⊢
        obtain ⟨s', y⟩ := p
        cases y with
        | some e => obtain ⟨s0, s1', i', h0, h1⟩ := o; exact ⟨s0, s1', i', st.trans h0, h1⟩
        | none => obtain ⟨s0, h0, h1⟩ := o; exact ⟨s0, st.trans h0, h1⟩
        | pending =>
          obtain ⟨s0, h0, h1⟩ := o
          exact ⟨s0, st.trans h0, h1.imp id (fun ⟨e, hf⟩ => ⟨e, by omega⟩)⟩
        | err a => exact o
        | spin => exact o

theorem CanLoopOut.res {now fuel : Nat} {s : St} {p : St × PW Entry} (h : CanLoopOut now fuel s p) :
    p.2 = .pending ∨ p.2 = .none ∨ ∃ e, p.2 = .some e := by
  obtain ⟨s', x⟩ := p
  cases x with
  | pending => exact .inl rfl
  | none => exact .inr (.inl rfl)
  | some e => exact .inr (.inr ⟨e, rfl⟩)
  | err a => exact h.elim
  | spin => exact h.elim

theorem CanLoopOut.canAt {now fuel : Nat} {s : St} {p : St × PW Entry} (h : CanLoopOut now fuel s p) : CanAt now s p := by
  have idle : ∀ {s0 s' x}, Steps now CanScanK s s0 → cqRecv s0 = (s', x) → (∀ r, x ≠ .item r) → Steps now CanScanK s s' :=
    fun h0 e hx => h0.trans (of_fst e (Steps.one (.cqIdle (by rw [e]; exact hx))))
  obtain ⟨s', x⟩ := p
  cases x with
  | some e => exact h
  | none => obtain ⟨s0, h0, h1⟩ := h; exact idle h0 h1 (fun _ e => by cases e)
  | pending =>
    obtain ⟨s0, h0, h1 | ⟨rfl, _⟩⟩ := h
    · exact idle h0 h1 (fun _ e => by cases e)
    · exact h0
  | err a => exact h.elim
  | spin => exact h.elim

theorem nextCancelLoop_steps (now : Nat) (fuel : Nat) (s : St) : CanAt now s (nextCancelLoop fuel s) :=
  (nextCancelLoop_out now fuel s).canAt

theorem pollNextCancellation_steps (now : Nat) (s : St) : CanAt now s (pollNextCancellation s) := by
  have he : Steps now CanScanK s (ensureWriteable s).1 := (ensureWriteable_steps now s).mono ensure_le_canScan
  refine Flow.pollNextCancellation_cases (motive := CanAt now s) s ?_ ?_
  · intro s1 e h1 hne
    have := of_fst h1 he
    cases e <;> first | exact this | exact absurd rfl hne
  · exact fun s1 h1 => (nextCancelLoop_steps now _ s1).after (of_fst h1 he)

theorem pollWriteCancel_steps (now : Nat) (s : St) : Steps now CanK s (pollWriteCancel s).1 := by
  have h := pollNextCancellation_steps now s
  refine Flow.pollWriteCancel_cases (motive := fun p => Steps now CanK s p.1) s ?_ ?_ ?_
  · intro s1 r e hr
    rw [e] at h
    cases r <;> first | exact h.mono canScan_le_can | cases hr
  · intro s1 e s2 he ht
    rw [he] at h; obtain ⟨s0, s1', i, h0, h1, hc⟩ := h
    exact (h0.mono canScan_le_can).then (.cancel h1 hc ht)
  · intro s1 e s2 he ht
    rw [he] at h; obtain ⟨s0, s1', i, h0, h1, hc⟩ := h
    exact (h0.mono canScan_le_can).then (.cancel h1 hc ht)

theorem pollExpired_steps (now : Nat) (s : St) : Steps now WriteK s (pollExpired s now).1 :=
  pollExpired_kept (P := Steps now WriteK s) (fun h => h.then (.expire _)) (.refl s)

theorem pumpRead_steps (now : Nat) (s : St) : Steps now RoundK s (pumpRead s).1 := by
  have idle : ∀ {s1 x}, tNext s = (s1, x) → (∀ id res, x ≠ .item (.response id res)) → Steps now RoundK s s1 :=
    fun e hx => of_fst e (Steps.one (.readIdle (by rw [e]; exact hx)))
  refine Flow.pumpRead_cases (motive := fun p => Steps now RoundK s p.1) s ?_ ?_ ?_ ?_ ?_
  · exact fun _ e => idle e (fun _ _ h => by cases h)
  · exact fun _ e => idle e (fun _ _ h => by cases h)
  · exact fun _ e => idle e (fun _ _ h => by cases h)
  · exact fun _ _ _ e => .one (.read e)
  · exact fun _ m e hm => idle e (fun id res h => hm id res (by injection h))

theorem pumpWrite_steps (now : Nat) (s : St) : Steps now PumpK s (pumpWrite s now).1 := by
  have rq : ∀ {s1 r}, pollWriteRequest s now = (s1, r) → Steps now PumpK s s1 :=
    fun e => of_fst e ((pollWriteRequest_steps s now).mono (fun a h => write_le_pump a (req_le_write a h)))
  have cn : ∀ {s1 r1 s2 r2}, pollWriteRequest s now = (s1, r1) → pollWriteCancel s1 = (s2, r2) →
      Steps now PumpK s s2 :=
    fun {s1 _ _ _} e1 e2 => (rq e1).trans
      (of_fst e2 ((pollWriteCancel_steps now s1).mono (fun a h => write_le_pump a (can_le_write a h))))
  have ex : ∀ {s1 r1 s2 r2 s3 b}, pollWriteRequest s now = (s1, r1) → pollWriteCancel s1 = (s2, r2) →
      pollExpired s2 now = (s3, b) → Steps now PumpK s s3 :=
    fun {_ _ s2 _ _ _} e1 e2 e3 => (cn e1 e2).trans (of_fst e3 ((pollExpired_steps now s2).mono write_le_pump))
  have cl : ∀ s, Steps now PumpK s (tClose s).1 := fun s => .one (.close s)
  have fl : ∀ s, Steps now PumpK s (tFlush s).1 := fun s => .one (.flush s)
  refine Flow.pumpWrite_cases (motive := fun p => Steps now PumpK s p.1) s now ?_ ?_ ?_ ?_ ?_ ?_
  · exact fun _ _ e _ => rq e
  · exact fun _ _ _ _ e1 _ e2 _ => cn e1 e2
  · exact fun _ _ _ _ _ e1 _ e2 _ e3 => ex e1 e2 e3
  · exact fun _ _ _ _ _ e1 _ e2 _ e3 _ => ex e1 e2 e3
  · exact fun _ _ s3 _ _ e1 e2 e3 e4 => (ex e1 e2 e3).trans (of_fst e4 (cl s3))
  · exact fun _ _ _ _ s3 _ _ e1 _ e2 _ _ e3 e4 => (ex e1 e2 e3).trans (of_fst e4 (fl s3))

theorem run_steps (now : Nat) (fuel : Nat) (s : St) : Steps now RoundK s (run fuel s now).1 := by
  induction fuel generalizing s with
  | zero => exact .one (.spin s)
  | succ fuel ih =>
    have rd : ∀ {s1 r}, pumpRead s = (s1, r) → Steps now RoundK s s1 := fun e => of_fst e (pumpRead_steps now s)
    have wr : ∀ {s1 r s2 w}, pumpRead s = (s1, r) → pumpWrite s1 now = (s2, w) → Steps now RoundK s s2 :=
      fun {s1 _ _ _} e1 e2 => (rd e1).trans (of_fst e2 ((pumpWrite_steps now s1).mono pump_le_round))
    refine Flow.run_cases (motive := fun p => Steps now RoundK s p.1) fuel s now ?_ ?_ ?_ ?_ ?_ ?_ ?_ ?_ ?_
    · exact fun _ _ e => rd e
    · exact fun _ e => rd e
    · exact fun _ _ _ _ e1 e2 => wr e1 e2
    · exact fun _ _ _ e1 e2 => wr e1 e2
    · exact fun _ _ _ e1 e2 _ => wr e1 e2
    · exact fun _ _ _ e1 _ e2 _ => wr e1 e2
    · exact fun _ _ e1 e2 _ => wr e1 e2
    · exact fun _ _ s2 _ e1 e2 _ => (wr e1 e2).trans (ih s2)
    · exact fun _ _ e1 e2 => wr e1 e2

theorem drainLoop_steps (now : Nat) (fuel : Nat) (s : St) (a : Activity) :
    Steps now DrainK s (drainLoop fuel s a).1 := by
  induction fuel generalizing s with
  | zero => exact .refl s
  | succ fuel ih =>
    unfold drainLoop
    rcases h : pqRecv s with ⟨s1, x⟩
    have idle : (∀ r, x ≠ .item r) → Steps now DrainK s s1 := fun hx =>
      of_fst h (Steps.one (.pqIdle (by rw [h]; exact hx)))
    cases x with
    | pending => exact idle (fun _ e => by cases e)
    | closed => exact idle (fun _ e => by cases e)
    | item r =>
      dsimp only
      cases hc : osIsClosed s1 r.cid with
      | true => rw [if_pos rfl]; exact (Steps.one (.pqSkip h hc)).trans (ih s1)
      | false => rw [if_neg (by simp)]; exact (Steps.one (.drainFail a h hc)).trans (ih _)

theorem shutDown_steps (now : Nat) (s : St) (a : Activity) : Steps now CoreK s (shutDown s a).1 :=
  ((Steps.one (.pqClose s)).then (.failAll _ a)).trans ((drainLoop_steps now _ _ a).mono drain_le_core)

/-! ### a pump that gives up with `.spin` has recorded why -/

theorem ensureLoop_spin (fuel : Nat) (s : St) : (ensureLoop fuel s).2 = .spin → Halted (ensureLoop fuel s).1 := by
  induction fuel generalizing s with
  | zero => exact fun _ => halted_spin s
  | succ fuel ih =>
    refine Flow.ensureLoop_cases (motive := fun p => p.2 = .spin → Halted p.1) fuel s ?_ ?_ ?_ ?_ ?_
    · exact fun _ _ h => by cases h
    · exact fun _ _ h => by cases h
    · exact fun _ _ _ _ h => by cases h
    · exact fun _ _ _ _ h => by cases h
    · exact fun _ s2 _ _ => ih s2

theorem ensureWriteable_spin (s : St) : (ensureWriteable s).2 = .spin → Halted (ensureWriteable s).1 := by
  unfold ensureWriteable; split
  · exact ensureLoop_spin _ s
  · refine Flow.ensureOnce_cases (motive := fun p => p.2 = .spin → Halted p.1) s ?_ ?_ ?_ ?_ ?_
    · exact fun _ _ h => by cases h
    · exact fun _ _ h => by cases h
    · exact fun _ _ _ _ h => by cases h
    · exact fun _ _ _ _ h => by cases h
    · exact fun _ _ _ r _ _ _ h => by cases r <;> cases h

theorem nextRequestLoop_ne_spin (fuel : Nat) (s : St) : (nextRequestLoop fuel s).2 ≠ .spin := fun h => by
  rcases (nextRequestLoop_out 0 fuel s).res with e | e | ⟨_, e⟩ <;> rw [h] at e <;> cases e

theorem nextCancelLoop_ne_spin (fuel : Nat) (s : St) : (nextCancelLoop fuel s).2 ≠ .spin := fun h => by
  rcases (nextCancelLoop_out 0 fuel s).res with e | e | ⟨_, e⟩ <;> rw [h] at e <;> cases e

theorem toPW_spin {α : Type} {e : EW} (h : (e.toPW : PW α) = .spin) : e = .spin := by
  cases e <;> first | rfl | cases h

theorem pass_spin {α β : Type} {r : PW α} (hr : r.isSome = false) (h : (r.pass : PW β) = .spin) : r = .spin := by
  cases r with
  | spin => rfl
  | some a => cases hr
  | pending => cases h
  | none => cases h
  | err a => cases h

theorem pollWriteRequest_spin (s : St) (now : Nat) :
    (pollWriteRequest s now).2 = .spin → Halted (pollWriteRequest s now).1 := by
  have nx : ∀ {s1}, pollNextRequest s = (s1, .spin) → Halted s1 := by
    intro s1
    refine Flow.pollNextRequest_cases (motive := fun p => p = (s1, .spin) → Halted s1) s ?_ ?_ ?_
    · exact fun _ h => by cases h
    · intro s1' e _ he _ h
      injection h with h1 h2; subst h1
      have := ensureWriteable_spin s; rw [he] at this; exact this (toPW_spin h2)
    · intro s1' _ _ h
      exact absurd (congrArg Prod.snd h) (nextRequestLoop_ne_spin _ _)
  refine Flow.pollWriteRequest_cases (motive := fun p => p.2 = .spin → Halted p.1) s now ?_ ?_ ?_ ?_
  · intro s1 r e hr h
    exact nx (by rw [e, pass_spin hr h])
  · exact fun _ _ _ _ _ hp _ => .inr hp
  · exact fun _ _ _ _ _ _ _ _ h => by cases h
  · exact fun _ _ _ _ _ _ _ _ h => by cases h

theorem pollWriteCancel_spin (s : St) : (pollWriteCancel s).2 = .spin → Halted (pollWriteCancel s).1 := by
  have nx : ∀ {s1}, pollNextCancellation s = (s1, .spin) → Halted s1 := by
    intro s1
    refine Flow.pollNextCancellation_cases (motive := fun p => p = (s1, .spin) → Halted s1) s ?_ ?_
    · intro s1' e he _ h
      injection h with h1 h2; subst h1
      have := ensureWriteable_spin s; rw [he] at this; exact this (toPW_spin h2)
    · intro s1' _ h
      exact absurd (congrArg Prod.snd h) (nextCancelLoop_ne_spin _ _)
  refine Flow.pollWriteCancel_cases (motive := fun p => p.2 = .spin → Halted p.1) s ?_ ?_ ?_
  · intro s1 r e hr h
    exact nx (by rw [e, pass_spin hr h])
  · exact fun _ _ _ _ _ h => by cases h
  · exact fun _ _ _ _ _ h => by cases h

theorem pumpWrite_spin (s : St) (now : Nat) : (pumpWrite s now).2 = .spin → Halted (pumpWrite s now).1 := by
  refine Flow.pumpWrite_cases (motive := fun p => p.2 = .spin → Halted p.1) s now ?_ ?_ ?_ ?_ ?_ ?_
  · intro s1 r1 e _ h
    have := pollWriteRequest_spin s now; rw [e] at this; exact this h
  · intro s1 _ s2 r2 _ _ e _ h
    have := pollWriteCancel_spin s1; rw [e] at this; exact this h
  · exact fun _ _ _ _ _ _ _ _ _ _ h => by cases h
  · exact fun _ _ _ _ _ _ _ _ _ _ hp _ => .inr hp
  · exact fun _ _ _ _ r4 _ _ _ _ h => by cases r4 <;> cases h
  · exact fun _ _ _ _ _ _ r4 _ _ _ _ _ _ _ h => by cases r4 <;> cases h

theorem run_spin (fuel : Nat) (s : St) (now : Nat) : (run fuel s now).2 = .spin → Halted (run fuel s now).1 := by
  induction fuel generalizing s with
  | zero => exact fun _ => halted_spin s
  | succ fuel ih =>
    refine Flow.run_cases (motive := fun p => p.2 = .spin → Halted p.1) fuel s now ?_ ?_ ?_ ?_ ?_ ?_ ?_ ?_ ?_
    · exact fun _ _ _ h => by cases h
    · intro s1 e _
      exfalso
      revert e
      refine Flow.pumpRead_cases (motive := fun p => p = (s1, .spin) → False) s ?_ ?_ ?_ ?_ ?_ <;>
        intros <;> rename_i h <;> cases h
    · exact fun _ _ _ _ _ _ h => by cases h
    · intro s1 _ s2 _ e _
      have := pumpWrite_spin s1 now; rw [e] at this; exact this rfl
    · exact fun _ _ _ _ _ _ h => by cases h
    · exact fun _ _ _ _ _ _ _ h => by cases h
    · exact fun _ _ _ _ _ h => by cases h
    · exact fun _ _ s2 _ _ _ _ => ih s2
    · exact fun _ _ _ _ h => by cases h

theorem pollDispatchCore_steps (s : St) (now : Nat) : Steps now CoreK s (pollDispatchCore s now).1 := by
  have rn : ∀ {s1 r}, run (runFuel s) s now = (s1, r) → Steps now CoreK s s1 :=
    fun e => of_fst e ((run_steps now _ s).mono round_le_core)
  refine Flow.pollDispatchCore_cases (motive := fun p => Steps now CoreK s p.1) s now ?_ ?_ ?_ ?_ ?_
  · exact fun a _ _ _ e => of_fst e (shutDown_steps now s a)
  · exact fun _ _ e => rn e
  · exact fun _ _ e => rn e
  · exact fun s1 _ e => (rn e).then
      (.poison s1 (by have := run_spin (runFuel s) s now; rw [e] at this; exact this rfl))
  · exact fun s1 a _ _ _ e1 e2 => ((rn e1).then (.termErr s1 a)).trans (of_fst e2 (shutDown_steps now _ a))

/-! ### what a poll that goes idle went through (control flow only; read by ClientDrain, ClientParkQ, ClientNotLate) -/

theorem ensureWriteable_pending {s s' : St} (h : ensureWriteable s = (s', .pending)) :
    ∃ s0 s1, tReady s0 = (s1, .pending) ∧
      (tFlush s1 = (s', .pending) ∨ ∃ s2, tFlush s1 = (s2, .ready) ∧ tReady s2 = (s', .pending)) := by
  let Q : St × EW → Prop := fun q => q.2 = .pending → ∃ s0 s1, tReady s0 = (s1, .pending) ∧
    (tFlush s1 = (q.1, .pending) ∨ ∃ s2, tFlush s1 = (s2, .ready) ∧ tReady s2 = (q.1, .pending))
  have once : ∀ s, Q (ensureOnce s) := fun s =>
    Flow.ensureOnce_cases (motive := Q) s (fun _ _ hh => by cases hh) (fun _ _ hh => by cases hh)
      (fun s1 _ h1 h2 _ => ⟨s, s1, h1, .inl h2⟩) (fun _ _ _ _ hh => by cases hh)
      (fun s1 s2 _ r h1 h2 h3 hh => by
        cases r with
        | pending => exact ⟨s, s1, h1, .inr ⟨s2, h2, h3⟩⟩
        | ready => cases hh
        | err => cases hh)
  have loop : ∀ fuel s, Q (ensureLoop fuel s) := by
    intro fuel
    induction fuel with
    | zero => intro s hh; rw [Flow.ensureLoop_zero] at hh; cases hh
    | succ fuel ih =>
      exact fun s => Flow.ensureLoop_cases (motive := Q) fuel s (fun _ _ hh => by cases hh) (fun _ _ hh => by cases hh)
        (fun s1 _ h1 h2 _ => ⟨s, s1, h1, .inl h2⟩) (fun _ _ _ _ hh => by cases hh) (fun _ s2 _ _ => ih s2)
  have hq : Q (ensureWriteable s) := by
    unfold ensureWriteable; split
    · exact loop _ _
    · exact once _
  rw [h] at hq; exact hq rfl

theorem pumpWrite_idle {s s' : St} {r : PW Unit} {now : Nat} (h : pumpWrite s now = (s', r))
    (hr : r = .pending ∨ r = .none) :
    ∃ s1 r1 s2 r2 s3, pollWriteRequest s now = (s1, r1) ∧ r1.isStop = false ∧ pollWriteCancel s1 = (s2, r2) ∧
      r2.isStop = false ∧ pollExpired s2 now = (s3, false) ∧ (s' = (tClose s3).1 ∨ s' = (tFlush s3).1) := by
  revert h
  refine Flow.pumpWrite_cases (motive := fun q => q = (s', r) → ∃ s1 r1 s2 r2 s3, pollWriteRequest s now = (s1, r1) ∧
    r1.isStop = false ∧ pollWriteCancel s1 = (s2, r2) ∧ r2.isStop = false ∧ pollExpired s2 now = (s3, false) ∧
    (s' = (tClose s3).1 ∨ s' = (tFlush s3).1)) s now ?_ ?_ ?_ ?_ ?_ ?_
  · intro _ _ _ hs hh
    injection hh with _ h2; subst h2
    rcases hr with rfl | rfl <;> cases hs
  · intro _ _ _ _ _ _ _ hs hh
    injection hh with _ h2; subst h2
    rcases hr with rfl | rfl <;> cases hs
  · intro _ _ _ _ _ _ _ _ _ _ hh; injection hh with _ h2; rcases hr with rfl | rfl <;> cases h2
  · intro _ _ _ _ _ _ _ _ _ _ _ hh; injection hh with _ h2; rcases hr with rfl | rfl <;> cases h2
  · intro s1 s2 s3 s4 r4 h1 h2 h3 h4 hh
    injection hh with e1 _; subst e1
    exact ⟨s1, _, s2, _, s3, h1, rfl, h2, rfl, h3, .inl (by rw [h4])⟩
  · intro s1 r1 s2 r2 s3 s4 r4 h1 hs1 h2 hs2 _ h3 h4 hh
    injection hh with e1 _; subst e1
    exact ⟨s1, r1, s2, r2, s3, h1, hs1, h2, hs2, h3, .inr (by rw [h4])⟩

/-- `run → Pending`: the last round read nothing (`Pending`) and its `pump_write` ended `Pending` / `None` -/
theorem run_idle (fuel : Nat) {s s' : St} {now : Nat} (h : run fuel s now = (s', .pending)) :
    ∃ s0 s1 r, Steps now RoundK s s0 ∧ pumpRead s0 = (s1, .pending) ∧ pumpWrite s1 now = (s', r) ∧
      (r = .pending ∨ r = .none) := by
  induction fuel generalizing s with
  | zero => rw [Flow.run_zero] at h; cases h
  | succ fuel ih =>
    revert h
    refine Flow.run_cases (motive := fun q => q = (s', RunRes.pending) → ∃ s0 s1 r, Steps now RoundK s s0 ∧
      pumpRead s0 = (s1, .pending) ∧ pumpWrite s1 now = (s', r) ∧ (r = .pending ∨ r = .none)) fuel s now
      ?_ ?_ ?_ ?_ ?_ ?_ ?_ ?_ ?_
    · intro _ _ _ hh; injection hh with _ h2; cases h2
    · intro _ _ hh; injection hh with _ h2; cases h2
    · intro _ _ _ _ _ _ hh; injection hh with _ h2; cases h2
    · intro _ _ _ _ _ hh; injection hh with _ h2; cases h2
    · intro _ _ _ _ _ _ hh; injection hh with _ h2; cases h2
    · intro _ _ _ _ _ _ _ hh; injection hh with _ h2; cases h2
    · intro s1 s2 h1 h2 _ hh
      injection hh with e1 _; subst e1
      exact ⟨s, s1, _, .refl s, h1, h2, .inr rfl⟩
    · intro s1 _ s2 _ h1 h2 _ hh
      obtain ⟨s3, s4, r, st, e1, e2, hr⟩ := ih hh
      exact ⟨s3, s4, r, ((of_fst h1 (pumpRead_steps now s)).trans
        (of_fst h2 ((pumpWrite_steps now s1).mono pump_le_round))).trans st, e1, e2, hr⟩
    · intro s1 s2 h1 h2 hh
      injection hh with e1 _; subst e1
      exact ⟨s, s1, _, .refl s, h1, h2, .inl rfl⟩

theorem pollDispatchCore_idle {s : St} {now : Nat} (hr : (pollDispatchCore s now).2 = .pending)
    (ht : (pollDispatchCore s now).1.termErr = none) (hp : (pollDispatchCore s now).1.poisoned = false) :
    ∃ s1 r, pumpWrite s1 now = ((pollDispatchCore s now).1, r) ∧ (r = .pending ∨ r = .none) := by
  revert hr ht hp
  refine Flow.pollDispatchCore_cases (motive := fun q => q.2 = .pending → q.1.termErr = none → q.1.poisoned = false →
    ∃ s1 r, pumpWrite s1 now = (q.1, r) ∧ (r = .pending ∨ r = .none)) s now ?_ ?_ ?_ ?_ ?_
  · intro a s1 fin hta h1 _ ht _
    have := Flow.shutDown_termErr s a; rw [h1] at this
    rw [this, hta] at ht; cases ht
  · intro s1 _ h1 _ _ _; obtain ⟨_, s2, r, _, _, e, hr⟩ := run_idle _ h1; exact ⟨s2, r, e, hr⟩
  · intro _ _ _ h; cases h
  · intro _ _ _ _ _ hp; cases hp
  · intro s1 a s2 fin _ _ h2 _ ht _
    have := Flow.shutDown_termErr { s1 with termErr := some a } a; rw [h2] at this
    rw [this] at ht; cases ht

/-! ### the call future -/

theorem Steps.emitC {now : Nat} {s s1 : St} (h : Steps now CallK s s1) (o : Obs) (ho : Flow.isT o = false) :
    Steps now CallK s (emit s1 o) := h.then (.emit s1 o) ho

theorem Steps.updC {now : Nat} {s s1 : St} (h : Steps now CallK s s1) (cid : Nat) (f : Call → Call) :
    Steps now CallK s (updCall s1 cid f) := h.then (.updCall s1 cid f)

theorem afterCallGone_steps (now : Nat) (s : St) : Steps now GoneK s (afterCallGone s) := by
  unfold afterCallGone; split
  · have h1 : Steps now GoneK s (if s.pqRxWaker then wakeDispatch { s with pqRxWaker := false } else s) := by
      split
      · exact .one (.wakePq s)
      · exact .refl _
    refine h1.trans ?_
    generalize (if s.pqRxWaker then wakeDispatch { s with pqRxWaker := false } else s) = s1
    simp only; split
    · exact .one (.wakeCq s1)
    · exact .refl _
  · exact .refl _

theorem resolve_steps (s : St) (cid : Nat) (o : Outcome) (now : Nat) : Steps now CallK s (resolve s cid o now) := by
  unfold resolve
  exact (((Steps.refl s).updC cid _).emitC _ rfl).trans ((afterCallGone_steps now _).mono gone_le_call)

theorem failShutdown_steps (s : St) (cid id now : Nat) : Steps now CallK s (failShutdown s cid id now) := by
  unfold failShutdown
  have h1 : Steps now CallK s (osDropTx s cid) := .one (.osDropTx s cid)
  have h2 : Steps now CallK s (cqPush (guardClose (osDropTx s cid) cid) id) := (h1.updC cid _).then (.cqPush _ id)
  exact h2.trans (resolve_steps _ _ _ _)

theorem pollOneshot_steps (s : St) (cid now : Nat) : Steps now CallK s (pollOneshot s cid now) := by
  unfold pollOneshot; split
  · exact .refl _
  · split
    · exact ((Steps.refl s).updC _ _).trans (resolve_steps _ _ _ _)
    · split
      · exact resolve_steps _ _ _ _
      · exact ((Steps.refl s).updC _ _).emitC _ rfl

theorem enqueue_steps (s : St) (c : Call) (now : Nat) (hcl : s.pqClosed = false) :
    Steps now CallK s (enqueue s c now) := by
  unfold enqueue
  exact ((Steps.one (.pqPush s _ hcl)).updC _ _).trans (pollOneshot_steps _ _ _)

theorem pollCall_steps (s : St) (cid now : Nat) : Steps now CallK s (pollCall s cid now) := by
  have perm : ∀ {a b : St}, Permits a b → Steps now CallK a b := fun h => .one (.permits h)
  have open_ : ∀ {a : St}, ¬ (a.pqClosed || a.dDropped) = true → a.pqClosed = false := by
    intro a h; cases hc : a.pqClosed <;> simp_all
  refine Flow.pollCall_cases s cid now (fun _ => (Steps.refl s).emitC _ rfl) ?_ ?_ ?_
  · intro c a _ _ ha
    have h1 : Steps now CallK s a := by
      rw [ha]; unfold assignId
      exact (perm ⟨_, _, _, _, _, rfl⟩).updC _ _
    refine ite_ite_cases (motive := Steps now CallK s) (fun _ => ?_) (fun hc _ => ?_) (fun _ _ => ?_)
    · exact h1.trans (failShutdown_steps _ _ _ _)
    · have e1 : Steps now CallK a { a with pqAvail := a.pqAvail - 1 } := perm ⟨_, _, _, _, _, rfl⟩
      exact (h1.trans e1).trans (enqueue_steps _ _ _ (open_ hc))
    · have e1 : Steps now CallK a { a with pqWaiters := a.pqWaiters ++ [cid] } := perm ⟨_, _, _, _, _, rfl⟩
      exact (((h1.trans e1).updC _ _)).emitC _ rfl
  · intro c a _ _ ha
    have h1 : Steps now CallK s a := by rw [ha]; exact (Steps.refl s).updC _ _
    refine ite_ite_cases (motive := Steps now CallK s) (fun _ => ?_) (fun hc _ => ?_) (fun _ _ => ?_)
    · refine (h1.trans (perm ?_)).trans (failShutdown_steps _ _ _ _)
      exact ⟨_, _, _, _, _, rfl⟩
    · have e1 : Steps now CallK a { a with pqAssigned := a.pqAssigned.filter (· != cid) } :=
        perm ⟨_, _, _, _, _, rfl⟩
      exact (h1.trans e1).trans (enqueue_steps _ _ _ (open_ hc))
    · exact h1.emitC _ rfl
  · intro c _ _
    exact ((Steps.refl s).updC _ _).trans (pollOneshot_steps _ _ _)

theorem dropPre_steps (now : Nat) (s : St) (cid : Nat) : Steps now CallK s (dropPre s cid) := by
  unfold dropPre; split
  · exact .refl _
  · split
    · extract_lets had s1 s2
      have h1 : Steps now CallK s s1 := .one (.permits ⟨_, _, _, _, _, rfl⟩)
      have h2 : Steps now CallK s s2 := by
        show Steps now CallK s (if had = true then pqRelease s1 else s1); split
        · exact h1.then (.pqRelease s1)
        · exact h1
      exact h2.then (.osDropTx s2 cid)
    · exact .refl _

theorem dropClose_steps (now : Nat) (s : St) (cid : Nat) : Steps now CallK s (dropClose s cid) :=
  Flow.dropClose_cases s cid (fun _ => .refl _) (fun _ _ _ => (Steps.refl s).updC cid _)

theorem dropCancel_steps (now : Nat) (s : St) (cid : Nat) : Steps now CallK s (dropCancel s cid) :=
  Flow.dropCancel_cases s cid (fun _ => .refl _) (fun c _ _ => .one (.cqPush s c.id))

theorem dropFinish_steps (now : Nat) (s : St) (cid : Nat) : Steps now CallK s (dropFinish s cid) :=
  Flow.dropFinish_cases s cid (fun _ => (Steps.refl s).emitC _ rfl)
    (fun _ _ _ => ((Steps.refl s).updC _ _).trans ((afterCallGone_steps now _).mono gone_le_call))

theorem newCall_steps (now : Nat) (s : St) (h : Nat) (ctx : Ctx) (body : Nat) : Steps now UserK s (newCall s h ctx body) := by
  unfold newCall; split
  · exact .one (.addCall s _)
  · exact .one (.emit s _) rfl

theorem cloneHandle_steps (now : Nat) (s : St) (h : Nat) : Steps now UserK s (cloneHandle s h) := by
  unfold cloneHandle; split
  · exact .one (.setHandles s _ _)
  · exact .one (.emit s _) rfl

theorem dropHandle_steps (now : Nat) (s : St) (h : Nat) : Steps now UserK s (dropHandle s h) := by
  unfold dropHandle; split
  · exact (Steps.one (.setHandles s _ s.nextHandle)).trans ((afterCallGone_steps now _).mono (fun a h => call_le_user a (gone_le_call a h)))
  · exact .one (.emit s _) rfl

/-! ### preorders closed under the transport calls and under transport-free steps -/

namespace Flow

attribute [local refl] Nat.le_refl

/-- `R` holds across everything the write pump does before `poll_close` (consumer of `Steps now WriteK`) -/
structure WRel (R : St → St → Prop) : Prop where
  refl : ∀ s, R s s
  trans : ∀ {a b c}, R a b → R b c → R a c
  prim : ∀ {s s'}, Frames s s' → R s s'
  ready : ∀ s, R s (tReady s).1
  flush : ∀ s, R s (tFlush s).1
  send : ∀ s m, R s (tSend s m).1
  spin : ∀ s, R s (emit s (.spin (tid s)))

/-- `WRel` plus `tClose` and `tNext`: everything `run` does (consumer of `Steps now RoundK`) -/
structure DRel (R : St → St → Prop) : Prop extends WRel R where
  close : ∀ s, R s (tClose s).1
  next : ∀ s, R s (tNext s).1

/-- what a plain field write of the call side leaves alone -/
structure CallUpd (s s' : St) : Prop where
  k : s'.k = s.k
  maxInFlight : s'.maxInFlight = s.maxInFlight
  bufCap : s'.bufCap = s.bufCap
  ensureLoop : s'.ensureLoop = s.ensureLoop
  t : s'.t = s.t
  termErr : s'.termErr = s.termErr
  readFused : s'.readFused = s.readFused
  obs : s'.obs = s.obs
  inflight : s'.inflight = s.inflight
  timers : s'.timers = s.timers
  done : s'.done = s.done
  dDropped : s'.dDropped = s.dDropped
  dWoken : s'.dWoken = s.dWoken
  poisoned : s'.poisoned = s.poisoned

/-- `R` holds across what the call futures and the handle operations do (consumer of `Steps now UserK`); the call side has no
frame all its primitives share, so they are listed one by one -/
structure CRel (R : St → St → Prop) : Prop where
  refl : ∀ s, R s s
  trans : ∀ {a b c}, R a b → R b c → R a c
  same : ∀ s s', CallUpd s s' → R s s'
  emit : ∀ s o, isT o = false → R s (emit s o)
  updCall : ∀ s cid f, R s (updCall s cid f)
  wakeDispatch : ∀ s, R s (wakeDispatch s)
  osDropTx : ∀ s cid, R s (osDropTx s cid)
  pqRelease : ∀ s, R s (pqRelease s)
  pqPush : ∀ s r, R s (pqPush s r)
  cqPush : ∀ s id, R s (cqPush s id)

theorem CRel.upd {R : St → St → Prop} (hR : CRel R) {s s1 s2 : St} (hu : CallUpd s s1) (h : R s1 s2) : R s s2 :=
  hR.trans (hR.same _ _ hu) h

section
variable {R : St → St → Prop} {now : Nat} {a : Act} {s s' : St}

theorem WRel.act (hR : WRel R) (ha : WriteK a) (st : Step now a s s') : R s s' := by
  have rq : ∀ {s1 s2 : St} {r : DReq}, pqRecv s = (s1, .item r) → insertRequest s1 now r = some s2 → R s s2 :=
    fun e hi => hR.trans (of_fst e (hR.prim (pqRecv_frames s))) (hR.prim (insertRequest_frames hi))
  cases st with
  | ready => exact hR.ready s
  | flush => exact hR.flush s
  | spin => exact hR.spin s
  | pqIdle _ => exact hR.prim (pqRecv_frames s)
  | pqSkip e _ => exact of_fst e (hR.prim (pqRecv_frames s))
  | reqPanic _ e _ hi _ => exact rq e hi
  | reqSent _ e _ hi _ ht => exact hR.trans (rq e hi) (of_fst ht (hR.send _ _))
  | reqFailed _ e _ hi _ ht =>
    exact hR.trans (hR.trans (rq e hi) (of_fst ht (hR.send _ _))) (hR.prim (completeRequest_frames _ _ _))
  | cqIdle _ => exact hR.prim (cqRecv_frames s)
  | cqMiss e _ => exact of_fst e (hR.prim (cqRecv_frames s))
  | cancel e hc ht =>
    exact hR.trans (hR.trans (of_fst e (hR.prim (cqRecv_frames s))) (of_fst hc (hR.prim (cancelRequest_frames _ _))))
      (of_fst ht (hR.send _ _))
  | expire => exact hR.prim (expireWith_frames s now _)
  | _ => exact False.elim ha

theorem DRel.act (hR : DRel R) (ha : RoundK a) (st : Step now a s s') : R s s' := by
  have st' := st
  cases st with
  | close => exact hR.close s
  | readIdle _ => exact hR.next s
  | read e => exact hR.trans (of_fst e (hR.next s)) (hR.prim (completeRequest_frames _ _ _))
  | _ => refine hR.toWRel.act ?_ st'; exact ha

theorem DRel.core (hR : DRel R) (hterm : ∀ s a, R s { s with termErr := some a }) (ha : CoreK a)
    (st : Step now a s s') : R s s' := by
  have st' := st
  cases st with
  | pqClose => exact hR.prim (pqClose_frames s)
  | failAll _ a => exact hR.prim (failAll_frames s a)
  | drainFail a e _ => exact hR.trans (of_fst e (hR.prim (pqRecv_frames s))) (hR.prim (osSend_frames _ _ _))
  | termErr _ a => exact hterm s a
  | poison _ => exact hR.prim ⟨by constructor <;> rfl, by constructor <;> rfl⟩
  | _ => refine hR.act ?_ st'; exact ha

theorem CRel.act (hR : CRel R) (ha : UserK a) (st : Step now a s s') : R s s' := by
  cases st with
  | emit s o => exact hR.emit s o ha
  | updCall s cid f => exact hR.updCall s cid f
  | permits hp => obtain ⟨_, _, _, _, _, rfl⟩ := hp; refine hR.same _ _ ?_; constructor <;> rfl
  | wakePq s => refine hR.upd ?_ (hR.wakeDispatch _); constructor <;> rfl
  | wakeCq s => refine hR.upd ?_ (hR.wakeDispatch _); constructor <;> rfl
  | osDropTx s cid => exact hR.osDropTx s cid
  | pqRelease s => exact hR.pqRelease s
  | pqPush s r _ => exact hR.pqPush s r
  | cqPush s id => exact hR.cqPush s id
  | addCall s c => refine hR.same _ _ ?_; constructor <;> rfl
  | setHandles s hs n => refine hR.same _ _ ?_; constructor <;> rfl
  | _ => exact False.elim ha

theorem WRel.steps (hR : WRel R) (h : Steps now WriteK s s') : R s s' := h.lift hR.refl hR.trans hR.act

theorem WRel.pump (hR : WRel R) (hclose : ∀ s, R s (tClose s).1) (h : Steps now PumpK s s') : R s s' :=
  h.lift hR.refl hR.trans (fun {a _ _} ha st => by
    have st' := st
    cases st with
    | close => exact hclose _
    | _ => refine hR.act ?_ st'; exact ha)

theorem DRel.steps (hR : DRel R) (h : Steps now RoundK s s') : R s s' := h.lift hR.refl hR.trans hR.act

theorem DRel.coreSteps (hR : DRel R) (hterm : ∀ s a, R s { s with termErr := some a }) (h : Steps now CoreK s s') :
    R s s' := h.lift hR.refl hR.trans (hR.core hterm)

theorem CRel.steps (hR : CRel R) (h : Steps now UserK s s') : R s s' := h.lift hR.refl hR.trans hR.act

theorem CRel.call (hR : CRel R) (h : Steps now CallK s s') : R s s' := hR.steps (h.mono call_le_user)

end

end Flow

end TarpcModel.Client
