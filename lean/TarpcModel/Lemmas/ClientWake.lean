import TarpcModel.Lemmas.ClientTrack
/-!
# The wake-up discipline of the call futures and the permits of the request channel

`WkI D k s`:

* a call future that has not been polled yet is born woken; a future waiting for a permit (`reserving`) is in the wait
  queue, or it has been woken and holds a permit (or the channel is closed); a future waiting for its response
  (`awaiting`) that is not woken has its waker registered on an open, empty oneshot whose sender is alive
  (`WOk`, per call; `D` = the future that is being dropped, which is exempt);
* every permit that was handed over belongs to a woken `reserving` future, every waiter is a `reserving` future;
* `ChI k s`, which reads only the channel: the permits add up, `pqAvail + |pq| + |pqAssigned| + k = bufCap`
  while the channel is open (`k` = permits in transit inside one step), nobody waits while a permit is available, the
  lists have no duplicates and are disjoint, a dropped dispatch has closed the channel.  It has one lemma per channel
  event (`ChI.pop`, `.back`, `.hand`, `.took`, `.used`, `.joined`, `.left`, `.unlist`, `.of_closed`).

`QWk s s'`: a step that leaves the channel alone and changes calls only by waking them (or by changing a oneshot whose
registered receiver it wakes).  `reach_wk`: the invariant holds in every reachable state.
-/
namespace TarpcModel.Client

/-! ### one call, one step of somebody else -/

/-- what a step of the dispatch (or of another call) may do to a call: wake it; change its oneshot — but then a
registered live receiver is woken -/
def CWk (c c' : Call) : Prop :=
  c'.cid = c.cid ∧ c'.phase = c.phase ∧ c'.os.rxClosed = c.os.rxClosed ∧ (c.woken = true → c'.woken = true) ∧
    (c'.os = c.os ∨ (c.os.rxWaker = true → callLive c = true → c'.woken = true))

theorem CWk.refl (c : Call) : CWk c c := ⟨rfl, rfl, rfl, id, Or.inl rfl⟩

theorem callLive_of_phase {c c' : Call} (h : c'.phase = c.phase) : callLive c' = callLive c := by
  unfold callLive; rw [h]

theorem CWk.trans {a b c : Call} (h1 : CWk a b) (h2 : CWk b c) : CWk a c := by
  obtain ⟨a1, a2, a3, a4, a5⟩ := h1
  obtain ⟨b1, b2, b3, b4, b5⟩ := h2
  refine ⟨b1.trans a1, b2.trans a2, b3.trans a3, fun h => b4 (a4 h), ?_⟩
  rcases a5 with a5 | a5
  · rcases b5 with b5 | b5
    · exact Or.inl (b5.trans a5)
    · right
      intro hw hl
      exact b5 (by rw [a5]; exact hw) (by rw [callLive_of_phase a2]; exact hl)
  · right
    intro hw hl
    exact b4 (a5 hw hl)

/-- `s'.calls` is `s.calls` with `g` applied, `g` keeps the ids and (if the ids are distinct) relates old and new by `R` -/
def UpdR (R : Call → Call → Prop) (s s' : St) : Prop :=
  ∃ g : Call → Call, s'.calls = s.calls.map g ∧ (∀ c, (g c).cid = c.cid) ∧ (CUniq s → ∀ c ∈ s.calls, R c (g c))

theorem UpdR.cids {R : Call → Call → Prop} {s s' : St} (h : UpdR R s s') : s'.calls.map (·.cid) = s.calls.map (·.cid) := by
  obtain ⟨g, hg, hc, _⟩ := h
  rw [hg, List.map_map]
  apply List.map_congr_left
  intro c _
  exact hc c

theorem UpdR.cuniq {R : Call → Call → Prop} {s s' : St} (h : UpdR R s s') (hu : CUniq s) : CUniq s' :=
  cuniq_of_cids h.cids hu

theorem UpdR.refl {R : Call → Call → Prop} (hR : ∀ c, R c c) (s : St) : UpdR R s s :=
  ⟨id, by simp, fun _ => rfl, fun _ c _ => hR c⟩

theorem UpdR.of_calls {R : Call → Call → Prop} (hR : ∀ c, R c c) {s s' : St} (h : s'.calls = s.calls) : UpdR R s s' :=
  ⟨id, by simp [h], fun _ => rfl, fun _ c _ => hR c⟩

theorem UpdR.trans {R : Call → Call → Prop} (hR : ∀ a b c, R a b → R b c → R a c) {a b c : St}
    (h1 : UpdR R a b) (h2 : UpdR R b c) : UpdR R a c := by
  have hub := fun hu => h1.cuniq hu
  obtain ⟨g1, e1, c1, r1⟩ := h1
  obtain ⟨g2, e2, c2, r2⟩ := h2
  refine ⟨g2 ∘ g1, by rw [e2, e1, List.map_map], fun x => by simp [Function.comp, c1, c2], ?_⟩
  intro hu x hx
  refine hR _ _ _ (r1 hu x hx) (r2 (hub hu) (g1 x) ?_)
  rw [e1]; exact List.mem_map_of_mem hx

/-- backwards: every new call comes from an old one -/
theorem UpdR.bwd {R : Call → Call → Prop} {s s' : St} (h : UpdR R s s') (hu : CUniq s) {c' : Call} (hc' : c' ∈ s'.calls) :
    ∃ c ∈ s.calls, R c c' ∧ c'.cid = c.cid := by
  obtain ⟨g, e, hc, r⟩ := h
  rw [e] at hc'
  obtain ⟨c, hm, rfl⟩ := List.mem_map.mp hc'
  exact ⟨c, hm, r hu c hm, hc c⟩

/-- forwards -/
theorem UpdR.fwd {R : Call → Call → Prop} {s s' : St} (h : UpdR R s s') (hu : CUniq s) {c : Call} (hc : c ∈ s.calls) :
    ∃ c' ∈ s'.calls, R c c' ∧ c'.cid = c.cid := by
  obtain ⟨g, e, hcid, r⟩ := h
  exact ⟨g c, by rw [e]; exact List.mem_map_of_mem hc, r hu c hc, hcid c⟩

theorem updR_updCall {R : Call → Call → Prop} (hR : ∀ c, R c c) (s : St) (cid : Nat) (f : Call → Call)
    (hf : ∀ c, (f c).cid = c.cid) (hr : CUniq s → ∀ c ∈ s.calls, c.cid = cid → R c (f c)) : UpdR R s (updCall s cid f) := by
  refine ⟨updFn cid f, rfl, fun c => ?_, fun hu c hc => ?_⟩
  · unfold updFn; split
    · exact hf c
    · rfl
  · unfold updFn; split
    · rename_i hx; exact hr hu c hc (by simpa using hx)
    · exact hR c

/-! ### steps that leave the channel alone -/

/-- a step of somebody else as `WkI` sees it: calls change by `CWk`, the channel is the same -/
structure QWk (s s' : St) : Prop where
  calls : UpdR CWk s s'
  pq : s'.pq = s.pq
  pqAvail : s'.pqAvail = s.pqAvail
  pqWaiters : s'.pqWaiters = s.pqWaiters
  pqAssigned : s'.pqAssigned = s.pqAssigned
  pqClosed : s'.pqClosed = s.pqClosed
  dDropped : s'.dDropped = s.dDropped
  bufCap : s'.bufCap = s.bufCap

theorem QWk.refl (s : St) : QWk s s := ⟨UpdR.refl CWk.refl s, rfl, rfl, rfl, rfl, rfl, rfl, rfl⟩

theorem QWk.trans {a b c : St} (h1 : QWk a b) (h2 : QWk b c) : QWk a c :=
  ⟨UpdR.trans (R := CWk) (fun _ _ _ h1 h2 => CWk.trans h1 h2) h1.calls h2.calls, h2.pq.trans h1.pq, h2.pqAvail.trans h1.pqAvail,
   h2.pqWaiters.trans h1.pqWaiters, h2.pqAssigned.trans h1.pqAssigned, h2.pqClosed.trans h1.pqClosed,
   h2.dDropped.trans h1.dDropped, h2.bufCap.trans h1.bufCap⟩

theorem QWk.after {a b c : St} (h2 : QWk b c) (h1 : QWk a b) : QWk a c := h1.trans h2

theorem QWk.of_calls {s s' : St} (hc : s'.calls = s.calls := by rfl) (h1 : s'.pq = s.pq := by rfl)
    (h2 : s'.pqAvail = s.pqAvail := by rfl) (h3 : s'.pqWaiters = s.pqWaiters := by rfl)
    (h4 : s'.pqAssigned = s.pqAssigned := by rfl) (h5 : s'.pqClosed = s.pqClosed := by rfl)
    (h6 : s'.dDropped = s.dDropped := by rfl) (h7 : s'.bufCap = s.bufCap := by rfl) : QWk s s' :=
  ⟨UpdR.of_calls CWk.refl hc, h1, h2, h3, h4, h5, h6, h7⟩

theorem QWk.cuniq {s s' : St} (q : QWk s s') (hu : CUniq s) : CUniq s' := q.calls.cuniq hu

theorem qwk_foldl {α : Type} (f : St → α → St) (hf : ∀ s a, QWk s (f s a)) (l : List α) (s : St) : QWk s (l.foldl f s) := by
  induction l generalizing s with
  | nil => exact QWk.refl _
  | cons a l ih => exact (hf s a).trans (ih _)

theorem qwk_emit (s : St) (o : Obs) : QWk s (emit s o) := .of_calls

theorem qwk_wakeDispatch (s : St) : QWk s (wakeDispatch s) := by
  obtain ⟨w, os, e⟩ := Flow.wakeDispatch_only s
  rw [e]; exact .of_calls

theorem qwk_updCall (s : St) (cid : Nat) (f : Call → Call) (hf : ∀ c, (f c).cid = c.cid)
    (hr : CUniq s → ∀ c ∈ s.calls, c.cid = cid → CWk c (f c)) : QWk s (updCall s cid f) :=
  ⟨updR_updCall CWk.refl s cid f hf hr, rfl, rfl, rfl, rfl, rfl, rfl, rfl⟩

theorem qwk_wakeCall (s : St) (cid : Nat) : QWk s (wakeCall s cid) := by
  rcases Flow.wakeCall_out s cid with ⟨_, _, _, e⟩ | ⟨_, e⟩ <;> rw [e]
  · exact (qwk_emit _ _).after (qwk_updCall s cid _ (fun _ => rfl) (fun _ c _ _ => ⟨rfl, rfl, rfl, fun _ => rfl, Or.inl rfl⟩))
  · exact QWk.refl _

/-- after an update of call `cid` that leaves its liveness alone, waking `cid` if `b` -/
theorem qwk_upd_wake (s : St) (cid : Nat) (c0 : Call) (hg : getCall s cid = some c0) (f : Call → Call)
    (hf : ∀ c, (f c).cid = c.cid) (hph : ∀ c, (f c).phase = c.phase) (hrx : ∀ c, (f c).os.rxClosed = c.os.rxClosed)
    (hwk : ∀ c, (f c).woken = c.woken) (b : Bool) (hb : c0.os.rxWaker = true → b = true) :
    QWk s (if b = true then wakeCall (updCall s cid f) cid else updCall s cid f) := by
  have g1 : getCall (updCall s cid f) cid = some (f c0) := getCall_updCall_some hg f hf
  cases b with
  | false =>
    simp only [Bool.false_eq_true, ↓reduceIte]
    refine qwk_updCall s cid f hf (fun hu c hc he => ?_)
    have : c = c0 := hu.eq_of_getCall hg hc he
    subst this
    refine ⟨hf c, hph c, hrx c, fun h => by rw [hwk]; exact h, Or.inr (fun hw _ => ?_)⟩
    have := hb hw; cases this
  | true =>
    simp only [↓reduceIte]
    rcases Flow.wakeCall_out (updCall s cid f) cid with ⟨c1, h1, hl1, e⟩ | ⟨hd, e⟩ <;> rw [e]
    · refine (qwk_emit _ _).after ?_
      have e : updCall (updCall s cid f) cid (fun c => { c with woken := true }) =
          updCall s cid (fun c => { f c with woken := true }) := by
        simp only [updCall, List.map_map]
        congr 1
        apply List.map_congr_left
        intro c _
        simp only [Function.comp]
        by_cases hx : (c.cid == cid) = true
        · simp [hx, hf]
        · simp [hx]
      rw [e]
      refine qwk_updCall s cid _ (fun c => hf c) (fun hu c hc he => ?_)
      exact ⟨hf c, hph c, hrx c, fun _ => rfl, Or.inr (fun _ _ => rfl)⟩
    · have hl : callLive c0 = false := by rw [← callLive_of_phase (hph c0)]; exact hd _ g1
      refine qwk_updCall s cid f hf (fun hu c hc he => ?_)
      have : c = c0 := hu.eq_of_getCall hg hc he
      subst this
      exact ⟨hf c, hph c, hrx c, fun h => by rw [hwk]; exact h, Or.inr (fun _ hl' => by rw [hl] at hl'; cases hl')⟩

theorem qwk_osSend (s : St) (cid : Nat) (o : Outcome) : QWk s (osSend s cid o) := by
  rcases Flow.osSend_out s cid o with ⟨_, e⟩ | ⟨c0, hg, _, e⟩ <;> rw [e]
  · exact QWk.refl _
  · exact qwk_upd_wake s cid c0 hg (fun c => { c with os := { c.os with val := some o, rxWaker := false } })
      (fun _ => rfl) (fun _ => rfl) (fun _ => rfl) (fun _ => rfl) c0.os.rxWaker id

theorem qwk_osDropTx (s : St) (cid : Nat) : QWk s (osDropTx s cid) := by
  rcases Flow.osDropTx_out s cid with ⟨_, e⟩ | ⟨c0, hg, _, e⟩ <;> rw [e]
  · exact QWk.refl _
  · exact qwk_upd_wake s cid c0 hg (fun c => { c with os := { c.os with txDropped := true, rxWaker := false } })
      (fun _ => rfl) (fun _ => rfl) (fun _ => rfl) (fun _ => rfl) c0.os.rxWaker id

theorem qwk_removeTimer (s : St) (k : Nat) : QWk s (removeTimer s k) := by
  rcases Flow.removeTimer_out s k with ⟨q, woke, _, e⟩ | ⟨_, e⟩ <;> rw [e]
  · split
    · exact (qwk_wakeDispatch _).after (by exact .of_calls)
    · exact .of_calls
  · exact (qwk_emit _ _).after (by exact .of_calls)

theorem qwk_tEmit (s : St) (t' : SimT) (o : Obs) (w : Bool) : QWk s (Flow.tEmit s t' o w) := by
  obtain ⟨l, dw, he, _, _⟩ := Flow.tEmit_eq s t' o w
  rw [he]; exact .of_calls
theorem qwk_tReady (s : St) : QWk s (tReady s).1 := by rw [Flow.tReady_eq]; exact qwk_tEmit _ _ _ _
theorem qwk_tFlush (s : St) : QWk s (tFlush s).1 := by rw [Flow.tFlush_eq]; exact qwk_tEmit _ _ _ _
theorem qwk_tClose (s : St) : QWk s (tClose s).1 := by rw [Flow.tClose_eq]; exact qwk_tEmit _ _ _ _
theorem qwk_tSend (s : St) (m : Msg) : QWk s (tSend s m).1 := by rw [Flow.tSend_eq]; exact qwk_tEmit s (s.t.startSend m).1 _ false
theorem qwk_tNext (s : St) : QWk s (tNext s).1 := by
  rw [Flow.tNext_eq]; split
  · exact QWk.refl _
  · exact .of_calls

theorem qwk_completeRequest (s : St) (id : Nat) (o : Outcome) : QWk s (completeRequest s id o).1 := by
  rcases Flow.completeRequest_out s id o with ⟨_, e⟩ | ⟨en, _, e⟩ <;> rw [e]
  · exact QWk.refl _
  · exact ((by exact .of_calls : QWk s _).trans (qwk_removeTimer _ _)).trans (qwk_osSend _ _ _)

theorem qwk_cancelRequest (s : St) (id : Nat) : QWk s (cancelRequest s id).1 := by
  rcases Flow.cancelRequest_out s id with ⟨_, e⟩ | ⟨en, _, e⟩ <;> rw [e]
  · exact QWk.refl _
  · exact (by exact .of_calls : QWk s _).trans (qwk_removeTimer _ _)

theorem qwk_insertRequest {s s' : St} {now : Nat} {r : DReq} (h : insertRequest s now r = some s') : QWk s s' := by
  rcases insertRequest_outcome h with ⟨site, rfl⟩ | ⟨_, q, en, w, _, _, _, rfl⟩
  · exact (by exact .of_calls : QWk s _).trans (qwk_emit _ _)
  · split
    · exact (by exact .of_calls : QWk s _).trans (qwk_wakeDispatch _)
    · exact .of_calls

theorem qwk_cqRecv (s : St) : QWk s (cqRecv s).1 := by
  rcases Flow.cqRecv_out s with ⟨_, _, _, e⟩ | ⟨_, e, _⟩ | ⟨_, e⟩ <;> rw [e]
  · exact .of_calls
  · exact QWk.refl _
  · exact .of_calls

theorem qwk_expireWith (s : St) (now : Nat) (r : DelayQ × DelayQ.PollRes) : QWk s (expireWith s now r).st := by
  refine expireWith_outcomes (motive := fun st => QWk s st.st) s now r (fun _ _ => by exact .of_calls) ?_ ?_ ?_
  · exact (by exact .of_calls : QWk s _).trans (qwk_emit _ _)
  · intro q e en q' key t due w _ _
    cases w
    · exact .of_calls
    · exact (by exact .of_calls : QWk s _).trans (qwk_wakeDispatch _)
  · intro q e en _ _ _
    exact (by exact .of_calls : QWk s _).trans (qwk_osSend _ _ _)

theorem qwk_failAll (s : St) (a : Activity) : QWk s (failAll s a) := by
  unfold failAll
  exact (by exact .of_calls : QWk s _).trans (qwk_foldl _ (fun s e => qwk_osSend s _ _) _ _)

theorem qwk_keep (obs0 : List Obs) (s : St) (r : Ret) : QWk s (Flow.keepDone r (Flow.keepFinish obs0 s r)) := by
  obtain ⟨os, po, dn, _, e⟩ := keep_only obs0 s r
  rw [e]; exact .of_calls

/-! ### the invariant -/

/-- what the wake-up discipline asks of one call future; `D` = the future that is being dropped -/
def WOk (D : Option Nat) (s : St) (c : Call) : Prop :=
  (c.phase = .notPolled → c.woken = true ∧ c.os.rxClosed = false) ∧
  (c.phase = .reserving → some c.cid ≠ D → c.os.rxClosed = false ∧
    (c.cid ∈ s.pqWaiters ∨ (c.woken = true ∧ (c.cid ∈ s.pqAssigned ∨ s.pqClosed = true)))) ∧
  (c.phase = .awaiting → some c.cid ≠ D → c.os.rxClosed = false ∧
    (c.woken = false → c.os.rxWaker = true ∧ c.os.val = none ∧ c.os.txDropped = false))

/-- the permits of the request channel; `k` = permits in transit inside one step -/
structure ChI (k : Nat) (s : St) : Prop where
  p1 : s.pqWaiters ≠ [] → s.pqAvail = 0 ∧ s.pqClosed = false
  p2 : s.pqClosed = false → s.pqAvail + s.pq.length + s.pqAssigned.length + k = s.bufCap
  ndA : s.pqAssigned.Nodup
  ndW : s.pqWaiters.Nodup
  dj : ∀ cid ∈ s.pqWaiters, cid ∉ s.pqAssigned
  dc : s.dDropped = true → s.pqClosed = true

/-- the wake-up invariant of the head; `D` as in `WOk`, `k` as in `ChI` -/
structure WkI (D : Option Nat) (k : Nat) (s : St) : Prop where
  calls : ∀ c ∈ s.calls, WOk D s c
  asg : ∀ cid ∈ s.pqAssigned, ∃ c ∈ s.calls, c.cid = cid ∧ c.phase = .reserving ∧ c.woken = true
  wt : ∀ cid ∈ s.pqWaiters, ∃ c ∈ s.calls, c.cid = cid ∧ c.phase = .reserving
  dx : ∀ d, D = some d → d ∉ s.pqWaiters ∧ d ∉ s.pqAssigned
  ch : ChI k s

theorem ChI.no_waiters {k : Nat} {s : St} (h : ChI k s) (hc : 0 < s.pqAvail ∨ s.pqClosed = true) : s.pqWaiters = [] := by
  cases hw : s.pqWaiters with
  | nil => rfl
  | cons w r =>
    obtain ⟨a, b⟩ := h.p1 (by rw [hw]; simp)
    rcases hc with hc | hc
    · omega
    · rw [hc] at b; cases b

theorem ChI.of_same {k : Nat} {s s' : St} (h : ChI k s) (pq : s'.pq = s.pq) (av : s'.pqAvail = s.pqAvail)
    (w : s'.pqWaiters = s.pqWaiters) (a : s'.pqAssigned = s.pqAssigned) (cl : s'.pqClosed = s.pqClosed)
    (dd : s'.dDropped = s.dDropped) (bc : s'.bufCap = s.bufCap) : ChI k s' :=
  ⟨by rw [w, av, cl]; exact h.p1, by rw [cl, av, pq, a, bc]; exact h.p2, by rw [a]; exact h.ndA, by rw [w]; exact h.ndW,
   by rw [w, a]; exact h.dj, by rw [dd, cl]; exact h.dc⟩

theorem ChI.of_closed {k : Nat} {s : St} (cl : s.pqClosed = true) (w : s.pqWaiters = []) (a : s.pqAssigned.Nodup) : ChI k s :=
  ⟨fun hne => absurd w hne, fun hc => (by rw [cl] at hc; cases hc), a, by rw [w]; exact List.nodup_nil,
   fun x hm => (by rw [w] at hm; cases hm), fun _ => cl⟩

/-- a request is taken off the queue: its permit is in transit -/
theorem ChI.pop {k : Nat} {s : St} (h : ChI k s) {r : DReq} {rest : List DReq} (hpq : s.pq = r :: rest) :
    ChI (k + 1) { s with pq := rest } := by
  refine ⟨h.p1, fun hc => ?_, h.ndA, h.ndW, h.dj, h.dc⟩
  have := h.p2 hc
  rw [hpq] at this
  show s.pqAvail + rest.length + s.pqAssigned.length + (k + 1) = s.bufCap
  simp only [List.length_cons] at this
  omega

theorem ChI.back {k : Nat} {s : St} (h : ChI (k + 1) s) (hw : s.pqWaiters = []) : ChI k { s with pqAvail := s.pqAvail + 1 } := by
  refine ⟨fun hne => absurd hw hne, fun hc => ?_, h.ndA, h.ndW, h.dj, h.dc⟩
  have := h.p2 hc
  show s.pqAvail + 1 + s.pq.length + s.pqAssigned.length + k = s.bufCap
  omega

theorem ChI.hand {k : Nat} {s s' : St} (h : ChI (k + 1) s) {w : Nat} {rest : List Nat} (hw : s.pqWaiters = w :: rest)
    (pq : s'.pq = s.pq) (av : s'.pqAvail = s.pqAvail) (eW : s'.pqWaiters = rest) (eA : s'.pqAssigned = s.pqAssigned ++ [w])
    (cl : s'.pqClosed = s.pqClosed) (dd : s'.dDropped = s.dDropped) (bc : s'.bufCap = s.bufCap) : ChI k s' := by
  have hnd : w ∉ rest ∧ rest.Nodup := by have := h.ndW; rw [hw] at this; exact List.nodup_cons.mp this
  refine ⟨fun _ => ?_, fun hc => ?_, ?_, eW ▸ hnd.2, fun x hm => ?_, by rw [dd, cl]; exact h.dc⟩
  · rw [av, cl]
    exact h.p1 (by rw [hw]; exact List.cons_ne_nil _ _)
  · rw [cl] at hc
    have := h.p2 hc
    rw [av, pq, eA, bc, List.length_append, List.length_singleton]
    omega
  · rw [eA, List.nodup_append]
    refine ⟨h.ndA, List.nodup_cons.mpr ⟨List.not_mem_nil, List.nodup_nil⟩, ?_⟩
    intro a ha b hb
    rw [List.mem_singleton.mp hb]
    intro e; subst e
    exact h.dj a (by rw [hw]; exact List.mem_cons_self) ha
  · rw [eW] at hm
    rw [eA]
    intro x'
    rcases List.mem_append.mp x' with x' | x'
    · exact h.dj x (by rw [hw]; exact List.mem_cons_of_mem _ hm) x'
    · rw [List.mem_singleton.mp x'] at hm
      exact hnd.1 hm

theorem ChI.unlist {k k' : Nat} {s : St} (h : ChI k s) (cid : Nat)
    (hp2 : s.pqClosed = false → s.pqAvail + s.pq.length + (s.pqAssigned.filter (· != cid)).length + k' = s.bufCap) :
    ChI k' { s with pqAssigned := s.pqAssigned.filter (· != cid), pqWaiters := s.pqWaiters.filter (· != cid) } := by
  refine ⟨fun hne => h.p1 (fun e0 => hne ?_), hp2, h.ndA.filter _, h.ndW.filter _, fun w hm => ?_, h.dc⟩
  · show s.pqWaiters.filter _ = []
    rw [e0]; rfl
  · have hm' : w ∈ s.pqWaiters.filter (fun x => x != cid) := hm
    show w ∉ s.pqAssigned.filter _
    exact fun x => h.dj w (List.mem_filter.mp hm').1 (List.mem_filter.mp x).1

section
variable {k : Nat} {cid : Nat} {s s' : St} (h : ChI k s) (fr : CallFr cid s s')
include h fr

theorem ChI.took {r : DReq} (hav : 0 < s.pqAvail) (pq : s'.pq = s.pq ++ [r]) (av : s'.pqAvail = s.pqAvail - 1)
    (w : s'.pqWaiters = s.pqWaiters) (a : s'.pqAssigned = s.pqAssigned) : ChI k s' := by
  refine ⟨fun hne => ?_, fun hc => ?_, by rw [a]; exact h.ndA, by rw [w]; exact h.ndW, by rw [w, a]; exact h.dj,
    by rw [fr.dDropped, fr.pqClosed]; exact h.dc⟩
  · rw [w, h.no_waiters (Or.inl hav)] at hne; exact absurd rfl hne
  · have := h.p2 (by rw [← fr.pqClosed]; exact hc)
    rw [av, pq, List.length_append, a, fr.bufCap]
    simp only [List.length_singleton]
    omega

theorem ChI.used {r : DReq} (has : cid ∈ s.pqAssigned) (pq : s'.pq = s.pq ++ [r]) (av : s'.pqAvail = s.pqAvail)
    (w : s'.pqWaiters = s.pqWaiters) (a : s'.pqAssigned = s.pqAssigned.filter (· != cid)) : ChI k s' := by
  refine ⟨by rw [w, av, fr.pqClosed]; exact h.p1, fun hc => ?_, by rw [a]; exact h.ndA.filter _, by rw [w]; exact h.ndW,
    fun x hm => ?_, by rw [fr.dDropped, fr.pqClosed]; exact h.dc⟩
  · have := h.p2 (by rw [← fr.pqClosed]; exact hc)
    have hl := length_filter_ne_succ h.ndA has
    rw [av, pq, List.length_append, a, fr.bufCap]
    simp only [List.length_singleton]
    omega
  · rw [w] at hm; rw [a, mem_filter_ne]
    exact fun y => h.dj x hm y.1

theorem ChI.joined (op : s.pqClosed = false) (hav : s.pqAvail = 0) (hnw : cid ∉ s.pqWaiters) (hna : cid ∉ s.pqAssigned)
    (pq : s'.pq = s.pq) (av : s'.pqAvail = s.pqAvail) (w : s'.pqWaiters = s.pqWaiters ++ [cid])
    (a : s'.pqAssigned = s.pqAssigned) : ChI k s' := by
  refine ⟨fun _ => by rw [av, fr.pqClosed]; exact ⟨hav, op⟩,
    fun hc => by rw [av, pq, a, fr.bufCap]; exact h.p2 (by rw [← fr.pqClosed]; exact hc),
    by rw [a]; exact h.ndA, ?_, fun x hm => ?_, by rw [fr.dDropped, fr.pqClosed]; exact h.dc⟩
  · rw [w, List.nodup_append]
    refine ⟨h.ndW, by simp, ?_⟩
    intro x hx y hy
    have : y = cid := by simpa using hy
    subst this
    intro e; subst e; exact hnw hx
  · rw [w] at hm; rw [a]
    rcases List.mem_append.mp hm with hm | hm
    · exact h.dj x hm
    · have : x = cid := by simpa using hm
      subst this; exact hna

theorem ChI.left (hcl : s.pqClosed = true) (w : s'.pqWaiters = s.pqWaiters.filter (· != cid))
    (a : s'.pqAssigned = s.pqAssigned.filter (· != cid)) : ChI k s' :=
  .of_closed (fr.pqClosed.trans hcl) (by rw [w, h.no_waiters (Or.inr hcl)]; rfl) (by rw [a]; exact h.ndA.filter _)

end

/-- a call keeps being fine under a step of somebody else, the lists being the same or larger in the right way -/
theorem WOk.step {D D' : Option Nat} {s s' : St} {c c' : Call} (h : WOk D s c) (w : CWk c c')
    (hD : some c.cid ≠ D' → some c.cid ≠ D)
    (hW : c.cid ∈ s.pqWaiters → c.cid ∈ s'.pqWaiters ∨ (c'.woken = true ∧ (c.cid ∈ s'.pqAssigned ∨ s'.pqClosed = true)))
    (hA : c.cid ∈ s.pqAssigned → c.cid ∈ s'.pqAssigned) (hC : s.pqClosed = true → s'.pqClosed = true) : WOk D' s' c' := by
  obtain ⟨w1, w2, w3, w4, w5⟩ := w
  obtain ⟨h1, h2, h3⟩ := h
  refine ⟨?_, ?_, ?_⟩
  · intro hp
    obtain ⟨a, b⟩ := h1 (by rw [← w2]; exact hp)
    exact ⟨w4 a, by rw [w3]; exact b⟩
  · intro hp hd
    obtain ⟨a, b⟩ := h2 (by rw [← w2]; exact hp) (hD (by rw [← w1]; exact hd))
    refine ⟨by rw [w3]; exact a, ?_⟩
    rw [w1]
    rcases b with b | ⟨b1, b2⟩
    · rcases hW b with x | ⟨x1, x2⟩
      · exact Or.inl x
      · exact Or.inr ⟨x1, x2⟩
    · refine Or.inr ⟨w4 b1, ?_⟩
      rcases b2 with b2 | b2
      · exact Or.inl (hA b2)
      · exact Or.inr (hC b2)
  · intro hp hd
    have hp0 : c.phase = .awaiting := by rw [← w2]; exact hp
    obtain ⟨a, b⟩ := h3 hp0 (hD (by rw [← w1]; exact hd))
    refine ⟨by rw [w3]; exact a, ?_⟩
    intro hw
    have hw0 : c.woken = false := by
      cases hb : c.woken with
      | false => rfl
      | true => have := w4 hb; rw [hw] at this; cases this
    obtain ⟨b1, b2, b3⟩ := b hw0
    rcases w5 with e | e
    · rw [e]; exact ⟨b1, b2, b3⟩
    · have := e b1 (by simp [callLive, hp0])
      rw [hw] at this; cases this

/-- **steps that leave the channel alone preserve the invariant** -/
theorem WkI.qw {D : Option Nat} {k : Nat} {s s' : St} (hu : CUniq s) (h : WkI D k s) (q : QWk s s') : WkI D k s' := by
  refine ⟨?_, ?_, ?_, ?_, h.ch.of_same q.pq q.pqAvail q.pqWaiters q.pqAssigned q.pqClosed q.dDropped q.bufCap⟩
  · intro c' hc'
    obtain ⟨c, hc, w, _⟩ := q.calls.bwd hu hc'
    refine (h.calls c hc).step w id (fun x => Or.inl (by rw [q.pqWaiters]; exact x)) (fun x => by rw [q.pqAssigned]; exact x)
      (fun x => by rw [q.pqClosed]; exact x)
  · intro cid hm
    rw [q.pqAssigned] at hm
    obtain ⟨c, hc, e1, e2, e3⟩ := h.asg cid hm
    obtain ⟨c', hc', w, e⟩ := q.calls.fwd hu hc
    exact ⟨c', hc', by rw [e, e1], by rw [w.2.1, e2], w.2.2.2.1 e3⟩
  · intro cid hm
    rw [q.pqWaiters] at hm
    obtain ⟨c, hc, e1, e2⟩ := h.wt cid hm
    obtain ⟨c', hc', w, e⟩ := q.calls.fwd hu hc
    exact ⟨c', hc', by rw [e, e1], by rw [w.2.1, e2]⟩
  · intro d hd; rw [q.pqWaiters, q.pqAssigned]; exact h.dx d hd

/-! ### the channel steps of the dispatch -/

/-- the ids are distinct and the invariant holds (no permit in transit) -/
def WkU (D : Option Nat) (s : St) : Prop := CUniq s ∧ WkI D 0 s

theorem WkU.qw {D : Option Nat} {s s' : St} (h : WkU D s) (q : QWk s s') : WkU D s' := ⟨q.cuniq h.1, h.2.qw h.1 q⟩

theorem updFn_woken (w : Nat) (c : Call) :
    (updFn w wokenC c).cid = c.cid ∧ (updFn w wokenC c).phase = c.phase ∧
    (c.woken = true → (updFn w wokenC c).woken = true) ∧ (c.cid = w → (updFn w wokenC c).woken = true) ∧
    CWk c (updFn w wokenC c) := by
  unfold updFn
  by_cases hx : (c.cid == w) = true
  · rw [if_pos hx]
    exact ⟨rfl, rfl, fun _ => rfl, fun _ => rfl, rfl, rfl, rfl, fun _ => rfl, Or.inl rfl⟩
  · rw [if_neg hx]
    exact ⟨rfl, rfl, id, fun e => absurd (by simpa using e) hx, CWk.refl c⟩

/-- waking a live call -/
theorem wakeCall_live_eq {s : St} {w : Nat} {c0 : Call} (hg : getCall s w = some c0) (hl : callLive c0 = true) :
    wakeCall s w = emit (updCall s w wokenC) (.wake (.call w)) := by
  rcases Flow.wakeCall_out s w with ⟨_, _, _, e⟩ | ⟨hd, _⟩
  · exact e
  · rw [hd c0 hg] at hl; cases hl

theorem pqRelease_cids (s : St) : (pqRelease s).calls.map (·.cid) = s.calls.map (·.cid) := by
  rcases Flow.pqRelease_out s with ⟨w, rest, _, e⟩ | ⟨_, e⟩ <;> rw [e]
  exact (qwk_wakeCall _ _).calls.cids

theorem pqClose_cids (s : St) : (pqClose s).calls.map (·.cid) = s.calls.map (·.cid) := by
  unfold pqClose
  exact (qwk_foldl wakeCall qwk_wakeCall _ _).calls.cids

/-- **a permit goes back**: it is handed to the oldest waiter (who is woken) or becomes available -/
theorem wki_pqRelease {D : Option Nat} {k : Nat} {s : St} (hu : CUniq s) (h : WkI D (k + 1) s) : WkI D k (pqRelease s) := by
  rcases Flow.pqRelease_out s with ⟨w, rest, hw, e⟩ | ⟨hw, e⟩ <;> rw [e]
  · obtain ⟨c0, hc0, e0, ph0⟩ := h.wt w (by rw [hw]; simp)
    have hg : getCall s w = some c0 := e0 ▸ hu.getCall_of_mem hc0
    have hl : callLive c0 = true := by simp [callLive, ph0]
    rw [wakeCall_live_eq (s := { s with pqWaiters := rest, pqAssigned := s.pqAssigned ++ [w] }) hg hl]
    generalize hs' : emit _ _ = s'
    have hcalls : s'.calls = s.calls.map (updFn w wokenC) := by rw [← hs']; rfl
    have hA : s'.pqAssigned = s.pqAssigned ++ [w] := by rw [← hs', Flow.emit_pqAssigned, Flow.updCall_pqAssigned]
    have hW : s'.pqWaiters = rest := by rw [← hs', Flow.emit_pqWaiters, Flow.updCall_pqWaiters]
    have hpq : s'.pq = s.pq := by rw [← hs', Flow.emit_pq, Flow.updCall_pq]
    have hav : s'.pqAvail = s.pqAvail := by rw [← hs', Flow.emit_pqAvail, Flow.updCall_pqAvail]
    have hcl : s'.pqClosed = s.pqClosed := by rw [← hs', Flow.emit_pqClosed, Flow.updCall_pqClosed]
    have hdd : s'.dDropped = s.dDropped := by rw [← hs', Flow.emit_dDropped, Flow.updCall_dDropped]
    have hbc : s'.bufCap = s.bufCap := by rw [← hs', Flow.emit_bufCap, Flow.updCall_bufCap]
    clear hs'
    refine ⟨?_, ?_, ?_, ?_, h.ch.hand hw hpq hav hW hA hcl hdd hbc⟩
    · intro c' hc'
      rw [hcalls] at hc'
      obtain ⟨c, hc, rfl⟩ := List.mem_map.mp hc'
      obtain ⟨f1, f2, f3, f4, f5⟩ := updFn_woken w c
      refine (h.calls c hc).step f5 id ?_ (fun x => by rw [hA]; exact List.mem_append_left _ x) (fun x => by rw [hcl]; exact x)
      intro hm
      rw [hw] at hm
      rcases List.mem_cons.mp hm with e | hm
      · exact Or.inr ⟨f4 e, Or.inl (by rw [hA, e]; exact List.mem_append_right _ (List.mem_singleton_self _))⟩
      · exact Or.inl (hW ▸ hm)
    · intro cid hm
      rw [hA] at hm
      rw [hcalls]
      rcases List.mem_append.mp hm with hm | hm
      · obtain ⟨c, hc, e1, e2, e3⟩ := h.asg cid hm
        obtain ⟨f1, f2, f3, f4, f5⟩ := updFn_woken w c
        exact ⟨updFn w wokenC c, List.mem_map_of_mem hc, by rw [f1, e1], by rw [f2, e2], f3 e3⟩
      · have : cid = w := List.mem_singleton.mp hm
        subst this
        obtain ⟨f1, f2, f3, f4, f5⟩ := updFn_woken cid c0
        exact ⟨updFn cid wokenC c0, List.mem_map_of_mem hc0, by rw [f1, e0], by rw [f2, ph0], f4 e0⟩
    · intro cid hm
      rw [hW] at hm
      rw [hcalls]
      obtain ⟨c, hc, e1, e2⟩ := h.wt cid (by rw [hw]; exact List.mem_cons_of_mem _ hm)
      obtain ⟨f1, f2, f3, f4, f5⟩ := updFn_woken w c
      exact ⟨updFn w wokenC c, List.mem_map_of_mem hc, by rw [f1, e1], by rw [f2, e2]⟩
    · intro d hd
      obtain ⟨a, b⟩ := h.dx d hd
      rw [hw] at a
      rw [hW, hA]
      refine ⟨fun x => a (List.mem_cons_of_mem _ x), fun x => ?_⟩
      rcases List.mem_append.mp x with x | x
      · exact b x
      · exact a (by rw [List.mem_singleton.mp x]; exact List.mem_cons_self)
  · exact ⟨fun c hc => h.calls c hc, h.asg, h.wt, h.dx, h.ch.back hw⟩

theorem wki_pop {D : Option Nat} {k : Nat} {s : St} (h : WkI D k s) {r : DReq} {rest : List DReq} (hpq : s.pq = r :: rest) :
    WkI D (k + 1) { s with pq := rest } :=
  ⟨fun c hc => h.calls c hc, h.asg, h.wt, h.dx, h.ch.pop hpq⟩

theorem wku_pqRecv {D : Option Nat} {s : St} (h : WkU D s) : WkU D (pqRecv s).1 := by
  rcases Flow.pqRecv_out s with ⟨r, rest, hpq, heq⟩ | ⟨hpq, heq, _⟩ | ⟨hpq, heq⟩
  · rw [heq]
    exact ⟨cuniq_of_cids (pqRelease_cids _) h.1, wki_pqRelease (s := { s with pq := rest }) h.1 (wki_pop h.2 hpq)⟩
  · rw [heq]; exact h
  · rw [heq]; exact h.qw (by exact .of_calls)

/-! ### closing the channel -/

theorem wakeCall_woken_cid {s : St} (hu : CUniq s) (w : Nat) :
    ∀ c1 ∈ (wakeCall s w).calls, c1.cid = w → callLive c1 = true → c1.woken = true := by
  intro c1 hc1 e hl
  cases hg : getCall s w with
  | none =>
    have : wakeCall s w = s := by
      rcases Flow.wakeCall_out s w with ⟨c, h, _⟩ | ⟨_, e⟩
      · rw [hg] at h; cases h
      · exact e
    rw [this] at hc1
    exact absurd e (getCall_none hg c1 hc1)
  | some c0 =>
    by_cases hl0 : callLive c0 = true
    · rw [wakeCall_live_eq hg hl0] at hc1
      change c1 ∈ s.calls.map (updFn w wokenC) at hc1
      obtain ⟨c, hc, rfl⟩ := List.mem_map.mp hc1
      obtain ⟨f1, f2, f3, f4, f5⟩ := updFn_woken w c
      exact f4 (by rw [← f1]; exact e)
    · have : wakeCall s w = s := by
        rcases Flow.wakeCall_out s w with ⟨c, h, hl, _⟩ | ⟨_, e⟩
        · rw [hg] at h; cases h; exact absurd hl hl0
        · exact e
      rw [this] at hc1
      have : c1 = c0 := hu.eq_of_getCall hg hc1 e
      rw [this] at hl; exact absurd hl hl0

/-- a fold of `wakeCall` wakes every live call of the list -/
theorem foldl_wakeCall_woken (ws : List Nat) {s : St} (hu : CUniq s) :
    ∀ c' ∈ (ws.foldl wakeCall s).calls, c'.cid ∈ ws → callLive c' = true → c'.woken = true := by
  induction ws generalizing s with
  | nil => intro c' _ hm; cases hm
  | cons w ws ih =>
    intro c' hc' hm hl
    simp only [List.foldl_cons] at hc'
    have hu1 : CUniq (wakeCall s w) := (qwk_wakeCall s w).cuniq hu
    by_cases hin : c'.cid ∈ ws
    · exact ih hu1 c' hc' hin hl
    · have e : c'.cid = w := by
        rcases List.mem_cons.mp hm with e | e
        · exact e
        · exact absurd e hin
      have q := qwk_foldl wakeCall qwk_wakeCall ws (wakeCall s w)
      obtain ⟨c1, hc1, wk, ec⟩ := q.calls.bwd hu1 hc'
      have := wakeCall_woken_cid hu w c1 hc1 (by rw [← ec]; exact e) (by rw [← callLive_of_phase wk.2.1]; exact hl)
      exact wk.2.2.2.1 this

/-- **`Receiver::close()`**: every waiter is woken, the wait queue is emptied.  (`s0` may differ from `s` in fields the
invariant does not read — and in `dDropped`: the close comes first when the dispatch is dropped.) -/
theorem wki_pqClose {D : Option Nat} {k : Nat} {s s0 : St} (hu : CUniq s) (h : WkI D k s) (e1 : s0.calls = s.calls)
    (e3 : s0.pqWaiters = s.pqWaiters) (e4 : s0.pqAssigned = s.pqAssigned) :
    WkI D k (pqClose s0) ∧ (pqClose s0).pqClosed = true ∧ (pqClose s0).pqWaiters = [] ∧ (pqClose s0).pq = s0.pq ∧
      (pqClose s0).pqAssigned = s0.pqAssigned ∧ (pqClose s0).bufCap = s0.bufCap ∧ (pqClose s0).dDropped = s0.dDropped := by
  have hu0 : CUniq s0 := by unfold CUniq; rw [e1]; exact hu
  have q : QWk { s0 with pqClosed := true, pqWaiters := [] } (pqClose s0) := by
    unfold pqClose; exact qwk_foldl wakeCall qwk_wakeCall _ _
  have hwoken := foldl_wakeCall_woken s0.pqWaiters (s := { s0 with pqClosed := true, pqWaiters := [] }) hu0
  have hfin : pqClose s0 = s0.pqWaiters.foldl wakeCall { s0 with pqClosed := true, pqWaiters := [] } := rfl
  have c5 : (pqClose s0).pqClosed = true := q.pqClosed
  have c3 : (pqClose s0).pqWaiters = [] := q.pqWaiters
  have c4 : (pqClose s0).pqAssigned = s.pqAssigned := q.pqAssigned.trans e4
  refine ⟨⟨?_, ?_, ?_, ?_, .of_closed c5 c3 (by rw [c4]; exact h.ch.ndA)⟩, c5, c3, q.pq, q.pqAssigned, q.bufCap,
    q.dDropped⟩
  · intro c' hc'
    obtain ⟨c, hc, w, ec⟩ := q.calls.bwd hu0 hc'
    have hc : c ∈ s.calls := e1 ▸ hc
    refine (h.calls c hc).step w id ?_ (fun x => by rw [c4]; exact x) (fun _ => c5)
    intro hm
    right
    refine ⟨?_, Or.inr c5⟩
    obtain ⟨c2, hc2, e2, ph2⟩ := h.wt c.cid hm
    have : c2 = c := eq_of_map_nodup hu hc2 hc e2
    subst this
    refine hwoken c' (hfin ▸ hc') (by rw [ec, e3]; exact hm) ?_
    rw [callLive_of_phase w.2.1]; simp [callLive, ph2]
  · intro cid hm
    rw [c4] at hm
    obtain ⟨c, hc, a1, a2, a3⟩ := h.asg cid hm
    obtain ⟨c', hc', w, ec⟩ := q.calls.fwd hu0 (show c ∈ ({ s0 with pqClosed := true, pqWaiters := [] } : St).calls from e1 ▸ hc)
    exact ⟨c', hc', by rw [ec, a1], by rw [w.2.1, a2], w.2.2.2.1 a3⟩
  · intro cid hm; rw [c3] at hm; cases hm
  · intro d hd
    rw [c3, c4]
    exact ⟨by simp, (h.dx d hd).2⟩

theorem Step.wku {D : Option Nat} {now : Nat} {a : Act} {s s' : St} (ha : CoreK a) (st : Step now a s s') (h : WkU D s) :
    WkU D s' := by
  have recv : ∀ {s s1 : St} {r : DReq}, WkU D s → pqRecv s = (s1, .item r) → WkU D s1 := fun h e => by
    have := wku_pqRecv h; rwa [e] at this
  have sent : ∀ {s s1 : St} (m : Msg) {ok : Bool}, WkU D s → tSend s m = (s1, ok) → WkU D s1 := fun m _ h e => by
    have := h.qw (qwk_tSend _ m); rwa [e] at this
  cases st with
  | ready => exact h.qw (qwk_tReady _)
  | flush => exact h.qw (qwk_tFlush _)
  | spin => exact h.qw (qwk_emit _ _)
  | close => exact h.qw (qwk_tClose _)
  | pqIdle hx => exact wku_pqRecv h
  | pqSkip e hc => exact recv h e
  | reqPanic hr e hc hi hp => exact (recv h e).qw (qwk_insertRequest hi)
  | reqSent hr e hc hi hp ht => exact sent _ ((recv h e).qw (qwk_insertRequest hi)) ht
  | reqFailed hr e hc hi hp ht => exact (sent _ ((recv h e).qw (qwk_insertRequest hi)) ht).qw (qwk_completeRequest _ _ _)
  | cqIdle hx => exact h.qw (qwk_cqRecv _)
  | cqMiss e hc => have := h.qw (qwk_cqRecv s); rwa [e] at this
  | @cancel _ s1 _ _ i _ _ e hc ht =>
    have h1 := h.qw (qwk_cqRecv s); rw [e] at h1
    have h2 := WkU.qw (s := s1) h1 (qwk_cancelRequest s1 i); rw [hc] at h2
    exact sent _ h2 ht
  | expire => exact h.qw (qwk_expireWith _ now _)
  | readIdle hx => exact h.qw (qwk_tNext _)
  | read e =>
    have h1 := h.qw (qwk_tNext s); rw [e] at h1
    exact h1.qw (qwk_completeRequest _ _ _)
  | pqClose => exact ⟨cuniq_of_cids (pqClose_cids s) h.1, (wki_pqClose h.1 h.2 rfl rfl rfl).1⟩
  | failAll _ a => exact h.qw (qwk_failAll _ _)
  | drainFail a e hc => exact (recv h e).qw (qwk_osSend _ _ _)
  | termErr _ a => exact h.qw (by exact .of_calls)
  | poison _ hh => exact h.qw (by exact .of_calls)
  | _ => exact False.elim ha

theorem wku_pollDispatchCore {D : Option Nat} {s : St} (h : WkU D s) (now : Nat) : WkU D (pollDispatchCore s now).1 :=
  (pollDispatchCore_steps s now).kept Step.wku h

theorem wku_pollDispatchKeep {D : Option Nat} {s : St} (h : WkU D s) (now : Nat) : WkU D (pollDispatchKeep s now) := by
  rw [Flow.pollDispatchKeep_eq]
  split
  · exact h.qw (qwk_emit _ _)
  · have h1 := wku_pollDispatchCore (h.qw (by exact .of_calls : QWk s { s with dWoken := false })) now
    exact h1.qw (qwk_keep _ _ _)

/-- a closed channel: the queue and the number of available permits no longer matter -/
theorem wki_closed_reset {D : Option Nat} {k k' : Nat} {s : St} (h : WkI D k s) (hc : s.pqClosed = true) (q : List DReq) (a : Nat) :
    WkI D k' { s with pq := q, pqAvail := a } :=
  ⟨fun c hc => h.calls c hc, h.asg, h.wt, h.dx, .of_closed hc (h.ch.no_waiters (Or.inr hc)) h.ch.ndA⟩

theorem dropQ_qwk (s : St) : QWk { s with pq := [], pqAvail := s.bufCap - s.pqAssigned.length } (dropQ s) := by
  unfold dropQ
  exact qwk_foldl _ (fun s (r : DReq) => qwk_osDropTx s r.cid) _ _

theorem dropI_qwk (s : St) : QWk s (dropI s) := by
  unfold dropI
  exact (by exact .of_calls : QWk s { s with inflight := [], timers := {} }).trans
    (qwk_foldl _ (fun s (e : Entry) => qwk_osDropTx s e.cid) _ _)

theorem wku_dropDispatch {D : Option Nat} {s : St} (h : WkU D s) : WkU D (dropDispatch s) := by
  rw [dropDispatch_stages]
  split
  · exact h.qw (qwk_emit _ _)
  · obtain ⟨w1, c5, c3, c2, c4, c7, c8⟩ :=
      wki_pqClose (s0 := { s with dDropped := true, dWoken := false }) (k := 0) h.1 h.2 rfl rfl rfl
    have u1 : CUniq (pqClose { s with dDropped := true, dWoken := false }) := cuniq_of_cids (pqClose_cids _) h.1
    generalize pqClose { s with dDropped := true, dWoken := false } = x at w1 c5 u1
    have h2 : WkU D { x with pq := [], pqAvail := x.bufCap - x.pqAssigned.length } := ⟨u1, wki_closed_reset w1 c5 _ _⟩
    have h3 := (h2.qw (dropQ_qwk x)).qw (dropI_qwk _)
    exact h3.qw (by exact .of_calls)

theorem wku_pollDispatch {D : Option Nat} {s : St} (h : WkU D s) (now : Nat) : WkU D (pollDispatch s now) := by
  rw [Flow.pollDispatch_eq]
  split
  · exact wku_dropDispatch (wku_pollDispatchKeep h now)
  · exact wku_pollDispatchKeep h now

/-! ### the call futures: one call changes -/

/-- a step of call `cid`: the other calls are at most woken -/
def CWx (cid : Nat) (c c' : Call) : Prop := c.cid ≠ cid → CWk c c'

theorem CWx.refl (cid : Nat) (c : Call) : CWx cid c c := fun _ => CWk.refl c
theorem qwk_cqPush (s : St) (i : Nat) : QWk s (cqPush s i) := by
  unfold cqPush
  split
  · exact QWk.refl _
  · simp only
    split
    · exact (qwk_wakeDispatch _).after (by exact .of_calls)
    · exact .of_calls

theorem qwk_afterCallGone (s : St) : QWk s (afterCallGone s) := by
  obtain ⟨w, os, pw, cw, e⟩ := afterCallGone_only s
  rw [e]; exact .of_calls

/-! #### the step lemma -/

theorem OnlyCall.updR {cid : Nat} {s s' : St} (h : OnlyCall cid s s') : UpdR (CWx cid) s s' := by
  obtain ⟨g, hg, e⟩ := h
  refine ⟨updFn cid g, e, updFn_cid cid g hg, fun _ c _ hn => ?_⟩
  rw [updFn_ne g hn]; exact CWk.refl c

theorem WOk.of_dead {D : Option Nat} {s : St} {c : Call} (h : c.phase = .resolved ∨ c.phase = .dropped) : WOk D s c := by
  refine ⟨fun hp => ?_, fun hp => ?_, fun hp => ?_⟩ <;> (rcases h with h | h <;> rw [h] at hp <;> cases hp)

/-- **One call changes.**  The obligations about the changed call, the channel lists and `ChI` are the caller's. -/
theorem WkI.call_step {D D' : Option Nat} {k k' : Nat} {s s' : St} {cid : Nat} (hu : CUniq s) (h : WkI D k s)
    (x : UpdR (CWx cid) s s') (ch : ChI k' s')
    (hD : ∀ d, d ≠ cid → D = some d → D' = some d)
    (hW : ∀ w, w ≠ cid → (w ∈ s'.pqWaiters ↔ w ∈ s.pqWaiters))
    (hA : ∀ w, w ≠ cid → (w ∈ s'.pqAssigned ↔ w ∈ s.pqAssigned))
    (hC : s.pqClosed = true → s'.pqClosed = true)
    (hnew : ∀ c' ∈ s'.calls, c'.cid = cid → WOk D' s' c')
    (hasg : cid ∈ s'.pqAssigned → ∃ c' ∈ s'.calls, c'.cid = cid ∧ c'.phase = .reserving ∧ c'.woken = true)
    (hwt : cid ∈ s'.pqWaiters → ∃ c' ∈ s'.calls, c'.cid = cid ∧ c'.phase = .reserving)
    (hdx : ∀ d, D' = some d → d ∉ s'.pqWaiters ∧ d ∉ s'.pqAssigned) : WkI D' k' s' := by
  refine ⟨?_, ?_, ?_, hdx, ch⟩
  · intro c' hc'
    by_cases e : c'.cid = cid
    · exact hnew c' hc' e
    · obtain ⟨c, hc, w, ec⟩ := x.bwd hu hc'
      have hne : c.cid ≠ cid := by rw [← ec]; exact e
      refine (h.calls c hc).step (w hne) ?_ (fun m => Or.inl ((hW c.cid hne).mpr m)) (fun m => (hA c.cid hne).mpr m) hC
      intro hd hd0
      apply hd
      rw [hD c.cid hne hd0.symm]
  · intro w hm
    by_cases e : w = cid
    · subst e; exact hasg hm
    · obtain ⟨c, hc, a1, a2, a3⟩ := h.asg w ((hA w e).mp hm)
      obtain ⟨c', hc', wk, ec⟩ := x.fwd hu hc
      have hne : c.cid ≠ cid := by rw [a1]; exact e
      exact ⟨c', hc', by rw [ec, a1], by rw [(wk hne).2.1, a2], (wk hne).2.2.2.1 a3⟩
  · intro w hm
    by_cases e : w = cid
    · subst e; exact hwt hm
    · obtain ⟨c, hc, a1, a2⟩ := h.wt w ((hW w e).mp hm)
      obtain ⟨c', hc', wk, ec⟩ := x.fwd hu hc
      have hne : c.cid ≠ cid := by rw [a1]; exact e
      exact ⟨c', hc', by rw [ec, a1], by rw [(wk hne).2.1, a2]⟩

/-- **One call changes, the channel is left alone.** -/
theorem WkI.call_same {D D' : Option Nat} {k : Nat} {s s' : St} {cid : Nat} (hu : CUniq s) (h : WkI D k s) (x : OsStep cid s s')
    (hD : ∀ d, d ≠ cid → D = some d → D' = some d)
    (hnew : ∀ c' ∈ s'.calls, c'.cid = cid → WOk D' s' c')
    (hasg : cid ∈ s.pqAssigned → ∃ c' ∈ s'.calls, c'.cid = cid ∧ c'.phase = .reserving ∧ c'.woken = true)
    (hwt : cid ∈ s.pqWaiters → ∃ c' ∈ s'.calls, c'.cid = cid ∧ c'.phase = .reserving)
    (hdx : ∀ d, D' = some d → d ∉ s.pqWaiters ∧ d ∉ s.pqAssigned) : WkI D' k s' := by
  exact h.call_step hu x.fr.only.updR
    (h.ch.of_same x.ch.pq x.ch.pqAvail x.ch.pqWaiters x.ch.pqAssigned x.fr.pqClosed x.fr.dDropped x.fr.bufCap) hD
    (fun w _ => by rw [x.ch.pqWaiters]) (fun w _ => by rw [x.ch.pqAssigned]) (fun hc => by rw [x.fr.pqClosed]; exact hc) hnew
    (fun hm => hasg (by rw [← x.ch.pqAssigned]; exact hm)) (fun hm => hwt (by rw [← x.ch.pqWaiters]; exact hm))
    (by rw [x.ch.pqWaiters, x.ch.pqAssigned]; exact hdx)

/-- a call that is neither waiting for a permit nor holding one is in neither list -/
theorem WkI.not_in_lists {D : Option Nat} {k : Nat} {s : St} (h : WkI D k s) {cid : Nat} {X : Call}
    (hat : At cid X s) (hph : X.phase ≠ .reserving) : cid ∉ s.pqWaiters ∧ cid ∉ s.pqAssigned := by
  constructor
  · intro hm
    obtain ⟨c, hc, e1, e2⟩ := h.wt cid hm
    rw [hat.2.2 c hc e1] at e2; exact hph e2
  · intro hm
    obtain ⟨c, hc, e1, e2, _⟩ := h.asg cid hm
    rw [hat.2.2 c hc e1] at e2; exact hph e2

/-! #### polling a call future -/

theorem WOk.of_polled {s' : St} {Y X' : Call} (e : Polled Y X') (hp : Y.phase = .awaiting)
    (hrx : Y.os.rxClosed = false) : WOk none s' X' := by
  rcases e.weak with e | ⟨rfl, e2, e3⟩
  · exact WOk.of_dead (Or.inl e)
  · refine ⟨fun h => ?_, fun h => ?_, fun _ _ => ⟨hrx, fun _ => ⟨rfl, e2, e3⟩⟩⟩
    · have : Y.phase = .notPolled := h
      rw [hp] at this; cases this
    · have : Y.phase = .reserving := h
      rw [hp] at this; cases this

theorem WkI.pollOut {s s' : St} (hu : CUniq s) (h : WkI none 0 s) {cid : Nat} {X X' : Call} (hat : At cid X s)
    (fr : CallFr cid s s') (hat' : At cid X' s') (out : PollOut cid X s s' X') : WkI none 0 s' := by
  have hok := h.calls X hat.1
  have hcid : X.cid = cid := hat.2.1
  have same : ChanSame s s' → OsStep cid s s' := fun ch => ⟨fr, ch⟩
  have new : WOk none s' X' → ∀ c' ∈ s'.calls, c'.cid = cid → WOk none s' c' := fun w c' hc' e => by
    rw [hat'.2.2 c' hc' e]; exact w
  have nl : X.phase ≠ .reserving → cid ∉ s.pqWaiters ∧ cid ∉ s.pqAssigned := h.not_in_lists hat
  have hC : s.pqClosed = true → s'.pqClosed = true := fun x => fr.pqClosed.trans x
  -- a case that leaves the channel alone owes `WOk` of the new record, and its place in the two lists
  have keep := fun (ch : ChanSame s s') (w : WOk none s' X') hasg hwt =>
    h.call_same hu (same ch) (fun _ _ e => by cases e) (new w) hasg hwt (fun _ e => by cases e)
  -- the others owe first `ChI` of the new channel and that the lists keep the other ids
  have step := fun {k' : Nat} (ch : ChI k' s') hW hA (w : WOk none s' X') hasg hwt =>
    h.call_step (k' := k') hu fr.only.updR ch (fun _ _ e => by cases e) hW hA hC (new w) hasg hwt (fun _ e => by cases e)
  cases out with
  | dead hp ch e =>
    subst e
    have hnl := nl (by rcases hp with hp | hp <;> rw [hp] <;> simp)
    exact keep ch (WOk.of_dead hp) (fun hm => absurd hm hnl.2) (fun hm => absurd hm hnl.1)
  | failedNew hp hc ch e =>
    have hnl := nl (by rw [hp]; simp)
    exact keep ch (WOk.of_dead (Or.inl e)) (fun hm => absurd hm hnl.2) (fun hm => absurd hm hnl.1)
  | polled hp ch e =>
    have hnl := nl (by rw [hp]; simp)
    exact keep ch (WOk.of_polled e hp (hok.2.2 hp (by simp)).1) (fun hm => absurd hm hnl.2) (fun hm => absurd hm hnl.1)
  | waits hp op dd has ch e =>
    subst e
    obtain ⟨hrx, hwa⟩ := hok.2.1 hp (by simp)
    rw [hcid] at hwa
    have hin : cid ∈ s.pqWaiters := by
      rcases hwa with x | ⟨_, x | x⟩
      · exact x
      · exact absurd x has
      · rw [op] at x; cases x
    refine keep ch ?_ (fun hm => absurd hm has) (fun _ => ⟨_, hat'.1, hcid, hp⟩)
    refine ⟨fun h' => ?_, fun _ _ => ⟨hrx, Or.inl ?_⟩, fun h' => ?_⟩
    · have : X.phase = .notPolled := h'
      rw [hp] at this; cases this
    · show X.cid ∈ s'.pqWaiters
      rw [hcid, ch.pqWaiters]; exact hin
    · have : X.phase = .awaiting := h'
      rw [hp] at this; cases this
  | failedWait hp hc pq av w a e =>
    have hcl : s.pqClosed = true := hc.elim id h.ch.dc
    exact step (h.ch.left fr hcl w a) (fun x hx => by rw [w, mem_filter_ne]; simp [hx])
      (fun x hx => by rw [a, mem_filter_ne]; simp [hx]) (WOk.of_dead (Or.inl e))
      (fun hm => by rw [a, mem_filter_ne] at hm; exact absurd rfl hm.2)
      (fun hm => by rw [w, mem_filter_ne] at hm; exact absurd rfl hm.2)
  | took r hr hp op dd hav pq av w a e =>
    have hnl := nl (by rw [hp]; simp)
    exact step (h.ch.took fr hav pq av w a) (fun _ _ => by rw [w]) (fun _ _ => by rw [a]) (WOk.of_polled e rfl (hok.1 hp).2)
      (fun hm => absurd (a ▸ hm) hnl.2) (fun hm => absurd (w ▸ hm) hnl.1)
  | used r hr hp op dd has pq av w a e =>
    exact step (h.ch.used fr has pq av w a) (fun _ _ => by rw [w]) (fun x hx => by rw [a, mem_filter_ne]; simp [hx])
      (WOk.of_polled e rfl (hok.2.1 hp (by simp)).1) (fun hm => by rw [a, mem_filter_ne] at hm; exact absurd rfl hm.2)
      (fun hm => absurd (w ▸ hm) (fun hm => h.ch.dj cid hm has))
  | joined hp op dd hav pq av w a e =>
    subst e
    have hnl := nl (by rw [hp]; simp)
    refine step (h.ch.joined fr op hav hnl.1 hnl.2 pq av w a) (fun x hx => by rw [w]; simp [hx]) (fun _ _ => by rw [a]) ?_
      (fun hm => absurd (a ▸ hm) hnl.2) (fun _ => ⟨_, hat'.1, hat'.2.1, rfl⟩)
    refine ⟨(fun hp => by cases hp), fun _ _ => ⟨(hok.1 hp).2, Or.inl ?_⟩, (fun hp => by cases hp)⟩
    rw [w]; show X.cid ∈ _; rw [hcid]; simp

theorem wki_pollCall {s : St} (hu : CUniq s) (h : WkI none 0 s) (cid now : Nat) : WkI none 0 (pollCall s cid now) := by
  cases hg : getCall s cid with
  | none => rw [pollCall_gone hg]; exact h.qw hu (qwk_emit _ _)
  | some X =>
    have hat := At.of_getCall hu hg
    obtain ⟨fr, X', hat', out⟩ := pollCall_out hat now
    exact h.pollOut hu hat fr hat' out

/-! #### dropping a call future -/

/-- the future that is being dropped becomes exempt -/
theorem wki_mark {k : Nat} {s : St} {cid : Nat} (h : WkI none k s) (hnl : cid ∉ s.pqWaiters ∧ cid ∉ s.pqAssigned) :
    WkI (some cid) k s := by
  refine ⟨fun c hc => ?_, h.asg, h.wt, (fun d hd => by cases hd; exact hnl), h.ch⟩
  obtain ⟨a, b, d⟩ := h.calls c hc
  exact ⟨a, fun hp _ => b hp (by simp), fun hp _ => d hp (by simp)⟩

theorem wki_unmark {k : Nat} {s : St} {cid : Nat} (h : WkI (some cid) k s) (hc : ∀ c ∈ s.calls, c.cid = cid → WOk none s c) :
    WkI none k s := by
  refine ⟨fun c hm => ?_, h.asg, h.wt, (fun d hd => by cases hd), h.ch⟩
  by_cases e : c.cid = cid
  · exact hc c hm e
  · obtain ⟨a, b, d⟩ := h.calls c hm
    have hne : some c.cid ≠ some cid := by simpa using e
    exact ⟨a, fun hp _ => b hp hne, fun hp _ => d hp hne⟩

theorem dropPre_eq_self {s : St} {cid : Nat} (h : ∀ c, getCall s cid = some c → c.phase ≠ .reserving) : dropPre s cid = s := by
  unfold dropPre
  cases hg : getCall s cid with
  | none => rfl
  | some c =>
    dsimp only
    cases hph : c.phase with
    | reserving => exact absurd hph (h c hg)
    | _ => rfl

theorem dropClose_eq_self {s : St} {cid : Nat}
    (h : ∀ c, getCall s cid = some c → c.phase ≠ .reserving ∧ c.phase ≠ .awaiting) : dropClose s cid = s :=
  Flow.dropClose_cases (motive := fun s' => s' = s) s cid (fun _ => rfl) (fun c hg hp => (hp.elim (h c hg).1 (h c hg).2).elim)

theorem dropCancel_eq_self {s : St} {cid : Nat}
    (h : ∀ c, getCall s cid = some c → c.phase ≠ .reserving ∧ c.phase ≠ .awaiting) : dropCancel s cid = s :=
  Flow.dropCancel_cases (motive := fun s' => s' = s) s cid (fun _ => rfl) (fun c hg hp => (hp.elim (h c hg).1 (h c hg).2).elim)

/-- `Acquire::drop` of a future that waits for a permit: it leaves the lists (a permit it held goes back) -/
theorem wki_dropPre_reserving {s : St} {cid : Nat} {c0 : Call} (hu : CUniq s) (h : WkI none 0 s)
    (hg : getCall s cid = some c0) (hph : c0.phase = .reserving) :
    CUniq (dropPre s cid) ∧ WkI (some cid) 0 (dropPre s cid) := by
  have hat : At cid c0 s := At.of_getCall hu hg
  have e : dropPre s cid = osDropTx (if s.pqAssigned.contains cid = true then
      pqRelease { s with pqAssigned := s.pqAssigned.filter (fun x => x != cid), pqWaiters := s.pqWaiters.filter (fun x => x != cid) }
      else { s with pqAssigned := s.pqAssigned.filter (fun x => x != cid), pqWaiters := s.pqWaiters.filter (fun x => x != cid) }) cid := by
    unfold dropPre; rw [hg]; simp only [hph]
  rw [e]
  have base : ∀ k', (s.pqClosed = false → s.pqAvail + s.pq.length + (s.pqAssigned.filter (fun x => x != cid)).length + k' = s.bufCap) →
      WkI (some cid) k' ({ s with pqAssigned := s.pqAssigned.filter (fun x => x != cid), pqWaiters := s.pqWaiters.filter (fun x => x != cid) } : St) := by
    intro k' hp2
    refine h.call_step hu (cid := cid) (UpdR.of_calls (CWx.refl cid) rfl) (h.ch.unlist cid hp2) (fun _ _ e => by cases e)
      (fun w hw => by show w ∈ s.pqWaiters.filter _ ↔ _; rw [mem_filter_ne]; simp [hw])
      (fun w hw => by show w ∈ s.pqAssigned.filter _ ↔ _; rw [mem_filter_ne]; simp [hw]) id ?_
      (fun hm => absurd hm not_mem_filter_ne) (fun hm => absurd hm not_mem_filter_ne) ?_
    · intro c' hc' e
      have : c' = c0 := hat.2.2 c' hc' e
      subst this
      refine ⟨fun hp => ?_, fun _ hd => ?_, fun _ hd => ?_⟩
      · rw [hph] at hp; cases hp
      · exact absurd (by rw [e]) hd
      · exact absurd (by rw [e]) hd
    · intro d hd
      cases hd
      exact ⟨not_mem_filter_ne, not_mem_filter_ne⟩
  by_cases had : s.pqAssigned.contains cid = true
  · rw [if_pos had]
    have hin : cid ∈ s.pqAssigned := by simpa using had
    have h1 := base 1 (fun hc => by have := h.ch.p2 hc; have := length_filter_ne_succ h.ch.ndA hin; omega)
    have u1 : CUniq ({ s with pqAssigned := s.pqAssigned.filter (fun x => x != cid), pqWaiters := s.pqWaiters.filter (fun x => x != cid) } : St) := hu
    have h2 := wki_pqRelease u1 h1
    have u2 := cuniq_of_cids (pqRelease_cids _) u1
    exact ⟨(qwk_osDropTx _ cid).cuniq u2, h2.qw u2 (qwk_osDropTx _ cid)⟩
  · rw [if_neg had]
    have hin : cid ∉ s.pqAssigned := by simpa using had
    have h1 := base 0 (fun hc => by have := h.ch.p2 hc; rw [List.filter_bne_eq_self_of_not_mem hin]; exact this)
    have u1 : CUniq ({ s with pqAssigned := s.pqAssigned.filter (fun x => x != cid), pqWaiters := s.pqWaiters.filter (fun x => x != cid) } : St) := hu
    exact ⟨(qwk_osDropTx _ cid).cuniq u1, h1.qw u1 (qwk_osDropTx _ cid)⟩

def guardFn (c : Call) : Call := { c with os := { c.os with rxClosed := true, rxWaker := false } }

theorem wku_dropClose_marked {s : St} {cid : Nat} (h : WkU (some cid) s) : WkU (some cid) (dropClose s cid) := by
  refine Flow.dropClose_cases s cid (fun _ => h) (fun c hg hgd => ?_)
  have hat : At cid c s := At.of_getCall h.1 hg
  have x : OsStep cid s (guardClose s cid) := osStep_updCall s cid guardFn (fun _ => rfl)
  have a1 : At cid (guardFn c) (guardClose s cid) := hat.upd guardFn (fun _ => rfl)
  refine ⟨x.fr.only.cuniq h.1, h.2.call_same h.1 x (fun _ _ e => e) ?_ (fun hm => absurd hm (h.2.dx cid rfl).2)
    (fun hm => absurd hm (h.2.dx cid rfl).1) h.2.dx⟩
  intro c' hc' e
  rw [a1.2.2 c' hc' e]
  refine ⟨fun hp => ?_, fun _ hd => ?_, fun _ hd => ?_⟩
  · have hp' : c.phase = .notPolled := hp
    rcases hgd with g | g <;> (rw [g] at hp'; cases hp')
  · exact absurd (by show some (guardFn c).cid = some cid; rw [show (guardFn c).cid = c.cid from rfl, hat.2.1]) hd
  · exact absurd (by show some (guardFn c).cid = some cid; rw [show (guardFn c).cid = c.cid from rfl, hat.2.1]) hd

theorem wku_dropCancel {D : Option Nat} {s : St} {cid : Nat} (h : WkU D s) : WkU D (dropCancel s cid) :=
  Flow.dropCancel_cases s cid (fun _ => h) (fun _ _ _ => h.qw (qwk_cqPush _ _))

def dropFn (c : Call) : Call := { c with phase := .dropped, woken := false }

/-- the future goes away: whatever it was exempt from no longer matters -/
theorem wku_dropFinish {D : Option Nat} {s : St} {cid : Nat} (h : WkU D s) (hD : D = none ∨ D = some cid)
    (hnl : cid ∉ s.pqWaiters ∧ cid ∉ s.pqAssigned) : WkU none (dropFinish s cid) := by
  have dead : (∀ c ∈ s.calls, c.cid = cid → c.phase = .resolved ∨ c.phase = .dropped) → WkU none (emit s .noop) := by
    intro hc
    have h1 := h.qw (qwk_emit s .noop)
    refine ⟨h1.1, ?_⟩
    rcases hD with e | e
    · subst e; exact h1.2
    · subst e
      exact wki_unmark h1.2 (fun c hm e => WOk.of_dead (hc c hm e))
  refine Flow.dropFinish_cases s cid (fun hd => dead (fun c hc e => hd c (e ▸ h.1.getCall_of_mem hc))) (fun c hg _ => ?_)
  have hat : At cid c s := At.of_getCall h.1 hg
  have x : OsStep cid s (afterCallGone (updCall s cid dropFn)) :=
    (osStep_afterCallGone cid _).after (osStep_updCall s cid dropFn (fun _ => rfl))
  have a1 : At cid (dropFn c) (afterCallGone (updCall s cid dropFn)) :=
    (hat.upd dropFn (fun _ => rfl)).of_calls (afterCallGone_calls _)
  refine ⟨x.fr.only.cuniq h.1, h.2.call_same h.1 x ?_ ?_ (fun hm => absurd hm hnl.2) (fun hm => absurd hm hnl.1)
    (fun _ e => by cases e)⟩
  · intro d hne e
    rcases hD with e' | e'
    · rw [e'] at e; cases e
    · rw [e'] at e; injection e with e; exact absurd e.symm hne
  · intro c' hc' e
    rw [a1.2.2 c' hc' e]
    exact WOk.of_dead (Or.inr rfl)

theorem dropCallG_false (s : St) (cid : Nat) (at_ : DropAt) (now : Nat) :
    dropCallG false s cid at_ now = dropFinish (dropCancel (dropClose (dropPre s cid) cid) cid) cid := by
  unfold dropCallG; simp

/-- **Dropping a call future preserves the invariant** (the dispatch may run at the guard's yield points). -/
theorem wku_dropCall {s : St} (h : WkU none s) (cid : Nat) (at_ : DropAt) (now : Nat) : WkU none (dropCall s cid at_ now) := by
  rw [dropCall_eq]
  have unguarded : (∀ c, getCall s cid = some c → c.phase ≠ .reserving ∧ c.phase ≠ .awaiting) →
      WkU none (dropCallG false s cid at_ now) := by
    intro hng
    rw [dropCallG_false, dropPre_eq_self (fun c hc => (hng c hc).1), dropClose_eq_self hng, dropCancel_eq_self hng]
    refine wku_dropFinish h (Or.inl rfl) ?_
    cases hg : getCall s cid with
    | none =>
      constructor
      · intro hm; obtain ⟨c, hc, e, _⟩ := h.2.wt cid hm; exact getCall_none hg c hc e
      · intro hm; obtain ⟨c, hc, e, _⟩ := h.2.asg cid hm; exact getCall_none hg c hc e
    | some c => exact h.2.not_in_lists (At.of_getCall h.1 hg) (hng c hg).1
  have tail : ∀ s1, dropPre s cid = s1 → WkU (some cid) s1 → WkU none (dropCallG true s cid at_ now) := by
    intro s1 e i1
    have poll : ∀ s, WkU (some cid) s → WkU (some cid) (pollDispatch s now) := fun s hs => wku_pollDispatch hs now
    exact dropCallG_walk (I₁ := WkU (some cid)) (I₂ := WkU (some cid)) (I₃ := WkU (some cid)) true s cid at_ now (e ▸ i1) poll
      (fun s hs => wku_dropClose_marked hs) poll (fun s hs => wku_dropCancel hs) poll
      (fun s hs => wku_dropFinish hs (Or.inr rfl) (hs.2.dx cid rfl))
  cases hg : getCall s cid with
  | none => simp only; exact unguarded (fun c hc => by rw [hg] at hc; cases hc)
  | some c0 =>
    simp only
    have hat : At cid c0 s := At.of_getCall h.1 hg
    cases hph : c0.phase with
    | notPolled => exact unguarded (fun c hc => by rw [hg] at hc; injection hc with hc; subst hc; rw [hph]; simp)
    | resolved => exact unguarded (fun c hc => by rw [hg] at hc; injection hc with hc; subst hc; rw [hph]; simp)
    | dropped => exact unguarded (fun c hc => by rw [hg] at hc; injection hc with hc; subst hc; rw [hph]; simp)
    | reserving => exact tail _ rfl (wki_dropPre_reserving h.1 h.2 hg hph)
    | awaiting =>
      exact tail s (dropPre_eq_self (fun c hc => by rw [hg] at hc; injection hc with hc; subst hc; rw [hph]; simp))
        ⟨h.1, wki_mark h.2 (h.2.not_in_lists hat (by rw [hph]; simp))⟩

/-! ### the other ops -/

theorem wki_newCall {s : St} (hu : CUniq s) (h : WkI none 0 s) (hd : Nat) (ctx : Ctx) (body : Nat) : WkI none 0 (newCall s hd ctx body) := by
  unfold newCall
  split
  · refine ⟨?_, ?_, ?_, h.dx, h.ch.of_same rfl rfl rfl rfl rfl rfl rfl⟩
    · intro c hc
      rcases List.mem_append.mp hc with hc | hc
      · exact h.calls c hc
      · have : c = { cid := s.calls.length, ctx := ctx, body := body, trace := ctx.trace } := by simpa using hc
        subst this
        exact ⟨fun _ => ⟨rfl, rfl⟩, (fun hp => by cases hp), (fun hp => by cases hp)⟩
    · intro cid hm
      obtain ⟨c, hc, e⟩ := h.asg cid hm
      exact ⟨c, List.mem_append_left _ hc, e⟩
    · intro cid hm
      obtain ⟨c, hc, e⟩ := h.wt cid hm
      exact ⟨c, List.mem_append_left _ hc, e⟩
  · exact h.qw hu (qwk_emit _ _)

theorem qwk_liftT (s : St) (r : SimT × Bool) : QWk s (liftT s r) := by
  unfold liftT
  simp only
  split
  · exact (by exact .of_calls : QWk s { s with t := r.1 }).trans (qwk_wakeDispatch _)
  · exact .of_calls

theorem qwk_onAdvance (s : St) (now : Nat) : QWk s (onAdvance s now) := by
  unfold onAdvance
  split
  · split
    · exact (by exact .of_calls : QWk s { s with timers := { s.timers with waker := false } }).trans (qwk_wakeDispatch _)
    · exact QWk.refl _
  · exact QWk.refl _

theorem qwk_foldl_took (ms : List Msg) (s : St) : QWk s (ms.foldl (fun s m => emit s (.took (tid s) m)) s) :=
  qwk_foldl _ (fun s _ => qwk_emit s _) ms s

/-- **One op of a script** preserves the wake-up discipline of the call futures and `ChI`. -/
theorem wki_applyOp {c : Sys} (hi : Inv none (view c.s)) (h : WkI none 0 c.s) (op : COp) : WkI none 0 (applyOp c op).s := by
  have hu : CUniq c.s := cuniq_of_inv hi
  refine Flow.applyOp_cases (P := fun _ s' => WkI none 0 s') c op ?_ ?_ ?_ ?_ ?_ ?_ ?_ ?_ ?_ ?_ ?_
  · intro hd ctx b; exact wki_newCall hu h hd _ b
  · intro cid; exact wki_pollCall hu h cid c.now
  · intro cid site; exact (wku_dropCall ⟨hu, h⟩ cid site c.now).2
  · intro hd
    unfold cloneHandle
    split
    · exact h.qw hu (by exact .of_calls)
    · exact h.qw hu (qwk_emit _ _)
  · intro hd
    unfold dropHandle
    split
    · exact h.qw hu ((by exact .of_calls : QWk c.s { c.s with handles := c.s.handles.filter (fun x => x != hd) }).trans (qwk_afterCallGone _))
    · exact h.qw hu (qwk_emit _ _)
  · exact (wku_pollDispatch ⟨hu, h⟩ c.now).2
  · exact (wku_dropDispatch ⟨hu, h⟩).2
  · intro r; exact h.qw hu (qwk_liftT _ _)
  · intro t; exact h.qw hu (by exact .of_calls)
  · intro t ms; exact h.qw hu ((by exact .of_calls : QWk c.s { c.s with t := t }).trans (qwk_foldl_took _ _))
  · intro n; exact h.qw hu (qwk_onAdvance _ _)

theorem init_wk (k m b tc : Nat) (coupled : Bool) : WkI none 0 (init k m b tc coupled) := by
  refine ⟨(fun c hc => by cases hc), (fun _ hm => by cases hm), (fun _ hm => by cases hm), (fun _ e => by cases e),
    ⟨(fun hne => absurd rfl hne), fun _ => ?_, List.nodup_nil, List.nodup_nil, (fun _ hm => by cases hm), (fun hd => by cases hd)⟩⟩
  show b + 0 + 0 + 0 = b
  omega

/-- **The wake-up discipline of the call futures and `ChI` hold in every reachable state.** -/
theorem reach_wk (m b tc : Nat) (coupled : Bool) (ops : List COp) :
    WkI none 0 (ops.foldl applyOp (initSys m b tc coupled)).s :=
  (foldl_keeps (P := fun c : Sys => Inv none (view c.s) ∧ WkI none 0 c.s)
    (fun _ op h => ⟨applyOp_inv h.1 op, wki_applyOp h.1 h.2 op⟩) ops
    ⟨init_inv 0 m b tc coupled, init_wk 0 m b tc coupled⟩).2

theorem reach_bufCap (m b tc : Nat) (coupled : Bool) (ops : List COp) :
    (ops.foldl applyOp (initSys m b tc coupled)).s.bufCap = b :=
  -- the frame of the function each op runs
  foldl_field (fun c : Sys => c.s.bufCap) applyOp (fun c op =>
    Flow.applyOp_cases (P := fun _ s' => s'.bufCap = c.s.bufCap) c op
      (call := fun _ _ _ => Flow.newCall_bufCap _ _ _ _)
      (pollCall := fun _ => Flow.pollCall_bufCap _ _ _)
      (dropCall := fun cid site => dropCall_kept (P := fun s' => s'.bufCap = c.s.bufCap)
        (pre := fun h => (Flow.dropPre_bufCap _ cid).trans h) (close := fun h => (Flow.dropClose_bufCap _ cid).trans h)
        (cancel := fun h => (Flow.dropCancel_bufCap _ cid).trans h) (finish := fun h => (Flow.dropFinish_bufCap _ cid).trans h)
        (poll := fun h => (Flow.pollDispatch_bufCap _ _).trans h) rfl site)
      (clone := fun _ => Flow.cloneHandle_bufCap _ _)
      (dropHandle := fun _ => Flow.dropHandle_bufCap _ _)
      (pollDispatch := Flow.pollDispatch_bufCap _ _)
      (dropDispatch := Flow.dropDispatch_bufCap _)
      (lift := fun _ => Flow.liftT_bufCap _ _)
      (setT := fun _ => rfl)
      (take := fun _ ms => (qwk_foldl_took ms _).bufCap)
      (advance := fun _ => Flow.onAdvance_bufCap _ _)) ops _

/-! ### a completed dispatch has been dropped -/

/-- a dispatch whose `poll` has returned `Ready` has been dropped (unless it panicked) -/
def DnI (s : St) : Prop := s.done.isSome = true → s.dDropped = true ∨ s.poisoned = true

theorem DnI.pqs {s s' : St} (h : DnI s) (r : PQS s s') : DnI s' := by
  intro hd
  rw [r.dn] at hd
  rw [r.dd, r.po]
  exact h hd

theorem dni_dropDispatch (s : St) : DnI (dropDispatch s) := by
  rw [dropDispatch_stages]
  split
  · rename_i hc
    intro _
    simp only [Bool.or_eq_true] at hc
    exact hc
  · intro _
    left
    show (dropI (dropQ (pqClose { s with dDropped := true, dWoken := false }))).dDropped = true
    rw [dropStages_dDropped]

/-- a dispatch poll establishes it: a future that returns `Ready` is dropped right away -/
theorem dni_pollDispatch (s : St) (now : Nat) : DnI (pollDispatch s now) := by
  rw [Flow.pollDispatch_eq]
  split
  · exact dni_dropDispatch _
  · rename_i hc
    intro hd
    left
    cases hx : (pollDispatchKeep s now).dDropped with
    | true => rfl
    | false => rw [hd, hx] at hc; simp at hc

theorem dni_dropCallG {s : St} (h : DnI s) (guarded : Bool) (cid : Nat) (at_ : DropAt) (now : Nat) :
    DnI (dropCallG guarded s cid at_ now) := by
  have poll : ∀ s, DnI s → DnI (pollDispatch s now) := fun s _ => dni_pollDispatch s now
  exact dropCallG_walk (I₁ := DnI) (I₂ := DnI) (I₃ := DnI) guarded s cid at_ now (h.pqs (pqs_dropPre s cid)) poll
    (fun s hs => hs.pqs (pqs_dropClose s cid)) poll (fun s hs => hs.pqs (pqs_dropCancel s cid)) poll
    (fun s hs => hs.pqs (pqs_dropFinish s cid))

theorem DnI.of_same {s s' : St} (h : DnI s) (e1 : s'.done = s.done) (e2 : s'.dDropped = s.dDropped)
    (e3 : s'.poisoned = s.poisoned) : DnI s' := by
  intro hd; rw [e1] at hd; rw [e2, e3]; exact h hd

theorem liftT_flags (s : St) (r : SimT × Bool) :
    (liftT s r).done = s.done ∧ (liftT s r).dDropped = s.dDropped ∧ (liftT s r).poisoned = s.poisoned := by
  unfold liftT
  simp only
  split <;> simp

theorem dni_applyOp {c : Sys} (h : DnI c.s) (op : COp) : DnI (applyOp c op).s := by
  refine Flow.applyOp_cases (P := fun _ s' => DnI s') c op ?_ ?_ ?_ ?_ ?_ ?_ ?_ ?_ ?_ ?_ ?_
  · intro hd ctx b
    unfold newCall; split
    · exact h.of_same rfl rfl rfl
    · exact h.of_same rfl rfl rfl
  · intro cid; exact h.pqs (pqs_pollCall c.s cid c.now)
  · intro cid site; rw [dropCall_eq]; exact dni_dropCallG h _ cid site c.now
  · intro hd
    unfold cloneHandle; split
    · exact h.of_same rfl rfl rfl
    · exact h.of_same rfl rfl rfl
  · intro hd
    unfold dropHandle; split
    · exact h.pqs ((pqs_afterCallGone _).after .of_same)
    · exact h.of_same rfl rfl rfl
  · exact dni_pollDispatch c.s c.now
  · exact dni_dropDispatch c.s
  · intro r; exact h.of_same (liftT_flags _ _).1 (liftT_flags _ _).2.1 (liftT_flags _ _).2.2
  · intro t; exact h.of_same rfl rfl rfl
  · intro t ms
    obtain ⟨_, b, _⟩ := tobs_foldl_took ms { c.s with t := t }
    refine h.of_same ?_ b.dDropped b.poisoned
    exact foldl_field (·.done) (fun s m => emit s (.took (tid s) m)) (fun _ _ => rfl) ms _
  · intro n
    unfold onAdvance
    split
    · split
      · exact h.of_same (by simp) (by simp) (by simp)
      · exact h
    · exact h

theorem reach_dn (m b tc : Nat) (coupled : Bool) (ops : List COp) : DnI (ops.foldl applyOp (initSys m b tc coupled)).s :=
  foldl_keeps (P := fun c : Sys => DnI c.s) (fun _ op h => dni_applyOp h op) ops (fun hd => by cases hd)

end TarpcModel.Client
