import TarpcModel.Lemmas.ClientBook
import TarpcModel.Lemmas.TraceFold
/-!
From states to traces: the per-op step of the coupling (`Good.step`), the whole trace as an instance of `TraceOf.fold`
(`run_ok`), and the frame facts (call bodies, handles) the op level needs.
-/
namespace TarpcModel.Client

/-! ### no model function changes the body of a call -/

theorem View.upd_bodies (v : View) (cid : Nat) (g : CallV → CallV) (hg : ∀ c, (g c).body = c.body) :
    (v.upd cid g).calls.map (·.body) = v.calls.map (·.body) := by
  simp only [View.upd, List.map_map]
  apply List.map_congr_left
  intro c _
  by_cases e : c.cid = cid <;> simp [e, hg]

theorem View.send_bodies (v : View) (cid : Nat) (o : Outcome) :
    (v.send cid o).calls.map (·.body) = v.calls.map (·.body) := by
  unfold View.send
  split
  · rfl
  · split
    · rfl
    · exact View.upd_bodies _ _ _ (fun _ => rfl)

theorem bodies_upd_step {v : View} {L : List Nat} {cid : Nat} {g : CallV → CallV} (h : v.calls.map (·.body) = L)
    (hg : ∀ c, (g c).body = c.body) : (v.upd cid g).calls.map (·.body) = L :=
  (View.upd_bodies v cid g hg).trans h

def BodiesAre (L : List Nat) (x : Option Nat) (v : View) : Prop := Inv x v ∧ v.calls.map (·.body) = L

theorem BodiesAre.presD (L : List Nat) : PresD (BodiesAre L) :=
  Inv.presD.and (F := fun v => v.calls.map (·.body) = L) (fun h hc _ => hc ▸ h)
    (fun cid o h => (View.send_bodies _ cid o).trans h) (fun _ _ _ _ h _ _ => h)

theorem BodiesAre.pres (L : List Nat) : Pres (BodiesAre L) :=
  Inv.pres_and (BodiesAre.presD L) (fun h hc _ => hc ▸ h) (fun _ h _ hb _ _ => bodies_upd_step h hb)

/-! ### the monitor along a trace -/

theorem foldl_obs_eq (m : Mon C01St) (l : List Obs) :
    (l.reverse.map CEv.obs).foldl (Mon.step chk) m = monOf m l := by
  induction l with
  | nil => rfl
  | cons o l ih =>
    simp only [List.reverse_cons, List.map_append, List.map_cons, List.map_nil, List.foldl_append, List.foldl_cons,
      List.foldl_nil, ih, monOf_cons]

theorem trace_cons (c : Sys) (op : COp) (ops : List COp) :
    trace c (op :: ops) = CEv.op op :: ((stepOp c op).2.map CEv.obs ++ trace (stepOp c op).1 ops) := rfl

theorem Book.endOp_eq (b : Book) :
    b.endOp = { b with calls := b.endOp.calls, curDrop := none, topPoll := false, pollReadyP := false } := by
  unfold Book.endOp
  cases b.curDrop <;> rfl

theorem Book.endOp_spun (b : Book) : b.endOp.spun = b.spun := by rw [Book.endOp_eq]

theorem Book.spun_step_op (b : Book) (o : COp) : (b.step (.op o)).spun = b.spun := by
  unfold Book.step
  dsimp only
  split <;> (try split) <;> exact Book.endOp_spun b

/-- once a task spun or panicked nothing is judged any more: an accepting monitor that has seen it stays so -/
theorem Mon.spun_absorbs {σ : Type} (check : Book → σ → CEv → σ × Option String) (m : Mon σ) (e : CEv)
    (h : m.bad = none ∧ m.book.spun = true) :
    (Mon.step check m e).bad = none ∧ (Mon.step check m e).book.spun = true := by
  obtain ⟨hb, hs⟩ := h
  have hpre : (m.pre e).spun = true := by
    unfold Mon.pre
    cases e with
    | op o => simp only; rw [Book.endOp_spun]; exact hs
    | obs o => exact hs
  have hres : Mon.res check m e = (m.st, none) := by unfold Mon.res; rw [hpre]; rfl
  refine ⟨Mon.step_bad_none.mpr ⟨hb, by rw [hres]⟩, ?_⟩
  rw [Mon.step_book]
  cases e with
  | op o => rw [Book.spun_step_op]; exact hs
  | obs o => rw [Book.spun_step, hs]; rfl

theorem Mon.step_op (m : Mon C01St) (o : COp) :
    (Mon.step chk m (.op o)).book = m.book.step (.op o) ∧ (Mon.step chk m (.op o)).st = m.st ∧
    (Mon.step chk m (.op o)).bad = m.bad := by
  have hres : Mon.res chk m (.op o) = (m.st, none) := by
    unfold Mon.res; split <;> rfl
  refine ⟨Mon.step_book _ _ _, by rw [Mon.step_st, hres], ?_⟩
  rw [Mon.step_bad, hres]
  cases m.bad <;> rfl

theorem Book.curDrop_step_obs (b : Book) (o : Obs) : (b.step (.obs o)).curDrop = b.curDrop :=
  Book.step_obs_cases (motive := fun _ b' => b'.curDrop = b.curDrop) b o
    (same := fun _ _ _ _ => rfl) (req := fun _ _ _ _ _ _ => rfl) (canOk := fun _ _ _ => rfl) (canFail := fun _ _ _ => rfl)
    (read := fun _ _ _ => rfl) (ready := fun _ => rfl) (fail := fun _ _ _ _ => rfl) (resolved := fun _ _ _ => rfl)
    (ret := fun _ _ _ => rfl) (stop := fun _ _ _ _ => rfl)

theorem monOf_curDrop (m : Mon C01St) (l : List Obs) : (monOf m l).book.curDrop = m.book.curDrop := by
  induction l with
  | nil => rfl
  | cons o l ih => rw [monOf_cons, Mon.step_book, Book.curDrop_step_obs, ih]

theorem Book.curDrop_step_op (b : Book) (o : COp) :
    (b.step (.op o)).curDrop = match o with | .dropCall k _ => some k | _ => none := by
  have h1 : b.endOp.curDrop = none := by rw [Book.endOp_eq]
  unfold Book.step
  simp only
  generalize b.endOp = b1 at h1
  cases o <;> simp only [] <;> (try split) <;> first | exact h1 | rfl

/-! ### the book at an op boundary -/

/-- what the previous op (a `drop-call`) left behind -/
def DropDone (v : View) (b : Book) : Prop :=
  ∀ k, b.curDrop = some k → ∀ cv, v.get k = some cv → cv.phase = .resolved ∨ cv.phase = .dropped

theorem Cpl.of_calls {x v b b' used} (hc : Cpl x v b used) (h1 : CallsRel b'.calls v.calls) (h2 : b'.handles = b.handles)
    (h3 : b'.nextHandle = b.nextHandle) (h4 : b'.sends = b.sends) (h5 : b'.cancels = b.cancels) (h6 : b'.reads = b.reads) :
    Cpl x v b' used where
  calls := h1
  bodies := hc.bodies
  spans := hc.spans
  handles := by rw [h2]; exact hc.handles
  nextHandle := by rw [h3]; exact hc.nextHandle
  sends := by rw [h4]; exact hc.sends
  sendsNodup := by rw [h4]; exact hc.sendsNodup
  pqNotSent := by rw [h4]; exact hc.pqNotSent
  xNotSent := by rw [h4]; exact hc.xNotSent
  logSent := by rw [h4]; exact hc.logSent
  cancels := by rw [h5]; exact hc.cancels
  reads := by rw [h6, h4]; exact hc.reads
  used := hc.used

theorem Cpl.of_fields {x v b b' used} (hc : Cpl x v b used) (h1 : b'.calls = b.calls) (h2 : b'.handles = b.handles)
    (h3 : b'.nextHandle = b.nextHandle) (h4 : b'.sends = b.sends) (h5 : b'.cancels = b.cancels) (h6 : b'.reads = b.reads) :
    Cpl x v b' used :=
  hc.of_calls (h1 ▸ hc.calls) h2 h3 h4 h5 h6

theorem Cpl.endOp {x v b used} (hc : Cpl x v b used) (hi : Inv x v) (hd : DropDone v b) : Cpl x v b.endOp used := by
  have key : CallsRel b.endOp.calls v.calls := by
    unfold Book.endOp
    cases hk : b.curDrop with
    | none => exact hc.calls
    | some k =>
      simp only [Book.updCall]
      have := hc.calls.map₂' (fun c => if c.cid == k then (if c.resolved.isNone then { c with dropped := true } else c) else c) id ?_
      · simpa using this
      · intro bc c hmem hr
        simp only [id]
        by_cases e : bc.cid = k
        · simp only [e, beq_self_eq_true, ↓reduceIte]
          by_cases hn : bc.resolved.isNone = true
          · simp only [hn, ↓reduceIte]
            refine ⟨e ▸ hr.cid, hr.body, hr.trace, hr.resolved, fun _ => ?_⟩
            have hg := hi.get_of_mem hmem
            rw [← hr.cid, e] at hg
            have hout : c.outcome = none := by
              rw [← hr.resolved]; simpa using hn
            have hnr : c.phase ≠ .resolved := by
              intro h
              have := (hi.outc k c hg).mpr h
              rw [hout] at this; cases this
            rcases hd k hk c hg with h | h
            · exact absurd h hnr
            · exact h
          · simp only [hn, Bool.false_eq_true, ↓reduceIte]; exact hr
        · simp only [e, beq_iff_eq, ↓reduceIte]; exact hr
  exact hc.of_calls key (by rw [Book.endOp_eq]) (by rw [Book.endOp_eq]) (by rw [Book.endOp_eq]) (by rw [Book.endOp_eq])
    (by rw [Book.endOp_eq])

theorem Cpl.of_norm {x v b b' used} (hc : Cpl x v b used) (h : b'.norm = b.norm) : Cpl x v b' used :=
  hc.of_fields (show b'.norm.calls = b.norm.calls by rw [h]) (show b'.norm.handles = b.norm.handles by rw [h])
    (show b'.norm.nextHandle = b.norm.nextHandle by rw [h]) (show b'.norm.sends = b.norm.sends by rw [h])
    (show b'.norm.cancels = b.norm.cancels by rw [h]) (show b'.norm.reads = b.norm.reads by rw [h])

theorem Cpl.of_rel {x v b used} (hc : Cpl x v b used) (l : List Obs) : Cpl x { v with rel := l } b used :=
  { hc with }

/-! ### `drop-call` leaves the call resolved or dropped -/

theorem dropFinish_post (s : St) (k : Nat) (cv : CallV) (h : (view (dropFinish s k)).get k = some cv) :
    cv.phase = .resolved ∨ cv.phase = .dropped := by
  revert h
  refine Flow.dropFinish_cases (motive := fun S => (view S).get k = some cv → cv.phase = .resolved ∨ cv.phase = .dropped)
    s k (fun done h => ?_) (fun c hg _ h => ?_)
  · -- nothing to finish: the call (if any) is resolved or dropped already
    rw [view_emit_irr _ _ rfl] at h
    cases hg : getCall s k with
    | none => rw [view_getCall_none hg] at h; cases h
    | some c => rw [view_getCall_some hg] at h; cases h; exact done c hg
  · have e : view (updCall s k (fun c => { c with phase := .dropped, woken := false }))
        = (view s).upd k (fun c => { c with phase := .dropped }) := view_updCall _ _ _ _ (fun _ => rfl) (fun _ => rfl)
    rw [view_afterCallGone, e, View.get_upd_self, view_getCall_some hg] at h
    simp only [Option.map_some, Option.some.injEq] at h
    rw [← h]; exact .inr rfl

theorem dropCall_post (s : St) (k : Nat) (at_ : DropAt) (now : Nat) (cv : CallV)
    (h : (view (dropCall s k at_ now)).get k = some cv) : cv.phase = .resolved ∨ cv.phase = .dropped := by
  unfold dropCall at h
  exact dropFinish_post _ _ _ h

/-! ### one op -/

def callBodies : List COp → List Nat
  | [] => []
  | .call _ _ _ b :: ops => b :: callBodies ops
  | _ :: ops => callBodies ops

/-- the coupling at an op boundary; `fut`: the bodies of the calls made and of those `ops` will still make are distinct -/
structure Good (m : Mon C01St) (c : Sys) (ops : List COp) : Prop where
  obs : c.s.obs = []
  j : J m none (view c.s)
  drop : DropDone (view c.s) m.book
  fut : ((view c.s).calls.map (·.body) ++ callBodies ops).Nodup

theorem Book.step_op_fields (b : Book) (op : COp) (h : op.structural = false) :
    (b.step (.op op)).calls = b.endOp.calls ∧ (b.step (.op op)).handles = b.endOp.handles ∧
    (b.step (.op op)).nextHandle = b.endOp.nextHandle ∧ (b.step (.op op)).sends = b.endOp.sends ∧
    (b.step (.op op)).cancels = b.endOp.cancels ∧ (b.step (.op op)).reads = b.endOp.reads := by
  unfold Book.step
  dsimp only
  split <;> first | (cases h; done) | exact ⟨rfl, rfl, rfl, rfl, rfl, rfl⟩

theorem Sys.obs_nil_eq (c : Sys) (h : c.s.obs = []) : ({ c with s := { c.s with obs := [] } } : Sys) = c := by
  cases c with
  | mk s now =>
    cases s
    simp_all

/-- the monitor state after the `op` event, against a model state `v'` with no observations yet -/
theorem Good.opEvent {m : Mon C01St} {c : Sys} {op : COp} {ops : List COp} (g : Good m c (op :: ops)) {v' : View}
    (hi : Inv none v') (hrel' : v'.rel = []) (hp' : v'.poisoned = (view c.s).poisoned)
    (hc' : Cpl none (view c.s) m.book m.st → Cpl none v' (m.book.step (.op op)) m.st) :
    J (Mon.step chk m (.op op)) none v' := by
  obtain ⟨hb1, hs1, hbad1⟩ := Mon.step_op m op
  have hrel : (view c.s).rel = [] := by simp [view, g.obs]
  have hj := g.j
  have hm : monOf m (view c.s).rel = m := by rw [hrel]; rfl
  have hm1 : monOf (Mon.step chk m (.op op)) v'.rel = Mon.step chk m (.op op) := by rw [hrel']; rfl
  refine ⟨hi, by rw [hm1, hbad1]; have := hj.ok; rw [hm] at this; exact this, ?_, ?_⟩
  · intro hp
    rw [hm1, hb1, Book.spun_step_op]
    rw [hp'] at hp
    have := hj.pois hp; rw [hm] at this; exact this
  · rw [hm1, hb1, hs1, Book.spun_step_op]
    have hc := hj.cpl
    rw [hm] at hc
    rcases hc with hc | hc
    · exact Or.inl hc
    · exact Or.inr (hc' hc)

theorem Good.afterOpEvent {m : Mon C01St} {c : Sys} {op : COp} {ops : List COp} (g : Good m c (op :: ops))
    (hop : op.structural = false) : J (Mon.step chk m (.op op)) none (view c.s) := by
  have hrel : (view c.s).rel = [] := by simp [view, g.obs]
  refine g.opEvent g.j.inv hrel rfl (fun hc => ?_)
  obtain ⟨f1, f2, f3, f4, f5, f6⟩ := Book.step_op_fields m.book op hop
  exact (hc.endOp g.j.inv g.drop).of_fields f1 f2 f3 f4 f5 f6

theorem Good.nonStructural {m : Mon C01St} {c : Sys} {op : COp} {ops : List COp} (g : Good m c (op :: ops))
    (hop : op.structural = false) : J (Mon.step chk m (.op op)) none (view (applyOp c op).s) :=
  applyOp_pres (J.pres _) (g.afterOpEvent hop) hop

/-- an op through a handle that does not exist: neither the model nor the book (beyond `endOp`) changes -/
theorem Good.opIgnored {m : Mon C01St} {c : Sys} {op : COp} {ops : List COp} (g : Good m c (op :: ops))
    (hb : m.book.endOp.handles = c.s.handles → m.book.step (.op op) = m.book.endOp) :
    J (Mon.step chk m (.op op)) none (view c.s) := by
  have hrel : (view c.s).rel = [] := by simp [view, g.obs]
  refine g.opEvent g.j.inv hrel rfl (fun hc => ?_)
  have he := hc.endOp g.j.inv g.drop
  rw [hb he.handles]
  exact he

theorem Good.opClone {m : Mon C01St} {c : Sys} {h : Nat} {ops : List COp} (g : Good m c (.clone h :: ops)) :
    J (Mon.step chk m (.op (.clone h))) none (view (applyOp c (.clone h)).s) := by
  have hrel : (view c.s).rel = [] := by simp [view, g.obs]
  show J _ none (view (cloneHandle c.s h))
  rw [view_cloneHandle]
  by_cases hh : c.s.handles.contains h = true
  · simp only [hh, ↓reduceIte]
    refine g.opEvent (g.j.inv.of_handles _ _) hrel rfl (fun hc => ?_)
    have he := hc.endOp g.j.inv g.drop
    have h1 : m.book.endOp.handles = c.s.handles := he.handles
    have h2 : m.book.endOp.nextHandle = c.s.nextHandle := he.nextHandle
    have hb : m.book.step (.op (.clone h)) = { m.book.endOp with handles := m.book.endOp.handles ++ [m.book.endOp.nextHandle], nextHandle := m.book.endOp.nextHandle + 1 } := by
      show (if m.book.endOp.handles.contains h then _ else _) = _
      rw [h1, hh]; rfl
    rw [hb]
    exact { he with handles := by show _ ++ [_] = _ ++ [_]; rw [h1, h2], nextHandle := by show _ + 1 = _ + 1; rw [h2] }
  · simp only [hh, Bool.false_eq_true, ↓reduceIte]
    refine g.opIgnored (fun h1 => ?_)
    show (if m.book.endOp.handles.contains h then _ else _) = _
    rw [h1]; simp only [hh, Bool.false_eq_true, ↓reduceIte]

theorem Good.opDropHandle {m : Mon C01St} {c : Sys} {h : Nat} {ops : List COp} (g : Good m c (.dropHandle h :: ops)) :
    J (Mon.step chk m (.op (.dropHandle h))) none (view (applyOp c (.dropHandle h)).s) := by
  have hrel : (view c.s).rel = [] := by simp [view, g.obs]
  show J _ none (view (dropHandle c.s h))
  rw [view_dropHandle]
  refine g.opEvent (g.j.inv.of_handles _ _) hrel rfl (fun hc => ?_)
  have he := hc.endOp g.j.inv g.drop
  have h1 : m.book.endOp.handles = c.s.handles := he.handles
  have hb : m.book.step (.op (.dropHandle h)) = { m.book.endOp with handles := m.book.endOp.handles.filter (· != h) } := rfl
  rw [hb]
  exact { he with handles := by show List.filter _ _ = List.filter _ _; rw [h1] }

theorem Good.opCall {m : Mon C01St} {c : Sys} {h d : Nat} {tr : Trace} {body : Nat} {ops : List COp}
    (g : Good m c (.call h d tr body :: ops)) (hsp : ∃ n, tr.span = .given n) :
    J (Mon.step chk m (.op (.call h d tr body))) none (view (applyOp c (.call h d tr body)).s) := by
  have hrel : (view c.s).rel = [] := by simp [view, g.obs]
  show J _ none (view (newCall c.s h { deadline := d, trace := tr } body))
  by_cases hh : c.s.handles.contains h = true
  · have hv : view (newCall c.s h { deadline := d, trace := tr } body)
        = { view c.s with calls := (view c.s).calls ++ [CallV.fresh (view c.s).calls.length { deadline := d, trace := tr } body] } := by
      rcases view_newCall c.s h { deadline := d, trace := tr } body with hv | ⟨_, hv⟩
      · unfold newCall at hv ⊢
        simp only [hh, ↓reduceIte] at hv ⊢
        simp [view, CallV.fresh, Call.v]
      · exact hv
    rw [hv]
    refine g.opEvent (g.j.inv.newCall _ _) hrel rfl (fun hc => ?_)
    have he := hc.endOp g.j.inv g.drop
    have h1 : m.book.endOp.handles = c.s.handles := he.handles
    have hb : m.book.step (.op (.call h d tr body)) = { m.book.endOp with calls := m.book.endOp.calls ++ [{ cid := m.book.endOp.calls.length, body := body, deadline := d, trace := tr }] } := by
      have hc2 : m.book.endOp.handles.contains h = true := by rw [h1]; exact hh
      show (if m.book.endOp.handles.contains h then _ else _) = _
      rw [if_pos hc2]
    rw [hb]
    have hget := g.j.inv.get_newCall { deadline := d, trace := tr } body
    refine he.call_step (b' := _) (used' := m.st) ?_ ?_ ?_ rfl rfl rfl rfl rfl rfl rfl (fun r hr => Or.inl hr) rfl ?_ ?_ (fun _ h => Or.inl h)
    · refine he.calls.append₂ ⟨?_, rfl, rfl, rfl, fun h => by cases h⟩
      exact he.calls.length
    · have := g.fut
      simp only [callBodies] at this
      simp only [List.map_append, List.map_cons, List.map_nil, CallV.fresh]
      refine List.Nodup.sublist ?_ this
      exact List.Sublist.append (List.Sublist.refl _) (List.Sublist.cons_cons _ (List.nil_sublist _))
    · intro c' hc'
      simp only [List.mem_append, List.mem_singleton] at hc'
      rcases hc' with hc' | rfl
      · exact he.spans c' hc'
      · exact hsp
    · intro i c0 hg0 hen
      refine ⟨c0, ?_, hen, rfl, rfl, rfl, fun h => h⟩
      rw [hget, if_neg (Nat.ne_of_lt (g.j.inv.cidLt i c0 hg0))]; exact hg0
    · intro i c' o res hg' hv' _
      rw [hget] at hg'
      split at hg'
      · injection hg' with hg'; rw [← hg'] at hv'; simp [CallV.fresh] at hv'
      · exact Or.inl ⟨c', hg', hv', rfl⟩
  · have hv : view (newCall c.s h { deadline := d, trace := tr } body) = view c.s := by
      unfold newCall
      simp only [hh, Bool.false_eq_true, ↓reduceIte]
      exact view_emit_irr _ _ rfl
    rw [hv]
    refine g.opIgnored (fun h1 => ?_)
    show (if m.book.endOp.handles.contains h then _ else _) = _
    rw [h1]; simp only [hh, Bool.false_eq_true, ↓reduceIte]

/-- callers hand in span ids of their own (the code under test draws the `fresh` ones) -/
def SpanOk : COp → Prop
  | .call _ _ tr _ => ∃ n, tr.span = .given n
  | _ => True

theorem Good.applied {m : Mon C01St} {c : Sys} {op : COp} {ops : List COp} (g : Good m c (op :: ops)) (hs : SpanOk op) :
    J (Mon.step chk m (.op op)) none (view (applyOp c op).s) := by
  cases op with
  | call h d tr b => exact g.opCall hs
  | clone h => exact g.opClone
  | dropHandle h => exact g.opDropHandle
  | _ => exact g.nonStructural rfl

theorem Good.fut_step {m : Mon C01St} {c : Sys} {op : COp} {ops : List COp} (g : Good m c (op :: ops)) :
    ((view (applyOp c op).s).calls.map (·.body) ++ callBodies ops).Nodup := by
  have hi := g.j.inv
  have hf := g.fut
  cases op with
  | call h d tr b =>
    simp only [callBodies] at hf
    show ((view (newCall c.s h { deadline := d, trace := tr } b)).calls.map (·.body) ++ callBodies ops).Nodup
    rcases view_newCall c.s h { deadline := d, trace := tr } b with hv | ⟨_, hv⟩
    · rw [hv]
      refine List.Nodup.sublist ?_ hf
      exact List.Sublist.append (List.Sublist.refl _) (List.Sublist.cons _ (List.Sublist.refl _))
    · rw [hv]
      simp only [List.map_append, List.map_cons, List.map_nil, CallV.fresh, List.append_assoc, List.cons_append, List.nil_append]
      exact hf
  | clone h =>
    show ((view (cloneHandle c.s h)).calls.map (·.body) ++ callBodies ops).Nodup
    rw [view_cloneHandle]; split <;> exact hf
  | dropHandle h =>
    show ((view (TarpcModel.Client.dropHandle c.s h)).calls.map (·.body) ++ callBodies ops).Nodup
    rw [view_dropHandle]; exact hf
  | _ =>
    rw [(applyOp_pres (BodiesAre.pres _) (c := c) ⟨hi, rfl⟩ rfl).2]
    exact hf

theorem MEq.spun {m m' : Mon C01St} (h : MEq m m') : m.book.spun = m'.book.spun := by
  have := congrArg Book.spun h.book; exact this

theorem MEq.curDrop {m m' : Mon C01St} (h : MEq m m') : m.book.curDrop = m'.book.curDrop := by
  have := congrArg Book.curDrop h.book; exact this

/-- One op of a script: the monitors stay content; unless a task spun or panicked the coupling is re-established. -/
theorem Good.step {m : Mon C01St} {c : Sys} {op : COp} {ops : List COp} (g : Good m c (op :: ops)) (hs : SpanOk op) :
    (((stepOp c op).2.map CEv.obs).foldl (Mon.step chk) (Mon.step chk m (.op op))).bad = none ∧
    ((((stepOp c op).2.map CEv.obs).foldl (Mon.step chk) (Mon.step chk m (.op op))).book.spun = true ∨
      Good (((stepOp c op).2.map CEv.obs).foldl (Mon.step chk) (Mon.step chk m (.op op))) (stepOp c op).1 ops) := by
  have hc0 := Sys.obs_nil_eq c g.obs
  unfold stepOp
  simp only [hc0]
  rw [foldl_obs_eq]
  generalize hm1 : Mon.step chk m (.op op) = m1
  have hA : J m1 none (view (applyOp c op).s) := hm1 ▸ g.applied hs
  have hfut := g.fut_step
  generalize hs1 : (applyOp c op).s = s1 at hA hfut
  have heq : MEq (monOf m1 s1.obs) (monOf m1 (view s1).rel) := monOf_filter m1 s1.obs
  refine ⟨by rw [heq.bad]; exact hA.ok, ?_⟩
  by_cases hsp : (monOf m1 s1.obs).book.spun = true
  · exact Or.inl hsp
  · right
    have hsp2 : ¬ (monOf m1 (view s1).rel).book.spun = true := by rw [← heq.spun]; exact hsp
    have hcpl : Cpl none (view s1) (monOf m1 (view s1).rel).book (monOf m1 (view s1).rel).st := by
      rcases hA.cpl with h | h
      · exact absurd h hsp2
      · exact h
    have hv : view { s1 with obs := [] } = { view s1 with rel := [] } := by simp [view]
    refine ⟨rfl, ?_, ?_, ?_⟩
    · show J _ none (view { s1 with obs := [] })
      rw [hv]
      refine ⟨hA.inv.of_rel _, by show (monOf m1 s1.obs).bad = none; rw [heq.bad]; exact hA.ok, ?_, ?_⟩
      · intro hp
        show (monOf m1 s1.obs).book.spun = true
        rw [heq.spun]; exact hA.pois hp
      · right
        show Cpl none { view s1 with rel := [] } (monOf m1 s1.obs).book (monOf m1 s1.obs).st
        rw [heq.st]
        exact (hcpl.of_norm heq.book).of_rel []
    · intro k hk cv hcv
      have hcv' : (view s1).get k = some cv := by
        have : (view { s1 with obs := [] }).get k = some cv := hcv
        rw [hv] at this; exact this
      have hk' : m1.book.curDrop = some k := by
        have : (monOf m1 s1.obs).book.curDrop = some k := hk
        rw [monOf_curDrop] at this; exact this
      rw [← hm1, (Mon.step_op m op).1, Book.curDrop_step_op] at hk'
      cases op with
      | dropCall k' site =>
        simp only [Option.some.injEq] at hk'
        subst hk'
        have : s1 = dropCall c.s k' site c.now := hs1.symm
        rw [this] at hcv'
        exact dropCall_post _ _ _ _ _ hcv'
      | _ => simp at hk'
    · show ((view { s1 with obs := [] }).calls.map (·.body) ++ callBodies ops).Nodup
      rw [hv]; exact hfut

/-! ### all ops -/

theorem run_ok (ops : List COp) (m : Mon C01St) (c : Sys) (hbad : m.bad = none)
    (h : m.book.spun = true ∨ Good m c ops) (hsp : ∀ op ∈ ops, SpanOk op) :
    ((trace c ops).foldl (Mon.step chk) m).bad = none := by
  have := traceOf.fold (f := Mon.step chk) (Z := fun m => m.bad = none ∧ m.book.spun = true) (Mon.spun_absorbs chk)
    (K := fun m c ops => m.bad = none ∧ Good m c ops ∧ ∀ op ∈ ops, SpanOk op)
    (fun m c op ops ⟨_, g, hsp⟩ =>
      have ⟨hb', hg'⟩ := g.step (hsp op List.mem_cons_self)
      hg'.imp (fun hs => ⟨hb', hs⟩) (fun g' => ⟨hb', g', fun op' h' => hsp op' (List.mem_cons_of_mem _ h')⟩))
    ops m c (h.imp (fun hs => ⟨hbad, hs⟩) (fun g => ⟨hbad, g, hsp⟩))
  rcases this with h | ⟨_, h⟩ <;> exact h.1

theorem init_good (mi b tc : Nat) (coupled : Bool) (ops : List COp) (hb : (callBodies ops).Nodup) :
    Good ({ st := [] } : Mon C01St) (initSys mi b tc coupled) ops := by
  refine ⟨rfl, ⟨init_inv _ _ _ _ _, rfl, fun h => (by cases h), Or.inr ?_⟩, fun k h => (by cases h), hb⟩
  exact {
    calls := trivial
    bodies := List.nodup_nil
    spans := fun _ h => nomatch h
    handles := rfl
    nextHandle := rfl
    sends := fun _ h => nomatch h
    sendsNodup := List.nodup_nil
    pqNotSent := fun _ h => nomatch h
    xNotSent := fun _ h => nomatch h
    logSent := fun _ h => nomatch h
    cancels := fun _ h => nomatch h
    reads := fun _ _ _ _ h => nomatch h
    used := fun _ h => nomatch h }

/-- The combined monitor accepts every trace of the model (for scripts whose calls have pairwise distinct bodies
and caller-supplied span ids). -/
theorem combined_accepts (mi b tc : Nat) (coupled : Bool) (ops : List COp) (hb : (callBodies ops).Nodup)
    (hsp : ∀ op ∈ ops, SpanOk op) :
    (Mon.run chk [] (trace (initSys mi b tc coupled) ops)).bad = none :=
  run_ok ops _ _ rfl (Or.inr (init_good mi b tc coupled ops hb)) hsp

end TarpcModel.Client
