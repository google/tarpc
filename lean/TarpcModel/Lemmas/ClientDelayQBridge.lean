import TarpcModel.Lemmas.ClientInv
import TarpcModel.Lemmas.ClientIds
import TarpcModel.Lemmas.DelayQReach
/-!
Bridge between the client model and the completeness results for the timer wheel (`Lemmas/DelayQComplete.lean`,
`Lemmas/DelayQReach.lean`).

**What the client does to its `DelayQueue`.**  `QClosed now P`: the predicate `P` on timer queues is kept by the
operations the client model applies to its queue at clock `now` — `insert` of a *clamped* timeout at `now`
(`insert_request`, the re-arm in `poll_expired`), `remove` of a key, `poll_expired` at `now`, `clear`
(`shut_down_with_terminal_error`), replacing the queue by the empty one (the dispatch is dropped) and taking the stored
waker (`onAdvance`: the timer fires).  `QClosed.applyOp`: every operation of the client model keeps every
such predicate (`QClosed.reach`: along a script, the clock moving) — the model does nothing else to the queue.

**The call side** keeps the timer queue and can only wake the dispatch (`Park`, an instance of `Flow.CRel`).

**Instance.**  While the clock is below `2^35` ms (`panicFreeNs`) and the clamp fits (`ClampFits`, the fact about the
generated constant behind `C16_client_flags`), every clamped insert is in the strict range (`DelayQ.InRangeStrict`), so
the two-sided wheel invariant `DelayQ.Complete` is such a predicate: it holds in every reachable state.
-/
namespace TarpcModel.Client
open TarpcModel

/-- `s'` has the same timer queue and dispatch status as `s`, and the dispatch is woken in `s'` if it was in `s` -/
structure Park (s s' : St) : Prop where
  timers : s'.timers = s.timers
  dDropped : s'.dDropped = s.dDropped
  done : s'.done = s.done
  poisoned : s'.poisoned = s.poisoned
  woken : s'.dWoken = false → s.dWoken = false

theorem Park.refl (s : St) : Park s s := ⟨rfl, rfl, rfl, rfl, id⟩

theorem Park.trans {a b c : St} (h1 : Park a b) (h2 : Park b c) : Park a c :=
  ⟨h2.timers.trans h1.timers, h2.dDropped.trans h1.dDropped, h2.done.trans h1.done, h2.poisoned.trans h1.poisoned,
    fun h => h1.woken (h2.woken h)⟩

theorem Park.of_eq {s s' : St} (ht : s'.timers = s.timers) (hd : s'.dDropped = s.dDropped) (hn : s'.done = s.done)
    (hp : s'.poisoned = s.poisoned) (hw : s'.dWoken = s.dWoken) : Park s s' := ⟨ht, hd, hn, hp, fun h => hw ▸ h⟩

theorem park_foldl {α : Type} (f : St → α → St) (hf : ∀ s a, Park s (f s a)) (l : List α) (s : St) :
    Park s (l.foldl f s) := by
  induction l generalizing s with
  | nil => exact .refl _
  | cons a l ih => exact .trans (hf s a) (ih _)

theorem park_emit (s : St) (o : Obs) : Park s (emit s o) := .of_eq rfl rfl rfl rfl rfl

theorem park_wakeDispatch (s : St) : Park s (wakeDispatch s) := by
  rcases Flow.wakeDispatch_out s with ⟨_, e⟩ | ⟨_, e⟩ <;> rw [e]
  · exact .refl _
  · exact ⟨rfl, rfl, rfl, rfl, fun h => by simp [emit] at h⟩

theorem park_updCall (s : St) (cid : Nat) (f : Call → Call) : Park s (updCall s cid f) := .of_eq rfl rfl rfl rfl rfl

theorem park_wakeCall (s : St) (cid : Nat) : Park s (wakeCall s cid) :=
  .of_eq (wakeCall_timers _ _) (wakeCall_dDropped _ _) (wakeCall_done _ _) (wakeCall_poisoned _ _) (wakeCall_dWoken _ _)

theorem park_osSend (s : St) (cid : Nat) (o : Outcome) : Park s (osSend s cid o) :=
  .of_eq (osSend_timers _ _ _) (osSend_dDropped _ _ _) (osSend_done _ _ _) (osSend_poisoned _ _ _) (osSend_dWoken _ _ _)

theorem park_osDropTx (s : St) (cid : Nat) : Park s (osDropTx s cid) :=
  .of_eq (osDropTx_timers _ _) (osDropTx_dDropped _ _) (osDropTx_done _ _) (osDropTx_poisoned _ _) (osDropTx_dWoken _ _)

/-- composition, last step first (so that the state in between is known when the first step is elaborated) -/
theorem Park.after {a b c : St} (h2 : Park b c) (h1 : Park a b) : Park a c := h1.trans h2

theorem park_pqRelease (s : St) : Park s (pqRelease s) := by
  rcases Flow.pqRelease_out s with ⟨_, _, _, e⟩ | ⟨_, e⟩ <;> rw [e]
  · exact (park_wakeCall _ _).after (.of_eq rfl rfl rfl rfl rfl)
  · exact .of_eq rfl rfl rfl rfl rfl

theorem park_pqPush (s : St) (r : DReq) : Park s (pqPush s r) := by
  unfold pqPush
  simp only
  split
  · exact (park_wakeDispatch _).after (.of_eq rfl rfl rfl rfl rfl)
  · exact .of_eq rfl rfl rfl rfl rfl

theorem park_cqPush (s : St) (id : Nat) : Park s (cqPush s id) := by
  unfold cqPush
  split
  · exact .refl _
  · simp only
    split
    · exact (park_wakeDispatch _).after (.of_eq rfl rfl rfl rfl rfl)
    · exact .of_eq rfl rfl rfl rfl rfl

theorem park_crel : Flow.CRel Park where
  refl := .refl
  trans := .trans
  same _ _ h := ⟨h.timers, h.dDropped, h.done, h.poisoned, fun hw => h.dWoken ▸ hw⟩
  emit s o _ := park_emit s o
  updCall := park_updCall
  wakeDispatch := park_wakeDispatch
  osDropTx := park_osDropTx
  pqRelease := park_pqRelease
  pqPush := park_pqPush
  cqPush := park_cqPush

theorem park_liftT (s : St) (r : SimT × Bool) : Park s (liftT s r) := by
  unfold liftT
  simp only
  split
  · exact (park_wakeDispatch _).after (.of_eq rfl rfl rfl rfl rfl)
  · exact .of_eq rfl rfl rfl rfl rfl

theorem park_t (s : St) (t : SimT) : Park s { s with t := t } := by exact .of_eq rfl rfl rfl rfl rfl

theorem park_took (ms : List Msg) (s : St) : Park s (ms.foldl (fun s m => emit s (.took (tid s) m)) s) :=
  park_foldl (fun s m => emit s (.took (tid s) m)) (fun s _ => park_emit s _) ms s

/-! ### the functions that leave the timer queue alone -/

@[simp] theorem pqRecv_tm (s : St) : (pqRecv s).1.timers = s.timers := by
  rcases Flow.pqRecv_out s with ⟨_, _, _, e⟩ | ⟨_, e, _⟩ | ⟨_, e⟩ <;> rw [e]
  exact (park_pqRelease _).timers

@[simp] theorem pqClose_tm (s : St) : (pqClose s).timers = s.timers := by
  unfold pqClose; simp only; rw [foldl_field (·.timers) _ (fun s a => wakeCall_timers s a)]

@[simp] theorem cqRecv_tm (s : St) : (cqRecv s).1.timers = s.timers := by
  rcases Flow.cqRecv_out s with ⟨_, _, _, e⟩ | ⟨_, e, _⟩ | ⟨_, e⟩ <;> rw [e]

theorem Step.tm {now : Nat} {a : Act} {s s' : St} (st : Step now a s s') (ha : EnsureK a ∨ DrainK a) :
    s'.timers = s.timers := by
  cases st with
  | ready => exact Flow.tReady_timers _
  | flush => exact Flow.tFlush_timers _
  | spin => rfl
  | pqIdle _ => exact pqRecv_tm _
  | pqSkip e _ => exact of_fst (P := fun S => S.timers = s.timers) e (pqRecv_tm s)
  | drainFail a e _ =>
    exact (osSend_timers _ _ _).trans (of_fst (P := fun S => S.timers = s.timers) e (pqRecv_tm s))
  | _ => rcases ha with h | h <;> exact False.elim h

@[simp] theorem ensureWriteable_tm (s : St) : (ensureWriteable s).1.timers = s.timers :=
  (ensureWriteable_steps 0 s).lift (R := fun a b => b.timers = a.timers) (fun _ => rfl) (fun h1 h2 => h2.trans h1)
    (fun ha st => st.tm (.inl ha))

@[simp] theorem drainLoop_tm (fuel : Nat) (s : St) (a : Activity) : (drainLoop fuel s a).1.timers = s.timers :=
  (drainLoop_steps 0 fuel s a).lift (R := fun a b => b.timers = a.timers) (fun _ => rfl) (fun h1 h2 => h2.trans h1)
    (fun ha st => st.tm (.inr ha))

@[simp] theorem guardClose_tm (s : St) (cid : Nat) : (guardClose s cid).timers = s.timers := rfl

/-! ### the shutdown path clears the timer queue and empties the table -/

theorem failAll_timers (s : St) (a : Activity) : (failAll s a).timers = s.timers.clear := by
  unfold Client.failAll
  simp only
  rw [foldl_field (·.timers) (fun s (e : Entry) => osSend s e.cid (.channel a)) (fun s e => osSend_timers s e.cid _)]

theorem shutDown_timers (s : St) (a : Activity) : (shutDown s a).1.timers = s.timers.clear := by
  unfold Client.shutDown
  simp only [drainLoop_tm, failAll_timers, pqClose_tm]

theorem drainLoop_inflight (fuel : Nat) (s : St) (a : Activity) : (drainLoop fuel s a).1.inflight = s.inflight :=
  (drainLoop_steps 0 fuel s a).lift (R := fun a b => b.inflight = a.inflight) (fun _ => rfl) (fun h1 h2 => h2.trans h1)
    (fun {_ s _} ha st => by
      cases st with
      | pqIdle _ => exact Flow.pqRecv_inflight _
      | pqSkip e _ => exact of_fst (P := fun S => S.inflight = s.inflight) e (Flow.pqRecv_inflight s)
      | drainFail a e _ =>
        exact (osSend_inflight _ _ _).trans (of_fst (P := fun S => S.inflight = s.inflight) e (Flow.pqRecv_inflight s))
      | _ => exact False.elim ha)

theorem shutDown_inflight (s : St) (a : Activity) : (shutDown s a).1.inflight = [] := by
  unfold Client.shutDown
  simp only [drainLoop_inflight]
  unfold Client.failAll
  simp only
  rw [foldl_field (·.inflight) (fun s (e : Entry) => osSend s e.cid (.channel a)) (fun s e => osSend_inflight s e.cid _)]

/-! ### what the client does to its timer queue -/

/-- `P` is kept by everything the client model does to its `DelayQueue` at clock `now`. -/
structure QClosed (now : Nat) (P : DelayQ → Prop) : Prop where
  insert : ∀ {q q' : DelayQ} {t v : Nat} {r : DelayQ.InsertRes} {w : Bool}, P q →
    q.insert now (clampTimeout t) v = (q', r, w) → P q'
  remove : ∀ {q q' : DelayQ} {k : Nat} {w : Bool}, P q → q.remove k = some (q', w) → P q'
  poll : ∀ {q : DelayQ}, P q → P (q.pollExpired now).1
  clear : ∀ {q : DelayQ}, P q → P q.clear
  empty : P {}
  waker : ∀ {q : DelayQ} (b : Bool), P q → P { q with waker := b }

variable {now : Nat} {P : DelayQ → Prop}

theorem QClosed.removeTimer (hc : QClosed now P) {s : St} (h : P s.timers) (k : Nat) : P (removeTimer s k).timers := by
  rcases Flow.removeTimer_out s k with ⟨q, w, hr, e⟩ | ⟨_, e⟩ <;> rw [e]
  · have hq := hc.remove h hr
    split
    · rw [Flow.wakeDispatch_timers]; exact hq
    · exact hq
  · exact h

theorem QClosed.completeRequest (hc : QClosed now P) {s : St} (h : P s.timers) (id : Nat) (o : Outcome) :
    P (completeRequest s id o).1.timers := by
  rcases Flow.completeRequest_out s id o with ⟨_, e⟩ | ⟨_, _, e⟩ <;> rw [e]
  · exact h
  · simp only [osSend_timers]
    exact hc.removeTimer (s := { s with inflight := s.inflight.filter (·.id != id) }) h _

theorem QClosed.cancelRequest (hc : QClosed now P) {s : St} (h : P s.timers) (id : Nat) :
    P (cancelRequest s id).1.timers := by
  rcases Flow.cancelRequest_out s id with ⟨_, e⟩ | ⟨_, _, e⟩ <;> rw [e]
  · exact h
  · exact hc.removeTimer (s := { s with inflight := s.inflight.filter (·.id != id) }) h _

theorem QClosed.insertRequest (hc : QClosed now P) {s s' : St} (h : P s.timers) {r : DReq}
    (hi : insertRequest s now r = some s') : P s'.timers := by
  rcases insertRequest_some hi with ⟨-, rfl⟩ | ⟨-, q, w, -, rfl⟩ | ⟨-, q, key, w, hins, rfl⟩
  · exact h
  · exact h
  · have hq := hc.insert h hins
    split
    · rw [Flow.wakeDispatch_timers]; exact hq
    · exact hq

/-- one iteration of `poll_expired`, on the result `r` of polling the queue -/
theorem QClosed.expireWith (hc : QClosed now P) {s : St} (h : P s.timers) (r : DelayQ × DelayQ.PollRes) (hr : P r.1) :
    P (expireWith s now r).st.timers := by
  refine expireWith_cases (motive := fun st => P st.st.timers) s now r ?_ ?_ ?_ ?_ ?_
  · exact fun _ => hr
  · exact fun _ _ _ => hr
  · intro e en _ _ _
    show P (osSend _ _ _).timers
    rw [osSend_timers]; exact hr
  · -- the state is frozen as it was before the iteration: its queue is the one before the poll
    exact fun _ _ _ _ _ _ _ _ => h
  · intro e en q' key w _ _ _ hins
    have hq' := hc.insert hr hins
    show P (St.timers (if w = true then _ else _))
    split
    · rw [Flow.wakeDispatch_timers]; exact hq'
    · exact hq'

theorem QClosed.expireStep (hc : QClosed now P) {s : St} (h : P s.timers) : P (expireStep s now).st.timers :=
  hc.expireWith h _ (hc.poll h)

theorem QClosed.failAll (hc : QClosed now P) {s : St} (h : P s.timers) (a : Activity) : P (failAll s a).timers := by
  unfold Client.failAll
  simp only
  rw [foldl_field (·.timers) (fun s (e : Entry) => osSend s e.cid (.channel a)) (fun s e => osSend_timers s e.cid _)]
  exact hc.clear h

theorem QClosed.step (hc : QClosed now P) {a : Act} {s s' : St} (ha : CoreK a) (st : Step now a s s')
    (h : P s.timers) : P s'.timers := by
  have at_ : ∀ {α : Type} {p : St × α} {s1 : St} {x : α}, p = (s1, x) → P p.1.timers → P s1.timers :=
    fun e h => of_fst (P := fun S => P S.timers) e h
  have deq : ∀ {s1 : St} {x : Recv DReq}, pqRecv s = (s1, x) → P s1.timers := fun e => at_ e ((pqRecv_tm s).symm ▸ h)
  have sent : ∀ {s2 s3 : St} {m : Msg} {ok : Bool}, tSend s2 m = (s3, ok) → P s2.timers → P s3.timers :=
    fun ht h2 => at_ ht ((Flow.tSend_timers _ _).symm ▸ h2)
  cases st with
  | ready => exact (Flow.tReady_timers _).symm ▸ h
  | flush => exact (Flow.tFlush_timers _).symm ▸ h
  | spin => exact h
  | close => exact (Flow.tClose_timers _).symm ▸ h
  | pqIdle _ => exact (pqRecv_tm _).symm ▸ h
  | pqSkip e _ => exact deq e
  | reqPanic _ e _ hi _ => exact hc.insertRequest (deq e) hi
  | reqSent _ e _ hi _ ht => exact sent ht (hc.insertRequest (deq e) hi)
  | reqFailed _ e _ hi _ ht => exact hc.completeRequest (sent ht (hc.insertRequest (deq e) hi)) _ .send
  | cqIdle _ => exact (cqRecv_tm _).symm ▸ h
  | cqMiss e _ => exact at_ e ((cqRecv_tm s).symm ▸ h)
  | cancel e hc' ht => exact sent ht (at_ hc' (hc.cancelRequest (at_ e ((cqRecv_tm s).symm ▸ h)) _))
  | expire => exact hc.expireStep h
  | readIdle _ => exact (Flow.tNext_timers _).symm ▸ h
  | read e => exact hc.completeRequest (at_ e ((Flow.tNext_timers s).symm ▸ h)) _ _
  | pqClose => exact (pqClose_tm _).symm ▸ h
  | failAll _ a => exact hc.failAll h a
  | drainFail a e _ => exact (osSend_timers _ _ _).symm ▸ deq e
  | termErr _ a => exact h
  | poison _ _ => exact h
  | _ => exact False.elim ha

theorem QClosed.steps (hc : QClosed now P) {A : Act → Prop} {s s' : St} (h : P s.timers) (hA : ∀ a, A a → CoreK a)
    (hs : Steps now A s s') : P s'.timers :=
  hs.kept (P := fun S => P S.timers) (fun ha st => hc.step (hA _ ha) st) h

theorem QClosed.pollWriteRequest (hc : QClosed now P) {s : St} (h : P s.timers) :
    P (pollWriteRequest s now).1.timers := hc.steps h req_le_core (pollWriteRequest_steps s now)

theorem QClosed.pollNextCancellation (hc : QClosed now P) {s : St} (h : P s.timers) :
    P (pollNextCancellation s).1.timers :=
  (pollNextCancellation_steps now s).lift (R := fun a b => P a.timers → P b.timers) (fun _ h => h)
    (fun h1 h2 h => h2 (h1 h)) (fun ha st => hc.step (can_le_core _ (canScan_le_can _ ha)) st)
    (fun _ h => (cqRecv_tm _).symm ▸ h) (fun _ id h => hc.cancelRequest h id) h

theorem QClosed.pollWriteCancel (hc : QClosed now P) {s : St} (h : P s.timers) : P (pollWriteCancel s).1.timers :=
  hc.steps h can_le_core (pollWriteCancel_steps now s)

theorem QClosed.pollExpired (hc : QClosed now P) {s : St} (h : P s.timers) : P (pollExpired s now).1.timers :=
  hc.steps h write_le_core (pollExpired_steps now s)

theorem QClosed.pumpWrite (hc : QClosed now P) {s : St} (h : P s.timers) : P (pumpWrite s now).1.timers :=
  hc.steps h (fun a ha => round_le_core a (pump_le_round a ha)) (pumpWrite_steps now s)

theorem QClosed.pumpRead (hc : QClosed now P) {s : St} (h : P s.timers) : P (pumpRead s).1.timers :=
  hc.steps h round_le_core (pumpRead_steps now s)

theorem QClosed.pollDispatchCore (hc : QClosed now P) {s : St} (h : P s.timers) :
    P (pollDispatchCore s now).1.timers := hc.steps h (fun _ ha => ha) (pollDispatchCore_steps s now)

theorem keepFinish_tm (obs0 : List Obs) (s : St) (r : Ret) : (Flow.keepFinish obs0 s r).timers = s.timers := by
  unfold Flow.keepFinish
  split
  · rfl
  · split <;> rfl

theorem keepDone_tm (r : Ret) (s : St) : (Flow.keepDone r s).timers = s.timers := by
  cases r <;> rfl

theorem QClosed.pollDispatchKeep (hc : QClosed now P) {s : St} (h : P s.timers) :
    P (pollDispatchKeep s now).timers := by
  rw [Flow.pollDispatchKeep_eq]
  split
  · exact h
  · rw [keepDone_tm, keepFinish_tm]
    exact hc.pollDispatchCore (s := { s with dWoken := false }) h

theorem QClosed.dropDispatch (hc : QClosed now P) {s : St} (h : P s.timers) : P (dropDispatch s).timers := by
  unfold Client.dropDispatch
  split
  · exact h
  · simp only
    rw [foldl_field (·.timers) (fun s (e : Entry) => osDropTx s e.cid) (fun s (e : Entry) => osDropTx_timers s e.cid)]
    exact hc.empty

theorem QClosed.pollDispatch (hc : QClosed now P) {s : St} (h : P s.timers) : P (pollDispatch s now).timers :=
  Flow.pollDispatch_cases (motive := fun s' => P s'.timers) s now (hc.pollDispatchKeep h)
    (hc.dropDispatch (hc.pollDispatchKeep h))

theorem Park.keeps {s s' : St} (hp : Park s s') (h : P s.timers) : P s'.timers := hp.timers ▸ h

theorem QClosed.dropCall (hc : QClosed now P) {s : St} (h : P s.timers) (cid : Nat) (at_ : DropAt) :
    P (dropCall s cid at_ now).timers :=
  dropCall_kept (P := fun s => P s.timers) (park_crel.call (dropPre_steps 0 _ cid)).keeps
    (park_crel.call (dropClose_steps 0 _ cid)).keeps (park_crel.call (dropCancel_steps 0 _ cid)).keeps
    (park_crel.call (dropFinish_steps 0 _ cid)).keeps hc.pollDispatch h at_

theorem QClosed.onAdvance (hc : QClosed now P) {s : St} (h : P s.timers) (n : Nat) : P (onAdvance s n).timers := by
  unfold Client.onAdvance
  split
  · split
    · rw [Flow.wakeDispatch_timers]; exact hc.waker false h
    · exact h
  · exact h

/-- **Every operation of the client model keeps a predicate closed under the queue operations at the current clock.** -/
theorem QClosed.applyOp {c : Sys} (hc : QClosed c.now P) (h : P c.s.timers) (op : COp) :
    P (Client.applyOp c op).s.timers :=
  Flow.applyOp_cases (P := fun _ s' => P s'.timers) c op (fun _ _ _ => (park_crel.steps (newCall_steps 0 _ _ _ _)).keeps h)
    (fun _ => (park_crel.call (pollCall_steps _ _ _)).keeps h) (fun _ _ => hc.dropCall h _ _)
    (fun _ => (park_crel.steps (cloneHandle_steps 0 _ _)).keeps h) (fun _ => (park_crel.steps (dropHandle_steps 0 _ _)).keeps h)
    (hc.pollDispatch h) (hc.dropDispatch h) (fun _ => (park_liftT _ _).keeps h) (fun _ => h)
    (fun _ _ => ((park_t _ _).trans (park_took _ _)).keeps h) (fun _ => hc.onAdvance h _)

/-- with the clock: a family of predicates, each closed at its clock and monotone in the clock -/
theorem QClosed.applyOp_now (Q : Nat → DelayQ → Prop) (hc : ∀ now, QClosed now (Q now))
    (hmono : ∀ now now' q, now ≤ now' → Q now q → Q now' q) {c : Sys} (h : Q c.now c.s.timers) (op : COp) :
    Q (Client.applyOp c op).now (Client.applyOp c op).s.timers :=
  hmono _ _ _ (by rw [Client.applyOp_now]; omega) ((hc _).applyOp h op)

theorem QClosed.reach (Q : Nat → DelayQ → Prop) (hc : ∀ now, QClosed now (Q now))
    (hmono : ∀ now now' q, now ≤ now' → Q now q → Q now' q) (c : Sys) (h : Q c.now c.s.timers) (ops : List COp) :
    Q (ops.foldl Client.applyOp c).now (ops.foldl Client.applyOp c).s.timers :=
  foldl_keeps (P := fun c : Sys => Q c.now c.s.timers) (fun _ op h => QClosed.applyOp_now Q hc hmono h op) ops h

/-! ### the instance: the two-sided wheel invariant -/

/-- clamped timeouts armed before `panicFreeNs` (2^35 ms) are in the strict range of the wheel, whatever the state of
the queue: `ceilMs (now + clamp) ≤ now_ms + clamp_ms + 1 < 2^36`. -/
theorem clamp_inRangeStrict (hf : ClampFits) (q : DelayQ) (now t : Nat) (hn : now < panicFreeNs) :
    DelayQ.InRangeStrict q now (clampTimeout t) :=
  DelayQ.inRangeStrict_of_clamp q hn (clampTimeout_le hf.1 t) hf.2

theorem complete_clear (q : DelayQ) : DelayQ.Complete q.clear :=
  ⟨⟨by simp [DelayQ.clear], by simp [DelayQ.clear]⟩, ⟨fun _ => rfl, by simp [DelayQ.clear]⟩, by simp [DelayQ.clear]⟩

/-- the timer queue satisfies the two-sided wheel invariant (while the clock is below `2^35` ms) -/
def QC (now : Nat) (q : DelayQ) : Prop := now < panicFreeNs → DelayQ.Complete q

theorem qc_mono (now now' : Nat) (q : DelayQ) (hle : now ≤ now') (h : QC now q) : QC now' q :=
  fun hn => h (Nat.lt_of_le_of_lt hle hn)

theorem qc_closed (hf : ClampFits) (now : Nat) : QClosed now (QC now) where
  insert := fun h hi hn => DelayQ.insert_complete hi (h hn) (clamp_inRangeStrict hf _ now _ hn)
  remove := fun h hr hn => DelayQ.remove_complete hr (h hn)
  poll := fun h hn => (DelayQ.pollExpired_complete now (h hn)).1
  clear := fun _ _ => complete_clear _
  empty := fun _ => DelayQ.Complete_empty
  waker := fun b h hn => (h hn).waker b

theorem complete_closed (hf : ClampFits) {now : Nat} (hn : now < panicFreeNs) : QClosed now DelayQ.Complete :=
  have h := qc_closed hf now
  ⟨fun hq hi => h.insert (fun _ => hq) hi hn, fun hq hr => h.remove (fun _ => hq) hr hn,
    fun hq => h.poll (fun _ => hq) hn, fun hq => h.clear (fun _ => hq) hn, h.empty hn,
    fun b hq => h.waker b (fun _ => hq) hn⟩

/-- **Bridge (client).**  In every reachable state whose clock is below `2^35` ms, the dispatch's `DelayQueue`
satisfies the two-sided wheel invariant. -/
theorem qc_reach (hf : ClampFits) (m b tc : Nat) (coupled : Bool) (ops : List COp) :
    QC (ops.foldl applyOp (initSys m b tc coupled)).now (ops.foldl applyOp (initSys m b tc coupled)).s.timers :=
  QClosed.reach QC (qc_closed hf) qc_mono _
    (fun _ => DelayQ.Complete_empty) ops

end TarpcModel.Client
