import TarpcModel.Lemmas.ClientFlow
import TarpcModel.Lemmas.Basic
/-!
The state invariant behind the client-side properties C01, C03, C18.

`view : St → View` is the part of the state it talks about: the calls (`CallV`), the two queues, the in-flight table, the id
counters (`nextId` for request ids, `nextFresh` for the span ids drawn with them: two fields of the model that move together,
`Inv.fresh`), the transport's `sentLog`, `poisoned`, the handles, and `rel` — the observations of the current op that the
monitors' bookkeeping reacts to (`relevant`).

`Inv x v`: ids (distinct per polled call, below the counter, child trace = caller's trace with span `fresh id`); tracking
(every queued request / in-flight entry belongs to one enqueued call whose oneshot is still empty; an id is in at most one
of the two); the wire (`Request id` at most once; in flight ⇒ written; `Cancel id` once, after `Request id`, not in flight,
receiver closed, call not resolved from a reply) — the clauses relating the table to the wire for `poisoned = false` only.
It is kept by the view-level transitions that `Lemmas/ClientPres.lean` collects: one call makes a `CallStep`
(`Inv.call_step`), or a queue / the table shrinks or grows by one element.
-/
namespace TarpcModel.Client

@[simp] theorem emit_obs (s : St) (o : Obs) : (emit s o).obs = o :: s.obs := rfl
theorem emit_eq (s : St) (o : Obs) : emit s o = { s with obs := o :: s.obs } := rfl

theorem completeRequest_unknown (s : St) (id : Nat) (o : Outcome) (h : findEntry s id = none) :
    completeRequest s id o = (s, false) := by
  rcases Flow.completeRequest_out s id o with ⟨_, e⟩ | ⟨_, he, _⟩
  · exact e
  · rw [h] at he; cases he

theorem tNext_item (s : St) (m : Msg) (rest : List Inb)
    (hf : s.readFused = false) (hfault : s.t.faultNext = false) (hin : s.t.inbound = .msg m :: rest) :
    tNext s = ({ s with t := { s.t with inbound := rest }, obs := .tNext (tid s) (.item m) :: s.obs }, .item m) := by
  simp [tNext, hf, SimT.pollNext, SimT.fires, SimT.letThrough, hfault, hin, emit]

theorem pumpRead_unknown_id (s : St) (id : Nat) (res : Res) (rest : List Inb)
    (hf : s.readFused = false) (hfault : s.t.faultNext = false)
    (hin : s.t.inbound = .msg (.response id res) :: rest)
    (hun : findEntry s id = none) :
    (pumpRead s).1 =
      { s with t := { s.t with inbound := rest }, obs := .tNext (tid s) (.item (.response id res)) :: s.obs } := by
  unfold pumpRead
  rw [tNext_item s _ rest hf hfault hin]
  simp only
  rw [completeRequest_unknown _ _ _ (by exact hun)]

/-! ### field frame lemmas for the primitive updates -/

@[simp] theorem emit_k (s : St) (o : Obs) : (emit s o).k = s.k := by rfl
@[simp] theorem emit_maxInFlight (s : St) (o : Obs) : (emit s o).maxInFlight = s.maxInFlight := by rfl
@[simp] theorem emit_bufCap (s : St) (o : Obs) : (emit s o).bufCap = s.bufCap := by rfl
@[simp] theorem emit_ensureLoop (s : St) (o : Obs) : (emit s o).ensureLoop = s.ensureLoop := by rfl
@[simp] theorem emit_handles (s : St) (o : Obs) : (emit s o).handles = s.handles := by rfl
@[simp] theorem emit_nextHandle (s : St) (o : Obs) : (emit s o).nextHandle = s.nextHandle := by rfl
@[simp] theorem emit_nextId (s : St) (o : Obs) : (emit s o).nextId = s.nextId := by rfl
@[simp] theorem emit_nextFresh (s : St) (o : Obs) : (emit s o).nextFresh = s.nextFresh := by rfl
@[simp] theorem emit_calls (s : St) (o : Obs) : (emit s o).calls = s.calls := by rfl
@[simp] theorem emit_pq (s : St) (o : Obs) : (emit s o).pq = s.pq := by rfl
@[simp] theorem emit_pqAvail (s : St) (o : Obs) : (emit s o).pqAvail = s.pqAvail := by rfl
@[simp] theorem emit_pqWaiters (s : St) (o : Obs) : (emit s o).pqWaiters = s.pqWaiters := by rfl
@[simp] theorem emit_pqClosed (s : St) (o : Obs) : (emit s o).pqClosed = s.pqClosed := by rfl
@[simp] theorem emit_pqRxWaker (s : St) (o : Obs) : (emit s o).pqRxWaker = s.pqRxWaker := by rfl
@[simp] theorem emit_cq (s : St) (o : Obs) : (emit s o).cq = s.cq := by rfl
@[simp] theorem emit_cqRxWaker (s : St) (o : Obs) : (emit s o).cqRxWaker = s.cqRxWaker := by rfl
@[simp] theorem emit_timers (s : St) (o : Obs) : (emit s o).timers = s.timers := by rfl
@[simp] theorem emit_termErr (s : St) (o : Obs) : (emit s o).termErr = s.termErr := by rfl
@[simp] theorem emit_readFused (s : St) (o : Obs) : (emit s o).readFused = s.readFused := by rfl
@[simp] theorem emit_done (s : St) (o : Obs) : (emit s o).done = s.done := by rfl
@[simp] theorem emit_dWoken (s : St) (o : Obs) : (emit s o).dWoken = s.dWoken := by rfl
@[simp] theorem emit_poisoned (s : St) (o : Obs) : (emit s o).poisoned = s.poisoned := by rfl
@[simp] theorem emit_t (s : St) (o : Obs) : (emit s o).t = s.t := by rfl
@[simp] theorem tid_emit (s : St) (o : Obs) : tid (emit s o) = tid s := rfl
@[simp] theorem wakeDispatch_cqRxWaker (s : St)  : (wakeDispatch s ).cqRxWaker = s.cqRxWaker :=
  Flow.wakeDispatch_cqRxWaker s
@[simp] theorem updCall_obs (s : St) (cid : Nat) (f : Call → Call) : (updCall s cid f).obs = s.obs := rfl
theorem wakeCall_eq (s : St) (cid : Nat) :
    wakeCall s cid = { s with calls := (wakeCall s cid).calls, obs := (wakeCall s cid).obs } := by
  obtain ⟨cs, os, h⟩ := Flow.wakeCall_only s cid
  rw [h]
@[simp] theorem wakeCall_pq (s : St) (cid : Nat) : (wakeCall s cid).pq = s.pq := by rw [wakeCall_eq]
@[simp] theorem wakeCall_pqWaiters (s : St) (cid : Nat) : (wakeCall s cid).pqWaiters = s.pqWaiters := by rw [wakeCall_eq]
@[simp] theorem wakeCall_pqAssigned (s : St) (cid : Nat) : (wakeCall s cid).pqAssigned = s.pqAssigned := by rw [wakeCall_eq]
@[simp] theorem wakeCall_pqClosed (s : St) (cid : Nat) : (wakeCall s cid).pqClosed = s.pqClosed := by rw [wakeCall_eq]
@[simp] theorem wakeCall_pqRxWaker (s : St) (cid : Nat) : (wakeCall s cid).pqRxWaker = s.pqRxWaker := by rw [wakeCall_eq]
@[simp] theorem wakeCall_inflight (s : St) (cid : Nat) : (wakeCall s cid).inflight = s.inflight := by rw [wakeCall_eq]
@[simp] theorem wakeCall_timers (s : St) (cid : Nat) : (wakeCall s cid).timers = s.timers := by rw [wakeCall_eq]
@[simp] theorem wakeCall_done (s : St) (cid : Nat) : (wakeCall s cid).done = s.done := by rw [wakeCall_eq]
@[simp] theorem wakeCall_dDropped (s : St) (cid : Nat) : (wakeCall s cid).dDropped = s.dDropped := by rw [wakeCall_eq]
@[simp] theorem wakeCall_dWoken (s : St) (cid : Nat) : (wakeCall s cid).dWoken = s.dWoken := by rw [wakeCall_eq]
@[simp] theorem wakeCall_poisoned (s : St) (cid : Nat) : (wakeCall s cid).poisoned = s.poisoned := by rw [wakeCall_eq]
theorem osSend_eq (s : St) (cid : Nat) (o : Outcome) :
    osSend s cid o = { s with calls := (osSend s cid o).calls, obs := (osSend s cid o).obs } := by
  obtain ⟨cs, os, h⟩ := Flow.osSend_only s cid o
  rw [h]
@[simp] theorem osSend_k (s : St) (cid : Nat) (o : Outcome) : (osSend s cid o).k = s.k := by rw [osSend_eq]
@[simp] theorem osSend_bufCap (s : St) (cid : Nat) (o : Outcome) : (osSend s cid o).bufCap = s.bufCap := by rw [osSend_eq]
@[simp] theorem osSend_ensureLoop (s : St) (cid : Nat) (o : Outcome) : (osSend s cid o).ensureLoop = s.ensureLoop := by rw [osSend_eq]
@[simp] theorem osSend_handles (s : St) (cid : Nat) (o : Outcome) : (osSend s cid o).handles = s.handles := by rw [osSend_eq]
@[simp] theorem osSend_nextHandle (s : St) (cid : Nat) (o : Outcome) : (osSend s cid o).nextHandle = s.nextHandle := by rw [osSend_eq]
@[simp] theorem osSend_nextId (s : St) (cid : Nat) (o : Outcome) : (osSend s cid o).nextId = s.nextId := by rw [osSend_eq]
@[simp] theorem osSend_nextFresh (s : St) (cid : Nat) (o : Outcome) : (osSend s cid o).nextFresh = s.nextFresh := by rw [osSend_eq]
@[simp] theorem osSend_pq (s : St) (cid : Nat) (o : Outcome) : (osSend s cid o).pq = s.pq := by rw [osSend_eq]
@[simp] theorem osSend_pqAvail (s : St) (cid : Nat) (o : Outcome) : (osSend s cid o).pqAvail = s.pqAvail := by rw [osSend_eq]
@[simp] theorem osSend_pqWaiters (s : St) (cid : Nat) (o : Outcome) : (osSend s cid o).pqWaiters = s.pqWaiters := by rw [osSend_eq]
@[simp] theorem osSend_pqAssigned (s : St) (cid : Nat) (o : Outcome) : (osSend s cid o).pqAssigned = s.pqAssigned := by rw [osSend_eq]
@[simp] theorem osSend_pqClosed (s : St) (cid : Nat) (o : Outcome) : (osSend s cid o).pqClosed = s.pqClosed := by rw [osSend_eq]
@[simp] theorem osSend_pqRxWaker (s : St) (cid : Nat) (o : Outcome) : (osSend s cid o).pqRxWaker = s.pqRxWaker := by rw [osSend_eq]
@[simp] theorem osSend_cq (s : St) (cid : Nat) (o : Outcome) : (osSend s cid o).cq = s.cq := by rw [osSend_eq]
@[simp] theorem osSend_cqRxWaker (s : St) (cid : Nat) (o : Outcome) : (osSend s cid o).cqRxWaker = s.cqRxWaker := by rw [osSend_eq]
@[simp] theorem osSend_inflight (s : St) (cid : Nat) (o : Outcome) : (osSend s cid o).inflight = s.inflight := by rw [osSend_eq]
@[simp] theorem osSend_timers (s : St) (cid : Nat) (o : Outcome) : (osSend s cid o).timers = s.timers := by rw [osSend_eq]
@[simp] theorem osSend_readFused (s : St) (cid : Nat) (o : Outcome) : (osSend s cid o).readFused = s.readFused := by rw [osSend_eq]
@[simp] theorem osSend_done (s : St) (cid : Nat) (o : Outcome) : (osSend s cid o).done = s.done := by rw [osSend_eq]
@[simp] theorem osSend_dDropped (s : St) (cid : Nat) (o : Outcome) : (osSend s cid o).dDropped = s.dDropped := by rw [osSend_eq]
@[simp] theorem osSend_dWoken (s : St) (cid : Nat) (o : Outcome) : (osSend s cid o).dWoken = s.dWoken := by rw [osSend_eq]
@[simp] theorem osSend_poisoned (s : St) (cid : Nat) (o : Outcome) : (osSend s cid o).poisoned = s.poisoned := by rw [osSend_eq]
theorem osDropTx_eq (s : St) (cid : Nat) :
    osDropTx s cid = { s with calls := (osDropTx s cid).calls, obs := (osDropTx s cid).obs } := by
  rcases Flow.osDropTx_out s cid with ⟨_, e⟩ | ⟨c, _, _, e⟩ <;> rw [e]
  split
  · rw [wakeCall_eq]; rfl
  · rfl
@[simp] theorem osDropTx_k (s : St) (cid : Nat) : (osDropTx s cid).k = s.k := by rw [osDropTx_eq]
@[simp] theorem osDropTx_bufCap (s : St) (cid : Nat) : (osDropTx s cid).bufCap = s.bufCap := by rw [osDropTx_eq]
@[simp] theorem osDropTx_ensureLoop (s : St) (cid : Nat) : (osDropTx s cid).ensureLoop = s.ensureLoop := by rw [osDropTx_eq]
@[simp] theorem osDropTx_handles (s : St) (cid : Nat) : (osDropTx s cid).handles = s.handles := by rw [osDropTx_eq]
@[simp] theorem osDropTx_nextHandle (s : St) (cid : Nat) : (osDropTx s cid).nextHandle = s.nextHandle := by rw [osDropTx_eq]
@[simp] theorem osDropTx_nextId (s : St) (cid : Nat) : (osDropTx s cid).nextId = s.nextId := by rw [osDropTx_eq]
@[simp] theorem osDropTx_nextFresh (s : St) (cid : Nat) : (osDropTx s cid).nextFresh = s.nextFresh := by rw [osDropTx_eq]
@[simp] theorem osDropTx_pq (s : St) (cid : Nat) : (osDropTx s cid).pq = s.pq := by rw [osDropTx_eq]
@[simp] theorem osDropTx_pqAvail (s : St) (cid : Nat) : (osDropTx s cid).pqAvail = s.pqAvail := by rw [osDropTx_eq]
@[simp] theorem osDropTx_pqWaiters (s : St) (cid : Nat) : (osDropTx s cid).pqWaiters = s.pqWaiters := by rw [osDropTx_eq]
@[simp] theorem osDropTx_pqAssigned (s : St) (cid : Nat) : (osDropTx s cid).pqAssigned = s.pqAssigned := by rw [osDropTx_eq]
@[simp] theorem osDropTx_pqClosed (s : St) (cid : Nat) : (osDropTx s cid).pqClosed = s.pqClosed := by rw [osDropTx_eq]
@[simp] theorem osDropTx_pqRxWaker (s : St) (cid : Nat) : (osDropTx s cid).pqRxWaker = s.pqRxWaker := by rw [osDropTx_eq]
@[simp] theorem osDropTx_cq (s : St) (cid : Nat) : (osDropTx s cid).cq = s.cq := by rw [osDropTx_eq]
@[simp] theorem osDropTx_cqRxWaker (s : St) (cid : Nat) : (osDropTx s cid).cqRxWaker = s.cqRxWaker := by rw [osDropTx_eq]
@[simp] theorem osDropTx_inflight (s : St) (cid : Nat) : (osDropTx s cid).inflight = s.inflight := by rw [osDropTx_eq]
@[simp] theorem osDropTx_timers (s : St) (cid : Nat) : (osDropTx s cid).timers = s.timers := by rw [osDropTx_eq]
@[simp] theorem osDropTx_readFused (s : St) (cid : Nat) : (osDropTx s cid).readFused = s.readFused := by rw [osDropTx_eq]
@[simp] theorem osDropTx_done (s : St) (cid : Nat) : (osDropTx s cid).done = s.done := by rw [osDropTx_eq]
@[simp] theorem osDropTx_dDropped (s : St) (cid : Nat) : (osDropTx s cid).dDropped = s.dDropped := by rw [osDropTx_eq]
@[simp] theorem osDropTx_dWoken (s : St) (cid : Nat) : (osDropTx s cid).dWoken = s.dWoken := by rw [osDropTx_eq]
@[simp] theorem osDropTx_poisoned (s : St) (cid : Nat) : (osDropTx s cid).poisoned = s.poisoned := by rw [osDropTx_eq]

/-- What one wake does to a call record. -/
def wokenC (c : Call) : Call := { c with woken := true }

/-! ### the stages of `dropDispatch` -/

/-- dropping the queued requests (with their oneshot senders) -/
def dropQ (s : St) : St :=
  s.pq.foldl (fun s r => osDropTx s r.cid) { s with pq := [], pqAvail := s.bufCap - s.pqAssigned.length }

/-- dropping the in-flight table (with the oneshot senders) -/
def dropI (s : St) : St :=
  s.inflight.foldl (fun s e => osDropTx s e.cid) { s with inflight := [], timers := {} }

theorem dropDispatch_stages (s : St) : dropDispatch s =
    if (s.dDropped || s.poisoned) = true then emit s .noop
    else { dropI (dropQ (pqClose { s with dDropped := true, dWoken := false })) with cq := [] } := by
  unfold dropDispatch dropQ dropI
  split <;> rfl

/-! ### the view: the part of the state the id / wire invariants talk about -/

structure CallV where
  cid : Nat
  ctx : Ctx
  body : Nat
  phase : Phase
  id : Nat
  trace : Trace
  rxClosed : Bool
  val : Option Outcome
  outcome : Option Outcome
deriving DecidableEq

def Call.v (c : Call) : CallV :=
  { cid := c.cid, ctx := c.ctx, body := c.body, phase := c.phase, id := c.id, trace := c.trace,
    rxClosed := c.os.rxClosed, val := c.os.val, outcome := c.outcome }

/-- The observations the bookkeeping of the C01 / C03 / C18 monitors reacts to. -/
def relevant : Obs → Bool
  | .tSend _ _ _ => true
  | .tNext _ (.item (.response _ _)) => true
  | .resolved _ _ _ => true
  | .spin _ => true
  | .panic _ _ => true
  | _ => false

structure View where
  calls : List CallV
  pq : List DReq
  cq : List Nat
  inflight : List Entry
  nextId : Nat
  nextFresh : Nat
  sentLog : List Msg
  poisoned : Bool
  /-- the relevant observations of the current op, most recent first -/
  rel : List Obs
  handles : List Nat
  nextHandle : Nat

def view (s : St) : View :=
  { calls := s.calls.map Call.v, pq := s.pq, cq := s.cq, inflight := s.inflight, nextId := s.nextId,
    nextFresh := s.nextFresh, sentLog := s.t.sentLog, poisoned := s.poisoned, rel := s.obs.filter relevant,
    handles := s.handles, nextHandle := s.nextHandle }

def View.get (v : View) (cid : Nat) : Option CallV := v.calls.find? (·.cid == cid)

/-- Update of the calls with id `cid` (`cid` itself is kept). -/
def View.upd (v : View) (cid : Nat) (g : CallV → CallV) : View :=
  { v with calls := v.calls.map (fun c => if c.cid == cid then { g c with cid := c.cid } else c) }

theorem view_get (s : St) (cid : Nat) : (view s).get cid = (getCall s cid).map Call.v := by
  simp only [View.get, view, getCall, List.find?_map]
  congr

theorem view_getCall_some {s : St} {cid : Nat} {c : Call} (h : getCall s cid = some c) :
    (view s).get cid = some c.v := by simp [view_get, h]

theorem view_getCall_none {s : St} {cid : Nat} (h : getCall s cid = none) :
    (view s).get cid = none := by simp [view_get, h]

theorem getCall_cid {s : St} {cid : Nat} {c : Call} (h : getCall s cid = some c) : c.cid = cid := by
  simpa using List.find?_some h

theorem View.get_cid {v : View} {cid : Nat} {c : CallV} (h : v.get cid = some c) : c.cid = cid := by
  simpa using List.find?_some h

theorem View.get_mem {v : View} {cid : Nat} {c : CallV} (h : v.get cid = some c) : c ∈ v.calls :=
  List.mem_of_find?_eq_some h

theorem View.get_upd (v : View) (cid : Nat) (g : CallV → CallV) (i : Nat) :
    (v.upd cid g).get i = if i = cid then (v.get i).map (fun c => { g c with cid := c.cid }) else v.get i := by
  -- the update keeps every `cid`, so the search finds the image of what it found before
  have hp : ((fun c : CallV => c.cid == i) ∘ fun c => if c.cid == cid then { g c with cid := c.cid } else c)
      = fun c => c.cid == i := by
    funext c; dsimp only [Function.comp]; split <;> rfl
  unfold View.get View.upd
  rw [List.find?_map, hp]
  cases hc : v.calls.find? (fun c => c.cid == i) with
  | none => split <;> rfl
  | some c =>
    have hi : c.cid = i := by simpa using List.find?_some hc
    subst hi
    by_cases h : c.cid = cid <;> simp [h]

theorem view_updCall (s : St) (cid : Nat) (f : Call → Call) (g : CallV → CallV)
    (_hcid : ∀ c, (f c).cid = c.cid) (h : ∀ c, (f c).v = { g c.v with cid := c.cid }) :
    view (updCall s cid f) = (view s).upd cid g := by
  simp only [view, updCall, View.upd, List.map_map]
  congr 1
  apply List.map_congr_left
  intro c _
  by_cases hc : c.cid = cid
  · simp only [Function.comp, hc, beq_self_eq_true, ↓reduceIte, h]
    simp [Call.v, hc]
  · simp [hc, Call.v]

theorem view_updCall_same (s : St) (cid : Nat) (f : Call → Call) (h : ∀ c, (f c).v = c.v) :
    view (updCall s cid f) = view s := by
  simp only [view, updCall, List.map_map]
  congr 1
  apply List.map_congr_left
  intro c _
  by_cases hc : c.cid = cid <;> simp [hc, h]

theorem view_emit (s : St) (o : Obs) :
    view (emit s o) = if relevant o then { view s with rel := o :: (view s).rel } else view s := by
  by_cases h : relevant o = true
  · simp [view, emit, h]
  · simp [view, emit, h]

theorem view_emit_irr (s : St) (o : Obs) (h : relevant o = false) : view (emit s o) = view s := by
  simp [view_emit, h]

theorem view_emit_rel (s : St) (o : Obs) (h : relevant o = true) :
    view (emit s o) = { view s with rel := o :: (view s).rel } := by
  simp [view_emit, h]

@[simp] theorem view_wakeDispatch (s : St) : view (wakeDispatch s) = view s := by
  rcases Flow.wakeDispatch_out s with ⟨_, e⟩ | ⟨_, e⟩ <;> rw [e]
  rw [view_emit_irr _ _ rfl]; rfl

@[simp] theorem view_wakeCall (s : St) (cid : Nat) : view (wakeCall s cid) = view s := by
  rcases Flow.wakeCall_out s cid with ⟨_, _, _, e⟩ | ⟨_, e⟩ <;> rw [e]
  rw [view_emit_irr _ _ rfl]; exact view_updCall_same _ _ _ (fun c => rfl)

@[simp] theorem view_osDropTx (s : St) (cid : Nat) : view (osDropTx s cid) = view s := by
  rcases Flow.osDropTx_out s cid with ⟨_, e⟩ | ⟨_, _, _, e⟩ <;> rw [e]
  split
  · rw [view_wakeCall]; exact view_updCall_same _ _ _ (fun c => rfl)
  · exact view_updCall_same _ _ _ (fun c => rfl)

def View.send (v : View) (cid : Nat) (o : Outcome) : View :=
  match v.get cid with
  | none => v
  | some c => if c.rxClosed then v else v.upd cid (fun c => { c with val := some o })

theorem view_osSend' (s : St) (cid : Nat) (o : Outcome) : view (osSend s cid o) = (view s).send cid o := by
  unfold View.send
  rcases Flow.osSend_out s cid o with ⟨hc, e⟩ | ⟨c, hg, hc, e⟩ <;> rw [e]
  · cases hg : getCall s cid with
    | none => rw [view_getCall_none hg]
    | some c => rw [view_getCall_some hg]; simp [show c.v.rxClosed = true from hc c hg]
  · have hv : c.v.rxClosed = false := hc
    simp only [view_getCall_some hg, hv, Bool.false_eq_true, ↓reduceIte]
    have := view_updCall s cid (fun c => { c with os := { c.os with val := some o, rxWaker := false } })
      (fun c => { c with val := some o }) (fun _ => rfl) (fun _ => rfl)
    split
    · rw [view_wakeCall]; exact this
    · exact this

/-! ### the invariant -/

def reqIds (l : List Msg) : List Nat :=
  l.filterMap (fun m => match m with | .request id _ _ _ => some id | _ => none)

def cancelIds (l : List Msg) : List Nat :=
  l.filterMap (fun m => match m with | .cancel id _ => some id | _ => none)

/-- the outcome is a server reply (`Ok` or a server-side error), i.e. it came from a `Response` -/
def okLike : Option Outcome → Bool
  | some (.ok _) => true
  | some (.server _) => true
  | _ => false

/-- the call has been polled at least once (it owns a request id) -/
def CallV.polled (c : CallV) : Prop :=
  c.phase = .reserving ∨ c.phase = .awaiting ∨ c.phase = .resolved ∨ (c.phase = .dropped ∧ c.rxClosed = true)

/-- the request of this call has been handed to the request queue -/
def CallV.enq (c : CallV) : Prop :=
  c.phase = .awaiting ∨ c.phase = .resolved ∨ (c.phase = .dropped ∧ c.rxClosed = true)

theorem CallV.enq.polled {c : CallV} (h : c.enq) : c.polled := by
  unfold CallV.enq at h; unfold CallV.polled; grind

/-- `x`: an id that has just been inserted in the in-flight table and whose `Request` is about to be
written (`pollWriteRequest` inserts before it writes). -/
structure Inv (x : Option Nat) (v : View) : Prop where
  cids : v.calls.map (·.cid) = List.range v.calls.length
  cidLt : ∀ i c, v.get i = some c → i < v.calls.length
  fresh : v.nextFresh = v.nextId
  idLt : ∀ i c, v.get i = some c → c.polled → c.id < v.nextId
  idInj : ∀ i j c d, v.get i = some c → v.get j = some d → c.polled → d.polled → c.id = d.id → i = j
  tr : ∀ i c, v.get i = some c → c.polled → c.trace = { c.ctx.trace with span := .fresh c.id }
  outc : ∀ i c, v.get i = some c → (c.outcome.isSome ↔ c.phase = .resolved)
  np : ∀ i c, v.get i = some c → c.phase = .notPolled → c.rxClosed = false
  early : ∀ i c, v.get i = some c → (c.phase = .notPolled ∨ c.phase = .reserving) → c.val = none
  pq : ∀ r ∈ v.pq, ∃ c, v.get r.cid = some c ∧ c.enq ∧ c.id = r.id ∧ r.body = c.body ∧
        r.ctx = { deadline := c.ctx.deadline, trace := c.trace } ∧ c.val = none ∧ okLike c.outcome = false ∧
        (c.rxClosed = false → c.phase = .awaiting)
  pqNodup : (v.pq.map (·.id)).Nodup
  inf : ∀ e ∈ v.inflight, ∃ c, v.get e.cid = some c ∧ c.enq ∧ c.id = e.id ∧
        e.ctx = { deadline := c.ctx.deadline, trace := c.trace } ∧ c.val = none ∧ okLike c.outcome = false
  infNodup : (v.inflight.map (·.id)).Nodup
  disj : ∀ r ∈ v.pq, ∀ e ∈ v.inflight, r.id ≠ e.id
  cq : ∀ id ∈ v.cq, ∃ i c, v.get i = some c ∧ c.polled ∧ c.id = id ∧ c.rxClosed = true
  reqNodup : (reqIds v.sentLog).Nodup
  pqNotSent : ∀ r ∈ v.pq, r.id ∉ reqIds v.sentLog
  infSent : v.poisoned = false → ∀ e ∈ v.inflight, some e.id ≠ x → e.id ∈ reqIds v.sentLog
  xNotSent : v.poisoned = false → ∀ id, x = some id → id ∉ reqIds v.sentLog
  reqCall : ∀ id dl tr body, Msg.request id dl tr body ∈ v.sentLog →
        ∃ i c, v.get i = some c ∧ c.enq ∧ c.id = id ∧ tr = c.trace ∧ body = c.body ∧ dl = c.ctx.deadline
  canNodup : (cancelIds v.sentLog).Nodup
  canCall : ∀ id tr, Msg.cancel id tr ∈ v.sentLog →
        (v.poisoned = false → id ∈ reqIds v.sentLog) ∧ (∀ e ∈ v.inflight, e.id ≠ id) ∧
        ∃ i c, v.get i = some c ∧ c.polled ∧ c.id = id ∧ tr = c.trace ∧ c.rxClosed = true ∧
          okLike c.outcome = false ∧ okLike c.val = false
  canAfter : v.poisoned = false → ∀ l1 id tr l2, v.sentLog = l1 ++ Msg.cancel id tr :: l2 → id ∈ reqIds l1

theorem Inv.of_eq {x : Option Nat} {v v' : View} (h : v' = v) (hi : Inv x v) : Inv x v' := h ▸ hi

theorem Inv.get_of_mem {x : Option Nat} {v : View} (hi : Inv x v) {c : CallV} (hc : c ∈ v.calls) :
    v.get c.cid = some c :=
  -- the ids are `0, 1, …` hence pairwise distinct
  find?_of_map_nodup (fun c : CallV => c.cid) (by rw [hi.cids]; exact List.nodup_range) hc

/-- What an update of one call may do to it; a call that becomes polled draws the id `n` (the counter goes to `n'`). -/
structure CallStep (n n' : Nat) (c c' : CallV) : Prop where
  cid : c'.cid = c.cid
  ctx : c'.ctx = c.ctx
  body : c'.body = c.body
  kept : c.polled → c'.polled ∧ c'.id = c.id ∧ c'.trace = c.trace
  drawn : c'.polled → ¬ c.polled → c'.id = n ∧ n < n' ∧ c'.trace = { c.ctx.trace with span := .fresh n }
  enq : c.enq → c'.enq
  rx : c.rxClosed = true → c'.rxClosed = true
  outc : c'.outcome.isSome ↔ c'.phase = .resolved
  np : c'.phase = .notPolled → c'.rxClosed = false
  early : (c'.phase = .notPolled ∨ c'.phase = .reserving) → c'.val = none

theorem CallStep.of_same {n n' : Nat} {c c' : CallV} (cid : c'.cid = c.cid) (ctx : c'.ctx = c.ctx)
    (body : c'.body = c.body) (id : c'.id = c.id) (trace : c'.trace = c.trace) (pol : c'.polled ↔ c.polled)
    (enq : c.enq → c'.enq) (rx : c.rxClosed = true → c'.rxClosed = true)
    (outc : c'.outcome.isSome ↔ c'.phase = .resolved) (np : c'.phase = .notPolled → c'.rxClosed = false)
    (early : (c'.phase = .notPolled ∨ c'.phase = .reserving) → c'.val = none) : CallStep n n' c c' :=
  ⟨cid, ctx, body, fun hp => ⟨pol.mpr hp, id, trace⟩, fun hp hn => absurd (pol.mp hp) hn, enq, rx, outc, np, early⟩

/-- Generic preservation: the views differ only in the call `cid`, which made a `CallStep`, and the
new call record still satisfies what its roles (queued / in flight / cancelled) demand. -/
theorem Inv.call_step {x : Option Nat} {v v' : View} (hi : Inv x v) {cid : Nat} {c c' : CallV}
    (hc : v.get cid = some c) (hc' : v'.get cid = some c') (hoth : ∀ i, i ≠ cid → v'.get i = v.get i)
    (hcids : v'.calls.map (·.cid) = v.calls.map (·.cid))
    (hpq : v'.pq = v.pq) (hcq : v'.cq = v.cq) (hinf : v'.inflight = v.inflight)
    (hnf : v'.nextFresh = v'.nextId) (hlog : v'.sentLog = v.sentLog) (hpois : v'.poisoned = v.poisoned)
    (hle : v.nextId ≤ v'.nextId) (st : CallStep v.nextId v'.nextId c c')
    (queued : ∀ r ∈ v.pq, r.cid = cid →
        c'.val = none ∧ okLike c'.outcome = false ∧ (c'.rxClosed = false → c'.phase = .awaiting))
    (inFlight : ∀ e ∈ v.inflight, e.cid = cid → c'.val = none ∧ okLike c'.outcome = false)
    (cancelled : ∀ tr, Msg.cancel c.id tr ∈ v.sentLog → okLike c'.outcome = false ∧ okLike c'.val = false) :
    Inv x v' := by
  have hlen : v'.calls.length = v.calls.length := by
    have := congrArg List.length hcids; simpa using this
  -- every call made a step (all but `cid` a trivial one)
  have same : ∀ i d, v.get i = some d → CallStep v.nextId v'.nextId d d := fun i d hd =>
    .of_same rfl rfl rfl rfl rfl Iff.rfl id id (hi.outc i d hd) (hi.np i d hd) (hi.early i d hd)
  have forth : ∀ i d, v.get i = some d →
      ∃ d', v'.get i = some d' ∧ CallStep v.nextId v'.nextId d d' ∧ (i ≠ cid → d' = d) := by
    intro i d hd
    by_cases e : i = cid
    · subst e; rw [hc] at hd; cases hd; exact ⟨c', hc', st, fun h => absurd rfl h⟩
    · exact ⟨d, by rw [hoth i e]; exact hd, same i d hd, fun _ => rfl⟩
  have back : ∀ i d', v'.get i = some d' →
      ∃ d, v.get i = some d ∧ CallStep v.nextId v'.nextId d d' ∧ (i ≠ cid → d' = d) := by
    intro i d' hd'
    by_cases e : i = cid
    · subst e; rw [hc'] at hd'; cases hd'; exact ⟨c, hc, st, fun h => absurd rfl h⟩
    · rw [hoth i e] at hd'; exact ⟨d', hd', same i d' hd', fun _ => rfl⟩
  -- a polled call of `v'` was polled before, with the same id and trace, or has just drawn `v.nextId`
  have pol : ∀ {d d'}, CallStep v.nextId v'.nextId d d' → d'.polled →
      (d.polled ∧ d'.id = d.id ∧ d'.trace = d.trace) ∨
      (¬ d.polled ∧ d'.id = v.nextId ∧ v.nextId < v'.nextId ∧ d'.trace = { d.ctx.trace with span := .fresh v.nextId }) := by
    intro d d' s hp
    by_cases hd : d.polled
    · exact Or.inl ⟨hd, (s.kept hd).2⟩
    · exact Or.inr ⟨hd, s.drawn hp hd⟩
  constructor
  · rw [hcids, hlen]; exact hi.cids
  · intro i d' h; obtain ⟨d, hd, -, -⟩ := back i d' h; rw [hlen]; exact hi.cidLt i d hd
  · exact hnf
  · intro i d' h hp
    obtain ⟨d, hd, s, -⟩ := back i d' h
    rcases pol s hp with ⟨pd, e, -⟩ | ⟨-, e, lt, -⟩
    · rw [e]; exact Nat.lt_of_lt_of_le (hi.idLt i d hd pd) hle
    · rw [e]; exact lt
  · intro i j d1' d2' h1 h2 p1 p2 hid
    obtain ⟨d1, hd1, s1, o1⟩ := back i d1' h1
    obtain ⟨d2, hd2, s2, o2⟩ := back j d2' h2
    rcases pol s1 p1 with ⟨q1, e1, -⟩ | ⟨n1, e1, -⟩ <;> rcases pol s2 p2 with ⟨q2, e2, -⟩ | ⟨n2, e2, -⟩
    · exact hi.idInj i j d1 d2 hd1 hd2 q1 q2 (by rw [← e1, ← e2]; exact hid)
    · rw [e1, e2] at hid; exact absurd hid (Nat.ne_of_lt (hi.idLt i d1 hd1 q1))
    · rw [e1, e2] at hid; exact absurd hid.symm (Nat.ne_of_lt (hi.idLt j d2 hd2 q2))
    · -- only `cid` can have become polled
      have hi' : i = cid := Decidable.by_contra fun e => n1 (o1 e ▸ p1)
      have hj' : j = cid := Decidable.by_contra fun e => n2 (o2 e ▸ p2)
      exact hi'.trans hj'.symm
  · intro i d' h hp
    obtain ⟨d, hd, s, -⟩ := back i d' h
    rcases pol s hp with ⟨pd, e, t⟩ | ⟨-, e, -, t⟩
    · rw [t, s.ctx, e]; exact hi.tr i d hd pd
    · rw [t, s.ctx, e]
  · intro i d' h; obtain ⟨d, -, s, -⟩ := back i d' h; exact s.outc
  · intro i d' h; obtain ⟨d, -, s, -⟩ := back i d' h; exact s.np
  · intro i d' h; obtain ⟨d, -, s, -⟩ := back i d' h; exact s.early
  · intro r hr
    rw [hpq] at hr
    obtain ⟨d, hd, a1, a2, a3, a4, a5, a6, a7⟩ := hi.pq r hr
    obtain ⟨d', hd', s, o⟩ := forth _ d hd
    obtain ⟨-, e, t⟩ := s.kept a1.polled
    have role : d'.val = none ∧ okLike d'.outcome = false ∧ (d'.rxClosed = false → d'.phase = .awaiting) := by
      by_cases ec : r.cid = cid
      · rw [ec, hc'] at hd'; cases hd'; exact queued r hr ec
      · rw [o ec]; exact ⟨a5, a6, a7⟩
    exact ⟨d', hd', s.enq a1, e.trans a2, a3.trans s.body.symm, by rw [s.ctx, t]; exact a4, role⟩
  · rw [hpq]; exact hi.pqNodup
  · intro en he
    rw [hinf] at he
    obtain ⟨d, hd, a1, a2, a4, a5, a6⟩ := hi.inf en he
    obtain ⟨d', hd', s, o⟩ := forth _ d hd
    obtain ⟨-, e, t⟩ := s.kept a1.polled
    have role : d'.val = none ∧ okLike d'.outcome = false := by
      by_cases ec : en.cid = cid
      · rw [ec, hc'] at hd'; cases hd'; exact inFlight en he ec
      · rw [o ec]; exact ⟨a5, a6⟩
    exact ⟨d', hd', s.enq a1, e.trans a2, by rw [s.ctx, t]; exact a4, role⟩
  · rw [hinf]; exact hi.infNodup
  · rw [hpq, hinf]; exact hi.disj
  · intro id hid
    rw [hcq] at hid
    obtain ⟨i, d, hd, a1, a2, a3⟩ := hi.cq id hid
    obtain ⟨d', hd', s, -⟩ := forth i d hd
    obtain ⟨p, e, -⟩ := s.kept a1
    exact ⟨i, d', hd', p, e.trans a2, s.rx a3⟩
  · rw [hlog]; exact hi.reqNodup
  · rw [hlog, hpq]; exact hi.pqNotSent
  · rw [hlog, hinf, hpois]; exact hi.infSent
  · rw [hlog, hpois]; exact hi.xNotSent
  · intro id dl tr body hm
    rw [hlog] at hm
    obtain ⟨i, d, hd, a1, a2, a3, a4, a5⟩ := hi.reqCall id dl tr body hm
    obtain ⟨d', hd', s, -⟩ := forth i d hd
    obtain ⟨-, e, t⟩ := s.kept a1.polled
    exact ⟨i, d', hd', s.enq a1, e.trans a2, a3.trans t.symm, a4.trans s.body.symm, by rw [s.ctx]; exact a5⟩
  · rw [hlog]; exact hi.canNodup
  · intro id tr hm
    rw [hlog] at hm
    obtain ⟨b1, b2, i, d, hd, a1, a2, a3, a4, a5, a6⟩ := hi.canCall id tr hm
    rw [hlog, hinf, hpois]
    refine ⟨b1, b2, ?_⟩
    obtain ⟨d', hd', s, o⟩ := forth i d hd
    obtain ⟨p, e, t⟩ := s.kept a1
    have role : okLike d'.outcome = false ∧ okLike d'.val = false := by
      by_cases ec : i = cid
      · subst ec; rw [hc] at hd; cases hd; rw [hc'] at hd'; cases hd'; exact cancelled tr (a2 ▸ hm)
      · rw [o ec]; exact ⟨a5, a6⟩
    exact ⟨i, d', hd', p, e.trans a2, a3.trans t.symm, s.rx a4, role⟩
  · rw [hlog, hpois]; exact hi.canAfter

@[simp] theorem View.upd_pq (v : View) (cid g) : (v.upd cid g).pq = v.pq := rfl
@[simp] theorem View.upd_cq (v : View) (cid g) : (v.upd cid g).cq = v.cq := rfl
@[simp] theorem View.upd_inflight (v : View) (cid g) : (v.upd cid g).inflight = v.inflight := rfl
@[simp] theorem View.upd_nextId (v : View) (cid g) : (v.upd cid g).nextId = v.nextId := rfl
@[simp] theorem View.upd_nextFresh (v : View) (cid g) : (v.upd cid g).nextFresh = v.nextFresh := rfl
@[simp] theorem View.upd_sentLog (v : View) (cid g) : (v.upd cid g).sentLog = v.sentLog := rfl
@[simp] theorem View.upd_poisoned (v : View) (cid g) : (v.upd cid g).poisoned = v.poisoned := rfl
@[simp] theorem View.upd_rel (v : View) (cid g) : (v.upd cid g).rel = v.rel := rfl
@[simp] theorem View.upd_calls_length (v : View) (cid g) : (v.upd cid g).calls.length = v.calls.length := by
  simp [View.upd]

theorem View.upd_cids (v : View) (cid : Nat) (g : CallV → CallV) :
    (v.upd cid g).calls.map (·.cid) = v.calls.map (·.cid) := by
  simp only [View.upd, List.map_map]
  apply List.map_congr_left
  intro c _
  by_cases h : c.cid = cid <;> simp [h]

theorem View.get_upd_self (v : View) (cid : Nat) (g : CallV → CallV) :
    (v.upd cid g).get cid = (v.get cid).map (fun c => { g c with cid := c.cid }) := by
  rw [View.get_upd]; simp

theorem View.get_upd_ne (v : View) (cid : Nat) (g : CallV → CallV) {i : Nat} (h : i ≠ cid) :
    (v.upd cid g).get i = v.get i := by
  rw [View.get_upd]; simp [h]

/-- `Inv.call_step` for `View.upd`, the id counters going up by `k`. -/
theorem Inv.upd_ids {x : Option Nat} {v : View} (hi : Inv x v) {cid : Nat} {c : CallV} (hc : v.get cid = some c)
    (g : CallV → CallV) (k : Nat) (hstep : CallStep v.nextId (v.nextId + k) c { g c with cid := c.cid })
    (queued : ∀ r ∈ v.pq, r.cid = cid →
        (g c).val = none ∧ okLike (g c).outcome = false ∧ ((g c).rxClosed = false → (g c).phase = .awaiting))
    (inFlight : ∀ e ∈ v.inflight, e.cid = cid → (g c).val = none ∧ okLike (g c).outcome = false)
    (cancelled : ∀ tr, Msg.cancel c.id tr ∈ v.sentLog → okLike (g c).outcome = false ∧ okLike (g c).val = false) :
    Inv x { v.upd cid g with nextId := v.nextId + k, nextFresh := v.nextFresh + k } :=
  hi.call_step hc ((View.get_upd_self v cid g).trans (by rw [hc]; rfl)) (fun _ e => View.get_upd_ne v cid g e)
    (View.upd_cids v cid g) rfl rfl rfl (by rw [hi.fresh]) rfl rfl (Nat.le_add_right _ _) hstep queued inFlight cancelled

/-! ### view-level transitions of the queues and the in-flight table -/

/-- What is known about a request taken off the request queue. -/
structure Deq (v : View) (r : DReq) : Prop where
  call : ∃ c, v.get r.cid = some c ∧ c.enq ∧ c.id = r.id ∧ r.body = c.body ∧
        r.ctx = { deadline := c.ctx.deadline, trace := c.trace } ∧ c.val = none ∧ okLike c.outcome = false ∧
        (c.rxClosed = false → c.phase = .awaiting)
  notPq : ∀ r' ∈ v.pq, r'.id ≠ r.id
  notInf : ∀ e ∈ v.inflight, e.id ≠ r.id
  notSent : r.id ∉ reqIds v.sentLog

theorem Inv.pqSub {x : Option Nat} {v : View} (hi : Inv x v) {l : List DReq} (hl : l.Sublist v.pq) :
    Inv x { v with pq := l } :=
  have hsub : ∀ r ∈ l, r ∈ v.pq := fun _ hr => hl.subset hr
  { hi with pq := fun r hr => hi.pq r (hsub r hr), pqNodup := (hl.map _).nodup hi.pqNodup,
            disj := fun r hr => hi.disj r (hsub r hr), pqNotSent := fun r hr => hi.pqNotSent r (hsub r hr) }

theorem Inv.pqPop {x : Option Nat} {v : View} (hi : Inv x v) {r : DReq} {rest : List DReq}
    (h : v.pq = r :: rest) : Inv x { v with pq := rest } ∧ Deq { v with pq := rest } r := by
  have hnd := hi.pqNodup
  rw [h] at hnd
  simp only [List.map_cons, List.nodup_cons, List.mem_map, not_exists, not_and] at hnd
  have hr : r ∈ v.pq := by rw [h]; exact List.mem_cons_self
  exact ⟨hi.pqSub (h ▸ List.sublist_cons_self r rest),
    hi.pq r hr, fun r' hr' e => hnd.1 r' hr' e, fun e he => (hi.disj r hr e he).symm, hi.pqNotSent r hr⟩

theorem Inv.cqPop {x : Option Nat} {v : View} (hi : Inv x v) {i : Nat} {rest : List Nat}
    (h : v.cq = i :: rest) :
    Inv x { v with cq := rest } ∧ ∃ j c, v.get j = some c ∧ c.polled ∧ c.id = i ∧ c.rxClosed = true := by
  have hsub : ∀ r' ∈ rest, r' ∈ v.cq := fun r' hr' => by rw [h]; exact List.mem_cons_of_mem _ hr'
  exact ⟨{ hi with cq := fun r' hr' => hi.cq r' (hsub r' hr') }, hi.cq i (by rw [h]; exact List.mem_cons_self)⟩

theorem Inv.cqClear {x : Option Nat} {v : View} (hi : Inv x v) : Inv x { v with cq := [] } :=
  { hi with cq := fun _ h => by simp at h }

theorem Inv.of_rel {x : Option Nat} {v : View} (hi : Inv x v) (l : List Obs) : Inv x { v with rel := l } :=
  { hi with }

theorem Inv.of_handles {x : Option Nat} {v : View} (hi : Inv x v) (l : List Nat) (n : Nat) :
    Inv x { v with handles := l, nextHandle := n } :=
  { hi with }

theorem Inv.poison {x : Option Nat} {v : View} (hi : Inv x v) : Inv x { v with poisoned := true } :=
  { hi with
    infSent := fun h => by cases h
    xNotSent := fun h => by cases h
    canCall := fun id tr hm => by
      obtain ⟨_, b, c⟩ := hi.canCall id tr hm
      exact ⟨fun h => (by cases h), b, c⟩
    canAfter := fun h => by cases h }

/-- `id`, `cid` and `ctx` are all the invariant reads of an entry. -/
theorem Inv.infRel {x : Option Nat} {v : View} (hi : Inv x v) {l : List Entry} (hnd : (l.map (·.id)).Nodup)
    (hl : ∀ e' ∈ l, ∃ e ∈ v.inflight, e'.id = e.id ∧ e'.cid = e.cid ∧ e'.ctx = e.ctx) :
    Inv x { v with inflight := l } :=
  { hi with
    inf := fun e' he' => by
      obtain ⟨e, he, h1, h2, h3⟩ := hl e' he'
      rw [h1, h2, h3]; exact hi.inf e he
    infNodup := hnd
    disj := fun r hr e' he' => by
      obtain ⟨e, he, h1, -⟩ := hl e' he'
      rw [h1]; exact hi.disj r hr e he
    infSent := fun hp e' he' hx => by
      obtain ⟨e, he, h1, -⟩ := hl e' he'
      rw [h1] at hx ⊢; exact hi.infSent hp e he hx
    canCall := fun id' tr hm => by
      obtain ⟨a, b, c⟩ := hi.canCall id' tr hm
      refine ⟨a, fun e' he' => ?_, c⟩
      obtain ⟨e, he, h1, -⟩ := hl e' he'
      rw [h1]; exact b e he }

theorem Inv.infSub {x : Option Nat} {v : View} (hi : Inv x v) {l : List Entry} (hl : l.Sublist v.inflight) :
    Inv x { v with inflight := l } :=
  hi.infRel ((hl.map _).nodup hi.infNodup) fun e he => ⟨e, hl.subset he, rfl, rfl, rfl⟩

theorem Inv.infRemove {x : Option Nat} {v : View} (hi : Inv x v) (id : Nat) :
    Inv x { v with inflight := v.inflight.filter (·.id != id) } :=
  hi.infSub List.filter_sublist

/-- Re-keying entries (a re-armed deadline timer: new `timerKey`, smaller `remainder`): `id`, `cid` and `ctx` stay. -/
theorem Inv.infMap {x : Option Nat} {v : View} (hi : Inv x v) (f : Entry → Entry)
    (hf : ∀ e, (f e).id = e.id ∧ (f e).cid = e.cid ∧ (f e).ctx = e.ctx) :
    Inv x { v with inflight := v.inflight.map f } := by
  refine hi.infRel ?_ fun e' he' => ?_
  · have : (v.inflight.map f).map (·.id) = v.inflight.map (·.id) := by
      rw [List.map_map]; exact List.map_congr_left fun e _ => (hf e).1
    rw [this]; exact hi.infNodup
  · obtain ⟨e, he, rfl⟩ := List.mem_map.mp he'; exact ⟨e, he, hf e⟩

/-- the pending write is no longer owed: the dispatch panicked, or the entry is gone -/
theorem Inv.drop_x {v : View} {id : Nat} (hi : Inv (some id) v)
    (h : v.poisoned = true ∨ ∀ e ∈ v.inflight, e.id ≠ id) : Inv none v :=
  { hi with
    infSent := fun hp e he _ => by
      rcases h with h | h
      · rw [h] at hp; cases hp
      · exact hi.infSent hp e he (by simpa using h e he)
    xNotSent := fun _ _ h => by cases h }

theorem Inv.infClear {x : Option Nat} {v : View} (hi : Inv x v) : Inv x { v with inflight := [] } :=
  hi.infSub (List.nil_sublist _)

theorem Inv.pqClear {x : Option Nat} {v : View} (hi : Inv x v) : Inv x { v with pq := [] } :=
  hi.pqSub (List.nil_sublist _)

theorem Inv.infInsert {v : View} (hi : Inv none v) {r : DReq} (hd : Deq v r)
    (hnc : ∃ c, v.get r.cid = some c ∧ c.rxClosed = false) (key rem due : Nat) :
    Inv (some r.id) { v with inflight := v.inflight ++ [{ id := r.id, cid := r.cid, ctx := r.ctx, timerKey := key, remainder := rem, dueAt := due }] } := by
  obtain ⟨c, hc, a1, a2, a3, a4, a5, a6, a7⟩ := hd.call
  exact { hi with
    inf := forall_mem_snoc hi.inf ⟨c, hc, a1, a2, a4, a5, a6⟩
    infNodup := by
      rw [List.map_append]
      refine nodup_snoc hi.infNodup fun h => ?_
      obtain ⟨e, he, hid⟩ := List.mem_map.mp h
      exact hd.notInf e he hid
    disj := fun r' hr' => forall_mem_snoc (hi.disj r' hr') (hd.notPq r' hr')
    infSent := fun hp => forall_mem_snoc (fun e he _ => hi.infSent hp e he (by simp)) (fun hx => absurd rfl hx)
    xNotSent := fun _ id h => by cases h; exact hd.notSent
    canCall := fun id' tr hm => by
      obtain ⟨a, b, i, c2, hc2, p2, id2, t2, rx2, rest⟩ := hi.canCall id' tr hm
      refine ⟨a, forall_mem_snoc b fun h => ?_, i, c2, hc2, p2, id2, t2, rx2, rest⟩
      · simp only at h
        obtain ⟨c', hc', hrx⟩ := hnc
        rw [hc] at hc'; injection hc' with hc'; subst hc'
        have : i = r.cid := hi.idInj i r.cid c2 c hc2 hc p2 a1.polled (id2.trans (h.symm.trans a2.symm))
        subst this
        rw [hc] at hc2; injection hc2 with hc2; subst hc2
        rw [hrx] at rx2; cases rx2 }

/-! ### writes -/

@[simp] theorem reqIds_append (l1 l2 : List Msg) : reqIds (l1 ++ l2) = reqIds l1 ++ reqIds l2 := by
  simp [reqIds]
@[simp] theorem cancelIds_append (l1 l2 : List Msg) : cancelIds (l1 ++ l2) = cancelIds l1 ++ cancelIds l2 := by
  simp [cancelIds]
@[simp] theorem reqIds_request (id dl tr b) : reqIds [Msg.request id dl tr b] = [id] := rfl
@[simp] theorem reqIds_cancel (id tr) : reqIds [Msg.cancel id tr] = [] := rfl
@[simp] theorem cancelIds_request (id dl tr b) : cancelIds [Msg.request id dl tr b] = [] := rfl
@[simp] theorem cancelIds_cancel (id tr) : cancelIds [Msg.cancel id tr] = [id] := rfl

theorem mem_reqIds {l : List Msg} {id : Nat} : id ∈ reqIds l ↔ ∃ dl tr b, Msg.request id dl tr b ∈ l := by
  simp only [reqIds, List.mem_filterMap]
  constructor
  · rintro ⟨m, hm, h⟩
    cases m <;> simp at h
    subst h; exact ⟨_, _, _, hm⟩
  · rintro ⟨dl, tr, b, h⟩; exact ⟨_, h, rfl⟩

theorem mem_cancelIds {l : List Msg} {id : Nat} : id ∈ cancelIds l ↔ ∃ tr, Msg.cancel id tr ∈ l := by
  simp only [cancelIds, List.mem_filterMap]
  constructor
  · rintro ⟨m, hm, h⟩
    cases m <;> simp at h
    subst h; exact ⟨_, hm⟩
  · rintro ⟨tr, h⟩; exact ⟨_, h, rfl⟩

theorem Inv.sendReq {v : View} {id : Nat} (hi : Inv (some id) v) (hp : v.poisoned = false)
    {e : Entry} (he : e ∈ v.inflight) (hid : e.id = id) (body : Nat)
    (hb : ∀ c, v.get e.cid = some c → body = c.body) :
    Inv none { v with sentLog := v.sentLog ++ [Msg.request id e.ctx.deadline e.ctx.trace body] } := by
  have hx := hi.xNotSent hp id rfl
  exact { hi with
    reqNodup := by
      rw [reqIds_append, reqIds_request]; exact nodup_snoc hi.reqNodup hx
    pqNotSent := fun r hr => by
      simp only [reqIds_append, reqIds_request, List.mem_append, List.mem_singleton, not_or]
      exact ⟨hi.pqNotSent r hr, fun h => hi.disj r hr e he (by omega)⟩
    infSent := fun _ e' he' _ => by
      simp only [reqIds_append, reqIds_request, List.mem_append, List.mem_singleton]
      by_cases h : e'.id = id
      · exact Or.inr h
      · exact Or.inl (hi.infSent hp e' he' (by simpa using h))
    xNotSent := fun _ _ h => by cases h
    reqCall := fun id' dl tr b hm => by
      simp only [List.mem_append, List.mem_singleton] at hm
      rcases hm with hm | hm
      · exact hi.reqCall id' dl tr b hm
      · injection hm with h1 h2 h3 h4
        obtain ⟨c, hc, a1, a2, a4, _, _⟩ := hi.inf e he
        refine ⟨e.cid, c, hc, a1, by omega, ?_, ?_, ?_⟩
        · rw [h3, a4]
        · rw [h4]; exact hb c hc
        · rw [h2, a4]
    canNodup := by simpa using hi.canNodup
    canCall := fun id' tr hm => by
      simp only [List.mem_append, List.mem_singleton] at hm
      rcases hm with hm | hm
      · obtain ⟨a, b, c⟩ := hi.canCall id' tr hm
        exact ⟨fun _ => by simp only [reqIds_append, List.mem_append]; exact Or.inl (a hp), b, c⟩
      · cases hm
    canAfter := fun _ l1 id' tr l2 h => by
      rcases snoc_split h with ⟨_, _, h3⟩ | ⟨l2', _, h2⟩
      · cases h3
      · exact hi.canAfter hp l1 id' tr l2' h2 }

theorem Inv.sendCancel {v : View} (hi : Inv none v) (id : Nat) (tr : Trace)
    (hreq : v.poisoned = false → id ∈ reqIds v.sentLog) (hnc : id ∉ cancelIds v.sentLog) (hninf : ∀ e ∈ v.inflight, e.id ≠ id)
    (hcall : ∃ i c, v.get i = some c ∧ c.polled ∧ c.id = id ∧ tr = c.trace ∧ c.rxClosed = true ∧
          okLike c.outcome = false ∧ okLike c.val = false) :
    Inv none { v with sentLog := v.sentLog ++ [Msg.cancel id tr] } :=
  { hi with
    reqNodup := by simpa using hi.reqNodup
    pqNotSent := fun r hr => by simpa using hi.pqNotSent r hr
    infSent := fun hp e he h => by simpa using hi.infSent hp e he h
    xNotSent := fun _ _ h => by cases h
    reqCall := fun id' dl tr' b hm => by
      simp only [List.mem_append, List.mem_singleton] at hm
      rcases hm with hm | hm
      · exact hi.reqCall id' dl tr' b hm
      · cases hm
    canNodup := by
      rw [cancelIds_append, cancelIds_cancel]; exact nodup_snoc hi.canNodup hnc
    canCall := fun id' tr' hm => by
      simp only [List.mem_append, List.mem_singleton] at hm
      simp only [reqIds_append, reqIds_cancel, List.append_nil]
      rcases hm with hm | hm
      · exact hi.canCall id' tr' hm
      · injection hm with h1 h2
        subst h1 h2
        exact ⟨hreq, hninf, hcall⟩
    canAfter := fun hp l1 id' tr' l2 h => by
      rcases snoc_split h with ⟨_, h2, h3⟩ | ⟨l2', _, h2⟩
      · injection h3 with h3 h4
        subst h2 h3
        exact hreq hp
      · exact hi.canAfter hp l1 id' tr' l2' h2 }

/-! ### oneshot send at view level -/

theorem View.send_eq (v : View) (cid : Nat) (o : Outcome) : v.send cid o = { v with calls := (v.send cid o).calls } := by
  unfold View.send; split <;> (try split) <;> rfl

@[simp] theorem View.send_pq (v : View) (cid o) : (v.send cid o).pq = v.pq := by
  rw [View.send_eq]
@[simp] theorem View.send_cq (v : View) (cid o) : (v.send cid o).cq = v.cq := by
  rw [View.send_eq]
@[simp] theorem View.send_inflight (v : View) (cid o) : (v.send cid o).inflight = v.inflight := by
  rw [View.send_eq]
@[simp] theorem View.send_sentLog (v : View) (cid o) : (v.send cid o).sentLog = v.sentLog := by
  rw [View.send_eq]
@[simp] theorem View.send_nextId (v : View) (cid o) : (v.send cid o).nextId = v.nextId := by
  rw [View.send_eq]
@[simp] theorem View.send_poisoned (v : View) (cid o) : (v.send cid o).poisoned = v.poisoned := by
  rw [View.send_eq]
@[simp] theorem View.send_rel (v : View) (cid o) : (v.send cid o).rel = v.rel := by
  rw [View.send_eq]

theorem Inv.send {x : Option Nat} {v : View} (hi : Inv x v) (cid : Nat) (o : Outcome)
    (hpq : ∀ r ∈ v.pq, r.cid ≠ cid) (hinf : ∀ e ∈ v.inflight, e.cid ≠ cid)
    (henq : ∀ c, v.get cid = some c → c.enq)
    (hcan : okLike (some o) = true → ∀ c tr, v.get cid = some c → Msg.cancel c.id tr ∉ v.sentLog) :
    Inv x (v.send cid o) := by
  unfold View.send
  split
  · exact hi
  · rename_i c hc
    split
    · exact hi
    · have hen := henq c hc
      refine hi.upd_ids hc (fun c => { c with val := some o }) 0 ?_ ?_ ?_ ?_
      · refine .of_same rfl rfl rfl rfl rfl Iff.rfl id id (hi.outc cid c hc) (hi.np cid c hc) ?_
        intro h; simp only at h; unfold CallV.enq at hen; grind
      · intro r hr e; exact absurd e (hpq r hr)
      · intro e he h; exact absurd h (hinf e he)
      · intro tr hm
        obtain ⟨_, _, i, c2, hc2, p2, id2, _, _, o2, _⟩ := hi.canCall c.id tr hm
        have : i = cid := hi.idInj i cid c2 c hc2 hc p2 hen.polled id2
        subst this
        rw [hc] at hc2; injection hc2 with hc2; subst hc2
        refine ⟨o2, ?_⟩
        simp only
        cases ho : okLike (some o) with
        | false => rfl
        | true => exact absurd hm (hcan ho c tr hc)

/-! ### what the roles of a call say about its record -/

theorem Inv.pq_role {x : Option Nat} {v : View} (hi : Inv x v) {r : DReq} (hr : r ∈ v.pq) {c : CallV}
    (hc : v.get r.cid = some c) :
    c.enq ∧ c.id = r.id ∧ c.val = none ∧ okLike c.outcome = false ∧ (c.rxClosed = false → c.phase = .awaiting) := by
  obtain ⟨c1, hc1, a1, a2, _, _, a5, a6, a7⟩ := hi.pq r hr
  rw [hc] at hc1; injection hc1 with hc1; subst hc1
  exact ⟨a1, a2, a5, a6, a7⟩

theorem Inv.inf_role {x : Option Nat} {v : View} (hi : Inv x v) {e : Entry} (he : e ∈ v.inflight) {c : CallV}
    (hc : v.get e.cid = some c) :
    c.enq ∧ c.id = e.id ∧ c.val = none ∧ okLike c.outcome = false := by
  obtain ⟨c1, hc1, a1, a2, _, a5, a6⟩ := hi.inf e he
  rw [hc] at hc1; injection hc1 with hc1; subst hc1
  exact ⟨a1, a2, a5, a6⟩

theorem Inv.can_role {x : Option Nat} {v : View} (hi : Inv x v) {cid : Nat} {c : CallV} {tr : Trace}
    (hc : v.get cid = some c) (hp : c.polled) (hm : Msg.cancel c.id tr ∈ v.sentLog) :
    okLike c.outcome = false ∧ okLike c.val = false ∧ c.rxClosed = true := by
  obtain ⟨_, _, i, c2, hc2, p2, id2, _, rx2, o2, v2⟩ := hi.canCall c.id tr hm
  have : i = cid := hi.idInj i cid c2 c hc2 hc p2 hp id2
  subst this
  rw [hc] at hc2; injection hc2 with hc2; subst hc2
  exact ⟨o2, v2, rx2⟩

/-- each obligation comes with what the call's present role says about it -/
theorem Inv.upd_at {x : Option Nat} {v : View} (hi : Inv x v) {cid : Nat} {c : CallV} (hc : v.get cid = some c)
    (g : CallV → CallV) (hstep : CallStep v.nextId v.nextId c { g c with cid := c.cid })
    (queued : c.enq → c.val = none → okLike c.outcome = false → (c.rxClosed = false → c.phase = .awaiting) →
        (g c).val = none ∧ okLike (g c).outcome = false ∧ ((g c).rxClosed = false → (g c).phase = .awaiting))
    (inFlight : c.enq → c.val = none → okLike c.outcome = false → (g c).val = none ∧ okLike (g c).outcome = false)
    (cancelled : (c.polled → okLike c.outcome = false ∧ okLike c.val = false ∧ c.rxClosed = true) →
        okLike (g c).outcome = false ∧ okLike (g c).val = false) :
    Inv x (v.upd cid g) :=
  hi.upd_ids hc g 0 hstep
    (fun r hr e => by subst e; obtain ⟨a, _, b, c, d⟩ := hi.pq_role hr hc; exact queued a b c d)
    (fun e he h => by subst h; obtain ⟨a, _, b, c⟩ := hi.inf_role he hc; exact inFlight a b c)
    (fun _ hm => cancelled fun hp => hi.can_role hc hp hm)

/-- the id of a polled call that is not yet enqueued is not tracked anywhere -/
theorem Inv.unqueued {x : Option Nat} {v : View} (hi : Inv x v) {cid : Nat} {c : CallV}
    (hc : v.get cid = some c) (hp : c.polled) (hne : ¬ c.enq) :
    (∀ r ∈ v.pq, r.id ≠ c.id) ∧ (∀ e ∈ v.inflight, e.id ≠ c.id) ∧ c.id ∉ reqIds v.sentLog := by
  -- an enqueued call with the id of `c` would be `c` itself
  have no : ∀ i c1, v.get i = some c1 → c1.enq → c1.id ≠ c.id := by
    intro i c1 hc1 a1 a2
    have : i = cid := hi.idInj _ _ c1 c hc1 hc a1.polled hp a2
    subst this; rw [hc] at hc1; cases hc1; exact hne a1
  refine ⟨fun r hr h => ?_, fun e he h => ?_, fun h => ?_⟩
  · obtain ⟨c1, hc1, a1, a2, _⟩ := hi.pq r hr; exact no _ c1 hc1 a1 (a2.trans h)
  · obtain ⟨c1, hc1, a1, a2, _⟩ := hi.inf e he; exact no _ c1 hc1 a1 (a2.trans h)
  · obtain ⟨dl, tr, b, hm⟩ := mem_reqIds.mp h
    obtain ⟨i, c1, hc1, a1, a2, _⟩ := hi.reqCall _ _ _ _ hm; exact no i c1 hc1 a1 a2

/-! ### view-level transitions of the call futures -/

theorem Inv.outcome_none {x : Option Nat} {v : View} (hi : Inv x v) {cid : Nat} {c : CallV}
    (hc : v.get cid = some c) (hph : c.phase ≠ .resolved) : c.outcome = none := by
  cases h : c.outcome with
  | none => rfl
  | some o => exact absurd ((hi.outc cid c hc).mp (by rw [h]; rfl)) hph

theorem CallV.polled_of_guarded {c : CallV} (hph : c.phase = .reserving ∨ c.phase = .awaiting) : c.polled :=
  hph.elim Or.inl (fun h => Or.inr (Or.inl h))

theorem Inv.guardClose {x : Option Nat} {v : View} (hi : Inv x v) {cid : Nat} {c : CallV}
    (hc : v.get cid = some c) (hph : c.phase = .reserving ∨ c.phase = .awaiting) :
    Inv x (v.upd cid (fun c => { c with rxClosed := true })) := by
  refine hi.upd_at hc _ ?_ (fun _ a b _ => ⟨a, b, fun h => by simp at h⟩) (fun _ a b => ⟨a, b⟩)
    (fun h => ⟨(h (CallV.polled_of_guarded hph)).1, (h (CallV.polled_of_guarded hph)).2.1⟩)
  refine .of_same rfl rfl rfl rfl rfl ?_ ?_ (fun _ => rfl) (hi.outc cid c hc) ?_ (hi.early cid c hc)
  · simp only [CallV.polled]; grind
  · simp only [CallV.enq]; grind
  · intro h; simp only at h; grind

theorem Inv.resolveShut {x : Option Nat} {v : View} (hi : Inv x v) {cid : Nat} {c : CallV}
    (hc : v.get cid = some c) (hph : c.phase = .reserving ∨ c.phase = .awaiting) :
    Inv x (v.upd cid (fun c => { c with phase := .resolved, outcome := some .shutdown, rxClosed := true })) := by
  refine hi.upd_at hc _ ?_ (fun _ a _ _ => ⟨a, rfl, fun h => by simp at h⟩) (fun _ a _ => ⟨a, rfl⟩)
    (fun h => ⟨rfl, (h (CallV.polled_of_guarded hph)).2.1⟩)
  refine .of_same rfl rfl rfl rfl rfl ?_ ?_ (fun _ => rfl) (by simp) (by simp) (by simp)
  · simp only [CallV.polled]; grind
  · simp only [CallV.enq]; grind

theorem Inv.resolveVal {x : Option Nat} {v : View} (hi : Inv x v) {cid : Nat} {c : CallV} {o : Outcome}
    (hc : v.get cid = some c) (hph : c.phase = .awaiting) (hv : c.val = some o) :
    Inv x (v.upd cid (fun c => { c with val := none, phase := .resolved, outcome := some o, rxClosed := true })) := by
  -- a queued or tracked request has no value yet
  refine hi.upd_at hc _ ?_ (fun _ a _ _ => by rw [hv] at a; cases a) (fun _ a _ => by rw [hv] at a; cases a)
    (fun h => ⟨hv ▸ (h (Or.inr (Or.inl hph))).2.1, rfl⟩)
  refine .of_same rfl rfl rfl rfl rfl ?_ ?_ (fun _ => rfl) (by simp) (by simp) (by simp)
  · simp only [CallV.polled]; grind
  · simp only [CallV.enq]; grind

theorem Inv.dropGuarded {x : Option Nat} {v : View} (hi : Inv x v) {cid : Nat} {c : CallV}
    (hc : v.get cid = some c) (hph : c.phase = .reserving ∨ c.phase = .awaiting) (hrx : c.rxClosed = true) :
    Inv x (v.upd cid (fun c => { c with phase := .dropped })) := by
  have hout : c.outcome = none := hi.outcome_none hc (by rcases hph with h | h <;> rw [h] <;> simp)
  refine hi.upd_at hc _ ?_ (fun _ a b _ => ⟨a, b, fun h => by simp [hrx] at h⟩) (fun _ a b => ⟨a, b⟩)
    (fun h => ⟨(h (CallV.polled_of_guarded hph)).1, (h (CallV.polled_of_guarded hph)).2.1⟩)
  refine .of_same rfl rfl rfl rfl rfl ?_ ?_ (fun h => h) (by simp [hout]) (by simp) (by simp)
  · simp only [CallV.polled]; grind
  · simp only [CallV.enq]; grind

theorem Inv.dropNP {x : Option Nat} {v : View} (hi : Inv x v) {cid : Nat} {c : CallV}
    (hc : v.get cid = some c) (hph : c.phase = .notPolled) :
    Inv x (v.upd cid (fun c => { c with phase := .dropped })) := by
  have hout : c.outcome = none := hi.outcome_none hc (by rw [hph]; simp)
  have hrx := hi.np cid c hc hph
  have hval := hi.early cid c hc (Or.inl hph)
  have hne : ¬ c.enq := by simp only [CallV.enq]; grind
  refine hi.upd_at hc _ ?_ (fun a _ _ _ => absurd a hne) (fun a _ _ => absurd a hne)
    (fun _ => by simp [hout, hval, okLike])
  refine .of_same rfl rfl rfl rfl rfl ?_ (fun h => absurd h hne) (fun h => h) (by simp [hout]) (by simp) (by simp)
  simp only [CallV.polled]; grind

theorem Inv.cqPush {x : Option Nat} {v : View} (hi : Inv x v) {cid : Nat} {c : CallV}
    (hc : v.get cid = some c) (hp : c.polled) (hrx : c.rxClosed = true) :
    Inv x { v with cq := v.cq ++ [c.id] } :=
  { hi with
    cq := forall_mem_snoc hi.cq ⟨cid, c, hc, hp, rfl, hrx⟩ }

theorem Inv.pqPush {x : Option Nat} {v : View} (hi : Inv x v) (r : DReq)
    (hcall : ∃ c, v.get r.cid = some c ∧ c.enq ∧ c.id = r.id ∧ r.body = c.body ∧
        r.ctx = { deadline := c.ctx.deadline, trace := c.trace } ∧ c.val = none ∧ okLike c.outcome = false ∧
        (c.rxClosed = false → c.phase = .awaiting))
    (hnpq : ∀ r' ∈ v.pq, r'.id ≠ r.id) (hninf : ∀ e ∈ v.inflight, e.id ≠ r.id)
    (hns : r.id ∉ reqIds v.sentLog) :
    Inv x { v with pq := v.pq ++ [r] } :=
  { hi with
    pq := forall_mem_snoc hi.pq hcall
    pqNodup := by
      rw [List.map_append]
      refine nodup_snoc hi.pqNodup fun h => ?_
      obtain ⟨e, he, hid⟩ := List.mem_map.mp h
      exact hnpq e he hid
    disj := forall_mem_snoc hi.disj fun e he => (hninf e he).symm
    pqNotSent := forall_mem_snoc hi.pqNotSent hns }

theorem Inv.enqueue {x : Option Nat} {v : View} (hi : Inv x v) {cid : Nat} {c : CallV}
    (hc : v.get cid = some c) (hph : c.phase = .reserving) :
    Inv x { v.upd cid (fun c => { c with phase := .awaiting }) with
            pq := v.pq ++ [{ cid := cid, id := c.id, ctx := { deadline := c.ctx.deadline, trace := c.trace }, body := c.body }] } := by
  have hout : c.outcome = none := hi.outcome_none hc (by rw [hph]; simp)
  have hval := hi.early cid c hc (Or.inr hph)
  have hpol : c.polled := Or.inl hph
  have hne : ¬ c.enq := by simp only [CallV.enq]; grind
  obtain ⟨u1, u2, u3⟩ := hi.unqueued hc hpol hne
  have h1 : Inv x (v.upd cid (fun c => { c with phase := .awaiting })) := by
    refine hi.upd_at hc _ ?_ (fun a _ _ _ => absurd a hne) (fun a _ _ => absurd a hne)
      (fun _ => by simp [hout, hval, okLike])
    refine .of_same rfl rfl rfl rfl rfl ?_ ?_ (fun h => h) (by simp [hout]) (by simp) (by simp)
    · simp only [CallV.polled]; grind
    · simp only [CallV.enq]; grind
  refine h1.pqPush _ ?_ u1 u2 u3
  refine ⟨{ c with phase := .awaiting }, ?_, Or.inl rfl, rfl, rfl, rfl, hval, by simp [hout, okLike], fun _ => rfl⟩
  rw [View.get_upd_self, hc]
  simp [View.get_cid hc]

/-- first poll of a call: it draws a request id and a span id (and starts waiting for a permit) -/
def View.assign (v : View) (cid : Nat) (tr : Trace) : View :=
  { v.upd cid (fun c => { c with id := v.nextId, trace := tr, phase := .reserving }) with nextId := v.nextId + 1, nextFresh := v.nextFresh + 1 }

theorem Inv.assign {x : Option Nat} {v : View} (hi : Inv x v) {cid : Nat} {c : CallV}
    (hc : v.get cid = some c) (hph : c.phase = .notPolled) (tr : Trace)
    (htr : tr = { c.ctx.trace with span := .fresh v.nextFresh }) :
    Inv x (v.assign cid tr) := by
  have hout : c.outcome = none := hi.outcome_none hc (by rw [hph]; simp)
  have hval := hi.early cid c hc (Or.inl hph)
  have hnp : ¬ c.polled := by simp only [CallV.polled]; grind
  have hne : ¬ c.enq := fun h => hnp h.polled
  refine hi.upd_ids hc (fun c => { c with id := v.nextId, trace := tr, phase := .reserving }) 1 ?_ ?_ ?_ ?_
  · -- the call was not polled: it draws the id `v.nextId`, and no role refers to it
    refine ⟨rfl, rfl, rfl, fun h => absurd h hnp, fun _ _ => ⟨rfl, Nat.lt_succ_self _, ?_⟩, fun h => absurd h hne, id,
      by simp [hout], by simp, fun _ => hval⟩
    rw [htr, hi.fresh]
  · intro r hr e; subst e; exact absurd (hi.pq_role hr hc).1 hne
  · intro e he h; subst h; exact absurd (hi.inf_role he hc).1 hne
  · intro _ _; simp [hout, hval, okLike]

end TarpcModel.Client
