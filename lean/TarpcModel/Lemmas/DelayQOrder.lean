import TarpcModel.Lemmas.DelayQComplete
/-!
The *order* in which the timer-wheel emulation `Prim/DelayQ.lean` yields due timers: what `poll_expired` returns has the
earliest tick (`whenMs`) of all timers in the queue — the wheel processes its slots in chronological order, and the
entries on the `expired` stack (inserted with a tick the wheel clock had already reached) all carry the wheel clock as
their tick (`StackEq`).
-/
namespace TarpcModel.DelayQ

/-- the entries on the `expired` stack carry the wheel clock as their tick -/
def StackEq (q : DelayQ) : Prop := ∀ e ∈ q.expired, e.whenMs = q.wheelElapsed

theorem sst_level0 (e : DqEntry) (h : e.level = 0) : sst e = e.whenMs := by
  unfold sst slotStart
  rw [h]
  simp only [Nat.pow_zero, Nat.mod_one, Nat.sub_zero]

/-- what `Wheel::poll` returns has the earliest tick of the wheel -/
theorem wheelPoll_min (t : Nat) : ∀ (fuel : Nat) (q : DelayQ), WLoop q t → ∀ e, (wheelPoll fuel q t).2 = some e →
    ∀ y ∈ (wheelPoll fuel q t).1.entries, e.whenMs ≤ y.whenMs := by
  intro fuel
  induction fuel with
  | zero => intro q _ e he; cases he
  | succ fuel ih =>
    intro q h
    rcases wheelPoll_round h with ⟨hw, -⟩ | ⟨ex, e0, hn, hl0, -, he0, hw⟩ | ⟨ex, -, -, hw, hloop, -⟩
    · rw [hw]
      intro e he
      cases he
    · -- `e0` sits at level 0 in the earliest slot, which is one millisecond wide
      rw [hw]
      intro e he y hy
      cases he
      obtain ⟨hm, hat⟩ := slotTop_at he0
      have hsst : sst e0 = ex.deadline := hn.inSlot e0 hm (by rw [hl0]; exact hat)
      rw [sst_level0 e0 (atSlot_iff.1 hat).1] at hsst
      have := hn.le y (List.mem_filter.1 hy).1
      have := sst_le y
      omega
    · rw [hw]
      exact ih _ hloop

theorem pollIdx_min (now : Nat) : ∀ (fuel : Nat) (q : DelayQ), WStrict q → DelayOk q → IdxFuel q fuel →
    ∀ e, (pollIdx fuel q now).2 = .expired e → ∀ y ∈ (pollIdx fuel q now).1.entries, e.whenMs ≤ y.whenMs := by
  intro fuel
  induction fuel with
  | zero => intro q _ _ hf; rcases hf with ⟨_, _, h⟩ | h <;> omega
  | succ fuel ih =>
    intro q hs hd hf
    rcases pollIdx_round (now := now) hs hf with ⟨-, -, -, h⟩ | ⟨q0, t, hent, hE, hp, hend⟩
    · rw [h]; intro e he; cases he
    · have hmin := wheelPoll_min t (wheelFuel q0) q0 ((hs.of_eq hent hE).loop t)
      generalize wheelPoll (wheelFuel q0) q0 t = p at hp hend hmin
      obtain ⟨p1, r⟩ := p
      simp only at hp hend hmin
      cases hend with
      | yield e0 h =>
        rw [h]
        intro e he
        cases he
        exact hmin e0 rfl
      | empty hn h => rw [h]; intro e he; cases he
      | again hf' h =>
        rw [h]
        exact ih { p1 with delay := nextDeadline p1 } (hp.strict.of_eq rfl rfl) (DelayOk.fresh hp.strict p1.waker) hf'

/-- **What `poll_expired` yields has the earliest tick of the queue.** -/
theorem pollExpired_min {q : DelayQ} (now : Nat) (h : Complete q) (hs : StackEq q) {e : DqEntry}
    (he : (q.pollExpired now).2 = .expired e) : ∀ y ∈ (q.pollExpired now).1.items, e.whenMs ≤ y.whenMs := by
  cases hx : q.expired with
  | cons e0 rest =>
    rw [pollExpired_cons now hx] at he ⊢
    simp only at he
    cases he
    intro y hy
    have he0 : e.whenMs = q.wheelElapsed := hs e (by rw [hx]; exact List.mem_cons_self ..)
    rcases List.mem_append.mp hy with h1 | h1
    · have := (h.strict.pos y h1).2.1
      have := slotStart_le y.whenMs y.level
      omega
    · have := hs y (by rw [hx]; exact List.mem_cons_of_mem _ h1)
      omega
  | nil =>
    rw [pollExpired_nil now hx] at he ⊢
    have hs0 : WStrict { q with waker := true } := h.strict.of_eq rfl rfl
    have hd0 : DelayOk { q with waker := true } := ⟨h.dok.dsome, h.dok.dle⟩
    have hmin := pollIdx_min now (wheelFuel { q with waker := true } + 8) { q with waker := true } hs0 hd0
      (pollFuel_ok hs0) e he
    have hfr := (pollIdx_expired (wheelFuel { q with waker := true } + 8) { q with waker := true } now).trans hx
    intro y hy
    unfold items at hy
    rw [hfr, List.append_nil] at hy
    exact hmin y hy


/-! ### `StackEq` is kept by everything the owners of a queue do -/

theorem StackEq_empty : StackEq {} := by intro e he; cases he

theorem StackEq.of_eq {q q' : DelayQ} (h : StackEq q) (h1 : q'.expired = q.expired) (h2 : q'.wheelElapsed = q.wheelElapsed) :
    StackEq q' := by
  intro e he; rw [h1] at he; rw [h2]; exact h e he

theorem insert_stackEq {q q' : DelayQ} {now to v : Nat} {r : InsertRes} {w : Bool}
    (h : q.insert now to v = (q', r, w)) (hq : StackEq q) : StackEq q' := by
  rcases insert_cases h with ⟨_, h', _⟩ | ⟨_, _, hE, _, hc⟩
  · exact h' ▸ hq
  · rcases hc with ⟨_, e2, hW⟩ | ⟨_, e2, _, _⟩
    · intro e he
      rw [e2] at he
      rw [hE]
      rcases List.mem_cons.1 he with rfl | he
      · show max (ceilMs (now + to)) q.wheelElapsed = q.wheelElapsed
        have := Nat.le_max_right (ceilMs (now + to)) q.wheelElapsed
        omega
      · exact hq e he
    · exact hq.of_eq e2 hE

theorem remove_stackEq {q q' : DelayQ} {k : Nat} {w : Bool} (h : q.remove k = some (q', w)) (hq : StackEq q) :
    StackEq q' := by
  obtain ⟨_, _, e2, _, e4, _⟩ := remove_cases h
  intro e he
  rw [e2] at he
  rw [e4]
  exact hq e (List.mem_filter.1 he).1

theorem pollExpired_stackEq {q : DelayQ} (now : Nat) (hq : StackEq q) : StackEq (q.pollExpired now).1 := by
  cases hx : q.expired with
  | cons e rest =>
    rw [pollExpired_cons now hx]
    intro x hx'
    exact hq x (by rw [hx]; exact List.mem_cons_of_mem _ hx')
  | nil =>
    rw [pollExpired_nil now hx]
    have hfr := (pollIdx_expired (wheelFuel { q with waker := true } + 8) { q with waker := true } now).trans hx
    intro x hx'
    rw [hfr] at hx'; cases hx'

end TarpcModel.DelayQ
