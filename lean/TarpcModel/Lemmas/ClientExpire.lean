import TarpcModel.Client.Run
/-!
The loop of `in_flight_requests.poll_expired` (`pollExpiredLoop`, `Client/Model.lean`) never runs out of fuel: every
`continue` (re-arm of a clamped deadline timer) takes at least 1 ns off what is still to be armed (`remSum`), and the
model gives the loop `expiredFuel s = remSum s + 1`.  Needs the model only; used by `Lemmas/ClientNotLate.lean`,
`Props/C14Client.lean` and `Props/C02.lean`.
-/
namespace TarpcModel.Client

/-- What is still to be armed: every re-arm takes at least 1 ns off it. -/
def remSum (s : St) : Nat := (s.inflight.map (·.remainder)).sum

theorem expiredFuel_eq (s : St) : expiredFuel s = remSum s + 1 := rfl

theorem clampTimeout_pos {r : Nat} (h : r ≠ 0) : 1 ≤ clampTimeout r := by
  unfold clampTimeout; split
  · omega
  · rename_i hc
    have : Gen.clientTimerClampSecs ≠ 0 := by simpa using hc
    omega

theorem sum_rearm_le (l : List Entry) (id key t due : Nat) :
    ((l.map (rearmEntry id key t due)).map (·.remainder)).sum ≤ (l.map (·.remainder)).sum := by
  induction l with
  | nil => exact Nat.le_refl _
  | cons x xs ih =>
    simp only [List.map_cons, List.sum_cons]
    have : (rearmEntry id key t due x).remainder ≤ x.remainder := by
      unfold rearmEntry; split
      · exact Nat.sub_le _ _
      · exact Nat.le_refl _
    omega

theorem sum_rearm_lt {l : List Entry} {id key t due : Nat} {en : Entry} (hf : l.find? (·.id == id) = some en)
    (hr : en.remainder ≠ 0) (ht : 1 ≤ t) :
    ((l.map (rearmEntry id key t due)).map (·.remainder)).sum + 1 ≤ (l.map (·.remainder)).sum := by
  induction l with
  | nil => cases hf
  | cons x xs ih =>
    simp only [List.map_cons, List.sum_cons]
    rw [List.find?_cons] at hf
    split at hf
    · rename_i hx
      cases hf
      have h1 := sum_rearm_le xs id key t due
      have : (rearmEntry id key t due en).remainder = en.remainder - t := by
        unfold rearmEntry; rw [if_pos hx]
      omega
    · rename_i hx
      have : rearmEntry id key t due x = x := by
        unfold rearmEntry; rw [if_neg (by simpa using hx)]
      rw [this]
      have := ih hf
      omega

theorem rearmWith_again {s s' : St} {id t due : Nat} {r : DelayQ × DelayQ.InsertRes × Bool}
    (h : rearmWith s id t due r = .again s') : ∃ key, s'.inflight = s.inflight.map (rearmEntry id key t due) := by
  obtain ⟨q', res, w⟩ := r
  cases res with
  | panic => simp [rearmWith] at h
  | ok key =>
    simp only [rearmWith, ExpStep.again.injEq] at h
    subst h
    refine ⟨key, ?_⟩
    split
    · unfold wakeDispatch; split <;> rfl
    · rfl

/-- A `continue` of `poll_expired`'s loop strictly decreases what is still to be armed. -/
theorem expireWith_again {s s' : St} {now : Nat} {r : DelayQ × DelayQ.PollRes} (h : expireWith s now r = .again s') :
    remSum s' + 1 ≤ remSum s := by
  unfold expireWith at h
  split at h
  · rename_i q e
    split at h
    · rename_i en hf
      split at h
      · rename_i hne
        unfold rearm at h
        obtain ⟨key, hk⟩ := rearmWith_again h
        unfold remSum; rw [hk]
        have hrest : en.remainder - (now - en.dueAt) ≠ 0 := by simpa using hne
        have := clampTimeout_pos hrest
        exact sum_rearm_lt hf (by omega) (by omega)
      · cases h
    · cases h
  · cases h

/-- **Fuel adequacy of `poll_expired`'s loop.**  Any two amounts of fuel above what is still to be armed give the same
result: the loop ends by itself (a queue poll that yields nothing, a request failed, a panic) before the fuel does. -/
theorem pollExpiredLoop_fuel (fuel1 fuel2 : Nat) (s : St) (now : Nat) (h1 : remSum s < fuel1) (h2 : remSum s < fuel2) :
    pollExpiredLoop fuel1 s now = pollExpiredLoop fuel2 s now := by
  induction fuel1 generalizing fuel2 s with
  | zero => omega
  | succ f1 ih =>
    cases fuel2 with
    | zero => omega
    | succ f2 =>
      cases hstep : expireStep s now with
      | again s' =>
        have := expireWith_again (r := s.timers.pollExpired now) hstep
        simp only [pollExpiredLoop, hstep]
        exact ih f2 s' (by omega) (by omega)
      | done s' b => simp only [pollExpiredLoop, hstep]

/-- The model's `expiredFuel` is such an amount: more fuel changes nothing. -/
theorem pollExpired_fuel_adequate (s : St) (now : Nat) (fuel : Nat) (h : expiredFuel s ≤ fuel) :
    pollExpiredLoop fuel s now = pollExpired s now :=
  pollExpiredLoop_fuel fuel (expiredFuel s) s now (by rw [expiredFuel_eq] at h; omega) (by rw [expiredFuel_eq]; omega)

end TarpcModel.Client
