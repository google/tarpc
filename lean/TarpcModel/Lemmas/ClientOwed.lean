import TarpcModel.Lemmas.ClientBook
/-!
# Judging a client trace event by event

`bookOf b evs` is the monitors' book after the events `evs`, `obsBook b os` after the observations `os` of one op, in the
order they were made (`monOf` of `Lemmas/ClientBook.lean` is the same fold for a whole monitor over the view's newest-first
list `rel`; `foldl_obs_eq`, `foldl_mon_book` join them); its fields as functions of the observations are `obsBook_*`.
A monitor accepts a list of events if its checker passes at every position, given the book there (`mon_accepts_of_splits`).
-/
namespace TarpcModel.Client

/-- the book after the events `evs` -/
def bookOf (b : Book) (evs : List CEv) : Book := evs.foldl Book.step b

@[simp] theorem bookOf_nil (b : Book) : bookOf b [] = b := rfl
@[simp] theorem bookOf_cons (b : Book) (e : CEv) (evs : List CEv) : bookOf b (e :: evs) = bookOf (b.step e) evs := rfl
theorem bookOf_append (b : Book) (l1 l2 : List CEv) : bookOf b (l1 ++ l2) = bookOf (bookOf b l1) l2 := by
  unfold bookOf; rw [List.foldl_append]

theorem foldl_mon_book {σ : Type} (check : Book → σ → CEv → σ × Option String) (m : Mon σ) (evs : List CEv) :
    (evs.foldl (Mon.step check) m).book = bookOf m.book evs :=
  (List.foldl_hom (·.book) (g₁ := Mon.step check) (g₂ := Book.step) (fun m e => (Mon.step_book check m e).symm)).symm

/-- **A monitor accepts if its checker passes at every position.** -/
theorem mon_accepts_of_splits {σ : Type} (check : Book → σ → CEv → σ × Option String) (m : Mon σ) (evs : List CEv)
    (hb : m.bad = none)
    (h : ∀ pre e post, evs = pre ++ e :: post → ∀ st, (preBook (bookOf m.book pre) e).spun = false →
      (check (preBook (bookOf m.book pre) e) st e).2 = none) :
    (evs.foldl (Mon.step check) m).bad = none := by
  refine (foldl_keeps_rest (f := Mon.step check)
    (K := fun m l => m.bad = none ∧ ∀ pre e post, l = pre ++ e :: post → ∀ st,
      (preBook (bookOf m.book pre) e).spun = false → (check (preBook (bookOf m.book pre) e) st e).2 = none)
    (fun m e evs ⟨hb, h⟩ => ⟨?_, ?_⟩) evs ⟨hb, h⟩).1
  · rw [Mon.step_bad, hb]
    simp only
    unfold Mon.res
    rw [Mon.pre_eq]
    have := h [] e evs rfl m.st
    simp only [bookOf_nil] at this
    split
    · rfl
    · rename_i hs; exact this (by simpa using hs)
  · intro pre e' post he st
    rw [Mon.step_book]
    have := h (e :: pre) e' post (by rw [he]; rfl) st
    simpa using this

/-! ### the book as a function of the observations of an op -/

/-- `Response id` was read -/
def isRead (id : Nat) : Obs → Bool
  | .tNext _ (.item (.response i _)) => i == id
  | _ => false

/-- `Cancel id` was written -/
def isCancelOk (id : Nat) : Obs → Bool
  | .tSend _ (.cancel i _) true => i == id
  | _ => false

/-- a `Request` write -/
def isReq : Obs → Bool
  | .tSend _ (.request _ _ _ _) _ => true
  | _ => false

theorem step_obs_frame (b : Book) (o : Obs) : (b.step (.obs o)).topPoll = b.topPoll ∧ (b.step (.obs o)).now = b.now :=
  Book.step_obs_cases (motive := fun _ b' => b'.topPoll = b.topPoll ∧ b'.now = b.now) b o
    (same := fun _ _ _ _ => ⟨rfl, rfl⟩) (req := fun _ _ _ _ _ _ => ⟨rfl, rfl⟩) (canOk := fun _ _ _ => ⟨rfl, rfl⟩)
    (canFail := fun _ _ _ => ⟨rfl, rfl⟩) (read := fun _ _ _ => ⟨rfl, rfl⟩) (ready := fun _ => ⟨rfl, rfl⟩)
    (fail := fun _ _ _ _ => ⟨rfl, rfl⟩) (resolved := fun _ _ _ => ⟨rfl, rfl⟩) (ret := fun _ _ _ => ⟨rfl, rfl⟩)
    (stop := fun _ _ _ _ => ⟨rfl, rfl⟩)

theorem step_obs_pollReadyP (b : Book) (o : Obs) : (b.step (.obs o)).pollReadyP = (b.pollReadyP || readyP o) :=
  Book.step_obs_cases (motive := fun o b' => b'.pollReadyP = (b.pollReadyP || readyP o)) b o
    (same := fun _ h _ _ => by rw [h, Bool.or_false]) (req := fun _ _ _ _ _ _ => (Bool.or_false _).symm)
    (canOk := fun _ _ _ => (Bool.or_false _).symm) (canFail := fun _ _ _ => (Bool.or_false _).symm)
    (read := fun _ _ _ => (Bool.or_false _).symm) (ready := fun _ => (Bool.or_true _).symm)
    (fail := fun _ _ h _ => by rw [h, Bool.or_false]) (resolved := fun _ _ _ => (Bool.or_false _).symm)
    (ret := fun _ _ _ => (Bool.or_false _).symm) (stop := fun _ _ h _ => by rw [h, Bool.or_false])

theorem step_obs_failed (b : Book) (o : Obs) : (b.step (.obs o)).failed = (b.failed || isFail o) :=
  Book.step_obs_cases (motive := fun o b' => b'.failed = (b.failed || isFail o)) b o
    (same := fun _ _ h _ => by rw [h, Bool.or_false]) (req := fun _ _ _ _ _ _ => (Bool.or_false _).symm)
    (canOk := fun _ _ _ => (Bool.or_false _).symm) (canFail := fun _ _ _ => (Bool.or_true _).symm)
    (read := fun _ _ _ => (Bool.or_false _).symm) (ready := fun _ => (Bool.or_false _).symm)
    (fail := fun _ h _ _ => by rw [h, Bool.or_true]) (resolved := fun _ _ _ => (Bool.or_false _).symm)
    (ret := fun _ _ _ => (Bool.or_false _).symm) (stop := fun _ _ _ h => by rw [h, Bool.or_false])

/-- the book after the observations `os` -/
abbrev obsBook (b : Book) (os : List Obs) : Book := bookOf b (os.map CEv.obs)

theorem obsBook_cons (b : Book) (o : Obs) (os : List Obs) : obsBook b (o :: os) = obsBook (b.step (.obs o)) os := rfl

theorem obsBook_same {α : Type} (f : Book → α) (hf : ∀ b o, f (b.step (.obs o)) = f b) (b : Book) (os : List Obs) :
    f (obsBook b os) = f b := by
  induction os generalizing b with
  | nil => rfl
  | cons o os ih => rw [obsBook_cons, ih, hf]

theorem obsBook_flag (f : Book → Bool) (p : Obs → Bool) (hf : ∀ b o, f (b.step (.obs o)) = (f b || p o)) (b : Book)
    (os : List Obs) : f (obsBook b os) = (f b || os.any p) := by
  induction os generalizing b with
  | nil => simp [obsBook]
  | cons o os ih => rw [obsBook_cons, ih, hf]; simp [Bool.or_assoc]

theorem obsBook_topPoll (b : Book) (os : List Obs) : (obsBook b os).topPoll = b.topPoll :=
  obsBook_same (·.topPoll) (fun b o => (step_obs_frame b o).1) b os

theorem obsBook_now (b : Book) (os : List Obs) : (obsBook b os).now = b.now :=
  obsBook_same (·.now) (fun b o => (step_obs_frame b o).2) b os

theorem obsBook_pollReadyP (b : Book) (os : List Obs) : (obsBook b os).pollReadyP = (b.pollReadyP || os.any readyP) :=
  obsBook_flag (·.pollReadyP) readyP step_obs_pollReadyP b os

theorem obsBook_failed (b : Book) (os : List Obs) : (obsBook b os).failed = (b.failed || os.any isFail) :=
  obsBook_flag (·.failed) isFail step_obs_failed b os

theorem obsBook_spun (b : Book) (os : List Obs) : (obsBook b os).spun = (b.spun || os.any isStop) :=
  obsBook_flag (·.spun) isStop Book.spun_step b os

/-- the sends, reads and cancels only grow -/
theorem step_obs_mono (b : Book) (o : Obs) :
    (∀ sd ∈ b.sends, sd ∈ (b.step (.obs o)).sends) ∧ (∀ rd ∈ b.reads, rd ∈ (b.step (.obs o)).reads) ∧
    (∀ p ∈ b.cancels, p ∈ (b.step (.obs o)).cancels) :=
  have keep : (∀ sd ∈ b.sends, sd ∈ b.sends) ∧ (∀ rd ∈ b.reads, rd ∈ b.reads) ∧ (∀ p ∈ b.cancels, p ∈ b.cancels) :=
    ⟨fun _ h => h, fun _ h => h, fun _ h => h⟩
  Book.step_obs_cases
    (motive := fun _ b' => (∀ sd ∈ b.sends, sd ∈ b'.sends) ∧ (∀ rd ∈ b.reads, rd ∈ b'.reads) ∧ (∀ p ∈ b.cancels, p ∈ b'.cancels)) b o
    (same := fun _ _ _ _ => keep) (req := fun _ _ _ _ _ _ => ⟨fun _ h => List.mem_append_left _ h, keep.2⟩)
    (canOk := fun _ _ _ => ⟨keep.1, keep.2.1, fun _ h => List.mem_append_left _ h⟩) (canFail := fun _ _ _ => keep)
    (read := fun _ _ _ => ⟨keep.1, fun _ h => List.mem_append_left _ h, keep.2.2⟩) (ready := fun _ => keep)
    (fail := fun _ _ _ _ => keep) (resolved := fun _ _ _ => keep) (ret := fun _ _ _ => keep) (stop := fun _ _ _ _ => keep)

theorem step_obs_sends_new (b : Book) (o : Obs) (sd : BSend) :
    sd ∈ (b.step (.obs o)).sends → sd ∈ b.sends ∨ ∃ ep tr, o = .tSend ep (.request sd.id sd.deadline tr sd.body) sd.ok :=
  Book.step_obs_cases
    (motive := fun o b' => sd ∈ b'.sends → sd ∈ b.sends ∨ ∃ ep tr, o = .tSend ep (.request sd.id sd.deadline tr sd.body) sd.ok) b o
    (same := fun _ _ _ _ => Or.inl)
    (req := fun ep id d tr body ok h => by
      rcases List.mem_append.mp h with h | h
      · exact Or.inl h
      · rw [List.mem_singleton] at h; subst h; exact Or.inr ⟨ep, tr, rfl⟩)
    (canOk := fun _ _ _ => Or.inl) (canFail := fun _ _ _ => Or.inl) (read := fun _ _ _ => Or.inl) (ready := fun _ => Or.inl)
    (fail := fun _ _ _ _ => Or.inl) (resolved := fun _ _ _ => Or.inl) (ret := fun _ _ _ => Or.inl) (stop := fun _ _ _ _ => Or.inl)

theorem obsBook_mono (b : Book) (os : List Obs) :
    (∀ sd ∈ b.sends, sd ∈ (obsBook b os).sends) ∧ (∀ rd ∈ b.reads, rd ∈ (obsBook b os).reads) ∧
    (∀ p ∈ b.cancels, p ∈ (obsBook b os).cancels) := by
  induction os generalizing b with
  | nil => exact ⟨fun _ h => h, fun _ h => h, fun _ h => h⟩
  | cons o os ih =>
    obtain ⟨m1, m2, m3⟩ := step_obs_mono b o
    obtain ⟨i1, i2, i3⟩ := ih (b.step (.obs o))
    exact ⟨fun x h => i1 x (m1 x h), fun x h => i2 x (m2 x h), fun x h => i3 x (m3 x h)⟩

theorem obsBook_sends_mono (b : Book) (os : List Obs) : ∀ sd ∈ b.sends, sd ∈ (obsBook b os).sends := (obsBook_mono b os).1
theorem obsBook_reads_mono (b : Book) (os : List Obs) : ∀ rd ∈ b.reads, rd ∈ (obsBook b os).reads := (obsBook_mono b os).2.1
theorem obsBook_cancels_mono (b : Book) (os : List Obs) : ∀ p ∈ b.cancels, p ∈ (obsBook b os).cancels :=
  (obsBook_mono b os).2.2

/-- a `Response id` observed is recorded as a read -/
theorem obsBook_read (b : Book) (os : List Obs) (id : Nat) (h : os.any (isRead id) = true) :
    ∃ rd ∈ (obsBook b os).reads, rd.id = id := by
  induction os generalizing b with
  | nil => simp at h
  | cons o os ih =>
    rw [obsBook_cons]
    simp only [List.any_cons, Bool.or_eq_true] at h
    rcases h with h | h
    · cases o with
      | tNext ep r =>
        cases r with
        | item m =>
          cases m with
          | response i res =>
            simp only [isRead, beq_iff_eq] at h
            refine ⟨{ id := i, res := res, time := b.now, sentBefore := (b.sends.any (fun s => s.id == i && s.ok)) },
              obsBook_reads_mono _ os _ ?_, h⟩
            simp [Book.step]
          | _ => simp [isRead] at h
        | _ => simp [isRead] at h
      | _ => simp [isRead] at h
    · exact ih _ h

/-- a successful `Cancel id` observed is recorded -/
theorem obsBook_cancel (b : Book) (os : List Obs) (id : Nat) (h : os.any (isCancelOk id) = true) :
    ∃ p ∈ (obsBook b os).cancels, p.1 = id := by
  induction os generalizing b with
  | nil => simp at h
  | cons o os ih =>
    rw [obsBook_cons]
    simp only [List.any_cons, Bool.or_eq_true] at h
    rcases h with h | h
    · cases o with
      | tSend ep m ok =>
        cases m with
        | cancel i tr =>
          cases ok with
          | true =>
            simp only [isCancelOk, beq_iff_eq] at h
            refine ⟨(i, tr, b.writes), obsBook_cancels_mono _ os _ ?_, h⟩
            simp [Book.step]
          | false => simp [isCancelOk] at h
        | _ => simp [isCancelOk] at h
      | _ => simp [isCancelOk] at h
    · exact ih _ h

/-- a send recorded during the observations `os` was observed as a `Request` write -/
theorem obsBook_sends_new (b : Book) (os : List Obs) :
    ∀ sd ∈ (obsBook b os).sends, sd ∈ b.sends ∨
      ∃ ep tr, Obs.tSend ep (.request sd.id sd.deadline tr sd.body) sd.ok ∈ os := by
  induction os generalizing b with
  | nil => exact fun _ h => Or.inl h
  | cons o os ih =>
    intro sd hsd
    rw [obsBook_cons] at hsd
    rcases ih _ sd hsd with h | ⟨ep, tr, h⟩
    · rcases step_obs_sends_new b o sd h with h | ⟨ep, tr, rfl⟩
      · exact Or.inl h
      · exact Or.inr ⟨ep, tr, List.mem_cons_self⟩
    · exact Or.inr ⟨ep, tr, List.mem_cons_of_mem _ h⟩

end TarpcModel.Client
