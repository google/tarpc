import TarpcModel.Lemmas.ServerSteps
import TarpcModel.Lemmas.TraceFold
/-!
Facts about the server model on top of `ServerSteps`: the model functions along the closure classes `ExecClosed`, `StepClosed`,
`LoopClosed`, `PrimClosed` (each closed under more; instances of the `_steps` lemmas; `reach_inv` lifts a primitive-closed predicate to every reachable
state), what a function adds to the log (`adds_*`), and on them the transport-contract facts: `W` (no send without
`poll_ready → Ready`), `NS` (fuel adequacy: no `spin`, with the measure `mu`), flush before idle, `readFused`, `done`/`dropped`,
the failure tags (`fails`, `ErrShape`).
-/
namespace TarpcModel
namespace Server.Flow
open TarpcModel

variable {now : Nat} {P : St → Prop}

theorem ExecClosed.wakeServer (hc : ExecClosed P) (s : St) (h : P s) : P (wakeServer s) :=
  (wakeServer_in (A := ExecCK) (fun _ => .emit trivial) (.book .woken) s).kept hc.closed h

theorem ExecClosed.rqRelease (hc : ExecClosed P) (s : St) (h : P s) : P (rqRelease s) :=
  hc.along wake_le_execC (rqRelease_steps s) h

theorem ExecClosed.pollExec (hc : ExecClosed P) (s : St) (vid n : Nat) (h : P s) : P (pollExec s vid n) :=
  hc.along exec_le_execC (pollExec_steps s vid n) h

theorem ExecClosed.dropExec (hc : ExecClosed P) (s : St) (vid n : Nat) (h : P s) : P (dropExec s vid n) :=
  hc.along exec_le_execC (dropExec_steps s vid n) h

theorem ExecClosed.finishHandler (hc : ExecClosed P) (s : St) (vid : Nat) (res : Res) (h : P s) :
    P (finishHandler s vid res) :=
  hc.along (fun k hk => exec_le_execC k (finish_le_exec k hk)) (finishHandler_steps s vid res) h

theorem StepClosed.tReady (hc : StepClosed now P) (s : St) (h : P s) : P (tReady s).1 :=
  hc.along (fun k hk => .inl (sink_le_stepF (fun o ho => by cases ho; exact trivial) k hk)) (tReady_steps s) h

theorem StepClosed.tFlush (hc : StepClosed now P) (s : St) (h : P s) : P (tFlush s).1 :=
  hc.along (fun k hk => .inl (sink_le_stepF (fun o ho => by cases ho; exact trivial) k hk)) (tFlush_steps s) h

theorem StepClosed.tNext (hc : StepClosed now P) (s : St) (h : P s) : P (tNext s).1 :=
  hc.closed (.inr .tNext) (.tNext s) h

theorem StepClosed.bpCancel (hc : StepClosed now P) (s : St) (h : P s) : P (bpCancel s).1 :=
  hc.along (by
    rintro k (rfl | rfl | rfl)
    · exact .inl (.exec (.book .popCancel))
    · exact .inl (.exec (.book (.cancelRx _)))
    · exact .inr .removeReq) (bpCancel_steps s) h

theorem StepClosed.bpStep (hc : StepClosed now P) (s : St) (h : P s) : P (bpStep s now).1 :=
  hc.along bpStep_le_step (bpStep_steps s now) h

theorem LoopClosed.basePollNext (hc : LoopClosed now P) (fuel : Nat) (s : St) (h : P s) :
    P (basePollNext fuel s now).1 :=
  hc.along (fun k hk => pump_le_loop k (base_le_pump k hk)) (basePollNext_steps fuel s now) h

theorem StepClosed.baseStartSend (hc : StepClosed now P) (s : St) (id : Nat) (res : Res) (h : P s) :
    P (baseStartSend s id res).1 :=
  hc.closed (.inr .baseSend) (.baseSend s id res) h

theorem StepClosed.ensureOnce (hc : StepClosed now P) (s : St) (h : P s) : P (ensureOnce s).1 :=
  ensureOnce_ind hc.tReady hc.tFlush s h

theorem LoopClosed.ensureWriteable (hc : LoopClosed now P) (s : St) (h : P s) : P (ensureWriteable s).1 :=
  ensureWriteable_ind hc.tReady hc.tFlush hc.spin s h

theorem StepClosed.flushArm (hc : StepClosed now P) (s : St) (rc : Bool) (h : P s) : P (flushArm s rc).1 :=
  flushArm_ind hc.tFlush s rc h

theorem StepClosed.dropOffered (hc : StepClosed now P) (s : St) (rid id : Nat) (h : P s) : P (dropOffered s rid id) :=
  hc.along drop_le_step (dropOffered_steps s rid id) h

theorem LoopClosed.channelPollNext (hc : LoopClosed now P) (s : St) (h : P s) : P (channelPollNext s now).1 :=
  hc.along (fun k hk => pump_le_loop k (chan_le_pump k hk)) (channelPollNext_steps s now) h

theorem LoopClosed.pumpWrite (hc : LoopClosed now P) (s : St) (rc : Bool) (h : P s) : P (pumpWrite s rc).1 :=
  hc.along (fun k hk => pump_le_loop k (write_le_pump k hk)) (pumpWrite_steps s rc) h

theorem LoopClosed.armRead (hc : LoopClosed now P) (s : St) (r : SPoll Exec) (h : P s) : P (armRead s r) :=
  hc.along (by rintro k rfl; exact .inl (.inl (.exec (.upd UKind.noConfusion)))) (armRead_steps s r) h

theorem LoopClosed.rpWr (hc : LoopClosed now P) (s : St) (h : P s) : P (rpWr s now).1 :=
  hc.pumpWrite _ _ (hc.armRead _ _ (hc.channelPollNext s h))

theorem LoopClosed.requestsPollNext (hc : LoopClosed now P) :
    ∀ (fuel : Nat) (s : St), P s → P (requestsPollNext fuel s now).1 :=
  fun fuel s h => hc.along pump_le_loop (requestsPollNext_steps fuel s) h

theorem PrimClosed.pollServer (hc : PrimClosed now P) (s : St) (h : P s) : P (pollServer s now) :=
  (pollServer_steps s now).kept (fun hk hp ha => hc.closed h (poll_le_prim _ hk) hp ha) h

theorem StepClosed.onAdvance (hc : StepClosed now P) (s : St) (n : Nat) (h : P s) : P (onAdvance s n) :=
  hc.along ext_le_step (onAdvance_steps s n) h

theorem PrimClosed.applyOp (c : Sys) (hc : PrimClosed c.now P) (op : SOp) (h : P c.s)
    (_hop : ∀ n, op ≠ .advance n) : P (applyOp c op).s := by
  have ho := applyOp_out c op
  generalize (Server.applyOp c op).s = a at ho ⊢
  cases ho with
  | pollServer => exact hc.pollServer _ h
  | dropServer => exact hc.drop _ h
  | pollExec r => exact hc.pollExec _ _ _ h
  | dropExec r => exact hc.dropExec _ _ _ h
  | finish r res => exact hc.finishHandler _ _ _ h
  | ext hs => exact hc.toStepClosed.along ext_le_step hs h

/-- Lifting to op lists: a clock-indexed family of primitive-closed predicates that is monotone in the
clock holds in every reachable state. -/
theorem reach_inv (Q : Nat → St → Prop) (hc : ∀ now, PrimClosed now (Q now))
    (hmono : ∀ now now' s, now ≤ now' → Q now s → Q now' s) (c : Sys) (h : Q c.now c.s) (ops : List SOp) :
    Q (ops.foldl Server.applyOp c).now (ops.foldl Server.applyOp c).s :=
  foldl_keeps (P := fun c : Sys => Q c.now c.s) (fun c op h => by
    by_cases hop : ∃ n, op = .advance n
    · obtain ⟨n, rfl⟩ := hop
      exact (hc _).onAdvance _ _ (hmono _ _ _ (Nat.le_add_right _ _) h)
    · have hnow : (Server.applyOp c op).now = c.now := by
        cases op <;> first | rfl | exact absurd ⟨_, rfl⟩ hop
      rw [hnow]
      exact (hc _).applyOp c op h (fun n hn => hop ⟨n, hn⟩)) ops h

/-! ## configuration fields never change -/

theorem foldl_abortExec_frame {α : Type} (g : St → α) (hg : ∀ s r, g (abortExec s r) = g s)
    (es : List SEntry) (s : St) : g (es.foldl (fun s e => abortExec s e.rid) s) = g s := by
  induction es generalizing s with
  | nil => rfl
  | cons e es ih => simp only [List.foldl_cons]; rw [ih, hg]

theorem foldl_wakeExec_frame {α : Type} (g : St → α) (hg : ∀ s r, g (wakeExec s r) = g s)
    (ws : List Nat) (s : St) : g (ws.foldl wakeExec s) = g s := by
  induction ws generalizing s with
  | nil => rfl
  | cons e es ih => simp only [List.foldl_cons]; rw [ih, hg]

theorem dropServer_dropped (s : St) (hlive : (s.dropped || s.poisoned) = false) : (dropServer s).dropped = true := by
  rw [dropServer_eq, hlive, if_neg Bool.false_ne_true]
  show (dsS2 s).dropped = true
  unfold dsS2 dsS1
  rw [foldl_wakeExec_frame (fun s => St.dropped s) (by simp)]
  simp only
  rw [foldl_abortExec_frame (fun s => St.dropped s) (by simp)]

theorem dropServer_dropped_mono (s : St) (h : s.dropped = true) : (dropServer s).dropped = true := by
  rw [dropServer_eq, if_pos (by rw [h]; rfl)]
  exact h

frames dropServer (s : St) : dropServer s ~ s =>
  sidx limit ensureLoop throttleAfterRead readFused done poisoned t nextVis
  by (unfold dropServer; split; rfl; simp only;
      first
      | rw [foldl_wakeExec_frame (fun s => St.sidx s) (by simp), foldl_abortExec_frame (fun s => St.sidx s) (by simp)]
      | rw [foldl_wakeExec_frame (fun s => St.limit s) (by simp), foldl_abortExec_frame (fun s => St.limit s) (by simp)]
      | rw [foldl_wakeExec_frame (fun s => St.ensureLoop s) (by simp), foldl_abortExec_frame (fun s => St.ensureLoop s) (by simp)]
      | rw [foldl_wakeExec_frame (fun s => St.throttleAfterRead s) (by simp), foldl_abortExec_frame (fun s => St.throttleAfterRead s) (by simp)]
      | rw [foldl_wakeExec_frame (fun s => St.readFused s) (by simp), foldl_abortExec_frame (fun s => St.readFused s) (by simp)]
      | rw [foldl_wakeExec_frame (fun s => St.done s) (by simp), foldl_abortExec_frame (fun s => St.done s) (by simp)]
      | rw [foldl_wakeExec_frame (fun s => St.poisoned s) (by simp), foldl_abortExec_frame (fun s => St.poisoned s) (by simp)]
      | rw [foldl_wakeExec_frame (fun s => St.t s) (by simp), foldl_abortExec_frame (fun s => St.t s) (by simp)]
      | rw [foldl_wakeExec_frame (fun s => St.nextVis s) (by simp), foldl_abortExec_frame (fun s => St.nextVis s) (by simp)])

def Cfg (c s : St) : Prop :=
  s.sidx = c.sidx ∧ s.limit = c.limit ∧ s.ensureLoop = c.ensureLoop ∧ s.throttleAfterRead = c.throttleAfterRead

theorem cfg_closed (c : St) (now : Nat) : PrimClosed now (Cfg c) where
  inert := fun s s' hi h => by
    unfold Cfg at *; rw [hi.sidx, hi.limit, hi.ensureLoop, hi.throttleAfterRead]; exact h
  emit := fun s o _ h => h
  upd := fun s r f _ h => h
  setT := fun s t h => h
  setFused := fun s h => h
  spin := fun s h => h
  removeReq := fun s id h => by simpa [Cfg] using h
  cancel := fun s id tr h _ => by simpa [Cfg] using h
  expire := fun s h => by simpa [Cfg] using h
  start := fun s id d tr b h => by simpa [Cfg] using h
  spunReset := fun s0 s _ h => h
  setDone := fun s r h => h
  drop := fun s h => by simpa [Cfg] using h
  timerWaker := fun s b h => h

/-! ## C14: no send without a preceding `poll_ready → Ready`

`hcfg : throttleAfterRead = false` selects `limitedPollNextLegacy`: `MaxRequests::poll_next` as it is in the code (the generated
flag is read by `init_cfg`, `Lemmas/ServerTable.lean`); the variant `limitedPollNextFixed` skips `poll_ready` below its limit, and
`W` fails along it.  `hel : ensureLoop = false`: the code's `ensure_writeable` polls once. -/

/-- the transport has not recorded a `send-without-ready` violation -/
def W (s : St) : Prop := SimT.NoSWR s.t

theorem W_tReady {s : St} (h : W s) : W (tReady s).1 := by
  unfold W; rw [tReady_t]; exact SimT.NoSWR_pollReady h

theorem tReady_ready {s s' : St} (h : tReady s = (s', .ready)) : s'.t.gotReady = true := by
  have h1 := tReady_t s; have h2 := tReady_res s
  rw [h] at h1 h2
  simp only at h1 h2
  rw [h1]; exact SimT.pollReady_ready h2.symm

theorem W_tFlush {s : St} (h : W s) : W (tFlush s).1 := by
  unfold W; rw [tFlush_t]; exact SimT.NoSWR_pollFlush h

theorem W_tSend {s : St} (h : W s) (hg : s.t.gotReady = true) (m : Msg) : W (tSend s m).1 := by
  unfold W; rw [tSend_t]; exact SimT.NoSWR_startSend h hg m

theorem bpCancel_t (s : St) : (bpCancel s).1.t = s.t := by
  unfold bpCancel; split <;> simp

/-- (the whole transport stays, not only `inbound`) -/
theorem bpOther_inbound (s : St) (nx : NextRes) : (bpOther s nx).1.t = s.t := by
  unfold bpOther; split <;> simp

theorem bpStep_wside (s : St) (now : Nat) : SimT.wside (bpStep s now).1.t = SimT.wside s.t := by
  have h2 : SimT.wside (bp2 s now).t = SimT.wside s.t := by unfold bp2; simp [bpCancel_t]
  have h3 : SimT.wside (bp3 s now).t = SimT.wside s.t := by unfold bp3; rw [tNext_wside]; exact h2
  have ho := bpStep_out s now
  generalize bpStep s now = p at ho ⊢
  cases ho with
  | poisoned2 => exact h2
  | readErr => exact h3
  | started | startPanic | duplicate => simpa using h3
  | _ => simpa [bpOther_inbound] using h3

theorem basePollNext_wside (fuel : Nat) (s : St) (now : Nat) :
    SimT.wside (basePollNext fuel s now).1.t = SimT.wside s.t :=
  basePollNext_ind (fun s' => SimT.wside s'.t = SimT.wside s.t) now
    (fun s' h => by rw [bpStep_wside]; exact h) (fun s' h => h) fuel s rfl

theorem W_basePollNext {s : St} (h : W s) (fuel now : Nat) : W (basePollNext fuel s now).1 := by
  unfold W SimT.NoSWR; rw [SimT.wside_violations (basePollNext_wside fuel s now)]; exact h

theorem basePollNext_gotReady (fuel : Nat) (s : St) (now : Nat) :
    (basePollNext fuel s now).1.t.gotReady = s.t.gotReady :=
  SimT.wside_gotReady (basePollNext_wside fuel s now)

theorem W_baseStartSend {s : St} (h : W s) (hg : s.t.gotReady = true) (id : Nat) (res : Res) :
    W (baseStartSend s id res).1 := by
  unfold baseStartSend
  have ht := removeRequest_t s id
  split
  · next s' heq =>
    rw [heq] at ht
    exact W_tSend (by unfold W; rw [ht]; exact h) (by rw [ht]; exact hg) _
  · next s' heq =>
    rw [heq] at ht
    unfold W; rw [ht]; exact h

/- (`W` here and `NS` below read `llStep_out` themselves, not `LimSpec`: `W` survives the refusal only because `poll_ready → Ready`
came first in the same iteration, `NS`'s invariant mentions the fuel.) -/
theorem W_limitedLegacy (limit now : Nat) : ∀ (fuel : Nat) (s : St), W s → W (limitedPollNextLegacy limit fuel s now).1 :=
  limitedLegacy_loop (I := fun _ => W) (Φ := fun s _ => W s) (fun n s h => by
    have ho := llStep_out limit s now
    unfold IterSpec
    generalize llStep limit s now = p at ho ⊢
    have hsend : ∀ s2 ex, (tReady s).2 = .ready → basePollNext (baseFuel (tReady s).1) (tReady s).1 now = (s2, .some ex) →
        W (baseStartSend s2 ex.id (.err throttleKindIdx)).1 := fun s2 ex he hb => by
      have h2 := W_basePollNext (W_tReady h) (baseFuel (tReady s).1) now
      have hg2 := basePollNext_gotReady (baseFuel (tReady s).1) (tReady s).1 now
      rw [hb] at h2 hg2
      exact W_baseStartSend h2 (hg2.trans (tReady_ready (s' := (tReady s).1) (Prod.ext rfl he))) _ _
    cases ho with
    | below hl => exact W_basePollNext h _ _
    | pending hl he => exact W_tReady h
    | readyErr hl he => exact W_tReady h
    | through hl he hne => exact W_basePollNext (W_tReady h) _ _
    | refuseErr hl he s2 ex hb hs => exact hsend s2 ex he hb
    | refused hl he s2 ex hb hs => exact hsend s2 ex he hb) (fun _ h => h)

theorem W_ensure_ready {a : St} (h : W a) :
    ReadySpec W (fun b r => W b ∧ (r = .ready → b.t.gotReady = true)) a := by
  unfold ReadySpec
  have h1 := W_tReady h
  generalize he : tReady a = p at h1 ⊢
  obtain ⟨s1, r⟩ := p
  cases r with
  | ready => exact ⟨h1, fun _ => tReady_ready he⟩
  | err => exact ⟨h1, fun h => by cases h⟩
  | pending => exact ⟨h1, h1, fun h => by cases h⟩

theorem W_ensure_flush {a : St} (h : W a) :
    FlushSpec W (fun b r => W b ∧ (r = .ready → b.t.gotReady = true)) a := by
  unfold FlushSpec
  have h1 := W_tFlush h
  generalize tFlush a = p at h1 ⊢
  obtain ⟨s1, r⟩ := p
  cases r with
  | ready => exact h1
  | err => exact ⟨h1, fun h => by cases h⟩
  | pending => exact ⟨h1, fun h => by cases h⟩

theorem W_ensureWriteable {s : St} (h : W s) :
    W (ensureWriteable s).1 ∧ ((ensureWriteable s).2 = .ready → (ensureWriteable s).1.t.gotReady = true) :=
  ensureWriteable_post (I := W) (fun _ => W_ensure_ready) (fun _ => W_ensure_flush)
    (fun a h => ⟨h, fun h => by cases h⟩) s h

theorem W_flushArm {s : St} (h : W s) (rc : Bool) : W (flushArm s rc).1 :=
  flushArm_ind (P := W) (fun _ => W_tFlush) s rc h

frames rqRelease (s : St) : rqRelease s ~ s =>
  sidx limit ensureLoop throttleAfterRead inflight timers cancelQ cancelRxWaker respQ readFused done dropped
  poisoned t nextVis
  by (unfold rqRelease; split <;> simp)

theorem W_pumpWrite {s : St} (h : W s) (rc : Bool) : W (pumpWrite s rc).1 := by
  obtain ⟨h1, hg⟩ := W_ensureWriteable h
  have ho := pumpWrite_out s rc
  generalize pumpWrite s rc = p at ho ⊢
  cases ho with
  | blocked s1 he => rw [he] at h1; exact W_flushArm h1 _
  | err s1 a he => rw [he] at h1; exact h1
  | spin s1 he => rw [he] at h1; exact h1
  | sent s1 id res rest he hq hs =>
    rw [he] at h1 hg
    exact W_baseStartSend (by unfold W at *; simpa using h1) (by simpa using hg rfl) id res
  | sendErr s1 id res rest he hq hs =>
    rw [he] at h1 hg
    exact W_baseStartSend (by unfold W at *; simpa using h1) (by simpa using hg rfl) id res
  | idle s1 he hq => rw [he] at h1; exact W_flushArm (by unfold W; exact h1) _

theorem W_channelPollNext {s : St} (h : W s) (hcfg : s.throttleAfterRead = false) (now : Nat) :
    W (channelPollNext s now).1 := by
  unfold channelPollNext
  split
  · exact W_basePollNext h _ _
  · simp only [hcfg]
    exact W_limitedLegacy _ _ _ s h

theorem dropOffered_t (s : St) (rid id : Nat) : (dropOffered s rid id).t = s.t := by
  unfold dropOffered; simp only; split <;> simp

theorem W_requestsPollNext (now : Nat) (fuel : Nat) (s : St) (h : W s) (hcfg : s.throttleAfterRead = false) :
    W (requestsPollNext fuel s now).1 :=
  requestsPollNext_loop (I := fun s => W s ∧ s.throttleAfterRead = false) (Φ := fun s _ => W s)
    (fun s ⟨h, hcfg⟩ => by
      have h1 : W (rpRd s now).1 := W_channelPollNext h hcfg now
      have h3 : W (rpWr s now).1 := W_pumpWrite (by unfold W; rw [armRead_t]; exact h1) _
      have hW : W (rpStep s now).1 := by
        rcases rpStep_fst s now with e | e | ⟨ex, _, e⟩ <;> rw [e]
        · exact h1
        · exact h3
        · unfold W; rw [dropOffered_t]; exact h3
      refine .of_eq (fun hn => ⟨hW, ?_⟩) (fun _ _ => hW)
      rw [(rpStep_idle (.inl hn)).2.1]
      exact ((cfg_closed s now).toLoopClosed.rpWr s ⟨rfl, rfl, rfl, rfl⟩).2.2.2.trans hcfg)
    (fun s h => h.1) fuel s ⟨h, hcfg⟩

theorem pskRet_t (s : St) (r : ReqPoll) : (pskRet s r).1.t = s.t := by
  unfold pskRet; split <;> try rfl
  split <;> rfl

theorem pskFinish_t (s : St) (r : ReqPoll) : (pskFinish s r).t = s.t := by
  unfold pskFinish; simp [pskRet_t]

theorem W_pollServerKeep {s : St} (h : W s) (hcfg : s.throttleAfterRead = false) (now : Nat) :
    W (pollServerKeep s now) := by
  have h1 := W_requestsPollNext now (pollFuel { s with woken := false }) { s with woken := false } h hcfg
  have ho := pollServerKeep_out s now
  generalize pollServerKeep s now = a at ho ⊢
  cases ho with
  | dead => exact h
  | reset _ s1 r he => rw [he] at h1; exact h1
  | poisoned _ _ r he => rw [he] at h1; exact h1
  | fin _ s1 r he => rw [he] at h1; unfold W; rw [pskFinish_t]; exact h1

theorem W_pollServer {s : St} (h : W s) (hcfg : s.throttleAfterRead = false) (now : Nat) :
    W (pollServer s now) :=
  pollServer_ind s now (W_pollServerKeep h hcfg now) (by unfold W; rw [dropServer_t]; exact W_pollServerKeep h hcfg now)
    (W_pollServerKeep h hcfg now)

theorem tFrame_closed (t0 : SimT) : ExecClosed (fun s => s.t = t0) where
  inert := fun s s' hi h => by rw [hi.t]; exact h
  emit := fun s o _ h => h
  upd := fun s r f _ h => h

@[simp] theorem pollExec_t (s : St) (vid n : Nat) : (pollExec s vid n).t = s.t :=
  (tFrame_closed s.t).pollExec s vid n rfl
@[simp] theorem dropExec_t (s : St) (vid n : Nat) : (dropExec s vid n).t = s.t :=
  (tFrame_closed s.t).dropExec s vid n rfl
@[simp] theorem finishHandler_t (s : St) (vid : Nat) (res : Res) : (finishHandler s vid res).t = s.t :=
  (tFrame_closed s.t).finishHandler s vid res rfl

theorem liftT_t (s : St) (r : SimT × Bool) : (liftT s r).t = r.1 := by
  unfold liftT; simp only; split <;> simp

theorem onAdvance_t (s : St) (n : Nat) : (onAdvance s n).t = s.t := by
  unfold onAdvance; repeat' split
  all_goals simp

theorem took_t (ms : List Msg) (s : St) : (ms.foldl (fun s m => emit s (.took (tid s) m)) s).t = s.t := by
  induction ms generalizing s with
  | nil => rfl
  | cons m ms ih => simp only [List.foldl_cons]; rw [ih]; rfl

theorem wakeIfReady_violations (t : SimT) : t.wakeIfReady.1.violations = t.violations := by
  unfold SimT.wakeIfReady; split <;> rfl

/-- what an operation other than the poll of the stream does to the transport: nothing, or one call of the environment -/
inductive EnvT (t : SimT) : SimT → Prop
  | same : EnvT t t
  | inject (i) : EnvT t (t.inject i).1
  | setEof : EnvT t t.setEof.1
  | setReady (b) : EnvT t (t.setReady b).1
  | setFlush (b) : EnvT t (t.setFlush b).1
  | fault (k) : EnvT t (armFault t k)
  | faultSkip (n) : EnvT t { t with faultSkip := n }
  | selfWake (b) : EnvT t { t with selfWake := b }
  | take (n) : EnvT t (t.take n).1

theorem applyOp_envT (c : Sys) (op : SOp) (hop : op ≠ .pollServer) : EnvT c.s.t (applyOp c op).s.t := by
  cases op with
  | pollServer => exact absurd rfl hop
  | dropServer => rw [show (applyOp c .dropServer).s.t = c.s.t from dropServer_t _]; exact .same
  | pollExec r => rw [show (applyOp c (.pollExec r)).s.t = c.s.t from pollExec_t _ _ _]; exact .same
  | dropExec r => rw [show (applyOp c (.dropExec r)).s.t = c.s.t from dropExec_t _ _ _]; exact .same
  | finish r res => rw [show (applyOp c (.finish r res)).s.t = c.s.t from finishHandler_t _ _ _]; exact .same
  | injectReq id d tr b => rw [show (applyOp c (.injectReq id d tr b)).s.t = _ from liftT_t _ _]; exact .inject _
  | injectCancel id tr => rw [show (applyOp c (.injectCancel id tr)).s.t = _ from liftT_t _ _]; exact .inject _
  | injectErr => rw [show (applyOp c .injectErr).s.t = _ from liftT_t _ _]; exact .inject _
  | eof => rw [show (applyOp c .eof).s.t = _ from liftT_t _ _]; exact .setEof
  | setReady b => rw [show (applyOp c (.setReady b)).s.t = _ from liftT_t _ _]; exact .setReady b
  | setFlush b => rw [show (applyOp c (.setFlush b)).s.t = _ from liftT_t _ _]; exact .setFlush b
  | fault k => exact .fault k
  | faultSkip n => exact .faultSkip n
  | selfWake b => exact .selfWake b
  | take n => rw [show (applyOp c (.take n)).s.t = (c.s.t.take n).1 from took_t _ _]; exact .take n
  | advance n => rw [show (applyOp c (.advance n)).s.t = c.s.t from onAdvance_t _ _]; exact .same

theorem EnvT.violations {t t' : SimT} (h : EnvT t t') : t'.violations = t.violations := by
  cases h with
  | setReady b => exact wakeIfReady_violations _
  | setFlush b => exact wakeIfReady_violations _
  | fault k => cases k <;> rfl
  | _ => rfl

theorem W_applyOp (c : Sys) (op : SOp) (h : W c.s) (hcfg : c.s.throttleAfterRead = false) : W (applyOp c op).s := by
  by_cases hop : op = .pollServer
  · subst hop; exact W_pollServer h hcfg _
  · unfold W SimT.NoSWR; rw [(applyOp_envT c op hop).violations]; exact h

theorem cfg_reach (c : Sys) (ops : List SOp) : Cfg c.s (ops.foldl applyOp c).s :=
  reach_inv (fun _ => Cfg c.s) (fun now => cfg_closed c.s now) (fun _ _ _ _ h => h) c ⟨rfl, rfl, rfl, rfl⟩ ops

/- One step of a trace, as equations to rewrite with: the unifier tries `(stepOp c op).1.s.f =?= (applyOp _ op).s.f`
first as an equation between the states. -/

theorem trace_cons (c : Sys) (op : SOp) (ops : List SOp) :
    trace c (op :: ops) = SEv.op op :: ((stepOp c op).2.map SEv.obs ++ trace (stepOp c op).1 ops) := rfl

theorem traceOf : TraceOf stepOp SEv.op SEv.obs trace := ⟨fun _ => rfl, trace_cons⟩

theorem stepOp_obs (c : Sys) (op : SOp) :
    (stepOp c op).2 = (applyOp { c with s := { c.s with obs := [] } } op).s.obs.reverse := rfl

theorem stepOp_cfg (c : Sys) (op : SOp) : Cfg c.s (stepOp c op).1.s := by
  have h := cfg_reach { c with s := { c.s with obs := [] } } [op]
  unfold Cfg at h ⊢
  simp only [List.foldl] at h
  simpa only [stepOp] using h

theorem W_reach (c : Sys) (h : W c.s) (hcfg : c.s.throttleAfterRead = false) (ops : List SOp) :
    W (ops.foldl applyOp c).s :=
  (foldl_keeps (P := fun c : Sys => W c.s ∧ c.s.throttleAfterRead = false)
    (fun c op ⟨h, hcfg⟩ => ⟨W_applyOp c op h hcfg, (cfg_reach c [op]).2.2.2.trans hcfg⟩) ops ⟨h, hcfg⟩).1

theorem wake_le_execObs : ∀ k, WakeK k → ObsK ExecObs k := by intro k hk; cases hk <;> exact trivial
theorem abort_le_execObs : ∀ k, AbortK k → ObsK ExecObs k := by intro k hk; cases hk <;> exact trivial

theorem adds_wakeServer (s : St) : Adds ExecObs s (wakeServer s) :=
  (adds_has _).steps (wakeServer_in (A := ObsK ExecObs) (fun _ => trivial) trivial s)

theorem adds_rqRelease (s : St) : Adds ExecObs s (rqRelease s) :=
  (adds_has _).steps ((rqRelease_steps s).mono wake_le_execObs)

theorem adds_abortExec (s : St) (r : Nat) : Adds ExecObs s (abortExec s r) :=
  (adds_has _).steps ((abortExec_steps s r).mono abort_le_execObs)

theorem noise_le_tableObs : ∀ k, NoiseK k → ObsK TableObs k := by
  intro k hk
  cases hk with
  | wake t => exact .inl trivial
  | panic w => exact fun t => .inr ⟨t, w, rfl⟩
  | _ => exact trivial

theorem adds_removeTimer (s : St) (k : Nat) : Adds TableObs s (removeTimer s k) :=
  (adds_has _).steps ((removeTimer_steps s k).mono fun k hk => noise_le_tableObs k (timer_le_noise k hk))

theorem adds_removeRequest (s : St) (id : Nat) : Adds TableObs s (removeRequest s id).1 :=
  (adds_has _).steps ((removeRequest_steps s id).mono fun k hk => noise_le_tableObs k (table_le_noise k hk))

theorem adds_cancelRequest (s : St) (id : Nat) : Adds TableObs s (cancelRequest s id).1 :=
  (adds_has _).steps ((cancelRequest_steps s id).mono noise_le_tableObs)

theorem adds_expireStep (s : St) (now : Nat) : Adds TableObs s (expireStep s now).1 :=
  (adds_has _).steps ((expireStep_steps s now).mono noise_le_tableObs)

theorem adds_pollExpired (s : St) (now : Nat) :
    Adds (fun o => TableObs o ∨ ∃ t, o = .spin t) s (pollExpired s now).1 :=
  (adds_has _).steps ((pollExpired_steps s now).mono fun k hk => by
    rcases hk with hk | rfl
    · cases hk with
      | wake t => exact .inl (.inl trivial)
      | panic w => exact fun t => .inl (.inr ⟨t, w, rfl⟩)
      | _ => exact trivial
    · exact fun t => .inr ⟨t, rfl⟩)

theorem adds_startRequest (s : St) (now id d : Nat) (tr : Trace) (b : Nat) :
    Adds TableObs s (startRequest s now id d tr b).1 :=
  (adds_has _).steps ((startRequest_steps s now id d tr b).mono fun k hk => by
    cases hk with
    | wake t => exact .inl trivial
    | panic w => exact fun t => .inr ⟨t, w, rfl⟩
    | _ => exact trivial)

theorem adds_dropOffered (s : St) (rid id : Nat) : Adds ExecObs s (dropOffered s rid id) :=
  (adds_has _).steps ((dropOffered_steps s rid id).mono fun k hk => by cases hk <;> exact trivial)

theorem adds_dropServer (s : St) : Adds ExecObs s (dropServer s) :=
  (adds_has _).steps ((dropServer_steps s).mono fun k hk => by
    cases hk with
    | abort h => exact abort_le_execObs _ h
    | _ => exact trivial)

/-! ## fuel adequacy: no `Obs.spin` when `ensure_writeable` does not loop -/

/-- no `spin` observation so far -/
def NS (s : St) : Prop := hasSpin s.obs = false

theorem NS_emit {s : St} {o : Obs} (h : NS s) (ho : ∀ t, o ≠ .spin t) : NS (emit s o) := by
  unfold NS hasSpin at *
  cases o <;> first | (simp only [emit_obs, List.any_cons, h, Bool.or_false]; done) | exact absurd rfl (ho _)

theorem NS_of_obs {s s' : St} (h : NS s) (ho : s'.obs = s.obs) : NS s' := by unfold NS at *; rw [ho]; exact h

theorem Adds.ns {Q : Obs → Prop} {s s' : St} (h : Adds Q s s') (hQ : ∀ o, Q o → ∀ t, o ≠ .spin t) (hs : NS s) : NS s' := by
  obtain ⟨l, e, p⟩ := h
  unfold NS hasSpin at *
  rw [e, List.any_append, hs, Bool.or_false, List.any_eq_false]
  intro o ho
  have := hQ o (p o ho)
  cases o <;> first | exact absurd rfl (this _) | simp

theorem ExecObs.not_spin {o : Obs} (h : ExecObs o) (t : TaskId) : o ≠ .spin t := by
  rintro rfl; exact h

theorem TableObs.not_spin {o : Obs} (h : TableObs o) (t : TaskId) : o ≠ .spin t := by
  rintro rfl
  rcases h with h | ⟨_, _, h⟩
  · exact h
  · cases h

theorem NS_expireStep {s : St} (now : Nat) (h : NS s) : NS (expireStep s now).1 :=
  (adds_expireStep s now).ns (fun _ => TableObs.not_spin) h

/-! #### the loop of `poll_expired` never runs out of fuel: every `continue` uses up a re-arm -/

/-- the re-arms the tracked entries still have in them -/
def rearmBudget (s : St) : Nat := (s.inflight.map (fun en => rearmSteps en.remainder)).sum

theorem expireFuel_eq (s : St) : expireFuel s = rearmBudget s + 1 := rfl

theorem rearmSteps_le (r : Nat) : rearmSteps (r - clampTimeout r) ≤ rearmSteps r := by
  unfold rearmSteps clampTimeout
  generalize Gen.serverTimerClampSecs = k
  by_cases hk : k = 0
  · subst hk; simp
  · have hk' : (k == 0) = false := by simpa using hk
    simp only [hk', Bool.false_eq_true, if_false]
    exact Nat.div_le_div_right (by omega)

theorem rearmSteps_lt (r : Nat) (hr : r ≠ 0) : rearmSteps (r - clampTimeout r) < rearmSteps r := by
  unfold rearmSteps clampTimeout
  generalize Gen.serverTimerClampSecs = k
  by_cases hk : k = 0
  · subst hk; simp [hr]
  · have hk' : (k == 0) = false := by simpa using hk
    simp only [hk', Bool.false_eq_true, if_false]
    generalize hc : k * 1000000000 = c
    have hcpos : 0 < c := by omega
    by_cases hle : r ≤ c
    · have h1 : r - min r c + c - 1 = c - 1 := by rw [Nat.min_eq_left hle]; omega
      rw [h1, Nat.div_eq_of_lt (by omega)]
      exact Nat.div_pos (by omega) hcpos
    · have h1 : r - min r c + c - 1 = r - 1 := by rw [Nat.min_eq_right (by omega)]; omega
      have h2 : r + c - 1 = (r - 1) + c := by omega
      rw [h1, h2, Nat.add_div_right _ hcpos]
      exact Nat.lt_succ_self _

theorem rearmSteps_mono {r r' : Nat} (h : r ≤ r') : rearmSteps r ≤ rearmSteps r' := by
  unfold rearmSteps
  generalize Gen.serverTimerClampSecs = k
  by_cases hk : k = 0
  · subst hk
    simp only [beq_self_eq_true, if_true]
    by_cases h0 : r = 0
    · simp [h0]
    · have : r' ≠ 0 := by omega
      simp [h0, this]
  · have hk' : (k == 0) = false := by simpa using hk
    simp only [hk', Bool.false_eq_true, if_false]
    exact Nat.div_le_div_right (by omega)

theorem restOf_le (now : Nat) (x : SEntry) : restOf now x ≤ x.remainder := Nat.sub_le _ _

theorem rearmUpd_steps_le (id key now : Nat) (x : SEntry) :
    rearmSteps (rearmUpd id key now x).remainder ≤ rearmSteps x.remainder := by
  unfold rearmUpd
  split
  · exact Nat.le_trans (rearmSteps_le (restOf now x)) (rearmSteps_mono (restOf_le now x))
  · exact Nat.le_refl _

theorem rearmUpd_steps_lt (key now : Nat) (en : SEntry) (h0 : restOf now en ≠ 0) :
    rearmSteps (rearmUpd en.id key now en).remainder < rearmSteps en.remainder := by
  unfold rearmUpd
  rw [if_pos (by simp)]
  exact Nat.lt_of_lt_of_le (rearmSteps_lt (restOf now en) h0) (rearmSteps_mono (restOf_le now en))

theorem rearm_budget {s s2 : St} {now : Nat} {en : SEntry} (hmem : en ∈ s.inflight)
    (h0 : restOf now en ≠ 0) (hr : rearm s now en = some s2) : rearmBudget s2 < rearmBudget s := by
  obtain ⟨key, hk⟩ : ∃ key, s2.inflight = s.inflight.map (rearmUpd en.id key now) := by
    obtain ⟨q', key, w, _, rfl⟩ := rearm_some hr; exact ⟨key, rfl⟩
  unfold rearmBudget
  rw [hk]
  simp only [List.map_map, Function.comp_def]
  exact sum_map_lt (fun x => rearmSteps x.remainder) (fun x => rearmSteps (rearmUpd en.id key now x).remainder) s.inflight
    (fun x _ => rearmUpd_steps_le en.id key now x) ⟨en, hmem, rearmUpd_steps_lt key now en h0⟩

theorem expireStep_budget (s : St) (now : Nat) (h : (expireStep s now).2 = none) :
    rearmBudget (expireStep s now).1 < rearmBudget s := by
  have hs := expireStep_out s now
  revert hs h; generalize expireStep s now = p; intro h hs
  obtain ⟨s', r⟩ := p
  dsimp only at hs h ⊢
  subst h
  cases hs with
  | rearmed q e en s2 hp hf h0 hr =>
    have hmem : en ∈ s.inflight := by unfold findEntry at hf; exact List.mem_of_find?_eq_some hf
    exact rearm_budget (s := { s with timers := q }) hmem h0 hr

theorem NS_pollExpiredLoop (now : Nat) (fuel : Nat) (s : St) (hb : rearmBudget s < fuel) (h : NS s) :
    NS (pollExpiredLoop fuel s now).1 :=
  fuel_loop (loop := fun n s => pollExpiredLoop n s now) (step := fun s => expireStep s now) (pollExpiredLoop_iter now)
    (I := fun n s => rearmBudget s < n ∧ NS s) (Φ := fun s _ => NS s)
    (fun n s ⟨hb, h⟩ => .of_eq (fun hn => ⟨by have := expireStep_budget s now hn; omega, NS_expireStep now h⟩)
      (fun _ _ => NS_expireStep now h))
    (fun s h => absurd h.1 (Nat.not_lt_zero _)) fuel s ⟨hb, h⟩

/-- **Fuel adequacy.**  With more fuel than re-arms are left, the loop of `poll_expired` ends in an
iteration that returns (it never takes the out-of-fuel exit): the result is that of one `expireStep`,
from a state `s2` reached by re-arms only. -/
theorem pollExpiredLoop_last (now : Nat) (fuel : Nat) (s : St) (hb : rearmBudget s < fuel) :
    ∃ s2 r, (expireStep s2 now).2 = some r ∧ pollExpiredLoop fuel s now = ((expireStep s2 now).1, r) := by
  obtain ⟨s2, h1, h2⟩ := fuel_loop (loop := fun n s => pollExpiredLoop n s now) (step := fun s => expireStep s now)
    (pollExpiredLoop_iter now) (I := fun n s => rearmBudget s < n)
    (Φ := fun a r => ∃ s2, (expireStep s2 now).2 = some r ∧ a = (expireStep s2 now).1)
    (fun n s hb => .of_eq (fun hn => by have := expireStep_budget s now hn; omega) (fun r hr => ⟨s, hr, rfl⟩))
    (fun s h => absurd h (Nat.not_lt_zero _)) fuel s hb
  exact ⟨s2, _, h1, Prod.ext h2 rfl⟩

theorem pollExpired_last (s : St) (now : Nat) (hne : s.timers.isEmpty = false) :
    ∃ s2 r, (expireStep s2 now).2 = some r ∧ pollExpired s now = ((expireStep s2 now).1, r) := by
  unfold pollExpired
  rw [if_neg (by simp [hne])]
  exact pollExpiredLoop_last now _ s (by rw [expireFuel_eq]; omega)

theorem NS_pollExpired {s : St} (now : Nat) (h : NS s) : NS (pollExpired s now).1 := by
  unfold pollExpired; split
  · exact h
  · exact NS_pollExpiredLoop now _ s (by rw [expireFuel_eq]; omega) h

theorem NS_dropServer {s : St} (h : NS s) : NS (dropServer s) :=
  (adds_dropServer s).ns (fun _ => ExecObs.not_spin) h

theorem ns_closed (now : Nat) : StepClosed now NS where
  inert := fun s s' hi h => NS_of_obs h hi.obs
  emit := fun s o hq h => NS_emit h (by intro t ht; subst ht; exact hq)
  upd := fun s r f _ h => NS_of_obs h rfl
  setT := fun s t h => NS_of_obs h rfl
  setFused := fun s h => NS_of_obs h rfl
  removeReq := fun s id h => (adds_removeRequest s id).ns (fun _ => TableObs.not_spin) h
  cancel := fun s id tr h _ => (adds_cancelRequest _ id).ns (fun _ => TableObs.not_spin) ((ns_tNext s) h)
  expire := fun s h => NS_pollExpired now h
  start := fun s id d tr b h => (adds_startRequest s now id d tr b).ns (fun _ => TableObs.not_spin) h
  timerWaker := fun s b h => NS_of_obs h rfl
where
  ns_tNext (s : St) : NS s → NS (tNext s).1 := fun h => by
    unfold tNext; split
    · exact h
    · simp only; split
      · exact NS_of_obs (NS_emit (NS_of_obs (s := s) h rfl) (by simp)) rfl
      · exact NS_emit (NS_of_obs (s := s) h rfl) (by simp)

/-! ### the measure that bounds the iterations of `basePollNext` -/

def mu (s : St) : Nat := s.cancelQ.length + s.timers.len + s.t.inbound.length

theorem removeTimer_len (s : St) (k : Nat) : (removeTimer s k).timers.len ≤ s.timers.len := by
  unfold removeTimer
  split
  · next q w heq =>
    have := Nat.le_of_lt (DelayQ.remove_len heq)
    simp only; split
    · rw [wakeServer_timers]; exact this
    · exact this
  · exact Nat.le_refl _

theorem removeRequest_len (s : St) (id : Nat) : (removeRequest s id).1.timers.len ≤ s.timers.len := by
  unfold removeRequest
  split
  · exact Nat.le_refl _
  · exact removeTimer_len _ _

theorem cancelRequest_len (s : St) (id : Nat) : (cancelRequest s id).1.timers.len ≤ s.timers.len := by
  unfold cancelRequest
  split
  · exact Nat.le_refl _
  · refine Nat.le_trans (removeTimer_len _ _) ?_
    simp

theorem pollExpired_len (s : St) (now : Nat) :
    (pollExpired s now).1.timers.len ≤ s.timers.len ∧
      ((pollExpired s now).2 = .ready → (pollExpired s now).1.timers.len < s.timers.len) := by
  have hstep : ∀ s : St, (expireStep s now).1.timers.len ≤ s.timers.len ∧
      ((expireStep s now).2 = some .ready → (expireStep s now).1.timers.len < s.timers.len) := by
    intro s
    have hs := expireStep_out s now
    revert hs; generalize expireStep s now = p; intro hs
    obtain ⟨s', r⟩ := p
    dsimp only at hs ⊢
    cases hs with
    | idleNone q hp => exact ⟨DelayQ.pollExpired_len_le hp, fun h => by cases h⟩
    | idlePending q hp => exact ⟨DelayQ.pollExpired_len_le hp, fun h => by cases h⟩
    | orphan q e hp hf => have := DelayQ.pollExpired_len_lt hp; exact ⟨Nat.le_of_lt this, fun _ => this⟩
    | abort q e en hp hf h0 =>
      have := DelayQ.pollExpired_len_lt hp
      simp only [abortExec_timers]; exact ⟨Nat.le_of_lt this, fun _ => this⟩
    | rearmed q e en s2 hp hf h0 hr =>
      have := DelayQ.pollExpired_len_lt hp
      rcases rearm_out { s with timers := q } now en with ⟨_, he⟩ | ⟨q', key, w, hi, he⟩
      · rw [he] at hr; cases hr
      · rw [he] at hr; cases hr
        have hl := DelayQ.insert_len hi
        simp only at hl ⊢
        exact ⟨by omega, fun h => by cases h⟩
    | panicked q e en hp hf h0 hr =>
      simp only [emit_timers]; exact ⟨Nat.le_refl _, fun h => by cases h⟩
  exact pollExpired_loop (I := fun a => a.timers.len ≤ s.timers.len)
    (Φ := fun a r => a.timers.len ≤ s.timers.len ∧ (r = .ready → a.timers.len < s.timers.len))
    (fun a ha => .of_eq (fun _ => Nat.le_trans (hstep a).1 ha)
      (fun r hr => ⟨Nat.le_trans (hstep a).1 ha, fun h => Nat.lt_of_lt_of_le ((hstep a).2 (by rw [hr, h])) ha⟩))
    (fun a ha => ⟨ha, fun h => by cases h⟩) (fun a ha => ⟨ha, fun h => by cases h⟩) s (Nat.le_refl _)

theorem tNext_inbound (s : St) :
    (tNext s).1.t.inbound.length ≤ s.t.inbound.length ∧
      (∀ m, (tNext s).2 = .item m → (tNext s).1.t.inbound.length < s.t.inbound.length) := by
  rw [tNext_t, tNext_res]
  split
  · exact ⟨Nat.le_refl _, fun m h => by cases h⟩
  · exact ⟨SimT.pollNext_inbound_le _, fun m h => SimT.pollNext_inbound_lt h⟩

theorem startRequest_none {s : St} {now id d : Nat} {tr : Trace} {b : Nat}
    (h : (startRequest s now id d tr b).2 = none) (hp : (startRequest s now id d tr b).1.poisoned = false) :
    (startRequest s now id d tr b).1 = s := by
  unfold startRequest at *
  by_cases hf : (findEntry s id).isSome = true
  · rw [if_pos hf]
  · rw [if_neg hf] at h hp ⊢
    generalize s.timers.insert now (clampTimeout (d - now)) id = ins at *
    rcases ins with ⟨q, r, w⟩
    cases r with
    | panic => simp [emit] at hp
    | ok k => simp at h

theorem bpCancel_mu (s : St) : mu (bpCancel s).1 ≤ mu s ∧ ((bpCancel s).2 = .ready → mu (bpCancel s).1 < mu s) := by
  unfold bpCancel mu
  split
  · next id rest hq =>
    have := removeRequest_len { s with cancelQ := rest } id
    simp only [removeRequest_cancelQ, removeRequest_t, hq, List.length_cons] at *
    omega
  · exact ⟨Nat.le_refl _, fun h => by cases h⟩

theorem pollExpired_mu (s : St) (now : Nat) :
    mu (pollExpired s now).1 ≤ mu s ∧ ((pollExpired s now).2 = .ready → mu (pollExpired s now).1 < mu s) := by
  have := pollExpired_len s now
  unfold mu
  simp only [pollExpired_cancelQ, pollExpired_t]
  constructor
  · omega
  · intro h; have := this.2 h; omega

theorem tNext_mu (s : St) :
    mu (tNext s).1 ≤ mu s ∧ (∀ m, (tNext s).2 = .item m → mu (tNext s).1 < mu s) := by
  have := tNext_inbound s
  unfold mu
  simp only [tNext_cancelQ, tNext_timers]
  constructor
  · omega
  · intro m hm; have := this.2 m hm; omega

theorem bpOther_mu (s : St) (nx : NextRes) : mu (bpOther s nx).1 ≤ mu s := by
  unfold bpOther
  split
  · have := cancelRequest_len s ‹Nat›
    unfold mu; simp only [cancelRequest_cancelQ, cancelRequest_t]; omega
  all_goals exact Nat.le_refl _

theorem bpOther_ready {s : St} {nx : NextRes} (h : (bpOther s nx).2 = .ready) : ∃ m, nx = .item m := by
  unfold bpOther at h
  split at h
  · exact ⟨_, rfl⟩
  · exact ⟨_, rfl⟩
  · cases h
  · cases h

theorem combine_ready {a b : RStatus} (h : combine a b = .ready) : a = .ready ∨ b = .ready := by
  cases a <;> cases b <;> simp_all [combine]

theorem bpStep_mu (s : St) (now : Nat) (h : (bpStep s now).2 = none) : mu (bpStep s now).1 < mu s := by
  have c1 := bpCancel_mu s
  have c2 := pollExpired_mu (bpCancel s).1 now
  have c3 := tNext_mu (bp2 s now)
  have c5 := bpOther_mu (bp3 s now) (bpNx s now)
  have ho := bpStep_out s now
  generalize bpStep s now = out at *
  cases ho with
  | duplicate id d tr b hp hnx hs hpo =>
    simp only
    rw [startRequest_none hs hpo]
    have := c3.2 _ hnx
    simp only [bp2, bp3] at *; omega
  | again hp hn1 hn2 hpo hc =>
    simp only
    unfold bpSt at hc
    rcases combine_ready hc with h' | h'
    · rcases combine_ready h' with h'' | h''
      · have := c1.2 h''; simp only [bp2, bp3] at *; omega
      · have : (pollExpired (bpCancel s).1 now).2 = .ready := by
          revert h''; cases (pollExpired (bpCancel s).1 now).2 <;> simp [expStatus]
        have := c2.2 this; simp only [bp2, bp3] at *; omega
    · obtain ⟨m, hm⟩ := bpOther_ready h'
      have := c3.2 m hm; simp only [bp2, bp3] at *; omega
  | _ => cases h

theorem bpStep_inbound (s : St) (now : Nat) :
    (bpStep s now).1.t.inbound.length ≤ s.t.inbound.length ∧
      (∀ ex, (bpStep s now).2 = some (.some ex) → (bpStep s now).1.t.inbound.length < s.t.inbound.length) := by
  have h2 : (bp2 s now).t = s.t := by simp [bp2, bpCancel_t]
  have c3 := tNext_inbound (bp2 s now)
  rw [h2] at c3
  have ho := bpStep_out s now
  generalize bpStep s now = out at *
  cases ho with
  | poisoned2 => simp only [h2]; exact ⟨Nat.le_refl _, fun ex h => by cases h⟩
  | readErr => exact ⟨c3.1, fun ex h => by cases h⟩
  | started id d tr b ex hp hnx hs =>
    simp only [startRequest_t]
    exact ⟨c3.1, fun _ _ => c3.2 _ hnx⟩
  | startPanic => simp only [startRequest_t]; exact ⟨c3.1, fun ex h => by cases h⟩
  | duplicate => simp only [startRequest_t]; exact ⟨c3.1, fun ex h => by cases h⟩
  | otherPoisoned => simp only [bpOther_inbound]; exact ⟨c3.1, fun ex h => by cases h⟩
  | again => simp only [bpOther_inbound]; exact ⟨c3.1, fun ex h => by cases h⟩
  | closed => simp only [bpOther_inbound]; exact ⟨c3.1, fun ex h => by cases h⟩
  | pending => simp only [bpOther_inbound]; exact ⟨c3.1, fun ex h => by cases h⟩

theorem basePollNext_inbound (now : Nat) (fuel : Nat) (s : St) :
    (basePollNext fuel s now).1.t.inbound.length ≤ s.t.inbound.length ∧
      (∀ ex, (basePollNext fuel s now).2 = .some ex → (basePollNext fuel s now).1.t.inbound.length < s.t.inbound.length) :=
  basePollNext_loop (I := fun a => a.t.inbound.length ≤ s.t.inbound.length)
    (Φ := fun a r => a.t.inbound.length ≤ s.t.inbound.length ∧ ∀ ex, r = .some ex → a.t.inbound.length < s.t.inbound.length)
    (fun a ha => .of_eq (fun _ => Nat.le_trans (bpStep_inbound a now).1 ha)
      (fun r hr => ⟨Nat.le_trans (bpStep_inbound a now).1 ha,
        fun ex h => Nat.lt_of_lt_of_le ((bpStep_inbound a now).2 ex (by rw [hr, h])) ha⟩))
    (fun a ha => ⟨ha, fun ex h => by cases h⟩) fuel s (Nat.le_refl _)

theorem basePollNext_loop_fuel (P : St → Prop) (now : Nat) (hstep : ∀ s, P s → P (bpStep s now).1) (fuel : Nat) (s : St)
    (hm : mu s < fuel) (h : P s) : P (basePollNext fuel s now).1 :=
  fuel_loop (loop := fun n s => basePollNext n s now) (step := fun s => bpStep s now) (basePollNext_iter now)
    (I := fun n s => mu s < n ∧ P s) (Φ := fun s _ => P s)
    (fun n s ⟨hm, h⟩ => .of_eq (fun hn => ⟨by have := bpStep_mu s now hn; omega, hstep s h⟩) (fun _ _ => hstep s h))
    (fun s h => absurd h.1 (Nat.not_lt_zero _)) fuel s ⟨hm, h⟩

theorem NS_basePollNext {s : St} (h : NS s) (now : Nat) : NS (basePollNext (baseFuel s) s now).1 :=
  basePollNext_loop_fuel NS now (ns_closed now).bpStep _ s (by unfold baseFuel mu; omega) h

theorem baseStartSend_inbound (s : St) (id : Nat) (res : Res) :
    (baseStartSend s id res).1.t.inbound = s.t.inbound := by
  unfold baseStartSend
  have := removeRequest_t s id
  split
  · next s' heq => rw [heq] at this; simp only at this ⊢; rw [tSend_t, SimT.startSend_inbound, this]
  · next s' heq => rw [heq] at this; simp only at this ⊢; rw [this]

theorem tReady_inbound (s : St) : (tReady s).1.t.inbound = s.t.inbound := by
  rw [tReady_t, SimT.pollReady_inbound]

theorem NS_limitedLegacy (limit now : Nat) : ∀ (fuel : Nat) (s : St), s.t.inbound.length < fuel → NS s →
    NS (limitedPollNextLegacy limit fuel s now).1 := fun fuel s hf h =>
  limitedLegacy_loop (I := fun n a => a.t.inbound.length < n ∧ NS a) (Φ := fun a _ => NS a) (fun n s ⟨hf, h⟩ => by
    have ho := llStep_out limit s now
    unfold IterSpec
    generalize llStep limit s now = p at ho ⊢
    have h1 := (ns_closed now).tReady s h
    cases ho with
    | below hl => exact NS_basePollNext h now
    | pending hl he => exact h1
    | readyErr hl he => exact h1
    | through hl he hne => exact NS_basePollNext h1 now
    | refuseErr hl he s2 ex hb hs =>
      have h2 := NS_basePollNext h1 now
      rw [hb] at h2
      exact (ns_closed now).baseStartSend s2 ex.id _ h2
    | refused hl he s2 ex hb hs =>
      have h2 := NS_basePollNext h1 now
      have hi2 := basePollNext_inbound now (baseFuel (tReady s).1) (tReady s).1
      rw [hb] at h2 hi2
      refine ⟨?_, NS_of_obs ((ns_closed now).baseStartSend s2 ex.id _ h2) rfl⟩
      have := hi2.2 ex rfl
      have hi3 := baseStartSend_inbound s2 ex.id (.err throttleKindIdx)
      simp only [limitedPollNextLegacy.markThrottled, updExec_t, hi3]
      rw [tReady_inbound] at this
      simp only at this
      omega) (fun s ⟨hf, _⟩ => by omega) fuel s ⟨hf, h⟩

/-! ### the response queue is only touched by the write pump -/

theorem baseStartSend_respQ (s : St) (id : Nat) (res : Res) : (baseStartSend s id res).1.respQ = s.respQ := by
  unfold baseStartSend
  have := removeRequest_respQ s id
  split
  · next s' heq => rw [heq] at this; simp only at this ⊢; rw [tSend_respQ, this]
  · next s' heq => rw [heq] at this; exact this

theorem respQ_chan {now : Nat} {k : Act} {a b : St} (hk : ChanK now k) (hp : Step k a b) : b.respQ = a.respQ := by
  cases hp with
  | removeReq s id => exact removeRequest_respQ _ _
  | expire s n => exact pollExpired_respQ _ _
  | tNext s => exact tNext_respQ _
  | readStart s n id d tr b hq => exact (startRequest_respQ _ _ _ _ _ _).trans (tNext_respQ _)
  | cancelRead s id tr hq => exact (cancelRequest_respQ _ _).trans (tNext_respQ _)
  | baseSend s id res => exact baseStartSend_respQ _ _ _
  | emit | setT | woken | spin | upd | popCancel | cancelRx => rfl
  | _ => cases hk

theorem basePollNext_respQ (fuel : Nat) (s : St) (now : Nat) : (basePollNext fuel s now).1.respQ = s.respQ :=
  ((basePollNext_steps fuel s now).mono base_le_chan).kept (P := fun a => a.respQ = s.respQ)
    (fun hk hp h => (respQ_chan hk hp).trans h) rfl

theorem channelPollNext_respQ (s : St) (now : Nat) : (channelPollNext s now).1.respQ = s.respQ :=
  (channelPollNext_steps s now).kept (P := fun a => a.respQ = s.respQ) (fun hk hp h => (respQ_chan hk hp).trans h) rfl

theorem NS_channelPollNext {s : St} (h : NS s) (hcfg : s.throttleAfterRead = false) (now : Nat) :
    NS (channelPollNext s now).1 := by
  unfold channelPollNext
  split
  · exact NS_basePollNext h now
  · simp only [hcfg]; exact NS_limitedLegacy _ _ _ s (by omega) h

theorem ensureOnce_respQ (s : St) : (ensureOnce s).1.respQ = s.respQ :=
  ensureOnce_ind (P := fun a => a.respQ = s.respQ) (fun a h => (tReady_respQ a).trans h)
    (fun a h => (tFlush_respQ a).trans h) s rfl

theorem flushArm_respQ (s : St) (rc : Bool) : (flushArm s rc).1.respQ = s.respQ :=
  flushArm_ind (P := fun a => a.respQ = s.respQ) (fun a h => (tFlush_respQ a).trans h) s rc rfl

theorem pumpWrite_noLoop {s : St} (hel : s.ensureLoop = false) (now : Nat) (rc : Bool) (h : NS s) :
    NS (pumpWrite s rc).1 ∧ ((pumpWrite s rc).2 = .some () → (pumpWrite s rc).1.respQ.length < s.respQ.length) := by
  have hew : ensureWriteable s = ensureOnce s := by unfold ensureWriteable; simp [hel]
  have h1 := (ns_closed now).ensureOnce s h
  have hq1 := ensureOnce_respQ s
  rw [← hew] at h1 hq1
  have ho := pumpWrite_out s rc
  generalize pumpWrite s rc = p at ho ⊢
  cases ho with
  | blocked s1 he =>
    rw [he] at h1
    exact ⟨(ns_closed now).flushArm _ _ h1, fun hs => absurd hs (flushArm_ne_some s1 rc ())⟩
  | err s1 a he => rw [he] at h1; exact ⟨h1, fun hs => by cases hs⟩
  | spin s1 he => rw [he] at h1; exact ⟨h1, fun hs => by cases hs⟩
  | sent s1 id res rest he hq hs =>
    rw [he] at h1 hq1
    refine ⟨(ns_closed now).baseStartSend _ id res
      ((ns_closed now).rqRelease _ (NS_of_obs (s' := { s1 with respQ := rest }) h1 rfl)), fun _ => ?_⟩
    rw [baseStartSend_respQ, rqRelease_respQ]
    simp only at hq1 ⊢
    rw [← hq1, hq]; simp
  | sendErr s1 id res rest he hq hs =>
    rw [he] at h1
    exact ⟨(ns_closed now).baseStartSend _ id res
      ((ns_closed now).rqRelease _ (NS_of_obs (s' := { s1 with respQ := rest }) h1 rfl)), fun hs => by cases hs⟩
  | idle s1 he hq =>
    rw [he] at h1
    exact ⟨(ns_closed now).flushArm _ _ (NS_of_obs h1 rfl), fun hs => absurd hs (flushArm_ne_some _ rc ())⟩

theorem NS_requestsPollNext (now : Nat) (fuel : Nat) (s : St) (hf : s.respQ.length < fuel) (h : NS s)
    (hcfg : s.throttleAfterRead = false) (hel : s.ensureLoop = false) : NS (requestsPollNext fuel s now).1 :=
  fuel_loop (loop := fun n s => requestsPollNext n s now) (step := fun s => rpStep s now) (requestsPollNext_iter now)
    (I := fun n s => s.respQ.length < n ∧ NS s ∧ s.throttleAfterRead = false ∧ s.ensureLoop = false) (Φ := fun s _ => NS s)
    (fun n s ⟨hf, h, hcfg, hel⟩ => by
      have h1 : NS (rpRd s now).1 := NS_channelPollNext h hcfg now
      have hq1 : (rpRd s now).1.respQ = s.respQ := channelPollNext_respQ s now
      have hc1 : Cfg s (rpRd s now).1 := (cfg_closed s now).channelPollNext s ⟨rfl, rfl, rfl, rfl⟩
      have hel2 : (armRead (rpRd s now).1 (rpRd s now).2).ensureLoop = false := by
        unfold armRead; split <;> simpa using hc1.2.2.1.trans hel
      obtain ⟨h3, hq3⟩ := pumpWrite_noLoop hel2 now (readClosedOf (rpRd s now).2)
        (by unfold armRead; split <;> exact NS_of_obs h1 rfl)
      have hN : NS (rpStep s now).1 := by
        rcases rpStep_fst s now with e | e | ⟨ex, _, e⟩ <;> rw [e]
        · exact h1
        · exact h3
        · exact (ns_closed now).dropOffered _ _ _ h3
      refine .of_eq (fun hn => ?_) (fun _ _ => hN)
      have hc3 : Cfg s (rpWr s now).1 := (cfg_closed s now).toLoopClosed.rpWr s ⟨rfl, rfl, rfl, rfl⟩
      have := hq3 (rpStep_none hn)
      rw [armRead_respQ, hq1] at this
      rw [(rpStep_idle (.inl hn)).2.1]
      exact ⟨by have : (rpWr s now).1.respQ.length < s.respQ.length := this
                omega, h3, hc3.2.2.2.trans hcfg, hc3.2.2.1.trans hel⟩)
    (fun s h => absurd h.1 (Nat.not_lt_zero _)) fuel s ⟨hf, h, hcfg, hel⟩

theorem NS_pskFinish (s : St) (r : ReqPoll) (h : NS s) : NS (pskFinish s r) := by
  unfold pskFinish
  refine NS_emit (NS_emit ?_ (by simp)) (by simp)
  unfold pskRet
  split
  · exact h
  · exact NS_of_obs h rfl
  · exact NS_of_obs h rfl
  · exact h
  · split
    · exact NS_emit (NS_of_obs h rfl) (by simp)
    · exact h

theorem NS_pollServerKeep {s : St} (h : NS s) (hcfg : s.throttleAfterRead = false) (hel : s.ensureLoop = false)
    (now : Nat) : NS (pollServerKeep s now) := by
  have h1 := NS_requestsPollNext now (pollFuel { s with woken := false }) { s with woken := false }
    (by unfold pollFuel; simp only; omega) (NS_of_obs h rfl) hcfg hel
  have ho := pollServerKeep_out s now
  generalize pollServerKeep s now = a at ho ⊢
  cases ho with
  | dead => exact NS_emit h (by simp)
  | reset _ s1 r he h0 hs => rw [he] at h1; unfold NS at h1; rw [h1] at hs; cases hs
  | poisoned _ _ r he => rw [he] at h1; exact h1
  | fin _ s1 r he => rw [he] at h1; exact NS_pskFinish _ _ h1

theorem NS_pollServer {s : St} (h : NS s) (hcfg : s.throttleAfterRead = false) (hel : s.ensureLoop = false)
    (now : Nat) : NS (pollServer s now) :=
  pollServer_ind s now (NS_pollServerKeep h hcfg hel now) (NS_dropServer (NS_pollServerKeep h hcfg hel now))
    (NS_of_obs (NS_pollServerKeep h hcfg hel now) rfl)

theorem NS_applyOp (c : Sys) (op : SOp) (h : NS c.s) (hcfg : c.s.throttleAfterRead = false)
    (hel : c.s.ensureLoop = false) : NS (applyOp c op).s := by
  have hc := ns_closed c.now
  have ho := applyOp_out c op
  generalize (applyOp c op).s = a at ho ⊢
  cases ho with
  | pollServer => exact NS_pollServer h hcfg hel _
  | dropServer => exact NS_dropServer h
  | pollExec r => exact hc.pollExec _ _ _ h
  | dropExec r => exact hc.dropExec _ _ _ h
  | finish r res => exact hc.finishHandler _ _ _ h
  | ext hs => exact hc.along ext_le_step hs h

theorem NS_reach (c : Sys) (h : NS c.s) (hcfg : c.s.throttleAfterRead = false) (hel : c.s.ensureLoop = false)
    (ops : List SOp) : NS (ops.foldl applyOp c).s :=
  (foldl_keeps (P := fun c : Sys => NS c.s ∧ c.s.throttleAfterRead = false ∧ c.s.ensureLoop = false)
    (fun c op ⟨h, hcfg, hel⟩ =>
      ⟨NS_applyOp c op h hcfg hel, (cfg_reach c [op]).2.2.2.trans hcfg, (cfg_reach c [op]).2.2.1.trans hel⟩) ops ⟨h, hcfg, hel⟩).1

theorem trace_no_spin (ops : List SOp) (c : Sys) (hcfg : c.s.throttleAfterRead = false) (hel : c.s.ensureLoop = false)
    (t : TaskId) : SEv.obs (Obs.spin t) ∉ trace c ops := fun hm =>
  traceOf.forall_mem (Q := fun e => ∀ t, e ≠ SEv.obs (Obs.spin t))
    (K := fun c _ => c.s.throttleAfterRead = false ∧ c.s.ensureLoop = false)
    (fun c op _ ⟨hcfg, hel⟩ => by
      have hc := stepOp_cfg c op
      have hns := NS_applyOp { c with s := { c.s with obs := [] } } op (by unfold NS; rfl) hcfg hel
      refine ⟨(fun _ e => by cases e), fun o ho t e => ?_, hc.2.2.2.trans hcfg, hc.2.2.1.trans hel⟩
      cases e
      rw [stepOp_obs] at ho
      unfold NS hasSpin at hns
      rw [List.any_eq_false] at hns
      exact absurd rfl (hns _ (List.mem_reverse.mp ho)))
    ops c ⟨hcfg, hel⟩ _ hm t rfl

/-! ## C14 flush before idle / C10 orderly end -/

/-- nothing is buffered, or a flush is pending (the transport holds the owner's waker) -/
def FlushedOrArmed (s : St) : Prop := s.t.buffered = [] ∨ s.t.writeWaker = true

theorem tFlush_spec (s : St) :
    ((tFlush s).2 = .pending → (tFlush s).1.t.writeWaker = true) ∧
    ((tFlush s).2 = .ready → (tFlush s).1.t.buffered = []) := by
  rw [tFlush_t, tFlush_res]
  exact ⟨SimT.pollFlush_pending, SimT.pollFlush_ready⟩

theorem flushArm_spec (s : St) (rc : Bool) :
    (((flushArm s rc).2 = .pending ∨ (flushArm s rc).2 = .none) → FlushedOrArmed (flushArm s rc).1) ∧
    ((flushArm s rc).2 = .none → rc = true ∧ (flushArm s rc).1.inflight = [] ∧ (flushArm s rc).1.t.buffered = []) ∧
    (∀ u, (flushArm s rc).2 ≠ .some u) := by
  rw [flushArm_eq]
  have hs := tFlush_spec s
  generalize tFlush s = p at hs ⊢
  obtain ⟨s1, r⟩ := p
  cases r with
  | pending => exact ⟨fun _ => Or.inr (hs.1 rfl), (fun h => by cases h), (fun u h => by cases h)⟩
  | err => exact ⟨(fun h => by rcases h with h | h <;> cases h), (fun h => by cases h), (fun u h => by cases h)⟩
  | ready =>
    dsimp only
    split
    · next hc =>
      simp only [Bool.and_eq_true, List.isEmpty_iff] at hc
      exact ⟨fun _ => Or.inl (hs.2 rfl), (fun _ => ⟨hc.1, hc.2, hs.2 rfl⟩), (fun u h => by cases h)⟩
    · exact ⟨fun _ => Or.inl (hs.2 rfl), (fun h => by cases h), (fun u h => by cases h)⟩

theorem pumpWrite_spec (s : St) (rc : Bool) :
    (((pumpWrite s rc).2 = .pending ∨ (pumpWrite s rc).2 = .none) → FlushedOrArmed (pumpWrite s rc).1) ∧
    ((pumpWrite s rc).2 = .none → rc = true ∧ (pumpWrite s rc).1.inflight = [] ∧ (pumpWrite s rc).1.t.buffered = []) := by
  have ho := pumpWrite_out s rc
  generalize pumpWrite s rc = p at ho ⊢
  cases ho with
  | blocked s1 he => exact ⟨(flushArm_spec s1 rc).1, (flushArm_spec s1 rc).2.1⟩
  | idle s1 he hq => exact ⟨(flushArm_spec _ rc).1, (flushArm_spec _ rc).2.1⟩
  | _ => exact ⟨(fun h => by rcases h with h | h <;> cases h), (fun h => by cases h)⟩

/-! `readFused` is never cleared -/

theorem tNext_fuses (s : St) : (s.readFused = true ∨ (tNext s).2 = .eof) → (tNext s).1.readFused = true := by
  unfold tNext
  split
  · intro _; assumption
  · simp only
    intro h
    rcases h with h | h
    · split <;> simp [h]
    · simp [h]

theorem fused_closed (now : Nat) : PrimClosed now (fun s => s.readFused = true) where
  inert := fun s s' hi h => by rw [hi.readFused]; exact h
  emit := fun s o _ h => h
  upd := fun s r f _ h => h
  setT := fun s t h => h
  setFused := fun s h => rfl
  removeReq := fun s id h => by simpa using h
  cancel := fun s id tr h _ => by simpa using tNext_fuses s (Or.inl h)
  expire := fun s h => by simpa using h
  start := fun s id d tr b h => by simpa using h
  setDone := fun s r h => h
  drop := fun s h => by simpa using h
  timerWaker := fun s b h => h
  spin := fun s h => h
  spunReset := fun s0 s _ h => h

theorem bpOther_closed {s : St} {nx : NextRes} (h : (bpOther s nx).2 = .closed) : nx = .eof ∧ (bpOther s nx).1 = s := by
  unfold bpOther at *
  split at h
  · cases h
  · cases h
  · exact ⟨rfl, rfl⟩
  · cases h

theorem combine_closed {a b : RStatus} (h : combine a b = .closed) : a = .closed ∧ b = .closed := by
  cases a <;> cases b <;> simp_all [combine]

theorem bpStep_none_fused (s : St) (now : Nat) (h : (bpStep s now).2 = some .none) :
    (bpStep s now).1.readFused = true := by
  have ho := bpStep_out s now
  generalize bpStep s now = out at *
  cases ho with
  | closed hp hn1 hn2 hpo hc =>
    unfold bpSt at hc
    obtain ⟨heof, hst⟩ := bpOther_closed (combine_closed hc).2
    simp only [hst]
    exact tNext_fuses _ (Or.inr heof)
  | _ => cases h

theorem basePollNext_none_fused (now : Nat) (fuel : Nat) (s : St) :
    (basePollNext fuel s now).2 = .none → (basePollNext fuel s now).1.readFused = true :=
  basePollNext_loop (I := fun _ => True) (Φ := fun a r => r = .none → a.readFused = true)
    (fun a _ => .of_eq (fun _ => trivial) (fun r hr h => bpStep_none_fused a now (by rw [hr, h])))
    (fun _ _ h => by cases h) fuel s trivial

theorem channelPollNext_none_fused (s : St) (now : Nat) (h : (channelPollNext s now).2 = .none) :
    (channelPollNext s now).1.readFused = true :=
  channelPollNext_post (I := fun _ => True) (Φ := fun a r => r = .none → a.readFused = true)
    { ready := fun _ _ _ => trivial
      pending := fun _ _ _ => nofun
      readyErr := fun _ _ _ => nofun
      req := fun _ _ _ _ _ => trivial
      other := fun fuel a r _ _ hr hn => basePollNext_none_fused now fuel a (hr.trans hn)
      sent := fun _ _ _ _ _ => trivial
      sendErr := fun _ _ _ _ _ => nofun
      upd := fun _ _ _ => trivial
      spin := fun _ _ => nofun }
    (fun _ _ _ _ _ => nofun) s trivial h

/-- **Flush before idle**: when `Requests::poll_next` returns `Pending` or ends, whatever it wrote has
been flushed or the flush is pending with the transport holding the waker; it ends (`None`) only if
the inbound side ended, nothing is in flight and the last flush completed. -/
theorem requestsPollNext_spec (now : Nat) : ∀ (fuel : Nat) (s : St),
    (((requestsPollNext fuel s now).2 = .pending ∨ (requestsPollNext fuel s now).2 = .none) →
        FlushedOrArmed (requestsPollNext fuel s now).1) ∧
    ((requestsPollNext fuel s now).2 = .none →
        (requestsPollNext fuel s now).1.readFused = true ∧ (requestsPollNext fuel s now).1.inflight = [] ∧
        (requestsPollNext fuel s now).1.t.buffered = []) := fun fuel s =>
  requestsPollNext_loop (I := fun _ => True)
    (Φ := fun s r => ((r = .pending ∨ r = .none) → FlushedOrArmed s) ∧
      (r = .none → s.readFused = true ∧ s.inflight = [] ∧ s.t.buffered = []))
    (fun s _ => by
      have hw := pumpWrite_spec (armRead (rpRd s now).1 (rpRd s now).2) (readClosedOf (rpRd s now).2)
      have ho := rpStep_out s now
      unfold IterSpec
      generalize rpStep s now = p at ho ⊢
      cases ho <;> dsimp only [Option.elim]
      case closed hr hw' =>
        refine ⟨fun _ => hw.1 (.inr hw'), fun _ => ⟨(fused_closed now).pumpWrite _ _ ?_, (hw.2 hw').2⟩⟩
        rw [hr]; exact channelPollNext_none_fused s now hr
      case idle hr hw' => exact ⟨fun _ => hw.1 hw', (fun h => by cases h)⟩
      -- the other paths return a failure, a spin or an item (`again` owes nothing): neither `Pending` nor `None`
      all_goals exact ⟨(fun h => by rcases h with h | h <;> cases h), (fun h => by cases h)⟩)
    (fun _ _ => ⟨(fun h => by rcases h with h | h <;> cases h), (fun h => by cases h)⟩) fuel s trivial

/-! ## `done` / `dropped` bookkeeping -/

theorem dd_closed (d : Option Ret) (b : Bool) (now : Nat) : LoopClosed now (fun s => s.done = d ∧ s.dropped = b) where
  inert := fun s s' hi h => by rw [hi.done, hi.dropped]; exact h
  emit := fun s o _ h => h
  upd := fun s r f _ h => h
  setT := fun s t h => h
  setFused := fun s h => h
  removeReq := fun s id h => by simpa using h
  cancel := fun s id tr h _ => by simpa using h
  expire := fun s h => by simpa using h
  start := fun s id d tr b h => by simpa using h
  timerWaker := fun s b h => h
  spin := fun s h => h

theorem pskRet_done (s : St) (r : ReqPoll) :
    (pskRet s r).1.done = match r with
      | .none => some .readyNone
      | .err a => some (.readyItemErr a)
      | _ => s.done := by
  unfold pskRet
  split <;> try rfl
  split <;> rfl

theorem pskFinish_done (s : St) (r : ReqPoll) : (pskFinish s r).done = (pskRet s r).1.done := by
  simp only [pskFinish, emit_done]

theorem pskRet_frame (s : St) (r : ReqPoll) :
    (pskRet s r).1.dropped = s.dropped ∧ (pskRet s r).1.poisoned = s.poisoned ∧ (pskRet s r).1.readFused = s.readFused ∧
    (pskRet s r).1.inflight = s.inflight ∧ (pskRet s r).1.t = s.t ∧ (pskRet s r).1.timers = s.timers := by
  unfold pskRet
  split <;> try exact ⟨rfl, rfl, rfl, rfl, rfl, rfl⟩
  split <;> exact ⟨rfl, rfl, rfl, rfl, rfl, rfl⟩

theorem pollServerKeep_live (s : St) (now : Nat) (hlive : (s.dropped || s.done.isSome || s.poisoned) = false) :
    let p := requestsPollNext (pollFuel { s with woken := false }) { s with woken := false } now
    ((pollServerKeep s now).poisoned = true ∧ (pollServerKeep s now).done = none ∧ (pollServerKeep s now).dropped = false) ∨
    (p.1.poisoned = false ∧ pollServerKeep s now = pskFinish p.1 p.2) := by
  intro p
  have hdd : p.1.done = s.done ∧ p.1.dropped = s.dropped :=
    (dd_closed s.done s.dropped now).requestsPollNext (pollFuel { s with woken := false })
      { s with woken := false } ⟨rfl, rfl⟩
  have hl := hlive
  simp only [Bool.or_eq_false_iff] at hl
  have hd : s.done = none := by
    cases h : s.done
    · rfl
    · rw [h] at hl; simp at hl
  have ho := pollServerKeep_out s now
  generalize pollServerKeep s now = a at ho ⊢
  cases ho with
  | dead h => rw [hlive] at h; cases h
  | reset _ s1 r he => rw [show p = (s1, r) from he] at hdd; exact .inl ⟨rfl, hdd.1.trans hd, hdd.2.trans hl.1.1⟩
  | poisoned _ _ r he hpo => rw [show p = (a, r) from he] at hdd; exact .inl ⟨hpo, hdd.1.trans hd, hdd.2.trans hl.1.1⟩
  | fin _ s1 r he hpo => rw [show p = (s1, r) from he]; exact .inr ⟨hpo, rfl⟩

theorem pollServerKeep_dead (s : St) (now : Nat) (hdead : (s.dropped || s.done.isSome || s.poisoned) = true) :
    pollServerKeep s now = emit s .noop := by
  rw [pollServerKeep_eq, if_pos hdead]

/-! ## C09: transport failures and how they are reported -/

def failOf : Obs → Option Activity
  | .tReady _ .err => some .ready
  | .tFlush _ .err => some .flush
  | .tNext _ .err => some .read
  | .tSend _ _ false => some .write
  | _ => none

/-- the transport failures observed so far, most recent first -/
def fails (s : St) : List Activity := s.obs.filterMap failOf

theorem fails_emit (s : St) (o : Obs) : fails (emit s o) = (failOf o).toList ++ fails s := by
  unfold fails; simp only [emit_obs, List.filterMap_cons]; cases failOf o <;> rfl

theorem fails_of_obs {s s' : St} (h : s'.obs = s.obs) : fails s' = fails s := by unfold fails; rw [h]

@[simp] theorem fails_emitViolations (s : St) (n : Nat) : fails (emitViolations s n) = fails s :=
  emitViolations_ind (P := fun a => fails a = fails s) (fun a _ ha => by rw [fails_emit]; exact ha) s n rfl

theorem Adds.fails {Q : Obs → Prop} {s s' : St} (h : Adds Q s s') (hQ : ∀ o, Q o → failOf o = none) : fails s' = fails s := by
  obtain ⟨l, e, p⟩ := h
  unfold Flow.fails
  rw [e, List.filterMap_append, List.filterMap_eq_nil_iff.mpr fun o ho => hQ o (p o ho), List.nil_append]

theorem ExecObs.no_fail {o : Obs} (h : ExecObs o) : failOf o = none := by
  cases o <;> first | rfl | exact h.elim

theorem TableObs.no_fail {o : Obs} (h : TableObs o ∨ ∃ t, o = .spin t) : failOf o = none := by
  rcases h with (h | ⟨_, _, rfl⟩) | ⟨_, rfl⟩
  · exact h.no_fail
  · rfl
  · rfl

@[simp] theorem fails_wakeServer (s : St) : fails (wakeServer s) = fails s := (adds_wakeServer s).fails fun _ => ExecObs.no_fail

@[simp] theorem fails_updExec (s : St) (r : Nat) (f : Exec → Exec) : fails (updExec s r f) = fails s := rfl

@[simp] theorem fails_removeRequest (s : St) (id : Nat) : fails (removeRequest s id).1 = fails s :=
  (adds_removeRequest s id).fails fun _ h => TableObs.no_fail (.inl h)

@[simp] theorem fails_cancelRequest (s : St) (id : Nat) : fails (cancelRequest s id).1 = fails s :=
  (adds_cancelRequest s id).fails fun _ h => TableObs.no_fail (.inl h)

@[simp] theorem fails_pollExpired (s : St) (now : Nat) : fails (pollExpired s now).1 = fails s :=
  (adds_pollExpired s now).fails fun _ => TableObs.no_fail

@[simp] theorem fails_startRequest (s : St) (now id d : Nat) (tr : Trace) (b : Nat) :
    fails (startRequest s now id d tr b).1 = fails s :=
  (adds_startRequest s now id d tr b).fails fun _ h => TableObs.no_fail (.inl h)

@[simp] theorem fails_rqRelease (s : St) : fails (rqRelease s) = fails s := (adds_rqRelease s).fails fun _ => ExecObs.no_fail

@[simp] theorem fails_dropOffered (s : St) (rid id : Nat) : fails (dropOffered s rid id) = fails s :=
  (adds_dropOffered s rid id).fails fun _ => ExecObs.no_fail

theorem fails_sinkCall (s : St) (t' : SimT) (o : Obs) (w : Bool) :
    fails (sinkCall s t' o w) = (failOf o).toList ++ fails s := by
  unfold sinkCall
  split
  · rw [fails_wakeServer, fails_emit, fails_emitViolations]; rfl
  · rw [fails_emit, fails_emitViolations]; rfl

theorem fails_tReady (s : St) :
    fails (tReady s).1 = (if (tReady s).2 = .err then [Activity.ready] else []) ++ fails s := by
  rw [tReady_call, fails_sinkCall]; cases s.t.pollReady.2.1 <;> rfl

theorem fails_tFlush (s : St) :
    fails (tFlush s).1 = (if (tFlush s).2 = .err then [Activity.flush] else []) ++ fails s := by
  rw [tFlush_call, fails_sinkCall]; cases s.t.pollFlush.2.1 <;> rfl

theorem fails_tSend (s : St) (m : Msg) :
    fails (tSend s m).1 = (if (tSend s m).2 = false then [Activity.write] else []) ++ fails s := by
  rw [tSend_call, fails_sinkCall]; cases (s.t.startSend m).2 <;> rfl

theorem fails_tNext (s : St) :
    fails (tNext s).1 = (if (tNext s).2 = .err then [Activity.read] else []) ++ fails s := by
  unfold tNext
  split
  · rfl
  · simp only
    have : fails (emit { s with t := s.t.pollNext.1 } (.tNext (tid s) s.t.pollNext.2)) =
        (if s.t.pollNext.2 = .err then [Activity.read] else []) ++ fails s := by
      rw [fails_emit]
      cases s.t.pollNext.2 <;> rfl
    split
    · next h => exact (fails_of_obs rfl).trans this
    · exact this

def errOfSP {α : Type} : SPoll α → Option Activity
  | .err a => some a
  | _ => none

def errOfEW : EW → Option Activity
  | .err a => some a
  | _ => none

def errOfRP : ReqPoll → Option Activity
  | .err a => some a
  | _ => none

/-- between `s` and `s'` exactly the transport failure `o` (or none) was observed -/
def ErrShape (s s' : St) (o : Option Activity) : Prop := fails s' = o.toList ++ fails s

theorem ErrShape.refl (s : St) : ErrShape s s none := rfl

theorem ErrShape.of_eq {s s' : St} (h : fails s' = fails s) : ErrShape s s' none := h

theorem ErrShape.trans {s s' s'' : St} {o : Option Activity} (h1 : ErrShape s s' none) (h2 : ErrShape s' s'' o) :
    ErrShape s s'' o := by
  unfold ErrShape at *; rw [h2, h1]; rfl

theorem ErrShape.trans' {s s' s'' : St} {o : Option Activity} (h1 : ErrShape s s' o) (h2 : ErrShape s' s'' none) :
    ErrShape s s'' o := by
  unfold ErrShape at *; rw [h2, h1]; rfl

theorem tReady_shape (s : St) : ErrShape s (tReady s).1 (if (tReady s).2 = .err then some .ready else none) := by
  unfold ErrShape; rw [fails_tReady]; split <;> rfl

theorem tFlush_shape (s : St) : ErrShape s (tFlush s).1 (if (tFlush s).2 = .err then some .flush else none) := by
  unfold ErrShape; rw [fails_tFlush]; split <;> rfl

theorem tSend_shape (s : St) (m : Msg) :
    ErrShape s (tSend s m).1 (if (tSend s m).2 = false then some .write else none) := by
  unfold ErrShape; rw [fails_tSend]; split <;> rfl

theorem tNext_shape (s : St) : ErrShape s (tNext s).1 (if (tNext s).2 = .err then some .read else none) := by
  unfold ErrShape; rw [fails_tNext]; split <;> rfl

theorem bpCancel_fails (s : St) : fails (bpCancel s).1 = fails s := by
  unfold bpCancel; split
  · simp only [fails_removeRequest]; rfl
  · rfl

theorem bpOther_fails (s : St) (nx : NextRes) : fails (bpOther s nx).1 = fails s := by
  unfold bpOther; split <;> simp

theorem bpStep_shape (s : St) (now : Nat) :
    ErrShape s (bpStep s now).1 (match (bpStep s now).2 with | some r => errOfSP r | none => none) ∧
    (∀ a, (bpStep s now).2 = some (.err a) → a = .read) := by
  have h2 : fails (bp2 s now) = fails s := by simp [bp2, bpCancel_fails]
  have h3 := tNext_shape (bp2 s now)
  have ho := bpStep_out s now
  generalize bpStep s now = out at *
  cases ho with
  | poisoned2 => exact ⟨ErrShape.of_eq h2, fun a h => by cases h⟩
  | readErr hp hnx =>
    refine ⟨?_, fun a h => by cases h; rfl⟩
    unfold bpNx at hnx
    rw [hnx] at h3
    exact ErrShape.trans (ErrShape.of_eq h2) h3
  | started id d tr b ex hp hnx hs =>
    refine ⟨?_, fun a h => by cases h⟩
    unfold bpNx at hnx; rw [hnx] at h3
    exact ErrShape.trans (ErrShape.of_eq h2) (ErrShape.trans h3 (ErrShape.of_eq (by simp [bp3])))
  | startPanic id d tr b hp hnx hs hpo =>
    refine ⟨?_, fun a h => by cases h⟩
    unfold bpNx at hnx; rw [hnx] at h3
    exact ErrShape.trans (ErrShape.of_eq h2) (ErrShape.trans h3 (ErrShape.of_eq (by simp [bp3])))
  | duplicate id d tr b hp hnx hs hpo =>
    refine ⟨?_, fun a h => by cases h⟩
    unfold bpNx at hnx; rw [hnx] at h3
    exact ErrShape.trans (ErrShape.of_eq h2) (ErrShape.trans h3 (ErrShape.of_eq (by simp [bp3])))
  | otherPoisoned hp hn1 hn2 hpo =>
    refine ⟨?_, fun a h => by cases h⟩
    unfold bpNx at hn1; rw [if_neg hn1] at h3
    exact ErrShape.trans (ErrShape.of_eq h2) (ErrShape.trans h3 (ErrShape.of_eq (by simp [bp3, bpOther_fails])))
  | again hp hn1 hn2 hpo hc =>
    refine ⟨?_, fun a h => by cases h⟩
    unfold bpNx at hn1; rw [if_neg hn1] at h3
    exact ErrShape.trans (ErrShape.of_eq h2) (ErrShape.trans h3 (ErrShape.of_eq (by simp [bp3, bpOther_fails])))
  | closed hp hn1 hn2 hpo hc =>
    refine ⟨?_, fun a h => by cases h⟩
    unfold bpNx at hn1; rw [if_neg hn1] at h3
    exact ErrShape.trans (ErrShape.of_eq h2) (ErrShape.trans h3 (ErrShape.of_eq (by simp [bp3, bpOther_fails])))
  | pending hp hn1 hn2 hpo hc =>
    refine ⟨?_, fun a h => by cases h⟩
    unfold bpNx at hn1; rw [if_neg hn1] at h3
    exact ErrShape.trans (ErrShape.of_eq h2) (ErrShape.trans h3 (ErrShape.of_eq (by simp [bp3, bpOther_fails])))

theorem basePollNext_shape (now : Nat) (fuel : Nat) (s : St) :
    ErrShape s (basePollNext fuel s now).1 (errOfSP (basePollNext fuel s now).2) ∧
    (∀ a, (basePollNext fuel s now).2 = .err a → a = .read) :=
  basePollNext_loop (I := fun a => ErrShape s a none) (Φ := fun a r => ErrShape s a (errOfSP r) ∧ ∀ e, r = .err e → e = .read)
    (fun a ha => by
      have hb := bpStep_shape a now
      refine .of_eq (fun hn => ?_) (fun r hr => ?_)
      · rw [hn] at hb; exact ErrShape.trans ha hb.1
      · rw [hr] at hb; exact ⟨ErrShape.trans ha hb.1, fun e h => hb.2 e (by rw [h])⟩)
    (fun a ha => ⟨ErrShape.trans ha (ErrShape.of_eq (by rw [fails_emit]; rfl)), fun e h => by cases h⟩) fuel s (ErrShape.of_eq rfl)

theorem baseStartSend_shape (s : St) (id : Nat) (res : Res) :
    ErrShape s (baseStartSend s id res).1 (if (baseStartSend s id res).2 = some false then some .write else none) := by
  unfold baseStartSend
  have h1 := fails_removeRequest s id
  split
  · next s' heq =>
    rw [heq] at h1
    have h2 := tSend_shape s' (.response id res)
    simp only
    by_cases hok : (tSend s' (.response id res)).2 = false
    · rw [if_pos hok] at h2; rw [if_pos (by rw [hok])]; exact ErrShape.trans (ErrShape.of_eq h1) h2
    · rw [if_neg hok] at h2; rw [if_neg (fun h => hok (Option.some.inj h))]
      exact ErrShape.trans (ErrShape.of_eq h1) h2
  · next s' heq => rw [heq] at h1; exact ErrShape.of_eq h1

theorem channelPollNext_shape (s : St) (now : Nat) :
    ErrShape s (channelPollNext s now).1 (errOfSP (channelPollNext s now).2) := by
  have hb : ∀ fuel a ex, ErrShape s a none → (basePollNext fuel a now).2 = .some ex →
      ErrShape s (basePollNext fuel a now).1 none := fun fuel a ex ha he => by
    have := (basePollNext_shape now fuel a).1; rw [he] at this; exact ha.trans this
  exact channelPollNext_post (I := fun a => ErrShape s a none) (Φ := fun a r => ErrShape s a (errOfSP r))
    { ready := fun a ha he => by have := tReady_shape a; rw [he] at this; exact ha.trans this
      pending := fun a ha he => by have := tReady_shape a; rw [he] at this; exact ha.trans this
      readyErr := fun a ha he => by have := tReady_shape a; rw [he] at this; exact ha.trans this
      req := fun fuel a ex ha he => hb fuel a ex ha he
      other := fun fuel a r ha _ hr => ha.trans (hr ▸ (basePollNext_shape now fuel a).1)
      sent := fun a id res ha hne => by have := baseStartSend_shape a id res; rw [if_neg hne] at this; exact ha.trans this
      sendErr := fun a id res ha he => by have := baseStartSend_shape a id res; rw [if_pos he] at this; exact ha.trans this
      upd := fun a r ha => ha.trans (ErrShape.of_eq rfl)
      spin := fun a ha => ha.trans (ErrShape.of_eq (by rw [fails_emit]; rfl)) }
    (fun fuel a ha ex he => hb fuel a ex ha he) s (ErrShape.refl s)

theorem ensureWriteable_shape (s : St) : ErrShape s (ensureWriteable s).1 (errOfEW (ensureWriteable s).2) := by
  refine ensureWriteable_post (I := fun a => ErrShape s a none) (J := fun a => ErrShape s a none)
    (Φ := fun a r => ErrShape s a (errOfEW r)) (fun a h => ?_) (fun a h => ?_)
    (fun a h => h.trans (ErrShape.of_eq (by rw [fails_emit]; rfl))) s (ErrShape.refl s)
  · unfold ReadySpec
    have h1 := h.trans (tReady_shape a)
    generalize tReady a = p at h1 ⊢
    obtain ⟨s1, r⟩ := p
    cases r with
    | pending => exact ⟨h1, h1⟩
    | _ => exact h1
  · unfold FlushSpec
    have h1 := h.trans (tFlush_shape a)
    generalize tFlush a = p at h1 ⊢
    obtain ⟨s1, r⟩ := p
    cases r <;> exact h1

theorem flushArm_shape (s : St) (rc : Bool) : ErrShape s (flushArm s rc).1 (errOfSP (flushArm s rc).2) := by
  rw [flushArm_eq]
  have h1 := tFlush_shape s
  generalize tFlush s = p at h1 ⊢
  obtain ⟨s1, r⟩ := p
  cases r with
  | ready => dsimp only; split <;> exact h1
  | _ => exact h1

theorem pumpWrite_shape (s : St) (rc : Bool) : ErrShape s (pumpWrite s rc).1 (errOfSP (pumpWrite s rc).2) := by
  have h1 := ensureWriteable_shape s
  have ho := pumpWrite_out s rc
  generalize pumpWrite s rc = p at ho ⊢
  cases ho with
  | blocked s1 he => rw [he] at h1; exact h1.trans (flushArm_shape s1 rc)
  | err s1 a he => rw [he] at h1; exact h1
  | spin s1 he => rw [he] at h1; exact h1
  | sent s1 id res rest he hq hs =>
    rw [he] at h1
    have h2 := baseStartSend_shape (rqRelease { s1 with respQ := rest }) id res
    rw [if_neg hs] at h2
    exact h1.trans ((ErrShape.of_eq (by simp; rfl)).trans h2)
  | sendErr s1 id res rest he hq hs =>
    rw [he] at h1
    have h2 := baseStartSend_shape (rqRelease { s1 with respQ := rest }) id res
    rw [if_pos hs] at h2
    exact h1.trans ((ErrShape.of_eq (by simp; rfl)).trans h2)
  | idle s1 he hq => rw [he] at h1; exact h1.trans ((ErrShape.of_eq rfl).trans (flushArm_shape _ rc))

theorem requestsPollNext_shape (now : Nat) (fuel : Nat) (s : St) :
    ErrShape s (requestsPollNext fuel s now).1 (errOfRP (requestsPollNext fuel s now).2) :=
  requestsPollNext_loop (I := fun a => ErrShape s a none) (Φ := fun a r => ErrShape s a (errOfRP r))
    (fun a ha => by
      have h1 : ErrShape a (rpRd a now).1 (errOfSP (rpRd a now).2) := channelPollNext_shape a now
      have h3 : ErrShape (rpRd a now).1 (rpWr a now).1 (errOfSP (rpWr a now).2) :=
        ErrShape.trans (ErrShape.of_eq (by unfold armRead; split <;> rfl)) (pumpWrite_shape _ _)
      have hw : (∀ e, (rpRd a now).2 ≠ .err e) → ErrShape s (rpWr a now).1 (errOfSP (rpWr a now).2) := fun hne =>
        ErrShape.trans (ErrShape.trans ha (by
          cases hr : (rpRd a now).2 <;> first | (rw [hr] at h1; exact h1) | exact absurd hr (hne _))) h3
      have hidle : ((rpRd a now).2 = .pending ∨ (rpRd a now).2 = .none) → ∀ e, (rpRd a now).2 ≠ .err e :=
        fun h e he => by rcases h with h | h <;> rw [h] at he <;> cases he
      have ho := rpStep_out a now
      unfold IterSpec
      generalize rpStep a now = p at ho ⊢
      cases ho <;> dsimp only [Option.elim]
      case readErr e h => rw [h] at h1; exact ha.trans h1
      case readSpin h => rw [h] at h1; exact ha.trans h1
      case writeErr e hr h =>
        have := hw hr.1; rw [h] at this
        exact ErrShape.trans' this (ErrShape.of_eq (by unfold dropRead; split <;> simp))
      case writeSpin hr h => have := hw hr.1; rw [h] at this; exact this
      case closed hr h => have := hw (hidle (.inr hr)); rw [h] at this; exact this
      case item ex hr h =>
        have := hw (fun e he => by rw [hr] at he; cases he)
        cases hwr : (rpWr a now).2 <;> first | (rw [hwr] at this; exact this) | exact absurd hwr (h.1 _)
      case again hr h => have := hw (hidle hr); rw [h] at this; exact this
      -- the write pump returned `Pending` or `None`: no failure either way
      case idle hr h => have := hw (hidle hr); rcases h with h | h <;> rw [h] at this <;> exact this)
    (fun a ha => ErrShape.trans ha (ErrShape.of_eq (by rw [fails_emit]; rfl))) fuel s (ErrShape.of_eq rfl)

end Server.Flow
end TarpcModel
