import TarpcModel.Lemmas.ServerTab2
import TarpcModel.Lemmas.ServerInv
/-!
The second coupling (`Tab.X`) over whole scripts: the ops besides `poll-server`, the invariant between ops, and the
acceptance of `checkC06Rest` (the two "deadline enforced" clauses of the C06 monitor) on every trace of the model without
limiter, below the clock bound (`ClampFits`: the clamp on the deadline timers fits the timer queue's range), whose injected
requests carry pairwise distinct ids.  `checkC06Rest` is a part of `checkC06` (cut in ServerMon06) which the driver never runs;
`c06_accepts` is the theorem about `monC06` itself.
-/
namespace TarpcModel.Server.Tab
open TarpcModel TarpcModel.Server TarpcModel.Server.Flow TarpcModel.Server.ObsMon TarpcModel.Server.Mon06

def Lx (f : WB → WB) : Prop :=
  ∀ e, (f e).rid = e.rid ∧ (f e).id = e.id ∧ (f e).deadline = e.deadline ∧ (f e).yieldedAt = e.yieldedAt ∧
    (f e).expiredSeen = e.expiredSeen

/-- the executions of `B'` are those of `B` updated in place; table, clock and `failed` are not compared (what an execution-side
op does to the book; `BW.le`, ServerTab1, is for the observations of a poll) -/
def BW.lx (B B' : BW) : Prop := ∃ f, B'.execs = B.execs.map f ∧ Lx f

theorem BW.lx.refl (B : BW) : BW.lx B B := ⟨id, by simp, fun e => ⟨rfl, rfl, rfl, rfl, rfl⟩⟩

theorem BW.lx.of_eq {B B' : BW} (h : B'.execs = B.execs) : BW.lx B B' := ⟨id, by simp [h], fun e => ⟨rfl, rfl, rfl, rfl, rfl⟩⟩

theorem BW.lx.trans {A B C : BW} (h1 : BW.lx A B) (h2 : BW.lx B C) : BW.lx A C := by
  obtain ⟨f1, e1, l1⟩ := h1
  obtain ⟨f2, e2, l2⟩ := h2
  refine ⟨f2 ∘ f1, by rw [e2, e1, List.map_map], fun e => ?_⟩
  obtain ⟨a1, a2, a3, a4, a5⟩ := l1 e
  obtain ⟨b1, b2, b3, b4, b5⟩ := l2 (f1 e)
  exact ⟨b1.trans a1, b2.trans a2, b3.trans a3, b4.trans a4, b5.trans a5⟩

theorem X.lx {rest : List Nat} {B B' : BW} {S : MV} (h : X rest B S) (hl : BW.lx B B') : X rest B' S := by
  obtain ⟨f, hb, hf⟩ := hl
  refine h.book f hb (fun e _ => ?_)
  obtain ⟨a1, a2, a3, a4, a5⟩ := hf e
  exact ⟨a1, a2, a3, a4, fun h' => Or.inl (a5 ▸ h')⟩

theorem lx_updExec (b : Book) (r : Nat) (f : BExec → BExec) (F : WB → WB) (hF : ∀ e, wb (f e) = F (wb e)) (hL : Lx F) :
    BW.lx (bw b) (bw (b.updExec r f)) := by
  refine ⟨fun x => if x.rid == r then F x else x, ?_, fun e => ?_⟩
  · show (b.execs.map (fun e => if e.rid == r then f e else e)).map wb = _
    exact map_ite_comm b.execs (fun e => (e.rid == r) = true) (fun x => (x.rid == r) = true) wb (fun e => Iff.rfl) f F hF
  · dsimp only
    split
    · exact hL e
    · exact ⟨rfl, rfl, rfl, rfl, rfl⟩

theorem step_lx (b : Book) (o : Obs) (h : isCore o = false) : BW.lx (bw b) (bw (b.step (.obs o))) := by
  cases ho : isOut o with
  | false => exact BW.lx.of_eq (stepW b o h ho).execs
  | true =>
    cases o with
    | yielded r id d tr => cases h
    | ret t r =>
      cases t with
      | server k => cases h
      | exec v =>
        cases r with
        | readyOk =>
          exact lx_updExec _ _ _ (fun x => { x with gone := true }) (fun e => rfl) (fun e => ⟨rfl, rfl, rfl, rfl, rfl⟩)
        | _ => exact BW.lx.refl _
      | _ => exact BW.lx.refl _
    | handler r ev t =>
      cases ev with
      | completed => exact lx_updExec _ _ _ id (fun e => rfl) (fun e => ⟨rfl, rfl, rfl, rfl, rfl⟩)
      | dropped => exact lx_updExec _ _ _ id (fun e => rfl) (fun e => ⟨rfl, rfl, rfl, rfl, rfl⟩)
      | _ => exact BW.lx.refl _
    | counts ep a b' => cases ep <;> exact BW.lx.refl _
    | tClose ep r => exact BW.lx.refl _
    | resolved c o t => exact BW.lx.refl _
    | _ => cases ho

theorem bo_lx (b0 : Book) {s s' : St} (h : Ext s s') : BW.lx (bw (bo b0 s.obs)) (bw (bo b0 s'.obs)) :=
  bo_adds (P := fun b b' => BW.lx (bw b) (bw b')) (fun _ => BW.lx.refl _) BW.lx.trans step_lx b0 h

theorem lx_endOp (b : Book) : BW.lx (bw b) (bw b.endOp) := by
  cases hc : b.curDropExec with
  | none => exact BW.lx.of_eq (by show b.endOp.execs.map wb = _; rw [endOp_execs_none b hc]; rfl)
  | some r =>
    have h1 := lx_updExec b r (fun e => if e.gone then e else { e with gone := true, abandoned := true })
      (fun x => if x.gone then x else { x with gone := true, abandoned := true })
      (fun e => by cases hg : e.gone <;> simp [wb, hg]) (fun e => by dsimp only; split <;> exact ⟨rfl, rfl, rfl, rfl, rfl⟩)
    refine h1.trans (BW.lx.of_eq ?_)
    show b.endOp.execs.map wb = _
    rw [endOp_execs_some b r hc]; rfl

theorem step_op_execs (b : Book) (op : SOp) : (b.step (.op op)).execs = b.endOp.execs := by
  cases op <;> rfl

theorem lx_opBook (b : Book) (op : SOp) : BW.lx (bw b.endOp) (bw (opBook b op)) := by
  unfold opBook
  have h0 : BW.lx (bw b.endOp) (bw (b.step (.op op))) :=
    BW.lx.of_eq (by show (b.step (.op op)).execs.map wb = _; rw [step_op_execs]; rfl)
  refine h0.trans ?_
  unfold Book.noteFinish
  split
  · exact lx_updExec _ _ _ id (fun e => by split <;> rfl) (fun e => ⟨rfl, rfl, rfl, rfl, rfl⟩)
  · exact BW.lx.refl _

theorem dead_of_updExec_done (s : St) (r : Nat) (f : Exec → Exec) (hf : ∀ e, (f e).rid = e.rid ∧ execLive (f e) = false) :
    ∀ x ∈ (updExec s r f).execs, x.rid = r → execLive x = false := by
  intro x hx hr
  simp only [updExec] at hx
  obtain ⟨e0, _, rfl⟩ := List.mem_map.mp hx
  by_cases h0 : e0.rid = r
  · rw [if_pos (by simpa using h0)]; exact (hf e0).2
  · rw [if_neg (by simpa using h0)] at hr; exact absurd hr h0

theorem qaf_rq (s s0 : St) (e : Exec) (res : Res) (n : Nat) (h0 : s0.respQ = s.respQ) :
    ∀ p ∈ (queueAndFinish s0 e res n).respQ, p ∈ s.respQ ∨
      (p.1 = e.id ∧ ∀ x ∈ (queueAndFinish s0 e res n).execs, x.rid = e.rid → execLive x = false) := by
  intro p hp
  refine Or.imp_right (fun h => ⟨h, fun x hx => ?_⟩) ?_
  · unfold queueAndFinish at hx
    rw [emit_execs] at hx
    refine dead_of_updExec_done _ _ _ ?_ x hx
    exact fun e' => ⟨rfl, rfl⟩
  · unfold queueAndFinish at hp
    simp only [emit_respQ, updExec_respQ] at hp
    split at hp
    · exact Or.inl (h0 ▸ hp)
    · have hp : p ∈ s0.respQ ++ [(e.id, res)] := by
        split at hp
        · rwa [wakeServer_respQ] at hp
        · exact hp
      rw [h0] at hp
      exact (List.mem_append.mp hp).imp id (fun h => by rw [List.mem_singleton.mp h])

theorem trySend_rq (s : St) (e : Exec) (res : Res) (n : Nat) :
    ∀ p ∈ (trySend s e res n).respQ, p ∈ s.respQ ∨
      (p.1 = e.id ∧ ∀ x ∈ (trySend s e res n).execs, x.rid = e.rid → execLive x = false) := by
  have park : ∀ (s0 : St) (f : Exec → Exec) (o : Obs), s0.respQ = s.respQ →
      ∀ p ∈ (emit (updExec s0 e.rid f) o).respQ, p ∈ s.respQ := by
    intro s0 f o h0 p hp
    rwa [emit_respQ, updExec_respQ, h0] at hp
  unfold trySend
  by_cases h1 : s.dropped = true
  · rw [if_pos h1]; exact qaf_rq s s e res n rfl
  · rw [if_neg h1]
    by_cases h2 : s.rqAssigned.contains e.rid = true
    · rw [if_pos h2]; exact qaf_rq s _ e res n rfl
    · rw [if_neg h2]
      by_cases h3 : s.rqWaiters.contains e.rid = true
      · rw [if_pos h3]; exact fun p hp => Or.inl (park s _ _ rfl p hp)
      · rw [if_neg h3]
        by_cases h4 : s.rqAvail > 0
        · rw [if_pos h4]; exact qaf_rq s _ e res n rfl
        · rw [if_neg h4]; exact fun p hp => Or.inl (park { s with rqWaiters := s.rqWaiters ++ [e.rid] } _ _ rfl p hp)

theorem peDrop_respQ (s0 : St) (e : Exec) (vid now : Nat) : (peDrop s0 e vid now).respQ = s0.respQ := by
  unfold peDrop unsend
  cases e.phase <;> simp only <;> (split <;> first | rfl | (rw [rqRelease_respQ]))

theorem peAborted_respQ (s0 : St) (e : Exec) (vid now : Nat) : (peAborted s0 e vid now).respQ = s0.respQ := by
  unfold peAborted
  rw [emit_respQ, updExec_respQ, peDrop_respQ]

theorem peStart_respQ (s0 : St) (e : Exec) (vid now : Nat) : (peStart s0 e vid now).respQ = s0.respQ := by
  rw [peStart, emit_respQ, updExec_respQ]

/- The queue of the state handed on is related to that of `s` by rewriting with the projection lemmas: a unifier asked
whether `(emit (updExec (emit (updExec s ..) ..) ..) ..).respQ` is `s.respQ` compares the two states field by field at
every level of the nest. -/
theorem pollExec_rq (s : St) (vid n : Nat) :
    ∀ p ∈ (pollExec s vid n).respQ, p ∈ s.respQ ∨
      ∃ e, getExecVis s vid = some e ∧ execLive e = true ∧ p.1 = e.id ∧
        ∀ x ∈ (pollExec s vid n).execs, x.rid = e.rid → execLive x = false := by
  have ho := pollExec_out s vid n
  generalize pollExec s vid n = q at ho ⊢
  intro p hp
  cases ho with
  | noVis h => exact Or.inl hp
  | dead e h hl => exact Or.inl hp
  | aborted e h hl ha => rw [peAborted_respQ, updExec_respQ] at hp; exact Or.inl hp
  | sendNone e h hl ha hph hr => rw [emit_respQ, updExec_respQ] at hp; exact Or.inl hp
  | send e res h hl ha hph hr =>
    have := trySend_rq _ e res n p hp
    rw [updExec_respQ] at this
    exact this.imp id (fun h' => ⟨e, h, hl, h'⟩)
  | finish e res h hl ha hph hf =>
    have := trySend_rq _ { e with hDone := true, phase := .running } res n p hp
    rw [updExec_respQ, emit_respQ, peStart_respQ, updExec_respQ] at this
    exact this.imp id (fun h' => ⟨e, h, hl, h'⟩)
  | pending e h hl ha hph hf =>
    rw [emit_respQ, updExec_respQ, peStart_respQ, updExec_respQ] at hp; exact Or.inl hp

theorem guardDrop_cq (s : St) (e : Exec) : ∀ i ∈ (guardDrop s e).cancelQ, i ∈ s.cancelQ ∨ i = e.id := by
  intro i hi
  unfold guardDrop at hi
  by_cases hc : (e.guardArmed && !s.dropped) = true
  · rw [if_pos hc] at hi
    have hi : i ∈ s.cancelQ ++ [e.id] := by
      by_cases hw : s.cancelRxWaker = true
      · rw [if_pos hw, wakeServer_cancelQ] at hi; exact hi
      · rw [if_neg hw] at hi; exact hi
    exact (List.mem_append.mp hi).imp id List.mem_singleton.mp
  · rw [if_neg hc] at hi; exact Or.inl hi

theorem dropExec_cq (s : St) (vid n : Nat) :
    ∀ i ∈ (dropExec s vid n).cancelQ, i ∈ s.cancelQ ∨ ∃ e, getExecVis s vid = some e ∧ execLive e = true ∧ i = e.id := by
  intro i hi
  rw [dropExec_eq] at hi
  cases hg : getExecVis s vid with
  | none => rw [hg] at hi; exact Or.inl hi
  | some e =>
    rw [hg] at hi
    dsimp only at hi
    by_cases hl : (!execLive e) = true
    · rw [if_pos hl] at hi; exact Or.inl hi
    · rw [if_neg hl] at hi
      refine (guardDrop_cq _ e i hi).imp (fun h => ?_) (fun h => ⟨e, rfl, by simpa using hl, h⟩)
      simp only [updExec_cancelQ] at h
      unfold deDrop unsend at h
      split at h
      · split at h <;> exact h
      · split at h
        · rw [rqRelease_cancelQ] at h; exact h
        · exact h
      · exact h

theorem X_ld {now : Nat} {pend : Option (Nat × Nat)} {Bv : BV} {rest : List Nat} {B : BW} {s s' : St} {r : Nat}
    (hK : K now pend Bv (sview s)) (h : X rest B (mv s)) (hl : LD r s s') (hlive : LiveRid s r)
    (hcq : ∀ i ∈ s'.cancelQ, i ∈ s.cancelQ ∨
      ∃ e ∈ s.execs, e.rid = r ∧ e.id = i ∧ ∀ x ∈ s'.execs, x.rid = r → execLive x = false)
    (hrq : ∀ p ∈ s'.respQ, p ∈ s.respQ ∨
      ∃ e ∈ s.execs, e.rid = r ∧ e.id = p.1 ∧ ∀ x ∈ s'.execs, x.rid = r → execLive x = false)
    (hinb : s'.t.inbound = s.t.inbound) : X rest B (mv s') := by
  obtain ⟨⟨g, hg, hid⟩, hin, _, _⟩ := hl
  have hlv := liveRid_of_K hK hlive
  have hents : (mv s').ents = (mv s).ents := congrArg (List.map ze) hin
  refine h.model s.execs ye (ye ∘ g) rfl (by show s'.execs.map ye = _; rw [hg, List.map_map]) ?_ ?_ ?_ ?_ hinb ?_
  · intro a ha
    obtain ⟨h1, h2, _, h4, h5, h6⟩ := hid a
    refine ⟨h1, h2, h4, fun hq => ?_, fun hq => ?_⟩
    · by_cases hr : a.rid = r
      · exact hlv a ha hr
      · have : execLive (g a) = execLive a := h6 hr
        show execLive a = true
        rw [← this]; exact hq
    · show (g a).aborted = true
      rw [h5]; exact hq
  · intro en' hen'
    rw [hents] at hen'
    exact ⟨en', hen', rfl, rfl, Nat.le_refl _⟩
  · intro i hi
    rcases hcq i hi with h1 | ⟨e, he, her, hei, hd⟩
    · exact Or.inl h1
    · exact Or.inr ⟨e, he, hei, hd (g e) (by rw [hg]; exact List.mem_map_of_mem he) ((hid e).1.trans her)⟩
  · intro i hi
    obtain ⟨p, hp, rfl⟩ := List.mem_map.mp hi
    rcases hrq p hp with h1 | ⟨e, he, her, hei, hd⟩
    · exact Or.inl (List.mem_map_of_mem h1)
    · exact Or.inr ⟨e, he, hei, hd (g e) (by rw [hg]; exact List.mem_map_of_mem he) ((hid e).1.trans her)⟩
  · intro a ha ⟨en, hen, hr⟩
    refine Or.inl ⟨en, ?_, hr⟩
    rw [hents]; exact hen

theorem liftT_nextVis (s : St) (r : SimT × Bool) : (liftT s r).nextVis = s.nextVis := by
  unfold liftT; simp only; split <;> simp

theorem mv_liftT (s : St) (r : SimT × Bool) : mv (liftT s r) = { mv s with inb := r.1.inbound } := by
  unfold mv
  simp [liftT_t, liftT_nextVis]

theorem mv_took (ms : List Msg) (s : St) : mv (ms.foldl (fun s m => emit s (.took (tid s) m)) s) = mv s := by
  induction ms generalizing s with
  | nil => rfl
  | cons m ms ih => exact (ih _).trans rfl

theorem mv_onAdvance (s : St) (n : Nat) : mv (onAdvance s n) = mv s := by
  unfold onAdvance
  (repeat' split) <;> first | rfl | exact (qm_wakeServer _).2.trans rfl

theorem armFault_inbound (t : SimT) (k : FaultKind) : (armFault t k).inbound = t.inbound := by
  cases k <;> rfl

theorem wakeIfReady_inbound (t : SimT) : t.wakeIfReady.1.inbound = t.inbound := by
  unfold SimT.wakeIfReady; split <;> rfl

def opReq : SOp → List Nat
  | .injectReq id _ _ _ => [id]
  | _ => []

/-- the ids of the requests a script injects, in order -/
def reqIds : List SOp → List Nat
  | [] => []
  | op :: ops => opReq op ++ reqIds ops

theorem mv_applyOp_quiet (c0 : Sys) (op : SOp) (h1 : op ≠ .pollServer) (h2 : op ≠ .dropServer)
    (h3 : ∀ v, op ≠ .pollExec v) (h4 : ∀ v, op ≠ .dropExec v) (h5 : ∀ v res, op ≠ .finish v res) :
    (mv (applyOp c0 op).s = mv c0.s ∧ opReq op = []) ∨
    ∃ m : Inb, mv (applyOp c0 op).s = { mv c0.s with inb := (c0.s.t.inject m).1.inbound } ∧ opReq op = inbIds [m] ∧
      ∀ i d tr b, m = .msg (.request i d tr b) → op = .injectReq i d tr b := by
  have hlift : ∀ r : SimT × Bool, r.1.inbound = c0.s.t.inbound → mv (liftT c0.s r) = mv c0.s := by
    intro r hr
    rw [mv_liftT, hr]; rfl
  cases op with
  | pollServer => exact absurd rfl h1
  | dropServer => exact absurd rfl h2
  | pollExec v => exact absurd rfl (h3 v)
  | dropExec v => exact absurd rfl (h4 v)
  | finish v res => exact absurd rfl (h5 v res)
  | injectReq id d tr b =>
    exact Or.inr ⟨.msg (.request id d tr b), mv_liftT _ _, rfl, fun i d' tr' b' hm => by cases hm; rfl⟩
  | injectCancel id tr => exact Or.inr ⟨.msg (.cancel id tr), mv_liftT _ _, rfl, fun i d' tr' b' hm => by cases hm⟩
  | injectErr => exact Or.inr ⟨.err, mv_liftT _ _, rfl, fun i d' tr' b' hm => by cases hm⟩
  | eof => exact Or.inl ⟨hlift c0.s.t.setEof rfl, rfl⟩
  | setReady b => exact Or.inl ⟨hlift (c0.s.t.setReady b) (wakeIfReady_inbound _), rfl⟩
  | setFlush b => exact Or.inl ⟨hlift (c0.s.t.setFlush b) (wakeIfReady_inbound _), rfl⟩
  | fault k => exact Or.inl ⟨mv_setT c0.s _ (armFault_inbound _ k), rfl⟩
  | faultSkip n => exact Or.inl ⟨mv_setT c0.s _ rfl, rfl⟩
  | selfWake b => exact Or.inl ⟨mv_setT c0.s _ rfl, rfl⟩
  | take n =>
    refine Or.inl ⟨?_, rfl⟩
    show mv ((c0.s.t.take n).2.foldl (fun s m => emit s (.took (tid s) m)) { c0.s with t := (c0.s.t.take n).1 }) = _
    rw [mv_took]
    exact mv_setT c0.s _ rfl
  | advance n => exact Or.inl ⟨mv_onAdvance _ _, rfl⟩

theorem X_applyOp {now : Nat} {pend : Option (Nat × Nat)} {Bv : BV} {rest : List Nat} {B : BW} (c0 : Sys) (op : SOp)
    (h1 : op ≠ .pollServer) (h2 : op ≠ .dropServer) (hK : K now pend Bv (sview c0.s))
    (hX : X (opReq op ++ rest) B (mv c0.s)) : X rest B (mv (applyOp c0 op).s) := by
  have hquiet : (∀ v, op ≠ .pollExec v) → (∀ v, op ≠ .dropExec v) → (∀ v res, op ≠ .finish v res) →
      X rest B (mv (applyOp c0 op).s) := by
    intro h3 h4 h5
    rcases mv_applyOp_quiet c0 op h1 h2 h3 h4 h5 with ⟨h, ho⟩ | ⟨m, h, ho, _⟩
    · rw [h]; rw [ho] at hX; exact hX
    · rw [h]; exact hX.inject m (by rw [ho])
  cases op with
  | pollServer => exact absurd rfl h1
  | dropServer => exact absurd rfl h2
  | pollExec v =>
    show X rest B (mv (pollExec c0.s v c0.now))
    have hX : X rest B (mv c0.s) := hX
    have hcq : (pollExec c0.s v c0.now).cancelQ = c0.s.cancelQ := pollExec_cancelQ _ _ _
    have ht : (pollExec c0.s v c0.now).t = c0.s.t := pollExec_t _ _ _
    rcases ld_pollExec c0.s v c0.now with h | ⟨e, hg, hl, h⟩
    · refine X_ld hK hX h (Or.inl rfl) (fun i hi => Or.inl (by rw [← hcq]; exact hi)) (fun p hp => ?_) (by rw [ht])
      rcases pollExec_rq c0.s v c0.now p hp with h3 | ⟨e, hg, hlive, _, hd⟩
      · exact Or.inl h3
      · 
        exfalso
        obtain ⟨⟨g, hgm, hid⟩, _⟩ := h
        obtain ⟨hem, _⟩ := getExecVis_mem hg
        have hlt := hK.ridLt (xe e) (List.mem_map_of_mem hem)
        simp only [sview, List.length_map] at hlt
        have hdead := hd (g e) (by rw [hgm]; exact List.mem_map_of_mem hem) (hid e).1
        rw [(hid e).2.2.2.2.2 (Nat.ne_of_lt hlt), hlive] at hdead
        cases hdead
    · refine X_ld hK hX h (Or.inr ⟨e, (getExecVis_mem hg).1, rfl, hl⟩) (fun i hi => Or.inl (by rw [← hcq]; exact hi))
        (fun p hp => ?_) (by rw [ht])
      rcases pollExec_rq c0.s v c0.now p hp with h3 | ⟨e', hg', _, hpe, hd⟩
      · exact Or.inl h3
      · rw [hg] at hg'; cases hg'
        exact Or.inr ⟨e, (getExecVis_mem hg).1, rfl, hpe.symm, hd⟩
  | dropExec v =>
    show X rest B (mv (dropExec c0.s v c0.now))
    have hX : X rest B (mv c0.s) := hX
    have hrq : (dropExec c0.s v c0.now).respQ = c0.s.respQ := dropExec_respQ _ _ _
    have ht : (dropExec c0.s v c0.now).t = c0.s.t := dropExec_t _ _ _
    rcases ld_dropExec c0.s v c0.now with ⟨h, hnl⟩ | ⟨e, hg, hl, h, hpost⟩
    · refine X_ld hK hX h (Or.inl rfl) (fun i hi => ?_) (fun p hp => Or.inl (by rw [← hrq]; exact hp)) (by rw [ht])
      rcases dropExec_cq c0.s v c0.now i hi with h3 | ⟨e, hg, hl, _⟩
      · exact Or.inl h3
      · rw [hnl e hg] at hl; cases hl
    · refine X_ld hK hX h (Or.inr ⟨e, (getExecVis_mem hg).1, rfl, hl⟩) (fun i hi => ?_)
        (fun p hp => Or.inl (by rw [← hrq]; exact hp)) (by rw [ht])
      rcases dropExec_cq c0.s v c0.now i hi with h3 | ⟨e', hg', _, hie⟩
      · exact Or.inl h3
      · rw [hg] at hg'; cases hg'
        exact Or.inr ⟨e, (getExecVis_mem hg).1, rfl, hie.symm, hpost⟩
  | finish v res =>
    show X rest B (mv (finishHandler c0.s v res))
    have hX : X rest B (mv c0.s) := hX
    refine X_ld hK hX (ld_finishHandler c0.s.execs.length c0.s v res) (Or.inl rfl)
      (fun i hi => Or.inl (by rw [← finishHandler_cancelQ c0.s v res]; exact hi))
      (fun p hp => Or.inl (by rw [← finishHandler_respQ c0.s v res]; exact hp)) (by rw [finishHandler_t])
  | _ => exact hquiet (fun v hc => by cases hc) (fun v hc => by cases hc) (fun v res hc => by cases hc)

/-- a `handler … polled` observation -/
def isHP : Obs → Bool
  | .handler _ .polled _ => true
  | _ => false

theorem isHP_sendQuiet : SendQuiet isHP := ⟨⟨fun _ => rfl, rfl, fun _ _ => rfl⟩, fun _ _ => rfl⟩
theorem isHP_wakeQuiet : WakeQuiet isHP := isHP_sendQuiet.toWakeQuiet

theorem hp_emit (s : St) {o : Obs} (h : isHP o = false) : (emit s o).obs.filter isHP = s.obs.filter isHP :=
  List.filter_cons_of_neg (by rw [h]; exact Bool.false_ne_true)

theorem peDrop_hp (s0 : St) (e : Exec) (vid now : Nat) : (peDrop s0 e vid now).obs.filter isHP = s0.obs.filter isHP := by
  unfold peDrop unsend
  cases e.phase <;> simp only <;> (split <;> first | rfl | (rw [fx_rqRelease isHP_wakeQuiet]))

theorem peAborted_hp (s0 : St) (e : Exec) (vid now : Nat) :
    (peAborted s0 e vid now).obs.filter isHP = s0.obs.filter isHP := by
  rw [peAborted, hp_emit _ rfl, updExec_obs, peDrop_hp]

theorem pollExec_hp (s : St) (vid now : Nat) (h0 : s.obs = []) (v t : Nat)
    (hm : Obs.handler v .polled t ∈ (pollExec s vid now).obs) :
    v = vid ∧ ∃ e, getExecVis s vid = some e ∧ execLive e = true ∧ e.aborted = false := by
  have hmem : Obs.handler v .polled t ∈ (pollExec s vid now).obs.filter isHP := List.mem_filter.mpr ⟨hm, rfl⟩
  have hnil : s.obs.filter isHP = [] := by rw [h0]; rfl
  have hst : ∀ e : Exec, (peStart (updExec s e.rid (fun x => { x with woken := false })) e vid now).obs.filter isHP =
      [.handler vid .polled now] := fun e => by
    rw [peStart, emit_obs, List.filter_cons_of_pos rfl, updExec_obs, updExec_obs, hnil]
  have ho := pollExec_out s vid now
  generalize pollExec s vid now = q at ho hmem
  cases ho with
  | noVis h => rw [hp_emit _ rfl, hnil] at hmem; cases hmem
  | dead e h hl => rw [hp_emit _ rfl, hnil] at hmem; cases hmem
  | aborted e h hl ha => rw [peAborted_hp, updExec_obs, hnil] at hmem; cases hmem
  | sendNone e h hl ha hph hr => rw [hp_emit _ rfl, updExec_obs, hnil] at hmem; cases hmem
  | send e res h hl ha hph hr => rw [fx_trySend isHP_sendQuiet, updExec_obs, hnil] at hmem; cases hmem
  | finish e res h hl ha hph hf =>
    rw [fx_trySend isHP_sendQuiet, updExec_obs, hp_emit _ rfl, hst] at hmem
    cases List.mem_singleton.mp hmem
    exact ⟨rfl, e, h, hl, ha⟩
  | pending e h hl ha hph hf =>
    rw [hp_emit _ rfl, updExec_obs, hst] at hmem
    cases List.mem_singleton.mp hmem
    exact ⟨rfl, e, h, hl, ha⟩

theorem dropExec_hp (s : St) (vid now : Nat) : (dropExec s vid now).obs.filter isHP = s.obs.filter isHP := by
  rw [dropExec_eq]
  cases getExecVis s vid with
  | none => exact hp_emit _ rfl
  | some e =>
    dsimp only
    split
    · exact hp_emit _ rfl
    · rw [fx_guardDrop isHP_wakeQuiet, updExec_obs]
      unfold deDrop unsend
      cases e.phase with
      | running =>
        dsimp only
        split
        · rfl
        · exact hp_emit _ rfl
      | sending =>
        dsimp only
        split
        · rw [fx_rqRelease isHP_wakeQuiet]
        · rfl
      | _ => rfl

def PolledOKW (B : BW) (v : Nat) : Prop := ∀ x ∈ B.execs, x.rid = v → x.expiredSeen = false

theorem PolledOKW.lx {B B' : BW} {v : Nat} (h : PolledOKW B v) (hl : BW.lx B B') : PolledOKW B' v := by
  obtain ⟨f, hb, hf⟩ := hl
  intro x hx hr
  rw [hb] at hx
  obtain ⟨x0, hx0, rfl⟩ := List.mem_map.mp hx
  rw [(hf x0).2.2.2.2]
  exact h x0 hx0 ((hf x0).1.symm.trans hr)

theorem chk06_polled (b : Book) (v t : Nat) (h : PolledOKW (bw b) v) : chk06 b (.handler v .polled t) = none := by
  unfold chk06
  simp only [checkC06Rest]
  split
  · next e tp hE hL =>
    have hm : e ∈ b.execs := List.mem_of_find?_eq_some hE
    have hr : e.rid = v := by simpa using List.find?_some hE
    have hx : e.expiredSeen = false := h (wb e) (List.mem_map_of_mem hm) hr
    rw [if_neg (by rw [hx]; simp)]
  · rfl

theorem CK_ops (b0 : Book) : ∀ (obs : List Obs), (∀ o ∈ obs, isCore o = false) →
    (b0.spun = true ∨ ∀ v t, Obs.handler v .polled t ∈ obs → PolledOKW (bw b0) v) → CK chk06 b0 obs := by
  intro obs
  induction obs with
  | nil => intro _ _; trivial
  | cons o l ih =>
    intro hc hh
    have hcl : ∀ o' ∈ l, isCore o' = false := fun o' ho' => hc o' (List.mem_cons_of_mem _ ho')
    refine ⟨ih hcl (hh.imp id (fun h v t hm => h v t (List.mem_cons_of_mem _ hm))), ?_⟩
    rcases hh with hs | hh
    · left
      have := bo_spun_mono b0 [] l hs
      simpa using this
    · right
      by_cases hp : ∃ v t, o = .handler v .polled t
      · obtain ⟨v, t, rfl⟩ := hp
        exact chk06_polled _ v t ((hh v t (List.mem_cons_self ..)).lx (bo_all (P := fun b b' => BW.lx (bw b) (bw b')) (fun _ => BW.lx.refl _) BW.lx.trans step_lx b0 l hcl))
      · refine chk06_other _ _ (fun v t he => hp ⟨v, t, he⟩) (fun ep id res ok he => ?_)
        have := hc o (List.mem_cons_self ..)
        rw [he] at this; cases this

theorem chk06_eq : chk06 = chkOf checkC06Rest := rfl

/-- between ops: `OInv`, no limiter, the timer queue's clamp, and `X` with the ids still to be injected (`rest`) -/
structure OInvT (b : Book) (c : Sys) (rest : List Nat) : Prop where
  base : OInv b c
  lim : c.s.limit = none
  qc : QC c.now c.s
  x : b.spun = true ∨ X rest (bw b.endOp) (mv c.s)

theorem OInvT.of_clr {b : Book} {c : Sys} {rest : List Nat} (hb : OInv b (clr c)) (hl : c.s.limit = none) (hq : QC c.now c.s)
    (hx : b.spun = true ∨ X rest (bw b.endOp) (mv c.s)) : OInvT b (clr c) rest := ⟨hb, hl, hq.of_timers rfl, hx⟩

theorem OInvT.cleared {b : Book} {c : Sys} {rest : List Nat} (h : OInvT b c rest) (c0 : Sys) (hc0 : clr c = c0) :
    c0.s.obs = [] ∧ c0.now = c.now ∧ sview c0.s = sview c.s ∧ mv c0.s = mv c.s ∧ c0.s.poisoned = c.s.poisoned ∧
      SInv false c0.now c0.s ∧ DoneDropped c0.s ∧ (c0.s.throttleAfterRead = false ∧ c0.s.ensureLoop = false) ∧
      c0.s.limit = none ∧ QC c0.now c0.s := by
  subst hc0
  exact ⟨rfl, rfl, rfl, rfl, rfl, h.base.sinv.clear_obs, h.base.dd, ⟨h.base.cfg1, h.base.cfg2⟩, h.lim, h.qc.of_timers rfl⟩

theorem CK.of_spun {chk : Book → Obs → Option String} {b0 : Book} (h : b0.spun = true) : ∀ l, CK chk b0 l
  | [] => trivial
  | _ :: l => ⟨CK.of_spun h l, Or.inl (by simpa using bo_spun_mono b0 [] l h)⟩

theorem bo_opBook_spun {b : Book} (h : b.spun = true) (op : SOp) (l : List Obs) : (bo (opBook b op) l).spun = true := by
  simpa using bo_spun_mono (opBook b op) [] l (by rw [bo_nil, opBook_spun]; exact h)

theorem OInvT.start {b : Book} {c : Sys} {rest : List Nat} (h : OInvT b c rest) (op : SOp) (hb : b.spun = false) :
    ∃ pend, (pend = none ∨ c.s.poisoned = true) ∧
      K (c.now + opAdv op) pend (bview (opBook b op)) (sview c.s) ∧ X rest (bw (opBook b op)) (mv c.s) := by
  obtain ⟨pend, hpp, hK⟩ := of_unspun h.base.j hb
  exact ⟨pend, hpp, K_opBook op hK, (of_unspun h.x hb).lx (lx_opBook b op)⟩

theorem OInvT.begin {b : Book} {c : Sys} {rest : List Nat} (h : OInvT b c rest) (op : SOp) (hb : b.spun = false) (c0 : Sys)
    (hc0 : clr c = c0) :
    ∃ pend, (pend = none ∨ c0.s.poisoned = true) ∧ K (c.now + opAdv op) pend (bview (opBook b op)) (sview c0.s) ∧
      X rest (bw (opBook b op)) (mv c0.s) ∧ NN (opBook b op) (c.now + opAdv op) pend rest c0.s := by
  subst hc0
  obtain ⟨pend, hpp, hK, hX⟩ := h.start op hb
  exact ⟨pend, hpp, hK, hX, Or.inr ⟨hK, hX⟩, trivial⟩

theorem ExtOp.facts {op : SOp} (he : ExtOp op) {c0 : Sys} (h0 : c0.s.obs = []) (b : Book) :
    ExtW c0.s (applyOp c0 op).s ∧ (bo (opBook b op) (applyOp c0 op).s.obs).curDropExec = none := by
  refine ⟨extW_of (ext_of_nil h0 (fx_applyOp isCore_execQuiet c0 op he.1)) (fx_applyOp_wake isOut_wakeQuiet c0 op he.1 he.2.2.1 he.2.2.2), ?_⟩
  rw [bo_curDropExec, opBook_cd]
  split
  · exact absurd rfl (he.2.2.2 _)
  · rfl

theorem nohp_of_filter {l : List Obs} (h : l.filter isHP = []) : ∀ v t, Obs.handler v .polled t ∉ l :=
  fun _ _ hm => List.filter_eq_nil_iff.mp h _ hm rfl

theorem NN.x_end {b0 : Book} {now : Nat} {pend : Option (Nat × Nat)} {rest : List Nat} {s : St} (h : NN b0 now pend rest s) :
    (bo b0 s.obs).spun = true ∨ X rest (bw (bo b0 s.obs).endOp) (mv s) :=
  h.n.imp id (fun hx => hx.2.lx (lx_endOp _))

theorem NP.x_end {b0 : Book} {now : Nat} {rest : List Nat} {s : St} (h : NP b0 now rest s) :
    (bo b0 s.obs).spun = true ∨ X rest (bw (bo b0 s.obs).endOp) (mv s) := by
  rcases h with h | ⟨_, _, h⟩
  · exact h.x_end
  · exact h.x_end

theorem NP.ck {b0 : Book} {now : Nat} {rest : List Nat} {s : St} (h : NP b0 now rest s) : CK chk06 b0 s.obs := by
  rcases h with h | ⟨_, _, h⟩
  · exact h.ck
  · exact h.ck

theorem X_other {b : Book} {c0 : Sys} {now : Nat} {pend : Option (Nat × Nat)} {rest : List Nat} (op : SOp)
    (hobs0 : c0.s.obs = []) (hps : op ≠ .pollServer) (hds : op ≠ .dropServer)
    (hK : K now pend (bview (opBook b op)) (sview c0.s)) (hX : X (opReq op ++ rest) (bw (opBook b op)) (mv c0.s)) :
    X rest (bw (bo (opBook b op) (applyOp c0 op).s.obs).endOp) (mv (applyOp c0 op).s) ∧
    CK chk06 (opBook b op) (applyOp c0 op).s.obs := by
  have hext : Ext c0.s (applyOp c0 op).s := ext_of_nil hobs0 (fx_applyOp isCore_execQuiet c0 op hps)
  have hcore : ∀ o ∈ (applyOp c0 op).s.obs, isCore o = false := by
    obtain ⟨l, hl, hp⟩ := hext
    rw [hl, hobs0, List.append_nil]; exact hp
  have hlx := bo_lx (opBook b op) hext
  rw [hobs0] at hlx
  refine ⟨((X_applyOp c0 op hps hds hK hX).lx hlx).lx (lx_endOp _), CK_ops _ _ hcore (Or.inr ?_)⟩
  intro v t hm
  by_cases hpe : ∃ v0, op = .pollExec v0
  · obtain ⟨v0, rfl⟩ := hpe
    obtain ⟨rfl, e, hg, hl, ha⟩ := pollExec_hp c0.s v0 c0.now hobs0 v t hm
    obtain ⟨hem, hev⟩ := getExecVis_mem hg
    intro x hx hr
    cases hes : x.expiredSeen with
    | false => rfl
    | true =>
      exfalso
      rcases hX.expa (K_eid_mv hK) hx hes (x := ye e) (List.mem_map_of_mem hem)
        (by show e.vis = some x.rid; rw [hr]; exact hev) with h1 | h1
      · exact Bool.noConfusion (ha.symm.trans h1)
      · exact Bool.noConfusion (hl.symm.trans h1)
  · have hno : (applyOp c0 op).s.obs.filter isHP = c0.s.obs.filter isHP := by
      by_cases hde : ∃ v0, op = .dropExec v0
      · obtain ⟨v0, rfl⟩ := hde
        exact dropExec_hp c0.s v0 c0.now
      · exact fx_applyOp_wake isHP_wakeQuiet c0 op hps (fun v0 hv => hpe ⟨v0, hv⟩) (fun v0 hv => hde ⟨v0, hv⟩)
    rw [hobs0] at hno
    exact absurd hm (nohp_of_filter hno v t)

theorem op_stepT (hf : ClampFits) {b : Book} {c : Sys} {rest : List Nat} (op : SOp) (h : OInvT b c (opReq op ++ rest))
    (hn : c.now + opAdv op < panicFreeNs) :
    OInvT (bo (opBook b op) (applyOp (clr c) op).s.obs) (stepOp c op).1 rest ∧
    CK chk06 (opBook b op) (applyOp (clr c) op).s.obs := by
  have hbase' : OInv (bo (opBook b op) (applyOp (clr c) op).s.obs) (stepOp c op).1 := (op_step op h.base).1
  rw [stepOp_fst] at hbase' ⊢
  generalize hc0 : clr c = c0 at hbase' ⊢
  obtain ⟨hobs0, hnow0, -, -, -, hs0, hdd0, hcfg0, hl0, hq0⟩ := h.cleared c0 hc0
  have hfin : ((bo (opBook b op) (applyOp c0 op).s.obs).spun = true ∨
      X rest (bw (bo (opBook b op) (applyOp c0 op).s.obs).endOp) (mv (applyOp c0 op).s)) →
      OInvT (bo (opBook b op) (applyOp c0 op).s.obs) (clr (applyOp c0 op)) rest := fun hx =>
    OInvT.of_clr hbase' ((cfg_reach c0 [op]).2.1.trans hl0)
      (reach_inv QC (qc_closed hf) (fun _ _ _ hle hq => hq.mono hle) c0 hq0 [op]) hx
  cases hb : b.spun with
  | true => exact ⟨hfin (Or.inl (bo_opBook_spun hb op _)), CK.of_spun (by rw [opBook_spun]; exact hb) _⟩
  | false =>
  obtain ⟨pend, hpp, hK, hX, hNN⟩ := h.begin op hb c0 hc0
  induction op using op_cases with
  | poll =>
    have e : c.now + opAdv SOp.pollServer = c0.now := by rw [hnow0]; rfl
    rw [e] at hNN
    have hNP : NP (opBook b .pollServer) c0.now rest c0.s :=
      hpp.elim (fun hp => Or.inl (hp ▸ hNN)) (fun hpo => Or.inr ⟨hpo, pend, hNN⟩)
    have hfinal := NN_pollServer hf (by rw [← e]; exact hn) hobs0 hs0 hq0 hdd0 hNP hl0 hcfg0.1 hcfg0.2
    exact ⟨hfin hfinal.x_end, hfinal.ck⟩
  | drop =>
    have := NN_dropServer (rest := rest) hNN (by rw [hobs0]; exact Or.inr (opBook_dropped b))
    exact ⟨hfin this.x_end, this.ck⟩
  | pexec v => exact (X_other (.pollExec v) hobs0 nofun nofun hK hX).imp (fun h => hfin (Or.inr h)) id
  | dexec v => exact (X_other (.dropExec v) hobs0 nofun nofun hK hX).imp (fun h => hfin (Or.inr h)) id
  | ext op he => exact (X_other op hobs0 he.1 he.2.1 hK hX).imp (fun h => hfin (Or.inr h)) id

theorem advSum_cons (op : SOp) (ops : List SOp) : advSum (op :: ops) = opAdv op + advSum ops := rfl

theorem trace_accepts {check : Book → Unit → SEv → Unit × Option String} {I : Book → Sys → List Nat → Prop}
    {Near : SOp → Prop} (hev : ∀ b op, (check b () (.op op)).2 = none)
    (hop : ∀ {b : Book} {c : Sys} {rest : List Nat} (op : SOp), I b c (opReq op ++ rest) →
      c.now + opAdv op < panicFreeNs → Near op →
      I (bo (opBook b op) (applyOp (clr c) op).s.obs) (stepOp c op).1 rest ∧
      CK (chkOf check) (opBook b op) (applyOp (clr c) op).s.obs)
    (ops : List SOp) (c : Sys) (m : Mon Unit) (hb : m.bad = none) (hI : I m.book c (reqIds ops))
    (hT : c.now + advSum ops < panicFreeNs) (hnear : ∀ op ∈ ops, Near op) :
    ((trace c ops).foldl (Mon.step check) m).bad = none := by
  refine trace_core (I := fun b c ops => I b c (reqIds ops) ∧ c.now + advSum ops < panicFreeNs ∧ ∀ op ∈ ops, Near op) hev
    (fun {b c} op ops h => ?_) ops c m hb ⟨hI, hT, hnear⟩
  obtain ⟨hI, hT, hn⟩ := h
  rw [advSum_cons] at hT
  obtain ⟨h1, h2⟩ := hop op (rest := reqIds ops) hI (by omega) (hn op (List.mem_cons_self ..))
  have hnow' : (stepOp c op).1.now = c.now + opAdv op := applyOp_now _ op
  exact ⟨⟨h1, by rw [hnow']; omega, fun op' ho' => hn op' (List.mem_cons_of_mem _ ho')⟩, h2⟩

theorem X_init (rest : List Nat) (h : rest.Nodup) (limit : Option Nat) (respCap tcap : Nat) (coupled : Bool) :
    X rest (bw ({ limit := limit } : Book).endOp) (mv (initSys limit respCap tcap coupled).s) := by
  refine ⟨by simpa [mv, initSys, init, inbIds] using h, ?_, ?_, ?_, ?_, ?_, ?_, ?_, ?_⟩
  all_goals (intro a ha; cases ha)

theorem oinvT_init (limit : Option Nat) (respCap tcap : Nat) (coupled : Bool) (rest : List Nat) (h : rest.Nodup)
    (hl : limit = none) : OInvT ({ limit := limit } : Book) (initSys limit respCap tcap coupled) rest :=
  ⟨oinv_init limit respCap tcap coupled, hl, fun _ => DelayQ.Complete_empty, Or.inr (X_init rest h limit respCap tcap coupled)⟩

/-- ids of the requests a script injects are pairwise distinct -/
def DistinctIds (ops : List SOp) : Prop := (reqIds ops).Nodup

instance (ops : List SOp) : Decidable (DistinctIds ops) := by unfold DistinctIds; infer_instance

theorem c06_rest_accepts (hf : ClampFits) (respCap tcap : Nat) (coupled : Bool) (ops : List SOp)
    (hT : advSum ops < panicFreeNs) (hd : DistinctIds ops) :
    (Mon.run none checkC06Rest () (trace (initSys none respCap tcap coupled) ops)).bad = none :=
  trace_accepts (I := OInvT) (Near := fun _ => True) (fun _ _ => rfl) (fun op h hn _ => op_stepT hf op h hn) ops _ _ rfl
    (oinvT_init none respCap tcap coupled _ hd rfl) (by
      show 0 + advSum ops < panicFreeNs
      omega) (fun _ _ => trivial)

theorem c06_accepts (hf : ClampFits) (respCap tcap : Nat) (coupled : Bool) (ops : List SOp)
    (hT : advSum ops < panicFreeNs) (hd : DistinctIds ops) :
    (monC06 none (trace (initSys none respCap tcap coupled) ops)).bad = none :=
  FlowMon.run_orElse checkC06 checkC06Early checkC06Rest checkC06_split _ _ _ _ rfl rfl rfl
    (c06_early_accepts none respCap tcap coupled ops)
    (c06_rest_accepts hf respCap tcap coupled ops hT hd)

end TarpcModel.Server.Tab
