import TarpcModel.Lemmas.ClientFrames
/-
The transport-contract invariant of the client dispatch (`Inv` = `Base` + "a reported failure is a terminal error") and its
preservation by every model function; within one poll the post-conditions of the pumps (`Post`, `PostR`).  These speak of the
status a function returns, which `Steps` forgets: they go over the case principles `Flow.…_cases`, function by function.
-/
namespace TarpcModel.Client.Flow

/-- The violations of the sink contract the dispatch provably never commits: every violation that concerns a
write, and every use of the sink after it reported a failure. -/
def sendViols : List String :=
  ["send-without-ready", "send-after-failure", "send-after-close",
   "ready-after-failure", "flush-after-failure", "close-after-failure"]

/-- None of `sendViols` has been recorded by the transport. -/
def SV (t : SimT) : Prop := ∀ w ∈ t.violations, w ∉ sendViols

/-- Every violation observation is backed by the transport's own log. -/
def ObsOK (s : St) : Prop := ∀ ep w, Obs.tViolation ep w ∈ s.obs.filter isT → w ∈ s.t.violations

/-- The transport was closed only with no sender left and both queues empty — and then it stays so (nobody can add a sender). -/
def ClosedDrained (s : St) : Prop := s.t.closed = true → senders s = 0 ∧ s.pq = [] ∧ s.cq = []

/-- what the dispatch owes its sink, as a property of the state -/
structure Base (s : St) : Prop where
  sv : SV s.t
  obsOK : ObsOK s
  cd : ClosedDrained s

theorem ObsOK.of_mem {s : St} (h : ObsOK s) {ep : TaskId} {w : String} (hm : Obs.tViolation ep w ∈ s.obs) :
    w ∈ s.t.violations := h ep w (List.mem_filter.mpr ⟨hm, rfl⟩)

theorem SV.of_adds {t t' : SimT} {P : String → Prop} (h : SimT.Adds t t' P) (hP : ∀ w, P w → w ∉ sendViols)
    (hs : SV t) : SV t' := by
  intro w hw
  rcases h.mem hw with h1 | h1
  · exact hs w h1
  · exact hP w h1

theorem SV.of_useAfter {t : SimT} {what : String} (hs : SV t) (hnf : t.failed = false)
    (h2 : what ++ "-after-close" ∉ sendViols) : SV (t.useAfter what) :=
  SV.of_adds (SimT.useAfter_adds t what) (by
    rintro w (⟨rfl, hf⟩ | ⟨rfl, _⟩)
    · rw [hnf] at hf; cases hf
    · exact h2) hs

theorem SV.congr {t t' : SimT} (h : t'.violations = t.violations) (hs : SV t) : SV t' := by
  intro w hw; rw [h] at hw; exact hs w hw

theorem sv_mono {t t' : SimT} (h : ∀ w ∈ t.violations, w ∈ t'.violations) (hs : SV t') : SV t :=
  fun w hw => hs w (h w hw)

/-! ### frames preserve `Base` -/

theorem ClosedDrained.of_frameD {s s' : St} (hD : FrameD s s') (hc : s'.t.closed = s.t.closed)
    (h : ClosedDrained s) : ClosedDrained s' := by
  intro hcl
  rw [hc] at hcl
  obtain ⟨h1, h2, h3⟩ := h hcl
  refine ⟨by rw [hD.senders]; exact h1, ?_, ?_⟩
  · have := hD.pq; rw [h2] at this; exact List.eq_nil_of_length_eq_zero (by simpa using this)
  · have := hD.cq; rw [h3] at this; exact List.eq_nil_of_length_eq_zero (by simpa using this)

theorem ObsOK.of_frameA {s s' : St} (hA : FrameA s s') (h : ObsOK s) : ObsOK s' := by
  intro ep w hm; rw [hA.tobs] at hm; rw [hA.t]; exact h ep w hm

/-- A model function that calls no transport operation and acts on the dispatch side keeps `Base`. -/
theorem Base.of_frames {s s' : St} (hA : FrameA s s') (hD : FrameD s s') (h : Base s) : Base s' :=
  ⟨by rw [hA.t]; exact h.sv, h.obsOK.of_frameA hA, h.cd.of_frameD hD (by rw [hA.t])⟩

/-! ### the transport calls -/

theorem tEmit_senders (s : St) (t' : SimT) (o : Obs) (w : Bool) : senders (tEmit s t' o w) = senders s :=
  senders_eq_of (tEmit_handles _ _ _ _) (by rw [tEmit_calls])

theorem tEmit_obsOK {s : St} {t' : SimT} {o : Obs} {w : Bool} (h : ObsOK s)
    (hm : ∀ v ∈ s.t.violations, v ∈ t'.violations) (ho : ∀ ep v, o ≠ .tViolation ep v) :
    ObsOK (tEmit s t' o w) := by
  obtain ⟨l, dw, he, hl, _⟩ := tEmit_eq s t' o w
  intro ep v hv
  rw [he] at hv ⊢
  simp only [List.filter_append, List.mem_append, List.mem_filter] at hv
  show v ∈ t'.violations
  rcases hv with ⟨hv, _⟩ | ⟨hv, _⟩
  · rcases hl _ hv with h1 | h1 | ⟨v', hv', h1⟩
    · exact absurd h1.symm (ho ep v)
    · cases h1
    · cases h1; exact hv'
  · exact hm v (h.of_mem hv)

theorem tEmit_cd {s : St} {t' : SimT} {o : Obs} {w : Bool} (h : ClosedDrained s)
    (hc : t'.closed = true → s.t.closed = true ∨ (senders s = 0 ∧ s.pq = [] ∧ s.cq = [])) :
    ClosedDrained (tEmit s t' o w) := by
  intro hcl
  rw [tEmit_t] at hcl
  rw [tEmit_senders, tEmit_pq, tEmit_cq]
  rcases hc hcl with h1 | h1
  · exact h h1
  · exact h1

theorem tNext_base {s : St} (h : Base s) : Base (tNext s).1 := by
  rw [tNext_eq]
  split
  · exact h
  · refine ⟨?_, ?_, ?_⟩
    · exact SV.congr (SimT.pollNext_violations _) h.sv
    · intro ep v hv
      simp only [List.filter_cons, isT_tNext, ↓reduceIte, List.mem_cons, reduceCtorEq, false_or] at hv
      show v ∈ s.t.pollNext.1.violations
      rw [SimT.pollNext_violations]; exact h.obsOK ep v hv
    · intro hcl
      have hcl' : s.t.closed = true := by rw [← SimT.pollNext_closed]; exact hcl
      obtain ⟨h1, h2, h3⟩ := h.cd hcl'
      exact ⟨by rw [← h1]; exact senders_eq_of rfl rfl, h2, h3⟩

/-! ### one dispatch poll: post-conditions of the pump steps -/

/-- Post-condition of a step of the write / read pump started in a state without reported failure:
the invariant is kept, the violation log only grows, and a failure reported by the transport in this
step is surfaced as the step's error result (`E`). -/
structure PostR (s s' : St) (E : Prop) : Prop where
  base : Base s'
  vm : ∀ w ∈ s.t.violations, w ∈ s'.t.violations
  nf : s'.t.failed = true → E

/-- `PostR` for the steps before `poll_close`: the `closed` flag is unchanged, too. -/
structure Post (s s' : St) (E : Prop) : Prop extends PostR s s' E where
  closed : s'.t.closed = s.t.closed

theorem PostR.nf_of {s s' : St} {E : Prop} (h : PostR s s' E) (hne : ¬ E) : s'.t.failed = false := by
  cases hf : s'.t.failed
  · rfl
  · exact absurd (h.nf hf) hne

theorem Post.andThen {s s1 s2 : St} {E1 E2 : Prop} (h1 : Post s s1 E1) (h2 : Post s1 s2 E2) : Post s s2 E2 :=
  ⟨⟨h2.base, fun w hw => h2.vm w (h1.vm w hw), h2.nf⟩, h2.closed.trans h1.closed⟩

theorem Post.andThenR {s s1 s2 : St} {E1 E2 : Prop} (h1 : Post s s1 E1) (h2 : PostR s1 s2 E2) : PostR s s2 E2 :=
  ⟨h2.base, fun w hw => h2.vm w (h1.vm w hw), h2.nf⟩

theorem Post.weaken {s s' : St} {E E' : Prop} (h : Post s s' E) (hE : E → E') : Post s s' E' :=
  ⟨⟨h.base, h.vm, fun hf => hE (h.nf hf)⟩, h.closed⟩

theorem PostR.weaken {s s' : St} {E E' : Prop} (h : PostR s s' E) (hE : E → E') : PostR s s' E' :=
  ⟨h.base, h.vm, fun hf => hE (h.nf hf)⟩

/-- Steps that call no transport operation. -/
theorem Post.of_frames {s s' : St} {E : Prop} (hA : FrameA s s') (hD : FrameD s s') (hb : Base s)
    (hnf : s.t.failed = false) : Post s s' E :=
  ⟨⟨hb.of_frames hA hD, by rw [hA.t]; exact fun _ h => h, by rw [hA.t, hnf]; intro h; cases h⟩, by rw [hA.t]⟩

theorem Post.refl {s : St} {E : Prop} (hb : Base s) (hnf : s.t.failed = false) : Post s s E :=
  Post.of_frames (.refl _) (.refl _) hb hnf

theorem tEmit_post {s : St} {t' : SimT} {o : Obs} {w : Bool} {E : Prop} (hb : Base s) (hsv : SV t')
    (hm : ∀ v ∈ s.t.violations, v ∈ t'.violations) (ho : ∀ ep v, o ≠ .tViolation ep v)
    (hc : t'.closed = true → s.t.closed = true ∨ (senders s = 0 ∧ s.pq = [] ∧ s.cq = []))
    (hf : t'.failed = true → E) : PostR s (tEmit s t' o w) E :=
  ⟨⟨by rw [tEmit_t]; exact hsv, tEmit_obsOK hb.obsOK hm ho, tEmit_cd hb.cd hc⟩, by rw [tEmit_t]; exact hm,
    by rw [tEmit_t]; exact hf⟩

theorem tReady_post {s : St} (hb : Base s) (hnf : s.t.failed = false) :
    Post s (tReady s).1 ((tReady s).2 = .err) := by
  refine ⟨?_, by rw [tReady_t, SimT.pollReady_closed]⟩
  rw [tReady_eq]
  exact tEmit_post hb (SV.congr (SimT.pollReady_violations _) (hb.sv.of_useAfter hnf (by decide)))
    (by rw [SimT.pollReady_violations]; exact (SimT.useAfter_adds _ _).mono) (by simp)
    (fun hc => .inl (by rwa [SimT.pollReady_closed] at hc)) (by rw [SimT.pollReady_failed, hnf]; simp)

theorem tReady_gotReady {s : St} (h : (tReady s).2 = .ready) : (tReady s).1.t.gotReady = true := by
  rw [tReady_t, SimT.pollReady_gotReady, show s.t.pollReady.2.1 = .ready from h]; simp

theorem tFlush_post {s : St} (hb : Base s) (hnf : s.t.failed = false) :
    Post s (tFlush s).1 ((tFlush s).2 = .err) := by
  refine ⟨?_, by rw [tFlush_t, SimT.pollFlush_closed]⟩
  rw [tFlush_eq]
  exact tEmit_post hb (SV.congr (SimT.pollFlush_violations _) (hb.sv.of_useAfter hnf (by decide)))
    (by rw [SimT.pollFlush_violations]; exact (SimT.useAfter_adds _ _).mono) (by simp)
    (fun hc => .inl (by rwa [SimT.pollFlush_closed] at hc)) (by rw [SimT.pollFlush_failed, hnf]; simp)

/-- `tClose` keeps the invariant when called with no sender left and both queues empty. -/
theorem tClose_post {s : St} (hb : Base s) (hnf : s.t.failed = false)
    (hd : senders s = 0 ∧ s.pq = [] ∧ s.cq = []) : PostR s (tClose s).1 ((tClose s).2 = .err) := by
  rw [tClose_eq]
  exact tEmit_post hb (SV.congr (SimT.pollClose_violations _) (hb.sv.of_useAfter hnf (by decide)))
    (by rw [SimT.pollClose_violations]; exact (SimT.useAfter_adds _ _).mono) (by simp) (fun _ => .inr hd)
    (by rw [SimT.pollClose_failed, hnf]; simp)

/-- `tSend` keeps the invariant when called after `poll_ready → Ready` on an open, healthy transport. -/
theorem tSend_post {s : St} (m : Msg) (hb : Base s) (hnf : s.t.failed = false) (hr : s.t.gotReady = true)
    (hc : s.t.closed = false) : Post s (tSend s m).1 False := by
  refine ⟨?_, by rw [tSend_t, SimT.startSend_closed]⟩
  rw [tSend_eq]; dsimp only
  refine tEmit_post hb (SV.of_adds (SimT.startSend_adds s.t m) ?_ hb.sv) (SimT.startSend_adds s.t m).mono ?_
    (fun hc' => .inl (by rwa [SimT.startSend_closed] at hc')) (by rw [SimT.startSend_failed, hnf]; simp)
  · rintro w (⟨_, h1⟩ | ⟨_, h1, _⟩ | ⟨_, h1⟩) <;> simp_all
  · simp

theorem tNext_post {s : St} (hb : Base s) (hnf : s.t.failed = false) : Post s (tNext s).1 False := by
  refine ⟨⟨tNext_base hb, ?_, ?_⟩, ?_⟩
  · rw [tNext_eq]; split
    · exact fun _ h => h
    · intro w hw; show w ∈ s.t.pollNext.1.violations; rw [SimT.pollNext_violations]; exact hw
  · rw [tNext_eq]; split
    · rw [hnf]; intro h; cases h
    · show s.t.pollNext.1.failed = true → False; rw [SimT.pollNext_failed, hnf]; intro h; cases h
  · rw [tNext_eq]; split
    · rfl
    · exact SimT.pollNext_closed _

/-- What `ensure_writeable` guarantees. -/
def EnsPost (s : St) (p : St × EW) : Prop :=
  Post s p.1 (∃ a, p.2 = .err a) ∧ (p.2 = .ready → p.1.t.gotReady = true)

theorem ensureHead_post {s : St} (hb : Base s) (hnf : s.t.failed = false) :
    (∀ s1, tReady s = (s1, .ready) → EnsPost s (s1, .ready)) ∧
    (∀ s1, tReady s = (s1, .err) → EnsPost s (s1, .err .ready)) ∧
    (∀ s1 s2, tReady s = (s1, .pending) → tFlush s1 = (s2, .pending) → EnsPost s (s2, .pending)) ∧
    (∀ s1 s2, tReady s = (s1, .pending) → tFlush s1 = (s2, .err) → EnsPost s (s2, .err .flush)) ∧
    (∀ s1 s2, tReady s = (s1, .pending) → tFlush s1 = (s2, .ready) → Post s s2 False) := by
  have p1 := tReady_post hb hnf
  have g1 := tReady_gotReady (s := s)
  refine ⟨?_, ?_, ?_, ?_, ?_⟩
  · intro s1 h1; rw [h1] at p1 g1
    exact ⟨p1.weaken (by simp), fun _ => g1 rfl⟩
  · intro s1 h1; rw [h1] at p1
    exact ⟨p1.weaken (fun _ => ⟨_, rfl⟩), by simp⟩
  all_goals
    intro s1 s2 h1 h2; rw [h1] at p1
    have p2 := tFlush_post p1.base (p1.nf_of (by simp)); rw [h2] at p2
  · exact ⟨(p1.andThen p2).weaken (by simp), by simp⟩
  · exact ⟨(p1.andThen p2).weaken (fun _ => ⟨_, rfl⟩), by simp⟩
  · exact (p1.andThen p2).weaken (by simp)

theorem ensureOnce_post {s : St} (hb : Base s) (hnf : s.t.failed = false) : EnsPost s (ensureOnce s) := by
  obtain ⟨c1, c2, c3, c4, c5⟩ := ensureHead_post hb hnf
  refine ensureOnce_cases (motive := EnsPost s) s c1 c2 c3 c4 ?_
  intro s1 s2 s3 r h1 h2 h3
  have p2 := c5 s1 s2 h1 h2
  have p3 := tReady_post p2.base (p2.nf_of id); have g3 := tReady_gotReady (s := s2); rw [h3] at p3 g3
  refine ⟨(p2.andThen p3).weaken ?_, ?_⟩
  · rintro rfl; exact ⟨_, rfl⟩
  · cases r <;> simp [readyEW] at g3 ⊢; exact g3

theorem ensureLoop_post (fuel : Nat) {s : St} (hb : Base s) (hnf : s.t.failed = false) :
    EnsPost s (ensureLoop fuel s) := by
  induction fuel generalizing s with
  | zero =>
    rw [ensureLoop_zero]
    refine ⟨⟨⟨⟨hb.sv, ?_, fun hc => hb.cd hc⟩, fun _ h => h, by simp [hnf]⟩, rfl⟩, by simp⟩
    intro ep w hm
    simp only [emit_obs, List.filter_cons, isT_spin, ↓reduceIte, List.mem_cons, reduceCtorEq, false_or] at hm
    exact hb.obsOK ep w hm
  | succ fuel ih =>
    obtain ⟨c1, c2, c3, c4, c5⟩ := ensureHead_post hb hnf
    refine ensureLoop_cases (motive := EnsPost s) fuel s c1 c2 c3 c4 ?_
    intro s1 s2 h1 h2
    have p2 := c5 s1 s2 h1 h2
    have p3 := ih p2.base (p2.nf_of id)
    exact ⟨p2.andThen p3.1, p3.2⟩

theorem ensureWriteable_post {s : St} (hb : Base s) (hnf : s.t.failed = false) :
    EnsPost s (ensureWriteable s) := by
  unfold ensureWriteable; split
  · exact ensureLoop_post _ hb hnf
  · exact ensureOnce_post hb hnf

/-! #### the dequeue loops -/

theorem pqRecv_item {s s' : St} {r : DReq} (h : pqRecv s = (s', .item r)) : s.pq ≠ [] := by
  rcases pqRecv_out s with ⟨_, _, hq, _⟩ | ⟨_, e, _⟩ | ⟨_, e⟩
  · rw [hq]; simp
  · rw [e] at h; cases h
  · rw [e] at h; cases h

theorem pqRecv_closed {s s' : St} (h : pqRecv s = (s', .closed)) : s' = s ∧ s.pq = [] := by
  rcases pqRecv_out s with ⟨_, _, _, e⟩ | ⟨hq, e, _⟩ | ⟨_, e⟩ <;> rw [e] at h <;> cases h
  · exact ⟨rfl, hq⟩  -- the `closed` outcome (an item, or `pending`, is another result)

theorem nextRequestLoop_some {fuel : Nat} {s s' : St} {r : DReq}
    (h : nextRequestLoop fuel s = (s', .some r)) : s.pq ≠ [] := by
  cases fuel with
  | zero => cases h
  | succ fuel =>
    unfold nextRequestLoop at h
    split at h
    · cases h
    · cases h
    · rename_i heq; exact pqRecv_item heq

theorem nextRequestLoop_none {fuel : Nat} {s s' : St}
    (h : nextRequestLoop fuel s = (s', .none)) : s'.pq = [] := by
  have o := nextRequestLoop_out 0 fuel s
  rw [h] at o
  obtain ⟨s0, _, e⟩ := o
  rcases pqRecv_out s0 with ⟨_, _, _, e'⟩ | ⟨hq, e', _⟩ | ⟨_, e'⟩ <;> rw [e'] at e <;> cases e
  · exact hq  -- the `closed` outcome

theorem cqRecv_item {s s' : St} {i : Nat} (h : cqRecv s = (s', .item i)) : s.cq ≠ [] := by
  rcases cqRecv_out s with ⟨_, _, hq, _⟩ | ⟨_, e, _⟩ | ⟨_, e⟩
  · rw [hq]; simp
  · rw [e] at h; cases h
  · rw [e] at h; cases h

theorem cqRecv_closed {s s' : St} (h : cqRecv s = (s', .closed)) : s' = s ∧ s.cq = [] ∧ senders s = 0 := by
  rcases cqRecv_out s with ⟨_, _, _, e⟩ | ⟨hq, e, hs⟩ | ⟨_, e⟩ <;> rw [e] at h <;> cases h
  · exact ⟨rfl, hq, hs⟩  -- the `closed` outcome

theorem nextCancelLoop_some {fuel : Nat} {s s' : St} {e : Entry}
    (h : nextCancelLoop fuel s = (s', .some e)) : s.cq ≠ [] := by
  cases fuel with
  | zero => cases h
  | succ fuel =>
    unfold nextCancelLoop at h
    split at h
    · cases h
    · cases h
    · rename_i heq; exact cqRecv_item heq

theorem nextCancelLoop_none {fuel : Nat} {s s' : St}
    (h : nextCancelLoop fuel s = (s', .none)) : s'.cq = [] ∧ senders s' = 0 := by
  have o := nextCancelLoop_out 0 fuel s
  rw [h] at o
  obtain ⟨s0, _, e⟩ := o
  rcases cqRecv_out s0 with ⟨_, _, _, e'⟩ | ⟨hq, e', hs⟩ | ⟨_, e'⟩ <;> rw [e'] at e <;> cases e
  · exact ⟨hq, hs⟩  -- the `closed` outcome

/-! #### `poll_write_request` -/

def NextReqPost (s : St) (p : St × PW DReq) : Prop :=
  Post s p.1 (∃ a, p.2 = .err a) ∧ (∀ r, p.2 = .some r → p.1.t.gotReady = true ∧ s.pq ≠ [])

theorem pollNextRequest_post {s : St} (hb : Base s) (hnf : s.t.failed = false) :
    NextReqPost s (pollNextRequest s) := by
  refine pollNextRequest_cases (motive := NextReqPost s) s ?_ ?_ ?_
  · intro _; exact ⟨Post.refl hb hnf, by simp⟩
  · intro s1 e _ h1 hne
    have p1 := ensureWriteable_post hb hnf; rw [h1] at p1
    refine ⟨p1.1.weaken ?_, ?_⟩
    · rintro ⟨a, rfl⟩; exact ⟨a, rfl⟩
    · cases e <;> simp [EW.toPW] at hne ⊢
  · intro s1 _ h1
    have p1 := ensureWriteable_post hb hnf; rw [h1] at p1
    have d1 := ensureWriteable_frameD s; rw [h1] at d1
    have p2 : Post s1 (nextRequestLoop (s1.pq.length + 1) s1).1 (∃ a, (nextRequestLoop (s1.pq.length + 1) s1).2 = .err a) :=
      Post.of_frames (nextRequestLoop_frameA _ _) (nextRequestLoop_frameD _ _) p1.1.base (p1.1.nf_of (by simp))
    refine ⟨p1.1.andThen p2, ?_⟩
    intro r hr
    rcases hp : nextRequestLoop (s1.pq.length + 1) s1 with ⟨s2, r2⟩
    rw [hp] at hr; cases hr
    have ht : s2.t = s1.t := by have := nextRequestLoop_t (s1.pq.length + 1) s1; rwa [hp] at this
    exact ⟨by rw [ht]; exact p1.2 rfl, ne_nil_of_length_le d1.pq (nextRequestLoop_some hp)⟩

def WriteReqPost (s : St) (p : St × PW Unit) : Prop := Post s p.1 (∃ a, p.2 = .err a)

theorem closed_false_of_pq {s : St} (hb : Base s) (h : s.pq ≠ []) : s.t.closed = false := by
  cases hc : s.t.closed
  · rfl
  · exact absurd (hb.cd hc).2.1 h

theorem closed_false_of_cq {s : St} (hb : Base s) (h : s.cq ≠ []) : s.t.closed = false := by
  cases hc : s.t.closed
  · rfl
  · exact absurd (hb.cd hc).2.2 h

theorem pollWriteRequest_post {s : St} (now : Nat) (hb : Base s) (hnf : s.t.failed = false) :
    WriteReqPost s (pollWriteRequest s now) := by
  have hp := pollNextRequest_post hb hnf
  have send : ∀ s1 r s2 s3 ok, pollNextRequest s = (s1, .some r) → insertRequest s1 now r = some s2 →
      tSend s2 (.request r.id r.ctx.deadline r.ctx.trace r.body) = (s3, ok) → Post s s3 False := by
    intro s1 r s2 s3 ok h1 h2 h3
    rw [h1] at hp
    have hA := insertRequest_frameA h2
    have p2 : Post s1 s2 False :=
      Post.of_frames hA (insertRequest_frameD h2) hp.1.base (hp.1.nf_of (by simp))
    have hc : s2.t.closed = false := by
      rw [hA.t, hp.1.closed]; exact closed_false_of_pq hb (hp.2 r rfl).2
    have p3 := tSend_post (.request r.id r.ctx.deadline r.ctx.trace r.body) p2.base (p2.nf_of id)
      (by rw [hA.t]; exact (hp.2 r rfl).1) hc
    rw [h3] at p3
    exact (hp.1.andThen p2).andThen p3
  refine pollWriteRequest_cases (motive := WriteReqPost s) s now ?_ ?_ ?_ ?_
  · intro s1 r h1 hns
    rw [h1] at hp
    refine hp.1.weaken ?_
    rintro ⟨a, rfl⟩; exact ⟨a, rfl⟩
  · intro s1 r s2 h1 h2 _
    rw [h1] at hp
    have p2 : Post s1 s2 (∃ a, (PW.spin : PW Unit) = PW.err a) :=
      Post.of_frames (insertRequest_frameA h2) (insertRequest_frameD h2) hp.1.base (hp.1.nf_of (by simp))
    exact hp.1.andThen p2
  · intro s1 r s2 s3 h1 h2 _ h3; exact (send _ _ _ _ _ h1 h2 h3).weaken False.elim
  · intro s1 r s2 s3 h1 h2 _ h3
    have p3 := send _ _ _ _ _ h1 h2 h3
    have p4 : Post s3 (completeRequest s3 r.id .send).1 False :=
      Post.of_frames (completeRequest_frameA _ _ _) (completeRequest_frameD _ _ _) p3.base (p3.nf_of id)
    exact (p3.andThen p4).weaken False.elim

/-! #### `poll_write_cancel` -/

def NextCanPost (s : St) (p : St × PW Entry) : Prop :=
  Post s p.1 (∃ a, p.2 = .err a) ∧ (∀ e, p.2 = .some e → p.1.t.gotReady = true ∧ s.cq ≠ [])

theorem pollNextCancellation_post {s : St} (hb : Base s) (hnf : s.t.failed = false) :
    NextCanPost s (pollNextCancellation s) := by
  refine pollNextCancellation_cases (motive := NextCanPost s) s ?_ ?_
  · intro s1 e h1 hne
    have p1 := ensureWriteable_post hb hnf; rw [h1] at p1
    refine ⟨p1.1.weaken ?_, ?_⟩
    · rintro ⟨a, rfl⟩; exact ⟨a, rfl⟩
    · cases e <;> simp [EW.toPW] at hne ⊢
  · intro s1 h1
    have p1 := ensureWriteable_post hb hnf; rw [h1] at p1
    have d1 := ensureWriteable_frameD s; rw [h1] at d1
    have p2 : Post s1 (nextCancelLoop (s1.cq.length + 1) s1).1 (∃ a, (nextCancelLoop (s1.cq.length + 1) s1).2 = .err a) :=
      Post.of_frames (nextCancelLoop_frameA _ _) (nextCancelLoop_frameD _ _) p1.1.base (p1.1.nf_of (by simp))
    refine ⟨p1.1.andThen p2, ?_⟩
    intro r hr
    rcases hp : nextCancelLoop (s1.cq.length + 1) s1 with ⟨s2, r2⟩
    rw [hp] at hr; cases hr
    have ht : s2.t = s1.t := by have := nextCancelLoop_t (s1.cq.length + 1) s1; rwa [hp] at this
    exact ⟨by rw [ht]; exact p1.2 rfl, ne_nil_of_length_le d1.cq (nextCancelLoop_some hp)⟩

def WriteCanPost (s : St) (p : St × PW Unit) : Prop := Post s p.1 (∃ a, p.2 = .err a)

theorem pollWriteCancel_post {s : St} (hb : Base s) (hnf : s.t.failed = false) :
    WriteCanPost s (pollWriteCancel s) := by
  have hp := pollNextCancellation_post hb hnf
  have send : ∀ s1 e s2 ok, pollNextCancellation s = (s1, .some e) → tSend s1 (.cancel e.id e.ctx.trace) = (s2, ok) →
      Post s s2 False := by
    intro s1 e s2 ok h1 h3
    rw [h1] at hp
    have hc : s1.t.closed = false := by rw [hp.1.closed]; exact closed_false_of_cq hb (hp.2 e rfl).2
    have p3 := tSend_post (.cancel e.id e.ctx.trace) hp.1.base (hp.1.nf_of (by simp)) (hp.2 e rfl).1 hc
    rw [h3] at p3
    exact hp.1.andThen p3
  refine pollWriteCancel_cases (motive := WriteCanPost s) s ?_ ?_ ?_
  · intro s1 r h1 hns
    rw [h1] at hp
    refine hp.1.weaken ?_
    rintro ⟨a, rfl⟩; exact ⟨a, rfl⟩
  · intro s1 e s2 h1 h3; exact (send _ _ _ _ h1 h3).weaken False.elim
  · intro s1 e s2 h1 h3; exact (send _ _ _ _ h1 h3).weaken False.elim

/-! #### `pump_write`, `pump_read`, `run` -/

/-- C10 (client), the local fact: on the path of `pump_write` that calls `poll_close`, no sender is left and both
queues are empty in the state `poll_close` is called in. -/
theorem pumpWrite_close_drained {s s1 s2 s3 : St} {now : Nat} (h1 : pollWriteRequest s now = (s1, .none))
    (h2 : pollWriteCancel s1 = (s2, .none)) (h3 : pollExpired s2 now = (s3, false)) :
    senders s3 = 0 ∧ s3.pq = [] ∧ s3.cq = [] := by
  -- the request side reported "closed" with an empty queue …
  have q1 : s1.pq = [] := by
    revert h1
    refine pollWriteRequest_cases (motive := fun p => p = (s1, PW.none) → s1.pq = []) s now ?_ ?_ ?_ ?_
    · intro s1' r hn hs he
      revert hn
      refine pollNextRequest_cases (motive := fun p => p = (s1', r) → s1.pq = []) s ?_ ?_ ?_
      · intro _ hh; cases hh; cases he
      · intro s0 e _ _ hne hh; cases hh; cases e <;> simp [EW.toPW, PW.pass] at hne he
      · intro s0 _ _ hh
        cases r <;> simp [PW.pass, PW.isSome] at he hs
        cases he; exact nextRequestLoop_none hh
    · intro _ _ _ _ _ _ he; cases he
    · intro _ _ _ _ _ _ _ _ he; cases he
    · intro _ _ _ _ _ _ _ _ he; cases he
  -- … the cancellation side reported "closed": no sender, empty queue …
  have q2 : s2.cq = [] ∧ senders s2 = 0 := by
    revert h2
    refine pollWriteCancel_cases (motive := fun p => p = (s2, PW.none) → s2.cq = [] ∧ senders s2 = 0) s1 ?_ ?_ ?_
    · intro s1' r hn hs he
      revert hn
      refine pollNextCancellation_cases (motive := fun p => p = (s1', r) → s2.cq = [] ∧ senders s2 = 0) s1 ?_ ?_
      · intro s0 e _ hne hh; cases hh; cases e <;> simp [EW.toPW, PW.pass] at hne he
      · intro s0 _ hh
        cases r <;> simp [PW.pass, PW.isSome] at he hs
        cases he; exact nextCancelLoop_none hh
    · intro _ _ _ _ _ he; cases he
    · intro _ _ _ _ _ he; cases he
  have d2 := pollWriteCancel_frameD s1; rw [h2] at d2
  have d3 := pollExpired_frameD s2 now; rw [h3] at d3
  exact ⟨by rw [d3.senders]; exact q2.2, nil_of_length_le d3.pq (nil_of_length_le d2.pq q1),
    nil_of_length_le d3.cq q2.1⟩

theorem pollExpired_post {s : St} {E : Prop} (now : Nat) (hb : Base s) (hnf : s.t.failed = false) :
    Post s (pollExpired s now).1 E :=
  Post.of_frames (pollExpired_frameA _ _) (pollExpired_frameD _ _) hb hnf

theorem pumpWrite_post {s : St} (now : Nat) (hb : Base s) (hnf : s.t.failed = false) :
    PostR s (pumpWrite s now).1 (∃ a, (pumpWrite s now).2 = .err a) := by
  have notErr : ∀ {r : PW Unit}, r.isStop = false → ¬ ∃ a, r = PW.err a := by
    rintro r hn ⟨a, rfl⟩; simp [PW.isStop] at hn
  have req : ∀ s1 r1, pollWriteRequest s now = (s1, r1) → Post s s1 (∃ a, r1 = .err a) := by
    intro s1 r1 h1; have p1 := pollWriteRequest_post now hb hnf; rw [h1] at p1; exact p1
  have can : ∀ s1 r1 s2 r2, pollWriteRequest s now = (s1, r1) → r1.isStop = false → pollWriteCancel s1 = (s2, r2) →
      Post s s2 (∃ a, r2 = .err a) := by
    intro s1 r1 s2 r2 h1 hn1 h2
    have p1 := req _ _ h1
    have p2 := pollWriteCancel_post p1.base (p1.nf_of (notErr hn1)); rw [h2] at p2
    exact p1.andThen p2
  have exp : ∀ s1 r1 s2 r2 s3 b, pollWriteRequest s now = (s1, r1) → r1.isStop = false →
      pollWriteCancel s1 = (s2, r2) → r2.isStop = false → pollExpired s2 now = (s3, b) → Post s s3 False := by
    intro s1 r1 s2 r2 s3 b h1 hn1 h2 hn2 h3
    have p2 := can _ _ _ _ h1 hn1 h2
    have p3 : Post s2 (pollExpired s2 now).1 False := pollExpired_post now p2.base (p2.nf_of (notErr hn2))
    rw [h3] at p3
    exact p2.andThen p3
  refine pumpWrite_cases (motive := fun p => PostR s p.1 (∃ a, p.2 = .err a)) s now ?_ ?_ ?_ ?_ ?_ ?_
  · intro s1 r1 h1 _; exact (req _ _ h1).toPostR
  · intro s1 r1 s2 r2 h1 hn1 h2 _; exact (can _ _ _ _ h1 hn1 h2).toPostR
  · intro s1 r1 s2 r2 s3 h1 hn1 h2 hn2 h3; exact ((exp _ _ _ _ _ _ h1 hn1 h2 hn2 h3).weaken False.elim).toPostR
  · intro s1 r1 s2 r2 s3 h1 hn1 h2 hn2 h3 _; exact ((exp _ _ _ _ _ _ h1 hn1 h2 hn2 h3).weaken False.elim).toPostR
  · intro s1 s2 s3 s4 r4 h1 h2 h3 h4
    have p3 := exp _ _ _ _ _ _ h1 rfl h2 rfl h3
    have p4 := tClose_post p3.base (p3.nf_of id) (pumpWrite_close_drained h1 h2 h3)
    rw [h4] at p4
    refine (p3.andThenR p4).weaken ?_
    rintro rfl; exact ⟨_, rfl⟩
  · intro s1 r1 s2 r2 s3 s4 r4 h1 hn1 h2 hn2 _ h3 h4
    have p3 := exp _ _ _ _ _ _ h1 hn1 h2 hn2 h3
    have p4 := tFlush_post p3.base (p3.nf_of id)
    rw [h4] at p4
    refine (p3.andThen p4).toPostR.weaken ?_
    rintro rfl; exact ⟨_, rfl⟩

theorem pumpRead_post {s : St} (hb : Base s) (hnf : s.t.failed = false) : Post s (pumpRead s).1 False := by
  refine pumpRead_cases (motive := fun p => Post s p.1 False) s ?_ ?_ ?_ ?_ ?_
  · intro s1 h1; have p := tNext_post hb hnf; rw [h1] at p; exact p
  · intro s1 h1; have p := tNext_post hb hnf; rw [h1] at p; exact p
  · intro s1 h1; have p := tNext_post hb hnf; rw [h1] at p; exact p
  · intro s1 id res h1
    have p := tNext_post hb hnf; rw [h1] at p
    exact p.andThen (Post.of_frames (completeRequest_frameA _ _ _) (completeRequest_frameD _ _ _) p.base (p.nf_of (fun h => h)))
  · intro s1 m h1 _; have p := tNext_post hb hnf; rw [h1] at p; exact p

theorem PostR.andThenR {s s1 s2 : St} {E1 E2 : Prop} (h1 : PostR s s1 E1) (h2 : PostR s1 s2 E2) : PostR s s2 E2 :=
  ⟨h2.base, fun w hw => h2.vm w (h1.vm w hw), h2.nf⟩

theorem emit_base {s : St} (o : Obs) (ho : ∀ ep v, o ≠ .tViolation ep v) (hb : Base s) : Base (emit s o) := by
  refine ⟨hb.sv, ?_, fun hc => hb.cd hc⟩
  intro ep w hm
  simp only [emit_obs, List.filter_cons] at hm
  split at hm
  · rcases List.mem_cons.mp hm with h | h
    · exact absurd h.symm (ho ep w)
    · exact hb.obsOK ep w h
  · exact hb.obsOK ep w hm

theorem run_post (fuel : Nat) {s : St} (now : Nat) (hb : Base s) (hnf : s.t.failed = false) :
    PostR s (run fuel s now).1 (∃ a, (run fuel s now).2 = .err a) := by
  induction fuel generalizing s with
  | zero =>
    rw [run_zero]
    exact ⟨emit_base _ (by simp) hb, fun _ h => h, by simp [hnf]⟩
  | succ fuel ih =>
    have pr := pumpRead_post hb hnf
    have step : ∀ s1 rd s2 wr, pumpRead s = (s1, rd) → pumpWrite s1 now = (s2, wr) →
        PostR s s2 (∃ a, wr = PW.err a) := by
      intro s1 rd s2 wr h1 h2
      rw [h1] at pr
      have pw := pumpWrite_post now pr.base (pr.nf_of id); rw [h2] at pw
      exact pr.andThenR pw
    refine run_cases (motive := fun p => PostR s p.1 (∃ a, p.2 = .err a)) fuel s now ?_ ?_ ?_ ?_ ?_ ?_ ?_ ?_ ?_
    · intro s1 a h1; rw [h1] at pr; exact pr.toPostR.weaken False.elim
    · intro s1 h1; rw [h1] at pr; exact pr.toPostR.weaken False.elim
    · intro s1 rd s2 a h1 h2; exact (step _ _ _ _ h1 h2).weaken (fun _ => ⟨_, rfl⟩)
    · intro s1 rd s2 h1 h2; exact (step _ _ _ _ h1 h2).weaken (by simp)
    · intro s1 s2 wr h1 h2 hw; exact (step _ _ _ _ h1 h2).weaken (by rcases hw with rfl | rfl | rfl <;> simp)
    · intro s1 rd s2 h1 _ h2 _; exact (step _ _ _ _ h1 h2).weaken (by simp)
    · intro s1 s2 h1 h2 _; exact (step _ _ _ _ h1 h2).weaken (by simp)
    · intro s1 rd s2 wr h1 h2 hw
      have pw := step _ _ _ _ h1 h2
      have hne : ¬ ∃ a, wr = PW.err a := by
        rintro ⟨a, rfl⟩
        rcases hw with ⟨_, h | h | ⟨h, _⟩⟩ | ⟨_, h⟩ <;> cases h
      exact pw.andThenR (ih pw.base (pw.nf_of hne))
    · intro s1 s2 h1 h2; exact (step _ _ _ _ h1 h2).weaken (by simp)

/-! ### flush before idle -/

/-- Nothing written is left unflushed without a flush in progress (its waker registered). -/
def Flushed (s : St) : Prop := s.t.buffered = [] ∨ s.t.writeWaker = true

theorem pumpWrite_flushed (s : St) (now : Nat) (h : (pumpWrite s now).2 = .pending ∨ (pumpWrite s now).2 = .none) :
    Flushed (pumpWrite s now).1 := by
  revert h
  refine pumpWrite_cases (motive := fun p => (p.2 = .pending ∨ p.2 = .none) → Flushed p.1) s now ?_ ?_ ?_ ?_ ?_ ?_
  · intro s1 r1 _ hs h; rcases h with rfl | rfl <;> simp [PW.isStop] at hs
  · intro s1 r1 s2 r2 _ _ _ hs h; rcases h with rfl | rfl <;> simp [PW.isStop] at hs
  · intro _ _ _ _ _ _ _ _ _ _ h; rcases h with h | h <;> cases h
  · intro _ _ _ _ _ _ _ _ _ _ _ h; rcases h with h | h <;> cases h
  · intro s1 s2 s3 s4 r4 _ _ _ h4 _
    have e : s4 = (tClose s3).1 ∧ r4 = (tClose s3).2 := by rw [h4]; exact ⟨rfl, rfl⟩
    obtain ⟨rfl, rfl⟩ := e
    have := SimT.pollClose_flushed s3.t
    unfold Flushed
    rw [tClose_t]
    rw [tClose_res] at *
    cases hr : s3.t.pollClose.2.1
    · exact .inr (this.1 hr)
    · exact .inl (this.2 hr)
    · rename_i h; rw [hr] at h; rcases h with h | h <;> cases h
  · intro s1 r1 s2 r2 s3 s4 r4 _ _ _ _ _ _ h4 _
    have e : s4 = (tFlush s3).1 ∧ r4 = (tFlush s3).2 := by rw [h4]; exact ⟨rfl, rfl⟩
    obtain ⟨rfl, rfl⟩ := e
    have := SimT.pollFlush_flushed s3.t
    unfold Flushed
    rw [tFlush_t]
    rw [tFlush_res] at *
    cases hr : s3.t.pollFlush.2.1
    · exact .inr (this.1 hr)
    · exact .inl (this.2 hr)
    · rename_i h; rw [hr] at h; rcases h with h | h <;> cases h

theorem run_pending_flushed (fuel : Nat) (s : St) (now : Nat) (h : (run fuel s now).2 = .pending) :
    Flushed (run fuel s now).1 := by
  obtain ⟨_, s1, r, _, _, e, hr⟩ := run_idle fuel (s := s) (s' := (run fuel s now).1) (now := now) (Prod.ext rfl h)
  have := pumpWrite_flushed s1 now
  rw [e] at this
  exact this hr

/-! ### the invariant of reachable states -/

/-- `Base` plus: a failure reported by the transport has been recorded as the dispatch's terminal error. -/
structure Inv (s : St) : Prop where
  base : Base s
  ft : s.t.failed = true → s.termErr.isSome = true

theorem Inv.of_frames {s s' : St} (hA : FrameA s s') (hD : FrameD s s') (h : Inv s) : Inv s' :=
  ⟨h.base.of_frames hA hD, by rw [hA.t, hA.termErr]; exact h.ft⟩

/-- a write to a field the invariant does not read (`dWoken`, `done`, `poisoned` …) -/
theorem Inv.same {s s' : St} (h : Inv s) (ht : s'.t = s.t := by rfl) (ho : s'.obs = s.obs := by rfl)
    (hc : s'.calls = s.calls := by rfl) (hh : s'.handles = s.handles := by rfl) (hpq : s'.pq = s.pq := by rfl)
    (hcq : s'.cq = s.cq := by rfl) (he : s'.termErr = s.termErr := by rfl) : Inv s' :=
  ⟨⟨ht ▸ h.base.sv, fun ep w hm => by rw [ht]; rw [ho] at hm; exact h.base.obsOK ep w hm,
    fun hcl => by rw [senders_eq_of hh (by rw [hc]), hpq, hcq]; exact h.base.cd (ht ▸ hcl)⟩, by rw [ht, he]; exact h.ft⟩

theorem pollDispatchCore_inv {s : St} (now : Nat) (h : Inv s) :
    Inv (pollDispatchCore s now).1 ∧ ∀ w ∈ s.t.violations, w ∈ (pollDispatchCore s now).1.t.violations := by
  have hrun : ∀ s1 r, s.termErr = none → run (runFuel s) s now = (s1, r) → PostR s s1 (∃ a, r = .err a) := by
    intro s1 r ht h1
    have hnf : s.t.failed = false := by
      cases hf : s.t.failed
      · rfl
      · have := h.ft hf; rw [ht] at this; cases this
    have pr := run_post (runFuel s) now h.base hnf; rw [h1] at pr; exact pr
  have ok : ∀ s1 r, PostR s s1 (∃ a, r = RunRes.err a) → (¬ ∃ a, r = RunRes.err a) → Inv s1 := fun s1 r pr hne =>
    ⟨pr.base, fun hf => by rw [pr.nf_of hne] at hf; cases hf⟩
  refine pollDispatchCore_cases
    (motive := fun p => Inv p.1 ∧ ∀ w ∈ s.t.violations, w ∈ p.1.t.violations) s now ?_ ?_ ?_ ?_ ?_
  · intro a s1 fin _ h1
    have hA := shutDown_frameA s a; have hD := shutDown_frameD s a; rw [h1] at hA hD
    exact ⟨h.of_frames hA hD, by rw [hA.t]; exact fun _ hw => hw⟩
  · intro s1 ht h1; exact ⟨ok _ _ (hrun _ _ ht h1) (by simp), (hrun _ _ ht h1).vm⟩
  · intro s1 ht h1; exact ⟨ok _ _ (hrun _ _ ht h1) (by simp), (hrun _ _ ht h1).vm⟩
  · intro s1 ht h1
    have hi := ok _ _ (hrun _ _ ht h1) (by simp)
    exact ⟨hi.same, (hrun _ _ ht h1).vm⟩
  · intro s1 a s2 fin ht h1 h2
    have pr := hrun _ _ ht h1
    have hi : Inv { s1 with termErr := some a } :=
      ⟨⟨pr.base.sv, pr.base.obsOK, fun hc => pr.base.cd hc⟩, fun _ => rfl⟩
    have hA := shutDown_frameA { s1 with termErr := some a } a
    have hD := shutDown_frameD { s1 with termErr := some a } a
    rw [h2] at hA hD
    exact ⟨hi.of_frames hA hD, by rw [hA.t]; exact pr.vm⟩

theorem keepFinish_inv {s0 s : St} (r : Ret) (h0 : ObsOK s0) (hv : ∀ w ∈ s0.t.violations, w ∈ s.t.violations)
    (h : Inv s) : Inv (keepFinish s0.obs s r) := by
  unfold keepFinish
  split
  · refine ⟨⟨h.base.sv, ?_, fun hc => h.base.cd hc⟩, h.ft⟩
    intro ep w hm
    simp only [List.filter_cons, isT_spin, ↓reduceIte, List.mem_cons, reduceCtorEq, false_or] at hm
    exact hv w (h0 ep w hm)
  · split
    · exact h
    · exact (h.of_frames (emit_frameA _ _ rfl) (emit_frameD _ _)).of_frames (emit_frameA _ _ rfl) (emit_frameD _ _)

theorem keepDone_inv {s : St} (r : Ret) (h : Inv s) : Inv (keepDone r s) := by
  obtain ⟨d, e⟩ := keepDone_only r s
  rw [e]; exact h.same

theorem pollDispatchKeep_inv {s : St} (now : Nat) (h : Inv s) : Inv (pollDispatchKeep s now) := by
  rw [pollDispatchKeep_eq]
  split
  · exact h.of_frames (emit_frameA _ _ rfl) (emit_frameD _ _)
  · have h' : Inv { s with dWoken := false } := h.same
    have hc := pollDispatchCore_inv now h'
    exact keepDone_inv _ (keepFinish_inv _ h.base.obsOK hc.2 hc.1)

theorem dropDispatch_inv {s : St} (h : Inv s) : Inv (dropDispatch s) :=
  h.of_frames (dropDispatch_frameA _) (dropDispatch_frameD _)

theorem pollDispatch_inv {s : St} (now : Nat) (h : Inv s) : Inv (pollDispatch s now) := by
  rw [pollDispatch_eq]
  split
  · exact dropDispatch_inv (pollDispatchKeep_inv now h)
  · exact pollDispatchKeep_inv now h

/-! ### the call side: with no sender left every call / handle operation is a no-op -/

theorem dead_of_senders {s : St} (h : senders s = 0) : s.handles = [] ∧ ∀ c ∈ s.calls, callLive c = false := by
  unfold senders at h
  have h1 : s.handles.length = 0 := by omega
  have h2 : (s.calls.filter callLive).length = 0 := by omega
  refine ⟨List.eq_nil_of_length_eq_zero h1, ?_⟩
  intro c hc
  have := List.eq_nil_of_length_eq_zero h2
  rw [List.filter_eq_nil_iff] at this
  simpa using this c hc

theorem getCall_dead {s : St} (h : senders s = 0) {cid : Nat} {c : Call} (hg : getCall s cid = some c) :
    c.phase = .resolved ∨ c.phase = .dropped := by
  have hm : c ∈ s.calls := List.mem_of_find?_eq_some hg
  have := (dead_of_senders h).2 c hm
  unfold callLive at this
  cases hp : c.phase <;> simp_all

/-- A call-side step: it is a transport-free step and, with no sender left, changes nothing the invariant
looks at. -/
structure CallStep (s s' : St) : Prop where
  fa : FrameA s s'
  dead : senders s = 0 → senders s' = 0 ∧ s'.pq = s.pq ∧ s'.cq = s.cq

theorem CallStep.inv {s s' : St} (hs : CallStep s s') (h : Inv s) : Inv s' := by
  refine ⟨⟨by rw [hs.fa.t]; exact h.base.sv, h.base.obsOK.of_frameA hs.fa, ?_⟩, by rw [hs.fa.t, hs.fa.termErr]; exact h.ft⟩
  intro hc
  rw [hs.fa.t] at hc
  obtain ⟨h1, h2, h3⟩ := h.base.cd hc
  obtain ⟨d1, d2, d3⟩ := hs.dead h1
  exact ⟨d1, by rw [d2]; exact h2, by rw [d3]; exact h3⟩

theorem pollCall_callStep (s : St) (cid now : Nat) : CallStep s (pollCall s cid now) := by
  refine ⟨pollCall_frameA _ _ _, fun hd => ?_⟩
  unfold pollCall
  split
  · exact ⟨hd, rfl, rfl⟩
  · rename_i c hg
    rcases getCall_dead hd hg with hp | hp <;> simp only [hp] <;> exact ⟨hd, rfl, rfl⟩

theorem dropPre_dead {s : St} (hd : senders s = 0) (cid : Nat) : dropPre s cid = s := by
  unfold dropPre
  split
  · rfl
  · rename_i c hg
    rcases getCall_dead hd hg with hp | hp <;> simp only [hp]

theorem dropClose_dead {s : St} (hd : senders s = 0) (cid : Nat) : dropClose s cid = s :=
  dropClose_cases (motive := fun s' => s' = s) s cid (fun _ => rfl) (fun c hg hp => by
    rcases getCall_dead hd hg with h | h <;> rcases hp with hp | hp <;> rw [h] at hp <;> cases hp)

theorem dropCancel_dead {s : St} (hd : senders s = 0) (cid : Nat) : dropCancel s cid = s :=
  dropCancel_cases (motive := fun s' => s' = s) s cid (fun _ => rfl) (fun c hg hp => by
    rcases getCall_dead hd hg with h | h <;> rcases hp with hp | hp <;> rw [h] at hp <;> cases hp)

theorem dropFinish_dead {s : St} (hd : senders s = 0) (cid : Nat) : dropFinish s cid = emit s .noop :=
  dropFinish_cases (motive := fun s' => s' = emit s .noop) s cid (fun _ => rfl) (fun c hg hp => by
    rcases getCall_dead hd hg with h | h <;> rcases hp with (hp | hp) | hp <;> rw [h] at hp <;> cases hp)

theorem dropPre_callStep (s : St) (cid : Nat) : CallStep s (dropPre s cid) :=
  ⟨dropPre_frameA _ _, fun hd => by rw [dropPre_dead hd]; exact ⟨hd, rfl, rfl⟩⟩
theorem dropClose_callStep (s : St) (cid : Nat) : CallStep s (dropClose s cid) :=
  ⟨dropClose_frameA _ _, fun hd => by rw [dropClose_dead hd]; exact ⟨hd, rfl, rfl⟩⟩
theorem dropCancel_callStep (s : St) (cid : Nat) : CallStep s (dropCancel s cid) :=
  ⟨dropCancel_frameA _ _, fun hd => by rw [dropCancel_dead hd]; exact ⟨hd, rfl, rfl⟩⟩
theorem dropFinish_callStep (s : St) (cid : Nat) : CallStep s (dropFinish s cid) :=
  ⟨dropFinish_frameA _ _, fun hd => by rw [dropFinish_dead hd]; exact ⟨hd, rfl, rfl⟩⟩

theorem dropCall_inv {s : St} (cid : Nat) (at_ : DropAt) (now : Nat) (h : Inv s) : Inv (dropCall s cid at_ now) :=
  dropCall_kept (dropPre_callStep _ _).inv (dropClose_callStep _ _).inv (dropCancel_callStep _ _).inv
    (dropFinish_callStep _ _).inv (pollDispatch_inv now) h at_

theorem newCall_callStep (s : St) (h : Nat) (ctx : Ctx) (body : Nat) : CallStep s (newCall s h ctx body) := by
  refine ⟨newCall_frameA _ _ _ _, fun hd => ?_⟩
  unfold newCall
  rw [(dead_of_senders hd).1]
  exact ⟨hd, rfl, rfl⟩

theorem cloneHandle_callStep (s : St) (h : Nat) : CallStep s (cloneHandle s h) := by
  refine ⟨cloneHandle_frameA _ _, fun hd => ?_⟩
  unfold cloneHandle
  rw [(dead_of_senders hd).1]
  exact ⟨hd, rfl, rfl⟩

theorem dropHandle_callStep (s : St) (h : Nat) : CallStep s (dropHandle s h) := by
  refine ⟨dropHandle_frameA _ _, fun hd => ?_⟩
  unfold dropHandle
  rw [(dead_of_senders hd).1]
  exact ⟨hd, rfl, rfl⟩

/-! ### external events -/

/-- An external transport event: the parts of the transport the invariant reads are unchanged. -/
structure ExtT (t t' : SimT) : Prop where
  violations : t'.violations = t.violations
  closed : t'.closed = t.closed
  failed : t'.failed = t.failed

theorem Inv.of_extT {s : St} {t' : SimT} (hx : ExtT s.t t') (h : Inv s) : Inv { s with t := t' } := by
  refine ⟨⟨SV.congr hx.violations h.base.sv, ?_, ?_⟩, ?_⟩
  · intro ep w hm; show w ∈ t'.violations; rw [hx.violations]; exact h.base.obsOK ep w hm
  · intro hc
    have hc' : s.t.closed = true := by rw [← hx.closed]; exact hc
    exact h.base.cd hc'
  · intro hf
    have hf' : s.t.failed = true := by rw [← hx.failed]; exact hf
    exact h.ft hf'

theorem liftT_inv {s : St} {r : SimT × Bool} (hx : ExtT s.t r.1) (h : Inv s) : Inv (liftT s r) := by
  unfold liftT; dsimp only; split
  · exact (h.of_extT hx).of_frames (wakeDispatch_frameA _) (wakeDispatch_frameD _)
  · exact h.of_extT hx

theorem wakeIfReady_extT (t : SimT) : ExtT t t.wakeIfReady.1 := by
  unfold SimT.wakeIfReady; split <;> exact ⟨rfl, rfl, rfl⟩

theorem ExtEv.extT {t t' : SimT} (h : ExtEv t t') : ExtT t t' := by
  cases h with
  | setReady b => exact ⟨(wakeIfReady_extT { t with readyOpen := b }).violations,
      (wakeIfReady_extT { t with readyOpen := b }).closed, (wakeIfReady_extT { t with readyOpen := b }).failed⟩
  | setFlush b => exact ⟨(wakeIfReady_extT { t with flushOpen := b }).violations,
      (wakeIfReady_extT { t with flushOpen := b }).closed, (wakeIfReady_extT { t with flushOpen := b }).failed⟩
  | fault k => cases k <;> exact ⟨rfl, rfl, rfl⟩
  | _ => exact ⟨rfl, rfl, rfl⟩

theorem take_inv {s : St} (t' : SimT) (ms : List Msg) (hx : ExtT s.t t') (h : Inv s) :
    Inv (ms.foldl (fun s m => emit s (.took (tid s) m)) { s with t := t' }) := by
  have h1 := h.of_extT hx
  generalize ({ s with t := t' } : St) = s1 at h1
  induction ms generalizing s1 with
  | nil => exact h1
  | cons m ms ih => exact ih _ (h1.of_frames (emit_frameA _ _ rfl) (emit_frameD _ _))

/-! ### all operations, all scripts -/

theorem applyOp_inv {c : Sys} (op : COp) (h : Inv c.s) : Inv (applyOp c op).s :=
  applyOp_ext_cases (P := fun _ s' => Inv s') c op (fun _ _ _ => (newCall_callStep _ _ _ _).inv h)
    (fun _ => (pollCall_callStep _ _ _).inv h) (fun _ _ => dropCall_inv _ _ _ h)
    (fun _ => (cloneHandle_callStep _ _).inv h) (fun _ => (dropHandle_callStep _ _).inv h) (pollDispatch_inv _ h)
    (dropDispatch_inv h) (fun _ hx => liftT_inv hx.extT h) (fun _ hx => h.of_extT hx.extT)
    (fun _ _ hx => take_inv _ _ hx.extT h) (fun _ => h.of_frames (onAdvance_frameA _ _) (onAdvance_frameD _ _))

theorem init_inv (k m b c : Nat) (coupled : Bool) : Inv (init k m b c coupled) := by
  refine ⟨⟨?_, ?_, ?_⟩, ?_⟩
  · intro w hw; cases hw
  · intro ep w hm; cases hm
  · intro hc; cases hc
  · intro hf; cases hf

theorem initSys_inv (m b c : Nat) (coupled : Bool) : Inv (initSys m b c coupled).s := init_inv _ _ _ _ _

theorem foldl_applyOp_inv (ops : List COp) {c : Sys} (h : Inv c.s) : Inv (ops.foldl applyOp c).s :=
  foldl_keeps (P := fun c : Sys => Inv c.s) (fun _ op h => applyOp_inv op h) ops h

/-- Clearing the observation buffer (as `stepOp` does between ops) keeps the invariant. -/
theorem Inv.clearObs {s : St} (h : Inv s) : Inv { s with obs := [] } :=
  ⟨⟨h.base.sv, fun _ _ hm => by simp at hm, fun hc => h.base.cd hc⟩, h.ft⟩

end TarpcModel.Client.Flow
