import TarpcModel.Lemmas.DelayQComplete
/-!
Consequences of the two-sided wheel invariant (`Lemmas/DelayQComplete.lean`) for single polls and repeated
polling, and the reachability relation under which the invariant holds.
-/
namespace TarpcModel.DelayQ

theorem pair_eta {α β : Type} (p : α × β) : p = (p.1, p.2) := rfl
theorem triple_eta {α β γ : Type} (p : α × β × γ) : p = (p.1, p.2.1, p.2.2) := rfl

/-! ### consequences for one poll -/

/-- **Not late, one poll.**  On a queue satisfying the invariant, a poll that reports nothing (`pending` or
`none`) leaves no due entry behind, has stored the waker, and — if entries remain — the `Sleep` is
registered for an instant in the future that is not after any remaining deadline. -/
theorem pollExpired_nothing_due {q q' : DelayQ} {now : Nat} {r : PollRes} (hq : Complete q)
    (h : q.pollExpired now = (q', r)) (hr : r = .pending ∨ r = .none) :
    (∀ e ∈ items q', now < e.whenMs * nsPerMs) ∧ q'.waker = true ∧
    (∀ e ∈ items q', ∃ t, nextFire q' = some t ∧ now < t ∧ t ≤ e.whenMs * nsPerMs) := by
  have := (pollExpired_complete now hq).2.2
  rw [h] at this
  simp only at this
  obtain ⟨hw, hx, hcase⟩ := this hr
  have hit : items q' = q'.entries := by simp [items, hx]
  rw [hit]
  rcases hcase with ⟨he, _⟩ | ⟨dl, hdl, hlt, hle⟩
  · rw [he]; exact ⟨by simp, hw, by simp⟩
  · have hnf : nextFire q' = some (dl * nsPerMs) := by
      unfold nextFire; rw [hx]; simp [hdl]
    refine ⟨?_, hw, ?_⟩
    · intro e he
      exact Nat.lt_of_lt_of_le hlt (Nat.mul_le_mul_right _ (hle e he))
    · intro e he
      exact ⟨_, hnf, hlt, Nat.mul_le_mul_right _ (hle e he)⟩

/-- **Not late, converse.**  If some entry is due, the poll yields an entry. -/
theorem pollExpired_due {q : DelayQ} {now : Nat} {e : DqEntry} (hq : Complete q) (hk : KeysOk q)
    (he : e ∈ items q) (hdue : e.whenMs * nsPerMs ≤ now) :
    ∃ e', (q.pollExpired now).2 = .expired e' := by
  have hno : ∀ r, (q.pollExpired now).2 = r → r = .pending ∨ r = .none → False := by
    intro r hr hpn
    have hp : q.pollExpired now = ((q.pollExpired now).1, r) := Prod.ext rfl hr
    have hc := pollExpired_other hp hk (fun e' h => by rcases hpn with rfl | rfl <;> cases h)
    obtain ⟨e', he', hce⟩ := mem_cores_iff.1 ((hc (core e)).2 (mem_cores_iff.2 ⟨e, he, rfl⟩))
    have := (pollExpired_nothing_due hq hp hpn).1 e' he'
    rw [whenMs_eq_of_core_eq hce] at this
    omega
  cases hr : (q.pollExpired now).2 with
  | expired e' => exact ⟨e', rfl⟩
  | pending => exact (hno _ hr (.inl rfl)).elim
  | none => exact (hno _ hr (.inr rfl)).elim

/-! ### repeated polling -/

/-- poll until the queue reports nothing (at most `fuel` times); returns the entries that came out -/
def drain : Nat → DelayQ → Nat → DelayQ × List DqEntry
  | 0, q, _ => (q, [])
  | fuel + 1, q, now =>
    match q.pollExpired now with
    | (q', .expired e) => ((drain fuel q' now).1, e :: (drain fuel q' now).2)
    | (q', _) => (q', [])

/-- **Not late, repeated polling.**  Polling `len` times (or until the queue reports nothing) removes every
due entry: nothing due remains, and the queue's content is split between what remains and what came out. -/
theorem drain_complete (now : Nat) : ∀ (fuel : Nat) (q : DelayQ), Complete q → KeysOk q → q.len ≤ fuel →
    Complete (drain fuel q now).1 ∧ KeysOk (drain fuel q now).1 ∧
    (∀ e ∈ items (drain fuel q now).1, now < e.whenMs * nsPerMs) ∧
    (∀ c, c ∈ q.cores ↔ c ∈ (drain fuel q now).1.cores ∨ c ∈ (drain fuel q now).2.map core) := by
  intro fuel
  induction fuel with
  | zero =>
    intro q hq hk hl
    have : items q = [] := by
      have := len_eq q
      exact List.eq_nil_of_length_eq_zero (by omega)
    refine ⟨hq, hk, ?_, ?_⟩
    · simp only [drain, this]; simp
    · intro c; simp [drain]
  | succ fuel ih =>
    intro q hq hk hl
    have hcomp := (pollExpired_complete now hq).1
    unfold drain
    rcases hp : q.pollExpired now with ⟨q', r⟩
    rw [hp] at hcomp
    have hk' := pollExpired_WF hp hk
    cases r with
    | expired e =>
      simp only
      have hlt := pollExpired_len_lt hp
      obtain ⟨i1, i2, i3, i4⟩ := ih q' hcomp hk' (by omega)
      refine ⟨i1, i2, i3, ?_⟩
      obtain ⟨hin, hrest⟩ := pollExpired_expired hp hk
      intro c
      simp only [List.map_cons, List.mem_cons]
      rw [← or_assoc, or_comm (a := c ∈ (drain fuel q' now).1.cores), or_assoc, ← i4 c, hrest c]
      constructor
      · intro hc
        by_cases hce : c = core e
        · exact .inl hce
        · right
          refine ⟨hc, ?_⟩
          intro hkey
          apply hce
          -- same key in a queue with distinct keys: same entry
          obtain ⟨a, ha, rfl⟩ := mem_cores_iff.1 hc
          obtain ⟨b, hb, hbe⟩ := mem_cores_iff.1 hin
          have hab : a = b := eq_of_map_nodup hk.nodup ha hb (by
            have := congrArg (fun c => c.1) hbe
            simp only [core] at this hkey
            omega)
          rw [hab, hbe]
      · rintro (rfl | ⟨hc, _⟩)
        · exact hin
        · exact hc
    | pending =>
      simp only
      refine ⟨hcomp, hk', (pollExpired_nothing_due hq hp (.inl rfl)).1, ?_⟩
      intro c
      have := pollExpired_other hp hk (fun _ h => by cases h) c
      simp [this]
    | none =>
      simp only
      refine ⟨hcomp, hk', (pollExpired_nothing_due hq hp (.inr rfl)).1, ?_⟩
      intro c
      have := pollExpired_other hp hk (fun _ h => by cases h) c
      simp [this]

/-! ### reachability -/

/-- operations of a queue's owner; `insert` and `poll` happen at the current clock -/
inductive DOp where
  | insert (timeout val : Nat)
  | remove (key : Nat)
  | poll
  | advance (dt : Nat)
deriving Repr, DecidableEq

/-- the library's own range check: `insert` does not panic -/
def InRange (q : DelayQ) (now timeout : Nat) : Prop := whenOf q now timeout - q.wheelElapsed ≤ delayQMaxMs

/-- the range in which the wheel is complete: the deadline is less than one full rotation (2^36 ms) after
the start of the top-level slot (2^30 ms) that contains the wheel clock -/
def InRangeStrict (q : DelayQ) (now timeout : Nat) : Prop :=
  whenOf q now timeout < slotStart q.wheelElapsed 5 + 64 ^ 6

instance (q : DelayQ) (now timeout : Nat) : Decidable (InRange q now timeout) := by
  unfold InRange; infer_instance
instance (q : DelayQ) (now timeout : Nat) : Decidable (InRangeStrict q now timeout) := by
  unfold InRangeStrict; infer_instance

theorem InRangeStrict.inRange {q : DelayQ} {now timeout : Nat} (h : InRangeStrict q now timeout) :
    InRange q now timeout := by
  unfold InRangeStrict slotStart at h
  unfold InRange delayQMaxMs
  have := Nat.mod_le q.wheelElapsed (64 ^ 5)
  simp only [Nat.reducePow] at *
  omega

/-- all deadlines before 2^36 ms (≈ 2.18 years after the queue's creation) are in the strict range -/
theorem inRangeStrict_of_horizon (q : DelayQ) {now timeout : Nat} (h : ceilMs (now + timeout) < 64 ^ 6) :
    InRangeStrict q now timeout := by
  unfold InRangeStrict whenOf slotStart
  have := Nat.mod_lt q.wheelElapsed (show 0 < 64 ^ 5 by decide)
  have := Nat.mod_le q.wheelElapsed (64 ^ 5)
  simp only [Nat.reducePow] at *
  omega

/-- all deadlines at most 63·2^30 ms (≈ 2.14 years) after the wheel clock are in the strict range -/
theorem inRangeStrict_of_le (q : DelayQ) {now timeout : Nat}
    (h : whenOf q now timeout - q.wheelElapsed ≤ 63 * 64 ^ 5) : InRangeStrict q now timeout := by
  unfold InRangeStrict slotStart
  have := Nat.mod_lt q.wheelElapsed (show 0 < 64 ^ 5 by decide)
  have := Nat.mod_le q.wheelElapsed (64 ^ 5)
  simp only [Nat.reducePow] at *
  omega

theorem inRangeStrict_of_clamp (q : DelayQ) {now T S : Nat} (hn : now < 2 ^ 35 * nsPerMs) (hT : T ≤ S * 1000000000)
    (hS : S * 1000 + 2 ^ 35 + 1 ≤ delayQMaxMs) : InRangeStrict q now T := by
  apply inRangeStrict_of_horizon
  unfold ceilMs
  unfold nsPerMs at hn ⊢
  unfold delayQMaxMs at hS
  simp only [Nat.reducePow] at *
  omega

theorem Complete.waker {q : DelayQ} (h : Complete q) (b : Bool) : Complete { q with waker := b } :=
  ⟨h.strict.of_eq rfl rfl, ⟨h.dok.dsome, h.dok.dle⟩, h.exp⟩

/-- `Reach P ops q now`: the queue `q` and the clock `now` (ns) result from running `ops`, in order, from the
empty queue at clock 0.  Each `insert`/`poll` is applied at the current clock, the clock only grows, every
`insert` satisfies the range predicate `P` (so it does not panic when `P` implies `InRange`), and every
`remove` is for a key that is present (the real call panics otherwise). -/
inductive Reach (P : DelayQ → Nat → Nat → Prop) : List DOp → DelayQ → Nat → Prop
  | init : Reach P [] {} 0
  | insert {ops q now} (timeout val : Nat) : Reach P ops q now → P q now timeout →
      Reach P (ops ++ [.insert timeout val]) (q.insert now timeout val).1 now
  | remove {ops q now q' w} (key : Nat) : Reach P ops q now → q.remove key = some (q', w) →
      Reach P (ops ++ [.remove key]) q' now
  | poll {ops q now} : Reach P ops q now → Reach P (ops ++ [.poll]) (q.pollExpired now).1 now
  | advance {ops q now} (dt : Nat) : Reach P ops q now → Reach P (ops ++ [.advance dt]) q (now + dt)

/-- executable form of `Reach` (`none`: a precondition is violated) -/
def stepOp (P : DelayQ → Nat → Nat → Prop) [∀ q n t, Decidable (P q n t)] (q : DelayQ) (now : Nat) :
    DOp → Option (DelayQ × Nat)
  | .insert timeout val => if P q now timeout then some ((q.insert now timeout val).1, now) else none
  | .remove key => (q.remove key).map (fun r => (r.1, now))
  | .poll => some ((q.pollExpired now).1, now)
  | .advance dt => some (q, now + dt)

def runFrom (P : DelayQ → Nat → Nat → Prop) [∀ q n t, Decidable (P q n t)] :
    DelayQ → Nat → List DOp → Option (DelayQ × Nat)
  | q, now, [] => some (q, now)
  | q, now, op :: ops => (stepOp P q now op).bind (fun c => runFrom P c.1 c.2 ops)

def runOps (P : DelayQ → Nat → Nat → Prop) [∀ q n t, Decidable (P q n t)] (ops : List DOp) :
    Option (DelayQ × Nat) := runFrom P {} 0 ops

theorem reach_step (P : DelayQ → Nat → Nat → Prop) [∀ q n t, Decidable (P q n t)] {pre : List DOp} {op : DOp}
    {q q1 : DelayQ} {now now1 : Nat} (hr : Reach P pre q now) (hs : stepOp P q now op = some (q1, now1)) :
    Reach P (pre ++ [op]) q1 now1 := by
  cases op with
  | insert timeout val =>
    simp only [stepOp] at hs
    split at hs
    · next hp =>
      simp only [Option.some.injEq, Prod.mk.injEq] at hs
      obtain ⟨rfl, rfl⟩ := hs
      exact Reach.insert timeout val hr hp
    · cases hs
  | remove key =>
    simp only [stepOp] at hs
    cases hrm : q.remove key with
    | none => rw [hrm] at hs; cases hs
    | some r =>
      obtain ⟨r1, r2⟩ := r
      rw [hrm] at hs
      simp only [Option.map_some, Option.some.injEq, Prod.mk.injEq] at hs
      obtain ⟨rfl, rfl⟩ := hs
      exact Reach.remove key hr hrm
  | poll =>
    simp only [stepOp, Option.some.injEq, Prod.mk.injEq] at hs
    obtain ⟨rfl, rfl⟩ := hs
    exact Reach.poll hr
  | advance dt =>
    simp only [stepOp, Option.some.injEq, Prod.mk.injEq] at hs
    obtain ⟨rfl, rfl⟩ := hs
    exact Reach.advance dt hr

theorem reach_of_runFrom (P : DelayQ → Nat → Nat → Prop) [∀ q n t, Decidable (P q n t)] (ops : List DOp) :
    ∀ (pre : List DOp) (q q' : DelayQ) (now now' : Nat), Reach P pre q now →
      runFrom P q now ops = some (q', now') → Reach P (pre ++ ops) q' now' := by
  induction ops with
  | nil =>
    intro pre q q' now now' hr h
    simp only [runFrom, Option.some.injEq, Prod.mk.injEq] at h
    obtain ⟨rfl, rfl⟩ := h
    simpa using hr
  | cons op ops ih =>
    intro pre q q' now now' hr h
    simp only [runFrom] at h
    cases hs : stepOp P q now op with
    | none => rw [hs] at h; cases h
    | some c1 =>
      obtain ⟨q1, n1⟩ := c1
      rw [hs] at h
      simp only [Option.bind_some] at h
      have := ih (pre ++ [op]) q1 q' n1 now' (reach_step P hr hs) h
      simpa using this

theorem reach_of_runOps {P : DelayQ → Nat → Nat → Prop} [∀ q n t, Decidable (P q n t)] {ops : List DOp}
    {q : DelayQ} {now : Nat} (h : runOps P ops = some (q, now)) : Reach P ops q now := by
  have := reach_of_runFrom P ops [] {} q 0 now Reach.init h
  simpa using this

theorem Reach.mono {P P' : DelayQ → Nat → Nat → Prop} (hP : ∀ q n t, P q n t → P' q n t) {ops : List DOp}
    {q : DelayQ} {now : Nat} (h : Reach P ops q now) : Reach P' ops q now := by
  induction h with
  | init => exact .init
  | insert timeout val _ hp ih => exact .insert timeout val ih (hP _ _ _ hp)
  | remove key _ hr ih => exact .remove key ih hr
  | poll _ ih => exact .poll ih
  | advance dt _ ih => exact .advance dt ih

/-- every queue reachable with in-range inserts satisfies the two-sided invariant, has distinct keys, and
satisfies the one-sided invariant `Sound` relative to the clock -/
theorem reach_inv {ops : List DOp} {q : DelayQ} {now : Nat} (h : Reach InRangeStrict ops q now) :
    Complete q ∧ KeysOk q ∧ Sound q now := by
  induction h with
  | init => exact ⟨Complete_empty, WF_empty, Sound_empty 0⟩
  | @insert ops q now timeout val _ hp ih =>
    obtain ⟨i1, i2, i3⟩ := ih
    have heq := triple_eta (q.insert now timeout val)
    exact ⟨insert_complete heq i1 hp, insert_WF heq i2, insert_Sound heq i3⟩
  | remove key _ hr ih =>
    obtain ⟨i1, i2, i3⟩ := ih
    exact ⟨remove_complete hr i1, remove_WF hr i2, remove_Sound hr i3⟩
  | @poll ops q now _ ih =>
    obtain ⟨i1, i2, i3⟩ := ih
    have heq := pair_eta (q.pollExpired now)
    exact ⟨(pollExpired_complete now i1).1, pollExpired_WF heq i2, pollExpired_Sound heq i3⟩
  | advance dt _ ih =>
    obtain ⟨i1, i2, i3⟩ := ih
    exact ⟨i1, i2, i3.mono (Nat.le_add_right _ _)⟩

end TarpcModel.DelayQ
