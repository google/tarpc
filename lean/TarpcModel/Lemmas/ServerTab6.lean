import TarpcModel.Lemmas.ServerTab4
import TarpcModel.Lemmas.DelayQOrder
/-!
The bound clause of the C11 monitor (`checkC11Bound`, the first of `checkC11Rest`: no more requests in flight than the monitor's table lists), part 1:

* the timer queue of every reachable state keeps `DelayQ.StackEq` (`SQ`, `sq_closed`), so the channel's `poll_expired`
  yields the tracked request whose timer has the earliest tick (`expireStep_min`, `pollExpired_minS`);
* the book's `sweepOne`, exactly (`sweepOne_min`, `sweepOne_ao`);
* a fourth coupling `Z` between the book and the model — every tracked request that has been handed out is in the
  book's table, and the book's abandonment order is the model's queue of guard cancellations — and how the steps of
  the model and of the book keep it.
-/
namespace TarpcModel.Server.Tab
open TarpcModel TarpcModel.Server TarpcModel.Server.Flow TarpcModel.Server.ObsMon TarpcModel.Server.Mon06
open TarpcModel.Server.Mon11

/-! ## the `expired` stack of the timer queue -/

/-- the entries on the `expired` stack of the channel's timer queue carry the wheel clock as their tick -/
def SQ (s : St) : Prop := DelayQ.StackEq s.timers

theorem SQ.of_timers {s s' : St} (h : SQ s) (ht : s'.timers = s.timers) : SQ s' := by
  unfold SQ; rw [ht]; exact h

theorem SQ.cancelRequest {s : St} (h : SQ s) (id : Nat) : SQ (cancelRequest s id).1 :=
  timers_cancelRequest (P := DelayQ.StackEq) (fun hr h => DelayQ.remove_stackEq hr h) h id

theorem sq_closed (now : Nat) : PrimClosed now SQ :=
  timers_closed (P := DelayQ.StackEq) (fun hr h => DelayQ.remove_stackEq hr h)
    (fun _ h => DelayQ.pollExpired_stackEq now h) (fun hi h => DelayQ.insert_stackEq hi h) DelayQ.StackEq_empty
    (fun _ _ h => DelayQ.StackEq.of_eq h rfl rfl)

/-! ## `poll_expired` yields the tracked request with the earliest tick -/

theorem expireStep_min {now : Nat} {s : St} (ht : TInv now s) (hc : DelayQ.Complete s.timers) (hq : SQ s)
    (hr : (expireStep s now).2 = some .ready) :
    ∃ en0 ∈ s.inflight, (∀ en ∈ (expireStep s now).1.inflight, en ∈ s.inflight ∧ en.id ≠ en0.id) ∧
      ceilMs en0.dueAt * nsPerMs ≤ now ∧ ∀ en ∈ s.inflight, ceilMs en0.dueAt ≤ ceilMs en.dueAt := by
  have hs := expireStep_out s now
  revert hs hr; generalize expireStep s now = p; intro hr hs
  obtain ⟨s', r⟩ := p
  dsimp only at hs hr ⊢
  cases hs with
  | idleNone q hp => cases hr
  | idlePending q hp => cases hr
  | orphan q e hp hf =>
    exfalso
    obtain ⟨_, _, _, _, _, hne⟩ := ht.popped hp
    exact hne hf
  | abort q e en' hp hf h0 =>
    obtain ⟨en0, hen0, hk, hv, huniq, _⟩ := ht.popped hp
    obtain ⟨hcore, hcs⟩ := DelayQ.pollExpired_expired hp ht.wf
    have hne := DelayQ.pollExpired_not_early hp ht.sound
    have htk0 := ht.tk en0 hen0 _ hcore hk.symm
    have hw : (DelayQ.core e).2.2 = e.whenMs := rfl
    rw [hw] at htk0
    have hmin := DelayQ.pollExpired_min now hc hq (e := e) (by rw [hp])
    rw [hp] at hmin
    refine ⟨en0, hen0, ?_, by rw [← htk0]; exact hne, ?_⟩
    · intro en hen
      rw [abortExec_inflight] at hen
      obtain ⟨h1, h2⟩ := List.mem_filter.mp hen
      exact ⟨h1, by rw [hv]; simpa using h2⟩
    · intro en hen
      by_cases hee : en = en0
      · rw [hee]; exact Nat.le_refl _
      · obtain ⟨c, hcm, hck, hci⟩ := ht.fwd en hen
        have hkne : c.1 ≠ e.key := by
          intro hke
          have : c = DelayQ.core e := DelayQ.cores_key_unique ht.wf hcm hcore hke
          have hid : en.id = en0.id := by
            rw [← hci, this, hv]; rfl
          exact hee (eq_of_map_nodup (f := (·.id)) ht.ids hen hen0 hid)
        have hcq : c ∈ q.cores := (hcs c).mpr ⟨hcm, hkne⟩
        obtain ⟨y, hy, rfl⟩ := List.mem_map.mp hcq
        have htk := ht.tk en hen _ hcm hck
        have hwy : (DelayQ.core y).2.2 = y.whenMs := rfl
        rw [hwy] at htk
        rw [← htk0, ← htk]
        exact hmin y hy
  | rearmed q e en s2 hp hf h0 hr' => cases hr
  | panicked q e en hp hf h0 hr' => cases hr

theorem pollExpiredLoop_min (hf : ClampFits) {now : Nat} (hn : now < panicFreeNs) : ∀ (fuel : Nat) (s : St), TInv now s →
    DelayQ.Complete s.timers → SQ s → (∀ en ∈ s.inflight, en.remainder = 0) → (pollExpiredLoop fuel s now).2 = .ready →
    ∃ en0 ∈ s.inflight, (∀ en ∈ (pollExpiredLoop fuel s now).1.inflight, en ∈ s.inflight ∧ en.id ≠ en0.id) ∧
      ceilMs en0.dueAt * nsPerMs ≤ now ∧
      ∀ en ∈ (pollExpiredLoop fuel s now).1.inflight, ceilMs en0.dueAt ≤ ceilMs en.dueAt := by
  intro fuel
  induction fuel with
  | zero => intro s _ _ _ _ hr; cases hr
  | succ n ih =>
    intro s ht hc hq hrem
    rw [pollExpiredLoop_succ]
    have h1 := expireStep_min ht hc hq
    have h2 : TInv now (expireStep s now).1 := ht.expireStep
    have h3 : QC now (expireStep s now).1 := QC.expireStep hf (fun _ => hc)
    have h4 : SQ (expireStep s now).1 :=
      timers_expireStep (P := DelayQ.StackEq) (fun _ h => DelayQ.pollExpired_stackEq now h)
        (fun hi h => DelayQ.insert_stackEq hi h) hq
    have h5 := (my_expireStep (now := now) hrem).1.ents
    have h6 := (my_expireStep (now := now) hrem).2
    revert h1 h2 h3 h4 h5 h6
    generalize expireStep s now = p
    intro h1 h2 h3 h4 h5 h6
    rcases p with ⟨s', r⟩
    cases r with
    | some r =>
      intro hr
      dsimp only at hr h1 ⊢
      subst hr
      obtain ⟨en0, hen0, ha, hb, hcc⟩ := h1 rfl
      exact ⟨en0, hen0, ha, hb, fun en hen => hcc en (ha en hen).1⟩
    | none =>
      intro hr
      dsimp only at hr h2 h3 h4 h5 h6 ⊢
      obtain ⟨en0, hen0, ha, hb, hcc⟩ := ih s' h2 (h3 hn) h4 h6 hr
      exact ⟨en0, h5 en0 hen0, fun en hen => ⟨h5 en (ha en hen).1, (ha en hen).2⟩, hb, hcc⟩


/-- **The channel's `poll_expired` expires the tracked request with the earliest tick**: if it reports an expiration, a
tracked request is gone whose timer was due and whose tick is not after that of any request still tracked. -/
theorem pollExpired_minS (hf : ClampFits) {now : Nat} (hn : now < panicFreeNs) {s : St} (ht : TInv now s)
    (hc : DelayQ.Complete s.timers) (hq : SQ s) (hrem : ∀ en ∈ s.inflight, en.remainder = 0)
    (hr : (pollExpired s now).2 = .ready) :
    ∃ en0 ∈ s.inflight, (∀ en ∈ (pollExpired s now).1.inflight, en ∈ s.inflight ∧ en.id ≠ en0.id) ∧
      ceilMs en0.dueAt * nsPerMs ≤ now ∧
      ∀ en ∈ (pollExpired s now).1.inflight, ceilMs en0.dueAt ≤ ceilMs en.dueAt := by
  unfold Server.pollExpired at hr ⊢
  split
  · next he => rw [if_pos he] at hr; cases hr
  · next he =>
    rw [if_neg he] at hr
    exact pollExpiredLoop_min hf hn _ s ht hc hq hrem hr


/-! ## the book's `sweepOne`, exactly -/

theorem minOf_le (d : Nat × Nat) (ds : List (Nat × Nat)) : ∀ x ∈ d :: ds, (minOf d ds).1 ≤ x.1 := by
  unfold minOf
  induction ds generalizing d with
  | nil => intro x hx; rw [List.mem_singleton.mp hx]; exact Nat.le_refl _
  | cons y ds ih =>
    intro x hx
    rw [List.foldl_cons]
    have ha : (if y.1 < d.1 then y else d).1 ≤ d.1 ∧ (if y.1 < d.1 then y else d).1 ≤ y.1 := by
      split
      · omega
      · omega
    generalize (if y.1 < d.1 then y else d) = a at ha ⊢
    have h0 := ih a a (List.mem_cons_self ..)
    simp only [List.mem_cons] at hx
    rcases hx with rfl | rfl | hx
    · exact Nat.le_trans h0 ha.1
    · exact Nat.le_trans h0 ha.2
    · exact ih a x (List.mem_cons_of_mem _ hx)

theorem dueOf_mem' (b : Book) (q : Nat × Nat) (h : q ∈ dueOf b) :
    ∃ e, b.exec q.2 = some e ∧ e.tick ≤ b.now ∧ q.1 = e.tick := by
  unfold dueOf at h
  obtain ⟨p, hp, hq⟩ := List.mem_filterMap.mp h
  obtain ⟨i, r⟩ := p
  simp only at hq
  split at hq
  · next e he =>
    split at hq
    · next hle => cases hq; exact ⟨e, he, hle, rfl⟩
    · cases hq
  · cases hq

theorem dueOf_intro (b : Book) {p : Nat × Nat} (hp : p ∈ b.table) {e : BExec} (he : b.exec p.2 = some e)
    (hle : e.tick ≤ b.now) : (e.tick, p.2) ∈ dueOf b := by
  unfold dueOf
  refine List.mem_filterMap.mpr ⟨p, hp, ?_⟩
  obtain ⟨i, r⟩ := p
  simp only at he ⊢
  rw [he]
  exact if_pos hle

theorem so1_table_mem (b : Book) (p : Nat × Nat) :
    p ∈ (so1 b).table ↔ p ∈ b.table ∧ ∀ r rest, b.abandonOrder = r :: rest → p.2 ≠ r := by
  unfold so1
  split
  · next r rest heq =>
    simp only [List.mem_filter, bne_iff_ne, ne_eq]
    constructor
    · rintro ⟨h1, h2⟩
      refine ⟨h1, fun r' rest' h => ?_⟩
      rw [heq] at h
      have : r = r' := (List.cons.inj h).1
      rw [← this]; exact h2
    · rintro ⟨h1, h2⟩
      exact ⟨h1, h2 r rest heq⟩
  · next heq => exact ⟨fun h => ⟨h, fun r rest h' => by rw [heq] at h'; cases h'⟩, fun h => h.1⟩

theorem sweepOne_ao (b : Book) : b.sweepOne.abandonOrder = b.abandonOrder.tail := by
  rw [sweepOne_eq]
  have h1 : (so1 b).abandonOrder = b.abandonOrder.tail := by
    unfold so1; split
    · next r rest heq => rw [heq]; rfl
    · next heq => rw [heq]; rfl
  split
  · exact h1
  · split
    · exact h1
    · exact h1

/-- what `sweepOne` removes from the table: the entries of the execution at the head of the abandonment order, and those
of the due execution whose tick is earlier than that of every other due execution still listed -/
theorem sweepOne_min (b : Book) : ∀ p ∈ b.table, p ∈ b.sweepOne.table ∨
    (∃ r rest, b.abandonOrder = r :: rest ∧ p.2 = r) ∨
    ∃ e, b.exec p.2 = some e ∧ e.tick ≤ b.now ∧
      ∀ p' ∈ (so1 b).table, p'.2 ≠ p.2 → ∀ e', b.exec p'.2 = some e' → e'.tick ≤ b.now → e.tick < e'.tick := by
  obtain ⟨h1, h2, _, _, _, h6, _⟩ := so1_spec b
  have hex : ∀ r, (so1 b).exec r = b.exec r := by intro r; unfold Book.exec; rw [h2]
  intro p hp
  rw [sweepOne_eq]
  split
  · exact (h6 p hp).imp id Or.inl
  · next d ds hdue =>
    split
    · next hlen =>
      have hlen' : ((dueOf (so1 b)).filter (·.1 == (minOf d ds).1)).length = 1 := by simpa using hlen
      rcases h6 p hp with h | h
      · by_cases hm : p.2 = (minOf d ds).2
        · right; right
          have hmem : minOf d ds ∈ dueOf (so1 b) := by rw [hdue]; exact minOf_mem d ds
          obtain ⟨e, he, hle, htk⟩ := dueOf_mem' (so1 b) _ hmem
          rw [hex] at he
          rw [h1] at hle
          refine ⟨e, by rw [hm]; exact he, hle, ?_⟩
          intro p' hp' hne e' he' hle'
          have hx' : (e'.tick, p'.2) ∈ dueOf (so1 b) :=
            dueOf_intro (so1 b) hp' (by rw [hex]; exact he') (by rw [h1]; exact hle')
          have hge : (minOf d ds).1 ≤ e'.tick := minOf_le d ds (e'.tick, p'.2) (by rw [← hdue]; exact hx')
          rcases Nat.lt_or_ge (minOf d ds).1 e'.tick with hlt | hge'
          · rw [← htk]; exact hlt
          · exfalso
            have heq : e'.tick = (minOf d ds).1 := Nat.le_antisymm hge' hge
            have ha : (e'.tick, p'.2) ∈ (dueOf (so1 b)).filter (·.1 == (minOf d ds).1) :=
              List.mem_filter.mpr ⟨hx', by simp [heq]⟩
            have hb : minOf d ds ∈ (dueOf (so1 b)).filter (·.1 == (minOf d ds).1) :=
              List.mem_filter.mpr ⟨hmem, by simp⟩
            obtain ⟨a, hla⟩ := List.length_eq_one_iff.mp hlen'
            rw [hla, List.mem_singleton] at ha hb
            exact hne ((congrArg Prod.snd (ha.trans hb.symm)).trans hm.symm)
        · exact Or.inl (List.mem_filter.mpr ⟨h, by simpa using hm⟩)
      · exact Or.inr (Or.inl h)
    · exact (h6 p hp).imp id Or.inl



/-! ## the fourth coupling: the table lists every tracked request handed out; the abandonment order is the queue of
guard cancellations -/

/-- two lists related position by position -/
inductive All2 {α β : Type} (R : α → β → Prop) : List α → List β → Prop
  | nil : All2 R [] []
  | cons {a : α} {b : β} {l1 : List α} {l2 : List β} : R a b → All2 R l1 l2 → All2 R (a :: l1) (b :: l2)

theorem All2.imp {α β : Type} {R R' : α → β → Prop} (hi : ∀ a b, R a b → R' a b) {l1 : List α} {l2 : List β}
    (h : All2 R l1 l2) : All2 R' l1 l2 := by
  induction h with
  | nil => exact .nil
  | cons h _ ih => exact .cons (hi _ _ h) ih

theorem All2.snoc {α β : Type} {R : α → β → Prop} {a : α} {b : β} (hab : R a b) {l1 : List α} {l2 : List β}
    (h : All2 R l1 l2) : All2 R (l1 ++ [a]) (l2 ++ [b]) := by
  induction h with
  | nil => exact .cons hab .nil
  | cons h _ ih => exact .cons h ih

/-- the book knows the execution `r`, of request id `i` -/
def RI (B : BW) (r i : Nat) : Prop := ∃ eb ∈ B.execs, eb.rid = r ∧ eb.id = i

/-- no tracked request's execution was handed out as number `r` -/
def UT (S : MV) (r : Nat) : Prop := ∀ en ∈ S.ents, ∀ x ∈ S.execs, x.rid = en.rid → x.vis ≠ some r

/-- the book's abandonment order and the model's queue of guard cancellations, position by position; `pop`: this
iteration of the channel's loop has taken the head of the queue already, the book has not yet -/
def AL (B : BW) (S : MV) (ao : List Nat) : Bool → Prop
  | false => All2 (RI B) ao S.cq
  | true => (ao = [] ∧ S.cq = []) ∨ ∃ r l, ao = r :: l ∧ UT S r ∧ All2 (RI B) l S.cq

/-- (`m`: `some pop` — the abandonment order is aligned with the queue, see `AL`; `none` — no claim: the read side of
the transport is at its end, the book sees no more reads) -/
structure Z (pend : Option (Nat × Nat)) (m : Option Bool) (B : BW) (ao : List Nat) (S : MV) : Prop where
  sub : ∀ en ∈ S.ents, ∀ x ∈ S.execs, x.rid = en.rid →
    (∃ i, pend = some (x.rid, i)) ∨ ∃ v, x.vis = some v ∧ (en.id, v) ∈ B.table
  al : ∀ pop, m = some pop → AL B S ao pop

variable {pend : Option (Nat × Nat)} {m : Option Bool}

theorem AL.of_false {B : BW} {S : MV} {ao : List Nat} (hm : m ≠ some true)
    (h : m = some false → All2 (RI B) ao S.cq) : ∀ pop, m = some pop → AL B S ao pop
  | false, hp => h hp
  | true, hp => absurd hp hm

theorem Z.forget {B : BW} {ao : List Nat} {S : MV} (h : Z pend m B ao S) : Z pend none B ao S :=
  ⟨h.sub, nofun⟩

theorem Z.model {B B' : BW} {ao : List Nat} {S S' : MV} (h : Z pend m B ao S)
    (hRI : ∀ r i, RI B r i → RI B' r i)
    (hBt : ∀ p ∈ B.table, (∃ en' ∈ S'.ents, en'.id = p.1) → p ∈ B'.table)
    {α : Type} (l : List α) (p q : α → YE) (hS : S.execs = l.map p) (hS' : S'.execs = l.map q)
    (hg : ∀ a ∈ l, (q a).rid = (p a).rid ∧ (q a).vis = (p a).vis)
    (hents : ∀ en' ∈ S'.ents, en' ∈ S.ents) (hcq : m ≠ none → S'.cq = S.cq) : Z pend m B' ao S' := by
  have hsrc : ∀ x' ∈ S'.execs, ∃ x ∈ S.execs, x'.rid = x.rid ∧ x'.vis = x.vis := by
    intro x' hx'
    rw [hS'] at hx'
    obtain ⟨a, ha, rfl⟩ := List.mem_map.mp hx'
    exact ⟨p a, by rw [hS]; exact List.mem_map_of_mem ha, hg a ha⟩
  refine ⟨?_, ?_⟩
  · intro en hen x' hx' hr
    obtain ⟨x, hx, e1, e2⟩ := hsrc x' hx'
    rcases h.sub en (hents en hen) x hx (e1.symm.trans hr) with ⟨i, hp⟩ | ⟨v, hv, ht⟩
    · exact Or.inl ⟨i, by rw [e1]; exact hp⟩
    · exact Or.inr ⟨v, e2.trans hv, hBt _ ht ⟨en, hen, rfl⟩⟩
  · intro pop hm
    have hal := h.al pop hm
    have hcq' : S'.cq = S.cq := hcq (by rw [hm]; nofun)
    cases pop with
    | false =>
      show All2 (RI B') ao S'.cq
      rw [hcq']; exact All2.imp hRI hal
    | true =>
      show (ao = [] ∧ S'.cq = []) ∨ _
      rcases hal with ⟨h1, h2⟩ | ⟨r, l', h1, h2, h3⟩
      · exact Or.inl ⟨h1, by rw [hcq']; exact h2⟩
      · refine Or.inr ⟨r, l', h1, fun en hen x' hx' hr hv => ?_, by rw [hcq']; exact All2.imp hRI h3⟩
        obtain ⟨x, hx, e1, e2⟩ := hsrc x' hx'
        exact h2 en (hents en hen) x hx (e1.symm.trans hr) (e2.symm.trans hv)

theorem Z.congr {B : BW} {ao : List Nat} {S S' : MV} (h : Z pend m B ao S) (hex : S'.execs = S.execs)
    (hen : S'.ents = S.ents) (hcq : S'.cq = S.cq) : Z pend m B ao S' :=
  h.model (fun _ _ h => h) (fun _ hp _ => hp) S.execs id id (by simp) (by simp [hex]) (fun _ _ => ⟨rfl, rfl⟩)
    (fun en' h' => by rw [← hen]; exact h') (fun _ => hcq)

theorem Z.book {B B' : BW} {ao : List Nat} {S : MV} (h : Z pend m B ao S) (hBe : B'.execs = B.execs)
    (hBt : B'.table = B.table) : Z pend m B' ao S :=
  h.model (fun r i ⟨eb, h1, h2⟩ => ⟨eb, by rw [hBe]; exact h1, h2⟩) (fun p hp _ => by rw [hBt]; exact hp)
    S.execs id id (by simp) (by simp) (fun _ _ => ⟨rfl, rfl⟩) (fun _ h' => h') (fun _ => rfl)

theorem Z_my {B : BW} {ao : List Nat} {s s' : St} (hm : MY s s') (h : Z pend m B ao (mv s)) : Z pend m B ao (mv s') := by
  obtain ⟨g, hg, hid⟩ := hm.ex
  refine h.model (fun _ _ h => h) (fun _ hp _ => hp) s.execs ye (ye ∘ g) rfl
    (by show s'.execs.map ye = _; rw [hg, List.map_map]) (fun a _ => ⟨(hid a).1, (hid a).2.2.1⟩) ?_ (fun _ => hm.cq)
  intro en' hen'
  obtain ⟨e0, he0, rfl⟩ := List.mem_map.mp hen'
  exact List.mem_map_of_mem (hm.ents e0 he0)

theorem Z.forgetId {B B' : BW} {ao : List Nat} {S : MV} (h : Z pend m B ao S) (i : Nat)
    (hBe : B'.execs = B.execs) (hBt : ∀ p ∈ B.table, p.1 ≠ i → p ∈ B'.table) : Z pend m B' ao (S.forget i) :=
  h.model (fun r j ⟨eb, h1, h2⟩ => ⟨eb, hBe ▸ h1, h2⟩)
    (fun p hp ⟨en', hen', hi⟩ => hBt p hp (hi ▸ (MV.mem_forget.mp hen').2))
    S.execs id id (by simp) (by show S.execs = _; simp) (fun _ _ => ⟨rfl, rfl⟩) (fun en' hen' => (MV.mem_forget.mp hen').1)
    (fun _ => rfl)

theorem Z.popCq {rest : List Nat} {B : BW} {ao : List Nat} {S : MV} (h : Z none (some false) B ao S) (hX : X rest B S)
    (heid : ∀ en ∈ S.ents, ∀ x ∈ S.execs, x.rid = en.rid → x.id = en.id) : Z none (some true) B ao S.popCq := by
  have hal : All2 (RI B) ao S.cq := h.al false rfl
  unfold MV.popCq
  split
  · next hq =>
    refine ⟨h.sub, fun pop hm => ?_⟩
    cases hm
    rw [hq] at hal
    exact Or.inl ⟨by cases hal; rfl, hq⟩
  · next i l hq =>
    refine ⟨fun en hen x hx hr => h.sub en (MV.mem_forget.mp hen).1 x hx hr, fun pop hm => ?_⟩
    cases hm
    rw [hq] at hal
    cases hal with
    | cons hri htl =>
      next r ao' =>
      refine Or.inr ⟨r, ao', rfl, ?_, htl⟩
      obtain ⟨eb, heb, hr, hi⟩ := hri
      intro en hen x hx hxr hv
      obtain ⟨hen0, hne⟩ := MV.mem_forget.mp hen
      have h1 := hX.bid eb heb x hx (by rw [hv, hr])
      have h2 := heid en hen0 x hx hxr
      exact hne (by rw [← h2, h1, hi])

theorem Z.popCq_none {B : BW} {ao : List Nat} {S : MV} (h : Z none none B ao S) : Z none none B ao S.popCq := by
  unfold MV.popCq
  split
  · exact h
  · next i l hq =>
    exact h.model (fun _ _ h => h) (fun _ hp _ => hp) S.execs id id (by simp) (by show S.execs = _; simp)
      (fun _ _ => ⟨rfl, rfl⟩) (fun en' hen' => (MV.mem_forget.mp hen').1) (fun hc => absurd rfl hc)

theorem Z.head_ut {B : BW} {ao : List Nat} {S : MV} (h : Z pend (some true) B ao S) {r : Nat} {l : List Nat}
    (hao : ao = r :: l) : UT S r := by
  rcases h.al true rfl with ⟨h1, _⟩ | ⟨r', l', h1, hut, _⟩
  · rw [h1] at hao; cases hao
  · rw [h1] at hao
    rw [← (List.cons.inj hao).1]; exact hut

theorem tick_eq {rest : List Nat} {now : Nat} {B : BW} {S : MV} (hX : X rest B S) (hY : Y now none B S)
    {en : ZE} (hen : en ∈ S.ents) {x : YE} (hx : x ∈ S.execs) (hr : x.rid = en.rid) {eb : WB} (heb : eb ∈ B.execs)
    (hv : x.vis = some eb.rid) : eb.tick = ceilMs en.due * nsPerMs := by
  have h1 := hX.hi en hen x hx hr eb heb hv
  have h2 := hY.lo en hen x hx hr eb heb hv
  have h6 : eb.tick = ceilMs (max eb.deadline eb.yieldedAt) * nsPerMs := rfl
  rw [h6]
  have : max eb.deadline eb.yieldedAt = en.due := Nat.le_antisymm h2 (Nat.le_trans (Nat.le_add_right ..) h1)
  rw [this]

/-- after the expiry step of an iteration of the channel's loop: no tracked request is due — or a request whose timer
fired in this iteration is still in the book's table (and not at the head of the abandonment order), with a tick not
after that of any request still tracked -/
def ME (now : Nat) (B : BW) (ao : List Nat) (S : MV) : Prop :=
  (∀ en ∈ S.ents, now < ceilMs en.due * nsPerMs) ∨
  ∃ eb ∈ B.execs, (eb.id, eb.rid) ∈ B.table ∧ (∀ r l, ao = r :: l → eb.rid ≠ r) ∧ (∀ en ∈ S.ents, en.id ≠ eb.id) ∧
    eb.tick ≤ now ∧ ∀ en ∈ S.ents, eb.tick ≤ ceilMs en.due * nsPerMs

theorem ME.of_min {rest : List Nat} {now : Nat} {B : BW} {ao : List Nat} {S S' : MV} (hZ : Z none (some true) B ao S)
    (hX : X rest B S) (hY : Y now none B S) (hdr : S.dropped = false) {en0 : ZE} (hen0 : en0 ∈ S.ents)
    (hgone : ∀ en ∈ S'.ents, en ∈ S.ents ∧ en.id ≠ en0.id) (hdue : ceilMs en0.due * nsPerMs ≤ now)
    (hmin : ∀ en ∈ S'.ents, ceilMs en0.due ≤ ceilMs en.due) : ME now B ao S' := by
  right
  obtain ⟨x, hx, hxr⟩ := hX.esrc en0 hen0
  rcases hZ.sub en0 hen0 x hx hxr with ⟨i, hp⟩ | ⟨v, hv, ht⟩
  · cases hp
  · obtain ⟨eb, heb, hbr, hbi, _⟩ := hY.i2 hdr _ ht
    have hbr' : eb.rid = v := hbr
    have hbi' : eb.id = en0.id := hbi
    have htk := tick_eq hX hY hen0 hx hxr heb (by rw [hbr']; exact hv)
    refine ⟨eb, heb, by rw [hbr', hbi']; exact ht, ?_, fun en hen => by rw [hbi']; exact (hgone en hen).2,
      by rw [htk]; exact hdue, fun en hen => by rw [htk]; exact Nat.mul_le_mul_right _ (hmin en hen)⟩
    intro r l hao hc
    exact hZ.head_ut hao en0 hen0 x hx hxr (by rw [hv, ← hc, hbr'])

theorem Z.sweep1 {rest : List Nat} {now : Nat} {B B' : BW} {ao : List Nat} {S : MV} (h : Z none (some true) B ao S)
    (hme : ME now B ao S) (hX : X rest B S) (hY : Y now none B S)
    (heid : ∀ en ∈ S.ents, ∀ x ∈ S.execs, x.rid = en.rid → x.id = en.id)
    (hBe : B'.execs = B.execs) (hnow : B.now = now)
    (hkeep : ∀ p ∈ B.table, p ∈ B'.table ∨ (∃ r l, ao = r :: l ∧ p.2 = r) ∨
      ∃ eb ∈ B.execs, eb.rid = p.2 ∧ eb.tick ≤ B.now ∧
        ∀ p' ∈ B.table, (∀ r l, ao = r :: l → p'.2 ≠ r) → p'.2 ≠ p.2 →
          ∀ eb' ∈ B.execs, eb'.rid = p'.2 → eb'.tick ≤ B.now → eb.tick < eb'.tick) :
    Z none (some false) B' ao.tail S := by
  refine ⟨?_, ?_⟩
  · intro en hen x hx hr
    rcases h.sub en hen x hx hr with ⟨i, hp⟩ | ⟨v, hv, ht⟩
    · cases hp
    · right
      refine ⟨v, hv, ?_⟩
      rcases hkeep _ ht with hk | ⟨r, l, hao, hr2⟩ | ⟨eb, heb, hbr, hdue, hlt⟩
      · exact hk
      · exact absurd (hv.trans (congrArg some hr2)) (h.head_ut hao en hen x hx hr)
      · exfalso
        have hbr' : eb.rid = v := hbr
        have htk := tick_eq hX hY hen hx hr heb (by rw [hbr']; exact hv)
        rw [hnow] at hdue
        rcases hme with hnd | ⟨eb0, heb0, ht0, hnh, hunt, hd0, hmin0⟩
        · have := hnd en hen
          omega
        · have hne : eb0.rid ≠ v := by
            intro hc
            have h1 := hX.bid eb0 heb0 x hx (by rw [hv, hc])
            have h2 := heid en hen x hx hr
            exact hunt en hen (by rw [← h2, h1])
          have := hlt _ ht0 hnh hne eb0 heb0 rfl (by rw [hnow]; exact hd0)
          have h3 := hmin0 en hen
          omega
  · intro pop hm
    cases hm
    show All2 (RI B') ao.tail S.cq
    have hRI : ∀ r i, RI B r i → RI B' r i := fun r i ⟨eb, h1, h2⟩ => ⟨eb, by rw [hBe]; exact h1, h2⟩
    rcases h.al true rfl with ⟨h1, h2⟩ | ⟨r, l, h1, _, h3⟩
    · rw [h1, h2]; exact .nil
    · rw [h1]; exact All2.imp hRI h3

theorem Z.start {B : BW} {ao : List Nat} {S : MV} (h : Z none m B ao S) (hm : m ≠ some true) (y : YE) (z : ZE)
    (hz : z.rid = y.rid) (hfx : ∀ x ∈ S.execs, x.rid ≠ y.rid) (hfe : ∀ en ∈ S.ents, en.rid ≠ y.rid) :
    Z (some (y.rid, y.id)) m B ao (S.start y z) := by
  refine ⟨?_, AL.of_false hm fun hp => h.al false hp⟩
  intro en hen x hx hr
  rcases List.mem_append.mp hen with hen | hen
  · rcases List.mem_append.mp hx with hx | hx
    · rcases h.sub en hen x hx hr with ⟨j, hp⟩ | hv
      · cases hp
      · exact Or.inr hv
    · exfalso
      rw [List.mem_singleton] at hx
      exact hfe en hen (by rw [← hr, hx])
  · rw [List.mem_singleton] at hen
    rcases List.mem_append.mp hx with hx | hx
    · exfalso
      exact hfx x hx (by rw [hr, hen, hz])
    · rw [List.mem_singleton] at hx
      exact Or.inl ⟨y.id, by rw [hx]⟩

theorem Z.yield {B : BW} {ao : List Nat} {S : MV} {r i : Nat} (h : Z (some (r, i)) m B ao S) (hm : m ≠ some true) (d : Nat)
    (hid : ∀ en ∈ S.ents, en.rid = r → en.id = i) (hother : ∀ en ∈ S.ents, en.rid ≠ r → en.id ≠ i) :
    Z none m (B.track S.nextVis i d) ao (S.handOut r) := by
  refine ⟨?_, AL.of_false hm fun hp =>
    All2.imp (fun _ _ ⟨eb, h1, h2⟩ => ⟨eb, List.mem_append_left _ h1, h2⟩) (h.al false hp)⟩
  intro en hen x' hx' hr
  obtain ⟨x, hx, rfl⟩ := MV.mem_handOut hx'
  obtain ⟨e1, _, _, _, _, e6, e7⟩ := YE.setVis_eq r S.nextVis x
  rw [e1] at hr
  right
  by_cases hxr : x.rid = r
  · have : en.id = i := hid en hen (hr.symm.trans hxr)
    exact ⟨S.nextVis, e6 hxr, by rw [this]; exact List.mem_append_right _ (List.mem_singleton.mpr rfl)⟩
  · rw [e7 hxr]
    rcases h.sub en hen x hx hr with ⟨j, hp⟩ | ⟨v0, hv0, ht0⟩
    · exact absurd (congrArg Prod.fst (Option.some.inj hp)).symm hxr
    · refine ⟨v0, hv0, List.mem_append_left _ (List.mem_filter.mpr ⟨ht0, ?_⟩)⟩
      have := hother en hen (fun hc => hxr (hr.trans hc))
      simpa using this

theorem Z.push {B B' : BW} {ao : List Nat} {S S' : MV} (h : Z none m B ao S) (hm : m ≠ some true) (r i : Nat)
    (hRI : ∀ r i, RI B r i → RI B' r i) (hri : RI B' r i) (hbt : B'.table = B.table)
    {α : Type} (l : List α) (p q : α → YE) (hS : S.execs = l.map p) (hS' : S'.execs = l.map q)
    (hg : ∀ a ∈ l, (q a).rid = (p a).rid ∧ (q a).vis = (p a).vis)
    (hen : S'.ents = S.ents) (hcq : S'.cq = S.cq ++ [i]) : Z none m B' (ao ++ [r]) S' := by
  have h0 : Z none m B' ao { S' with cq := S.cq } :=
    h.model hRI (fun p hp _ => by rw [hbt]; exact hp) l p q hS hS' hg (fun en' h' => by rw [← hen]; exact h') (fun _ => rfl)
  exact ⟨h0.sub, AL.of_false hm fun hp => by rw [hcq]; exact All2.snoc hri (h0.al false hp)⟩

theorem Z.count {rest : List Nat} {B : BW} {ao : List Nat} {S : MV} (h : Z none m B ao S) (hX : X rest B S)
    (hnd : (S.ents.map (·.id)).Nodup) : S.ents.length ≤ B.table.length := by
  have h1 : ∀ a ∈ S.ents.map (·.id), a ∈ B.table.map (·.1) := by
    intro a ha
    obtain ⟨en, hen, rfl⟩ := List.mem_map.mp ha
    obtain ⟨x, hx, hr⟩ := hX.esrc en hen
    rcases h.sub en hen x hx hr with ⟨i, hp⟩ | ⟨v, _, ht⟩
    · cases hp
    · exact List.mem_map.mpr ⟨_, ht, rfl⟩
  have := hnd.length_le_of_subset h1
  simpa using this

end TarpcModel.Server.Tab
