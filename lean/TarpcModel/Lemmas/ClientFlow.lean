import TarpcModel.Client.Run
import TarpcModel.Lemmas.Basic
import TarpcModel.Lemmas.TraceFold
/-
Frame lemmas and case principles for the client model (`Client/Model.lean`).

* `FrameA s s'` ("not a transport call"): configuration, transport, `termErr`, `readFused` unchanged and no transport observation
  emitted.  Holds for every model function that does not call the transport.
* `FrameD s s'` ("dispatch side"): configuration, handles and every call's `(cid, phase)` unchanged, the two queues did not grow.
  Holds for everything the dispatch does, hence `senders` is constant during a dispatch poll.  `Frames`: both.
* Each frame theorem is re-exported as `@[simp]` field equalities.
* `…_cases`: one elimination principle per function — a goal about `f s` splits into one goal per control-flow path, with the
  equations of the sub-calls made on that path; at the end the principles above `pollDispatchCore`: the poll wrapper, the one walk
  of `dropCall`, one op of a script.
The frames of the call future's functions and of the pumps come from the walks of `ClientSteps` and are in `ClientFrames`.
There is no loop rule: a fact about a loop on fuel is an induction on the fuel around the arms of its `f_cases` (the
loops' frames here; `…_out`, `…_steps`, `…_spin` in `ClientSteps`; `…_post`, `…_errTagged`, `…_mstep` in their files).
-/
namespace TarpcModel.Client.Flow

/-! ### transport observations -/

/-- Observations produced by a transport call of the dispatch (or by its spin detector). -/
def isT : Obs → Bool
  | .tReady _ _ | .tSend _ _ _ | .tFlush _ _ | .tClose _ _ | .tNext _ _ | .tViolation _ _ | .spin _ => true
  | _ => false

@[simp] theorem isT_tReady (ep r) : isT (.tReady ep r) = true := rfl
@[simp] theorem isT_tSend (ep m ok) : isT (.tSend ep m ok) = true := rfl
@[simp] theorem isT_tFlush (ep r) : isT (.tFlush ep r) = true := rfl
@[simp] theorem isT_tClose (ep r) : isT (.tClose ep r) = true := rfl
@[simp] theorem isT_tNext (ep r) : isT (.tNext ep r) = true := rfl
@[simp] theorem isT_tViolation (ep w) : isT (.tViolation ep w) = true := rfl
@[simp] theorem isT_spin (t) : isT (.spin t) = true := rfl
@[simp] theorem isT_wake (t) : isT (.wake t) = false := rfl
@[simp] theorem isT_ret (t r) : isT (.ret t r) = false := rfl
@[simp] theorem isT_resolved (c o n) : isT (.resolved c o n) = false := rfl
@[simp] theorem isT_yielded (r i d tr) : isT (.yielded r i d tr) = false := rfl
@[simp] theorem isT_handler (r e n) : isT (.handler r e n) = false := rfl
@[simp] theorem isT_counts (ep a b) : isT (.counts ep a b) = false := rfl
@[simp] theorem isT_panic (t w) : isT (.panic t w) = false := rfl
@[simp] theorem isT_took (ep m) : isT (.took ep m) = false := rfl
@[simp] theorem isT_noop : isT .noop = false := rfl

/-- The transport observations of the state, most recent first. -/
abbrev tObs (s : St) : List Obs := s.obs.filter isT

@[simp] theorem emit_obs (s : St) (o : Obs) : (emit s o).obs = o :: s.obs := rfl
@[simp] theorem emit_k (s : St) (o : Obs) : (emit s o).k = s.k := rfl
@[simp] theorem emit_maxInFlight (s : St) (o : Obs) : (emit s o).maxInFlight = s.maxInFlight := rfl
@[simp] theorem emit_bufCap (s : St) (o : Obs) : (emit s o).bufCap = s.bufCap := rfl
@[simp] theorem emit_ensureLoop (s : St) (o : Obs) : (emit s o).ensureLoop = s.ensureLoop := rfl
@[simp] theorem emit_handles (s : St) (o : Obs) : (emit s o).handles = s.handles := rfl
@[simp] theorem emit_nextHandle (s : St) (o : Obs) : (emit s o).nextHandle = s.nextHandle := rfl
@[simp] theorem emit_nextId (s : St) (o : Obs) : (emit s o).nextId = s.nextId := rfl
@[simp] theorem emit_nextFresh (s : St) (o : Obs) : (emit s o).nextFresh = s.nextFresh := rfl
@[simp] theorem emit_calls (s : St) (o : Obs) : (emit s o).calls = s.calls := rfl
@[simp] theorem emit_pq (s : St) (o : Obs) : (emit s o).pq = s.pq := rfl
@[simp] theorem emit_pqAvail (s : St) (o : Obs) : (emit s o).pqAvail = s.pqAvail := rfl
@[simp] theorem emit_pqWaiters (s : St) (o : Obs) : (emit s o).pqWaiters = s.pqWaiters := rfl
@[simp] theorem emit_pqAssigned (s : St) (o : Obs) : (emit s o).pqAssigned = s.pqAssigned := rfl
@[simp] theorem emit_pqClosed (s : St) (o : Obs) : (emit s o).pqClosed = s.pqClosed := rfl
@[simp] theorem emit_pqRxWaker (s : St) (o : Obs) : (emit s o).pqRxWaker = s.pqRxWaker := rfl
@[simp] theorem emit_cq (s : St) (o : Obs) : (emit s o).cq = s.cq := rfl
@[simp] theorem emit_cqRxWaker (s : St) (o : Obs) : (emit s o).cqRxWaker = s.cqRxWaker := rfl
@[simp] theorem emit_inflight (s : St) (o : Obs) : (emit s o).inflight = s.inflight := rfl
@[simp] theorem emit_timers (s : St) (o : Obs) : (emit s o).timers = s.timers := rfl
@[simp] theorem emit_termErr (s : St) (o : Obs) : (emit s o).termErr = s.termErr := rfl
@[simp] theorem emit_readFused (s : St) (o : Obs) : (emit s o).readFused = s.readFused := rfl
@[simp] theorem emit_done (s : St) (o : Obs) : (emit s o).done = s.done := rfl
@[simp] theorem emit_dDropped (s : St) (o : Obs) : (emit s o).dDropped = s.dDropped := rfl
@[simp] theorem emit_dWoken (s : St) (o : Obs) : (emit s o).dWoken = s.dWoken := rfl
@[simp] theorem emit_poisoned (s : St) (o : Obs) : (emit s o).poisoned = s.poisoned := rfl
@[simp] theorem emit_t (s : St) (o : Obs) : (emit s o).t = s.t := rfl
@[simp] theorem updCall_k (s : St) (cid : Nat) (f : Call → Call) : (updCall s cid f).k = s.k := rfl
@[simp] theorem updCall_maxInFlight (s : St) (cid : Nat) (f : Call → Call) : (updCall s cid f).maxInFlight = s.maxInFlight := rfl
@[simp] theorem updCall_bufCap (s : St) (cid : Nat) (f : Call → Call) : (updCall s cid f).bufCap = s.bufCap := rfl
@[simp] theorem updCall_ensureLoop (s : St) (cid : Nat) (f : Call → Call) : (updCall s cid f).ensureLoop = s.ensureLoop := rfl
@[simp] theorem updCall_handles (s : St) (cid : Nat) (f : Call → Call) : (updCall s cid f).handles = s.handles := rfl
@[simp] theorem updCall_nextHandle (s : St) (cid : Nat) (f : Call → Call) : (updCall s cid f).nextHandle = s.nextHandle := rfl
@[simp] theorem updCall_nextId (s : St) (cid : Nat) (f : Call → Call) : (updCall s cid f).nextId = s.nextId := rfl
@[simp] theorem updCall_nextFresh (s : St) (cid : Nat) (f : Call → Call) : (updCall s cid f).nextFresh = s.nextFresh := rfl
@[simp] theorem updCall_pq (s : St) (cid : Nat) (f : Call → Call) : (updCall s cid f).pq = s.pq := rfl
@[simp] theorem updCall_pqAvail (s : St) (cid : Nat) (f : Call → Call) : (updCall s cid f).pqAvail = s.pqAvail := rfl
@[simp] theorem updCall_pqWaiters (s : St) (cid : Nat) (f : Call → Call) : (updCall s cid f).pqWaiters = s.pqWaiters := rfl
@[simp] theorem updCall_pqAssigned (s : St) (cid : Nat) (f : Call → Call) : (updCall s cid f).pqAssigned = s.pqAssigned := rfl
@[simp] theorem updCall_pqClosed (s : St) (cid : Nat) (f : Call → Call) : (updCall s cid f).pqClosed = s.pqClosed := rfl
@[simp] theorem updCall_pqRxWaker (s : St) (cid : Nat) (f : Call → Call) : (updCall s cid f).pqRxWaker = s.pqRxWaker := rfl
@[simp] theorem updCall_cq (s : St) (cid : Nat) (f : Call → Call) : (updCall s cid f).cq = s.cq := rfl
@[simp] theorem updCall_cqRxWaker (s : St) (cid : Nat) (f : Call → Call) : (updCall s cid f).cqRxWaker = s.cqRxWaker := rfl
@[simp] theorem updCall_inflight (s : St) (cid : Nat) (f : Call → Call) : (updCall s cid f).inflight = s.inflight := rfl
@[simp] theorem updCall_timers (s : St) (cid : Nat) (f : Call → Call) : (updCall s cid f).timers = s.timers := rfl
@[simp] theorem updCall_termErr (s : St) (cid : Nat) (f : Call → Call) : (updCall s cid f).termErr = s.termErr := rfl
@[simp] theorem updCall_readFused (s : St) (cid : Nat) (f : Call → Call) : (updCall s cid f).readFused = s.readFused := rfl
@[simp] theorem updCall_done (s : St) (cid : Nat) (f : Call → Call) : (updCall s cid f).done = s.done := rfl
@[simp] theorem updCall_dDropped (s : St) (cid : Nat) (f : Call → Call) : (updCall s cid f).dDropped = s.dDropped := rfl
@[simp] theorem updCall_dWoken (s : St) (cid : Nat) (f : Call → Call) : (updCall s cid f).dWoken = s.dWoken := rfl
@[simp] theorem updCall_poisoned (s : St) (cid : Nat) (f : Call → Call) : (updCall s cid f).poisoned = s.poisoned := rfl
@[simp] theorem updCall_t (s : St) (cid : Nat) (f : Call → Call) : (updCall s cid f).t = s.t := rfl
@[simp] theorem updCall_obs (s : St) (cid : Nat) (f : Call → Call) : (updCall s cid f).obs = s.obs := rfl

/-! ### FrameA -/

structure FrameA (s s' : St) : Prop where
  k : s'.k = s.k
  maxInFlight : s'.maxInFlight = s.maxInFlight
  bufCap : s'.bufCap = s.bufCap
  ensureLoop : s'.ensureLoop = s.ensureLoop
  t : s'.t = s.t
  termErr : s'.termErr = s.termErr
  readFused : s'.readFused = s.readFused
  tobs : s'.obs.filter isT = s.obs.filter isT

theorem FrameA.refl (s : St) : FrameA s s := by constructor <;> rfl

theorem FrameA.trans {s s1 s2 : St} (h1 : FrameA s s1) (h2 : FrameA s1 s2) : FrameA s s2 :=
  ⟨h2.k.trans h1.k, h2.maxInFlight.trans h1.maxInFlight, h2.bufCap.trans h1.bufCap,
   h2.ensureLoop.trans h1.ensureLoop, h2.t.trans h1.t, h2.termErr.trans h1.termErr,
   h2.readFused.trans h1.readFused, h2.tobs.trans h1.tobs⟩

theorem FrameA.foldl {α : Type} (f : St → α → St) (hf : ∀ s x, FrameA s (f s x)) (l : List α) (s : St) :
    FrameA s (l.foldl f s) := by
  induction l generalizing s with
  | nil => exact .refl _
  | cons x l ih => exact .trans (hf s x) (ih _)

theorem emit_frameA (s : St) (o : Obs) (h : isT o = false) : FrameA s (emit s o) :=
  ⟨rfl, rfl, rfl, rfl, rfl, rfl, rfl, by simp [emit, h]⟩

theorem updCall_frameA (s : St) (cid : Nat) (f : Call → Call) : FrameA s (updCall s cid f) := by
  unfold updCall; constructor <;> rfl

/-! ### FrameD -/

/-- What `senders` depends on, per call. -/
def callSig (c : Call) : Nat × Phase := (c.cid, c.phase)

/-- `callLive` as a function of the phase alone, so that it can be read off `callSig` -/
def phaseLive : Phase → Bool
  | .notPolled | .reserving | .awaiting => true
  | _ => false

theorem callLive_eq (c : Call) : callLive c = phaseLive (callSig c).2 := by
  cases hp : c.phase <;> simp [callLive, phaseLive, callSig, hp]

theorem liveCount_eq (cs : List Call) :
    (cs.filter callLive).length = ((cs.map callSig).filter (fun p => phaseLive p.2)).length := by
  induction cs with
  | nil => rfl
  | cons c cs ih =>
    simp only [List.filter_cons, List.map_cons, ← callLive_eq]
    split <;> simp [ih]

theorem senders_eq_of {s s' : St} (h1 : s'.handles = s.handles)
    (h2 : s'.calls.map callSig = s.calls.map callSig) : senders s' = senders s := by
  unfold senders; rw [liveCount_eq, liveCount_eq, h1, h2]

/- `constructor <;> rfl` closes `FrameD s { s with … }` for updates of fields it does not read: its last two fields are `≤` -/
attribute [local refl] Nat.le_refl

structure FrameD (s s' : St) : Prop where
  k : s'.k = s.k
  maxInFlight : s'.maxInFlight = s.maxInFlight
  bufCap : s'.bufCap = s.bufCap
  ensureLoop : s'.ensureLoop = s.ensureLoop
  handles : s'.handles = s.handles
  sigs : s'.calls.map callSig = s.calls.map callSig
  pq : s'.pq.length ≤ s.pq.length
  cq : s'.cq.length ≤ s.cq.length

theorem FrameD.senders {s s' : St} (h : FrameD s s') : senders s' = senders s := senders_eq_of h.handles h.sigs

theorem FrameD.refl (s : St) : FrameD s s := by constructor <;> rfl

theorem FrameD.trans {s s1 s2 : St} (h1 : FrameD s s1) (h2 : FrameD s1 s2) : FrameD s s2 :=
  ⟨h2.k.trans h1.k, h2.maxInFlight.trans h1.maxInFlight, h2.bufCap.trans h1.bufCap,
   h2.ensureLoop.trans h1.ensureLoop, h2.handles.trans h1.handles, h2.sigs.trans h1.sigs,
   Nat.le_trans h2.pq h1.pq, Nat.le_trans h2.cq h1.cq⟩

theorem FrameD.foldl {α : Type} (f : St → α → St) (hf : ∀ s x, FrameD s (f s x)) (l : List α) (s : St) :
    FrameD s (l.foldl f s) := by
  induction l generalizing s with
  | nil => exact .refl _
  | cons x l ih => exact .trans (hf s x) (ih _)

theorem FrameD.upd {s x s' : St} (h : FrameD s x) (e1 : s'.k = x.k) (e2 : s'.maxInFlight = x.maxInFlight)
    (e3 : s'.bufCap = x.bufCap) (e4 : s'.ensureLoop = x.ensureLoop) (e5 : s'.handles = x.handles)
    (e6 : s'.calls = x.calls) (e7 : s'.pq = x.pq) (e8 : s'.cq = x.cq) : FrameD s s' :=
  ⟨e1 ▸ h.k, e2 ▸ h.maxInFlight, e3 ▸ h.bufCap, e4 ▸ h.ensureLoop, e5 ▸ h.handles, e6 ▸ h.sigs, e7 ▸ h.pq, e8 ▸ h.cq⟩

theorem emit_frameD (s : St) (o : Obs) : FrameD s (emit s o) := by unfold emit; constructor <;> rfl
@[simp] theorem emit_sigs (s : St) (o : Obs) : (emit s o).calls.map callSig = s.calls.map callSig := (emit_frameD s o).sigs
@[simp] theorem emit_senders (s : St) (o : Obs) : senders (emit s o) = senders s := (emit_frameD s o).senders
theorem emit_pq_le (s : St) (o : Obs) : (emit s o).pq.length ≤ s.pq.length := (emit_frameD s o).pq
theorem emit_cq_le (s : St) (o : Obs) : (emit s o).cq.length ≤ s.cq.length := (emit_frameD s o).cq

theorem updCall_frameD (s : St) (cid : Nat) (f : Call → Call) (hf : ∀ c, callSig (f c) = callSig c) :
    FrameD s (updCall s cid f) := by
  refine ⟨rfl, rfl, rfl, rfl, rfl, ?_, Nat.le_refl _, Nat.le_refl _⟩
  simp only [updCall, List.map_map]
  apply List.map_congr_left
  intro c _
  simp only [Function.comp]
  split <;> simp [hf]

/-- Both frames: a transport-free step of the dispatch side. -/
structure Frames (s s' : St) : Prop where
  a : FrameA s s'
  d : FrameD s s'

theorem Frames.refl (s : St) : Frames s s := ⟨.refl _, .refl _⟩

theorem Frames.trans {s s1 s2 : St} (h1 : Frames s s1) (h2 : Frames s1 s2) : Frames s s2 :=
  ⟨h1.a.trans h2.a, h1.d.trans h2.d⟩

theorem Frames.foldl {α : Type} (f : St → α → St) (hf : ∀ s x, Frames s (f s x)) (l : List α) (s : St) :
    Frames s (l.foldl f s) :=
  ⟨FrameA.foldl f (fun s x => (hf s x).a) l s, FrameD.foldl f (fun s x => (hf s x).d) l s⟩

theorem Frames.emit {s : St} {o : Obs} (h : isT o = false) : Frames s (emit s o) := ⟨emit_frameA _ _ h, emit_frameD _ _⟩

theorem Frames.updCall {s : St} {cid : Nat} {f : Call → Call} (hf : ∀ c, callSig (f c) = callSig c) :
    Frames s (updCall s cid f) := ⟨updCall_frameA _ _ _, updCall_frameD _ _ _ hf⟩

theorem wakeDispatch_frames (s : St) : Frames s (wakeDispatch s) := by
  unfold wakeDispatch; split
  · exact .refl _
  · exact .trans ⟨by constructor <;> rfl, by constructor <;> rfl⟩ (.emit rfl)
theorem wakeDispatch_frameA (s : St) : FrameA s (wakeDispatch s) := (wakeDispatch_frames s).a
theorem wakeDispatch_frameD (s : St) : FrameD s (wakeDispatch s) := (wakeDispatch_frames s).d
@[simp] theorem wakeDispatch_k (s : St) : (wakeDispatch s).k = s.k := (wakeDispatch_frameA s).k
@[simp] theorem wakeDispatch_maxInFlight (s : St) : (wakeDispatch s).maxInFlight = s.maxInFlight := (wakeDispatch_frameA s).maxInFlight
@[simp] theorem wakeDispatch_bufCap (s : St) : (wakeDispatch s).bufCap = s.bufCap := (wakeDispatch_frameA s).bufCap
@[simp] theorem wakeDispatch_ensureLoop (s : St) : (wakeDispatch s).ensureLoop = s.ensureLoop := (wakeDispatch_frameA s).ensureLoop
@[simp] theorem wakeDispatch_t (s : St) : (wakeDispatch s).t = s.t := (wakeDispatch_frameA s).t
@[simp] theorem wakeDispatch_termErr (s : St) : (wakeDispatch s).termErr = s.termErr := (wakeDispatch_frameA s).termErr
@[simp] theorem wakeDispatch_readFused (s : St) : (wakeDispatch s).readFused = s.readFused := (wakeDispatch_frameA s).readFused
@[simp] theorem wakeDispatch_tObs (s : St) : (wakeDispatch s).obs.filter isT = s.obs.filter isT := (wakeDispatch_frameA s).tobs
/-! `wakeDispatch` only sets `dWoken` and emits a `wake` (`removeTimer` and `insertRequest` wake the dispatch themselves). -/
@[simp] theorem wakeDispatch_nextHandle (s : St) : (wakeDispatch s).nextHandle = s.nextHandle := by unfold wakeDispatch; split <;> rfl
@[simp] theorem wakeDispatch_nextId (s : St) : (wakeDispatch s).nextId = s.nextId := by unfold wakeDispatch; split <;> rfl
@[simp] theorem wakeDispatch_nextFresh (s : St) : (wakeDispatch s).nextFresh = s.nextFresh := by unfold wakeDispatch; split <;> rfl
@[simp] theorem wakeDispatch_calls (s : St) : (wakeDispatch s).calls = s.calls := by unfold wakeDispatch; split <;> rfl
@[simp] theorem wakeDispatch_pq (s : St) : (wakeDispatch s).pq = s.pq := by unfold wakeDispatch; split <;> rfl
@[simp] theorem wakeDispatch_pqAvail (s : St) : (wakeDispatch s).pqAvail = s.pqAvail := by unfold wakeDispatch; split <;> rfl
@[simp] theorem wakeDispatch_pqWaiters (s : St) : (wakeDispatch s).pqWaiters = s.pqWaiters := by unfold wakeDispatch; split <;> rfl
@[simp] theorem wakeDispatch_pqAssigned (s : St) : (wakeDispatch s).pqAssigned = s.pqAssigned := by unfold wakeDispatch; split <;> rfl
@[simp] theorem wakeDispatch_pqClosed (s : St) : (wakeDispatch s).pqClosed = s.pqClosed := by unfold wakeDispatch; split <;> rfl
@[simp] theorem wakeDispatch_pqRxWaker (s : St) : (wakeDispatch s).pqRxWaker = s.pqRxWaker := by unfold wakeDispatch; split <;> rfl
@[simp] theorem wakeDispatch_cq (s : St) : (wakeDispatch s).cq = s.cq := by unfold wakeDispatch; split <;> rfl
@[simp] theorem wakeDispatch_cqRxWaker (s : St) : (wakeDispatch s).cqRxWaker = s.cqRxWaker := by unfold wakeDispatch; split <;> rfl
@[simp] theorem wakeDispatch_inflight (s : St) : (wakeDispatch s).inflight = s.inflight := by unfold wakeDispatch; split <;> rfl
@[simp] theorem wakeDispatch_timers (s : St) : (wakeDispatch s).timers = s.timers := by unfold wakeDispatch; split <;> rfl
@[simp] theorem wakeDispatch_done (s : St) : (wakeDispatch s).done = s.done := by unfold wakeDispatch; split <;> rfl
@[simp] theorem wakeDispatch_dDropped (s : St) : (wakeDispatch s).dDropped = s.dDropped := by unfold wakeDispatch; split <;> rfl
@[simp] theorem wakeDispatch_poisoned (s : St) : (wakeDispatch s).poisoned = s.poisoned := by unfold wakeDispatch; split <;> rfl

@[simp] theorem updCall_tObs (s : St) (cid : Nat) (f : Call → Call) : (updCall s cid f).obs.filter isT = s.obs.filter isT := (updCall_frameA s cid f).tobs

theorem wakeCall_frames (s : St) (cid : Nat) : Frames s (wakeCall s cid) := by
  unfold wakeCall; split
  · split
    · exact .trans (.updCall (by intro c; rfl)) (.emit rfl)
    · exact .refl _
  · exact .refl _
theorem wakeCall_frameA (s : St) (cid : Nat) : FrameA s (wakeCall s cid) := (wakeCall_frames s cid).a
theorem wakeCall_frameD (s : St) (cid : Nat) : FrameD s (wakeCall s cid) := (wakeCall_frames s cid).d
@[simp] theorem wakeCall_k (s : St) (cid : Nat) : (wakeCall s cid).k = s.k := (wakeCall_frameA s cid).k
@[simp] theorem wakeCall_maxInFlight (s : St) (cid : Nat) : (wakeCall s cid).maxInFlight = s.maxInFlight := (wakeCall_frameA s cid).maxInFlight
@[simp] theorem wakeCall_bufCap (s : St) (cid : Nat) : (wakeCall s cid).bufCap = s.bufCap := (wakeCall_frameA s cid).bufCap
@[simp] theorem wakeCall_ensureLoop (s : St) (cid : Nat) : (wakeCall s cid).ensureLoop = s.ensureLoop := (wakeCall_frameA s cid).ensureLoop
@[simp] theorem wakeCall_t (s : St) (cid : Nat) : (wakeCall s cid).t = s.t := (wakeCall_frameA s cid).t
@[simp] theorem wakeCall_termErr (s : St) (cid : Nat) : (wakeCall s cid).termErr = s.termErr := (wakeCall_frameA s cid).termErr
@[simp] theorem wakeCall_readFused (s : St) (cid : Nat) : (wakeCall s cid).readFused = s.readFused := (wakeCall_frameA s cid).readFused
@[simp] theorem wakeCall_tObs (s : St) (cid : Nat) : (wakeCall s cid).obs.filter isT = s.obs.filter isT := (wakeCall_frameA s cid).tobs

theorem osSend_frames (s : St) (cid : Nat) (o : Outcome) : Frames s (osSend s cid o) := by
  unfold osSend; split
  · exact .refl _
  · split
    · exact .refl _
    · simp only; split
      · exact .trans (.updCall (by intro c; rfl)) (wakeCall_frames _ _)
      · exact .updCall (by intro c; rfl)
theorem osSend_frameA (s : St) (cid : Nat) (o : Outcome) : FrameA s (osSend s cid o) := (osSend_frames s cid o).a
theorem osSend_frameD (s : St) (cid : Nat) (o : Outcome) : FrameD s (osSend s cid o) := (osSend_frames s cid o).d

theorem wakeDispatch_only (s : St) : ∃ w os, wakeDispatch s = { s with dWoken := w, obs := os } := by
  unfold wakeDispatch; split
  · exact ⟨s.dWoken, s.obs, rfl⟩
  · exact ⟨true, _, rfl⟩

theorem wakeCall_only (s : St) (cid : Nat) : ∃ cs os, wakeCall s cid = { s with calls := cs, obs := os } := by
  unfold wakeCall; split
  · split <;> exact ⟨_, _, rfl⟩
  · exact ⟨_, _, rfl⟩

theorem osSend_only (s : St) (cid : Nat) (o : Outcome) : ∃ cs os, osSend s cid o = { s with calls := cs, obs := os } := by
  unfold osSend; split
  · exact ⟨_, _, rfl⟩
  · split
    · exact ⟨_, _, rfl⟩
    · simp only; split
      · obtain ⟨cs, os, h⟩ := wakeCall_only (updCall s cid fun c => { c with os := { c.os with val := some o, rxWaker := false } }) cid
        exact ⟨cs, os, by rw [h]; rfl⟩
      · exact ⟨_, _, rfl⟩

@[simp] theorem osSend_k (s : St) (cid : Nat) (o : Outcome) : (osSend s cid o).k = s.k := (osSend_frameA s cid o).k
@[simp] theorem osSend_maxInFlight (s : St) (cid : Nat) (o : Outcome) : (osSend s cid o).maxInFlight = s.maxInFlight := (osSend_frameA s cid o).maxInFlight
@[simp] theorem osSend_bufCap (s : St) (cid : Nat) (o : Outcome) : (osSend s cid o).bufCap = s.bufCap := (osSend_frameA s cid o).bufCap
@[simp] theorem osSend_ensureLoop (s : St) (cid : Nat) (o : Outcome) : (osSend s cid o).ensureLoop = s.ensureLoop := (osSend_frameA s cid o).ensureLoop
@[simp] theorem osSend_t (s : St) (cid : Nat) (o : Outcome) : (osSend s cid o).t = s.t := (osSend_frameA s cid o).t
@[simp] theorem osSend_termErr (s : St) (cid : Nat) (o : Outcome) : (osSend s cid o).termErr = s.termErr := (osSend_frameA s cid o).termErr
@[simp] theorem osSend_readFused (s : St) (cid : Nat) (o : Outcome) : (osSend s cid o).readFused = s.readFused := (osSend_frameA s cid o).readFused
@[simp] theorem osSend_tObs (s : St) (cid : Nat) (o : Outcome) : (osSend s cid o).obs.filter isT = s.obs.filter isT := (osSend_frameA s cid o).tobs

theorem osDropTx_frames (s : St) (cid : Nat) : Frames s (osDropTx s cid) := by
  unfold osDropTx; split
  · exact .refl _
  · split
    · exact .refl _
    · simp only; split
      · exact .trans (.updCall (by intro c; rfl)) (wakeCall_frames _ _)
      · exact .updCall (by intro c; rfl)
theorem osDropTx_frameA (s : St) (cid : Nat) : FrameA s (osDropTx s cid) := (osDropTx_frames s cid).a
theorem osDropTx_frameD (s : St) (cid : Nat) : FrameD s (osDropTx s cid) := (osDropTx_frames s cid).d
@[simp] theorem osDropTx_maxInFlight (s : St) (cid : Nat) : (osDropTx s cid).maxInFlight = s.maxInFlight := (osDropTx_frameA s cid).maxInFlight
@[simp] theorem osDropTx_t (s : St) (cid : Nat) : (osDropTx s cid).t = s.t := (osDropTx_frameA s cid).t
@[simp] theorem osDropTx_termErr (s : St) (cid : Nat) : (osDropTx s cid).termErr = s.termErr := (osDropTx_frameA s cid).termErr
@[simp] theorem osDropTx_tObs (s : St) (cid : Nat) : (osDropTx s cid).obs.filter isT = s.obs.filter isT := (osDropTx_frameA s cid).tobs

theorem pqRelease_frames (s : St) : Frames s (pqRelease s) := by
  unfold pqRelease; split
  · exact .trans ⟨by constructor <;> rfl, by constructor <;> rfl⟩ (wakeCall_frames _ _)
  · exact ⟨by constructor <;> rfl, by constructor <;> rfl⟩
theorem pqRelease_frameA (s : St) : FrameA s (pqRelease s) := (pqRelease_frames s).a
theorem pqRelease_frameD (s : St) : FrameD s (pqRelease s) := (pqRelease_frames s).d
@[simp] theorem pqRelease_k (s : St) : (pqRelease s).k = s.k := (pqRelease_frameA s).k
@[simp] theorem pqRelease_maxInFlight (s : St) : (pqRelease s).maxInFlight = s.maxInFlight := (pqRelease_frameA s).maxInFlight
@[simp] theorem pqRelease_bufCap (s : St) : (pqRelease s).bufCap = s.bufCap := (pqRelease_frameA s).bufCap
@[simp] theorem pqRelease_ensureLoop (s : St) : (pqRelease s).ensureLoop = s.ensureLoop := (pqRelease_frameA s).ensureLoop
@[simp] theorem pqRelease_t (s : St) : (pqRelease s).t = s.t := (pqRelease_frameA s).t
@[simp] theorem pqRelease_termErr (s : St) : (pqRelease s).termErr = s.termErr := (pqRelease_frameA s).termErr
@[simp] theorem pqRelease_readFused (s : St) : (pqRelease s).readFused = s.readFused := (pqRelease_frameA s).readFused
@[simp] theorem pqRelease_tObs (s : St) : (pqRelease s).obs.filter isT = s.obs.filter isT := (pqRelease_frameA s).tobs

theorem pqRecv_frames (s : St) : Frames s (pqRecv s).1 := by
  unfold pqRecv; split
  · rename_i r rest heq
    exact .trans (s1 := { s with pq := rest }) ⟨by constructor <;> rfl, ⟨rfl, rfl, rfl, rfl, rfl, rfl, by simp [heq], Nat.le_refl _⟩⟩
      (pqRelease_frames _)
  · split
    · exact .refl _
    · split
      · exact .refl _
      · exact ⟨by constructor <;> rfl, by constructor <;> rfl⟩
theorem pqRecv_frameA (s : St) : FrameA s (pqRecv s).1 := (pqRecv_frames s).a
theorem pqRecv_frameD (s : St) : FrameD s (pqRecv s).1 := (pqRecv_frames s).d
@[simp] theorem pqRecv_k (s : St) : ((pqRecv s).1).k = s.k := (pqRecv_frameA s).k
@[simp] theorem pqRecv_maxInFlight (s : St) : ((pqRecv s).1).maxInFlight = s.maxInFlight := (pqRecv_frameA s).maxInFlight
@[simp] theorem pqRecv_bufCap (s : St) : ((pqRecv s).1).bufCap = s.bufCap := (pqRecv_frameA s).bufCap
@[simp] theorem pqRecv_ensureLoop (s : St) : ((pqRecv s).1).ensureLoop = s.ensureLoop := (pqRecv_frameA s).ensureLoop
@[simp] theorem pqRecv_t (s : St) : ((pqRecv s).1).t = s.t := (pqRecv_frameA s).t
@[simp] theorem pqRecv_termErr (s : St) : ((pqRecv s).1).termErr = s.termErr := (pqRecv_frameA s).termErr
@[simp] theorem pqRecv_readFused (s : St) : ((pqRecv s).1).readFused = s.readFused := (pqRecv_frameA s).readFused
@[simp] theorem pqRecv_tObs (s : St) : ((pqRecv s).1).obs.filter isT = s.obs.filter isT := (pqRecv_frameA s).tobs

theorem pqClose_frames (s : St) : Frames s (pqClose s) := by
  unfold pqClose
  exact .trans ⟨by constructor <;> rfl, by constructor <;> rfl⟩ (Frames.foldl _ wakeCall_frames _ _)
theorem pqClose_frameA (s : St) : FrameA s (pqClose s) := (pqClose_frames s).a
theorem pqClose_frameD (s : St) : FrameD s (pqClose s) := (pqClose_frames s).d
@[simp] theorem pqClose_k (s : St) : (pqClose s).k = s.k := (pqClose_frameA s).k
@[simp] theorem pqClose_maxInFlight (s : St) : (pqClose s).maxInFlight = s.maxInFlight := (pqClose_frameA s).maxInFlight
@[simp] theorem pqClose_bufCap (s : St) : (pqClose s).bufCap = s.bufCap := (pqClose_frameA s).bufCap
@[simp] theorem pqClose_ensureLoop (s : St) : (pqClose s).ensureLoop = s.ensureLoop := (pqClose_frameA s).ensureLoop
@[simp] theorem pqClose_t (s : St) : (pqClose s).t = s.t := (pqClose_frameA s).t
@[simp] theorem pqClose_termErr (s : St) : (pqClose s).termErr = s.termErr := (pqClose_frameA s).termErr
@[simp] theorem pqClose_readFused (s : St) : (pqClose s).readFused = s.readFused := (pqClose_frameA s).readFused
@[simp] theorem pqClose_tObs (s : St) : (pqClose s).obs.filter isT = s.obs.filter isT := (pqClose_frameA s).tobs

theorem pqPush_frameA (s : St) (r : DReq) : FrameA s (pqPush s r) := by
  unfold pqPush; simp only; split
  · exact .trans (by constructor <;> rfl) (wakeDispatch_frameA _)
  · constructor <;> rfl
@[simp] theorem pqPush_k (s : St) (r : DReq) : (pqPush s r).k = s.k := (pqPush_frameA s r).k
@[simp] theorem pqPush_maxInFlight (s : St) (r : DReq) : (pqPush s r).maxInFlight = s.maxInFlight := (pqPush_frameA s r).maxInFlight
@[simp] theorem pqPush_bufCap (s : St) (r : DReq) : (pqPush s r).bufCap = s.bufCap := (pqPush_frameA s r).bufCap
@[simp] theorem pqPush_ensureLoop (s : St) (r : DReq) : (pqPush s r).ensureLoop = s.ensureLoop := (pqPush_frameA s r).ensureLoop
@[simp] theorem pqPush_t (s : St) (r : DReq) : (pqPush s r).t = s.t := (pqPush_frameA s r).t
@[simp] theorem pqPush_termErr (s : St) (r : DReq) : (pqPush s r).termErr = s.termErr := (pqPush_frameA s r).termErr
@[simp] theorem pqPush_readFused (s : St) (r : DReq) : (pqPush s r).readFused = s.readFused := (pqPush_frameA s r).readFused
@[simp] theorem pqPush_tObs (s : St) (r : DReq) : (pqPush s r).obs.filter isT = s.obs.filter isT := (pqPush_frameA s r).tobs

theorem cqPush_frameA (s : St) (id : Nat) : FrameA s (cqPush s id) := by
  unfold cqPush; split
  · exact .refl _
  · simp only; split
    · exact .trans (by constructor <;> rfl) (wakeDispatch_frameA _)
    · constructor <;> rfl
@[simp] theorem cqPush_k (s : St) (id : Nat) : (cqPush s id).k = s.k := (cqPush_frameA s id).k
@[simp] theorem cqPush_maxInFlight (s : St) (id : Nat) : (cqPush s id).maxInFlight = s.maxInFlight := (cqPush_frameA s id).maxInFlight
@[simp] theorem cqPush_bufCap (s : St) (id : Nat) : (cqPush s id).bufCap = s.bufCap := (cqPush_frameA s id).bufCap
@[simp] theorem cqPush_ensureLoop (s : St) (id : Nat) : (cqPush s id).ensureLoop = s.ensureLoop := (cqPush_frameA s id).ensureLoop
@[simp] theorem cqPush_t (s : St) (id : Nat) : (cqPush s id).t = s.t := (cqPush_frameA s id).t
@[simp] theorem cqPush_termErr (s : St) (id : Nat) : (cqPush s id).termErr = s.termErr := (cqPush_frameA s id).termErr
@[simp] theorem cqPush_readFused (s : St) (id : Nat) : (cqPush s id).readFused = s.readFused := (cqPush_frameA s id).readFused
@[simp] theorem cqPush_tObs (s : St) (id : Nat) : (cqPush s id).obs.filter isT = s.obs.filter isT := (cqPush_frameA s id).tobs

theorem cqRecv_frames (s : St) : Frames s (cqRecv s).1 := by
  unfold cqRecv; split
  · rename_i i rest heq
    exact ⟨by constructor <;> rfl, ⟨rfl, rfl, rfl, rfl, rfl, rfl, Nat.le_refl _, by simp [heq]⟩⟩
  · split
    · exact .refl _
    · exact ⟨by constructor <;> rfl, by constructor <;> rfl⟩
theorem cqRecv_frameA (s : St) : FrameA s (cqRecv s).1 := (cqRecv_frames s).a
theorem cqRecv_frameD (s : St) : FrameD s (cqRecv s).1 := (cqRecv_frames s).d
@[simp] theorem cqRecv_k (s : St) : ((cqRecv s).1).k = s.k := (cqRecv_frameA s).k
@[simp] theorem cqRecv_maxInFlight (s : St) : ((cqRecv s).1).maxInFlight = s.maxInFlight := (cqRecv_frameA s).maxInFlight
@[simp] theorem cqRecv_bufCap (s : St) : ((cqRecv s).1).bufCap = s.bufCap := (cqRecv_frameA s).bufCap
@[simp] theorem cqRecv_ensureLoop (s : St) : ((cqRecv s).1).ensureLoop = s.ensureLoop := (cqRecv_frameA s).ensureLoop
@[simp] theorem cqRecv_t (s : St) : ((cqRecv s).1).t = s.t := (cqRecv_frameA s).t
@[simp] theorem cqRecv_termErr (s : St) : ((cqRecv s).1).termErr = s.termErr := (cqRecv_frameA s).termErr
@[simp] theorem cqRecv_readFused (s : St) : ((cqRecv s).1).readFused = s.readFused := (cqRecv_frameA s).readFused
@[simp] theorem cqRecv_tObs (s : St) : ((cqRecv s).1).obs.filter isT = s.obs.filter isT := (cqRecv_frameA s).tobs

theorem removeTimer_frames (s : St) (key : Nat) : Frames s (removeTimer s key) := by
  unfold removeTimer; split
  · simp only; split
    · exact .trans ⟨by constructor <;> rfl, by constructor <;> rfl⟩ (wakeDispatch_frames _)
    · exact ⟨by constructor <;> rfl, by constructor <;> rfl⟩
  · exact .trans ⟨by constructor <;> rfl, by constructor <;> rfl⟩ (.emit rfl)
theorem removeTimer_some {s : St} {key : Nat} {q : DelayQ} {wk : Bool} (h : s.timers.remove key = some (q, wk)) :
    ∃ os dw, removeTimer s key = { s with timers := q, obs := os, dWoken := dw } := by
  unfold removeTimer; rw [h]; dsimp only; split
  · unfold wakeDispatch; split <;> exact ⟨_, _, rfl⟩
  · exact ⟨_, _, rfl⟩
theorem removeTimer_frameA (s : St) (key : Nat) : FrameA s (removeTimer s key) := (removeTimer_frames s key).a
theorem removeTimer_frameD (s : St) (key : Nat) : FrameD s (removeTimer s key) := (removeTimer_frames s key).d
@[simp] theorem removeTimer_k (s : St) (key : Nat) : (removeTimer s key).k = s.k := (removeTimer_frameA s key).k
@[simp] theorem removeTimer_maxInFlight (s : St) (key : Nat) : (removeTimer s key).maxInFlight = s.maxInFlight := (removeTimer_frameA s key).maxInFlight
@[simp] theorem removeTimer_bufCap (s : St) (key : Nat) : (removeTimer s key).bufCap = s.bufCap := (removeTimer_frameA s key).bufCap
@[simp] theorem removeTimer_ensureLoop (s : St) (key : Nat) : (removeTimer s key).ensureLoop = s.ensureLoop := (removeTimer_frameA s key).ensureLoop
@[simp] theorem removeTimer_t (s : St) (key : Nat) : (removeTimer s key).t = s.t := (removeTimer_frameA s key).t
@[simp] theorem removeTimer_termErr (s : St) (key : Nat) : (removeTimer s key).termErr = s.termErr := (removeTimer_frameA s key).termErr
@[simp] theorem removeTimer_readFused (s : St) (key : Nat) : (removeTimer s key).readFused = s.readFused := (removeTimer_frameA s key).readFused
@[simp] theorem removeTimer_tObs (s : St) (key : Nat) : (removeTimer s key).obs.filter isT = s.obs.filter isT := (removeTimer_frameA s key).tobs

theorem completeRequest_frames (s : St) (id : Nat) (o : Outcome) : Frames s (completeRequest s id o).1 := by
  unfold completeRequest; split
  · exact .refl _
  · exact .trans (.trans ⟨by constructor <;> rfl, by constructor <;> rfl⟩ (removeTimer_frames _ _)) (osSend_frames _ _ _)
theorem completeRequest_frameA (s : St) (id : Nat) (o : Outcome) : FrameA s (completeRequest s id o).1 :=
  (completeRequest_frames s id o).a
theorem completeRequest_frameD (s : St) (id : Nat) (o : Outcome) : FrameD s (completeRequest s id o).1 :=
  (completeRequest_frames s id o).d
@[simp] theorem completeRequest_k (s : St) (id : Nat) (o : Outcome) : ((completeRequest s id o).1).k = s.k := (completeRequest_frameA s id o).k
@[simp] theorem completeRequest_maxInFlight (s : St) (id : Nat) (o : Outcome) : ((completeRequest s id o).1).maxInFlight = s.maxInFlight := (completeRequest_frameA s id o).maxInFlight
@[simp] theorem completeRequest_bufCap (s : St) (id : Nat) (o : Outcome) : ((completeRequest s id o).1).bufCap = s.bufCap := (completeRequest_frameA s id o).bufCap
@[simp] theorem completeRequest_ensureLoop (s : St) (id : Nat) (o : Outcome) : ((completeRequest s id o).1).ensureLoop = s.ensureLoop := (completeRequest_frameA s id o).ensureLoop
@[simp] theorem completeRequest_t (s : St) (id : Nat) (o : Outcome) : ((completeRequest s id o).1).t = s.t := (completeRequest_frameA s id o).t
@[simp] theorem completeRequest_termErr (s : St) (id : Nat) (o : Outcome) : ((completeRequest s id o).1).termErr = s.termErr := (completeRequest_frameA s id o).termErr
@[simp] theorem completeRequest_readFused (s : St) (id : Nat) (o : Outcome) : ((completeRequest s id o).1).readFused = s.readFused := (completeRequest_frameA s id o).readFused
@[simp] theorem completeRequest_tObs (s : St) (id : Nat) (o : Outcome) : ((completeRequest s id o).1).obs.filter isT = s.obs.filter isT := (completeRequest_frameA s id o).tobs

theorem cancelRequest_frames (s : St) (id : Nat) : Frames s (cancelRequest s id).1 := by
  unfold cancelRequest; split
  · exact .refl _
  · exact .trans ⟨by constructor <;> rfl, by constructor <;> rfl⟩ (removeTimer_frames _ _)
theorem cancelRequest_frameA (s : St) (id : Nat) : FrameA s (cancelRequest s id).1 := (cancelRequest_frames s id).a
theorem cancelRequest_frameD (s : St) (id : Nat) : FrameD s (cancelRequest s id).1 := (cancelRequest_frames s id).d
@[simp] theorem cancelRequest_k (s : St) (id : Nat) : ((cancelRequest s id).1).k = s.k := (cancelRequest_frameA s id).k
@[simp] theorem cancelRequest_maxInFlight (s : St) (id : Nat) : ((cancelRequest s id).1).maxInFlight = s.maxInFlight := (cancelRequest_frameA s id).maxInFlight
@[simp] theorem cancelRequest_bufCap (s : St) (id : Nat) : ((cancelRequest s id).1).bufCap = s.bufCap := (cancelRequest_frameA s id).bufCap
@[simp] theorem cancelRequest_ensureLoop (s : St) (id : Nat) : ((cancelRequest s id).1).ensureLoop = s.ensureLoop := (cancelRequest_frameA s id).ensureLoop
@[simp] theorem cancelRequest_t (s : St) (id : Nat) : ((cancelRequest s id).1).t = s.t := (cancelRequest_frameA s id).t
@[simp] theorem cancelRequest_termErr (s : St) (id : Nat) : ((cancelRequest s id).1).termErr = s.termErr := (cancelRequest_frameA s id).termErr
@[simp] theorem cancelRequest_readFused (s : St) (id : Nat) : ((cancelRequest s id).1).readFused = s.readFused := (cancelRequest_frameA s id).readFused
@[simp] theorem cancelRequest_tObs (s : St) (id : Nat) : ((cancelRequest s id).1).obs.filter isT = s.obs.filter isT := (cancelRequest_frameA s id).tobs

theorem insertRequest_frames {s s' : St} {now : Nat} {r : DReq} (h : insertRequest s now r = some s') :
    Frames s s' := by
  unfold insertRequest at h; split at h
  · cases h; exact .trans ⟨by constructor <;> rfl, by constructor <;> rfl⟩ (.emit rfl)
  · split at h
    · cases h; exact .trans ⟨by constructor <;> rfl, by constructor <;> rfl⟩ (.emit rfl)
    · cases h; split
      · exact .trans ⟨by constructor <;> rfl, by constructor <;> rfl⟩ (wakeDispatch_frames _)
      · exact ⟨by constructor <;> rfl, by constructor <;> rfl⟩
theorem insertRequest_frameA {s s' : St} {now : Nat} {r : DReq} (h : insertRequest s now r = some s') :
    FrameA s s' := (insertRequest_frames h).a
theorem insertRequest_frameD {s s' : St} {now : Nat} {r : DReq} (h : insertRequest s now r = some s') :
    FrameD s s' := (insertRequest_frames h).d

theorem nextRequestLoop_frames (fuel : Nat) (s : St) : Frames s (nextRequestLoop fuel s).1 := by
  induction fuel generalizing s with
  | zero => exact .refl _
  | succ fuel ih =>
    unfold nextRequestLoop
    have h := pqRecv_frames s
    split <;> rename_i heq <;> rw [heq] at h
    · exact h
    · exact h
    · split
      · exact .trans h (ih _)
      · exact h
theorem nextRequestLoop_frameA (fuel : Nat) (s : St) : FrameA s (nextRequestLoop fuel s).1 :=
  (nextRequestLoop_frames fuel s).a
theorem nextRequestLoop_frameD (fuel : Nat) (s : St) : FrameD s (nextRequestLoop fuel s).1 :=
  (nextRequestLoop_frames fuel s).d
@[simp] theorem nextRequestLoop_k (fuel : Nat) (s : St) : ((nextRequestLoop fuel s).1).k = s.k := (nextRequestLoop_frameA fuel s).k
@[simp] theorem nextRequestLoop_maxInFlight (fuel : Nat) (s : St) : ((nextRequestLoop fuel s).1).maxInFlight = s.maxInFlight := (nextRequestLoop_frameA fuel s).maxInFlight
@[simp] theorem nextRequestLoop_bufCap (fuel : Nat) (s : St) : ((nextRequestLoop fuel s).1).bufCap = s.bufCap := (nextRequestLoop_frameA fuel s).bufCap
@[simp] theorem nextRequestLoop_ensureLoop (fuel : Nat) (s : St) : ((nextRequestLoop fuel s).1).ensureLoop = s.ensureLoop := (nextRequestLoop_frameA fuel s).ensureLoop
@[simp] theorem nextRequestLoop_t (fuel : Nat) (s : St) : ((nextRequestLoop fuel s).1).t = s.t := (nextRequestLoop_frameA fuel s).t
@[simp] theorem nextRequestLoop_termErr (fuel : Nat) (s : St) : ((nextRequestLoop fuel s).1).termErr = s.termErr := (nextRequestLoop_frameA fuel s).termErr
@[simp] theorem nextRequestLoop_readFused (fuel : Nat) (s : St) : ((nextRequestLoop fuel s).1).readFused = s.readFused := (nextRequestLoop_frameA fuel s).readFused
@[simp] theorem nextRequestLoop_tObs (fuel : Nat) (s : St) : ((nextRequestLoop fuel s).1).obs.filter isT = s.obs.filter isT := (nextRequestLoop_frameA fuel s).tobs

theorem nextCancelLoop_frames (fuel : Nat) (s : St) : Frames s (nextCancelLoop fuel s).1 := by
  induction fuel generalizing s with
  | zero => exact .refl _
  | succ fuel ih =>
    unfold nextCancelLoop
    have h := cqRecv_frames s
    split <;> rename_i heq <;> rw [heq] at h
    · exact h
    · exact h
    · rename_i s1 id
      have h2 := cancelRequest_frames s1 id
      split <;> rename_i heq2 <;> rw [heq2] at h2
      · exact .trans h h2
      · exact .trans (.trans h h2) (ih _)
theorem nextCancelLoop_frameA (fuel : Nat) (s : St) : FrameA s (nextCancelLoop fuel s).1 :=
  (nextCancelLoop_frames fuel s).a
theorem nextCancelLoop_frameD (fuel : Nat) (s : St) : FrameD s (nextCancelLoop fuel s).1 :=
  (nextCancelLoop_frames fuel s).d
@[simp] theorem nextCancelLoop_k (fuel : Nat) (s : St) : ((nextCancelLoop fuel s).1).k = s.k := (nextCancelLoop_frameA fuel s).k
@[simp] theorem nextCancelLoop_maxInFlight (fuel : Nat) (s : St) : ((nextCancelLoop fuel s).1).maxInFlight = s.maxInFlight := (nextCancelLoop_frameA fuel s).maxInFlight
@[simp] theorem nextCancelLoop_bufCap (fuel : Nat) (s : St) : ((nextCancelLoop fuel s).1).bufCap = s.bufCap := (nextCancelLoop_frameA fuel s).bufCap
@[simp] theorem nextCancelLoop_ensureLoop (fuel : Nat) (s : St) : ((nextCancelLoop fuel s).1).ensureLoop = s.ensureLoop := (nextCancelLoop_frameA fuel s).ensureLoop
@[simp] theorem nextCancelLoop_t (fuel : Nat) (s : St) : ((nextCancelLoop fuel s).1).t = s.t := (nextCancelLoop_frameA fuel s).t
@[simp] theorem nextCancelLoop_termErr (fuel : Nat) (s : St) : ((nextCancelLoop fuel s).1).termErr = s.termErr := (nextCancelLoop_frameA fuel s).termErr
@[simp] theorem nextCancelLoop_readFused (fuel : Nat) (s : St) : ((nextCancelLoop fuel s).1).readFused = s.readFused := (nextCancelLoop_frameA fuel s).readFused
@[simp] theorem nextCancelLoop_tObs (fuel : Nat) (s : St) : ((nextCancelLoop fuel s).1).obs.filter isT = s.obs.filter isT := (nextCancelLoop_frameA fuel s).tobs

theorem rearmWith_frames (s : St) (id t due : Nat) (r : DelayQ × DelayQ.InsertRes × Bool) :
    Frames s (rearmWith s id t due r).st := by
  unfold rearmWith; split
  · exact .trans ⟨by constructor <;> rfl, by constructor <;> rfl⟩ (.emit rfl)
  · show Frames s (if _ then _ else _)
    split
    · exact .trans ⟨by constructor <;> rfl, by constructor <;> rfl⟩ (wakeDispatch_frames _)
    · exact ⟨by constructor <;> rfl, by constructor <;> rfl⟩

theorem expireWith_frames (s : St) (now : Nat) (r : DelayQ × DelayQ.PollRes) : Frames s (expireWith s now r).st := by
  unfold expireWith; split
  · split
    · split
      · exact rearmWith_frames _ _ _ _ _
      · exact .trans ⟨by constructor <;> rfl, by constructor <;> rfl⟩ (osSend_frames _ _ _)
    · exact ⟨by constructor <;> rfl, by constructor <;> rfl⟩
  · exact ⟨by constructor <;> rfl, by constructor <;> rfl⟩
theorem expireWith_frameA (s : St) (now : Nat) (r : DelayQ × DelayQ.PollRes) : FrameA s (expireWith s now r).st :=
  (expireWith_frames s now r).a

theorem expireStep_frameA (s : St) (now : Nat) : FrameA s (expireStep s now).st := expireWith_frameA _ _ _

theorem pollExpiredLoop_frames (fuel : Nat) (s : St) (now : Nat) : Frames s (pollExpiredLoop fuel s now).1 := by
  induction fuel generalizing s with
  | zero => exact .refl _
  | succ fuel ih =>
    have h : Frames s (expireStep s now).st := expireWith_frames _ _ _
    unfold pollExpiredLoop; split <;> rename_i heq <;> rw [heq] at h
    · exact .trans h (ih _)
    · exact h
theorem pollExpiredLoop_frameA (fuel : Nat) (s : St) (now : Nat) : FrameA s (pollExpiredLoop fuel s now).1 :=
  (pollExpiredLoop_frames fuel s now).a
theorem pollExpiredLoop_frameD (fuel : Nat) (s : St) (now : Nat) : FrameD s (pollExpiredLoop fuel s now).1 :=
  (pollExpiredLoop_frames fuel s now).d

theorem pollExpired_frameA (s : St) (now : Nat) : FrameA s (pollExpired s now).1 :=
  pollExpiredLoop_frameA _ s now
@[simp] theorem pollExpired_k (s : St) (now : Nat) : ((pollExpired s now).1).k = s.k := (pollExpired_frameA s now).k
@[simp] theorem pollExpired_maxInFlight (s : St) (now : Nat) : ((pollExpired s now).1).maxInFlight = s.maxInFlight := (pollExpired_frameA s now).maxInFlight
@[simp] theorem pollExpired_bufCap (s : St) (now : Nat) : ((pollExpired s now).1).bufCap = s.bufCap := (pollExpired_frameA s now).bufCap
@[simp] theorem pollExpired_ensureLoop (s : St) (now : Nat) : ((pollExpired s now).1).ensureLoop = s.ensureLoop := (pollExpired_frameA s now).ensureLoop
@[simp] theorem pollExpired_t (s : St) (now : Nat) : ((pollExpired s now).1).t = s.t := (pollExpired_frameA s now).t
@[simp] theorem pollExpired_termErr (s : St) (now : Nat) : ((pollExpired s now).1).termErr = s.termErr := (pollExpired_frameA s now).termErr
@[simp] theorem pollExpired_readFused (s : St) (now : Nat) : ((pollExpired s now).1).readFused = s.readFused := (pollExpired_frameA s now).readFused
@[simp] theorem pollExpired_tObs (s : St) (now : Nat) : ((pollExpired s now).1).obs.filter isT = s.obs.filter isT := (pollExpired_frameA s now).tobs

theorem failAll_frames (s : St) (a : Activity) : Frames s (failAll s a) := by
  unfold failAll
  exact .trans ⟨by constructor <;> rfl, by constructor <;> rfl⟩ (Frames.foldl _ (fun s e => osSend_frames s _ _) _ _)
theorem failAll_frameA (s : St) (a : Activity) : FrameA s (failAll s a) := (failAll_frames s a).a
theorem failAll_frameD (s : St) (a : Activity) : FrameD s (failAll s a) := (failAll_frames s a).d
@[simp] theorem failAll_k (s : St) (a : Activity) : (failAll s a).k = s.k := (failAll_frameA s a).k
@[simp] theorem failAll_maxInFlight (s : St) (a : Activity) : (failAll s a).maxInFlight = s.maxInFlight := (failAll_frameA s a).maxInFlight
@[simp] theorem failAll_bufCap (s : St) (a : Activity) : (failAll s a).bufCap = s.bufCap := (failAll_frameA s a).bufCap
@[simp] theorem failAll_ensureLoop (s : St) (a : Activity) : (failAll s a).ensureLoop = s.ensureLoop := (failAll_frameA s a).ensureLoop
@[simp] theorem failAll_t (s : St) (a : Activity) : (failAll s a).t = s.t := (failAll_frameA s a).t
@[simp] theorem failAll_termErr (s : St) (a : Activity) : (failAll s a).termErr = s.termErr := (failAll_frameA s a).termErr
@[simp] theorem failAll_readFused (s : St) (a : Activity) : (failAll s a).readFused = s.readFused := (failAll_frameA s a).readFused
@[simp] theorem failAll_tObs (s : St) (a : Activity) : (failAll s a).obs.filter isT = s.obs.filter isT := (failAll_frameA s a).tobs

theorem drainLoop_frames (fuel : Nat) (s : St) (a : Activity) : Frames s (drainLoop fuel s a).1 := by
  induction fuel generalizing s with
  | zero => exact .refl _
  | succ fuel ih =>
    unfold drainLoop
    have h := pqRecv_frames s
    split <;> rename_i heq <;> rw [heq] at h
    · exact h
    · exact h
    · split
      · exact .trans h (ih _)
      · exact .trans (.trans h (osSend_frames _ _ _)) (ih _)
theorem drainLoop_frameA (fuel : Nat) (s : St) (a : Activity) : FrameA s (drainLoop fuel s a).1 := (drainLoop_frames fuel s a).a
theorem drainLoop_frameD (fuel : Nat) (s : St) (a : Activity) : FrameD s (drainLoop fuel s a).1 := (drainLoop_frames fuel s a).d
@[simp] theorem drainLoop_k (fuel : Nat) (s : St) (a : Activity) : ((drainLoop fuel s a).1).k = s.k := (drainLoop_frameA fuel s a).k
@[simp] theorem drainLoop_maxInFlight (fuel : Nat) (s : St) (a : Activity) : ((drainLoop fuel s a).1).maxInFlight = s.maxInFlight := (drainLoop_frameA fuel s a).maxInFlight
@[simp] theorem drainLoop_bufCap (fuel : Nat) (s : St) (a : Activity) : ((drainLoop fuel s a).1).bufCap = s.bufCap := (drainLoop_frameA fuel s a).bufCap
@[simp] theorem drainLoop_ensureLoop (fuel : Nat) (s : St) (a : Activity) : ((drainLoop fuel s a).1).ensureLoop = s.ensureLoop := (drainLoop_frameA fuel s a).ensureLoop
@[simp] theorem drainLoop_t (fuel : Nat) (s : St) (a : Activity) : ((drainLoop fuel s a).1).t = s.t := (drainLoop_frameA fuel s a).t
@[simp] theorem drainLoop_termErr (fuel : Nat) (s : St) (a : Activity) : ((drainLoop fuel s a).1).termErr = s.termErr := (drainLoop_frameA fuel s a).termErr
@[simp] theorem drainLoop_readFused (fuel : Nat) (s : St) (a : Activity) : ((drainLoop fuel s a).1).readFused = s.readFused := (drainLoop_frameA fuel s a).readFused
@[simp] theorem drainLoop_tObs (fuel : Nat) (s : St) (a : Activity) : ((drainLoop fuel s a).1).obs.filter isT = s.obs.filter isT := (drainLoop_frameA fuel s a).tobs

theorem shutDown_frameA (s : St) (a : Activity) : FrameA s (shutDown s a).1 := by
  unfold shutDown
  exact .trans (.trans (pqClose_frameA _) (failAll_frameA _ _)) (drainLoop_frameA _ _ _)
@[simp] theorem shutDown_k (s : St) (a : Activity) : ((shutDown s a).1).k = s.k := (shutDown_frameA s a).k
@[simp] theorem shutDown_maxInFlight (s : St) (a : Activity) : ((shutDown s a).1).maxInFlight = s.maxInFlight := (shutDown_frameA s a).maxInFlight
@[simp] theorem shutDown_bufCap (s : St) (a : Activity) : ((shutDown s a).1).bufCap = s.bufCap := (shutDown_frameA s a).bufCap
@[simp] theorem shutDown_ensureLoop (s : St) (a : Activity) : ((shutDown s a).1).ensureLoop = s.ensureLoop := (shutDown_frameA s a).ensureLoop
@[simp] theorem shutDown_t (s : St) (a : Activity) : ((shutDown s a).1).t = s.t := (shutDown_frameA s a).t
@[simp] theorem shutDown_termErr (s : St) (a : Activity) : ((shutDown s a).1).termErr = s.termErr := (shutDown_frameA s a).termErr
@[simp] theorem shutDown_readFused (s : St) (a : Activity) : ((shutDown s a).1).readFused = s.readFused := (shutDown_frameA s a).readFused
@[simp] theorem shutDown_tObs (s : St) (a : Activity) : ((shutDown s a).1).obs.filter isT = s.obs.filter isT := (shutDown_frameA s a).tobs

theorem dropDispatch_frames (s : St) : Frames s (dropDispatch s) := by
  have hA : ∀ s1 : St, Frames s1 (s1.pq.foldl (fun s r => osDropTx s r.cid)
      { s1 with pq := [], pqAvail := s1.bufCap - s1.pqAssigned.length }) := fun s1 =>
    .trans (s1 := { s1 with pq := [], pqAvail := s1.bufCap - s1.pqAssigned.length })
      ⟨by constructor <;> rfl, ⟨rfl, rfl, rfl, rfl, rfl, rfl, Nat.zero_le _, Nat.le_refl _⟩⟩
      (Frames.foldl _ (fun s r => osDropTx_frames s _) _ _)
  have hB : ∀ s2 : St, Frames s2 (s2.inflight.foldl (fun s e => osDropTx s e.cid)
      { s2 with inflight := [], timers := {} }) := fun s2 =>
    .trans ⟨by constructor <;> rfl, by constructor <;> rfl⟩ (Frames.foldl _ (fun s e => osDropTx_frames s _) _ _)
  have hC : ∀ s3 : St, Frames s3 { s3 with cq := [] } := fun s3 =>
    ⟨by constructor <;> rfl, ⟨rfl, rfl, rfl, rfl, rfl, rfl, Nat.le_refl _, Nat.zero_le _⟩⟩
  unfold dropDispatch; split
  · exact .emit rfl
  · exact .trans (.trans (.trans (.trans ⟨by constructor <;> rfl, by constructor <;> rfl⟩ (pqClose_frames _)) (hA _)) (hB _)) (hC _)
theorem dropDispatch_frameA (s : St) : FrameA s (dropDispatch s) := (dropDispatch_frames s).a
theorem dropDispatch_frameD (s : St) : FrameD s (dropDispatch s) := (dropDispatch_frames s).d
@[simp] theorem dropDispatch_k (s : St) : (dropDispatch s).k = s.k := (dropDispatch_frameA s).k
@[simp] theorem dropDispatch_maxInFlight (s : St) : (dropDispatch s).maxInFlight = s.maxInFlight := (dropDispatch_frameA s).maxInFlight
@[simp] theorem dropDispatch_bufCap (s : St) : (dropDispatch s).bufCap = s.bufCap := (dropDispatch_frameA s).bufCap
@[simp] theorem dropDispatch_ensureLoop (s : St) : (dropDispatch s).ensureLoop = s.ensureLoop := (dropDispatch_frameA s).ensureLoop
@[simp] theorem dropDispatch_t (s : St) : (dropDispatch s).t = s.t := (dropDispatch_frameA s).t
@[simp] theorem dropDispatch_termErr (s : St) : (dropDispatch s).termErr = s.termErr := (dropDispatch_frameA s).termErr
@[simp] theorem dropDispatch_readFused (s : St) : (dropDispatch s).readFused = s.readFused := (dropDispatch_frameA s).readFused
@[simp] theorem dropDispatch_tObs (s : St) : (dropDispatch s).obs.filter isT = s.obs.filter isT := (dropDispatch_frameA s).tobs

theorem onAdvance_frames (s : St) (now : Nat) : Frames s (onAdvance s now) := by
  unfold onAdvance; split
  · split
    · exact .trans ⟨by constructor <;> rfl, by constructor <;> rfl⟩ (wakeDispatch_frames _)
    · exact .refl _
  · exact .refl _
theorem onAdvance_frameA (s : St) (now : Nat) : FrameA s (onAdvance s now) := (onAdvance_frames s now).a
theorem onAdvance_frameD (s : St) (now : Nat) : FrameD s (onAdvance s now) := (onAdvance_frames s now).d
@[simp] theorem onAdvance_k (s : St) (now : Nat) : (onAdvance s now).k = s.k := (onAdvance_frameA s now).k
@[simp] theorem onAdvance_maxInFlight (s : St) (now : Nat) : (onAdvance s now).maxInFlight = s.maxInFlight := (onAdvance_frameA s now).maxInFlight
@[simp] theorem onAdvance_bufCap (s : St) (now : Nat) : (onAdvance s now).bufCap = s.bufCap := (onAdvance_frameA s now).bufCap
@[simp] theorem onAdvance_ensureLoop (s : St) (now : Nat) : (onAdvance s now).ensureLoop = s.ensureLoop := (onAdvance_frameA s now).ensureLoop
@[simp] theorem onAdvance_t (s : St) (now : Nat) : (onAdvance s now).t = s.t := (onAdvance_frameA s now).t
@[simp] theorem onAdvance_termErr (s : St) (now : Nat) : (onAdvance s now).termErr = s.termErr := (onAdvance_frameA s now).termErr
@[simp] theorem onAdvance_readFused (s : St) (now : Nat) : (onAdvance s now).readFused = s.readFused := (onAdvance_frameA s now).readFused
@[simp] theorem onAdvance_tObs (s : St) (now : Nat) : (onAdvance s now).obs.filter isT = s.obs.filter isT := (onAdvance_frameA s now).tobs

/-! ### case principles for the pumps -/

/-- what `ensure_writeable` makes of the result of `poll_ready` -/
def readyEW : PollRes → EW
  | .ready => .ready
  | .err => .err .ready
  | .pending => .pending

theorem ensureOnce_cases {motive : St × EW → Prop} (s : St)
    (ready : ∀ s1, tReady s = (s1, .ready) → motive (s1, .ready))
    (readyErr : ∀ s1, tReady s = (s1, .err) → motive (s1, .err .ready))
    (flushPending : ∀ s1 s2, tReady s = (s1, .pending) → tFlush s1 = (s2, .pending) → motive (s2, .pending))
    (flushErr : ∀ s1 s2, tReady s = (s1, .pending) → tFlush s1 = (s2, .err) → motive (s2, .err .flush))
    (again : ∀ s1 s2 s3 r, tReady s = (s1, .pending) → tFlush s1 = (s2, .ready) → tReady s2 = (s3, r) →
      motive (s3, readyEW r)) :
    motive (ensureOnce s) := by
  unfold ensureOnce
  rcases h1 : tReady s with ⟨s1, r1⟩
  cases r1 <;> dsimp only
  · rcases h2 : tFlush s1 with ⟨s2, f⟩
    cases f <;> dsimp only
    · exact flushPending _ _ h1 h2
    · rcases h3 : tReady s2 with ⟨s3, r3⟩
      have := again _ _ _ _ h1 h2 h3
      cases r3 <;> exact this
    · exact flushErr _ _ h1 h2
  · exact ready _ h1
  · exact readyErr _ h1

theorem ensureLoop_zero (s : St) : ensureLoop 0 s = (emit s (.spin (tid s)), .spin) := rfl

theorem ensureLoop_cases {motive : St × EW → Prop} (fuel : Nat) (s : St)
    (ready : ∀ s1, tReady s = (s1, .ready) → motive (s1, .ready))
    (readyErr : ∀ s1, tReady s = (s1, .err) → motive (s1, .err .ready))
    (flushPending : ∀ s1 s2, tReady s = (s1, .pending) → tFlush s1 = (s2, .pending) → motive (s2, .pending))
    (flushErr : ∀ s1 s2, tReady s = (s1, .pending) → tFlush s1 = (s2, .err) → motive (s2, .err .flush))
    (again : ∀ s1 s2, tReady s = (s1, .pending) → tFlush s1 = (s2, .ready) → motive (ensureLoop fuel s2)) :
    motive (ensureLoop (fuel + 1) s) := by
  unfold ensureLoop
  rcases h1 : tReady s with ⟨s1, r1⟩
  cases r1 <;> dsimp only
  · rcases h2 : tFlush s1 with ⟨s2, f⟩
    cases f <;> dsimp only
    · exact flushPending _ _ h1 h2
    · exact again _ _ h1 h2
    · exact flushErr _ _ h1 h2
  · exact ready _ h1
  · exact readyErr _ h1

/-- `ensure_writeable`'s result as the `poll_next_…` helpers pass it on. -/
def _root_.TarpcModel.Client.EW.toPW {α : Type} : EW → PW α
  | .ready => .pending      -- never reached: the case principles call it only with `e ≠ .ready`
  | .pending => .pending
  | .err a => .err a
  | .spin => .spin

theorem pollNextRequest_cases {motive : St × PW DReq → Prop} (s : St)
    (full : s.inflight.length ≥ s.maxInFlight → motive (s, .pending))
    (notReady : ∀ s1 e, ¬ s.inflight.length ≥ s.maxInFlight → ensureWriteable s = (s1, e) → e ≠ .ready →
      motive (s1, e.toPW))
    (loop : ∀ s1, ¬ s.inflight.length ≥ s.maxInFlight → ensureWriteable s = (s1, .ready) →
      motive (nextRequestLoop (s1.pq.length + 1) s1)) :
    motive (pollNextRequest s) := by
  unfold pollNextRequest
  split
  · exact full ‹_›
  · rename_i hf
    rcases h1 : ensureWriteable s with ⟨s1, e⟩
    cases e <;> dsimp only
    · exact loop _ hf h1
    · exact notReady _ _ hf h1 (by simp)
    · exact notReady _ _ hf h1 (by simp)
    · exact notReady _ _ hf h1 (by simp)

theorem pollNextCancellation_cases {motive : St × PW Entry → Prop} (s : St)
    (notReady : ∀ s1 e, ensureWriteable s = (s1, e) → e ≠ .ready → motive (s1, e.toPW))
    (loop : ∀ s1, ensureWriteable s = (s1, .ready) → motive (nextCancelLoop (s1.cq.length + 1) s1)) :
    motive (pollNextCancellation s) := by
  unfold pollNextCancellation
  rcases h1 : ensureWriteable s with ⟨s1, e⟩
  cases e <;> dsimp only
  · exact loop _ h1
  · exact notReady _ _ h1 (by simp)
  · exact notReady _ _ h1 (by simp)
  · exact notReady _ _ h1 (by simp)

/-- A `poll_next_…` result that carries no item, as the `poll_write_…` caller passes it on. -/
def _root_.TarpcModel.Client.PW.pass {α β : Type} : PW α → PW β
  | .pending => .pending
  | .none => .none
  | .err a => .err a
  | .spin => .spin
  | .some _ => .spin       -- never reached: the case principles call it only with `r.isSome = false`

def _root_.TarpcModel.Client.PW.isSome {α : Type} : PW α → Bool
  | .some _ => true
  | _ => false

/-- so the `none` arm of `pollWriteRequest` is never taken: a panic is `some` of a poisoned state -/
theorem insertRequest_isSome (s : St) (now : Nat) (r : DReq) : ∃ s', insertRequest s now r = some s' := by
  unfold insertRequest; split
  · exact ⟨_, rfl⟩
  · split <;> exact ⟨_, rfl⟩

theorem pollWriteRequest_cases {motive : St × PW Unit → Prop} (s : St) (now : Nat)
    (pass : ∀ s1 r, pollNextRequest s = (s1, r) → r.isSome = false → motive (s1, r.pass))
    (panic : ∀ s1 r s2, pollNextRequest s = (s1, .some r) → insertRequest s1 now r = some s2 →
      s2.poisoned = true → motive (s2, .spin))
    (sent : ∀ s1 r s2 s3, pollNextRequest s = (s1, .some r) → insertRequest s1 now r = some s2 →
      s2.poisoned = false → tSend s2 (.request r.id r.ctx.deadline r.ctx.trace r.body) = (s3, true) →
      motive (s3, .some ()))
    (sendFailed : ∀ s1 r s2 s3, pollNextRequest s = (s1, .some r) → insertRequest s1 now r = some s2 →
      s2.poisoned = false → tSend s2 (.request r.id r.ctx.deadline r.ctx.trace r.body) = (s3, false) →
      motive ((completeRequest s3 r.id .send).1, .some ())) :
    motive (pollWriteRequest s now) := by
  unfold pollWriteRequest
  rcases h1 : pollNextRequest s with ⟨s1, r1⟩
  cases r1 <;> dsimp only
  · exact pass _ _ h1 rfl
  · exact pass _ _ h1 rfl
  · rename_i r
    obtain ⟨s2, h2⟩ := insertRequest_isSome s1 now r
    rw [h2]; dsimp only
    by_cases hp : s2.poisoned = true
    · rw [if_pos hp]; exact panic _ _ _ h1 h2 hp
    · rw [if_neg hp]
      rcases h3 : tSend s2 (.request r.id r.ctx.deadline r.ctx.trace r.body) with ⟨s3, ok⟩
      dsimp only
      cases ok
      · rw [if_neg (by simp)]; exact sendFailed _ _ _ _ h1 h2 (by simpa using hp) h3
      · rw [if_pos rfl]; exact sent _ _ _ _ h1 h2 (by simpa using hp) h3
  · exact pass _ _ h1 rfl
  · exact pass _ _ h1 rfl

theorem pollWriteCancel_cases {motive : St × PW Unit → Prop} (s : St)
    (pass : ∀ s1 r, pollNextCancellation s = (s1, r) → r.isSome = false → motive (s1, r.pass))
    (sent : ∀ s1 e s2, pollNextCancellation s = (s1, .some e) → tSend s1 (.cancel e.id e.ctx.trace) = (s2, true) →
      motive (s2, .some ()))
    (sendFailed : ∀ s1 e s2, pollNextCancellation s = (s1, .some e) →
      tSend s1 (.cancel e.id e.ctx.trace) = (s2, false) → motive (s2, .err .write)) :
    motive (pollWriteCancel s) := by
  unfold pollWriteCancel
  rcases h1 : pollNextCancellation s with ⟨s1, r1⟩
  cases r1 <;> dsimp only
  · exact pass _ _ h1 rfl
  · exact pass _ _ h1 rfl
  · rename_i e
    rcases h3 : tSend s1 (.cancel e.id e.ctx.trace) with ⟨s3, ok⟩
    dsimp only
    cases ok
    · rw [if_neg (by simp)]; exact sendFailed _ _ _ h1 h3
    · rw [if_pos rfl]; exact sent _ _ _ h1 h3
  · exact pass _ _ h1 rfl
  · exact pass _ _ h1 rfl

/-- The write pump stops with this status (an item was written, or an error / spin). -/
def _root_.TarpcModel.Client.PW.isStop : PW Unit → Bool
  | .err _ | .spin | .some _ => true
  | _ => false

/-- what `pump_write` makes of the result of `poll_close` -/
def closePW : PollRes → PW Unit
  | .pending => .pending
  | .err => .err .close
  | .ready => .none

/-- what `pump_write` makes of the result of its final `poll_flush` -/
def flushPW : PollRes → PW Unit
  | .pending => .pending
  | .err => .err .flush
  | .ready => .pending

theorem _root_.TarpcModel.Client.PW.not_isStop {r : PW Unit} (h : r.isStop = false) : r = .pending ∨ r = .none := by
  cases r <;> simp_all [PW.isStop]

theorem pumpWrite_cases {motive : St × PW Unit → Prop} (s : St) (now : Nat)
    (req : ∀ s1 r1, pollWriteRequest s now = (s1, r1) → r1.isStop = true → motive (s1, r1))
    (can : ∀ s1 r1 s2 r2, pollWriteRequest s now = (s1, r1) → r1.isStop = false →
      pollWriteCancel s1 = (s2, r2) → r2.isStop = true → motive (s2, r2))
    (expired : ∀ s1 r1 s2 r2 s3, pollWriteRequest s now = (s1, r1) → r1.isStop = false →
      pollWriteCancel s1 = (s2, r2) → r2.isStop = false → pollExpired s2 now = (s3, true) → motive (s3, .some ()))
    (poison : ∀ s1 r1 s2 r2 s3, pollWriteRequest s now = (s1, r1) → r1.isStop = false →
      pollWriteCancel s1 = (s2, r2) → r2.isStop = false → pollExpired s2 now = (s3, false) → s3.poisoned = true →
      motive (s3, .spin))
    (close : ∀ s1 s2 s3 s4 r4, pollWriteRequest s now = (s1, .none) → pollWriteCancel s1 = (s2, .none) →
      pollExpired s2 now = (s3, false) → tClose s3 = (s4, r4) → motive (s4, closePW r4))
    (flush : ∀ s1 r1 s2 r2 s3 s4 r4, pollWriteRequest s now = (s1, r1) → r1.isStop = false →
      pollWriteCancel s1 = (s2, r2) → r2.isStop = false → (r1 = .pending ∨ r2 = .pending) →
      pollExpired s2 now = (s3, false) → tFlush s3 = (s4, r4) → motive (s4, flushPW r4)) :
    motive (pumpWrite s now) := by
  unfold pumpWrite
  rcases h1 : pollWriteRequest s now with ⟨s1, r1⟩
  have hreq := req _ _ h1
  cases r1
  case some u => cases u; exact hreq rfl
  case err a => exact hreq rfl
  case spin => exact hreq rfl
  all_goals
    dsimp only
    rcases h2 : pollWriteCancel s1 with ⟨s2, r2⟩
    have hcan := can _ _ _ _ h1 rfl h2
    cases r2
    case some u => cases u; exact hcan rfl
    case err a => exact hcan rfl
    case spin => exact hcan rfl
    all_goals
      dsimp only
      rcases h3 : pollExpired s2 now with ⟨s3, exp⟩
      dsimp only
      cases exp
      case true => rw [if_pos rfl]; exact expired _ _ _ _ _ h1 rfl h2 rfl h3
      case false =>
        rw [if_neg (by simp)]
        by_cases hpo : s3.poisoned = true
        · rw [if_pos hpo]; exact poison _ _ _ _ _ h1 rfl h2 rfl h3 hpo
        rw [if_neg hpo]
        simp only [Bool.false_eq_true, ↓reduceIte, Bool.and_self, Bool.and_false, Bool.and_true]
        first
          | (rcases h4 : tClose s3 with ⟨s4, r4⟩
             have := close _ _ _ _ _ h1 h2 h3 h4
             cases r4 <;> exact this)
          | (rcases h4 : tFlush s3 with ⟨s4, r4⟩
             have := flush _ _ _ _ _ _ _ h1 rfl h2 rfl (by simp) h3 h4
             cases r4 <;> exact this)

theorem pumpRead_cases {motive : St × PW Unit → Prop} (s : St)
    (pending : ∀ s1, tNext s = (s1, .pending) → motive (s1, .pending))
    (eof : ∀ s1, tNext s = (s1, .eof) → motive (s1, .none))
    (err : ∀ s1, tNext s = (s1, .err) → motive (s1, .err .read))
    (response : ∀ s1 id res, tNext s = (s1, .item (.response id res)) →
      motive ((completeRequest s1 id (outcomeOf res)).1, .some ()))
    (other : ∀ s1 m, tNext s = (s1, .item m) → (∀ id res, m ≠ .response id res) → motive (s1, .some ())) :
    motive (pumpRead s) := by
  unfold pumpRead
  rcases h1 : tNext s with ⟨s1, r⟩
  cases r <;> try dsimp only
  · exact pending _ h1
  · rename_i m
    cases m <;> try dsimp only
    · exact other _ _ h1 (by simp)
    · exact other _ _ h1 (by simp)
    · exact response _ _ _ h1
  · exact err _ h1
  · exact eof _ h1

theorem run_zero (s : St) (now : Nat) : run 0 s now = (emit s (.spin (tid s)), .spin) := rfl

theorem run_cases {motive : St × RunRes → Prop} (fuel : Nat) (s : St) (now : Nat)
    (readErr : ∀ s1 a, pumpRead s = (s1, .err a) → motive (s1, .err a))
    (readSpin : ∀ s1, pumpRead s = (s1, .spin) → motive (s1, .spin))
    (writeErr : ∀ s1 rd s2 a, pumpRead s = (s1, rd) → pumpWrite s1 now = (s2, .err a) → motive (s2, .err a))
    (writeSpin : ∀ s1 rd s2, pumpRead s = (s1, rd) → pumpWrite s1 now = (s2, .spin) → motive (s2, .spin))
    (readEof : ∀ s1 s2 wr, pumpRead s = (s1, .none) → pumpWrite s1 now = (s2, wr) →
      wr = .pending ∨ wr = .none ∨ wr = .some () → motive (s2, .ok))
    (closedOk : ∀ s1 rd s2, pumpRead s = (s1, rd) → rd = .pending ∨ rd = .some () → pumpWrite s1 now = (s2, .none) →
      s2.inflight.isEmpty = true → motive (s2, .ok))
    (closedPending : ∀ s1 s2, pumpRead s = (s1, .pending) → pumpWrite s1 now = (s2, .none) →
      s2.inflight.isEmpty = false → motive (s2, .pending))
    (again : ∀ s1 rd s2 wr, pumpRead s = (s1, rd) → pumpWrite s1 now = (s2, wr) →
      (rd = .some () ∧ (wr = .pending ∨ wr = .some () ∨ (wr = .none ∧ s2.inflight.isEmpty = false))) ∨
        (rd = .pending ∧ wr = .some ()) →
      motive (run fuel s2 now))
    (idle : ∀ s1 s2, pumpRead s = (s1, .pending) → pumpWrite s1 now = (s2, .pending) → motive (s2, .pending)) :
    motive (run (fuel + 1) s now) := by
  unfold run
  rcases h1 : pumpRead s with ⟨s1, rd⟩
  cases rd
  case err a => exact readErr _ _ h1
  case spin => exact readSpin _ h1
  all_goals
    dsimp only
    rcases h2 : pumpWrite s1 now with ⟨s2, wr⟩
    cases wr
    case err a => exact writeErr _ _ _ _ h1 h2
    case spin => exact writeSpin _ _ _ h1 h2
    all_goals dsimp only
  -- rd = pending
  · exact idle _ _ h1 h2
  · by_cases he : s2.inflight.isEmpty = true
    · rw [if_pos he]; exact closedOk _ _ _ h1 (.inl rfl) h2 he
    · rw [if_neg he]; exact closedPending _ _ h1 h2 (by simpa using he)
  · rename_i u; cases u; exact again _ _ _ _ h1 h2 (.inr ⟨rfl, rfl⟩)
  -- rd = none
  · exact readEof _ _ _ h1 h2 (.inl rfl)
  · exact readEof _ _ _ h1 h2 (.inr (.inl rfl))
  · rename_i u; cases u; exact readEof _ _ _ h1 h2 (.inr (.inr rfl))
  -- rd = some
  · rename_i u; cases u; exact again _ _ _ _ h1 h2 (.inl ⟨rfl, .inl rfl⟩)
  · rename_i u; cases u
    by_cases he : s2.inflight.isEmpty = true
    · rw [if_pos he]; exact closedOk _ _ _ h1 (.inr rfl) h2 he
    · rw [if_neg he]; exact again _ _ _ _ h1 h2 (.inl ⟨rfl, .inr (.inr ⟨rfl, by simpa using he⟩)⟩)
  · rename_i u u2; cases u; cases u2; exact again _ _ _ _ h1 h2 (.inl ⟨rfl, .inr (.inl rfl)⟩)

theorem pollDispatchCore_cases {motive : St × Ret → Prop} (s : St) (now : Nat)
    (shut : ∀ a s1 fin, s.termErr = some a → shutDown s a = (s1, fin) →
      motive (s1, if fin then .readyErr a else .pending))
    (pending : ∀ s1, s.termErr = none → run (runFuel s) s now = (s1, .pending) → motive (s1, .pending))
    (ok : ∀ s1, s.termErr = none → run (runFuel s) s now = (s1, .ok) → motive (s1, .readyOk))
    (spin : ∀ s1, s.termErr = none → run (runFuel s) s now = (s1, .spin) →
      motive ({ s1 with poisoned := true }, .pending))
    (err : ∀ s1 a s2 fin, s.termErr = none → run (runFuel s) s now = (s1, .err a) →
      shutDown { s1 with termErr := some a } a = (s2, fin) → motive (s2, if fin then .readyErr a else .pending)) :
    motive (pollDispatchCore s now) := by
  unfold pollDispatchCore
  split
  · rename_i a ht
    rcases h1 : shutDown s a with ⟨s1, fin⟩
    exact shut _ _ _ ht h1
  · rename_i ht
    rcases h1 : run (runFuel s) s now with ⟨s1, r⟩
    cases r <;> dsimp only
    · exact pending _ ht h1
    · exact ok _ ht h1
    · rename_i a
      rcases h2 : shutDown { s1 with termErr := some a } a with ⟨s2, fin⟩
      exact err _ _ _ _ ht h1 h2
    · exact spin _ ht h1

/-! ### `pollDispatchKeep` in pieces -/

def isSpinObs : Obs → Bool
  | .spin _ => true
  | _ => false

/-- The bookkeeping at the end of a dispatch poll: a poll that spun is truncated to one `spin` observation
and the dispatch is poisoned; otherwise the result and the table sizes are observed. -/
def keepFinish (obs0 : List Obs) (s : St) (r : Ret) : St :=
  if (s.obs.any isSpinObs && !(obs0.any isSpinObs)) = true then
    { s with obs := .spin (tid s) :: obs0, poisoned := true }
  else if s.poisoned = true then s
  else emit (emit s (.ret (tid s) r)) (.counts (tid s) s.inflight.length s.timers.len)

/-- the last step of a dispatch poll -/
def keepDone (r : Ret) (s : St) : St :=
  match r with
  | .pending => s
  | _ => { s with done := some r }

theorem pollDispatchKeep_eq (s : St) (now : Nat) : pollDispatchKeep s now =
    if (s.dDropped || s.done.isSome || s.poisoned) = true then emit s .noop
    else keepDone (pollDispatchCore { s with dWoken := false } now).2
      (keepFinish s.obs (pollDispatchCore { s with dWoken := false } now).1
        (pollDispatchCore { s with dWoken := false } now).2) := by
  unfold pollDispatchKeep
  split
  · rfl
  · dsimp only
    rcases pollDispatchCore { s with dWoken := false } now with ⟨s1, r⟩
    cases r <;> rfl

theorem pollDispatch_eq (s : St) (now : Nat) : pollDispatch s now =
    if ((pollDispatchKeep s now).done.isSome && !(pollDispatchKeep s now).dDropped) = true then
      dropDispatch (pollDispatchKeep s now)
    else pollDispatchKeep s now := rfl

/-! ### `FrameD`: projections, and the frames of `guardClose`, `emitViolations`, `tEmit`, `tNext` -/

@[simp] theorem wakeDispatch_handles (s : St) : (wakeDispatch s).handles = s.handles := (wakeDispatch_frameD s).handles
@[simp] theorem wakeDispatch_sigs (s : St) : (wakeDispatch s).calls.map callSig = s.calls.map callSig := (wakeDispatch_frameD s).sigs
@[simp] theorem wakeDispatch_senders (s : St) : senders (wakeDispatch s) = senders s := (wakeDispatch_frameD s).senders
theorem wakeDispatch_pq_le (s : St) : (wakeDispatch s).pq.length ≤ s.pq.length := (wakeDispatch_frameD s).pq
theorem wakeDispatch_cq_le (s : St) : (wakeDispatch s).cq.length ≤ s.cq.length := (wakeDispatch_frameD s).cq

@[simp] theorem wakeCall_handles (s : St) (cid : Nat) : (wakeCall s cid).handles = s.handles := (wakeCall_frameD s cid).handles
@[simp] theorem wakeCall_sigs (s : St) (cid : Nat) : (wakeCall s cid).calls.map callSig = s.calls.map callSig := (wakeCall_frameD s cid).sigs
@[simp] theorem wakeCall_senders (s : St) (cid : Nat) : senders (wakeCall s cid) = senders s := (wakeCall_frameD s cid).senders
theorem wakeCall_pq_le (s : St) (cid : Nat) : (wakeCall s cid).pq.length ≤ s.pq.length := (wakeCall_frameD s cid).pq
theorem wakeCall_cq_le (s : St) (cid : Nat) : (wakeCall s cid).cq.length ≤ s.cq.length := (wakeCall_frameD s cid).cq

@[simp] theorem osSend_handles (s : St) (cid : Nat) (o : Outcome) : (osSend s cid o).handles = s.handles := (osSend_frameD s cid o).handles
@[simp] theorem osSend_sigs (s : St) (cid : Nat) (o : Outcome) : (osSend s cid o).calls.map callSig = s.calls.map callSig := (osSend_frameD s cid o).sigs
@[simp] theorem osSend_senders (s : St) (cid : Nat) (o : Outcome) : senders (osSend s cid o) = senders s := (osSend_frameD s cid o).senders
theorem osSend_pq_le (s : St) (cid : Nat) (o : Outcome) : (osSend s cid o).pq.length ≤ s.pq.length := (osSend_frameD s cid o).pq
theorem osSend_cq_le (s : St) (cid : Nat) (o : Outcome) : (osSend s cid o).cq.length ≤ s.cq.length := (osSend_frameD s cid o).cq

@[simp] theorem osDropTx_handles (s : St) (cid : Nat) : (osDropTx s cid).handles = s.handles := (osDropTx_frameD s cid).handles
@[simp] theorem osDropTx_sigs (s : St) (cid : Nat) : (osDropTx s cid).calls.map callSig = s.calls.map callSig := (osDropTx_frameD s cid).sigs
@[simp] theorem osDropTx_senders (s : St) (cid : Nat) : senders (osDropTx s cid) = senders s := (osDropTx_frameD s cid).senders
theorem osDropTx_pq_le (s : St) (cid : Nat) : (osDropTx s cid).pq.length ≤ s.pq.length := (osDropTx_frameD s cid).pq
theorem osDropTx_cq_le (s : St) (cid : Nat) : (osDropTx s cid).cq.length ≤ s.cq.length := (osDropTx_frameD s cid).cq

theorem guardClose_frameD (s : St) (cid : Nat) : FrameD s (guardClose s cid) :=
  updCall_frameD _ _ _ (by intro c; rfl)
@[simp] theorem guardClose_handles (s : St) (cid : Nat) : (guardClose s cid).handles = s.handles := (guardClose_frameD s cid).handles
@[simp] theorem guardClose_sigs (s : St) (cid : Nat) : (guardClose s cid).calls.map callSig = s.calls.map callSig := (guardClose_frameD s cid).sigs
@[simp] theorem guardClose_senders (s : St) (cid : Nat) : senders (guardClose s cid) = senders s := (guardClose_frameD s cid).senders
theorem guardClose_pq_le (s : St) (cid : Nat) : (guardClose s cid).pq.length ≤ s.pq.length := (guardClose_frameD s cid).pq
theorem guardClose_cq_le (s : St) (cid : Nat) : (guardClose s cid).cq.length ≤ s.cq.length := (guardClose_frameD s cid).cq

@[simp] theorem pqRelease_handles (s : St) : (pqRelease s).handles = s.handles := (pqRelease_frameD s).handles
@[simp] theorem pqRelease_sigs (s : St) : (pqRelease s).calls.map callSig = s.calls.map callSig := (pqRelease_frameD s).sigs
@[simp] theorem pqRelease_senders (s : St) : senders (pqRelease s) = senders s := (pqRelease_frameD s).senders
theorem pqRelease_pq_le (s : St) : (pqRelease s).pq.length ≤ s.pq.length := (pqRelease_frameD s).pq
theorem pqRelease_cq_le (s : St) : (pqRelease s).cq.length ≤ s.cq.length := (pqRelease_frameD s).cq

@[simp] theorem pqRecv_handles (s : St) : ((pqRecv s).1).handles = s.handles := (pqRecv_frameD s).handles
@[simp] theorem pqRecv_sigs (s : St) : ((pqRecv s).1).calls.map callSig = s.calls.map callSig := (pqRecv_frameD s).sigs
@[simp] theorem pqRecv_senders (s : St) : senders ((pqRecv s).1) = senders s := (pqRecv_frameD s).senders
theorem pqRecv_pq_le (s : St) : ((pqRecv s).1).pq.length ≤ s.pq.length := (pqRecv_frameD s).pq
theorem pqRecv_cq_le (s : St) : ((pqRecv s).1).cq.length ≤ s.cq.length := (pqRecv_frameD s).cq

@[simp] theorem pqClose_handles (s : St) : (pqClose s).handles = s.handles := (pqClose_frameD s).handles
@[simp] theorem pqClose_sigs (s : St) : (pqClose s).calls.map callSig = s.calls.map callSig := (pqClose_frameD s).sigs
@[simp] theorem pqClose_senders (s : St) : senders (pqClose s) = senders s := (pqClose_frameD s).senders
theorem pqClose_pq_le (s : St) : (pqClose s).pq.length ≤ s.pq.length := (pqClose_frameD s).pq
theorem pqClose_cq_le (s : St) : (pqClose s).cq.length ≤ s.cq.length := (pqClose_frameD s).cq

@[simp] theorem cqRecv_handles (s : St) : ((cqRecv s).1).handles = s.handles := (cqRecv_frameD s).handles
@[simp] theorem cqRecv_sigs (s : St) : ((cqRecv s).1).calls.map callSig = s.calls.map callSig := (cqRecv_frameD s).sigs
@[simp] theorem cqRecv_senders (s : St) : senders ((cqRecv s).1) = senders s := (cqRecv_frameD s).senders
theorem cqRecv_pq_le (s : St) : ((cqRecv s).1).pq.length ≤ s.pq.length := (cqRecv_frameD s).pq
theorem cqRecv_cq_le (s : St) : ((cqRecv s).1).cq.length ≤ s.cq.length := (cqRecv_frameD s).cq

@[simp] theorem removeTimer_handles (s : St) (key : Nat) : (removeTimer s key).handles = s.handles := (removeTimer_frameD s key).handles
@[simp] theorem removeTimer_sigs (s : St) (key : Nat) : (removeTimer s key).calls.map callSig = s.calls.map callSig := (removeTimer_frameD s key).sigs
@[simp] theorem removeTimer_senders (s : St) (key : Nat) : senders (removeTimer s key) = senders s := (removeTimer_frameD s key).senders
theorem removeTimer_pq_le (s : St) (key : Nat) : (removeTimer s key).pq.length ≤ s.pq.length := (removeTimer_frameD s key).pq
theorem removeTimer_cq_le (s : St) (key : Nat) : (removeTimer s key).cq.length ≤ s.cq.length := (removeTimer_frameD s key).cq

@[simp] theorem completeRequest_handles (s : St) (id : Nat) (o : Outcome) : ((completeRequest s id o).1).handles = s.handles := (completeRequest_frameD s id o).handles
@[simp] theorem completeRequest_sigs (s : St) (id : Nat) (o : Outcome) : ((completeRequest s id o).1).calls.map callSig = s.calls.map callSig := (completeRequest_frameD s id o).sigs
@[simp] theorem completeRequest_senders (s : St) (id : Nat) (o : Outcome) : senders ((completeRequest s id o).1) = senders s := (completeRequest_frameD s id o).senders
theorem completeRequest_pq_le (s : St) (id : Nat) (o : Outcome) : ((completeRequest s id o).1).pq.length ≤ s.pq.length := (completeRequest_frameD s id o).pq
theorem completeRequest_cq_le (s : St) (id : Nat) (o : Outcome) : ((completeRequest s id o).1).cq.length ≤ s.cq.length := (completeRequest_frameD s id o).cq

@[simp] theorem cancelRequest_handles (s : St) (id : Nat) : ((cancelRequest s id).1).handles = s.handles := (cancelRequest_frameD s id).handles
@[simp] theorem cancelRequest_sigs (s : St) (id : Nat) : ((cancelRequest s id).1).calls.map callSig = s.calls.map callSig := (cancelRequest_frameD s id).sigs
@[simp] theorem cancelRequest_senders (s : St) (id : Nat) : senders ((cancelRequest s id).1) = senders s := (cancelRequest_frameD s id).senders
theorem cancelRequest_pq_le (s : St) (id : Nat) : ((cancelRequest s id).1).pq.length ≤ s.pq.length := (cancelRequest_frameD s id).pq
theorem cancelRequest_cq_le (s : St) (id : Nat) : ((cancelRequest s id).1).cq.length ≤ s.cq.length := (cancelRequest_frameD s id).cq

theorem emitViolations_frameD (s : St) (n : Nat) : FrameD s (emitViolations s n) := by
  unfold emitViolations
  exact FrameD.foldl _ (fun s w => emit_frameD _ _) _ _
@[simp] theorem emitViolations_k (s : St) (n : Nat) : (emitViolations s n).k = s.k := (emitViolations_frameD s n).k
@[simp] theorem emitViolations_maxInFlight (s : St) (n : Nat) : (emitViolations s n).maxInFlight = s.maxInFlight := (emitViolations_frameD s n).maxInFlight
@[simp] theorem emitViolations_bufCap (s : St) (n : Nat) : (emitViolations s n).bufCap = s.bufCap := (emitViolations_frameD s n).bufCap
@[simp] theorem emitViolations_ensureLoop (s : St) (n : Nat) : (emitViolations s n).ensureLoop = s.ensureLoop := (emitViolations_frameD s n).ensureLoop
@[simp] theorem emitViolations_handles (s : St) (n : Nat) : (emitViolations s n).handles = s.handles := (emitViolations_frameD s n).handles
@[simp] theorem emitViolations_sigs (s : St) (n : Nat) : (emitViolations s n).calls.map callSig = s.calls.map callSig := (emitViolations_frameD s n).sigs
@[simp] theorem emitViolations_senders (s : St) (n : Nat) : senders (emitViolations s n) = senders s := (emitViolations_frameD s n).senders
theorem emitViolations_pq_le (s : St) (n : Nat) : (emitViolations s n).pq.length ≤ s.pq.length := (emitViolations_frameD s n).pq
theorem emitViolations_cq_le (s : St) (n : Nat) : (emitViolations s n).cq.length ≤ s.cq.length := (emitViolations_frameD s n).cq

/-- What each of `tReady/tFlush/tClose/tSend` does to the state once the transport has answered. -/
def tEmit (s : St) (t' : SimT) (o : Obs) (w : Bool) : St :=
  let s1 := emit (emitViolations { s with t := t' } s.t.violations.length) o
  if w then wakeDispatch s1 else s1

theorem tReady_eq (s : St) : tReady s =
    (tEmit s s.t.pollReady.1 (.tReady (tid s) s.t.pollReady.2.1) s.t.pollReady.2.2, s.t.pollReady.2.1) := rfl
theorem tFlush_eq (s : St) : tFlush s =
    (tEmit s s.t.pollFlush.1 (.tFlush (tid s) s.t.pollFlush.2.1) s.t.pollFlush.2.2, s.t.pollFlush.2.1) := rfl
theorem tClose_eq (s : St) : tClose s =
    (tEmit s s.t.pollClose.1 (.tClose (tid s) s.t.pollClose.2.1) s.t.pollClose.2.2, s.t.pollClose.2.1) := rfl
theorem tSend_eq (s : St) (m : Msg) : tSend s m =
    (tEmit s (s.t.startSend m).1 (.tSend (tid s) m (s.t.startSend m).2) false, (s.t.startSend m).2) := rfl

theorem tEmit_frameD (s : St) (t' : SimT) (o : Obs) (w : Bool) : FrameD s (tEmit s t' o w) := by
  have h : FrameD s (emit (emitViolations { s with t := t' } s.t.violations.length) o) :=
    .trans (.trans (by constructor <;> rfl) (emitViolations_frameD _ _)) (emit_frameD _ _)
  unfold tEmit; dsimp only; split
  · exact h.trans (wakeDispatch_frameD _)
  · exact h

theorem tReady_frameD (s : St) : FrameD s (tReady s).1 := tEmit_frameD _ _ _ _
theorem tFlush_frameD (s : St) : FrameD s (tFlush s).1 := tEmit_frameD _ _ _ _
theorem tClose_frameD (s : St) : FrameD s (tClose s).1 := tEmit_frameD _ _ _ _
theorem tSend_frameD (s : St) (m : Msg) : FrameD s (tSend s m).1 := by
  rw [tSend_eq]; exact tEmit_frameD s (s.t.startSend m).1 _ false

@[simp] theorem tReady_k (s : St) : ((tReady s).1).k = s.k := (tReady_frameD s).k
@[simp] theorem tReady_maxInFlight (s : St) : ((tReady s).1).maxInFlight = s.maxInFlight := (tReady_frameD s).maxInFlight
@[simp] theorem tReady_bufCap (s : St) : ((tReady s).1).bufCap = s.bufCap := (tReady_frameD s).bufCap
@[simp] theorem tReady_ensureLoop (s : St) : ((tReady s).1).ensureLoop = s.ensureLoop := (tReady_frameD s).ensureLoop
@[simp] theorem tReady_handles (s : St) : ((tReady s).1).handles = s.handles := (tReady_frameD s).handles
@[simp] theorem tReady_sigs (s : St) : ((tReady s).1).calls.map callSig = s.calls.map callSig := (tReady_frameD s).sigs
@[simp] theorem tReady_senders (s : St) : senders ((tReady s).1) = senders s := (tReady_frameD s).senders
theorem tReady_pq_le (s : St) : ((tReady s).1).pq.length ≤ s.pq.length := (tReady_frameD s).pq
theorem tReady_cq_le (s : St) : ((tReady s).1).cq.length ≤ s.cq.length := (tReady_frameD s).cq

@[simp] theorem tFlush_k (s : St) : ((tFlush s).1).k = s.k := (tFlush_frameD s).k
@[simp] theorem tFlush_maxInFlight (s : St) : ((tFlush s).1).maxInFlight = s.maxInFlight := (tFlush_frameD s).maxInFlight
@[simp] theorem tFlush_bufCap (s : St) : ((tFlush s).1).bufCap = s.bufCap := (tFlush_frameD s).bufCap
@[simp] theorem tFlush_ensureLoop (s : St) : ((tFlush s).1).ensureLoop = s.ensureLoop := (tFlush_frameD s).ensureLoop
@[simp] theorem tFlush_handles (s : St) : ((tFlush s).1).handles = s.handles := (tFlush_frameD s).handles
@[simp] theorem tFlush_sigs (s : St) : ((tFlush s).1).calls.map callSig = s.calls.map callSig := (tFlush_frameD s).sigs
@[simp] theorem tFlush_senders (s : St) : senders ((tFlush s).1) = senders s := (tFlush_frameD s).senders
theorem tFlush_pq_le (s : St) : ((tFlush s).1).pq.length ≤ s.pq.length := (tFlush_frameD s).pq
theorem tFlush_cq_le (s : St) : ((tFlush s).1).cq.length ≤ s.cq.length := (tFlush_frameD s).cq

@[simp] theorem tClose_k (s : St) : ((tClose s).1).k = s.k := (tClose_frameD s).k
@[simp] theorem tClose_maxInFlight (s : St) : ((tClose s).1).maxInFlight = s.maxInFlight := (tClose_frameD s).maxInFlight
@[simp] theorem tClose_bufCap (s : St) : ((tClose s).1).bufCap = s.bufCap := (tClose_frameD s).bufCap
@[simp] theorem tClose_ensureLoop (s : St) : ((tClose s).1).ensureLoop = s.ensureLoop := (tClose_frameD s).ensureLoop
@[simp] theorem tClose_handles (s : St) : ((tClose s).1).handles = s.handles := (tClose_frameD s).handles
@[simp] theorem tClose_sigs (s : St) : ((tClose s).1).calls.map callSig = s.calls.map callSig := (tClose_frameD s).sigs
@[simp] theorem tClose_senders (s : St) : senders ((tClose s).1) = senders s := (tClose_frameD s).senders
theorem tClose_pq_le (s : St) : ((tClose s).1).pq.length ≤ s.pq.length := (tClose_frameD s).pq
theorem tClose_cq_le (s : St) : ((tClose s).1).cq.length ≤ s.cq.length := (tClose_frameD s).cq

@[simp] theorem tSend_k (s : St) (m : Msg) : ((tSend s m).1).k = s.k := (tSend_frameD s m).k
@[simp] theorem tSend_maxInFlight (s : St) (m : Msg) : ((tSend s m).1).maxInFlight = s.maxInFlight := (tSend_frameD s m).maxInFlight
@[simp] theorem tSend_bufCap (s : St) (m : Msg) : ((tSend s m).1).bufCap = s.bufCap := (tSend_frameD s m).bufCap
@[simp] theorem tSend_ensureLoop (s : St) (m : Msg) : ((tSend s m).1).ensureLoop = s.ensureLoop := (tSend_frameD s m).ensureLoop
@[simp] theorem tSend_handles (s : St) (m : Msg) : ((tSend s m).1).handles = s.handles := (tSend_frameD s m).handles
@[simp] theorem tSend_sigs (s : St) (m : Msg) : ((tSend s m).1).calls.map callSig = s.calls.map callSig := (tSend_frameD s m).sigs
@[simp] theorem tSend_senders (s : St) (m : Msg) : senders ((tSend s m).1) = senders s := (tSend_frameD s m).senders
theorem tSend_pq_le (s : St) (m : Msg) : ((tSend s m).1).pq.length ≤ s.pq.length := (tSend_frameD s m).pq
theorem tSend_cq_le (s : St) (m : Msg) : ((tSend s m).1).cq.length ≤ s.cq.length := (tSend_frameD s m).cq

theorem tNext_frameD (s : St) : FrameD s (tNext s).1 := by
  unfold tNext; split
  · exact .refl _
  · split; dsimp only
    rename_i t r _
    have h : FrameD s (emit { s with t := t } (.tNext (tid s) r)) := .trans (by constructor <;> rfl) (emit_frameD _ _)
    split
    · exact h.upd rfl rfl rfl rfl rfl rfl rfl rfl
    · exact h
@[simp] theorem tNext_k (s : St) : ((tNext s).1).k = s.k := (tNext_frameD s).k
@[simp] theorem tNext_maxInFlight (s : St) : ((tNext s).1).maxInFlight = s.maxInFlight := (tNext_frameD s).maxInFlight
@[simp] theorem tNext_bufCap (s : St) : ((tNext s).1).bufCap = s.bufCap := (tNext_frameD s).bufCap
@[simp] theorem tNext_ensureLoop (s : St) : ((tNext s).1).ensureLoop = s.ensureLoop := (tNext_frameD s).ensureLoop
@[simp] theorem tNext_handles (s : St) : ((tNext s).1).handles = s.handles := (tNext_frameD s).handles
@[simp] theorem tNext_sigs (s : St) : ((tNext s).1).calls.map callSig = s.calls.map callSig := (tNext_frameD s).sigs
@[simp] theorem tNext_senders (s : St) : senders ((tNext s).1) = senders s := (tNext_frameD s).senders
theorem tNext_pq_le (s : St) : ((tNext s).1).pq.length ≤ s.pq.length := (tNext_frameD s).pq
theorem tNext_cq_le (s : St) : ((tNext s).1).cq.length ≤ s.cq.length := (tNext_frameD s).cq

@[simp] theorem nextRequestLoop_handles (fuel : Nat) (s : St) : ((nextRequestLoop fuel s).1).handles = s.handles := (nextRequestLoop_frameD fuel s).handles
@[simp] theorem nextRequestLoop_sigs (fuel : Nat) (s : St) : ((nextRequestLoop fuel s).1).calls.map callSig = s.calls.map callSig := (nextRequestLoop_frameD fuel s).sigs
@[simp] theorem nextRequestLoop_senders (fuel : Nat) (s : St) : senders ((nextRequestLoop fuel s).1) = senders s := (nextRequestLoop_frameD fuel s).senders
theorem nextRequestLoop_pq_le (fuel : Nat) (s : St) : ((nextRequestLoop fuel s).1).pq.length ≤ s.pq.length := (nextRequestLoop_frameD fuel s).pq
theorem nextRequestLoop_cq_le (fuel : Nat) (s : St) : ((nextRequestLoop fuel s).1).cq.length ≤ s.cq.length := (nextRequestLoop_frameD fuel s).cq

@[simp] theorem nextCancelLoop_handles (fuel : Nat) (s : St) : ((nextCancelLoop fuel s).1).handles = s.handles := (nextCancelLoop_frameD fuel s).handles
@[simp] theorem nextCancelLoop_sigs (fuel : Nat) (s : St) : ((nextCancelLoop fuel s).1).calls.map callSig = s.calls.map callSig := (nextCancelLoop_frameD fuel s).sigs
@[simp] theorem nextCancelLoop_senders (fuel : Nat) (s : St) : senders ((nextCancelLoop fuel s).1) = senders s := (nextCancelLoop_frameD fuel s).senders
theorem nextCancelLoop_pq_le (fuel : Nat) (s : St) : ((nextCancelLoop fuel s).1).pq.length ≤ s.pq.length := (nextCancelLoop_frameD fuel s).pq
theorem nextCancelLoop_cq_le (fuel : Nat) (s : St) : ((nextCancelLoop fuel s).1).cq.length ≤ s.cq.length := (nextCancelLoop_frameD fuel s).cq

theorem pollExpired_frameD (s : St) (now : Nat) : FrameD s (pollExpired s now).1 :=
  pollExpiredLoop_frameD _ s now
@[simp] theorem pollExpired_handles (s : St) (now : Nat) : ((pollExpired s now).1).handles = s.handles := (pollExpired_frameD s now).handles
@[simp] theorem pollExpired_sigs (s : St) (now : Nat) : ((pollExpired s now).1).calls.map callSig = s.calls.map callSig := (pollExpired_frameD s now).sigs
@[simp] theorem pollExpired_senders (s : St) (now : Nat) : senders ((pollExpired s now).1) = senders s := (pollExpired_frameD s now).senders
theorem pollExpired_pq_le (s : St) (now : Nat) : ((pollExpired s now).1).pq.length ≤ s.pq.length := (pollExpired_frameD s now).pq
theorem pollExpired_cq_le (s : St) (now : Nat) : ((pollExpired s now).1).cq.length ≤ s.cq.length := (pollExpired_frameD s now).cq

@[simp] theorem failAll_handles (s : St) (a : Activity) : (failAll s a).handles = s.handles := (failAll_frameD s a).handles
@[simp] theorem failAll_sigs (s : St) (a : Activity) : (failAll s a).calls.map callSig = s.calls.map callSig := (failAll_frameD s a).sigs
@[simp] theorem failAll_senders (s : St) (a : Activity) : senders (failAll s a) = senders s := (failAll_frameD s a).senders
theorem failAll_pq_le (s : St) (a : Activity) : (failAll s a).pq.length ≤ s.pq.length := (failAll_frameD s a).pq
theorem failAll_cq_le (s : St) (a : Activity) : (failAll s a).cq.length ≤ s.cq.length := (failAll_frameD s a).cq

@[simp] theorem drainLoop_handles (fuel : Nat) (s : St) (a : Activity) : ((drainLoop fuel s a).1).handles = s.handles := (drainLoop_frameD fuel s a).handles
@[simp] theorem drainLoop_sigs (fuel : Nat) (s : St) (a : Activity) : ((drainLoop fuel s a).1).calls.map callSig = s.calls.map callSig := (drainLoop_frameD fuel s a).sigs
@[simp] theorem drainLoop_senders (fuel : Nat) (s : St) (a : Activity) : senders ((drainLoop fuel s a).1) = senders s := (drainLoop_frameD fuel s a).senders
theorem drainLoop_pq_le (fuel : Nat) (s : St) (a : Activity) : ((drainLoop fuel s a).1).pq.length ≤ s.pq.length := (drainLoop_frameD fuel s a).pq
theorem drainLoop_cq_le (fuel : Nat) (s : St) (a : Activity) : ((drainLoop fuel s a).1).cq.length ≤ s.cq.length := (drainLoop_frameD fuel s a).cq

theorem shutDown_frameD (s : St) (a : Activity) : FrameD s (shutDown s a).1 := by
  unfold shutDown
  exact .trans (.trans (pqClose_frameD _) (failAll_frameD _ _)) (drainLoop_frameD _ _ _)
@[simp] theorem shutDown_handles (s : St) (a : Activity) : ((shutDown s a).1).handles = s.handles := (shutDown_frameD s a).handles
@[simp] theorem shutDown_sigs (s : St) (a : Activity) : ((shutDown s a).1).calls.map callSig = s.calls.map callSig := (shutDown_frameD s a).sigs
@[simp] theorem shutDown_senders (s : St) (a : Activity) : senders ((shutDown s a).1) = senders s := (shutDown_frameD s a).senders
theorem shutDown_pq_le (s : St) (a : Activity) : ((shutDown s a).1).pq.length ≤ s.pq.length := (shutDown_frameD s a).pq
theorem shutDown_cq_le (s : St) (a : Activity) : ((shutDown s a).1).cq.length ≤ s.cq.length := (shutDown_frameD s a).cq

end TarpcModel.Client.Flow

namespace TarpcModel.Client

/-! ### what the invariant files (namespace `Client`) use by bare name: `poll_expired`, a call's poll by phase, `insert_request`, scripts -/

theorem pollExpired_kept {now : Nat} {P : St → Prop} (step : ∀ {s}, P s → P (expireStep s now).st) {s : St} (h : P s) :
    P (pollExpired s now).1 := by
  have loop : ∀ (fuel : Nat) {s : St}, P s → P (pollExpiredLoop fuel s now).1 := by
    intro fuel
    induction fuel with
    | zero => exact fun h => h
    | succ fuel ih =>
      intro s h
      have h1 := step h
      unfold Client.pollExpiredLoop
      generalize Client.expireStep s now = p at h1 ⊢
      obtain s1 | ⟨s1, b⟩ := p
      · exact ih h1
      · exact h1
  exact loop _ h

theorem findEntry_some {s : St} {id : Nat} {e : Entry} (h : findEntry s id = some e) : e ∈ s.inflight ∧ e.id = id := by
  unfold findEntry at h
  exact ⟨List.mem_of_find?_eq_some h, by simpa using List.find?_some h⟩

theorem findEntry_none {s : St} {id : Nat} (h : findEntry s id = none) : ∀ e ∈ s.inflight, e.id ≠ id := by
  unfold findEntry at h
  intro e he
  simpa using List.find?_eq_none.mp h e he

theorem rearmEntry_same (id key t due : Nat) (e : Entry) :
    (rearmEntry id key t due e).id = e.id ∧ (rearmEntry id key t due e).cid = e.cid ∧
      (rearmEntry id key t due e).ctx = e.ctx := by
  unfold rearmEntry; split <;> exact ⟨rfl, rfl, rfl⟩

/-- The two ways re-arming ends (case analysis on the *result* of the insert). -/
theorem rearmWith_cases (s : St) (id t due : Nat) (r : DelayQ × DelayQ.InsertRes × Bool) :
    (∃ q' w, r = (q', .panic, w) ∧ rearmWith s id t due r =
      .done (emit { s with poisoned := true } (.panic (tid s) "DelayQueue::insert: invalid deadline")) false) ∨
    (∃ q' key w, r = (q', .ok key, w) ∧ rearmWith s id t due r =
      .again (if w then wakeDispatch { s with timers := q', inflight := s.inflight.map (rearmEntry id key t due) }
              else { s with timers := q', inflight := s.inflight.map (rearmEntry id key t due) })) := by
  obtain ⟨q', res, w⟩ := r
  cases res with
  | panic => exact Or.inl ⟨q', w, rfl, rfl⟩
  | ok key => exact Or.inr ⟨q', key, w, rfl, rfl⟩

theorem expireWith_cases {motive : ExpStep → Prop} (s : St) (now : Nat) (r : DelayQ × DelayQ.PollRes)
    (idle : (∀ e, r.2 ≠ .expired e) → motive (.done { s with timers := r.1 } false))
    (untracked : ∀ e, r.2 = .expired e → findEntry s e.val = none → motive (.done { s with timers := r.1 } true))
    (fail : ∀ e en, r.2 = .expired e → findEntry s e.val = some en → en.remainder - (now - en.dueAt) = 0 →
      motive (.done (osSend { s with timers := r.1, inflight := s.inflight.filter (·.id != e.val) } en.cid .deadline)
        true))
    (panic : ∀ e en q' w, r.2 = .expired e → findEntry s e.val = some en → en.remainder - (now - en.dueAt) ≠ 0 →
      r.1.insert now (clampTimeout (en.remainder - (now - en.dueAt))) e.val = (q', .panic, w) →
      motive (.done (emit { s with poisoned := true } (.panic (tid s) "DelayQueue::insert: invalid deadline")) false))
    (rearmed : ∀ e en q' key w, r.2 = .expired e → findEntry s e.val = some en →
      en.remainder - (now - en.dueAt) ≠ 0 →
      r.1.insert now (clampTimeout (en.remainder - (now - en.dueAt))) e.val = (q', .ok key, w) →
      motive (.again (if w then wakeDispatch { s with timers := q', inflight := (s.inflight.map
          (rearmEntry e.val key (now - en.dueAt + clampTimeout (en.remainder - (now - en.dueAt)))
            (now + clampTimeout (en.remainder - (now - en.dueAt))))) }
        else { s with timers := q', inflight := (s.inflight.map
          (rearmEntry e.val key (now - en.dueAt + clampTimeout (en.remainder - (now - en.dueAt)))
            (now + clampTimeout (en.remainder - (now - en.dueAt))))) }))) :
    motive (expireWith s now r) := by
  obtain ⟨q, res⟩ := r
  unfold Client.expireWith
  split
  · rename_i q0 e heq
    cases heq
    cases hf : findEntry s e.val with
    | none => exact untracked e rfl hf
    | some en =>
      dsimp only
      by_cases hz : en.remainder - (now - en.dueAt) = 0
      · rw [if_neg (by simpa using hz)]
        exact fail e en rfl hf hz
      · rw [if_pos (by simpa using hz)]
        unfold Client.rearm
        rcases rearmWith_cases s e.val (now - en.dueAt + clampTimeout (en.remainder - (now - en.dueAt)))
            (now + clampTimeout (en.remainder - (now - en.dueAt)))
            (q.insert now (clampTimeout (en.remainder - (now - en.dueAt))) e.val) with
          ⟨q', w, hins, hrw⟩ | ⟨q', key, w, hins, hrw⟩
        · rw [hrw]; exact panic e en q' w rfl hf hz hins
        · rw [hrw]; exact rearmed e en q' key w rfl hf hz hins
  · rename_i q0 res0 hres heq
    cases heq
    exact idle (fun e he => hres e he)

/-- the state after the first poll of call `cid` (= `c`) drew its request id and span -/
def assignId (s : St) (cid : Nat) (c : Call) : St :=
  updCall { s with nextFresh := s.nextFresh + 1, nextId := s.nextId + 1 } cid
    (fun c' => { c' with id := s.nextId, trace := { c.ctx.trace with span := .fresh s.nextFresh }, woken := false })

/-- the call as the rest of its first poll sees it -/
def assignedCall (s : St) (c : Call) : Call :=
  { c with id := s.nextId, trace := { c.ctx.trace with span := .fresh s.nextFresh } }

theorem pollCall_notPolled {s : St} {cid now : Nat} {c : Call} (hg : getCall s cid = some c)
    (hph : c.phase = .notPolled) :
    pollCall s cid now =
      if (assignId s cid c).pqClosed || (assignId s cid c).dDropped then
        failShutdown (assignId s cid c) cid s.nextId now
      else if (assignId s cid c).pqAvail > 0 then
        enqueue { assignId s cid c with pqAvail := (assignId s cid c).pqAvail - 1 } (assignedCall s c) now
      else
        emit (updCall { assignId s cid c with pqWaiters := (assignId s cid c).pqWaiters ++ [cid] } cid
          (fun c => { c with phase := .reserving })) (.ret (.call cid) .pending) := by
  unfold pollCall
  simp only [hg, hph]
  rfl

theorem pollCall_reserving {s : St} {cid now : Nat} {c : Call} (hg : getCall s cid = some c)
    (hph : c.phase = .reserving) :
    pollCall s cid now =
      if (updCall s cid (fun c => { c with woken := false })).pqClosed ||
          (updCall s cid (fun c => { c with woken := false })).dDropped then
        failShutdown
          { updCall s cid (fun c => { c with woken := false }) with
            pqAssigned := (updCall s cid (fun c => { c with woken := false })).pqAssigned.filter (· != cid),
            pqWaiters := (updCall s cid (fun c => { c with woken := false })).pqWaiters.filter (· != cid),
            pqAvail := if (updCall s cid (fun c => { c with woken := false })).pqAssigned.contains cid
              then (updCall s cid (fun c => { c with woken := false })).pqAvail + 1
              else (updCall s cid (fun c => { c with woken := false })).pqAvail } cid c.id now
      else if (updCall s cid (fun c => { c with woken := false })).pqAssigned.contains cid then
        enqueue { updCall s cid (fun c => { c with woken := false }) with
          pqAssigned := (updCall s cid (fun c => { c with woken := false })).pqAssigned.filter (· != cid) } c now
      else emit (updCall s cid (fun c => { c with woken := false })) (.ret (.call cid) .pending) := by
  unfold pollCall
  simp only [hg, hph]

theorem pollCall_awaiting {s : St} {cid now : Nat} {c : Call} (hg : getCall s cid = some c)
    (hph : c.phase = .awaiting) :
    pollCall s cid now = pollOneshot (updCall s cid (fun c => { c with woken := false })) cid now := by
  unfold pollCall
  simp only [hg, hph]

/-- the table entry `insert_request` makes at `now` for request `r`, its timer being `key` -/
def entryOf (r : DReq) (now key : Nat) : Entry :=
  { id := r.id, cid := r.cid, ctx := r.ctx, timerKey := key,
    remainder := (r.ctx.deadline - now) - clampTimeout (r.ctx.deadline - now),
    dueAt := now + clampTimeout (r.ctx.deadline - now) }

/-- The three ways `insert_request` ends. -/
theorem insertRequest_some {s s' : St} {now : Nat} {r : DReq} (h : insertRequest s now r = some s') :
    ((findEntry s r.id).isSome = true ∧
      s' = emit { s with poisoned := true } (.panic (tid s) "Request IDs should be unique")) ∨
    (findEntry s r.id = none ∧ ∃ q w, s.timers.insert now (clampTimeout (r.ctx.deadline - now)) r.id = (q, .panic, w) ∧
      s' = emit { s with poisoned := true } (.panic (tid s) "DelayQueue::insert: invalid deadline")) ∨
    (findEntry s r.id = none ∧ ∃ q key w, s.timers.insert now (clampTimeout (r.ctx.deadline - now)) r.id = (q, .ok key, w) ∧
      s' = (if w then
              wakeDispatch { s with timers := q, inflight := s.inflight ++ [entryOf r now key] }
            else { s with timers := q, inflight := s.inflight ++ [entryOf r now key] })) := by
  unfold Client.insertRequest at h
  split at h
  · rename_i hf; cases h; exact Or.inl ⟨hf, rfl⟩
  · rename_i hf
    have hf' : findEntry s r.id = none := by simpa using hf
    split at h
    · rename_i q w hq; cases h; exact Or.inr (Or.inl ⟨hf', _, _, hq, rfl⟩)
    · rename_i q key w hq; cases h; exact Or.inr (Or.inr ⟨hf', _, _, _, hq, rfl⟩)

/-- the state in which `stepOp` runs the op: observations cleared -/
def clr (c : Sys) : Sys := { c with s := { c.s with obs := [] } }

theorem clr_obs (c : Sys) : (clr c).s.obs = [] := rfl
theorem clr_now (c : Sys) : (clr c).now = c.now := rfl
theorem clr_maxInFlight (c : Sys) : (clr c).s.maxInFlight = c.s.maxInFlight := rfl
theorem clr_calls (c : Sys) : (clr c).s.calls = c.s.calls := rfl

theorem stepOp_fst (c : Sys) (op : COp) : (stepOp c op).1 = clr (applyOp (clr c) op) := rfl
theorem stepOp_snd (c : Sys) (op : COp) : (stepOp c op).2 = (applyOp (clr c) op).s.obs.reverse := rfl

theorem traceOf : TraceOf stepOp CEv.op CEv.obs trace := ⟨fun _ => rfl, fun _ _ _ => rfl⟩

/-! ### dropping a call future, stage by stage -/

/-- `dropCall` with the `guarded` flag as a parameter -/
def dropCallG (guarded : Bool) (s : St) (cid : Nat) (at_ : DropAt) (now : Nat) : St :=
  let s := dropPre s cid
  let s := if guarded && at_ == .enter then pollDispatch s now else s
  let s := dropClose s cid
  let s := if guarded && at_ == .mid then pollDispatch s now else s
  let s := dropCancel s cid
  let s := if guarded && at_ == .exit then pollDispatch s now else s
  dropFinish s cid

theorem dropCall_eq (s : St) (cid : Nat) (at_ : DropAt) (now : Nat) :
    dropCall s cid at_ now = dropCallG (match getCall s cid with
      | some c => c.phase == .reserving || c.phase == .awaiting
      | none => false) s cid at_ now := rfl

/-- the one walk of `dropCall`; each stage may hand on another invariant -/
theorem dropCallG_walk {I₁ I₂ I₃ J : St → Prop} (guarded : Bool) (s : St) (cid : Nat) (at_ : DropAt) (now : Nat)
    (pre : I₁ (dropPre s cid))
    (poll₁ : ∀ s, I₁ s → I₁ (pollDispatch s now)) (close : ∀ s, I₁ s → I₂ (dropClose s cid))
    (poll₂ : ∀ s, I₂ s → I₂ (pollDispatch s now)) (cancel : ∀ s, I₂ s → I₃ (dropCancel s cid))
    (poll₃ : ∀ s, I₃ s → I₃ (pollDispatch s now)) (finish : ∀ s, I₃ s → J (dropFinish s cid)) :
    J (dropCallG guarded s cid at_ now) := by
  have yield : ∀ {I : St → Prop} (c : Bool) (s : St), (∀ s, I s → I (pollDispatch s now)) → I s →
      I (if c = true then pollDispatch s now else s) := by
    intro I c s hp hs
    split
    · exact hp s hs
    · exact hs
  exact finish _ (yield _ _ poll₃ (cancel _ (yield _ _ poll₂ (close _ (yield _ _ poll₁ pre)))))

theorem dropCall_walk {I₁ I₂ I₃ J : St → Prop} (s : St) (cid : Nat) (at_ : DropAt) (now : Nat)
    (pre : I₁ (dropPre s cid))
    (poll₁ : ∀ s, I₁ s → I₁ (pollDispatch s now)) (close : ∀ s, I₁ s → I₂ (dropClose s cid))
    (poll₂ : ∀ s, I₂ s → I₂ (pollDispatch s now)) (cancel : ∀ s, I₂ s → I₃ (dropCancel s cid))
    (poll₃ : ∀ s, I₃ s → I₃ (pollDispatch s now)) (finish : ∀ s, I₃ s → J (dropFinish s cid)) :
    J (dropCall s cid at_ now) := by
  rw [dropCall_eq]; exact dropCallG_walk _ s cid at_ now pre poll₁ close poll₂ cancel poll₃ finish

theorem dropCall_kept {P : St → Prop} {now cid : Nat} (pre : ∀ {s}, P s → P (dropPre s cid))
    (close : ∀ {s}, P s → P (dropClose s cid)) (cancel : ∀ {s}, P s → P (dropCancel s cid))
    (finish : ∀ {s}, P s → P (dropFinish s cid)) (poll : ∀ {s}, P s → P (pollDispatch s now)) {s : St} (h : P s)
    (at_ : DropAt) : P (dropCall s cid at_ now) :=
  dropCall_walk s cid at_ now (pre h) (fun _ => poll) (fun _ => close) (fun _ => poll) (fun _ => cancel) (fun _ => poll)
    (fun _ => finish)

end TarpcModel.Client

namespace TarpcModel.Client.Flow

/-! ### case principles of the call future, of the poll wrapper and of one op of a script -/

/-- `a`: the state after the request id is assigned (fresh future), after the wake flag is cleared (`reserving`). -/
theorem pollCall_cases {motive : St → Prop} (s : St) (cid now : Nat)
    (gone : (∀ c, getCall s cid = some c → c.phase = .resolved ∨ c.phase = .dropped) → motive (emit s .noop))
    (notPolled : ∀ c a, getCall s cid = some c → c.phase = .notPolled → a = assignId s cid c →
      motive (if a.pqClosed || a.dDropped then failShutdown a cid s.nextId now
        else if a.pqAvail > 0 then enqueue { a with pqAvail := a.pqAvail - 1 } (assignedCall s c) now
        else emit (updCall { a with pqWaiters := a.pqWaiters ++ [cid] } cid (fun c => { c with phase := .reserving }))
          (.ret (.call cid) .pending)))
    (reserving : ∀ c a, getCall s cid = some c → c.phase = .reserving →
      a = updCall s cid (fun c => { c with woken := false }) →
      motive (if a.pqClosed || a.dDropped then
          failShutdown { a with pqAssigned := a.pqAssigned.filter (· != cid), pqWaiters := a.pqWaiters.filter (· != cid),
                                pqAvail := if a.pqAssigned.contains cid then a.pqAvail + 1 else a.pqAvail } cid c.id now
        else if a.pqAssigned.contains cid then enqueue { a with pqAssigned := a.pqAssigned.filter (· != cid) } c now
        else emit a (.ret (.call cid) .pending)))
    (awaiting : ∀ c, getCall s cid = some c → c.phase = .awaiting →
      motive (pollOneshot (updCall s cid (fun c => { c with woken := false })) cid now)) :
    motive (pollCall s cid now) := by
  cases hg : getCall s cid with
  | none =>
    have := gone (fun c hc => by rw [hg] at hc; cases hc)
    unfold pollCall; rw [hg]; exact this
  | some c =>
    have dead : c.phase = .resolved ∨ c.phase = .dropped → motive (emit s .noop) :=
      fun hd => gone (fun c' hc' => by rw [hg] at hc'; cases hc'; exact hd)
    cases hph : c.phase with
    | resolved => have := dead (Or.inl hph); unfold pollCall; simp only [hg, hph]; exact this
    | dropped => have := dead (Or.inr hph); unfold pollCall; simp only [hg, hph]; exact this
    | awaiting => rw [pollCall_awaiting hg hph]; exact awaiting c hg hph
    | notPolled => rw [pollCall_notPolled hg hph]; exact notPolled c _ hg hph rfl
    | reserving => rw [pollCall_reserving hg hph]; exact reserving c _ hg hph rfl

theorem dropClose_cases {motive : St → Prop} (s : St) (cid : Nat)
    (same : (∀ c, getCall s cid = some c → ¬ (c.phase = .reserving ∨ c.phase = .awaiting)) → motive s)
    (guard : ∀ c, getCall s cid = some c → c.phase = .reserving ∨ c.phase = .awaiting → motive (guardClose s cid)) :
    motive (dropClose s cid) := by
  unfold dropClose
  cases hg : getCall s cid with
  | none => exact same (fun c hc => by rw [hg] at hc; cases hc)
  | some c =>
    dsimp only
    cases hph : c.phase with
    | reserving => exact guard c hg (Or.inl hph)
    | awaiting => exact guard c hg (Or.inr hph)
    | _ => exact same (fun c' hc' => by rw [hg] at hc'; cases hc'; rw [hph]; simp)

theorem dropCancel_cases {motive : St → Prop} (s : St) (cid : Nat)
    (same : (∀ c, getCall s cid = some c → ¬ (c.phase = .reserving ∨ c.phase = .awaiting)) → motive s)
    (push : ∀ c, getCall s cid = some c → c.phase = .reserving ∨ c.phase = .awaiting → motive (cqPush s c.id)) :
    motive (dropCancel s cid) := by
  unfold dropCancel
  cases hg : getCall s cid with
  | none => exact same (fun c hc => by rw [hg] at hc; cases hc)
  | some c =>
    dsimp only
    cases hph : c.phase with
    | reserving => exact push c hg (Or.inl hph)
    | awaiting => exact push c hg (Or.inr hph)
    | _ => exact same (fun c' hc' => by rw [hg] at hc'; cases hc'; rw [hph]; simp)

theorem dropFinish_cases {motive : St → Prop} (s : St) (cid : Nat)
    (noop : (∀ c, getCall s cid = some c → c.phase = .resolved ∨ c.phase = .dropped) → motive (emit s .noop))
    (gone : ∀ c, getCall s cid = some c → (c.phase = .reserving ∨ c.phase = .awaiting) ∨ c.phase = .notPolled →
      motive (afterCallGone (updCall s cid (fun c => { c with phase := .dropped, woken := false })))) :
    motive (dropFinish s cid) := by
  unfold dropFinish
  cases hg : getCall s cid with
  | none => exact noop (fun c hc => by rw [hg] at hc; cases hc)
  | some c =>
    dsimp only
    cases hph : c.phase with
    | resolved => exact noop (fun c' hc' => by rw [hg] at hc'; cases hc'; exact Or.inl hph)
    | dropped => exact noop (fun c' hc' => by rw [hg] at hc'; cases hc'; exact Or.inr hph)
    | reserving => exact gone c hg (.inl (.inl hph))
    | awaiting => exact gone c hg (.inl (.inr hph))
    | notPolled => exact gone c hg (.inr hph)

/-- what the environment does to the transport in one op -/
inductive ExtEv (t : SimT) : SimT → Prop
  | inject (i : Inb) : ExtEv t (t.inject i).1
  | eof : ExtEv t t.setEof.1
  | setReady (b : Bool) : ExtEv t (t.setReady b).1
  | setFlush (b : Bool) : ExtEv t (t.setFlush b).1
  | fault (k : FaultKind) : ExtEv t (armFault t k)
  | faultSkip (n : Nat) : ExtEv t { t with faultSkip := n }
  | selfWake (b : Bool) : ExtEv t { t with selfWake := b }
  | take (n : Nat) : ExtEv t (t.take n).1

theorem applyOp_ext_cases {P : Nat → St → Prop} (c : Sys) (op : COp)
    (call : ∀ hd ctx b, P c.now (newCall c.s hd ctx b))
    (pollCall : ∀ cid, P c.now (pollCall c.s cid c.now))
    (dropCall : ∀ cid site, P c.now (dropCall c.s cid site c.now))
    (clone : ∀ hd, P c.now (cloneHandle c.s hd))
    (dropHandle : ∀ hd, P c.now (dropHandle c.s hd))
    (pollDispatch : P c.now (pollDispatch c.s c.now))
    (dropDispatch : P c.now (dropDispatch c.s))
    (lift : ∀ r, ExtEv c.s.t r.1 → P c.now (liftT c.s r))
    (setT : ∀ t, ExtEv c.s.t t → P c.now { c.s with t := t })
    (take : ∀ t (ms : List Msg), ExtEv c.s.t t →
      P c.now (ms.foldl (fun s m => emit s (.took (tid s) m)) { c.s with t := t }))
    (advance : ∀ n, P (c.now + n) (onAdvance c.s (c.now + n))) : P (applyOp c op).now (applyOp c op).s := by
  cases op with
  | call hd d tr b => exact call hd _ b
  | pollCall cid => exact pollCall cid
  | dropCall cid site => exact dropCall cid site
  | clone hd => exact clone hd
  | dropHandle hd => exact dropHandle hd
  | pollDispatch => exact pollDispatch
  | dropDispatch => exact dropDispatch
  | injectResp id res => exact lift _ (.inject _)
  | injectErr => exact lift _ (.inject _)
  | eof => exact lift _ .eof
  | setReady b => exact lift _ (.setReady b)
  | setFlush b => exact lift _ (.setFlush b)
  | fault k => exact setT _ (.fault k)
  | faultSkip n => exact setT _ (.faultSkip n)
  | selfWake b => exact setT _ (.selfWake b)
  | take n => exact take _ _ (.take n)
  | advance n => exact advance n

theorem applyOp_cases {P : Nat → St → Prop} (c : Sys) (op : COp)
    (call : ∀ hd ctx b, P c.now (newCall c.s hd ctx b))
    (pollCall : ∀ cid, P c.now (pollCall c.s cid c.now))
    (dropCall : ∀ cid site, P c.now (dropCall c.s cid site c.now))
    (clone : ∀ hd, P c.now (cloneHandle c.s hd))
    (dropHandle : ∀ hd, P c.now (dropHandle c.s hd))
    (pollDispatch : P c.now (pollDispatch c.s c.now))
    (dropDispatch : P c.now (dropDispatch c.s))
    (lift : ∀ r, P c.now (liftT c.s r))
    (setT : ∀ t, P c.now { c.s with t := t })
    (take : ∀ t (ms : List Msg), P c.now (ms.foldl (fun s m => emit s (.took (tid s) m)) { c.s with t := t }))
    (advance : ∀ n, P (c.now + n) (onAdvance c.s (c.now + n))) : P (applyOp c op).now (applyOp c op).s :=
  applyOp_ext_cases c op call pollCall dropCall clone dropHandle pollDispatch dropDispatch (fun r _ => lift r)
    (fun t _ => setT t) (fun t ms _ => take t ms) advance

theorem pollDispatchKeep_cases {motive : St → Prop} (s : St) (now : Nat)
    (noop : (s.dDropped || s.done.isSome || s.poisoned) = true → motive (emit s .noop))
    (spun : ∀ s1 r, (s.dDropped || s.done.isSome || s.poisoned) = false →
      pollDispatchCore { s with dWoken := false } now = (s1, r) →
      (s1.obs.any isSpinObs && !(s.obs.any isSpinObs)) = true →
      motive (keepDone r { s1 with obs := .spin (tid s1) :: s.obs, poisoned := true }))
    (poisoned : ∀ s1 r, (s.dDropped || s.done.isSome || s.poisoned) = false →
      pollDispatchCore { s with dWoken := false } now = (s1, r) →
      (s1.obs.any isSpinObs && !(s.obs.any isSpinObs)) = false → s1.poisoned = true → motive (keepDone r s1))
    (ret : ∀ s1 r, (s.dDropped || s.done.isSome || s.poisoned) = false →
      pollDispatchCore { s with dWoken := false } now = (s1, r) →
      (s1.obs.any isSpinObs && !(s.obs.any isSpinObs)) = false → s1.poisoned = false →
      motive (keepDone r (emit (emit s1 (.ret (tid s1) r)) (.counts (tid s1) s1.inflight.length s1.timers.len)))) :
    motive (pollDispatchKeep s now) := by
  rw [pollDispatchKeep_eq]
  by_cases hg : (s.dDropped || s.done.isSome || s.poisoned) = true
  · rw [if_pos hg]; exact noop hg
  · rw [if_neg hg]
    have hg' : (s.dDropped || s.done.isSome || s.poisoned) = false := by simpa using hg
    rcases hc : pollDispatchCore { s with dWoken := false } now with ⟨s1, r⟩
    dsimp only
    unfold keepFinish
    by_cases hsp : (s1.obs.any isSpinObs && !(s.obs.any isSpinObs)) = true
    · rw [if_pos hsp]; exact spun s1 r hg' hc hsp
    · rw [if_neg hsp]
      have hsp' : (s1.obs.any isSpinObs && !(s.obs.any isSpinObs)) = false := by simpa using hsp
      by_cases hp : s1.poisoned = true
      · rw [if_pos hp]; exact poisoned s1 r hg' hc hsp' hp
      · rw [if_neg hp]; exact ret s1 r hg' hc hsp' (by simpa using hp)

/-- a completed dispatch is dropped right away -/
theorem pollDispatch_cases {motive : St → Prop} (s : St) (now : Nat)
    (keep : motive (pollDispatchKeep s now)) (drop : motive (dropDispatch (pollDispatchKeep s now))) :
    motive (pollDispatch s now) := by
  rw [pollDispatch_eq]; split
  · exact drop
  · exact keep

theorem keepDone_only (r : Ret) (s : St) : ∃ d, keepDone r s = { s with done := d } := by
  cases r <;> first | exact ⟨s.done, rfl⟩ | exact ⟨_, rfl⟩

theorem pollDispatch_of_keep {s : St} {now : Nat} (hd : (pollDispatchKeep s now).done = none) :
    pollDispatch s now = pollDispatchKeep s now := by
  rw [pollDispatch_eq, hd]; rfl

theorem pollDispatchKeep_pending {s : St} {now : Nat} (hrun : (s.dDropped || s.done.isSome || s.poisoned) = false)
    (hd : (pollDispatchKeep s now).done = none) (hp : (pollDispatchKeep s now).poisoned = false) :
    ∃ s1, pollDispatchCore { s with dWoken := false } now = (s1, .pending) ∧ s1.poisoned = false ∧
      pollDispatchKeep s now =
        emit (emit s1 (.ret (tid s1) .pending)) (.counts (tid s1) s1.inflight.length s1.timers.len) := by
  revert hd hp
  refine pollDispatchKeep_cases (motive := fun s' => s'.done = none → s'.poisoned = false →
    ∃ s1, pollDispatchCore { s with dWoken := false } now = (s1, .pending) ∧ s1.poisoned = false ∧
      s' = emit (emit s1 (.ret (tid s1) .pending)) (.counts (tid s1) s1.inflight.length s1.timers.len)) s now
    (fun h => by rw [hrun] at h; cases h) ?_ ?_ ?_
  · intro s1 r _ _ _ _ hp
    obtain ⟨d, e⟩ := keepDone_only r { s1 with obs := .spin (tid s1) :: s.obs, poisoned := true }
    rw [e] at hp; cases hp
  · intro s1 r _ _ _ h1 _ hp
    obtain ⟨d, e⟩ := keepDone_only r s1
    rw [e] at hp; rw [show ({ s1 with done := d } : St).poisoned = s1.poisoned from rfl, h1] at hp; cases hp
  · intro s1 r _ hc _ h1 hd _
    cases r with
    | pending => exact ⟨s1, hc, h1, rfl⟩
    | _ => cases hd

theorem getCall_updCall (s : St) (cid : Nat) (f : Call → Call) (hf : ∀ c, (f c).cid = c.cid) :
    getCall (updCall s cid f) cid = (getCall s cid).map f := by
  unfold getCall updCall
  simp only [find?_map_upd (·.cid) f hf s.calls cid cid, if_true]

theorem wakeDispatch_woken (s : St) (hd : s.dDropped = false) (hn : s.done = none) : (wakeDispatch s).dWoken = true := by
  unfold wakeDispatch
  simp [hd, hn, emit]

theorem wakeCall_inflight (s : St) (cid : Nat) : (wakeCall s cid).inflight = s.inflight := by
  obtain ⟨cs, os, h⟩ := wakeCall_only s cid; rw [h]
theorem osSend_inflight (s : St) (cid : Nat) (o : Outcome) : (osSend s cid o).inflight = s.inflight := by
  obtain ⟨cs, os, h⟩ := osSend_only s cid o; rw [h]
theorem osSend_poisoned (s : St) (cid : Nat) (o : Outcome) : (osSend s cid o).poisoned = s.poisoned := by
  obtain ⟨cs, os, h⟩ := osSend_only s cid o; rw [h]

theorem pqRelease_inflight (s : St) : (pqRelease s).inflight = s.inflight := by
  unfold pqRelease; split
  · exact wakeCall_inflight _ _
  · rfl

theorem pqRecv_inflight (s : St) : (pqRecv s).1.inflight = s.inflight := by
  unfold pqRecv; split
  · exact pqRelease_inflight _
  · split; rfl; split <;> rfl

/-! ### what each primitive returns: every branch with its condition and the resulting state -/

theorem wakeDispatch_out (s : St) :
    ((s.dDropped || s.done.isSome) = true ∧ wakeDispatch s = s) ∨
    ((s.dDropped || s.done.isSome) = false ∧ wakeDispatch s = emit { s with dWoken := true } (.wake (.dispatch s.k))) := by
  unfold wakeDispatch
  cases h : (s.dDropped || s.done.isSome)
  · right; exact ⟨rfl, by simp⟩
  · left; exact ⟨rfl, by simp⟩

theorem wakeDispatch_dWoken_mono (s : St) (h : s.dWoken = true) : (wakeDispatch s).dWoken = true := by
  rcases wakeDispatch_out s with ⟨_, e⟩ | ⟨_, e⟩ <;> rw [e]
  · exact h
  · rfl

/-- a call that is absent or no longer live is not woken -/
theorem wakeCall_out (s : St) (cid : Nat) :
    (∃ c, getCall s cid = some c ∧ callLive c = true ∧
      wakeCall s cid = emit (updCall s cid (fun c => { c with woken := true })) (.wake (.call cid))) ∨
    ((∀ c, getCall s cid = some c → callLive c = false) ∧ wakeCall s cid = s) := by
  unfold wakeCall
  cases hg : getCall s cid with
  | none => right; exact ⟨fun _ h => (nomatch h), rfl⟩
  | some c =>
    cases hl : callLive c
    · right; exact ⟨fun c' h => (by cases h; exact hl), by simp [hl]⟩
    · left; exact ⟨c, rfl, hl, by simp [hl]⟩

theorem osSend_out (s : St) (cid : Nat) (o : Outcome) :
    ((∀ c, getCall s cid = some c → c.os.rxClosed = true) ∧ osSend s cid o = s) ∨
    (∃ c, getCall s cid = some c ∧ c.os.rxClosed = false ∧
      osSend s cid o =
        if c.os.rxWaker = true then
          wakeCall (updCall s cid (fun c => { c with os := { c.os with val := some o, rxWaker := false } })) cid
        else updCall s cid (fun c => { c with os := { c.os with val := some o, rxWaker := false } })) := by
  unfold osSend
  cases hg : getCall s cid with
  | none => left; exact ⟨fun _ h => (nomatch h), rfl⟩
  | some c =>
    cases hr : c.os.rxClosed
    · right; exact ⟨c, rfl, hr, by simp [hr]⟩
    · left; exact ⟨fun c' h => (by cases h; exact hr), by simp [hr]⟩

theorem osDropTx_out (s : St) (cid : Nat) :
    ((∀ c, getCall s cid = some c → (c.os.val.isSome || c.os.txDropped) = true) ∧ osDropTx s cid = s) ∨
    (∃ c, getCall s cid = some c ∧ (c.os.val.isSome || c.os.txDropped) = false ∧
      osDropTx s cid =
        if c.os.rxWaker = true then
          wakeCall (updCall s cid (fun c => { c with os := { c.os with txDropped := true, rxWaker := false } })) cid
        else updCall s cid (fun c => { c with os := { c.os with txDropped := true, rxWaker := false } })) := by
  unfold osDropTx
  cases hg : getCall s cid with
  | none => left; exact ⟨fun _ h => (nomatch h), rfl⟩
  | some c =>
    cases hr : (c.os.val.isSome || c.os.txDropped)
    · right; exact ⟨c, rfl, hr, by simp [hr]⟩
    · left; exact ⟨fun c' h => (by cases h; exact hr), by simp [hr]⟩

theorem pqRelease_out (s : St) :
    (∃ w rest, s.pqWaiters = w :: rest ∧
      pqRelease s = wakeCall { s with pqWaiters := rest, pqAssigned := s.pqAssigned ++ [w] } w) ∨
    (s.pqWaiters = [] ∧ pqRelease s = { s with pqAvail := s.pqAvail + 1 }) := by
  unfold pqRelease
  cases h : s.pqWaiters with
  | nil => right; exact ⟨rfl, rfl⟩
  | cons w rest => left; exact ⟨w, rest, rfl, rfl⟩

theorem pqRecv_out (s : St) :
    (∃ r rest, s.pq = r :: rest ∧ pqRecv s = (pqRelease { s with pq := rest }, .item r)) ∨
    (s.pq = [] ∧ pqRecv s = (s, .closed) ∧ (senders s = 0 ∨ s.pqClosed = true)) ∨
    (s.pq = [] ∧ pqRecv s = ({ s with pqRxWaker := true }, .pending)) := by
  unfold pqRecv
  cases h : s.pq with
  | cons r rest => left; exact ⟨r, rest, rfl, rfl⟩
  | nil =>
    right
    dsimp only
    split
    · rename_i hs; left; exact ⟨rfl, rfl, .inl (by simpa using hs)⟩
    · split
      · rename_i hc; left; exact ⟨rfl, rfl, .inr (by simp at hc; exact hc.1)⟩
      · right; exact ⟨rfl, rfl⟩

theorem cqRecv_out (s : St) :
    (∃ i rest, s.cq = i :: rest ∧ cqRecv s = ({ s with cq := rest }, .item i)) ∨
    (s.cq = [] ∧ cqRecv s = (s, .closed) ∧ senders s = 0) ∨
    (s.cq = [] ∧ cqRecv s = ({ s with cqRxWaker := true }, .pending)) := by
  unfold cqRecv
  cases h : s.cq with
  | cons i rest => left; exact ⟨i, rest, rfl, rfl⟩
  | nil =>
    right
    dsimp only
    split
    · rename_i hs; left; exact ⟨rfl, rfl, by simpa using hs⟩
    · right; exact ⟨rfl, rfl⟩

theorem pqRelease_pq (s : St) : (pqRelease s).pq = s.pq := by
  rcases pqRelease_out s with ⟨w, rest, _, e⟩ | ⟨_, e⟩ <;> rw [e]
  obtain ⟨cs, os, h⟩ := wakeCall_only { s with pqWaiters := rest, pqAssigned := s.pqAssigned ++ [w] } w
  rw [h]

theorem pqRecv_item_pq {s s1 : St} {r : DReq} (e : pqRecv s = (s1, .item r)) : s.pq = r :: s1.pq := by
  rcases pqRecv_out s with ⟨r', rest, hq, h⟩ | ⟨_, h, _⟩ | ⟨_, h⟩ <;> rw [h] at e <;> cases e
  · rw [pqRelease_pq]; exact hq  -- the `item` outcome

theorem cqRecv_item_cq {s s1 : St} {i : Nat} (e : cqRecv s = (s1, .item i)) : s.cq = i :: s1.cq := by
  rcases cqRecv_out s with ⟨i', rest, hq, h⟩ | ⟨_, h, _⟩ | ⟨_, h⟩ <;> rw [h] at e <;> cases e
  · exact hq  -- the `item` outcome

theorem removeTimer_out (s : St) (key : Nat) :
    (∃ q woke, s.timers.remove key = some (q, woke) ∧
      removeTimer s key = if woke = true then wakeDispatch { s with timers := q } else { s with timers := q }) ∨
    (s.timers.remove key = none ∧
      removeTimer s key = emit { s with poisoned := true } (.panic (tid s) "deadlines.remove: invalid key")) := by
  unfold removeTimer
  cases h : s.timers.remove key with
  | none => right; exact ⟨rfl, rfl⟩
  | some p => obtain ⟨q, woke⟩ := p; left; exact ⟨q, woke, rfl, rfl⟩

theorem completeRequest_out (s : St) (id : Nat) (o : Outcome) :
    (findEntry s id = none ∧ completeRequest s id o = (s, false)) ∨
    (∃ e, findEntry s id = some e ∧ completeRequest s id o =
      (osSend (removeTimer { s with inflight := s.inflight.filter (·.id != id) } e.timerKey) e.cid o, true)) := by
  unfold completeRequest
  cases h : findEntry s id with
  | none => left; exact ⟨rfl, rfl⟩
  | some e => right; exact ⟨e, rfl, rfl⟩

theorem cancelRequest_out (s : St) (id : Nat) :
    (findEntry s id = none ∧ cancelRequest s id = (s, none)) ∨
    (∃ e, findEntry s id = some e ∧ cancelRequest s id =
      (removeTimer { s with inflight := s.inflight.filter (·.id != id) } e.timerKey, some e)) := by
  unfold cancelRequest
  cases h : findEntry s id with
  | none => left; exact ⟨rfl, rfl⟩
  | some e => right; exact ⟨e, rfl, rfl⟩

end TarpcModel.Client.Flow
