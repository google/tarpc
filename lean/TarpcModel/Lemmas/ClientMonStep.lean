import TarpcModel.Monitors.Client
/-!
One step of a client monitor (`Mon.step`, `Monitors/Client.lean`) in parts: the book the checker is shown (`Mon.pre`), its
verdict unless a task has spun (`Mon.res`), and what the step does to the book, the checker's state and the first failure.
-/
namespace TarpcModel.Client

/-- the book a check sees -/
def Mon.pre {σ} (m : Mon σ) (e : CEv) : Book := match e with | .op _ => m.book.endOp | _ => m.book

/-- … as a function of the book alone -/
def preBook (b : Book) : CEv → Book
  | .op _ => b.endOp
  | _ => b

theorem Mon.pre_eq {σ} (m : Mon σ) (e : CEv) : m.pre e = preBook m.book e := by cases e <;> rfl

/-- the result of the check of one step (skipped once a task spun or panicked) -/
def Mon.res {σ} (check : Book → σ → CEv → σ × Option String) (m : Mon σ) (e : CEv) : σ × Option String :=
  if (m.pre e).spun then (m.st, none) else check (m.pre e) m.st e

theorem Mon.step_eq {σ} (check : Book → σ → CEv → σ × Option String) (m : Mon σ) (e : CEv) :
    Mon.step check m e =
      { book := m.book.step e, st := (Mon.res check m e).1,
        bad := match m.bad with | some w => some w | none => (Mon.res check m e).2 } := by
  unfold Mon.step Mon.res Mon.pre Mon.fail
  simp only
  cases e with
  | op o =>
    simp only
    cases h2 : (if m.book.endOp.spun = true then (m.st, none) else check m.book.endOp m.st (.op o)).2 <;>
      cases h3 : m.bad <;> simp
  | obs o =>
    simp only
    cases h2 : (if m.book.spun = true then (m.st, none) else check m.book m.st (.obs o)).2 <;>
      cases h3 : m.bad <;> simp

theorem Mon.step_book {σ} (check : Book → σ → CEv → σ × Option String) (m : Mon σ) (e : CEv) :
    (Mon.step check m e).book = m.book.step e := by rw [Mon.step_eq]

theorem Mon.step_st {σ} (check : Book → σ → CEv → σ × Option String) (m : Mon σ) (e : CEv) :
    (Mon.step check m e).st = (Mon.res check m e).1 := by rw [Mon.step_eq]

theorem Mon.step_bad {σ} (check : Book → σ → CEv → σ × Option String) (m : Mon σ) (e : CEv) :
    (Mon.step check m e).bad = match m.bad with | some w => some w | none => (Mon.res check m e).2 := by
  rw [Mon.step_eq]

theorem Mon.step_bad_none {σ} {check : Book → σ → CEv → σ × Option String} {m : Mon σ} {e : CEv} :
    (Mon.step check m e).bad = none ↔ m.bad = none ∧ (Mon.res check m e).2 = none := by
  rw [Mon.step_bad]
  cases m.bad <;> simp

theorem Mon.step_ok {σ} {check : Book → σ → CEv → σ × Option String} {m : Mon σ} {e : CEv} (hb : m.bad = none)
    (hc : (check (m.pre e) m.st e).2 = none) : (Mon.step check m e).bad = none :=
  Mon.step_bad_none.mpr ⟨hb, by unfold Mon.res; split; rfl; exact hc⟩

end TarpcModel.Client
