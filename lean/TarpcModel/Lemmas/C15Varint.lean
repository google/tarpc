import TarpcModel.Wire.Varint
/-!
Round trips of bincode's varint integer encoding (`Wire/Varint.lean`), each in front of any following bytes.
-/
namespace TarpcModel.Bincode

theorem leBytes_length (n v : Nat) : (leBytes n v).length = n := by
  induction n generalizing v with
  | zero => rfl
  | succ n ih => simp [leBytes, ih]

theorem leVal_leBytes (n v : Nat) (h : v < 256 ^ n) : leVal (leBytes n v) = v := by
  induction n generalizing v with
  | zero => simp [leBytes, leVal]; omega
  | succ n ih =>
    have h' : v / 256 < 256 ^ n := by
      rw [Nat.pow_succ] at h
      exact Nat.div_lt_of_lt_mul (by omega)
    simp only [leBytes, leVal, ih _ h']
    have : (UInt8.ofNat (v % 256)).toNat = v % 256 := by
      simp [UInt8.toNat_ofNat']
    omega

theorem leVal_lt (bs : Bytes) : leVal bs < 256 ^ bs.length := by
  induction bs with
  | nil => simp [leVal]
  | cons b t ih =>
    have hb := b.toNat_lt
    simp only [leVal, List.length_cons, Nat.pow_succ]
    omega

theorem decLE_leBytes (n v : Nat) (rest : Bytes) (h : v < 256 ^ n) :
    decLE n (leBytes n v ++ rest) = some (v, rest) := by
  have hl := leBytes_length n v
  simp [decLE, hl, leVal_leBytes n v h]

theorem decVarint_encVarint (v : Nat) (rest : Bytes) (h : v < 2 ^ 64) :
    decVarint (encVarint v ++ rest) = some (v, rest) := by
  unfold encVarint
  split
  · simp [decVarint, UInt8.toNat_ofNat_of_lt' (n := v) (by simp only [UInt8.size]; omega)]
    omega
  · split
    · simp [decVarint, decLE_leBytes 2 v rest (by omega)]
    · split
      · simp [decVarint, decLE_leBytes 4 v rest (by omega)]
      · simp [decVarint, decLE_leBytes 8 v rest (by omega)]

theorem decVarint128_of_decVarint {bs : Bytes} {x : Nat × Bytes} (h : decVarint bs = some x) : decVarint128 bs = some x := by
  cases bs with
  | nil => cases h
  | cons b t =>
    simp only [decVarint] at h
    simp only [decVarint128]
    split
    · simpa [*] using h
    · split
      · simpa [*] using h
      · split
        · simpa [*] using h
        · split
          · simpa [*] using h
          · simp [*] at h

theorem decVarint128_encVarint128 (v : Nat) (rest : Bytes) (h : v < 2 ^ 128) :
    decVarint128 (encVarint128 v ++ rest) = some (v, rest) := by
  unfold encVarint128
  split
  · next h64 => exact decVarint128_of_decVarint (decVarint_encVarint v rest h64)
  · simp [decVarint128, decLE_leBytes 16 v rest (by omega)]

theorem decVarintBounded_encVarint (b v : Nat) (rest : Bytes) (hb : b ≤ 2 ^ 64) (h : v < b) :
    decVarintBounded b (encVarint v ++ rest) = some (v, rest) := by
  simp [decVarintBounded, decVarint_encVarint v rest (by omega), h]

theorem decLE_lt {n : Nat} {bs : Bytes} {v : Nat} {r : Bytes} (h : decLE n bs = some (v, r)) :
    v < 256 ^ n := by
  unfold decLE at h
  split at h
  · next hn =>
    have := leVal_lt (bs.take n)
    rw [List.length_take, Nat.min_eq_left hn] at this
    simp at h
    omega
  · simp at h

/-- The value read by `decVarint` always fits 64 bits. -/
theorem decVarint_lt {bs : Bytes} {v : Nat} {r : Bytes} (h : decVarint bs = some (v, r)) :
    v < 2 ^ 64 := by
  cases bs with
  | nil => simp [decVarint] at h
  | cons b t =>
    simp only [decVarint] at h
    split at h
    · simp at h; omega
    split at h
    · exact Nat.lt_of_lt_of_le (decLE_lt h) (by decide)
    split at h
    · exact Nat.lt_of_lt_of_le (decLE_lt h) (by decide)
    split at h
    · exact Nat.lt_of_lt_of_le (decLE_lt h) (by decide)
    · simp at h

theorem unzigzag_zigzag (i : Int) : unzigzag (zigzag i) = i := by
  unfold unzigzag zigzag
  split <;> split <;> omega

theorem zigzag_unzigzag (n : Nat) : zigzag (unzigzag n) = n := by
  unfold unzigzag zigzag
  split <;> split <;> omega

theorem zigzag_lt (bits : Nat) (hb : 1 ≤ bits) (i : Int)
    (h : -(2 ^ (bits - 1) : Int) ≤ i ∧ i < (2 ^ (bits - 1) : Int)) : zigzag i < 2 ^ bits := by
  obtain ⟨k, rfl⟩ : ∃ k, bits = k + 1 := ⟨bits - 1, by omega⟩
  simp only [Nat.add_sub_cancel] at h
  have : (2 : Int) ^ k = ((2 ^ k : Nat) : Int) := by simp
  rw [this] at h
  rw [Nat.pow_succ]
  unfold zigzag
  split <;> omega

theorem decSigned_encSigned (bits : Nat) (hb : 1 ≤ bits) (hb' : bits ≤ 64) (i : Int) (rest : Bytes)
    (h : -(2 ^ (bits - 1) : Int) ≤ i ∧ i < (2 ^ (bits - 1) : Int)) :
    decSigned bits (encSigned i ++ rest) = some (i, rest) := by
  have hz := zigzag_lt bits hb i h
  have : zigzag i < 2 ^ 64 := Nat.lt_of_lt_of_le hz (Nat.pow_le_pow_right (by omega) hb')
  simp [decSigned, encSigned, decVarint_encVarint _ rest this, unzigzag_zigzag, h]

end TarpcModel.Bincode
