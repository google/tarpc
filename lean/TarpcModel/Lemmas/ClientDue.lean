import TarpcModel.Lemmas.ClientNotLate
/-!
The pre/post form of "the client fails a request at its deadline": an in-flight request that is *due* when the dispatch
is polled (its timer tick has passed and nothing is left to arm after taking off the lateness) stays due — it is never
re-armed, and no new request can take its id — until it leaves the in-flight table.  Since a poll that goes back to
waiting leaves no due timer behind (`pollDispatchCore_timers_idle`), such a request has left the table by then.
`DueJ` goes through the dispatch by `Step.of_quiet`, like `Inv'.step`.
-/
namespace TarpcModel.Client
open TarpcModel

/-- the in-flight entry with id `id` is due for expiry at `now`: its timer tick has passed and nothing of its
`remainder` is left after taking off the lateness, measured — as the code does — from the exact due time `dueAt` -/
def DueEntry (id now : Nat) (s : St) : Prop :=
  ∃ en ∈ s.inflight, en.id = id ∧ ∃ w, s.timers.Has en.timerKey en.id w ∧ w * nsPerMs ≤ now ∧
    en.remainder ≤ now - en.dueAt

/-- no queued request has id `id`; the in-flight entry with that id is due, or there is none -/
structure DueOr (id now : Nat) (s : St) : Prop where
  pq : ∀ r ∈ s.pq, r.id ≠ id
  st : DueEntry id now s ∨ ∀ en ∈ s.inflight, en.id ≠ id

variable {id now : Nat}

theorem DueOr.same {s s' : St} (hd : DueOr id now s) (hi : s'.inflight = s.inflight)
    (hh : ∀ k v w, s'.timers.Has k v w ↔ s.timers.Has k v w) (hp : ∀ r ∈ s'.pq, r ∈ s.pq) : DueOr id now s' := by
  refine ⟨fun r hr => hd.pq r (hp r hr), ?_⟩
  rcases hd.st with ⟨en, hen, h1, w, hw, h2, h3⟩ | hno
  · exact .inl ⟨en, hi ▸ hen, h1, w, (hh _ _ _).2 hw, h2, h3⟩
  · exact .inr (hi ▸ hno)

theorem DueOr.quiet {s s' : St} (hd : DueOr id now s) (hq : Quiet s s') : DueOr id now s' :=
  hd.same hq.inflight (DelayQ.has_of_fields hq.timers.entries hq.timers.expired) (fun _ hr => hq.pq ▸ hr)

theorem DueOr.of_fields {s s' : St} (hd : DueOr id now s) (hi : s'.inflight = s.inflight) (ht : s'.timers = s.timers)
    (hp : s'.pq = s.pq) : DueOr id now s' :=
  hd.same hi (fun _ _ _ => by rw [ht]) (fun r hr => hp ▸ hr)

/-- distinct in-flight entries have distinct timer keys -/
theorem TInv.key_ne {m : Nat} {inf : List Entry} {q : DelayQ} (h : TInv m inf q now) {a b : Entry} (ha : a ∈ inf)
    (hb : b ∈ inf) (hne : a.id ≠ b.id) : a.timerKey ≠ b.timerKey := by
  intro hk
  obtain ⟨w, hw, -⟩ := h.e2t a ha
  obtain ⟨w', hw', -⟩ := h.e2t b hb
  rw [hk] at hw
  exact hne (DelayQ.Has.functional h.wf hw hw').1

/-- the entry `e` is removed together with its timer -/
theorem DueOr.removed {m : Nat} {s s' : St} (h : TInv m s.inflight s.timers now)
    (hd : DueOr id now s) {e : Entry} (he : e ∈ s.inflight)
    (hi : s'.inflight = s.inflight.filter (·.id != e.id))
    (hh : ∀ k v w, s'.timers.Has k v w ↔ (s.timers.Has k v w ∧ k ≠ e.timerKey))
    (hp : ∀ r ∈ s'.pq, r ∈ s.pq) : DueOr id now s' := by
  refine ⟨fun r hr => hd.pq r (hp r hr), ?_⟩
  rcases hd.st with ⟨en, hen, h1, w, hw, h2, h3⟩ | hno
  · by_cases hid : e.id = id
    · right
      intro en' hen'
      rw [hi] at hen'
      have := (List.mem_filter.1 hen').2
      simp only [bne_iff_ne, ne_eq] at this
      rw [← hid]; exact this
    · left
      have hne : en.id ≠ e.id := fun hh' => hid (hh'.symm.trans h1)
      refine ⟨en, ?_, h1, w, (hh _ _ _).2 ⟨hw, h.key_ne hen he hne⟩, h2, h3⟩
      rw [hi]; exact List.mem_filter.2 ⟨hen, by simpa using hne⟩
  · right
    intro en' hen'
    rw [hi] at hen'
    exact hno en' (List.mem_filter.1 hen').1

theorem DueOr.removeEntry {x : Option Nat} {b : Snap} {s : St} {id' : Nat} {e : Entry}
    (h : Inv' x b s now) (hd : DueOr id now s) (hf : findEntry s id' = some e) :
    DueOr id now (removeTimer { s with inflight := s.inflight.filter (·.id != id') } e.timerKey) := by
  obtain ⟨he, hid⟩ := findEntry_some hf
  subst hid
  unfold removeTimer
  simp only
  cases hr : s.timers.remove e.timerKey with
  | none => exact absurd hr (h.t.remove_ne_none he)
  | some p =>
    obtain ⟨q', b'⟩ := p
    simp only
    have hS : DueOr id now { s with inflight := s.inflight.filter (·.id != e.id), timers := q' } :=
      hd.removed h.t he rfl (DelayQ.remove_spec h.t.wf hr).has (fun _ hr => hr)
    split
    · exact hS.quiet (quiet_wakeDispatch _)
    · exact hS

theorem DueOr.completeRequest {x : Option Nat} {b : Snap} {s : St} (h : Inv' x b s now) (hd : DueOr id now s)
    (id' : Nat) (o : Outcome) : DueOr id now (completeRequest s id' o).1 := by
  rcases Flow.completeRequest_out s id' o with ⟨_, e'⟩ | ⟨e, hf, e'⟩ <;> rw [e']
  · exact hd
  · exact (hd.removeEntry h hf).of_fields (osSend_inflight _ _ _) (osSend_timers _ _ _) (osSend_pq _ _ _)

theorem DueOr.cancelRequest {x : Option Nat} {b : Snap} {s : St} (h : Inv' x b s now) (hd : DueOr id now s)
    (id' : Nat) : DueOr id now (cancelRequest s id').1 := by
  rcases Flow.cancelRequest_out s id' with ⟨_, e'⟩ | ⟨e, hf, e'⟩ <;> rw [e']
  · exact hd
  · exact hd.removeEntry h hf

theorem DueOr.unhold {s : St} {r : DReq} (hd : DueOr id now (hold s r)) : DueOr id now s :=
  hd.same rfl (fun _ _ _ => Iff.rfl) (fun _ hr' => List.mem_cons_of_mem _ hr')

/-- `insert_request` for a request just taken off the queue (it still counts as queued in the hypothesis) -/
theorem DueOr.insertRequest {x : Option Nat} {b : Snap} {s : St} {r : DReq}
    (h : Inv' x b (hold s r) now) (hd : DueOr id now (hold s r)) :
    ∀ s', insertRequest s now r = some s' → DueOr id now s' := by
  intro s' hs'
  have hd0 : DueOr id now s := hd.unhold
  have hrid : r.id ≠ id := hd.pq r List.mem_cons_self
  rcases insertRequest_some hs' with ⟨-, rfl⟩ | ⟨-, q, w, -, rfl⟩ | ⟨hf, q, key, w, hins, rfl⟩
  · exact hd0.of_fields rfl rfl rfl
  · exact hd0.of_fields rfl rfl rfl
  · have hwf : s.timers.WF := h.t.wf
    have hspec := DelayQ.insert_spec hwf hins
    suffices hS : DueOr id now { s with timers := q, inflight := s.inflight ++ [entryOf r now key] } by
      split
      · exact hS.quiet (quiet_wakeDispatch _)
      · exact hS
    refine ⟨hd0.pq, ?_⟩
    rcases hd0.st with ⟨en, hen, h1, w', hw, h2, h3⟩ | hno
    · exact .inl ⟨en, List.mem_append_left _ hen, h1, w', (hspec.has _ _ _).2 (.inl hw), h2, h3⟩
    · right
      intro en hen
      simp only [List.mem_append, List.mem_singleton] at hen
      rcases hen with hen | rfl
      · exact hno en hen
      · exact hrid

/-- one iteration of `poll_expired`, on the result `r` of polling the queue -/
theorem DueOr.expireWith {x : Option Nat} {b : Snap} {s : St} (h : Inv' x b s now) (hd : DueOr id now s)
    (r : DelayQ × DelayQ.PollRes) (hr : r = s.timers.pollExpired now) :
    DueOr id now (expireWith s now r).st := by
  have hs := DelayQ.pollExpired_spec s.timers now h.t.wf h.t.timely
  rw [← hr] at hs
  -- a yielded timer is the one of the entry `findEntry` finds
  have tracked : ∀ {e en}, r.2 = .expired e → findEntry s e.val = some en → en ∈ s.inflight ∧ en.id = e.val ∧
      en.timerKey = e.key ∧ s.timers.Has e.key e.val e.whenMs ∧ e.whenMs * nsPerMs ≤ now ∧
      ∀ k v w, r.1.Has k v w ↔ (s.timers.Has k v w ∧ k ≠ e.key) := by
    intro e en he hf
    obtain ⟨h1, hdue, h3⟩ := hs.some e he
    obtain ⟨en0, hen0, hk0, hid0⟩ := h.t.t2e _ _ _ h1
    obtain ⟨hen, hid⟩ := findEntry_some hf
    obtain rfl : en = en0 := eq_of_map_nodup (f := (·.id)) h.i.inNodup hen hen0 (by rw [hid, hid0])
    exact ⟨hen, hid, hk0, h1, hdue, h3⟩
  refine expireWith_cases (motive := fun st => DueOr id now st.st) s now r ?_ ?_ ?_ ?_ ?_
  · intro hres
    have hn : r.2.entry = none := by
      cases hp : r.2 with
      | expired e => exact absurd hp (hres e)
      | pending => rfl
      | none => rfl
    exact hd.same rfl (hs.none hn) (fun _ hr => hr)
  · intro e he hf
    obtain ⟨h1, -, -⟩ := hs.some e he
    obtain ⟨en0, hen0, -, hid0⟩ := h.t.t2e _ _ _ h1
    exact absurd hid0 (findEntry_none hf en0 hen0)
  · -- the request is failed: its entry and timer are gone
    intro e en he hf _
    obtain ⟨hen, hid, hk0, -, -, h3⟩ := tracked he hf
    have hS : DueOr id now { s with timers := r.1, inflight := s.inflight.filter (·.id != e.val) } := by
      refine hd.removed h.t hen (by simp [hid]) ?_ (fun _ hr => hr)
      intro k v w
      rw [hk0]; exact h3 k v w
    exact hS.of_fields (osSend_inflight _ _ _) (osSend_timers _ _ _) (osSend_pq _ _ _)
  · exact fun _ _ _ _ _ _ _ _ => hd.of_fields rfl rfl rfl
  · intro e en q' key w he hf hne hins
    obtain ⟨hen, hid, hk0, h1, hdue, h3⟩ := tracked he hf
    generalize now - en.dueAt + clampTimeout (en.remainder - (now - en.dueAt)) = cut
    generalize now + clampTimeout (en.remainder - (now - en.dueAt)) = due'
    have hspec := DelayQ.insert_spec hs.wf hins
    have hval : en.id ≠ id := by
      -- a due entry is never re-armed
      intro hval
      rcases hd.st with ⟨en', hen', g1, w', hw', g2, g3⟩ | hno
      · obtain rfl : en' = en := eq_of_map_nodup (f := (·.id)) h.i.inNodup hen' hen (g1.trans hval.symm)
        rw [hk0, hid] at hw'
        obtain rfl : w' = e.whenMs := (DelayQ.Has.functional h.t.wf hw' h1).2
        omega
      · exact hno en hen hval
    have hS : DueOr id now { s with timers := q', inflight := s.inflight.map (rearmEntry e.val key cut due') } := by
      refine ⟨hd.pq, ?_⟩
      rcases hd.st with ⟨en', hen', g1, w', hw', g2, g3⟩ | hno
      · left
        have hne'' : en'.id ≠ e.val := fun hh => hval ((hid.trans hh.symm).trans g1)
        refine ⟨en', List.mem_map.2 ⟨en', hen', rearmEntry_ne hne''⟩, g1, w', ?_, g2, g3⟩
        refine (hspec.has _ _ _).2 (.inl ((h3 _ _ _).2 ⟨hw', ?_⟩))
        rw [← hk0]
        exact h.t.key_ne hen' hen (by rw [hid]; exact hne'')
      · right
        intro en' hen'
        obtain ⟨y, hy, rfl⟩ := List.mem_map.1 hen'
        rw [(rearmEntry_same _ _ _ _ y).1]; exact hno y hy
    show DueOr id now (if w = true then _ else _)
    split
    · exact hS.quiet (quiet_wakeDispatch _)
    · exact hS

/-! ### the pumps -/

/-- invariant and "due or gone" together (`J` for joint) -/
def DueJ (x : Option Nat) (b : Snap) (id now : Nat) (s : St) : Prop := Inv' x b s now ∧ DueOr id now s

variable {x : Option Nat} {b : Snap}

theorem DueJ.quiet {s s' : St} (h : DueJ x b id now s) (hq : Quiet s s') : DueJ x b id now s' :=
  ⟨h.1.quiet hq, h.2.quiet hq⟩

theorem DueJ.step {a : Act} {s s' : St} (ha : RoundK a) (st : Step now a s s') (h : DueJ x b id now s) :
    DueJ x b id now s' :=
  Step.of_quiet (P := DueJ x b id now) (fun hq h => h.quiet hq) (fun h => ⟨h.1.unhold, h.2.unhold⟩)
    (fun h hlt hi => ⟨h.1.insertRequest hlt _ hi, h.2.insertRequest h.1 _ hi⟩)
    (fun id' h => ⟨h.1.cancelRequest id', h.2.cancelRequest h.1 id'⟩)
    (fun id' o ho h => ⟨h.1.completeRequest id' o ho, h.2.completeRequest h.1 id' o⟩)
    (fun h => ⟨h.1.expireWith _ rfl, h.2.expireWith h.1 _ rfl⟩) ha st h

theorem DueJ.pollNextCancellation {s : St} (h : DueJ x b id now s) : DueJ x b id now (pollNextCancellation s).1 :=
  (pollNextCancellation_steps now s).lift (R := fun s s' => DueJ x b id now s → DueJ x b id now s') (fun _ h => h)
    (fun h1 h2 h => h2 (h1 h)) (fun ha st => DueJ.step (write_le_round _ (can_le_write _ (canScan_le_can _ ha))) st)
    (fun _ h => h.quiet (quiet_cqRecv _)) (fun _ id' h => ⟨h.1.cancelRequest id', h.2.cancelRequest h.1 id'⟩) h

theorem DueJ.pollExpired {s : St} (h : DueJ x b id now s) : DueJ x b id now (pollExpired s now).1 :=
  ((pollExpired_steps now s).mono write_le_round).kept DueJ.step h

theorem DueJ.pumpWrite {s : St} (h : DueJ x b id now s) : DueJ x b id now (pumpWrite s now).1 :=
  ((pumpWrite_steps now s).mono pump_le_round).kept DueJ.step h

theorem DueJ.pumpRead {s : St} (h : DueJ x b id now s) : DueJ x b id now (pumpRead s).1 :=
  (pumpRead_steps now s).kept DueJ.step h

/-- **Pre/post.**  A request that is due when `RequestDispatch::poll` begins has left the in-flight table when the poll
returns `Pending` (without the dispatch being poisoned). -/
theorem pollDispatchCore_due_gone (hc : QClosed now DelayQ.Complete) {s : St} (hi : Inv' x b s now)
    (hq : DelayQ.Complete s.timers) (hpq : ∀ r ∈ s.pq, r.id ≠ id) (hd : DueEntry id now s)
    (hr : (pollDispatchCore s now).2 = .pending) (hp : (pollDispatchCore s now).1.poisoned = false) :
    ∀ en ∈ (pollDispatchCore s now).1.inflight, en.id ≠ id := by
  have hidle := pollDispatchCore_timers_idle hc hq hr hp
  have shut : ∀ {s0 a s1 fin}, shutDown s0 a = (s1, fin) → ∀ en ∈ s1.inflight, en.id ≠ id := by
    intro s0 a s1 fin e
    obtain rfl : (shutDown s0 a).1 = s1 := by rw [e]
    rw [shutDown_inflight]; exact fun _ hen => nomatch hen
  revert hr hp hidle
  refine Flow.pollDispatchCore_cases (motive := fun p => p.2 = .pending → p.1.poisoned = false →
    DelayQ.Idle now p.1.timers → ∀ en ∈ p.1.inflight, en.id ≠ id) s now ?_ ?_ ?_ ?_ ?_
  · exact fun a s1 fin _ e _ _ _ => shut e
  · intro s1 _ e _ _ (hidle : DelayQ.Idle now s1.timers)
    have h1 : DueJ x b id now s1 := of_fst e ((run_steps now (runFuel s) s).kept DueJ.step ⟨hi, hpq, .inl hd⟩)
    rcases h1.2.st with ⟨en, _, _, w, hw, hdue, _⟩ | hno
    · obtain ⟨d, hdm, _, _, rfl⟩ := hw
      have := hidle.notDue d hdm
      omega
    · exact hno
  · exact fun s1 _ _ hr => nomatch hr
  · exact fun s1 _ _ _ hp => nomatch hp
  · exact fun s1 a s2 fin _ _ e _ _ _ => shut e

theorem pollDispatchKeep_due_gone (hc : QClosed now DelayQ.Complete) {s : St} (hi : StInv s now)
    (hq : DelayQ.Complete s.timers) (hrun : (s.dDropped || s.done.isSome || s.poisoned) = false)
    (hd : (pollDispatchKeep s now).done = none) (hp : (pollDispatchKeep s now).poisoned = false)
    (hdue : DueEntry id now s) : ∀ en ∈ (pollDispatchKeep s now).inflight, en.id ≠ id := by
  obtain ⟨s1, hc1, hpo, e⟩ := Flow.pollDispatchKeep_pending hrun hd hp
  have hi' : StInv { s with dWoken := false } now := hi.quiet (by exact .of_same)
  have h := pollDispatchCore_due_gone hc (s := { s with dWoken := false }) hi' hq ?_ hdue
  · rw [hc1] at h
    rw [e]; exact h rfl hpo
  intro r hr' hid
  obtain ⟨en, hen, heid, -⟩ := hdue
  have hn := hi.i.nodup
  rw [List.nodup_append] at hn
  exact hn.2.2 r.id (List.mem_map.2 ⟨r, hr', rfl⟩) en.id (List.mem_map.2 ⟨en, hen, rfl⟩) (hid.trans heid.symm)

end TarpcModel.Client
