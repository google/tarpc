import TarpcModel.Lemmas.ServerTable
import TarpcModel.Lemmas.ServerMonRun
import TarpcModel.Monitors.NoPanic
/-!
The server channel never panics while the clock is below `panicFreeNs` (2^35 ms): lifting the
`panics` clause of the server invariant (`Lemmas/ServerTable.lean`: every `Obs.panic` on record is the
`DelayQueue::insert` range check, and — the armed timeout being clamped (`ClampFits`) — it does not
happen before `panicFreeNs`) from reachable states to the event trace (`trace`, which clears the
recorded observations after every op), and the monitor form (`Monitors/NoPanic.lean`).
-/
namespace TarpcModel.Server.Flow
open TarpcModel

/-- Every panic in the event trace of a script run from a state satisfying the invariant is the
`DelayQueue` range panic and happens at or after `panicFreeNs` (if the clamp fits). -/
theorem trace_panic_ok (ops : List SOp) (c : Sys) (w : Bool) (h : SInv w c.now c.s) (ep : TaskId) (m : String)
    (hm : SEv.obs (.panic ep m) ∈ trace c ops) : PanicOk (c.now + advSum ops) m :=
  traceOf.forall_mem (Q := fun e => ∀ ep m, e = SEv.obs (.panic ep m) → PanicOk (c.now + advSum ops) m)
    (K := fun c' ops' => SInv false (clr c').now (clr c').s ∧ c'.now + advSum ops' ≤ c.now + advSum ops)
    (fun c' op ops' ⟨h0, hT⟩ => by
      have h1 := sinv_applyOp (w := false) (clr c') op h0
      have hnow : (applyOp (clr c') op).now = c'.now + opAdv op := applyOp_now _ op
      simp only [advSum] at hT
      rw [stepOp_fst, stepOp_snd, clr_now, clr_now, clr_s, clr_s]
      refine ⟨(fun _ _ e => by cases e), fun o ho ep m e => ?_, h1.clear_obs.clear_obs, ?_⟩
      · cases e
        exact (hnow ▸ h1.panics ep m (List.mem_reverse.mp ho)).mono (by omega)
      · exact Nat.le_trans (by rw [hnow]; omega) hT)
    ops c ⟨h.clear_obs, Nat.le_refl _⟩ _ hm ep m rfl

/-- No panic observation in the event trace of a script that stays before `panicFreeNs`. -/
theorem trace_no_panic (hf : ClampFits) (limit : Option Nat) (respCap tcap : Nat) (coupled : Bool) (ops : List SOp)
    (hT : advSum ops < panicFreeNs) (t : TaskId) (site : String) :
    SEv.obs (.panic t site) ∉ trace (initSys limit respCap tcap coupled) ops := by
  intro hm
  have := (trace_panic_ok ops (initSys limit respCap tcap coupled) false
    (sinv_init false limit respCap tcap coupled) t site hm).2 hf
  have h0 : (initSys limit respCap tcap coupled).now = 0 := rfl
  omega

/-- Every panic observation on record in a reachable state is the `DelayQueue` range panic and the
clock has reached `panicFreeNs` (if the clamp fits). -/
theorem reach_panic_ok (limit : Option Nat) (respCap tcap : Nat) (coupled : Bool) (ops : List SOp)
    (t : TaskId) (site : String)
    (hm : Obs.panic t site ∈ (ops.foldl applyOp (initSys limit respCap tcap coupled)).s.obs) :
    PanicOk (advSum ops) site := by
  have := (sinv_reach false limit respCap tcap coupled ops).panics t site hm
  rwa [reach_now] at this

theorem advSum_prefix_le {pre ops : List SOp} (h : pre <+: ops) : advSum pre ≤ advSum ops := by
  obtain ⟨suf, rfl⟩ := h
  rw [advSum_append]; omega

/-! ### monitor form (`Monitors/NoPanic.lean`) -/

/-- the observations of an event trace, in order -/
def obsOf (evs : List SEv) : List Obs := evs.filterMap (fun e => match e with | .obs o => some o | _ => none)

/-- the update of the `c16` field in `SrvMon.feed` (`Driver/Srv.lean`) -/
def c16Step (acc : Option String) (e : SEv) : Option String :=
  acc.orElse (fun _ => match e with | .obs o => panicOf o | _ => none)

theorem firstPanic_none_of {evs : List SEv} (h : ∀ t site, SEv.obs (.panic t site) ∉ evs) :
    firstPanic (obsOf evs) = none := by
  unfold firstPanic
  rw [List.findSome?_eq_none_iff]
  intro o ho
  obtain ⟨e, he, heq⟩ := List.mem_filterMap.mp ho
  cases e with
  | op _ => simp at heq
  | obs o' =>
    simp only [Option.some.injEq] at heq
    subst heq
    cases o' <;> try rfl
    rename_i t site
    exact absurd he (h t site)

theorem c16Step_foldl_none_of {evs : List SEv} (h : ∀ t site, SEv.obs (.panic t site) ∉ evs) :
    evs.foldl c16Step none = none := by
  induction evs with
  | nil => rfl
  | cons e evs ih =>
    have h1 : c16Step none e = none := by
      cases e with
      | op _ => rfl
      | obs o =>
        cases o <;> try rfl
        rename_i t site
        exact absurd List.mem_cons_self (h t site)
    rw [List.foldl_cons, h1]
    exact ih (fun t site hm => h t site (List.mem_cons_of_mem _ hm))

end TarpcModel.Server.Flow
