import TarpcModel.Lemmas.ServerTab7
import TarpcModel.Lemmas.ServerTab5
/-!
The bound clause of the C11 monitor (`checkC11Bound`), part 3: the fourth coupling (`Tab.Z`) over whole scripts — the
ops on executions (`poll-exec`, `drop-exec` with the book's `endOp`), the other ops, the invariant between ops
(`OInvZ`), and the acceptance theorems `c11_bound_accepts`, `c11_rest_accepts`, `c11_accepts`.
-/
namespace TarpcModel.Server.Tab
open TarpcModel TarpcModel.Server TarpcModel.Server.Flow TarpcModel.Server.ObsMon TarpcModel.Server.Mon06
open TarpcModel.Server.Mon11

theorem bo_view_noncore (b : Book) : ∀ (l : List Obs), (∀ o ∈ l, isCore o = false) → bview (bo b l) = bview b := by
  intro l
  induction l with
  | nil => intro _; rfl
  | cons o l ih =>
    intro h
    rw [bo_cons, step_not_core_view _ o (h o (List.mem_cons_self ..))]
    exact ih (fun o' ho' => h o' (List.mem_cons_of_mem _ ho'))

/-- the book's execution numbered `r` exists and is not gone (wide view) -/
def freshW (l : List WB) (r : Nat) : Bool :=
  match l.find? (·.rid == r) with
  | some x => !x.gone
  | none => false

theorem freshW_exec (b : Book) (r : Nat) :
    freshW (bw b).execs r = match b.exec r with | some e => !e.gone | none => false := by
  unfold freshW Book.exec bw
  simp only
  rw [List.find?_map]
  have : ((fun x : WB => x.rid == r) ∘ wb) = (fun e : BExec => e.rid == r) := rfl
  rw [this]
  cases b.execs.find? (fun e => e.rid == r) <;> rfl

theorem endOp_ao_fresh (b : Book) (r : Nat) (hc : b.curDropExec = some r) :
    b.endOp.abandonOrder = if freshW (bw b).execs r then b.abandonOrder ++ [r] else b.abandonOrder := by
  rw [endOp_ao_some b r hc, freshW_exec]
  cases b.exec r <;> rfl

theorem exec_wb {b : Book} {r : Nat} {e : BExec} (h : b.exec r = some e) : e.rid = r ∧ wb e ∈ (bw b).execs :=
  ⟨by simpa using List.find?_some h, List.mem_map_of_mem (List.mem_of_find?_eq_some h)⟩

theorem Z_pollExec {m : Option Bool} {b : Book} {s : St} (vid n : Nat) (h0 : s.obs = []) (hcd : b.curDropExec = none)
    (hZ : Z none m (bw b) b.abandonOrder (mv s)) :
    Z none m (bw (bo b (pollExec s vid n).obs).endOp) (bo b (pollExec s vid n).obs).endOp.abandonOrder
      (mv (pollExec s vid n)) := by
  have hcd' : (bo b (pollExec s vid n).obs).curDropExec = none := by rw [bo_curDropExec]; exact hcd
  rw [bw_endOp_none _ hcd', endOp_ao_none _ hcd']
  have hcoreF : (pollExec s vid n).obs.filter isCore = [] := by
    rw [fx_pollExec isCore_execQuiet, h0]; rfl
  have hcore := noncore_of_filter hcoreF
  have hview := bo_view_noncore b _ hcore
  have hao : (bo b (pollExec s vid n).obs).abandonOrder = b.abandonOrder := congrArg BV.ao hview
  rw [hao]
  rcases pollExec_outcome s vid n with ⟨e, hg, hl, hout⟩ | ⟨hnl, heq⟩
  · obtain ⟨g, hge, hga⟩ := hout.ex
    obtain ⟨l, hlo, hlv, hfin⟩ := hout.obs
    rw [h0, List.append_nil] at hlo
    rw [hlo] at hcore ⊢
    obtain ⟨f, hf1, hf2, hf3, hf4⟩ := gone_fold b vid l hcore hlv
    refine hZ.model ?_ (fun p hp _ => by rw [hf3]; exact hp) s.execs ye (ye ∘ g) rfl
      (by show (pollExec s vid n).execs.map ye = _; rw [hge, List.map_map])
      (fun a _ => ⟨(hga a).1, (hga a).2.2.1⟩) ?_ (fun _ => hout.cq)
    · intro r i ⟨eb, h1, h2, h3⟩
      exact ⟨f eb, by rw [hf1]; exact List.mem_map_of_mem h1, (hf2 eb).1.trans h2, (hf2 eb).2.1.trans h3⟩
    · intro en' hen'
      have : (mv (pollExec s vid n)).ents = (mv s).ents := congrArg (List.map ze) (pollExec_inflight s vid n)
      rw [← this]; exact hen'
  · rw [heq]
    have hmv : mv (emit s .noop) = mv s := rfl
    rw [hmv]
    have hbw : bw (bo b (emit s Obs.noop).obs) = bw b := by rw [emit_obs, h0]; rfl
    rw [hbw]; exact hZ

theorem Z_dropExec {rest : List Nat} {now : Nat} {pend : Option (Nat × Nat)} {m : Option Bool} {b : Book} {s : St}
    (vid n : Nat) (h0 : s.obs = []) (hcd : b.curDropExec = some vid) (hm : m ≠ some true)
    (hK : K now pend (bview b) (sview s)) (hX : X rest (bw b) (mv s)) (hY : Y now none (bw b) (mv s))
    (hdr : s.dropped = false) (hZ : Z none m (bw b) b.abandonOrder (mv s)) :
    Z none m (bw (bo b (dropExec s vid n).obs).endOp) (bo b (dropExec s vid n).obs).endOp.abandonOrder
      (mv (dropExec s vid n)) := by
  have hcd' : (bo b (dropExec s vid n).obs).curDropExec = some vid := by rw [bo_curDropExec]; exact hcd
  obtain ⟨he1, he2, _⟩ := bw_endOp_some _ vid hcd'
  have hcoreF : (dropExec s vid n).obs.filter isCore = [] := by
    rw [fx_dropExec isCore_execQuiet, h0]; rfl
  have hcore := noncore_of_filter hcoreF
  obtain ⟨hx1, hx2, _⟩ := bo_wb_noRet b _ hcore (dropExec_noRet s vid n h0)
  rw [hx1] at he1
  rw [hx2] at he2
  have hao0 : (bo b (dropExec s vid n).obs).abandonOrder = b.abandonOrder :=
    congrArg BV.ao (bo_view_noncore b _ hcore)
  have hao : (bo b (dropExec s vid n).obs).endOp.abandonOrder =
      if freshW (bw b).execs vid then b.abandonOrder ++ [vid] else b.abandonOrder := by
    rw [endOp_ao_fresh _ vid hcd', hx1, hao0]
  rw [hao]
  generalize bw (bo b (dropExec s vid n).obs).endOp = B' at he1 he2 ⊢
  have hRI : ∀ r i, RI (bw b) r i → RI B' r i := by
    intro r i ⟨eb, h1, h2, h3⟩
    obtain ⟨c1, c2, _⟩ := endF_spec vid eb
    exact ⟨endF vid eb, by rw [he1]; exact List.mem_map_of_mem h1, c1.trans h2, c2.trans h3⟩
  have hents : (mv (dropExec s vid n)).ents = (mv s).ents := congrArg (List.map ze) (dropExec_inflight s vid n)
  rcases dropExec_outcome s vid n with ⟨e, hg, hl, hout⟩ | ⟨hnl, heq⟩
  · obtain ⟨hem, hev⟩ := getExecVis_mem hg
    obtain ⟨g, hge, hga⟩ := hout.ex
    have harmed : e.guardArmed = true :=
      hY.arm (ye e) (List.mem_map_of_mem hem) (by show e.vis ≠ none; rw [hev]; exact Option.some_ne_none _) hl
    have hcq : (dropExec s vid n).cancelQ = s.cancelQ ++ [e.id] := by
      rcases hout.cq with ⟨_, _, h3⟩ | ⟨h4, _⟩
      · exact h3
      · exfalso
        rcases h4 with h4 | h4
        · rw [harmed] at h4; cases h4
        · rw [hdr] at h4; cases h4
    -- the book's execution numbered `vid`: it exists and is not gone
    obtain ⟨_, hfind, _⟩ := hK.bex (xe e) (List.mem_map_of_mem hem) vid hev
    rw [bview_find] at hfind
    cases hex0 : b.exec vid with
    | none => rw [hex0] at hfind; cases hfind
    | some e0 =>
      obtain ⟨he0r, hwm⟩ := exec_wb hex0
      have hev0 : e.vis = some e0.rid := by rw [he0r]; exact hev
      have hgo : e0.gone = false := by
        cases hgo : e0.gone with
        | false => rfl
        | true =>
          have h4 : execLive e = false := (hY.gl (ye e) (List.mem_map_of_mem hem) (wb e0) hwm hev0).mp hgo
          rw [hl] at h4; cases h4
      have hfr : freshW (bw b).execs vid = true := by
        rw [freshW_exec, hex0]
        show (!e0.gone) = true
        rw [hgo]; rfl
      have hid0 : e0.id = e.id := (hX.bid (wb e0) hwm (ye e) (List.mem_map_of_mem hem) hev0).symm
      rw [hfr, if_pos rfl]
      exact hZ.push hm vid e.id hRI (hRI vid e.id ⟨wb e0, hwm, he0r, hid0⟩) he2
        s.execs ye (ye ∘ g) rfl (by show (dropExec s vid n).execs.map ye = _; rw [hge, List.map_map])
        (fun a _ => ⟨(hga a).1, (hga a).2.2.1⟩) hents hcq
  · -- nothing to drop: the book's `endOp` appends nothing either
    have hfr : freshW (bw b).execs vid = false := by
      rw [freshW_exec]
      cases hex0 : b.exec vid with
      | none => rfl
      | some e0 =>
        obtain ⟨he0r, hwm⟩ := exec_wb hex0
        obtain ⟨y, hy, hyv⟩ := hX.bsrc (wb e0) hwm
        obtain ⟨a, ha, rfl⟩ := List.mem_map.mp hy
        have hav : a.vis = some vid := by rw [← he0r]; exact hyv
        have hdead : execLive a = false := dead_of_vis hK hnl ha hav
        have hg' : e0.gone = true := (hY.gl (ye a) hy (wb e0) hwm hyv).mpr hdead
        simp [hg']
    rw [hfr, heq]
    have hmv : mv (emit s .noop) = mv s := rfl
    rw [hmv]
    exact hZ.model hRI (fun p hp _ => by rw [he2]; exact hp)
      (mv s).execs id id (List.map_id _).symm (List.map_id _).symm (fun _ _ => ⟨rfl, rfl⟩) (fun _ h => h) (fun _ => rfl)


theorem Z_applyOp_ext {m : Option Bool} {B : BW} {ao : List Nat} (c0 : Sys) (op : SOp) (h1 : op ≠ .pollServer)
    (h2 : op ≠ .dropServer) (h3 : ∀ v, op ≠ .pollExec v) (h4 : ∀ v, op ≠ .dropExec v)
    (hZ : Z none m B ao (mv c0.s)) : Z none m B ao (mv (applyOp c0 op).s) := by
  by_cases h5 : ∃ v res, op = .finish v res
  · obtain ⟨v, res, rfl⟩ := h5
    show Z none m B ao (mv (finishHandler c0.s v res))
    rw [mv_finishHandler]; exact hZ
  · rcases mv_applyOp_quiet c0 op h1 h2 h3 h4 (fun v res hc => h5 ⟨v, res, hc⟩) with ⟨h, _⟩ | ⟨i, h, _, _⟩
    · rw [h]; exact hZ
    · rw [h]; exact hZ.congr rfl rfl rfl

theorem opBook_ao_failed (b : Book) (op : SOp) :
    (opBook b op).abandonOrder = b.endOp.abandonOrder ∧ (opBook b op).failed = b.failed := by
  unfold opBook Book.noteFinish
  have h0 : (b.step (.op op)).abandonOrder = b.endOp.abandonOrder ∧ (b.step (.op op)).failed = b.failed := by
    rw [← endOp_failed b]
    cases op <;> exact ⟨rfl, rfl⟩
  split
  · exact h0
  · exact h0

theorem CK11b_nocounts (b0 : Book) (l : List Obs) (h : l.filter isCnt = []) : CK chk11b b0 l := by
  have := CK.append (chk := chk11b) (b0 := b0) (l := []) trivial l (fun o ho b =>
    chk11b_other b o (fun k a t hc => by
      have : o ∈ l.filter isCnt := List.mem_filter.mpr ⟨ho, by rw [hc]; rfl⟩
      rw [h] at this; cases this))
  rwa [List.append_nil] at this

theorem bo_failed_mono (b : Book) (l : List Obs) (h : b.failed = true) : (bo b l).failed = true := by
  induction l with
  | nil => exact h
  | cons o l ih => rw [bo_cons]; exact (step_obs_flags _ o).2 ih

/-- the fourth coupling at the end of an op — unless the book has seen a spin or a transport failure, or the channel is
poisoned or dropped -/
def OZ (b : Book) (s : St) : Prop :=
  b.spun = true ∨ s.poisoned = true ∨ b.failed = true ∨ s.dropped = true ∨
    ∃ m, m ≠ some true ∧ (m = none → s.readFused = true) ∧ Z none m (bw b.endOp) b.endOp.abandonOrder (mv s)

theorem OZ.of_dropped {b : Book} {s : St} (h : s.dropped = true) : OZ b s := Or.inr (Or.inr (Or.inr (Or.inl h)))

theorem OZ.of_z {b : Book} {s : St} {m : Option Bool} (hm : m ≠ some true) (hfu : m = none → s.readFused = true)
    (h : Z none m (bw b.endOp) b.endOp.abandonOrder (mv s)) : OZ b s := Or.inr (Or.inr (Or.inr (Or.inr ⟨m, hm, hfu, h⟩)))

structure OInvZ (b : Book) (c : Sys) (rest : List Nat) : Prop where
  y : OInvY b c rest
  sq : SQ c.s
  z : OZ b c.s

theorem OInvZ.of_clr {b : Book} {c : Sys} {rest : List Nat} (hy : OInvY b (clr c) rest) (hsq : SQ c.s) (hz : OZ b c.s) :
    OInvZ b (clr c) rest := ⟨hy, hsq.of_timers rfl, hz⟩

theorem op_stepZ (hf : ClampFits) {b : Book} {c : Sys} {rest : List Nat} (op : SOp) (h : OInvZ b c (opReq op ++ rest))
    (hn : c.now + opAdv op < panicFreeNs) (hnear : NearOp op) :
    OInvZ (bo (opBook b op) (applyOp (clr c) op).s.obs) (stepOp c op).1 rest ∧
    CK chk11b (opBook b op) (applyOp (clr c) op).s.obs := by
  have hy' := (op_stepY hf op h.y hn hnear).1
  rw [stepOp_fst] at hy' ⊢
  generalize hc0 : clr c = c0 at hy' ⊢
  obtain ⟨hobs0, hnow0, -, hmv0, hpo0, hs0, hdd0, hcfg0, hl0, hq0⟩ := h.y.t.cleared c0 hc0
  have hdr0 : c0.s.dropped = c.s.dropped := by rw [← hc0]; rfl
  have hfu0 : c0.s.readFused = c.s.readFused := by rw [← hc0]; rfl
  have hsq0 : SQ c0.s := by rw [← hc0]; exact h.sq.of_timers rfl
  have hfin : OZ (bo (opBook b op) (applyOp c0 op).s.obs) (applyOp c0 op).s →
      OInvZ (bo (opBook b op) (applyOp c0 op).s.obs) (clr (applyOp c0 op)) rest := fun hz =>
    OInvZ.of_clr hy' (applyOp_mono SQ sq_closed c0 op hsq0) hz
  cases hb : b.spun with
  | true => exact ⟨hfin (Or.inl (bo_opBook_spun hb op _)), CK.of_spun (by rw [opBook_spun]; exact hb) _⟩
  | false =>
  obtain ⟨pend, hpp, hK, hX, hNN⟩ := h.y.t.begin op hb c0 hc0
  have hrest : c0.s.poisoned = true ∨ pend = none ∧ Y (c.now + opAdv op) none (bw (opBook b op)) (mv c0.s) ∧
      (b.failed = true ∨ c0.s.dropped = true ∨ ∃ m, m ≠ some true ∧ (m = none → c0.s.readFused = true) ∧
        Z none m (bw (opBook b op)) (opBook b op).abandonOrder (mv c0.s)) := by
    rcases hpp with rfl | hp
    · rcases of_unspun h.y.y hb with hp | hY
      · exact Or.inl (hpo0.trans hp)
      rcases of_unspun h.z hb with hp | hz
      · exact Or.inl (hpo0.trans hp)
      refine Or.inr ⟨rfl, ?_, ?_⟩
      · rw [hmv0]
        exact hY.advance (opBook_bw_execs b op) (opBook_table b op) (opBook_now_ge b op)
      · rcases hz with hfl | hd | ⟨m, hm, hfu, hZ⟩
        · exact Or.inl hfl
        · exact Or.inr (Or.inl (hdr0.trans hd))
        · refine Or.inr (Or.inr ⟨m, hm, fun hc => hfu0.trans (hfu hc), ?_⟩)
          rw [hmv0, (opBook_ao_failed b op).1]
          exact hZ.book (opBook_bw_execs b op) (opBook_table b op)
    · exact Or.inl hp
  -- an op that does not poll the request stream: no `counts` is observed; poisoned, failed, dropped are kept
  have other : op ≠ .pollServer → (∀ m, m ≠ some true → (m = none → (applyOp c0 op).s.readFused = true) →
      pend = none → Y (c.now + opAdv op) none (bw (opBook b op)) (mv c0.s) →
      Z none m (bw (opBook b op)) (opBook b op).abandonOrder (mv c0.s) →
      OZ (bo (opBook b op) (applyOp c0 op).s.obs) (applyOp c0 op).s) →
      OInvZ (bo (opBook b op) (applyOp c0 op).s.obs) (clr (applyOp c0 op)) rest ∧
        CK chk11b (opBook b op) (applyOp c0 op).s.obs := fun hps hend => by
    refine ⟨hfin ?_, CK11b_nocounts _ _ (by rw [fx_applyOp isCnt_execQuiet c0 op hps, hobs0]; rfl)⟩
    rcases hrest with hp | ⟨hpn, hY, hfl | hd | ⟨m, hm, hfu, hZ⟩⟩
    · exact Or.inr (Or.inl ((applyOp_poisoned c0 op hps).trans hp))
    · exact Or.inr (Or.inr (Or.inl (bo_failed_mono _ _ ((opBook_ao_failed b op).2.trans hfl))))
    · exact OZ.of_dropped (applyOp_mono (fun s => s.dropped = true) dropped_closed c0 op hd)
    · exact hend m hm (fun hc => applyOp_mono (fun s => s.readFused = true) fused_closed c0 op (hfu hc)) hpn hY hZ
  induction op using op_cases with
  | poll =>
    have e : c.now + opAdv SOp.pollServer = c0.now := by rw [hnow0]; rfl
    rw [e] at hNN hrest
    have hck : ∀ chk, CK chk (opBook b .pollServer) c0.s.obs := fun _ => by rw [hobs0]; trivial
    have hNP : Btw (NZp (opBook b .pollServer) c0.now rest) c0.s := by
      rcases hrest with hp | ⟨rfl, hY, hz⟩
      · exact Or.inr ⟨hp, pend, Or.inr ⟨hp, hck _, hck _, hNN⟩⟩
      · have hNY : NY (opBook b .pollServer) c0.now none rest c0.s := ⟨hNN, hck _, Or.inr (by rw [hobs0]; exact hY)⟩
        rcases hz with hfl | hd | ⟨m, hm, hfu, hZ⟩
        · exact Or.inl (Or.inl ⟨some false, nofun, ⟨hNY, hck _, nofun,
            Or.inr (Or.inl (by rw [hobs0, bo_nil, (opBook_ao_failed b _).2]; exact hfl))⟩, trivial⟩)
        · exact Or.inl (Or.inl ⟨some false, nofun, ⟨hNY, hck _, nofun, Or.inr (Or.inr (Or.inl hd))⟩, trivial⟩)
        · exact Or.inl (Or.inl ⟨m, hm, ⟨hNY, hck _, hfu, Or.inr (Or.inr (Or.inr (by rw [hobs0]; exact hZ)))⟩, trivial⟩)
    have hfinal := NZ_pollServer hf (by rw [← e]; exact hn) hobs0 hs0 hq0 hsq0 hdd0 hNP (BL_opBook_poll b h.y.blim)
      rfl hl0 hcfg0.1 hcfg0.2
    have hcd : (bo (opBook b .pollServer) (pollServer c0.s c0.now).obs).curDropExec = none := by
      rw [bo_curDropExec, opBook_cd]
    rcases hfinal with (⟨m, hm, hN, _⟩ | ⟨hpo, _, hckb, _⟩) | ⟨hpo, _, h⟩
    · refine ⟨hfin ?_, hN.ck⟩
      rcases hN.z with hs | hs | hs | hZ
      · exact Or.inl hs
      · exact Or.inr (Or.inr (Or.inl hs))
      · exact OZ.of_dropped hs
      · refine OZ.of_z hm hN.fu ?_
        show Z none m (bw (bo (opBook b .pollServer) (pollServer c0.s c0.now).obs).endOp)
          (bo (opBook b .pollServer) (pollServer c0.s c0.now).obs).endOp.abandonOrder (mv (pollServer c0.s c0.now))
        rw [bw_endOp_none _ hcd, endOp_ao_none _ hcd]; exact hZ
    · exact ⟨hfin (Or.inr (Or.inl hpo)), hckb⟩
    · exact ⟨hfin (Or.inr (Or.inl hpo)), h.elim (fun ⟨_, _, h, _⟩ => h.ck) (fun h => h.2.2.1)⟩
  | drop =>
    refine other nofun (fun _ _ _ _ _ _ => ?_)
    cases hlive : (c0.s.dropped || c0.s.poisoned) with
    | false => exact OZ.of_dropped (dropServer_dropped c0.s hlive)
    | true =>
      simp only [Bool.or_eq_true] at hlive
      rcases hlive with hd | hp
      · exact OZ.of_dropped (dropServer_dropped_mono c0.s hd)
      · exact Or.inr (Or.inl ((applyOp_poisoned c0 .dropServer nofun).trans hp))
  | pexec v =>
    exact other nofun (fun m hm hfu _ _ hZ => OZ.of_z hm hfu (Z_pollExec v c0.now hobs0 (by rw [opBook_cd]) hZ))
  | dexec v =>
    refine other nofun (fun m hm hfu hpn hY hZ => ?_)
    subst hpn
    cases hd : c0.s.dropped with
    | true => exact OZ.of_dropped (applyOp_mono (fun s => s.dropped = true) dropped_closed c0 (.dropExec v) hd)
    | false => exact OZ.of_z hm hfu (Z_dropExec v c0.now hobs0 (by rw [opBook_cd]) hm hK hX hY hd hZ)
  | ext op he =>
    refine other he.1 (fun m hm hfu _ _ hZ => unspun_or fun hs => Or.inr (Or.inr (Or.inr ⟨m, hm, hfu, ?_⟩)))
    obtain ⟨hxw, hcd⟩ := he.facts hobs0 b
    obtain ⟨_, hview, hle⟩ := bo_extW_unspun (opBook b op) hxw hs
    rw [hobs0] at hle hview
    rw [bw_endOp_none _ hcd, endOp_ao_none _ hcd, show (bo (opBook b op) (applyOp c0 op).s.obs).abandonOrder =
      (opBook b op).abandonOrder from congrArg BV.ao hview]
    exact (Z_applyOp_ext c0 op he.1 he.2.1 he.2.2.1 he.2.2.2 hZ).book hle.execs (congrArg BV.table hview)


theorem chk11b_eq : chk11b = chkOf checkC11Bound := rfl

theorem oinvZ_init (respCap tcap : Nat) (coupled : Bool) (rest : List Nat) (h : rest.Nodup) :
    OInvZ ({ limit := none } : Book) (initSys none respCap tcap coupled) rest :=
  ⟨oinvY_init respCap tcap coupled rest h, DelayQ.StackEq_empty,
    OZ.of_z (m := some false) nofun nofun
      ⟨nofun, fun pop hp => by
        cases pop with
        | true => cases hp
        | false => exact All2.nil⟩⟩

theorem c11_bound_accepts (hf : ClampFits) (respCap tcap : Nat) (coupled : Bool) (ops : List SOp)
    (hT : advSum ops < panicFreeNs) (hd : DistinctIds ops) (hnear : NearOps ops) :
    (Mon.run none checkC11Bound () (trace (initSys none respCap tcap coupled) ops)).bad = none :=
  trace_accepts (I := OInvZ) (fun _ _ => rfl) (op_stepZ hf) ops _ _ rfl (oinvZ_init respCap tcap coupled _ hd) (by
    show 0 + advSum ops < panicFreeNs
    omega) hnear

theorem c11_rest_accepts (hf : ClampFits) (respCap tcap : Nat) (coupled : Bool) (ops : List SOp)
    (hT : advSum ops < panicFreeNs) (hd : DistinctIds ops) (hnear : NearOps ops) :
    (Mon.run none checkC11Rest () (trace (initSys none respCap tcap coupled) ops)).bad = none :=
  FlowMon.run_orElse checkC11Rest checkC11Bound checkC11Idle checkC11Rest_split _ _ _ _ rfl rfl rfl
    (c11_bound_accepts hf respCap tcap coupled ops hT hd hnear)
    (c11_idle_accepts hf respCap tcap coupled ops hT hd hnear)

theorem c11_accepts (hf : ClampFits) (respCap tcap : Nat) (coupled : Bool) (ops : List SOp)
    (hT : advSum ops < panicFreeNs) (hd : DistinctIds ops) (hnear : NearOps ops)
    (hcounts : (monC11Counts none (trace (initSys none respCap tcap coupled) ops)).bad = none) :
    (monC11 none (trace (initSys none respCap tcap coupled) ops)).bad = none :=
  FlowMon.run_orElse checkC11 checkC11Counts checkC11Rest checkC11_split _ _ _ _ rfl rfl rfl hcounts
    (c11_rest_accepts hf respCap tcap coupled ops hT hd hnear)

end TarpcModel.Server.Tab
