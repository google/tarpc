import TarpcModel.Lemmas.ServerTable
import TarpcModel.Lemmas.ServerInv
import TarpcModel.Lemmas.ServerMonRun
/-!
Top-level invariant of the server model and its lifting to traces (`gev`/`traceGhost`: the ghost folded over a trace), and the
link to the decidable monitors.

Five bundles of the same clauses occur; the proofs carry the two without the table clause (the table ↔ timers bijection
travels in `Flow.SInv`, and `TableWF` is read off it by `Flow.TInv.tableWF`: for the `counts` observation at the end of a poll,
and at the end of `run_top`):

  | | table clause | ghost | coupling | |
  |---|---|---|---|---|
  | `MidG L g0 s` (ServerInv) | – | `gh L g0 s.obs` | always | carried through a poll |
  | `TopG L g s` | – | `g` | unless poisoned | carried from op to op |
  | `TopS L g0 s` | – | `gh L g0 s.obs` | unless poisoned | `TopG` inside an op |
  | `Top L g s` | `TableWF` | `g` | unless poisoned | what `run_top` states for the property files |
  | `Mid L g0 s` (ServerInv) | `TableWF` | `gh L g0 s.obs` | always | definition only |

(After a spin or a panic the channel is poisoned and never polled again: the coupling is claimed only while it is not.)
-/
namespace TarpcModel.Server

/-! ## the invariant between ops -/

/-- The invariant that holds between ops (`g` = ghost so far).  After a spin or a panic the channel
is `poisoned` and never polled again, so the ghost coupling is only claimed while it is not. -/
structure Top (L : Option Nat) (g : Ghost) (s : St) : Prop where
  table : TableWF s
  execs : ExecWF s
  ok : GOk g
  lim : s.limit = L
  coupled : s.poisoned = true ∨ Coupled g s

/-- `Top` without `TableWF` -/
structure TopG (L : Option Nat) (g : Ghost) (s : St) : Prop where
  execs : ExecWF s
  ok : GOk g
  lim : s.limit = L
  coupled : s.poisoned = true ∨ Coupled g s

theorem TopG.top {L g} {s : St} (h : TopG L g s) (ht : TableWF s) : Top L g s := ⟨ht, h.execs, h.ok, h.lim, h.coupled⟩

def TopS (L : Option Nat) (g0 : Ghost) (s : St) : Prop := TopG L (gh L g0 s.obs) s

theorem MidG.top {L g0} {s : St} (h : MidG L g0 s) : TopS L g0 s :=
  ⟨h.execs, h.ok, h.lim, Or.inr h.coupled⟩

theorem TopS.mid {L g0} {s : St} (h : TopS L g0 s) (hp : s.poisoned = false) : MidG L g0 s :=
  ⟨h.execs, h.coupled.resolve_left (by simp [hp]), h.ok, h.lim⟩

theorem TopG.of_frame {L g} {s s' : St} (h : TopG L g s) (h1 : s'.inflight = s.inflight)
    (h3 : s'.execs.map ekey = s.execs.map ekey) (h5 : s'.limit = s.limit)
    (h6 : s.poisoned = true → s'.poisoned = true) : TopG L g s' :=
  ⟨h.execs.congr h1 h3, h.ok, by rw [h5]; exact h.lim,
    h.coupled.imp h6 fun hc => ⟨by rw [h1]; exact hc.read, by rw [h1]; exact hc.unsent⟩⟩

theorem TopS.of_quiet {L g0} {s s' : St} (h : TopS L g0 s) (hq : Quiet s s') : TopS L g0 s' := by
  unfold TopS
  rw [hq.gh]
  exact TopG.of_frame h hq.inflight hq.ekeys hq.limit (by rw [hq.poisoned]; exact id)

theorem Flow.TInv.tableWF {now : Nat} {s : St} (h : Flow.TInv now s) : TableWF s := by
  have hw : s.timers.KvWF := (DelayQ.kvWF_iff _).mpr h.wf
  refine ⟨h.ids, ?_, hw⟩
  have hn : (s.inflight.map SEntry.kv).Nodup :=
    List.pairwise_map.mpr ((List.pairwise_map.mp h.ids).imp fun hne he => hne (congrArg Prod.snd he))
  refine (List.perm_ext_iff_of_nodup hn hw.nodup_kv).mpr fun p => ?_
  rw [DelayQ.mem_kv, List.mem_map]
  constructor
  · rintro ⟨en, hen, rfl⟩
    obtain ⟨c, hc, hk, hv⟩ := h.fwd en hen
    exact ⟨c, hc, by rw [hk, hv]; rfl⟩
  · rintro ⟨c, hc, rfl⟩
    obtain ⟨en, hen, hk, hv⟩ := h.bwd c hc
    exact ⟨en, hen, by rw [← hk, ← hv]; rfl⟩

/-! ### `dropServer` -/

theorem top_dropServer {L g0} (s : St) (h : TopS L g0 s) : TopS L g0 (dropServer s) := by
  by_cases hd : (s.dropped || s.poisoned) = true
  · rw [dropServer_eq, if_pos hd]
    exact h.of_quiet (quiet_emit s fun _ _ => rfl)
  · have e := dropServer_eq s
    rw [if_neg hd] at e
    have hi : (dropServer s).inflight = [] := by rw [e]
    have hr : ((dropServer s).execs.map ekey).map (·.1) = (s.execs.map ekey).map (·.1) := by
      rw [e]
      show ((dsS2 s).execs.map ekey).map (·.1) = _
      unfold dsS2
      rw [Flow.foldl_wakeExec_frame (fun s => (s.execs.map ekey).map (·.1)) (by simp)]
      show ((dsS1 s).execs.map ekey).map (·.1) = _
      unfold dsS1
      rw [Flow.foldl_abortExec_frame (fun s => (s.execs.map ekey).map (·.1)) (by simp)]
    unfold TopS
    rw [(Flow.adds_dropServer s).gh fun _ ho => gstep_execObs ho]
    refine ⟨⟨?_, by rw [hi]; simp, by rw [hi]; simp⟩, h.ok, (Flow.dropServer_limit s).trans h.lim,
      Or.inr ⟨by rw [hi]; simp, by rw [hi]; simp⟩⟩
    have hl := congrArg List.length hr
    simp only [List.length_map] at hl
    rw [hr, List.length_map, hl, ← List.length_map (as := s.execs) ekey]
    exact h.execs.rids

/-! ### `pollServerKeep` / `pollServer` -/

theorem top_pollServerKeep {L g0} (s : St) (now : Nat) (hs : Flow.SInv false now s) (h : TopS L g0 s)
    (hy : (gh L g0 s.obs).yieldedNow = false) : TopS L g0 (pollServerKeep s now) := by
  have hq0 : Quiet s { s with woken := false } := .same rfl
  -- what the poll of `Requests` gives, once its result is named
  have walk : ∀ s2 r, s.poisoned = false →
      requestsPollNext (pollFuel { s with woken := false }) { s with woken := false } now = (s2, r) →
      MidG L g0 s2 ∧ TableWF s2 ∧ (gh L g0 s2.obs).yieldedNow = false ∧
      ∀ rid, r = .item rid → ∀ l, s.limit = some l → s2.inflight.length ≤ l := by
    intro s2 r hp he
    have hm := midG_requestsPollNext (pollFuel { s with woken := false }) _ now ((h.of_quiet hq0).mid hp)
    -- the table clause is read once, for the `counts` observation: it comes from the walk of `SInv`
    have ht := ((Flow.sinv_closed false now).toLoopClosed.requestsPollNext (pollFuel { s with woken := false }) _
      ((Flow.sinv_closed false now).inert s { s with woken := false } ⟨rfl, rfl, rfl, rfl, rfl, rfl, rfl, rfl, rfl, rfl, rfl, rfl, rfl, rfl⟩ hs)).t.tableWF
    have hyield := rel_requestsPollNext yieldedRel (pollFuel { s with woken := false }) { s with woken := false } now L g0
    have hitem := requestsPollNext_item (pollFuel { s with woken := false }) { s with woken := false } now
    rw [he] at hm ht hyield hitem
    exact ⟨hm, ht, hyield.trans hy, fun rid hr l hl => ((hitem s2 rid (by rw [hr])).1 l hl).1⟩
  have ho := Flow.pollServerKeep_out s now
  generalize pollServerKeep s now = s' at ho ⊢
  cases ho with
  | dead _ => exact h.of_quiet (quiet_emit s (o := .noop) fun _ _ => rfl)
  | reset hl s2 r he _ _ =>
    -- the poll spun: its observations are discarded, the channel is poisoned
    obtain ⟨hm, -, -, -⟩ := walk s2 r hl.2.2 he
    refine ⟨hm.execs.congr rfl rfl, ?_, hm.lim, Or.inl rfl⟩
    show GOk (gh L g0 (Obs.spin (tid s2) :: s.obs))
    simp only [gh_cons, gstep_spin]
    exact h.ok
  | poisoned hl _ r he _ => exact (walk _ r hl.2.2 he).1.top
  | fin hl s2 r he _ =>
    obtain ⟨hm, ht, hyield, hitem⟩ := walk s2 r hl.2.2 he
    -- the regular end of a poll: (yielded)? ret counts
    have key : ∀ s3 : St, s3.inflight = s2.inflight → s3.timers = s2.timers →
        s3.execs.map ekey = s2.execs.map ekey → s3.limit = s2.limit →
        ((gh L g0 s3.obs).yieldedNow = true → ∀ l, L = some l → s3.inflight.length ≤ l) →
        (gh L g0 s3.obs).reads = (gh L g0 s2.obs).reads →
        (gh L g0 s3.obs).sent = (gh L g0 s2.obs).sent →
        GOk (gh L g0 s3.obs) →
        ∀ ret, TopS L g0 (emit (emit s3 (.ret (tid s3) ret)) (.counts (tid s3) s3.inflight.length s3.timers.len)) := by
      intro s3 h1 h2 h3 h5 hlim hreads hsent hok ret
      have hm3 : TableWF s3 := ht.congr h1 h2
      refine ⟨(hm.execs.congr h1 h3).congr rfl rfl, ?_, ?_, Or.inr ⟨?_, ?_⟩⟩
      · simp only [Flow.emit_obs, gh_cons, gstep_ret, gstep_counts, tid]
        refine ⟨hok.orphan, hok.once, ?_, ?_⟩
        · simp [hok.counts, hm3.len_eq]
        · simp only [Bool.and_eq_true, hok.limit, true_and]
          cases hL : L with
          | none => rfl
          | some l =>
            simp only [Bool.or_eq_true, Bool.not_eq_true', decide_eq_true_eq]
            cases hyn : (gh L g0 s3.obs).yieldedNow with
            | false => left; rw [hL] at hyn; exact hyn
            | true => right; exact hlim hyn l hL
      · show s3.limit = L
        rw [h5]; exact hm.lim
      · intro e he
        simp only [Flow.emit_obs, gh_cons, gstep_ret, gstep_counts, tid, Flow.emit_inflight] at he ⊢
        rw [h1] at he
        rw [hreads]
        exact hm.coupled.read e he
      · intro e he
        simp only [Flow.emit_obs, gh_cons, gstep_ret, gstep_counts, tid, Flow.emit_inflight] at he ⊢
        rw [h1] at he
        rw [hsent]
        exact hm.coupled.unsent e he
    have nolim : ∀ s3 : St, gh L g0 s3.obs = gh L g0 s2.obs →
        ((gh L g0 s3.obs).yieldedNow = true → ∀ l, L = some l → s3.inflight.length ≤ l) := by
      intro s3 hg hy3; rw [hg, hyield] at hy3; cases hy3
    unfold Flow.pskFinish Flow.pskRet
    cases r with
    | pending => exact key s2 rfl rfl rfl rfl (nolim s2 rfl) rfl rfl hm.ok _
    | none => exact key { s2 with done := some .readyNone } rfl rfl rfl rfl (nolim _ rfl) rfl rfl hm.ok _
    | err a => exact key { s2 with done := some (.readyItemErr a) } rfl rfl rfl rfl (nolim _ rfl) rfl rfl hm.ok _
    | spin => exact key s2 rfl rfl rfl rfl (nolim s2 rfl) rfl rfl hm.ok _
    | item rid =>
      simp only []
      split
      · rename_i e _
        refine key (emit (updExec { s2 with nextVis := s2.nextVis + 1 } rid (fun x => { x with vis := some s2.nextVis }))
            (.yielded s2.nextVis e.id e.deadline e.trace)) rfl rfl (by simp) rfl ?_ rfl rfl ?_ _
        · intro _ l hl
          exact hitem rid rfl l (by rw [h.lim, hl])
        · exact ⟨hm.ok.orphan, hm.ok.once, hm.ok.counts, hm.ok.limit⟩
      · exact key s2 rfl rfl rfl rfl (nolim s2 rfl) rfl rfl hm.ok _

theorem top_pollServer {L g0} (s : St) (now : Nat) (hs : Flow.SInv false now s) (h : TopS L g0 s)
    (hy : (gh L g0 s.obs).yieldedNow = false) : TopS L g0 (pollServer s now) := by
  have hk := top_pollServerKeep s now hs h hy
  have ho := Flow.pollServer_out s now
  generalize pollServer s now = s' at ho ⊢
  cases ho with
  | drop _ _ => exact top_dropServer _ hk
  | yielded _ _ _ => exact TopG.of_frame hk rfl rfl rfl id
  | keep _ _ => exact hk

/-! ## every op preserves the invariant; lifting to traces -/

/-- a new op begins: nothing has been handed out in it yet -/
def gop (g : Ghost) : Ghost := { g with yieldedNow := false }

/-- the ghost over trace events -/
def gev (L : Option Nat) (g : Ghost) : SEv → Ghost
  | .op _ => gop g
  | .obs o => gstep L g o

/-- the ghost after a whole event list -/
def traceGhost (L : Option Nat) (g : Ghost) (evs : List SEv) : Ghost := evs.foldl (gev L) g

theorem TopG.gop {L g} {s : St} (h : TopG L g s) : TopG L (gop g) s :=
  ⟨h.execs, ⟨h.ok.orphan, h.ok.once, h.ok.counts, h.ok.limit⟩, h.lim,
   h.coupled.imp id (fun hc => ⟨hc.read, hc.unsent⟩)⟩

theorem TopG.set_obs {L g} {s : St} (h : TopG L g s) (l : List Obs) : TopG L g { s with obs := l } :=
  ⟨h.execs.congr rfl rfl, h.ok, h.lim, h.coupled.imp id (fun hc => ⟨hc.read, hc.unsent⟩)⟩

/-- only `.timerWaker` is not quiet; it touches the queue, which `TopG` does not read -/
theorem topS_ext {L g0} : Flow.Has Flow.ExtK (fun s s' => TopS L g0 s → TopS L g0 s') where
  refl := fun _ h => h
  trans := fun h1 h2 h => h2 (h1 h)
  prim := by
    intro k a b hk hp h
    cases hk with
    | timerWaker => cases hp; exact TopG.of_frame h rfl rfl rfl id
    | wake t | took ep m => exact h.of_quiet (quiet_has.prim (k := .emit _) (fun _ _ => rfl) hp)
    | setT t t' => exact h.of_quiet (quiet_has.prim (k := .setT t t') trivial hp)
    | woken => exact h.of_quiet (quiet_has.prim (k := .woken) trivial hp)

/-- **Every op preserves the invariant.** -/
theorem top_applyOp {L g0} (c : Sys) (op : SOp) (hs : Flow.SInv false c.now c.s) (h : TopS L g0 c.s)
    (hy : (gh L g0 c.s.obs).yieldedNow = false) : TopS L g0 (applyOp c op).s := by
  have hx := Flow.applyOp_steps c op
  cases op with
  | pollServer => exact top_pollServer _ _ hs h hy
  | dropServer => exact top_dropServer _ h
  | pollExec r => exact h.of_quiet (quiet_has.steps (hx.mono exec_quiet))
  | dropExec r => exact h.of_quiet (quiet_has.steps (hx.mono exec_quiet))
  | finish r res => exact h.of_quiet (quiet_has.steps (hx.mono fun k hk => exec_quiet k (Flow.finish_le_exec k hk)))
  | _ => exact topS_ext.steps hx h

theorem init_top (L : Option Nat) (respCap tcap : Nat) (coupled : Bool) :
    TopG L {} (initSys L respCap tcap coupled).s :=
  ⟨⟨by simp [initSys, init], by simp [initSys, init], by simp [initSys, init]⟩, ⟨rfl, rfl, rfl, rfl⟩, rfl,
    Or.inr ⟨by simp [initSys, init], by simp [initSys, init]⟩⟩

theorem traceGhost_append (L : Option Nat) (g : Ghost) (a b : List SEv) :
    traceGhost L g (a ++ b) = traceGhost L (traceGhost L g a) b := by
  simp [traceGhost, List.foldl_append]

/-- the ghost after one more op of the trace -/
theorem foldl_gev_obs (L : Option Nat) (g : Ghost) (op : SOp) (obs : List Obs) :
    (obs.reverse.map SEv.obs).foldl (gev L) (gev L g (.op op)) = gh L (gop g) obs := by
  rw [List.foldl_map, List.foldl_reverse]; rfl

/-- the states the trace is computed from: each op starts with an empty observation buffer -/
def run (c : Sys) (ops : List SOp) : Sys := ops.foldl (fun c op => (stepOp c op).1) c

theorem top_trace {L : Option Nat} (ops : List SOp) (c : Sys) (g : Ghost) (hs : Flow.SInv false c.now c.s)
    (h : TopG L g c.s) :
    Flow.SInv false (run c ops).now (run c ops).s ∧ TopG L (traceGhost L g (trace c ops)) (run c ops).s :=
  (Flow.traceOf.fold_final (f := gev L) (Z := fun _ => False) (fun _ _ h => h)
    (K := fun g c _ => Flow.SInv false c.now c.s ∧ TopG L g c.s)
    (fun g c op ops ⟨hs, h⟩ => .inr (by
      have hs0 : Flow.SInv false (Flow.clr c).now (Flow.clr c).s := hs.clear_obs
      have h0 : TopS L (gop g) (Flow.clr c).s := h.gop.set_obs []
      have h1 := top_applyOp (Flow.clr c) op hs0 h0 rfl
      rw [Flow.stepOp_fst, Flow.stepOp_snd, foldl_gev_obs]
      exact ⟨(Flow.sinv_applyOp _ op hs0).clear_obs, h1.set_obs []⟩))
    ops g c (.inr ⟨hs, h⟩)).resolve_left id

theorem trace_gok (L : Option Nat) (respCap tcap : Nat) (coupled : Bool) (ops : List SOp) :
    GOk (traceGhost L {} (trace (initSys L respCap tcap coupled) ops)) :=
  (top_trace ops _ _ (Flow.sinv_init false L respCap tcap coupled) (init_top L respCap tcap coupled)).2.ok

/-! ### reading properties of the trace off the ghost flags -/

theorem gev_ok_mono (L : Option Nat) (g : Ghost) (e : SEv) :
    ((gev L g e).okOrphan = true → g.okOrphan = true) ∧ ((gev L g e).okOnce = true → g.okOnce = true)
    ∧ ((gev L g e).okCounts = true → g.okCounts = true) ∧ ((gev L g e).okLimit = true → g.okLimit = true) := by
  cases e with
  | op o => simp [gev, gop]
  | obs o =>
    cases o with
    | tSend ep m ok => cases m <;> simp_all [gev, gstep]
    | tNext ep r =>
      have := gstep_tNext_spec L g ep r
      simp only [gev]
      refine ⟨by rw [this.2.2.1]; exact id, by rw [this.2.2.2.1]; exact id, by rw [this.2.2.2.2.1]; exact id,
        by rw [this.2.2.2.2.2.1]; exact id⟩
    | counts ep a b => cases ep <;> simp_all [gev, gstep]
    | _ => simp [gev, gstep]

theorem GOk.of_traceGhost {L : Option Nat} {g : Ghost} {evs : List SEv} (h : GOk (traceGhost L g evs)) : GOk g :=
  foldl_keeps (f := gev L) (P := fun g' => GOk g' → GOk g)
    (fun g' e ih h1 => ih (by
      have := gev_ok_mono L g' e
      exact ⟨this.1 h1.orphan, this.2.1 h1.once, this.2.2.1 h1.counts, this.2.2.2 h1.limit⟩)) evs id h

/-- if the whole trace passes the ghost checks, so does the step at any position -/
theorem GOk.at_split {L : Option Nat} {g : Ghost} {l1 l2 : List SEv} {e : SEv}
    (h : GOk (traceGhost L g (l1 ++ e :: l2))) : GOk (gev L (traceGhost L g l1) e) := by
  rw [traceGhost_append] at h
  have : traceGhost L (traceGhost L g l1) (e :: l2) = traceGhost L (gev L (traceGhost L g l1) e) l2 := rfl
  rw [this] at h
  exact h.of_traceGhost

theorem run_top (L : Option Nat) (respCap tcap : Nat) (coupled : Bool) (ops : List SOp) :
    Top L (traceGhost L {} (trace (initSys L respCap tcap coupled) ops)) (run (initSys L respCap tcap coupled) ops).s :=
  have h := top_trace ops _ _ (Flow.sinv_init false L respCap tcap coupled) (init_top L respCap tcap coupled)
  h.2.top h.1.t.tableWF

/-- ids recorded as read come from `Request` messages read earlier in the trace -/
theorem gev_reads (L : Option Nat) (g : Ghost) (e : SEv) (x : Nat) (h : x ∈ (gev L g e).reads) :
    x ∈ g.reads ∨ ∃ ep d tr b, e = SEv.obs (.tNext ep (.item (.request x d tr b))) := by
  cases e with
  | op o => left; simpa [gev, gop] using h
  | obs o =>
    cases o with
    | tSend ep m ok => left; cases m <;> simpa [gev, gstep] using h
    | tNext ep r =>
      cases r with
      | item m =>
        cases m with
        | request id d tr b =>
          simp only [gev, gstep, List.mem_cons] at h
          rcases h with rfl | h
          · right; exact ⟨ep, d, tr, b, rfl⟩
          · left; exact h
        | _ => left; simpa [gev] using h
      | _ => left; simpa [gev] using h
    | counts ep a b => left; cases ep <;> simpa [gev, gstep] using h
    | _ => left; simpa [gev, gstep] using h

theorem mem_reads_traceGhost (L : Option Nat) (g : Ghost) (evs : List SEv) (x : Nat)
    (h : x ∈ (traceGhost L g evs).reads) :
    x ∈ g.reads ∨ ∃ ep d tr b, SEv.obs (.tNext ep (.item (.request x d tr b))) ∈ evs := by
  induction evs generalizing g with
  | nil => left; exact h
  | cons e evs ih =>
    rcases ih (gev L g e) (by simpa [traceGhost] using h) with h1 | ⟨ep, d, tr, b, h1⟩
    · rcases gev_reads L g e x h1 with h2 | ⟨ep, d, tr, b, rfl⟩
      · left; exact h2
      · right; exact ⟨ep, d, tr, b, List.mem_cons_self ..⟩
    · right; exact ⟨ep, d, tr, b, List.mem_cons_of_mem _ h1⟩

/-- an id stays marked "answered" until a `Request` with that id is read -/
theorem gev_sent_persist (L : Option Nat) (g : Ghost) (e : SEv) (x : Nat) (h : x ∈ g.sent)
    (hne : ∀ ep d tr b, e ≠ SEv.obs (.tNext ep (.item (.request x d tr b)))) : x ∈ (gev L g e).sent := by
  cases e with
  | op o => simpa [gev, gop] using h
  | obs o =>
    cases o with
    | tSend ep m ok => cases m <;> simp [gev, gstep, h]
    | tNext ep r =>
      cases r with
      | item m =>
        cases m with
        | request id d tr b =>
          simp only [gev, gstep, List.mem_filter, bne_iff_ne, ne_eq]
          refine ⟨h, ?_⟩
          intro hx; subst hx
          exact hne ep d tr b rfl
        | _ => simpa [gev] using h
      | _ => simpa [gev] using h
    | counts ep a b => cases ep <;> simpa [gev, gstep] using h
    | _ => simpa [gev, gstep] using h

theorem traceGhost_sent_persist (L : Option Nat) (g : Ghost) (evs : List SEv) (x : Nat) (h : x ∈ g.sent)
    (hne : ∀ ep d tr b, SEv.obs (.tNext ep (.item (.request x d tr b))) ∉ evs) :
    x ∈ (traceGhost L g evs).sent :=
  (foldl_keeps_rest (f := gev L)
    (K := fun g' rest => x ∈ g'.sent ∧ ∀ ep d tr b, SEv.obs (.tNext ep (.item (.request x d tr b))) ∉ rest)
    (fun g' e rest ⟨h, hne⟩ =>
      ⟨gev_sent_persist L g' e x h (fun ep d tr b he => hne ep d tr b (he ▸ List.mem_cons_self ..)),
        fun ep d tr b hm => hne ep d tr b (List.mem_cons_of_mem _ hm)⟩) evs ⟨h, hne⟩).1

/-- `yieldedNow` stays set until the next op -/
theorem traceGhost_yielded_persist (L : Option Nat) (g : Ghost) (evs : List SEv) (h : g.yieldedNow = true)
    (hno : ∀ o, SEv.op o ∉ evs) : (traceGhost L g evs).yieldedNow = true :=
  (foldl_keeps_rest (f := gev L) (K := fun g' rest => g'.yieldedNow = true ∧ ∀ o, SEv.op o ∉ rest)
    (fun g' e rest ⟨h, hno⟩ => ⟨by
      cases e with
      | op o => exact absurd (List.mem_cons_self ..) (hno o)
      | obs o =>
        cases o with
        | tSend ep m ok => cases m <;> simpa [gev, gstep] using h
        | tNext ep r => simp only [gev]; rw [(gstep_tNext_spec L g' ep r).2.2.2.2.2.2.1]; exact h
        | counts ep a b => cases ep <;> simpa [gev, gstep] using h
        | yielded => simp [gev, gstep]
        | _ => simpa [gev, gstep] using h,
      fun o hm => hno o (List.mem_cons_of_mem _ hm)⟩) evs ⟨h, hno⟩).1

/-! ## link to the decidable monitors (`Monitors/Server.lean`) -/

open FlowMon (bookOf mon_step_book mon_step_bad)

/-- a check that never fires is accepted -/
theorem Mon.foldl_bad_none {σ} (check : Book → σ → SEv → σ × Option String) (evs : List SEv) (m : Mon σ)
    (hb : m.bad = none) (hc : ∀ b st e, e ∈ evs → (check b st e).2 = none) :
    (evs.foldl (Mon.step check) m).bad = none :=
  (foldl_keeps_rest (f := Mon.step check) (K := fun m' rest => m'.bad = none ∧ ∀ b st e, e ∈ rest → (check b st e).2 = none)
    (fun m' e rest ⟨hb, hc⟩ => ⟨mon_step_bad check m' e hb (.inr (hc _ _ e (List.mem_cons_self ..))),
      fun b st e' he' => hc b st e' (List.mem_cons_of_mem _ he')⟩) evs ⟨hb, hc⟩).1

/-- Simulation between a monitor run and the ghost: if a relation between the monitor's book and
the ghost is kept by every event and makes the check pass wherever the ghost's flags stay set, the
monitor accepts every event list on which the ghost's flags stay set. -/
theorem Mon.sim {σ} (L : Option Nat) (check : Book → σ → SEv → σ × Option String) (R : Book → Ghost → Prop)
    (hstep : ∀ b g e, R b g → R ((b.step e).noteFinish e) (gev L g e))
    (hcheck : ∀ b g st e, R b g → GOk (gev L g e) → (check (bookOf b e) st e).2 = none)
    (evs : List SEv) (m : Mon σ) (g : Ghost) (hb : m.bad = none) (hr : R m.book g)
    (hok : GOk (traceGhost L g evs)) : (evs.foldl (Mon.step check) m).bad = none := by
  induction evs generalizing m g with
  | nil => exact hb
  | cons e evs ih =>
    simp only [List.foldl_cons]
    have hok' : GOk (traceGhost L (gev L g e) evs) := hok
    apply ih _ (gev L g e)
    · exact mon_step_bad check m e hb (.inr (hcheck _ _ _ _ hr hok'.of_traceGhost))
    · rw [mon_step_book]; exact hstep _ _ _ hr
    · exact hok'

@[simp] theorem Book.endOp_reqReads (b : Book) : b.endOp.reqReads = b.reqReads := by
  unfold Book.endOp; simp only []; (repeat' split) <;> rfl

@[simp] theorem Book.sweepOne_reqReads (b : Book) : b.sweepOne.reqReads = b.reqReads := by
  unfold Book.sweepOne; simp only []; (repeat' split) <;> rfl

@[simp] theorem Book.updExec_reqReads (b : Book) (r f) : (b.updExec r f).reqReads = b.reqReads := rfl
@[simp] theorem Book.untrack_reqReads (b : Book) (id) : (b.untrack id).reqReads = b.reqReads := rfl
@[simp] theorem Book.sweep_reqReads (b : Book) : b.sweep.reqReads = b.reqReads := rfl
@[simp] theorem Book.noteFinish_reqReads (b : Book) (e : SEv) : (b.noteFinish e).reqReads = b.reqReads := by
  unfold Book.noteFinish; split <;> rfl

/-- the monitor's list of request reads only ever grows, by exactly the `Request` messages read -/
theorem Book.step_reqReads (b : Book) (e : SEv) :
    (b.step e).reqReads =
      match e with
      | .obs (.tNext _ (.item (.request id d tr body))) => b.reqReads ++ [(id, d, tr, body)]
      | _ => b.reqReads := by
  cases e with
  | op o => cases o <;> exact Book.endOp_reqReads b
  | obs o =>
    cases o with
    | tNext ep r =>
      have h2 : ∀ b' : Book, (if b'.topPoll = true then b'.sweepOne else b').reqReads = b'.reqReads :=
        fun b' => (apply_ite Book.reqReads _ _ _).trans (by rw [Book.sweepOne_reqReads, ite_self])
      cases r with
      | item m =>
        cases m with
        | request id d tr body => exact congrArg (· ++ [(id, d, tr, body)]) (h2 _)
        | cancel id tr =>
          show (Book.untrack _ id).reqReads = _
          rw [Book.untrack_reqReads]
          split <;> exact h2 _
        | response id r => exact h2 _
      | _ => exact h2 _
    | tSend ep m ok =>
      -- only a written response touches the book, and not its reads, whether the write went through or not
      cases m with
      | response id r => cases ok <;> rfl
      | _ => rfl
    | tReady ep r => simp only [Book.step, apply_ite Book.reqReads, ite_self]
    | tFlush ep r => simp only [Book.step, apply_ite Book.reqReads, ite_self]
    | ret t r =>
      cases t with
      | server k => cases r <;> simp only [Book.step, apply_ite Book.reqReads, Book.sweep_reqReads, ite_self]
      | exec r' => cases r <;> rfl
      | _ => rfl
    | handler r ev t => cases ev <;> rfl
    | counts ep a b' => cases ep <;> rfl
    | _ => rfl

/-- the monitor's book knows every id the ghost has recorded as read -/
def ReadsKnown (b : Book) (g : Ghost) : Prop := ∀ x ∈ g.reads, b.reqReads.any (·.1 == x) = true

theorem readsKnown_step (L : Option Nat) (b : Book) (g : Ghost) (e : SEv) (h : ReadsKnown b g) :
    ReadsKnown ((b.step e).noteFinish e) (gev L g e) := by
  intro x hx
  rw [Book.noteFinish_reqReads, Book.step_reqReads]
  rcases gev_reads L g e x hx with h1 | ⟨ep, d, tr, bd, rfl⟩
  · have := h x h1
    split
    · simp only [List.any_append, this, Bool.true_or]
    · exact this
  · simp


end TarpcModel.Server
