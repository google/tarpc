import TarpcModel.Lemmas.ClientPanic
import TarpcModel.Lemmas.ClientNotLate
/-!
A parked dispatch has its timers armed — the end-to-end form of "timer expiry wakes the dispatch".

`Parked now s`: if the dispatch is alive and has not been woken since its last poll (`dWoken = false`), its timer queue
is idle (`DelayQ.Idle`): no timer is due at `now`, the dispatch's waker is stored in the queue, and the queue's `Sleep` is
registered no later than the earliest tick.  It holds in every reachable state (clock below `2^35` ms): a poll that
returns `Pending` establishes it (`pollDispatch_timers_idle`); the operations of the calls, the handles and the transport do not
touch the queue and can only wake the dispatch (`Park`, `Lemmas/ClientDelayQBridge.lean`); and when the clock reaches the `Sleep`, `onAdvance` wakes the
dispatch.  Consequence: whenever an in-flight request's timer is due, the dispatch has been woken — together with
`pollDispatch_timers_idle` (the poll that follows handles every due timer): no deadline waits for an unrelated event.
-/
namespace TarpcModel.Client
open TarpcModel

/-! ### the invariant -/

/-- a dispatch that is alive and has not been woken since its last poll has an idle timer queue -/
def Parked (now : Nat) (s : St) : Prop :=
  s.dDropped = false → s.done = none → s.poisoned = false → s.dWoken = false → DelayQ.Idle now s.timers

theorem Parked.park {now : Nat} {s s' : St} (h : Parked now s) (hp : Park s s') : Parked now s' := by
  intro hd hn hz hw
  rw [hp.timers]
  exact h (hp.dDropped ▸ hd) (hp.done ▸ hn) (hp.poisoned ▸ hz) (hp.woken hw)

/-- the clock moves on: the dispatch stays parked only if no timer has become due -/
theorem Parked.onAdvance {now : Nat} {s : St} (h : Parked now s) (n : Nat) : Parked (now + n) (onAdvance s (now + n)) := by
  intro hd hn hz hw
  unfold Client.onAdvance at hd hn hz hw ⊢
  cases hf : s.timers.nextFire with
  | none =>
    simp only [hf] at hd hn hz hw ⊢
    have hi := h hd hn hz hw
    refine DelayQ.Idle.of_items_nil ?_
    cases hit : s.timers.items with
    | nil => rfl
    | cons e rest =>
      obtain ⟨_, t, ht, _⟩ := hi.armed e (by rw [hit]; exact List.mem_cons_self)
      rw [hf] at ht; cases ht
  | some t =>
    simp only [hf] at hd hn hz hw ⊢
    by_cases hc : (decide (t ≤ now + n) && s.timers.waker) = true
    · rw [if_pos hc] at hd hn hw
      simp only [Flow.wakeDispatch_dDropped, Flow.wakeDispatch_done] at hd hn
      have := Flow.wakeDispatch_woken { s with timers := { s.timers with waker := false } } hd hn
      rw [this] at hw
      cases hw
    · rw [if_neg hc] at hd hn hz hw ⊢
      have hi := h hd hn hz hw
      constructor
      · intro e he
        obtain ⟨hwk, t', ht', _, hle⟩ := hi.armed e he
        rw [hf] at ht'; cases ht'
        simp only [hwk, Bool.and_true, decide_eq_true_eq] at hc
        omega
      · intro e he
        obtain ⟨hwk, t', ht', hlt, hle⟩ := hi.armed e he
        rw [hf] at ht'; cases ht'
        simp only [hwk, Bool.and_true, decide_eq_true_eq] at hc
        exact ⟨hwk, t, hf, by omega, hle⟩

/-- dropping the dispatch marks it dropped, unless it already was (or is poisoned), in which case nothing happens -/
theorem dropDispatch_alive (s : St) :
    (dropDispatch s).dDropped = true ∨ (dropDispatch s = emit s .noop ∧ (s.dDropped || s.poisoned) = true) := by
  unfold dropDispatch
  split
  · rename_i hc; exact .inr ⟨rfl, hc⟩
  · left
    simp only
    rw [foldl_field (fun s => s.dDropped) (fun s (e : Entry) => osDropTx s e.cid) (fun s e => osDropTx_dDropped s e.cid)]
    simp only
    rw [foldl_field (fun s => s.dDropped) (fun s (r : DReq) => osDropTx s r.cid) (fun s r => osDropTx_dDropped s r.cid)]
    simp only
    unfold pqClose
    simp only
    rw [foldl_field (fun s => s.dDropped) wakeCall (fun s c => wakeCall_dDropped s c)]

/-- a poll of the dispatch (queue satisfying the wheel invariant, clock in range) -/
theorem Parked.pollDispatch {now : Nat} (hc : QClosed now DelayQ.Complete) {s : St} (h : Parked now s)
    (hq : DelayQ.Complete s.timers) : Parked now (Client.pollDispatch s now) := by
  intro hd hn hp hw
  rw [Flow.pollDispatch_eq] at hd hn hw hp ⊢
  by_cases hcond : ((pollDispatchKeep s now).done.isSome && !(pollDispatchKeep s now).dDropped) = true
  · exfalso
    rw [if_pos hcond] at hd hp
    simp only [Bool.and_eq_true, Bool.not_eq_true'] at hcond
    rcases dropDispatch_alive (pollDispatchKeep s now) with hdd | ⟨heq, hor⟩
    · rw [hdd] at hd; cases hd
    · rw [heq] at hp
      simp only [hcond.2, Bool.false_or] at hor
      rw [show (emit (pollDispatchKeep s now) .noop).poisoned = (pollDispatchKeep s now).poisoned from rfl, hor] at hp
      cases hp
  · rw [if_neg hcond] at hd hn hw hp ⊢
    by_cases hrun : (s.dDropped || s.done.isSome || s.poisoned) = true
    · have hk : pollDispatchKeep s now = emit s .noop := by rw [Flow.pollDispatchKeep_eq, if_pos hrun]
      rw [hk] at hd hn hw hp ⊢
      exact h hd hn hp hw
    · have hrun' : (s.dDropped || s.done.isSome || s.poisoned) = false := by simpa using hrun
      exact pollDispatchKeep_timers_idle hc hq hrun' hn hp

theorem Parked.dropDispatch {now : Nat} {s : St} (h : Parked now s) : Parked now (Client.dropDispatch s) := by
  intro hd hn hp hw
  rcases dropDispatch_alive s with hdd | ⟨heq, _⟩
  · rw [hdd] at hd; cases hd
  · rw [heq] at hd hn hp hw ⊢
    exact h hd hn hp hw

theorem Parked.dropCall {now : Nat} (hc : QClosed now DelayQ.Complete) {s : St} (h : Parked now s)
    (hq : DelayQ.Complete s.timers) (cid : Nat) (at_ : DropAt) : Parked now (Client.dropCall s cid at_ now) := by
  have quiet : ∀ {s1 s2 : St}, Park s1 s2 → (Parked now s1 ∧ DelayQ.Complete s1.timers) →
      (Parked now s2 ∧ DelayQ.Complete s2.timers) := fun hp hs1 => ⟨hs1.1.park hp, hp.timers ▸ hs1.2⟩
  exact (dropCall_kept (P := fun s => Parked now s ∧ DelayQ.Complete s.timers) (quiet (park_crel.call (dropPre_steps 0 _ cid)))
    (quiet (park_crel.call (dropClose_steps 0 _ cid))) (quiet (park_crel.call (dropCancel_steps 0 _ cid)))
    (quiet (park_crel.call (dropFinish_steps 0 _ cid)))
    (fun hs => ⟨hs.1.pollDispatch hc hs.2, hc.pollDispatch hs.2⟩) ⟨h, hq⟩ at_).1

theorem Parked.applyOp {c : Sys} (hc : QClosed c.now DelayQ.Complete) (h : Parked c.now c.s)
    (hq : DelayQ.Complete c.s.timers) (op : COp) : Parked (Client.applyOp c op).now (Client.applyOp c op).s :=
  Flow.applyOp_cases (P := fun now s' => Parked now s') c op (fun _ _ _ => h.park (park_crel.steps (newCall_steps 0 _ _ _ _)))
    (fun _ => h.park (park_crel.call (pollCall_steps _ _ _))) (fun _ _ => h.dropCall hc hq _ _)
    (fun _ => h.park (park_crel.steps (cloneHandle_steps 0 _ _))) (fun _ => h.park (park_crel.steps (dropHandle_steps 0 _ _)))
    (h.pollDispatch hc hq) h.dropDispatch (fun _ => h.park (park_liftT _ _)) (fun _ => h.park (park_t _ _))
    (fun _ _ => h.park (.trans (park_t _ _) (park_took _ _))) h.onAdvance

theorem parked_from (hf : ClampFits) (ops : List COp) (c : Sys) (h : Parked c.now c.s) (hq : QC c.now c.s.timers)
    (hT : c.now + advSum ops < panicFreeNs) : Parked (ops.foldl applyOp c).now (ops.foldl applyOp c).s := by
  refine (foldl_keeps_rest (K := fun (c : Sys) ops => Parked c.now c.s ∧ QC c.now c.s.timers ∧
    c.now + advSum ops < panicFreeNs) (fun c op ops h => ?_) ops ⟨h, hq, hT⟩).1
  obtain ⟨h0, hq, hT⟩ := h
  have hcn : c.now < panicFreeNs := by omega
  exact ⟨h0.applyOp (complete_closed hf hcn) (hq hcn) op, QClosed.applyOp_now QC (qc_closed hf) qc_mono hq op,
    by rw [applyOp_now]; simp only [advSum] at hT; omega⟩

/-- **A parked dispatch has its timers armed.**  In every reachable state whose clock is below `2^35` ms: if the dispatch
is alive, not poisoned and has not been woken since its last poll, no timer is due, its waker is stored in the queue and
the queue's `Sleep` is registered no later than the earliest tick. -/
theorem parked_reach (hf : ClampFits) (m b tc : Nat) (coupled : Bool) (ops : List COp) (hT : advSum ops < panicFreeNs) :
    Parked (ops.foldl applyOp (initSys m b tc coupled)).now (ops.foldl applyOp (initSys m b tc coupled)).s :=
  parked_from hf ops (initSys m b tc coupled) (fun _ _ _ hw => by cases hw) (fun _ => DelayQ.Complete_empty)
    (by show 0 + advSum ops < panicFreeNs; omega)

/-- what the not-late theorems start from: a reachable state with a live dispatch and a poll that leaves it not done -/
structure PollSetup (c : Sys) : Prop where
  keep : pollDispatch c.s c.now = pollDispatchKeep c.s c.now
  notPoisoned : (pollDispatchKeep c.s c.now).poisoned = false
  closed : QClosed c.now DelayQ.Complete
  complete : DelayQ.Complete c.s.timers
  live : (c.s.dDropped || c.s.done.isSome || c.s.poisoned) = false
  inv : StInv c.s c.now
  inv' : StInv (pollDispatch c.s c.now) c.now

theorem pollDispatch_setup (hf : ClampFits) (hel : Gen.clientEnsureLoop = false) (m bufCap tcap : Nat) (coupled : Bool)
    (ops : List COp) (hT : advSum ops < panicFreeNs) (c : Sys) (hc : c = ops.foldl applyOp (initSys m bufCap tcap coupled))
    (hlive : c.s.dDropped = false ∧ c.s.done = none) (hd : (pollDispatchKeep c.s c.now).done = none) : PollSetup c := by
  subst hc
  have hT' : advSum (ops ++ [.pollDispatch]) < panicFreeNs := by
    rw [advSum_append]; simp only [advSum, opAdv]; exact hT
  have hp0 := reach_not_poisoned hf hel m bufCap tcap coupled ops hT
  have hp1 := reach_not_poisoned hf hel m bufCap tcap coupled (ops ++ [.pollDispatch]) hT'
  have hi1 := inv_reach m bufCap tcap coupled (ops ++ [.pollDispatch])
  have hi0 := inv_reach m bufCap tcap coupled ops
  have hq := qc_reach hf m bufCap tcap coupled ops
  have hnow := now_reach m bufCap tcap coupled ops
  rw [List.foldl_append] at hp1 hi1
  simp only [List.foldl_cons, List.foldl_nil, applyOp] at hp1 hi1
  generalize ops.foldl applyOp (initSys m bufCap tcap coupled) = c at *
  have e := Flow.pollDispatch_of_keep hd
  have hn : c.now < panicFreeNs := by rw [hnow]; exact hT
  exact ⟨e, e ▸ hp1, complete_closed hf hn, hq hn, by simp [hlive.1, hlive.2, hp0], hi0, hi1⟩

end TarpcModel.Client
