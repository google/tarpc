import TarpcModel.Lemmas.ServerFlow
import TarpcModel.Client.Settle
import TarpcModel.Server.Settle
import TarpcModel.Lemmas.ServerExecs
import TarpcModel.Lemmas.ClientFlowTransport
import TarpcModel.Lemmas.ClientIds
import TarpcModel.Lemmas.Basic
/-!
# Helper lemmas for C02 (no wakeup is lost)

What a wake, a send or a drop does to the record of one call / one execution (`getCall`, `getExec` after the local
updates); wakes of *other* tasks never un-wake; the two registrations of the server's stream task (guard-cancellation
queue, response queue) followed through a poll; a fuel-returning variant of the two `settleLoop`s.
-/

/-! ## DelayQ: the stored waker survives a whole `poll_expired` -/
namespace TarpcModel.DelayQ

theorem cascade_waker (fuel : Nat) (q : DelayQ) (l sl : Nat) : (cascade fuel q l sl).waker = q.waker := by
  induction fuel generalizing q with
  | zero => rfl
  | succ n ih =>
    unfold cascade
    split
    · rfl
    · rw [ih]

theorem wheelPoll_waker (fuel : Nat) (q : DelayQ) (now : Nat) : (wheelPoll fuel q now).1.waker = q.waker := by
  induction fuel generalizing q with
  | zero => rfl
  | succ n ih =>
    unfold wheelPoll
    split
    · rfl
    · split
      · rfl
      · split
        · split <;> rfl
        · rw [ih]; exact cascade_waker _ _ _ _

theorem pollIdx_waker (fuel : Nat) (q : DelayQ) (now : Nat) (h : q.waker = true) :
    (pollIdx fuel q now).1.waker = true := by
  induction fuel generalizing q with
  | zero => exact h
  | succ n ih =>
    unfold pollIdx
    split
    · split
      · rfl
      · simp only
        split
        · simp only [wheelPoll_waker]; exact h
        · split
          · rfl
          · apply ih; simp only [wheelPoll_waker]; exact h
    · simp only
      split
      · simp only [wheelPoll_waker]; exact h
      · split
        · rfl
        · apply ih; simp only [wheelPoll_waker]; exact h

/-- `poll_expired` stores the caller's waker before anything else and nothing in it clears it. -/
theorem pollExpired_waker (q : DelayQ) (now : Nat) : (q.pollExpired now).1.waker = true := by
  unfold pollExpired
  simp only
  split
  · rfl
  · exact pollIdx_waker _ _ _ rfl

end TarpcModel.DelayQ

/-! ## Client -/
namespace TarpcModel.Client

/-- The dispatch future exists and has not completed. -/
def dispatchAlive (s : St) : Prop := s.dDropped = false ∧ s.done = none


theorem liftT_woken (s : St) (r : SimT × Bool) (h : dispatchAlive s) (hr : r.2 = true) :
    (liftT s r).dWoken = true := by
  unfold liftT
  simp only [hr, ↓reduceIte]
  exact Flow.wakeDispatch_woken _ h.1 h.2

/-! ### frame lemmas: observations and call updates do not touch the dispatch's own flags -/

@[simp] theorem emitViolations_dDropped (s : St) (n : Nat) : (emitViolations s n).dDropped = s.dDropped := by
  rw [Flow.emitViolations_eq]
@[simp] theorem emitViolations_done (s : St) (n : Nat) : (emitViolations s n).done = s.done := by
  rw [Flow.emitViolations_eq]

/-! ### `getCall` after the call-local updates -/

theorem getCall_updCall_ne (s : St) (x cid : Nat) (hne : x ≠ cid) (f : Call → Call)
    (hf : ∀ c, (f c).cid = c.cid) : getCall (updCall s x f) cid = getCall s cid := by
  simp only [getCall, updCall]
  rw [find?_map_upd (·.cid) f hf]; simp [Ne.symm hne]

theorem getCall_emit (s : St) (o : Obs) (cid : Nat) : getCall (emit s o) cid = getCall s cid := rfl

theorem getCall_congr (s s' : St) (h : s'.calls = s.calls) (cid : Nat) : getCall s' cid = getCall s cid := by
  simp only [getCall, h]

theorem getCall_wakeDispatch (s : St) (cid : Nat) : getCall (wakeDispatch s) cid = getCall s cid :=
  getCall_congr _ _ (Flow.wakeDispatch_calls s) cid

theorem getCall_wakeCall_self (s : St) (cid : Nat) (c : Call) (hg : getCall s cid = some c)
    (hl : callLive c = true) : getCall (wakeCall s cid) cid = some (wokenC c) := by
  unfold wakeCall
  simp only [hg, hl, ↓reduceIte, getCall_emit]
  rw [Flow.getCall_updCall _ _ _ ?_, hg]
  · rfl
  · intro _; rfl

theorem wakeCall_not_live (s : St) (cid : Nat) (c : Call) (hg : getCall s cid = some c)
    (hl : callLive c = false) : wakeCall s cid = s := by
  unfold wakeCall
  simp [hg, hl]

theorem getCall_wakeCall_ne (s : St) (x cid : Nat) (hne : x ≠ cid) :
    getCall (wakeCall s x) cid = getCall s cid := by
  unfold wakeCall
  split
  · split
    · rw [getCall_emit, getCall_updCall_ne _ _ _ hne _ ?_]
      intro _; rfl
    · rfl
  · rfl

theorem getCall_wakeCall_if (s : St) (cid : Nat) (c : Call) (hg : getCall s cid = some c) (b : Bool) :
    getCall (if b = true then wakeCall s cid else s) cid = some { c with woken := c.woken || (b && callLive c) } := by
  cases b
  · rw [if_neg Bool.false_ne_true, hg, Bool.false_and, Bool.or_false]
  · rw [if_pos rfl, Bool.true_and]
    cases hl : callLive c
    · rw [wakeCall_not_live s cid c hg hl, hg, Bool.or_false]
    · rw [getCall_wakeCall_self s cid c hg hl, Bool.or_true]; rfl

theorem getCall_updCall_at (s : St) (cid : Nat) (f : Call → Call) (hf : ∀ c, (f c).cid = c.cid) (c : Call)
    (hg : getCall s cid = some c) : getCall (updCall s cid f) cid = some (f c) := by
  rw [Flow.getCall_updCall s cid f hf, hg]; rfl

theorem wakeCall_woken (s : St) (cid : Nat) (c : Call) (hg : getCall s cid = some c) (hl : callLive c = true) :
    (getCall (wakeCall s cid) cid).map (·.woken) = some true := by
  rw [getCall_wakeCall_self s cid c hg hl]; rfl

/-- Call `cid` exists, is live and its waker has fired. -/
def WokenLive (s : St) (cid : Nat) : Prop := ∃ c, getCall s cid = some c ∧ callLive c = true ∧ c.woken = true

/-- Call `cid` exists and is live. -/
def Live (s : St) (cid : Nat) : Prop := ∃ c, getCall s cid = some c ∧ callLive c = true

theorem WokenLive.map_woken {s : St} {cid : Nat} (h : WokenLive s cid) :
    (getCall s cid).map (·.woken) = some true := by
  obtain ⟨c, hg, _, hw⟩ := h
  simp [hg, hw]

theorem wakeCall_live (s : St) (x cid : Nat) (h : Live s cid) : Live (wakeCall s x) cid := by
  obtain ⟨c, hg, hl⟩ := h
  by_cases hx : x = cid
  · subst hx
    exact ⟨wokenC c, getCall_wakeCall_self s x c hg hl, hl⟩
  · exact ⟨c, by rw [getCall_wakeCall_ne s x cid hx]; exact hg, hl⟩

/-- Waking one call never un-wakes another (or the same) call. -/
theorem wakeCall_wokenLive_mono (s : St) (x cid : Nat) (h : WokenLive s cid) : WokenLive (wakeCall s x) cid := by
  obtain ⟨c, hg, hl, hw⟩ := h
  by_cases hx : x = cid
  · subst hx
    exact ⟨wokenC c, getCall_wakeCall_self s x c hg hl, hl, rfl⟩
  · exact ⟨c, by rw [getCall_wakeCall_ne s x cid hx]; exact hg, hl, hw⟩

theorem wakeCall_wokenLive_self (s : St) (cid : Nat) (h : Live s cid) : WokenLive (wakeCall s cid) cid := by
  obtain ⟨c, hg, hl⟩ := h
  exact ⟨wokenC c, getCall_wakeCall_self s cid c hg hl, hl, rfl⟩

theorem foldl_wakeCall_live (ws : List Nat) (s : St) (cid : Nat) (h : Live s cid) :
    Live (ws.foldl wakeCall s) cid :=
  foldl_keeps (P := fun s => Live s cid) (fun s w h => wakeCall_live s w cid h) ws h

theorem foldl_wakeCall_mono (ws : List Nat) (s : St) (cid : Nat) (h : WokenLive s cid) :
    WokenLive (ws.foldl wakeCall s) cid :=
  foldl_keeps (P := fun s => WokenLive s cid) (fun s w h => wakeCall_wokenLive_mono s w cid h) ws h

/-- A fold of `wakeCall` over a list wakes every live member of the list. -/
theorem foldl_wakeCall_wakes (ws : List Nat) (s : St) (cid : Nat) (hm : cid ∈ ws) (h : Live s cid) :
    WokenLive (ws.foldl wakeCall s) cid := by
  obtain ⟨l1, l2, rfl⟩ := List.append_of_mem hm
  rw [List.foldl_append, List.foldl_cons]
  exact foldl_wakeCall_mono l2 _ cid (wakeCall_wokenLive_self _ cid (foldl_wakeCall_live l1 s cid h))

/-! ### the oneshot -/

/-- What `Sender::send` does to the receiving call's record. -/
def sentC (c : Call) (o : Outcome) : Call :=
  { c with os := { c.os with val := some o, rxWaker := false },
           woken := c.woken || (c.os.rxWaker && callLive c) }

theorem getCall_osSend_self (s : St) (cid : Nat) (o : Outcome) (c : Call) (hg : getCall s cid = some c)
    (hopen : c.os.rxClosed = false) : getCall (osSend s cid o) cid = some (sentC c o) := by
  unfold osSend
  simp only [hg, hopen, Bool.false_eq_true, ↓reduceIte]
  rw [getCall_wakeCall_if _ cid _ (getCall_updCall_at s cid
    (fun c => { c with os := { c.os with val := some o, rxWaker := false } }) (fun _ => rfl) c hg)]
  rfl

/-- What dropping the unsent `Sender` does to the receiving call's record. -/
def dropTxC (c : Call) : Call :=
  if c.os.val.isSome || c.os.txDropped then c
  else { c with os := { c.os with txDropped := true, rxWaker := false },
                woken := c.woken || (c.os.rxWaker && callLive c) }

theorem getCall_osDropTx_self (s : St) (cid : Nat) (c : Call) (hg : getCall s cid = some c) :
    getCall (osDropTx s cid) cid = some (dropTxC c) := by
  unfold osDropTx dropTxC
  simp only [hg]
  by_cases hc : (c.os.val.isSome || c.os.txDropped) = true
  · rw [if_pos hc, if_pos hc]; exact hg
  · rw [if_neg hc, if_neg hc, getCall_wakeCall_if _ cid _ (getCall_updCall_at s cid
      (fun c => { c with os := { c.os with txDropped := true, rxWaker := false } }) (fun _ => rfl) c hg)]
    rfl

theorem getCall_osDropTx_ne (s : St) (x cid : Nat) (hne : x ≠ cid) :
    getCall (osDropTx s x) cid = getCall s cid := by
  unfold osDropTx
  cases getCall s x with
  | none => rfl
  | some c =>
    have hu := getCall_updCall_ne s x cid hne (fun c => { c with os := { c.os with txDropped := true, rxWaker := false } })
      (fun _ => rfl)
    exact ite_of (P := fun s' => getCall s' cid = getCall s cid) rfl
      (ite_of (P := fun s' => getCall s' cid = getCall s cid) ((getCall_wakeCall_ne _ _ _ hne).trans hu) hu)

/-- The call is live and either already woken or parked on an empty oneshot whose sender is alive. -/
def ParkedOrWoken (c : Call) : Prop :=
  callLive c = true ∧ (c.woken = true ∨ (c.os.val = none ∧ c.os.txDropped = false ∧ c.os.rxWaker = true))

theorem dropTxC_live (c : Call) : callLive (dropTxC c) = callLive c := by
  unfold dropTxC; split <;> rfl

theorem dropTxC_wakes (c : Call) (h : ParkedOrWoken c) : callLive (dropTxC c) = true ∧ (dropTxC c).woken = true := by
  obtain ⟨hl, h⟩ := h
  refine ⟨by rw [dropTxC_live]; exact hl, ?_⟩
  unfold dropTxC
  rcases h with hw | ⟨hv, ht, hr⟩
  · split
    · exact hw
    · simp [hw]
  · simp [hv, ht, hr, hl]

theorem wokenC_parkedOrWoken (c : Call) (h : callLive c = true) : ParkedOrWoken (wokenC c) := ⟨h, Or.inl rfl⟩

theorem foldl_wakeCall_parked (ws : List Nat) (s : St) (cid : Nat) (c : Call) (hg : getCall s cid = some c)
    (h : ParkedOrWoken c) : ∃ c', getCall (ws.foldl wakeCall s) cid = some c' ∧ ParkedOrWoken c' := by
  refine foldl_keeps (P := fun s => ∃ c', getCall s cid = some c' ∧ ParkedOrWoken c') ?_ ws ⟨c, hg, h⟩
  rintro s w ⟨c, hg, h⟩
  by_cases hw : w = cid
  · subst hw
    exact ⟨wokenC c, getCall_wakeCall_self s w c hg h.1, wokenC_parkedOrWoken c h.1⟩
  · exact ⟨c, by rw [getCall_wakeCall_ne s w cid hw]; exact hg, h⟩

theorem osDropTx_parked (s : St) (x cid : Nat) (c : Call) (hg : getCall s cid = some c) (h : ParkedOrWoken c) :
    ∃ c', getCall (osDropTx s x) cid = some c' ∧ ParkedOrWoken c' ∧ (c.woken = true ∨ x = cid → c'.woken = true) := by
  by_cases hx : x = cid
  · subst hx
    have hd := dropTxC_wakes c h
    exact ⟨dropTxC c, getCall_osDropTx_self s x c hg, ⟨hd.1, Or.inl hd.2⟩, fun _ => hd.2⟩
  · exact ⟨c, by rw [getCall_osDropTx_ne s x cid hx]; exact hg, h, fun hw => hw.resolve_right hx⟩

/-- Dropping the oneshot senders of a list of calls wakes every live, parked member and un-wakes nobody. -/
theorem foldl_osDropTx {α : Type} (key : α → Nat) (l : List α) (s : St) (cid : Nat) (c : Call)
    (hg : getCall s cid = some c) (h : ParkedOrWoken c) :
    ∃ c', getCall (l.foldl (fun s r => osDropTx s (key r)) s) cid = some c' ∧ ParkedOrWoken c' ∧
      (c.woken = true ∨ cid ∈ l.map key → c'.woken = true) := by
  induction l generalizing s c with
  | nil => exact ⟨c, hg, h, fun hm => hm.resolve_right (by simp)⟩
  | cons x xs ih =>
    obtain ⟨c1, hg1, h1, hw1⟩ := osDropTx_parked s (key x) cid c hg h
    obtain ⟨c2, hg2, h2, hw2⟩ := ih _ c1 hg1 h1
    refine ⟨c2, hg2, h2, fun hm => hw2 ?_⟩
    rcases hm with hm | hm
    · exact Or.inl (hw1 (Or.inl hm))
    · rcases List.mem_cons.mp hm with e | e
      · exact Or.inl (hw1 (Or.inr e.symm))
      · exact Or.inr e

/-! ### frame lemmas used for `dropDispatch` -/


theorem foldl_wakeCall_pq (ws : List Nat) (s : St) : (ws.foldl wakeCall s).pq = s.pq :=
  foldl_keeps (P := fun s' => s'.pq = s.pq) (fun s' w h => (wakeCall_pq s' w).trans h) ws rfl

theorem foldl_wakeCall_inflight (ws : List Nat) (s : St) : (ws.foldl wakeCall s).inflight = s.inflight :=
  foldl_keeps (P := fun s' => s'.inflight = s.inflight) (fun s' w h => (wakeCall_inflight s' w).trans h) ws rfl

@[simp] theorem pqClose_pq (s : St) : (pqClose s).pq = s.pq := by
  unfold pqClose; simp only [foldl_wakeCall_pq]
@[simp] theorem pqClose_inflight (s : St) : (pqClose s).inflight = s.inflight := by
  unfold pqClose; simp only [foldl_wakeCall_inflight]


theorem foldl_osDropTx_inflight {α : Type} (key : α → Nat) (l : List α) (s : St) :
    (l.foldl (fun s r => osDropTx s (key r)) s).inflight = s.inflight :=
  foldl_keeps (P := fun s' => s'.inflight = s.inflight) (fun s' r h => (osDropTx_inflight s' (key r)).trans h) l rfl

/-- **Terminal fan-out**: when the dispatch goes away, every live caller parked on an empty oneshot whose
request is still queued or in flight is woken (or was already). -/
theorem dropDispatch_wakes_parked (s : St) (hd : s.dDropped = false) (hp : s.poisoned = false)
    (cid : Nat) (c : Call) (hg : getCall s cid = some c) (h : ParkedOrWoken c)
    (hm : cid ∈ s.pq.map (·.cid) ∨ cid ∈ s.inflight.map (·.cid)) :
    (getCall (dropDispatch s) cid).map (·.woken) = some true := by
  rw [dropDispatch_stages, if_neg (by simp [hd, hp])]
  -- the request queue is closed first: waiters are woken
  obtain ⟨c1, hg1, h1⟩ := foldl_wakeCall_parked s.pqWaiters
    { s with dDropped := true, dWoken := false, pqClosed := true, pqWaiters := [] } cid c hg h
  have hg1 : getCall (pqClose { s with dDropped := true, dWoken := false }) cid = some c1 := hg1
  have hpq : (pqClose { s with dDropped := true, dWoken := false }).pq = s.pq := pqClose_pq _
  have hin : (pqClose { s with dDropped := true, dWoken := false }).inflight = s.inflight := pqClose_inflight _
  generalize pqClose { s with dDropped := true, dWoken := false } = s1 at hg1 hpq hin ⊢
  show (getCall (dropI (dropQ s1)) cid).map (·.woken) = some true
  have hg1' : getCall { s1 with pq := [], pqAvail := s1.bufCap - s1.pqAssigned.length } cid = some c1 :=
    (getCall_congr s1 _ rfl cid).trans hg1
  -- then the queued requests' senders are dropped
  obtain ⟨c2, hg2, h2, hw2⟩ := foldl_osDropTx (fun r : DReq => r.cid) s1.pq _ cid c1 hg1' h1
  have hg2' : getCall { dropQ s1 with inflight := [], timers := {} } cid = some c2 :=
    (getCall_congr (dropQ s1) _ rfl cid).trans hg2
  -- then the in-flight ones
  obtain ⟨c3, hg3, h3, hw3⟩ := foldl_osDropTx (fun e : Entry => e.cid) (dropQ s1).inflight _ cid c2 hg2' h2
  have hfin : getCall (dropI (dropQ s1)) cid = some c3 := hg3
  rw [hfin]
  rcases hm with hm | hm
  · -- woken by the first fold, kept by the second
    simp [hw3 (Or.inl (hw2 (Or.inr (by rw [hpq]; exact hm))))]
  · have e : (dropQ s1).inflight = s.inflight := (foldl_osDropTx_inflight _ _ _).trans hin
    simp [hw3 (Or.inr (by rw [e]; exact hm))]

/-! ### settle with the remaining fuel reported -/

/-- `settleLoop`, also returning the fuel that was left when it stopped. -/
def settleLoopF : Nat → Sys → Sys × Nat
  | 0, c => (c, 0)
  | fuel + 1, c =>
      if dispatchRunnable c.s then settleLoopF fuel { c with s := pollDispatch c.s c.now }
      else match firstWokenCall c.s with
        | some cid => settleLoopF fuel { c with s := pollCall c.s cid c.now }
        | none => (c, fuel + 1)

theorem settleLoopF_spec (fuel : Nat) (c : Sys) : (settleLoopF fuel c).1 = settleLoop fuel c ∧
    (0 < (settleLoopF fuel c).2 →
      dispatchRunnable (settleLoop fuel c).s = false ∧ firstWokenCall (settleLoop fuel c).s = none) := by
  induction fuel generalizing c with
  | zero => exact ⟨rfl, fun h => absurd h (Nat.lt_irrefl 0)⟩
  | succ n ih =>
    unfold settleLoopF settleLoop
    by_cases hd : dispatchRunnable c.s = true
    · simp only [hd, ↓reduceIte]; exact ih _
    · simp only [hd]
      cases hf : firstWokenCall c.s with
      | some cid => exact ih _
      | none => exact ⟨rfl, fun _ => ⟨by simpa using hd, hf⟩⟩

theorem settleLoopF_fst (fuel : Nat) (c : Sys) : (settleLoopF fuel c).1 = settleLoop fuel c :=
  (settleLoopF_spec fuel c).1

theorem settleLoopF_quiescent (fuel : Nat) (c : Sys) (h : 0 < (settleLoopF fuel c).2) :
    dispatchRunnable (settleLoop fuel c).s = false ∧ firstWokenCall (settleLoop fuel c).s = none :=
  (settleLoopF_spec fuel c).2 h

theorem firstWokenCall_none (s : St) (h : firstWokenCall s = none) :
    ∀ c ∈ s.calls, callLive c = true → c.woken = false := by
  intro c hc hl
  unfold firstWokenCall at h
  simp only [Option.map_eq_none_iff, List.find?_eq_none] at h
  have := h c hc
  simpa [hl] using this

end TarpcModel.Client

/-! ## Server -/
namespace TarpcModel.Server

/-- The request stream exists and has not ended. -/
def serverAlive (s : St) : Prop := s.dropped = false ∧ s.done = none

theorem wakeServer_woken (s : St) (hd : s.dropped = false) (hn : s.done = none) :
    (wakeServer s).woken = true := by
  unfold wakeServer
  simp [hd, hn, emit]

theorem wakeServer_woken_mono (s : St) (h : s.woken = true) : (wakeServer s).woken = true := by
  unfold wakeServer
  split
  · exact h
  · rfl


theorem liftT_woken (s : St) (r : SimT × Bool) (h : serverAlive s) (hr : r.2 = true) :
    (liftT s r).woken = true := by
  unfold liftT
  simp only [hr, ↓reduceIte]
  exact wakeServer_woken _ h.1 h.2

/-! ### `getExec` after the execution-local updates -/

theorem getExec_updExec (s : St) (rid : Nat) (f : Exec → Exec) (hf : ∀ e, (f e).rid = e.rid) :
    getExec (updExec s rid f) rid = (getExec s rid).map f := by
  simp only [getExec, updExec]
  rw [find?_map_upd (·.rid) f hf]; simp

theorem getExec_emit (s : St) (o : Obs) (rid : Nat) : getExec (emit s o) rid = getExec s rid := rfl

theorem getExec_congr (s s' : St) (h : s'.execs = s.execs) (rid : Nat) : getExec s' rid = getExec s rid := by
  simp only [getExec, h]

theorem getExec_wakeServer (s : St) (rid : Nat) : getExec (wakeServer s) rid = getExec s rid :=
  getExec_congr _ _ (Flow.wakeServer_execs s) rid

/-- An execution the application knows (it has a `vis` number) and that has not finished: the only kind
of execution task that exists and can be woken. -/
def wakeable (e : Exec) : Bool := execLive e && e.vis.isSome

def wokenE (e : Exec) : Exec := { e with woken := true }

theorem getExec_wakeExec_self (s : St) (rid : Nat) (e : Exec) (hg : getExec s rid = some e)
    (hw : wakeable e = true) : getExec (wakeExec s rid) rid = some (wokenE e) := by
  unfold wakeable at hw
  simp only [Bool.and_eq_true] at hw
  obtain ⟨hl, hv⟩ := hw
  obtain ⟨v, hv⟩ := Option.isSome_iff_exists.mp hv
  unfold wakeExec
  simp only [hg, hv, hl, ↓reduceIte, getExec_emit]
  rw [getExec_updExec _ _ _ ?_, hg]
  · rfl
  · intro _; rfl

theorem wakeExec_not_wakeable (s : St) (rid : Nat) (e : Exec) (hg : getExec s rid = some e)
    (hw : wakeable e = false) : wakeExec s rid = s := by
  unfold wakeExec
  simp only [hg]
  split
  · rename_i v hv
    have : execLive e = false := by simpa [wakeable, hv] using hw
    simp [this]
  · rfl

/-- `e'` is `e` possibly with wakes / aborts applied: identity, phase and `vis` are kept, the `woken` and
`aborted` flags only go up. -/
structure Mono (e e' : Exec) : Prop where
  rid : e'.rid = e.rid
  phase : e'.phase = e.phase
  vis : e'.vis = e.vis
  woken : e.woken = true → e'.woken = true
  aborted : e.aborted = true → e'.aborted = true

theorem Mono.refl (e : Exec) : Mono e e := ⟨rfl, rfl, rfl, id, id⟩
theorem Mono.trans {a b c : Exec} (h1 : Mono a b) (h2 : Mono b c) : Mono a c :=
  ⟨h2.rid.trans h1.rid, h2.phase.trans h1.phase, h2.vis.trans h1.vis,
   fun h => h2.woken (h1.woken h), fun h => h2.aborted (h1.aborted h)⟩

theorem Mono.wakeable {e e' : Exec} (h : Mono e e') : wakeable e' = wakeable e := by
  simp only [Server.wakeable, execLive, h.phase, h.vis]

theorem wakeExec_mono (s : St) (x rid : Nat) (e : Exec) (hg : getExec s rid = some e) :
    ∃ e', getExec (wakeExec s x) rid = some e' ∧ Mono e e' := by
  by_cases hx : x = rid
  · subst hx
    cases hw : wakeable e
    · rw [wakeExec_not_wakeable s x e hg hw]; exact ⟨e, hg, Mono.refl e⟩
    · exact ⟨wokenE e, getExec_wakeExec_self s x e hg hw, ⟨rfl, rfl, rfl, fun _ => rfl, id⟩⟩
  · exact ⟨e, by rw [getExec_wakeExec_ne s x rid hx]; exact hg, Mono.refl e⟩

theorem foldl_wakeExec_mono (ws : List Nat) (s : St) (rid : Nat) (e : Exec) (hg : getExec s rid = some e) :
    ∃ e', getExec (ws.foldl wakeExec s) rid = some e' ∧ Mono e e' := by
  refine foldl_keeps (P := fun s => ∃ e', getExec s rid = some e' ∧ Mono e e') ?_ ws ⟨e, hg, Mono.refl e⟩
  rintro s w ⟨e1, hg1, m1⟩
  obtain ⟨e2, hg2, m2⟩ := wakeExec_mono s w rid e1 hg1
  exact ⟨e2, hg2, m1.trans m2⟩

/-- A fold of `wakeExec` over a list wakes every wakeable member of the list. -/
theorem foldl_wakeExec_wakes (ws : List Nat) (s : St) (rid : Nat) (e : Exec) (hm : rid ∈ ws)
    (hg : getExec s rid = some e) (hw : wakeable e = true) :
    ∃ e', getExec (ws.foldl wakeExec s) rid = some e' ∧ Mono e e' ∧ e'.woken = true := by
  obtain ⟨l1, l2, rfl⟩ := List.append_of_mem hm
  rw [List.foldl_append, List.foldl_cons]
  obtain ⟨e1, hg1, m1⟩ := foldl_wakeExec_mono l1 s rid e hg
  obtain ⟨e2, hg2, m2⟩ := foldl_wakeExec_mono l2 _ rid (wokenE e1)
    (getExec_wakeExec_self _ rid e1 hg1 (m1.wakeable.trans hw))
  exact ⟨e2, hg2, m1.trans (Mono.trans (b := wokenE e1) ⟨rfl, rfl, rfl, fun _ => rfl, id⟩ m2), m2.woken rfl⟩

/-! ### abort -/

/-- What `AbortHandle::abort` does to the execution's record. -/
def abortedE (e : Exec) : Exec :=
  { e with aborted := true, abortWaker := false, woken := e.woken || (e.abortWaker && wakeable e) }

theorem getExec_wakeExec_if (s : St) (rid : Nat) (e : Exec) (hg : getExec s rid = some e) (b : Bool) :
    getExec (if b = true then wakeExec s rid else s) rid = some { e with woken := e.woken || (b && wakeable e) } := by
  cases b
  · rw [if_neg Bool.false_ne_true, hg, Bool.false_and, Bool.or_false]
  · rw [if_pos rfl, Bool.true_and]
    cases hw : wakeable e
    · rw [wakeExec_not_wakeable s rid e hg hw, hg, Bool.or_false]
    · rw [getExec_wakeExec_self s rid e hg hw, Bool.or_true]; rfl

theorem getExec_abortExec_self (s : St) (rid : Nat) (e : Exec) (hg : getExec s rid = some e) :
    getExec (abortExec s rid) rid = some (abortedE e) := by
  unfold abortExec
  simp only [hg]
  have hg' : getExec (updExec s rid (fun e => { e with aborted := true, abortWaker := false })) rid
      = some { e with aborted := true, abortWaker := false } := by
    rw [getExec_updExec _ _ _ ?_, hg]
    · rfl
    · intro _; rfl
  rw [getExec_wakeExec_if _ rid _ hg']
  rfl

theorem abortedE_mono (e : Exec) : Mono e (abortedE e) :=
  ⟨rfl, rfl, rfl, fun h => by simp [abortedE, h], fun _ => rfl⟩

theorem abortExec_mono (s : St) (x rid : Nat) (e : Exec) (hg : getExec s rid = some e) :
    ∃ e', getExec (abortExec s x) rid = some e' ∧ Mono e e' := by
  by_cases hx : x = rid
  · subst hx
    exact ⟨abortedE e, getExec_abortExec_self s x e hg, abortedE_mono e⟩
  · exact ⟨e, by rw [getExec_abortExec_ne s x rid hx]; exact hg, Mono.refl e⟩

theorem foldl_abortExec_mono (l : List SEntry) (s : St) (rid : Nat) (e : Exec) (hg : getExec s rid = some e) :
    ∃ e', getExec (l.foldl (fun s en => abortExec s en.rid) s) rid = some e' ∧ Mono e e' := by
  refine foldl_keeps (P := fun s => ∃ e', getExec s rid = some e' ∧ Mono e e') ?_ l ⟨e, hg, Mono.refl e⟩
  rintro s x ⟨e1, hg1, m1⟩
  obtain ⟨e2, hg2, m2⟩ := abortExec_mono s x.rid rid e1 hg1
  exact ⟨e2, hg2, m1.trans m2⟩

/-- Aborting the owners of a list of in-flight entries sets the abort flag of each of them and wakes
those parked on their abort waker. -/
theorem foldl_abortExec_aborts (l : List SEntry) (s : St) (rid : Nat) (e : Exec)
    (hm : rid ∈ l.map (·.rid)) (hg : getExec s rid = some e) :
    ∃ e', getExec (l.foldl (fun s en => abortExec s en.rid) s) rid = some e' ∧ Mono e e' ∧
      e'.aborted = true ∧ (e.abortWaker = true → wakeable e = true → e'.woken = true) := by
  induction l generalizing s e with
  | nil => cases hm
  | cons x xs ih =>
    simp only [List.foldl_cons]
    by_cases hx : x.rid = rid
    · have hg1 : getExec (abortExec s x.rid) rid = some (abortedE e) := by
        rw [hx]; exact getExec_abortExec_self s rid e hg
      obtain ⟨e2, hg2, m2⟩ := foldl_abortExec_mono xs (abortExec s x.rid) rid (abortedE e) hg1
      refine ⟨e2, hg2, (abortedE_mono e).trans m2, m2.aborted rfl, fun ha hw => m2.woken ?_⟩
      simp [abortedE, ha, hw]
    · have hm' : rid ∈ xs.map (·.rid) := by
        simp only [List.map_cons, List.mem_cons] at hm
        rcases hm with hm | hm
        · exact absurd hm.symm hx
        · exact hm
      have hg1 : getExec (abortExec s x.rid) rid = some e := by
        rw [getExec_abortExec_ne s x.rid rid hx]; exact hg
      exact ih _ e hm' hg1

/-! ### frame lemmas -/

@[simp] theorem updExec_rqWaiters (s : St) (x : Nat) (f : Exec → Exec) : (updExec s x f).rqWaiters = s.rqWaiters := rfl
@[simp] theorem updExec_rqAssigned (s : St) (x : Nat) (f : Exec → Exec) : (updExec s x f).rqAssigned = s.rqAssigned := rfl
@[simp] theorem updExec_cancelRxWaker (s : St) (x : Nat) (f : Exec → Exec) :
    (updExec s x f).cancelRxWaker = s.cancelRxWaker := rfl
@[simp] theorem updExec_woken (s : St) (x : Nat) (f : Exec → Exec) : (updExec s x f).woken = s.woken := rfl
@[simp] theorem updExec_rqAvail (s : St) (x : Nat) (f : Exec → Exec) : (updExec s x f).rqAvail = s.rqAvail := rfl

/-- `s'` differs from `s` at most in the executions' records and the observations. -/
def ExecsOnly (s s' : St) : Prop := ∃ es o, s' = { s with execs := es, obs := o }

theorem ExecsOnly.refl (s : St) : ExecsOnly s s := ⟨s.execs, s.obs, rfl⟩
theorem ExecsOnly.trans {a b c : St} (h1 : ExecsOnly a b) (h2 : ExecsOnly b c) : ExecsOnly a c := by
  obtain ⟨es1, o1, rfl⟩ := h1
  obtain ⟨es2, o2, rfl⟩ := h2
  exact ⟨es2, o2, rfl⟩

theorem abortExec_execsOnly (s : St) (x : Nat) : ExecsOnly s (abortExec s x) := Flow.abortExec_eq s x

theorem foldl_abortExec_execsOnly (l : List SEntry) (s : St) :
    ExecsOnly s (l.foldl (fun s en => abortExec s en.rid) s) :=
  foldl_keeps (P := ExecsOnly s) (fun s' x h => h.trans (abortExec_execsOnly s' x.rid)) l (ExecsOnly.refl s)

theorem ExecsOnly.rqWaiters {s s' : St} (h : ExecsOnly s s') : s'.rqWaiters = s.rqWaiters := by
  obtain ⟨_, _, rfl⟩ := h; rfl
theorem ExecsOnly.rqAssigned {s s' : St} (h : ExecsOnly s s') : s'.rqAssigned = s.rqAssigned := by
  obtain ⟨_, _, rfl⟩ := h; rfl
theorem ExecsOnly.cancelQ {s s' : St} (h : ExecsOnly s s') : s'.cancelQ = s.cancelQ := by
  obtain ⟨_, _, rfl⟩ := h; rfl
theorem ExecsOnly.poisoned {s s' : St} (h : ExecsOnly s s') : s'.poisoned = s.poisoned := by
  obtain ⟨_, _, rfl⟩ := h; rfl

/-! ### the guard-cancellation queue's flags through `BaseChannel::poll_next` -/

/-- `s'` has the same guard-cancellation queue and receiver-waker flag as `s`. -/
def CK (s s' : St) : Prop := s'.cancelQ = s.cancelQ ∧ s'.cancelRxWaker = s.cancelRxWaker

theorem removeRequest_ck (s : St) (id : Nat) : CK s (removeRequest s id).1 :=
  ⟨Flow.removeRequest_cancelQ s id, Flow.removeRequest_cancelRxWaker s id⟩

/-- The stream task is registered on the empty guard-cancellation queue. -/
def CGood (s : St) : Prop := s.cancelQ = [] ∧ s.cancelRxWaker = true
theorem CGood.of_ck {s s' : St} (g : CGood s) (h : CK s s') : CGood s' := ⟨h.1.trans g.1, h.2.trans g.2⟩

/-- after the queue was found empty, the rest of an iteration of `BaseChannel::poll_next` keeps the registration -/
theorem bpStep_keeps (s : St) (now : Nat) (g : CGood (Flow.bpCancel s).1) : CGood (Flow.bpStep s now).1 :=
  (Flow.bpStep_tail_steps s now).kept (P := CGood) (fun {k a b} hk hp g => by
    cases hp with
    | expire s n => exact g.of_ck ⟨Flow.pollExpired_cancelQ _ n, Flow.pollExpired_cancelRxWaker _ n⟩
    | tNext s => exact g.of_ck ⟨Flow.tNext_cancelQ _, Flow.tNext_cancelRxWaker _⟩
    | readStart s n id d tr b hq =>
      exact (g.of_ck ⟨Flow.tNext_cancelQ _, Flow.tNext_cancelRxWaker _⟩).of_ck
        ⟨Flow.startRequest_cancelQ _ n id d tr b, Flow.startRequest_cancelRxWaker _ n id d tr b⟩
    | cancelRead s id tr hq =>
      exact (g.of_ck ⟨Flow.tNext_cancelQ _, Flow.tNext_cancelRxWaker _⟩).of_ck
        ⟨Flow.cancelRequest_cancelQ _ _, Flow.cancelRequest_cancelRxWaker _ _⟩
    | removeReq s id => exact g.of_ck (removeRequest_ck _ id)
    | popCancel s id rest h => rw [g.1] at h; cases h
    | cancelRx s c => cases hk; exact ⟨g.1, rfl⟩
    | _ => cases hk) g

theorem bpCancel_registers (s : St) (hq : s.cancelQ = []) : CGood (Flow.bpCancel s).1 := by
  unfold Flow.bpCancel; rw [hq]; exact ⟨rfl, rfl⟩

/-- Once the stream task is registered on the (empty) guard-cancellation queue, the rest of
`BaseChannel::poll_next` neither clears the registration nor adds to the queue. -/
theorem basePollNext_keeps (fuel : Nat) (s : St) (now : Nat) (g : CGood s) :
    CGood (basePollNext fuel s now).1 :=
  Flow.basePollNext_ind CGood now (fun s g => bpStep_keeps s now (bpCancel_registers s g.1)) (fun _ g => g) fuel s g

/-- **The empty-queue branch of `BaseChannel::poll_next` registers the stream task** on the guard-cancellation
queue, and the registration survives to the end of the poll. -/
theorem basePollNext_registers (fuel : Nat) (s : St) (now : Nat) (hq : s.cancelQ = []) :
    (basePollNext (fuel + 1) s now).1.cancelRxWaker = true := by
  have g := bpStep_keeps s now (bpCancel_registers s hq)
  rw [Flow.basePollNext_succ]
  revert g
  generalize Flow.bpStep s now = p
  obtain ⟨s', r⟩ := p
  intro g
  cases r with
  | none => exact (basePollNext_keeps fuel s' now g).2
  | some r => exact g.2

/-! ### the response queue's flags through the sink calls -/

/-- `s'` has the same response queue and receiver-waker flag as `s`. -/
def RK (s s' : St) : Prop := s'.respQ = s.respQ ∧ s'.rqRxWaker = s.rqRxWaker

theorem RK.refl (s : St) : RK s s := ⟨rfl, rfl⟩
theorem RK.trans {a b c : St} (h1 : RK a b) (h2 : RK b c) : RK a c := ⟨h2.1.trans h1.1, h2.2.trans h1.2⟩

theorem tcall_shape (s : St) (t' : SimT) (o : Obs) (w : Bool) (n : Nat) :
    ∃ obs', (if w = true then wakeServer (emit (emitViolations { s with t := t' } n) o)
        else emit (emitViolations { s with t := t' } n) o)
      = if w = true then wakeServer { s with t := t', obs := obs' } else { s with t := t', obs := obs' } := by
  obtain ⟨o1, h1⟩ := Flow.emitViolations_eq { s with t := t' } n
  rw [h1]
  exact ⟨o :: o1, rfl⟩

theorem tFlush_shape' (s : St) : ∃ obs', (tFlush s).1 =
    if s.t.pollFlush.2.2 = true then wakeServer { s with t := s.t.pollFlush.1, obs := obs' }
    else { s with t := s.t.pollFlush.1, obs := obs' } := by
  unfold tFlush
  simp only
  exact tcall_shape s _ _ _ _

theorem tReady_rk (s : St) : RK s (tReady s).1 := by
  obtain ⟨t, o, w, h⟩ := Flow.tReady_eq s
  rw [h]; exact ⟨rfl, rfl⟩

theorem tFlush_rk (s : St) : RK s (tFlush s).1 := by
  obtain ⟨t, o, w, h⟩ := Flow.tFlush_eq s
  rw [h]; exact ⟨rfl, rfl⟩

theorem ensureWriteable_rk (s : St) : RK s (ensureWriteable s).1 :=
  (Flow.ensureWriteable_calls s).kept (P := RK s) (fun hk hp h => by
    rcases hk with rfl | rfl | rfl <;> cases hp
    · exact h.trans (tReady_rk _)
    · exact h.trans (tFlush_rk _)
    · exact h) (RK.refl s)

theorem flushArm_rk (s : St) (rc : Bool) : RK s (flushArm s rc).1 := by
  rw [Flow.flushArm_fst]; exact tFlush_rk s

/-! ### settle with the remaining fuel reported -/

/-- `settleLoop`, also returning the fuel that was left when it stopped. -/
def settleLoopF : Nat → Sys → Sys × Nat
  | 0, c => (c, 0)
  | fuel + 1, c =>
      if serverRunnable c.s then
        settleLoopF fuel { c with s := pollServer c.s c.now }
      else match firstWokenExec c.s with
        | some v => settleLoopF fuel { c with s := pollExec c.s v c.now }
        | none => (c, fuel + 1)

theorem settleLoopF_spec (fuel : Nat) (c : Sys) : (settleLoopF fuel c).1 = settleLoop fuel c ∧
    (0 < (settleLoopF fuel c).2 →
      serverRunnable (settleLoop fuel c).s = false ∧ firstWokenExec (settleLoop fuel c).s = none) := by
  induction fuel generalizing c with
  | zero => exact ⟨rfl, fun h => absurd h (Nat.lt_irrefl 0)⟩
  | succ n ih =>
    unfold settleLoopF settleLoop
    by_cases hd : serverRunnable c.s = true
    · simp only [hd, ↓reduceIte]; exact ih _
    · simp only [hd]
      cases hf : firstWokenExec c.s with
      | some v => exact ih _
      | none => exact ⟨rfl, fun _ => ⟨by simpa using hd, hf⟩⟩

theorem settleLoopF_fst (fuel : Nat) (c : Sys) : (settleLoopF fuel c).1 = settleLoop fuel c :=
  (settleLoopF_spec fuel c).1

theorem settleLoopF_quiescent (fuel : Nat) (c : Sys) (h : 0 < (settleLoopF fuel c).2) :
    serverRunnable (settleLoop fuel c).s = false ∧ firstWokenExec (settleLoop fuel c).s = none :=
  (settleLoopF_spec fuel c).2 h

theorem firstWokenExec_none (s : St) (h : firstWokenExec s = none) :
    ∀ e ∈ s.execs, wakeable e = true → e.woken = false := by
  intro e he hw
  unfold firstWokenExec at h
  cases hf : s.execs.find? (fun e => execLive e && e.woken && e.vis.isSome) with
  | none =>
    rw [List.find?_eq_none] at hf
    have := hf e he
    simp only [wakeable, Bool.and_eq_true] at hw
    simpa [hw.1, hw.2] using this
  | some e' =>
    have hp := List.find?_some hf
    rw [hf] at h
    simp only [Option.bind_some] at h
    simp [h] at hp

/-! ### `dropServer`, step by step -/

theorem dsS1_rqWaiters (s : St) : (dsS1 s).rqWaiters = s.rqWaiters :=
  (foldl_abortExec_execsOnly s.inflight { s with dropped := true, woken := false }).rqWaiters

theorem getExec_dropServer (s : St) (hd : s.dropped = false) (hp : s.poisoned = false) (rid : Nat) :
    getExec (dropServer s) rid = getExec (dsS2 s) rid := by
  rw [dropServer_eq, if_neg (by simp [hd, hp])]; rfl

/-- Every execution waiting for a response-queue slot is woken by `dropServer`. -/
theorem dropServer_wakes_waiter (s : St) (hd : s.dropped = false) (hp : s.poisoned = false)
    (w : Nat) (hm : w ∈ s.rqWaiters) (e : Exec) (hg : getExec s w = some e) (hw : wakeable e = true) :
    ∃ e', getExec (dropServer s) w = some e' ∧ Mono e e' ∧ e'.woken = true := by
  rw [getExec_dropServer s hd hp]
  obtain ⟨e1, hg1, m1⟩ := foldl_abortExec_mono s.inflight { s with dropped := true, woken := false } w e hg
  have hg1' : getExec { dsS1 s with rqWaiters := [] } w = some e1 := hg1
  obtain ⟨e2, hg2, m2, hw2⟩ := foldl_wakeExec_wakes (dsS1 s).rqWaiters _ w e1
    (by rw [dsS1_rqWaiters]; exact hm) hg1' (by rw [m1.wakeable]; exact hw)
  exact ⟨e2, hg2, m1.trans m2, hw2⟩

/-- Every execution owning an in-flight entry is aborted by `dropServer`, and woken if it was parked on its abort waker
(the record `getExec` finds; for all executions of that rid, without the wake-up: `Flow.dropServer_ab`). -/
theorem dropServer_aborts_inflight (s : St) (hd : s.dropped = false) (hp : s.poisoned = false)
    (rid : Nat) (hm : rid ∈ s.inflight.map (·.rid)) (e : Exec) (hg : getExec s rid = some e) :
    ∃ e', getExec (dropServer s) rid = some e' ∧ Mono e e' ∧ e'.aborted = true ∧
      (e.abortWaker = true → wakeable e = true → e'.woken = true) := by
  rw [getExec_dropServer s hd hp]
  obtain ⟨e1, hg1, m1, ha1, hw1⟩ :=
    foldl_abortExec_aborts s.inflight { s with dropped := true, woken := false } rid e hm hg
  have hg1' : getExec { dsS1 s with rqWaiters := [] } rid = some e1 := hg1
  obtain ⟨e2, hg2, m2⟩ := foldl_wakeExec_mono (dsS1 s).rqWaiters _ rid e1 hg1'
  exact ⟨e2, hg2, m1.trans m2, m2.aborted ha1, fun ha hw => m2.woken (hw1 ha hw)⟩

end TarpcModel.Server
