import TarpcModel.Lemmas.ChainMon
/-
Non-interference for the service-chain model: replacing the trace id and sampling decision that
every call other than `c` is started with changes nothing about call `c` — neither its record in
the state nor a single one of its observation lines — and changes the other calls' records and
lines only by that replacement (the model run commutes with the relabelling).
-/
namespace TarpcModel.Chain

def retagT (a : Nat) (b : Bool) (t : Trace) : Trace := { t with traceId := a, sampled := b }

def retagHop (a : Nat) (b : Bool) (hp : Hop) : Hop :=
  { hp with req := hp.req.map (retagT a b), seen := hp.seen.map (retagT a b), cancel := hp.cancel.map (retagT a b) }

def retagObsT (a : Nat) (b : Bool) : Obs → Obs
  | .wireReq i c t d => .wireReq i c (retagT a b t) d
  | .wireCancel i c t => .wireCancel i c (retagT a b t)
  | .handler i c t d => .handler i c (retagT a b t) d
  | o => o

theorem newChild_retagT (a : Nat) (b : Bool) (p : Trace) (k : Nat) :
    newChild (retagT a b p) k = retagT a b (newChild p k) := rfl

theorem extend_retag (a : Nat) (b : Bool) (c dl upto i : Nat) (p : Trace) (k : Nat) (l : List Hop) :
    extend c dl upto i (retagT a b p) k (l.map (retagHop a b)) =
      ((extend c dl upto i p k l).1.map (retagHop a b), (extend c dl upto i p k l).2.1.map (retagObsT a b),
       (extend c dl upto i p k l).2.2) := by
  induction l generalizing i p k with
  | nil => simp [extend]
  | cons hp rest ih =>
    simp only [List.map_cons, extend]
    by_cases hu : upto < i
    · simp [hu]
    · simp only [hu, ↓reduceIte]
      cases hh : hp.h <;> cases hs : hp.seen <;>
        simp [retagHop, hh, hs, newChild_retagT, ih, retagObsT]

theorem cascade_retag (a : Nat) (b : Bool) (c i : Nat) (l : List Hop) :
    cascade c i (l.map (retagHop a b)) =
      ((cascade c i l).1.map (retagHop a b), (cascade c i l).2.map (retagObsT a b)) := by
  induction l generalizing i with
  | nil => simp [cascade]
  | cons hp rest ih =>
    simp only [List.map_cons, cascade]
    cases hh : hp.h <;> cases hs : hp.req <;> simp [retagHop, hh, hs, ih, retagObsT]

theorem complete_retag (a : Nat) (b : Bool) (c i : Nat) (l : List Hop) :
    complete c i (l.map (retagHop a b)) =
      ((complete c i l).1.map (retagHop a b), (complete c i l).2.map (retagObsT a b)) := by
  induction l generalizing i with
  | nil => simp [complete]
  | cons hp rest ih =>
    simp only [List.map_cons, complete, ih]
    by_cases hh : hp.h = .running <;> simp [retagHop, hh, retagObsT]

theorem refuse_retag (a : Nat) (b : Bool) (c dl : Nat) (p : Trace) (k : Nat) (l : List Hop) :
    refuse c dl (retagT a b p) k (l.map (retagHop a b)) =
      ((refuse c dl p k l).1.map (retagHop a b), (refuse c dl p k l).2.1.map (retagObsT a b),
       (refuse c dl p k l).2.2) := by
  cases l <;> simp [refuse, retagHop, retagObsT, newChild_retagT]

/-! ### Whole calls, ops, observations and states -/

def retagCall (c : Nat) (A : Nat → Nat) (B : Nat → Bool) (cl : Call) : Call :=
  if cl.id = c then cl
  else { cl with ctx := retagT (A cl.id) (B cl.id) cl.ctx, hops := cl.hops.map (retagHop (A cl.id) (B cl.id)) }

def retagObs (c : Nat) (A : Nat → Nat) (B : Nat → Bool) (o : Obs) : Obs :=
  match o.call with
  | some c' => if c' = c then o else retagObsT (A c') (B c') o
  | none => o

def retagOp (c : Nat) (A : Nat → Nat) (B : Nat → Bool) : Op → Op
  | .start c' t d st => if c' = c then .start c' t d st else .start c' (retagT (A c') (B c') t) d st
  | op => op

def retagSt (c : Nat) (A : Nat → Nat) (B : Nat → Bool) (s : St) : St :=
  { s with calls := s.calls.map (retagCall c A B) }

theorem retagCall_id (c : Nat) (A : Nat → Nat) (B : Nat → Bool) (cl : Call) :
    (retagCall c A B cl).id = cl.id ∧ (retagCall c A B cl).phase = cl.phase ∧
    (retagCall c A B cl).deadline = cl.deadline ∧ (retagCall c A B cl).stop = cl.stop := by
  unfold retagCall
  split <;> simp

theorem map_retagObs_same {c : Nat} {A : Nat → Nat} {B : Nat → Bool} {l : List Obs}
    (h : ∀ o ∈ l, o.call = some c) : l.map (retagObs c A B) = l := by
  rw [List.map_congr_left (g := id) fun o ho => by simp [retagObs, h o ho], List.map_id]

theorem map_retagObs_other {c c' : Nat} {A : Nat → Nat} {B : Nat → Bool} {l : List Obs}
    (h : ∀ o ∈ l, o.call = some c') (hne : c' ≠ c) :
    l.map (retagObs c A B) = l.map (retagObsT (A c') (B c')) :=
  List.map_congr_left fun o ho => by simp [retagObs, h o ho, hne]

theorem runCall_retag (c : Nat) (A : Nat → Nat) (B : Nat → Bool) (depth : Nat) (limit : Option Nat)
    (cnt k : Nat) (cl : Call) :
    runCall depth limit cnt k (retagCall c A B cl) =
      (retagCall c A B (runCall depth limit cnt k cl).1, (runCall depth limit cnt k cl).2.1.map (retagObs c A B),
       (runCall depth limit cnt k cl).2.2.1, (runCall depth limit cnt k cl).2.2.2) := by
  by_cases hc : cl.id = c
  · have h1 : retagCall c A B cl = cl := by simp [retagCall, hc]
    have h2 : retagCall c A B (runCall depth limit cnt k cl).1 = (runCall depth limit cnt k cl).1 := by
      simp [retagCall, (runCall_id depth limit cnt k cl).1, hc]
    rw [h1, h2, map_retagObs_same (fun o ho => hc ▸ runCall_obs_call depth limit cnt k cl o ho)]
  · rw [map_retagObs_other (runCall_obs_call depth limit cnt k cl) hc]
    have h1 : retagCall c A B cl =
        { cl with ctx := retagT (A cl.id) (B cl.id) cl.ctx, hops := cl.hops.map (retagHop (A cl.id) (B cl.id)) } := by
      simp [retagCall, hc]
    rw [h1]
    unfold runCall
    cases hph : cl.phase <;> simp only []
    · split
      · simp [refuse_retag, retagCall, hc]
      · simp [extend_retag, retagCall, hc]
    · simp [retagCall, hc, hph]
    · simp [extend_retag, complete_retag, retagCall, hc, retagObsT]
    · simp [cascade_retag, retagCall, hc]
    · simp [retagCall, hc, hph]
    · simp [retagCall, hc, hph]
    · simp [retagCall, hc, hph]

theorem runCalls_retag (c : Nat) (A : Nat → Nat) (B : Nat → Bool) (depth : Nat) (limit : Option Nat)
    (cnt k : Nat) (calls : List Call) :
    runCalls depth limit cnt k (calls.map (retagCall c A B)) =
      ((runCalls depth limit cnt k calls).1.map (retagCall c A B),
       (runCalls depth limit cnt k calls).2.1.map (retagObs c A B), (runCalls depth limit cnt k calls).2.2) := by
  induction calls generalizing cnt k with
  | nil => simp [runCalls]
  | cons cl rest ih =>
    simp only [List.map_cons, runCalls, runCall_retag, ih, List.map_append]

/-! ### The state-level predicates do not look at trace ids -/

section
variable (c : Nat) (A : Nat → Nat) (B : Nat → Bool)

theorem hasCall_retag (c' : Nat) (calls : List Call) :
    hasCall c' (calls.map (retagCall c A B)) = hasCall c' calls := by
  simp [hasCall, List.any_map, Function.comp_def, (retagCall_id c A B _).1]

theorem pendingStart_retag (calls : List Call) :
    pendingStart (calls.map (retagCall c A B)) = pendingStart calls := by
  simp [pendingStart, List.any_map, Function.comp_def, (retagCall_id c A B _).2.1]

theorem pendingFree_retag (calls : List Call) :
    pendingFree (calls.map (retagCall c A B)) = pendingFree calls := by
  simp [pendingFree, List.any_map, Function.comp_def, (retagCall_id c A B _).2.1]

theorem inFlight1_retag (cl : Call) : inFlight1 (retagCall c A B cl) = inFlight1 cl := by
  unfold retagCall
  split
  · rfl
  · cases h : cl.hops <;> simp [inFlight1, h, retagHop]

theorem countInFlight1_retag (calls : List Call) :
    countInFlight1 (calls.map (retagCall c A B)) = countInFlight1 calls := by
  induction calls with
  | nil => rfl
  | cons cl rest ih =>
    simp only [countInFlight1, List.map_cons, List.filter_cons, inFlight1_retag] at ih ⊢
    split <;> simp [ih]

theorem findCall_retag (c' : Nat) (calls : List Call) :
    findCall c' (calls.map (retagCall c A B)) = (findCall c' calls).map (retagCall c A B) := by
  induction calls with
  | nil => rfl
  | cons cl rest ih =>
    simp only [List.map_cons, findCall, (retagCall_id c A B cl).1, ih]
    split <;> simp

theorem updPhase_retag (c' : Nat) (ph : Phase) (calls : List Call) :
    updCall c' (fun cl => { cl with phase := ph }) (calls.map (retagCall c A B)) =
      (updCall c' (fun cl => { cl with phase := ph }) calls).map (retagCall c A B) := by
  induction calls with
  | nil => rfl
  | cons cl rest ih =>
    simp only [List.map_cons, updCall, (retagCall_id c A B cl).1, ih]
    split
    · simp only [List.cons.injEq, and_true]
      unfold retagCall
      split <;> simp_all
    · rfl

theorem advanceAll_retag (p : Nat → Bool) (calls : List Call) :
    (calls.map (retagCall c A B)).all (fun cl => p cl.deadline) = calls.all (fun cl => p cl.deadline) := by
  simp [List.all_map, Function.comp_def, (retagCall_id c A B _).2.2.1]

theorem blank_retag (a : Nat) (b : Bool) (n : Nat) : (blank n).map (retagHop a b) = blank n := by
  simp [blank, retagHop]

theorem startOk_congr {s s' : St} {c' : Nat} {t t' : Trace} {d stop : Nat} (hd : s'.depth = s.depth)
    (hn : s'.now = s.now) (hl : s'.limit = s.limit) (hh : hasCall c' s'.calls = hasCall c' s.calls)
    (hp : pendingFree s'.calls = pendingFree s.calls) (ht : t'.span = t.span) :
    startOk s' c' t' d stop = startOk s c' t d stop := by
  unfold startOk
  rw [hd, hn, hl, hh, hp, ht]

theorem advanceOk_congr {s s' : St} {ns : Nat} (hn : s'.now = s.now)
    (hs : pendingStart s'.calls = pendingStart s.calls) (hp : pendingFree s'.calls = pendingFree s.calls)
    (ha : ∀ p : Nat → Bool, s'.calls.all (fun cl => p cl.deadline) = s.calls.all (fun cl => p cl.deadline)) :
    advanceOk s' ns = advanceOk s ns := by
  unfold advanceOk
  rw [hn, hs, hp, ha (fun d => decide (s.now + ns + margin ≤ d))]

/-- **The model run commutes with relabelling the other calls' trace ids / sampling decisions.** -/
theorem step_retag (s : St) (op : Op) :
    step (retagSt c A B s) (retagOp c A B op) =
      (retagSt c A B (step s op).1, (step s op).2.map (retagObs c A B)) := by
  cases op with
  | start c' t d stop =>
    have hok : ∀ t', t'.span = t.span → startOk (retagSt c A B s) c' t' d stop = startOk s c' t d stop := by
      intro t' ht
      exact startOk_congr rfl rfl rfl (hasCall_retag c A B c' s.calls) (pendingFree_retag c A B s.calls) ht
    by_cases hc : c' = c
    · subst hc
      simp only [retagOp, ↓reduceIte, step]
      rw [hok t rfl]
      split
      · simp [retagSt, retagCall]
      · simp [retagObs, Obs.call]
    · simp only [retagOp, hc, ↓reduceIte, step]
      rw [hok (retagT (A c') (B c') t) rfl]
      split
      · simp [retagSt, retagCall, hc, blank_retag]
      · simp [retagObs, Obs.call]
  | run =>
    simp only [retagOp, step, retagSt, runCalls_retag, countInFlight1_retag]
  | abandon c' =>
    simp only [retagOp, step, retagSt, findCall_retag]
    cases hf : findCall c' s.calls with
    | none => simp [retagObs, Obs.call]
    | some cl =>
      have hap : abandonPhase { s with calls := s.calls.map (retagCall c A B) } (retagCall c A B cl) =
          abandonPhase s cl := by
        simp [abandonPhase, (retagCall_id c A B cl).2.1, pendingStart_retag]
      simp only [Option.map_some, hap]
      cases abandonPhase s cl with
      | none => simp [retagObs, Obs.call]
      | some ph => simp [updPhase_retag]
  | finish c' =>
    simp only [retagOp, step, retagSt, findCall_retag]
    cases hf : findCall c' s.calls with
    | none => simp [retagObs, Obs.call]
    | some cl =>
      have hfo : finishOk { s with calls := s.calls.map (retagCall c A B) } (retagCall c A B cl) =
          finishOk s cl := by
        simp [finishOk, (retagCall_id c A B cl).2.1, pendingStart_retag]
      simp only [Option.map_some, hfo]
      split
      · simp [updPhase_retag]
      · simp [retagObs, Obs.call]
  | advance ns =>
    have hao : advanceOk (retagSt c A B s) ns = advanceOk s ns :=
      advanceOk_congr rfl (pendingStart_retag c A B s.calls) (pendingFree_retag c A B s.calls)
        (fun p => advanceAll_retag c A B p s.calls)
    simp only [retagOp, step, hao]
    split
    · simp [retagSt, retagObs, Obs.call]
    · simp [retagObs, Obs.call]

theorem runTrace_retag (s : St) (ops : List Op) :
    runTrace (retagSt c A B s) (ops.map (retagOp c A B)) =
      (retagSt c A B (runTrace s ops).1,
       (runTrace s ops).2.map (fun p => (retagOp c A B p.1, p.2.map (retagObs c A B)))) := by
  induction ops generalizing s with
  | nil => rfl
  | cons op ops ih =>
    simp only [List.map_cons, runTrace, step_retag, ih]

theorem retagSt_init (depth : Nat) (limit : Option Nat) : retagSt c A B (init depth limit) = init depth limit := rfl

theorem findCall_retag_self (calls : List Call) :
    findCall c (calls.map (retagCall c A B)) = findCall c calls := by
  rw [findCall_retag]
  cases h : findCall c calls with
  | none => rfl
  | some cl => simp [retagCall, (findCall_some h).2]

theorem retagObsT_call (a : Nat) (b : Bool) (o : Obs) : (retagObsT a b o).call = o.call := by
  cases o <;> rfl

theorem retagObs_call (o : Obs) : (retagObs c A B o).call = o.call := by
  unfold retagObs
  split
  · split
    · rfl
    · exact retagObsT_call ..
  · rfl

theorem filter_retagObs_self (l : List Obs) :
    (l.map (retagObs c A B)).filter (fun o => o.call == some c) = l.filter (fun o => o.call == some c) := by
  induction l with
  | nil => rfl
  | cons o os ih =>
    simp only [List.map_cons, List.filter_cons, retagObs_call, ih]
    split
    · next h => simp [retagObs, beq_iff_eq.mp h]
    · rfl

end

end TarpcModel.Chain
