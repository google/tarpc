import TarpcModel.Lemmas.ServerEqs
/-!
What `abortExec` and `wakeExec` do to the execution list, as a map over it: the one place where the two are unfolded for
their effect on the executions.  The views the invariants use — `ExecsAb` (ServerTable), `abortKeys` (ServerInv), `Ab` (below)
— are read off the map.  `Lemmas/C02.lean` instead follows the one record `getExec` finds (`Mono`, `abortedE`): whether a task
is woken depends on the record found, which the map does not say.
-/
namespace TarpcModel.Server

theorem getExec_none_iff (s : St) (rid : Nat) : getExec s rid = none ↔ ∀ x ∈ s.execs, x.rid ≠ rid := by
  simp [getExec, List.find?_eq_none]

/-- what `abortExec s r` does to an execution (`b`: the abort waker was registered and the wake-up went through) -/
def abortOne (r : Nat) (b : Bool) (e : Exec) : Exec :=
  if e.rid == r then { e with aborted := true, abortWaker := false, woken := b || e.woken } else e

theorem wakeExec_execs (s : St) (r : Nat) :
    ∃ b, (wakeExec s r).execs = s.execs.map (fun e => if e.rid == r then { e with woken := b || e.woken } else e) := by
  have hid : s.execs = s.execs.map (fun e => if e.rid == r then { e with woken := false || e.woken } else e) := by
    conv => lhs; rw [← List.map_id s.execs]
    apply List.map_congr_left; intro e _; split <;> simp
  unfold wakeExec
  repeat' split
  all_goals first | exact ⟨false, hid⟩ | skip
  exact ⟨true, by simp [updExec]⟩

theorem abortExec_execs (s : St) (r : Nat) : ∃ b, (abortExec s r).execs = s.execs.map (abortOne r b) := by
  unfold abortExec
  split
  · next hnone =>
    refine ⟨false, ?_⟩
    conv => lhs; rw [← List.map_id s.execs]
    apply List.map_congr_left
    intro e he
    have := (getExec_none_iff s r).mp hnone e he
    simp [abortOne, this]
  · simp only
    split
    · obtain ⟨b, hb⟩ := wakeExec_execs (updExec s r fun e => { e with aborted := true, abortWaker := false }) r
      refine ⟨b, ?_⟩
      rw [hb]
      simp only [updExec, List.map_map]
      apply List.map_congr_left
      intro e _
      simp only [Function.comp, abortOne]
      split <;> simp_all
    · refine ⟨false, ?_⟩
      simp only [updExec]
      apply List.map_congr_left
      intro e _
      simp only [abortOne]
      split <;> simp

theorem abortOne_rid (r : Nat) (b : Bool) (e : Exec) : (abortOne r b e).rid = e.rid := by
  unfold abortOne; split <;> rfl

theorem abortOne_of_ne {r : Nat} {b : Bool} {e : Exec} (h : e.rid ≠ r) : abortOne r b e = e := by
  simp [abortOne, h]

theorem abortOne_aborted {r : Nat} {b : Bool} {e : Exec} (h : e.rid = r) : (abortOne r b e).aborted = true := by
  simp [abortOne, h]

theorem abortOne_keeps {r : Nat} {b : Bool} {e : Exec} (h : e.aborted = true) : (abortOne r b e).aborted = true := by
  unfold abortOne; split
  · rfl
  · exact h


theorem find_exec_map (l : List Exec) (g : Exec → Exec) (rid : Nat) (hg : ∀ e, (g e).rid = e.rid)
    (hk : ∀ e, e.rid = rid → g e = e) : (l.map g).find? (·.rid == rid) = l.find? (·.rid == rid) := by
  rw [find?_map_key (·.rid) g hg]
  cases hf : l.find? (fun a => a.rid == rid) with
  | none => rfl
  | some e => rw [Option.map_some, hk e (by simpa using List.find?_some hf)]

theorem getExec_wakeExec_ne (s : St) (x rid : Nat) (hne : x ≠ rid) : getExec (wakeExec s x) rid = getExec s rid := by
  obtain ⟨b, h⟩ := wakeExec_execs s x
  simp only [getExec, h]
  exact find_exec_map _ _ rid (fun e => by split <;> rfl) (fun e he => by simp [he, Ne.symm hne])

theorem getExec_abortExec_ne (s : St) (x rid : Nat) (hne : x ≠ rid) : getExec (abortExec s x) rid = getExec s rid := by
  obtain ⟨b, h⟩ := abortExec_execs s x
  simp only [getExec, h]
  exact find_exec_map _ _ rid (abortOne_rid x b) (fun e he => abortOne_of_ne (by rw [he]; exact Ne.symm hne))

end TarpcModel.Server

namespace TarpcModel.Server.Flow

/-- every execution with rid `rid` has its abort flag set -/
def Ab (rid : Nat) (s : St) : Prop := ∀ ex ∈ s.execs, ex.rid = rid → ex.aborted = true

theorem Ab.of_execs {rid : Nat} {s s' : St} (h : Ab rid s) (he : s'.execs = s.execs) : Ab rid s' := by
  unfold Ab; rw [he]; exact h

theorem Ab.abortExec {rid : Nat} {s : St} (h : Ab rid s) (r : Nat) : Ab rid (Server.abortExec s r) := by
  obtain ⟨b, hb⟩ := abortExec_execs s r
  intro ex hex hr
  rw [hb] at hex
  obtain ⟨e0, he0, rfl⟩ := List.mem_map.1 hex
  exact abortOne_keeps (h e0 he0 (by rw [← abortOne_rid r b e0]; exact hr))

theorem Ab.of_abortExec (s : St) (rid : Nat) : Ab rid (Server.abortExec s rid) := by
  obtain ⟨b, hb⟩ := abortExec_execs s rid
  intro ex hex hr
  rw [hb] at hex
  obtain ⟨e0, _, rfl⟩ := List.mem_map.1 hex
  exact abortOne_aborted (by rw [← abortOne_rid rid b e0]; exact hr)

theorem Ab.wakeExec {rid : Nat} {s : St} (h : Ab rid s) (r : Nat) : Ab rid (Server.wakeExec s r) := by
  obtain ⟨b, hb⟩ := wakeExec_execs s r
  intro ex hex hr
  rw [hb] at hex
  obtain ⟨e0, he0, rfl⟩ := List.mem_map.1 hex
  -- `hr` and the goal test `e0.rid == r` alike; waking changes neither `rid` nor `aborted`
  by_cases c : (e0.rid == r) = true
  · rw [if_pos c] at hr ⊢; exact h e0 he0 hr
  · rw [if_neg c] at hr ⊢; exact h e0 he0 hr

theorem Ab.foldl_abort (es : List SEntry) (s : St) :
    ∀ en ∈ es, Ab en.rid (es.foldl (fun s e => Server.abortExec s e.rid) s) := by
  intro en hen
  obtain ⟨l1, l2, rfl⟩ := List.append_of_mem hen
  rw [List.foldl_append, List.foldl_cons]
  exact foldl_keeps (P := Ab en.rid) (fun _ e h => h.abortExec e.rid) l2 (Ab.of_abortExec _ _)

theorem dropServer_ab (s : St) (hlive : (s.dropped || s.poisoned) = false) : ∀ en ∈ s.inflight, Ab en.rid (dropServer s) := by
  intro en hen
  have h1 := Ab.foldl_abort s.inflight { s with dropped := true, woken := false } en hen
  unfold dropServer
  rw [hlive, if_neg Bool.false_ne_true]
  simp only []
  generalize List.foldl (fun s e => Server.abortExec s e.rid) { s with dropped := true, woken := false } s.inflight = A at h1 ⊢
  exact Ab.of_execs (foldl_keeps (P := Ab en.rid) (fun _ w h => h.wakeExec w) A.rqWaiters
    (h1.of_execs (s' := { A with rqWaiters := [] }) rfl)) rfl

end TarpcModel.Server.Flow
