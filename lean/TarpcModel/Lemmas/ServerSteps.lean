import TarpcModel.Lemmas.ServerEqs
/-!
The server as a transition system on `St`.

`Act` names the primitive updates, `Step a s s'` says what action `a` does, `Steps A s s'`: `s'` is reached from `s` by actions in
the class `A`.  Each function of `Server/Model.lean` has ONE walk `f_steps : Steps A_f s (f s)` naming the smallest class.  A
predicate kept by the actions in `A` (`Steps.kept`), or a preorder containing them (`Steps.lift`; bundled `Has A R`), then holds
along `f` with no further walk.  A new invariant proves ONE `p_kept (hk : PK k) (hp : Step k a b) : P a → P b`, a new relation ONE
`r_has : Has RK R`; the interfaces `ExecClosed … PrimClosed`, `WakeRel … NoiseRel`, `PreRel … PollRel` are users of this layer.

Grain.  Labels carry what classes filter on and nothing else; `spin`, `panic w` are actions of their own so that no class admits
them by admitting a kind of observation.  Some invariants hold only at a coarser grain, and `Steps.bind` refines: `f_calls` (the
callees `tReady tFlush tSend rqRelease baseSend removeReq queueFinish` are single actions), `f_steps` of the pumps (the table
operations `removeReq expire tNext readStart cancelRead baseSend dropAll` are), `f_fine` (primitive updates only; a function
without `f_fine` is walked finely).  `timers`, `rearm`, `started` do not say which operation of the wheel ran: a fact about its
content travels at the table grain.

Classes of functions (`XK`; `XFK` fine, `XCallK` call grain) are inductive, one constructor per action: an inclusion `x_le_y` is
a `cases` on the membership (a `cases` on the 50 actions is dear to check).  A user's class by `match` ends `| _ => False`,
as does its `cases` on `Step`: an accepting default with `rfl` silently covers an action added later, and a false `rfl`
between nested record updates does not come back.
```
ExecWakeK ≤ WakeK, AbortK    WakeK, SendK, FinishK ≤ ExecK    WakeK, GuardK ≤ ExecCallK → ExecK    AbortK ≤ DropAllK
TimerK ≤ TableK ≤ NoiseK ≥ AbortK    NoiseK ≤ ExpireK ≤ ReadK ≥ StartK, TNextK    BaseK → ReadK ≤ PumpFK ← PumpK
BpStepK ≤ BaseK ≤ ChanK ≤ PumpK ≤ PollK    SinkK IsReady ≤ ChanK    WakeK ≤ WriteK ≤ PumpK ≥ DropK    CallK → WriteK
```
What a function *returns* is read off its paths `f_out` and loop rules `f_loop` (`Lemmas/ServerEqs.lean`).
-/
namespace TarpcModel.Server.Flow
open TarpcModel TarpcModel.Server

/-- the updates the model applies to an execution.  `abort` sets the flag (`abortExec`), `aborted` ends the execution that sees
it; `dropped`: `dropOffered`, `gone`: `dropExec` and the limiter's refusal; `done`: `queueAndFinish`; `polled` clears the wake flag -/
inductive UKind where
  | woken | polled | abort | dropped | gone | arm
  | finish (res : Res) | done | park | sending (res : Res) | aborted | running | handled
  | yield (v : Nat)

def UKind.f : UKind → Exec → Exec
  | .woken, e => { e with woken := true }
  | .polled, e => { e with woken := false }
  | .abort, e => { e with aborted := true, abortWaker := false }
  | .dropped, e => { e with phase := .gone, guardArmed := false, woken := false }
  | .gone, e => { e with phase := .gone, woken := false }
  | .arm, e => { e with guardArmed := true }
  | .finish res, e => { e with finishCmd := some res }
  | .done, e => { e with phase := .done, guardArmed := false, woken := false, resp := none }
  | .park, e => { e with abortWaker := true }
  | .sending res, e => { e with phase := .sending, resp := some res, abortWaker := true }
  | .aborted, e => { e with phase := .done, guardArmed := false }
  | .running, e => { e with phase := .running }
  | .handled, e => { e with hDone := true, finishCmd := none }
  | .yield v, e => { e with vis := some v }

theorem UKind.stable : ∀ u : UKind, u ≠ .abort → Stable u.f := by
  intro u hu
  cases u with
  | abort => exact absurd rfl hu
  | _ => exact fun e => ⟨rfl, rfl, rfl, rfl⟩

inductive Act where
  | emit (o : Obs)
  | spin
  | panic (w : String)
  | setT (t t' : SimT)
  | fused
  | upd (u : UKind)
  | woken | unwoken
  | cancelRx (b : Bool) | rqRx (b : Bool)
  | rqGrant | rqFree | rqTake | rqWait | rqUnassign | rqUnsend
  | popResp | pushResp | popCancel | pushCancel
  | timers | timerWaker | forget | rearm | started
  | setDone | nextVis | dropFlags | dropWaiters | clear
  | spunReset (obs0 : List Obs)
  | removeReq | expire (now : Nat) | tNext | readStart (now : Nat) | cancelRead | baseSend | dropAll
  | tReady | tFlush | tSend | rqRelease | queueFinish

inductive Step : Act → St → St → Prop
  | emit (s : St) (o : Obs) : Step (.emit o) s (Server.emit s o)
  | spin (s : St) : Step .spin s (Server.emit s (.spin (tid s)))
  | panic (s : St) (w : String) : Step (.panic w) s (Server.emit { s with poisoned := true } (.panic (tid s) w))
  | setT (s : St) (t' : SimT) : Step (.setT s.t t') s { s with t := t' }
  | fused (s : St) : Step .fused s { s with readFused := true }
  | upd (s : St) (r : Nat) (u : UKind) : Step (.upd u) s (updExec s r u.f)
  | woken (s : St) : Step .woken s { s with woken := true }
  | unwoken (s : St) : Step .unwoken s { s with woken := false }
  | cancelRx (s : St) (b : Bool) : Step (.cancelRx b) s { s with cancelRxWaker := b }
  | rqRx (s : St) (b : Bool) : Step (.rqRx b) s { s with rqRxWaker := b }
  | rqGrant (s : St) (w : Nat) (rest : List Nat) (h : s.rqWaiters = w :: rest) :
      Step .rqGrant s { s with rqWaiters := rest, rqAssigned := s.rqAssigned ++ [w] }
  | rqFree (s : St) : Step .rqFree s { s with rqAvail := s.rqAvail + 1 }
  | rqTake (s : St) : Step .rqTake s { s with rqAvail := s.rqAvail - 1 }
  | rqWait (s : St) (r : Nat) : Step .rqWait s { s with rqWaiters := s.rqWaiters ++ [r] }
  | rqUnassign (s : St) (r : Nat) : Step .rqUnassign s { s with rqAssigned := s.rqAssigned.filter (· != r) }
  | rqUnsend (s : St) (r : Nat) :
      Step .rqUnsend s { s with rqAssigned := s.rqAssigned.filter (· != r), rqWaiters := s.rqWaiters.filter (· != r) }
  | popResp (s : St) (x : Nat × Res) (rest : List (Nat × Res)) (h : s.respQ = x :: rest) : Step .popResp s { s with respQ := rest }
  | pushResp (s : St) (x : Nat × Res) : Step .pushResp s { s with respQ := s.respQ ++ [x] }
  | popCancel (s : St) (id : Nat) (rest : List Nat) (h : s.cancelQ = id :: rest) : Step .popCancel s { s with cancelQ := rest }
  | pushCancel (s : St) (id : Nat) : Step .pushCancel s { s with cancelQ := s.cancelQ ++ [id] }
  | timers (s : St) (q : DelayQ) : Step .timers s { s with timers := q }
  | timerWaker (s : St) (b : Bool) : Step .timerWaker s { s with timers := { s.timers with waker := b } }
  | forget (s : St) (id : Nat) : Step .forget s { s with inflight := s.inflight.filter (·.id != id) }
  | rearm (s : St) (q : DelayQ) (id key now : Nat) : Step .rearm s { s with timers := q, inflight := s.inflight.map (rearmUpd id key now) }
  | started (s : St) (q : DelayQ) (en : SEntry) (e : Exec) :
      Step .started s { s with timers := q, nextFresh := s.nextFresh + 1, inflight := s.inflight ++ [en], execs := s.execs ++ [e] }
  | setDone (s : St) (r : Ret) : Step .setDone s { s with done := some r }
  | nextVis (s : St) : Step .nextVis s { s with nextVis := s.nextVis + 1 }
  | dropFlags (s : St) : Step .dropFlags s { s with dropped := true, woken := false }
  | dropWaiters (s : St) : Step .dropWaiters s { s with rqWaiters := [] }
  | clear (s : St) : Step .clear s { s with inflight := [], timers := {}, cancelQ := [], respQ := [] }
  | spunReset (s : St) (obs0 : List Obs) : Step (.spunReset obs0) s { s with obs := .spin (tid s) :: obs0, poisoned := true }
  | removeReq (s : St) (id : Nat) : Step .removeReq s (removeRequest s id).1
  | expire (s : St) (now : Nat) : Step (.expire now) s (pollExpired s now).1
  | tNext (s : St) : Step .tNext s (Server.tNext s).1
  | readStart (s : St) (now id d : Nat) (tr : Trace) (b : Nat) (h : (Server.tNext s).2 = .item (.request id d tr b)) :
      Step (.readStart now) s (startRequest (Server.tNext s).1 now id d tr b).1
  | cancelRead (s : St) (id : Nat) (tr : Trace) (h : (Server.tNext s).2 = .item (.cancel id tr)) :
      Step .cancelRead s (cancelRequest (Server.tNext s).1 id).1
  | baseSend (s : St) (id : Nat) (res : Res) : Step .baseSend s (baseStartSend s id res).1
  | dropAll (s : St) : Step .dropAll s (dropServer s)
  | tReady (s : St) : Step .tReady s (Server.tReady s).1
  | tFlush (s : St) : Step .tFlush s (Server.tFlush s).1
  | tSend (s : St) (m : Msg) : Step .tSend s (Server.tSend s m).1
  | rqRelease (s : St) : Step .rqRelease s (Server.rqRelease s)
  | queueFinish (s : St) (e : Exec) (res : Res) (n : Nat) : Step .queueFinish s (queueAndFinish s e res n)

inductive Steps (A : Act → Prop) : St → St → Prop
  | refl (s : St) : Steps A s s
  | tail {s a b : St} {k : Act} : Steps A s a → A k → Step k a b → Steps A s b

variable {A B : Act → Prop} {s a b : St}

theorem Steps.trans (h1 : Steps A s a) (h2 : Steps A a b) : Steps A s b := by
  induction h2 with
  | refl => exact h1
  | tail _ hk hp ih => exact ih.tail hk hp

/-- (the step first: its action is then known when the membership is elaborated) -/
theorem Steps.then {k : Act} (h : Steps A s a) (hp : Step k a b) (hk : A k) : Steps A s b := h.tail hk hp

theorem Steps.one {k : Act} (hp : Step k s a) (hk : A k) : Steps A s a := (Steps.refl s).then hp hk

theorem Steps.mono (hle : ∀ k, A k → B k) (h : Steps A s a) : Steps B s a := by
  induction h with
  | refl => exact .refl s
  | tail _ hk hp ih => exact ih.tail (hle _ hk) hp

theorem Steps.kept {P : St → Prop} (hP : ∀ {k a b}, A k → Step k a b → P a → P b) (h : Steps A s a) (h0 : P s) : P a := by
  induction h with
  | refl => exact h0
  | tail _ hk hp ih => exact hP hk hp ih

theorem Steps.bind (hk : ∀ {k a b}, A k → Step k a b → Steps B a b) (h : Steps A s a) : Steps B s a :=
  h.kept (P := Steps B s) (fun hk' hp ih => ih.trans (hk hk' hp)) (.refl s)

/-- (`split` simplifies the whole goal, which is large here: an `if` is taken apart by this lemma, a `match` by `cases` on the
generalised discriminant) -/
theorem Steps.ite (c : Prop) [Decidable c] {x y : St} (hx : Steps A s x) (hy : Steps A s y) :
    Steps A s (if c then x else y) := ite_of (P := Steps A s) (c := c) hx hy

theorem Steps.lift {R : St → St → Prop} (refl : ∀ s, R s s) (trans : ∀ {a b c}, R a b → R b c → R a c)
    (act : ∀ {k a b}, A k → Step k a b → R a b) (h : Steps A s a) : R s a :=
  h.kept (P := R s) (fun hk hp ih => trans ih (act hk hp)) (refl s)

structure Has (A : Act → Prop) (R : St → St → Prop) : Prop where
  refl : ∀ s, R s s
  trans : ∀ {a b c}, R a b → R b c → R a c
  prim : ∀ {k a b}, A k → Step k a b → R a b

theorem Has.steps {R : St → St → Prop} (hc : Has A R) (h : Steps A s a) : R s a := h.lift hc.refl hc.trans hc.prim

theorem Has.or {R : St → St → Prop} (h1 : Has A R) (h2 : Has B R) : Has (fun k => A k ∨ B k) R :=
  ⟨h1.refl, h1.trans, fun hk hp => hk.elim (fun h => h1.prim h hp) (fun h => h2.prim h hp)⟩

inductive ExecWakeK : Act → Prop
  | wake (t) : ExecWakeK (.emit (.wake t))
  | uwoken : ExecWakeK (.upd .woken)

/-- wake-ups: of the server task, of an execution, handing on a permit of the response queue -/
inductive WakeK : Act → Prop
  | wake (t) : WakeK (.emit (.wake t))
  | woken : WakeK .woken
  | uwoken : WakeK (.upd .woken)
  | rqGrant : WakeK .rqGrant
  | rqFree : WakeK .rqFree

/-- a call of the sink that reports observations of class `Q` -/
inductive SinkK (Q : Obs → Prop) : Act → Prop
  | wake (t) : SinkK Q (.emit (.wake t))
  | viol (ep w) : SinkK Q (.emit (.tViolation ep w))
  | woken : SinkK Q .woken
  | obs {o} (h : Q o) : SinkK Q (.emit o)
  | setT {t t'} (h : SimT.WKeep t t') : SinkK Q (.setT t t')

inductive IsReady : Obs → Prop
  | mk (ep r) : IsReady (.tReady ep r)
inductive IsFlush : Obs → Prop
  | mk (ep r) : IsFlush (.tFlush ep r)
inductive IsSend : Obs → Prop
  | mk (ep m ok) : IsSend (.tSend ep m ok)
inductive IsEnsure : Obs → Prop
  | ready (ep r) : IsEnsure (.tReady ep r)
  | flush (ep r) : IsEnsure (.tFlush ep r)
inductive IsWrite : Obs → Prop
  | ready (ep r) : IsWrite (.tReady ep r)
  | flush (ep r) : IsWrite (.tFlush ep r)
  | send (ep m ok) : IsWrite (.tSend ep m ok)

inductive TimerK : Act → Prop
  | wake (t) : TimerK (.emit (.wake t))
  | woken : TimerK .woken
  | timers : TimerK .timers
  | panic (w) : TimerK (.panic w)

inductive TableK : Act → Prop
  | wake (t) : TableK (.emit (.wake t))
  | woken : TableK .woken
  | timers : TableK .timers
  | forget : TableK .forget
  | panic (w) : TableK (.panic w)

inductive AbortK : Act → Prop
  | abort : AbortK (.upd .abort)
  | uwoken : AbortK (.upd .woken)
  | wake (t) : AbortK (.emit (.wake t))

/-- cancelling, one expiry, re-arming -/
inductive NoiseK : Act → Prop
  | wake (t) : NoiseK (.emit (.wake t))
  | woken : NoiseK .woken
  | uwoken : NoiseK (.upd .woken)
  | abort : NoiseK (.upd .abort)
  | timers : NoiseK .timers
  | forget : NoiseK .forget
  | rearm : NoiseK .rearm
  | panic (w) : NoiseK (.panic w)

def ExpireK (k : Act) : Prop := NoiseK k ∨ k = .spin

inductive StartK : Act → Prop
  | wake (t) : StartK (.emit (.wake t))
  | woken : StartK .woken
  | started : StartK .started
  | panic (w) : StartK (.panic w)

inductive TNextK : Act → Prop
  | tNext (ep r) : TNextK (.emit (.tNext ep r))
  | setT (t t') : TNextK (.setT t t')
  | fused : TNextK .fused

/-- `BaseChannel::poll_next` in primitive updates -/
inductive ReadK : Act → Prop
  | tNext (ep r) : ReadK (.emit (.tNext ep r))
  | setT (t t') : ReadK (.setT t t')
  | fused : ReadK .fused
  | popCancel : ReadK .popCancel
  | cancelRx : ReadK (.cancelRx true)
  | started : ReadK .started
  | spin : ReadK .spin
  | noise {k} (h : NoiseK k) : ReadK k

/-- one iteration of `BaseChannel::poll_next` at the table grain … -/
inductive BpStepK (now : Nat) : Act → Prop
  | popCancel : BpStepK now .popCancel
  | cancelRx : BpStepK now (.cancelRx true)
  | removeReq : BpStepK now .removeReq
  | tNext : BpStepK now .tNext
  | cancelRead : BpStepK now .cancelRead
  | expire : BpStepK now (.expire now)
  | readStart : BpStepK now (.readStart now)

/-- … and the loop of them -/
inductive BaseK (now : Nat) : Act → Prop
  | popCancel : BaseK now .popCancel
  | cancelRx : BaseK now (.cancelRx true)
  | removeReq : BaseK now .removeReq
  | tNext : BaseK now .tNext
  | cancelRead : BaseK now .cancelRead
  | expire : BaseK now (.expire now)
  | readStart : BaseK now (.readStart now)
  | spin : BaseK now .spin

/-- dropping a request that was offered (its guard queues a cancellation) -/
inductive DropK : Act → Prop
  | dropped : DropK (.upd .dropped)
  | pushCancel : DropK .pushCancel
  | cancelRx : DropK (.cancelRx false)
  | wake (t) : DropK (.emit (.wake t))
  | woken : DropK .woken

theorem SinkK.mono {Q Q' : Obs → Prop} (h : ∀ o, Q o → Q' o) : ∀ k, SinkK Q k → SinkK Q' k := by
  intro k hk
  cases hk with
  | obs ho => exact .obs (h _ ho)
  | setT ht => exact .setT ht
  | _ => constructor

theorem ready_le_ensure : ∀ o, IsReady o → IsEnsure o := by rintro _ ⟨ep, r⟩; exact .ready ep r
theorem flush_le_ensure : ∀ o, IsFlush o → IsEnsure o := by rintro _ ⟨ep, r⟩; exact .flush ep r
theorem ensure_le_write : ∀ o, IsEnsure o → IsWrite o := by intro o ho; cases ho <;> constructor
theorem send_le_write : ∀ o, IsSend o → IsWrite o := by rintro _ ⟨ep, m, ok⟩; exact .send ep m ok

theorem execWake_le_wake : ∀ k, ExecWakeK k → WakeK k := by intro k hk; cases hk <;> constructor
theorem execWake_le_abort : ∀ k, ExecWakeK k → AbortK k := by intro k hk; cases hk <;> constructor
theorem timer_le_table : ∀ k, TimerK k → TableK k := by intro k hk; cases hk <;> constructor
theorem table_le_noise : ∀ k, TableK k → NoiseK k := by intro k hk; cases hk <;> constructor
theorem abort_le_noise : ∀ k, AbortK k → NoiseK k := by intro k hk; cases hk <;> constructor
theorem noise_le_read : ∀ k, NoiseK k → ReadK k := fun _ => .noise
theorem tNext_le_read : ∀ k, TNextK k → ReadK k := by intro k hk; cases hk <;> constructor

theorem start_le_read : ∀ k, StartK k → ReadK k := by
  intro k hk
  cases hk with
  | started => exact .started
  | wake t => exact .noise (.wake t)
  | woken => exact .noise .woken
  | panic w => exact .noise (.panic w)

theorem expire_le_read : ∀ k, ExpireK k → ReadK k := by
  rintro k (hk | rfl)
  · exact .noise hk
  · exact .spin

theorem bpStep_le_base {now : Nat} : ∀ k, BpStepK now k → BaseK now k := by intro k hk; cases hk <;> constructor

theorem wakeServer_steps (s : St) : Steps (fun k => (∃ t, k = .emit (.wake t)) ∨ k = .woken) s (wakeServer s) := by
  unfold Server.wakeServer
  exact .ite _ (.refl s) (((Steps.refl s).then (.woken s) (.inr rfl)).then (.emit _ _) (.inl ⟨_, rfl⟩))

theorem wakeServer_in (hw : ∀ t, A (.emit (.wake t))) (h : A .woken) (s : St) : Steps A s (wakeServer s) :=
  (wakeServer_steps s).mono (by
    rintro k (⟨t, rfl⟩ | rfl)
    · exact hw t
    · exact h)

theorem wakeExec_steps (s : St) (r : Nat) : Steps ExecWakeK s (wakeExec s r) := by
  unfold Server.wakeExec
  generalize getExec s r = oe
  cases oe with
  | none => exact .refl s
  | some e =>
    show Steps ExecWakeK s (match e.vis with | some v => _ | none => s)
    generalize e.vis = ov
    cases ov with
    | none => exact .refl s
    | some v => exact .ite _ (((Steps.refl s).then (.upd s r .woken) .uwoken).then (.emit _ _) (.wake _)) (.refl s)

theorem rqRelease_steps (s : St) : Steps WakeK s (rqRelease s) := by
  unfold Server.rqRelease
  split
  · next w ws hw => exact ((Steps.refl s).then (.rqGrant s w ws hw) .rqGrant).trans ((wakeExec_steps _ w).mono execWake_le_wake)
  · exact (Steps.refl s).then (.rqFree s) .rqFree

theorem abortExec_steps (s : St) (r : Nat) : Steps AbortK s (abortExec s r) := by
  unfold Server.abortExec
  generalize getExec s r = oe
  cases oe with
  | none => exact .refl s
  | some e =>
    have h := (Steps.refl s).then (A := AbortK) (.upd s r .abort) .abort
    exact .ite _ (h.trans ((wakeExec_steps _ r).mono execWake_le_abort)) h

theorem emitViolations_in (hv : ∀ ep w, A (.emit (.tViolation ep w))) (s : St) (n : Nat) : Steps A s (emitViolations s n) :=
  emitViolations_ind (P := Steps A s) (fun a _ h => h.then (.emit a _) (hv _ _)) s n (.refl s)

theorem emitViolations_steps {Q : Obs → Prop} (s : St) (n : Nat) : Steps (SinkK Q) s (emitViolations s n) :=
  emitViolations_in .viol s n

/-- the three calls of the sink have one shape: set the transport, report its violations, report the call, maybe wake -/
theorem sink_steps {Q : Obs → Prop} (s : St) (t' : SimT) (o : Obs) (w : Bool) (ht : SimT.WKeep s.t t') (ho : Q o) :
    Steps (SinkK Q) s (sinkCall s t' o w) := by
  unfold sinkCall
  have h1 : Steps (SinkK Q) s (Server.emit (emitViolations { s with t := t' } s.t.violations.length) o) :=
    (((Steps.refl s).then (.setT s t') (.setT ht)).trans (emitViolations_steps _ _)).then (.emit _ o) (.obs ho)
  exact .ite _ (h1.trans (wakeServer_in .wake .woken _)) h1

theorem tReady_steps (s : St) : Steps (SinkK IsReady) s (tReady s).1 :=
  sink_steps s s.t.pollReady.1 (.tReady (tid s) s.t.pollReady.2.1) s.t.pollReady.2.2 (SimT.wkeep_pollReady _) (.mk _ _)

theorem tFlush_steps (s : St) : Steps (SinkK IsFlush) s (tFlush s).1 :=
  sink_steps s s.t.pollFlush.1 (.tFlush (tid s) s.t.pollFlush.2.1) s.t.pollFlush.2.2 (SimT.wkeep_pollFlush _) (.mk _ _)

theorem tSend_steps (s : St) (m : Msg) : Steps (SinkK IsSend) s (tSend s m).1 :=
  sink_steps s (s.t.startSend m).1 (.tSend (tid s) m (s.t.startSend m).2) false (SimT.wkeep_startSend _ _) (.mk _ _ _)

theorem ensureWriteable_calls (s : St) : Steps (fun k => k = .tReady ∨ k = .tFlush ∨ k = .spin) s (ensureWriteable s).1 :=
  ensureWriteable_ind (P := Steps (fun k => k = .tReady ∨ k = .tFlush ∨ k = .spin) s) (fun a h => h.then (.tReady a) (.inl rfl))
    (fun a h => h.then (.tFlush a) (.inr (.inl rfl))) (fun a h => h.then (.spin a) (.inr (.inr rfl))) s (.refl s)

theorem flushArm_calls (s : St) (rc : Bool) : Steps (fun k => k = .tFlush) s (flushArm s rc).1 :=
  flushArm_ind (P := Steps (fun k => k = .tFlush) s) (fun a h => h.then (.tFlush a) rfl) s rc (.refl s)

theorem tReady_ensure (s : St) : Steps (SinkK IsEnsure) s (tReady s).1 := (tReady_steps s).mono (SinkK.mono ready_le_ensure)
theorem tFlush_ensure (s : St) : Steps (SinkK IsEnsure) s (tFlush s).1 := (tFlush_steps s).mono (SinkK.mono flush_le_ensure)

theorem ensureWriteable_steps (s : St) : Steps (fun k => SinkK IsEnsure k ∨ k = .spin) s (ensureWriteable s).1 :=
  (ensureWriteable_calls s).bind fun {k a b} hk hp => by
    rcases hk with rfl | rfl | rfl <;> cases hp
    · exact (tReady_ensure a).mono fun _ => .inl
    · exact (tFlush_ensure a).mono fun _ => .inl
    · exact (Steps.refl a).then (.spin a) (.inr rfl)

theorem flushArm_steps (s : St) (rc : Bool) : Steps (SinkK IsFlush) s (flushArm s rc).1 :=
  (flushArm_calls s rc).bind fun {k a b} hk hp => by subst hk; cases hp; exact tFlush_steps a

theorem removeTimer_steps (s : St) (k : Nat) : Steps TimerK s (removeTimer s k) := by
  unfold Server.removeTimer
  generalize s.timers.remove k = o
  cases o with
  | none => exact (Steps.refl s).then (.panic s _) (.panic _)
  | some qw =>
    have h := (Steps.refl s).then (A := TimerK) (.timers s qw.1) .timers
    exact .ite _ (h.trans (wakeServer_in .wake .woken _)) h

theorem removeRequest_steps (s : St) (id : Nat) : Steps TableK s (removeRequest s id).1 := by
  unfold Server.removeRequest
  generalize findEntry s id = o
  cases o with
  | none => exact .refl s
  | some e => exact ((Steps.refl s).then (.forget s id) .forget).trans ((removeTimer_steps _ _).mono timer_le_table)

theorem timer_le_noise : ∀ k, TimerK k → NoiseK k := by intro k hk; cases hk <;> constructor

theorem cancelRequest_steps (s : St) (id : Nat) : Steps NoiseK s (cancelRequest s id).1 := by
  unfold Server.cancelRequest
  generalize findEntry s id = o
  cases o with
  | none => exact .refl s
  | some e =>
    exact (((Steps.refl s).then (.forget s id) .forget).trans ((abortExec_steps _ _).mono abort_le_noise)).trans
      ((removeTimer_steps _ _).mono timer_le_noise)

theorem rearm_steps {s s2 : St} {now : Nat} {en : SEntry} (hr : rearm s now en = some s2) : Steps NoiseK s s2 := by
  rcases rearm_out s now en with ⟨_, he⟩ | ⟨q, key, w, _, he⟩ <;> rw [he] at hr <;> cases hr
  cases w
  · exact (Steps.refl s).then (.rearm s q en.id key now) .rearm
  · have hi : s.inflight = (wakeServer s).inflight := by unfold wakeServer; split <;> rfl
    simp only [if_true]
    rw [hi]
    exact (wakeServer_in .wake .woken s).then (.rearm _ q en.id key now) .rearm

theorem expireStep_steps (s : St) (now : Nat) : Steps NoiseK s (expireStep s now).1 := by
  have hs := expireStep_out s now
  revert hs; generalize Server.expireStep s now = p; intro hs
  obtain ⟨a', r⟩ := p
  dsimp only at hs ⊢
  cases hs with
  | idleNone q hp => exact (Steps.refl s).then (.timers s q) .timers
  | idlePending q hp => exact (Steps.refl s).then (.timers s q) .timers
  | orphan q e hp hf => exact (Steps.refl s).then (.timers s q) .timers
  | abort q e en hp hf h0 =>
    exact (((Steps.refl s).then (.timers s q) .timers).then (.forget _ e.val) .forget).trans
      ((abortExec_steps _ _).mono abort_le_noise)
  | rearmed q e en s2 hp hf h0 hr => exact ((Steps.refl s).then (.timers s q) .timers).trans (rearm_steps hr)
  | panicked q e en hp hf h0 hr => exact (Steps.refl s).then (.panic s _) (.panic _)

theorem pollExpired_steps (s : St) (now : Nat) : Steps ExpireK s (pollExpired s now).1 :=
  pollExpired_rel (R := Steps ExpireK) now .refl (fun _ _ _ => .trans) (fun a => (Steps.refl a).then (.spin a) (.inr rfl))
    (fun a => (expireStep_steps a now).mono fun _ => .inl) s

theorem startRequest_steps (s : St) (now id d : Nat) (tr : Trace) (b : Nat) : Steps StartK s (startRequest s now id d tr b).1 := by
  unfold Server.startRequest; split
  · exact .refl s
  · split
    · exact (Steps.refl s).then (.panic s _) (.panic _)
    · simp only; split
      · exact (wakeServer_in .wake .woken s).then (.started _ _ _ _) .started
      · exact (Steps.refl s).then (.started _ _ _ _) .started

theorem tNext_steps (s : St) : Steps TNextK s (Server.tNext s).1 := by
  unfold Server.tNext
  split
  · exact .refl s
  · simp only
    have h : Steps TNextK s (Server.emit { s with t := s.t.pollNext.1 } (.tNext (tid s) s.t.pollNext.2)) :=
      ((Steps.refl s).then (.setT s _) (.setT _ _)).then (.emit _ _) (.tNext _ _)
    split
    · exact h.then (.fused _) .fused
    · exact h

theorem bpCancel_steps (s : St) : Steps (fun k => k = .popCancel ∨ k = .cancelRx true ∨ k = .removeReq) s (bpCancel s).1 := by
  unfold bpCancel
  split
  · next id rest hq => exact ((Steps.refl s).then (.popCancel s id rest hq) (.inl rfl)).then (.removeReq _ id) (.inr (.inr rfl))
  · exact (Steps.refl s).then (.cancelRx s true) (.inr (.inl rfl))

theorem bpStep_tail_steps (s : St) (now : Nat) : Steps (BpStepK now) (bpCancel s).1 (bpStep s now).1 := by
  have h2 : Steps (BpStepK now) (bpCancel s).1 (bp2 s now) := (Steps.refl _).then (.expire _ now) .expire
  have h3 : Steps (BpStepK now) (bpCancel s).1 (bp3 s now) := h2.then (.tNext _) .tNext
  have h4 := fun id d tr b hq => h2.then (k := .readStart now) (.readStart (bp2 s now) now id d tr b hq) .readStart
  have h5 : Steps (BpStepK now) (bpCancel s).1 (bpOther (bp3 s now) (bpNx s now)).1 := by
    unfold bpOther
    split
    · next id tr hq => exact h2.then (.cancelRead (bp2 s now) id tr hq) .cancelRead
    all_goals exact h3
  have ho := bpStep_out s now
  generalize bpStep s now = p at ho ⊢
  cases ho with
  | poisoned2 _ => exact h2
  | readErr _ _ => exact h3
  | started id d tr b _ _ hq _ => exact h4 id d tr b hq
  | startPanic id d tr b _ hq _ _ => exact h4 id d tr b hq
  | duplicate id d tr b _ hq _ _ => exact h4 id d tr b hq
  | _ => exact h5

theorem bpStep_steps (s : St) (now : Nat) : Steps (BpStepK now) s (bpStep s now).1 :=
  ((bpCancel_steps s).mono (by rintro k (rfl | rfl | rfl) <;> constructor)).trans (bpStep_tail_steps s now)

theorem basePollNext_steps (fuel : Nat) (s : St) (now : Nat) : Steps (BaseK now) s (basePollNext fuel s now).1 :=
  basePollNext_ind (Steps (BaseK now) s) now (fun a h => h.trans ((bpStep_steps a now).mono bpStep_le_base))
    (fun a h => h.then (.spin a) .spin)
    fuel s (.refl s)

theorem base_fine {now : Nat} {k : Act} {a b : St} (hk : BaseK now k) (hp : Step k a b) : Steps ReadK a b := by
  have hn := fun s => (tNext_steps s).mono tNext_le_read
  cases hk with
  | popCancel => exact (Steps.refl a).tail .popCancel hp
  | cancelRx => exact (Steps.refl a).tail .cancelRx hp
  | spin => exact (Steps.refl a).tail .spin hp
  | removeReq => cases hp; exact (removeRequest_steps _ _).mono fun k hk => .noise (table_le_noise k hk)
  | tNext => cases hp; exact hn _
  | cancelRead => cases hp; exact (hn _).trans ((cancelRequest_steps _ _).mono noise_le_read)
  | expire => cases hp; exact (pollExpired_steps _ _).mono expire_le_read
  | readStart => cases hp; exact (hn _).trans ((startRequest_steps _ _ _ _ _ _).mono start_le_read)

theorem basePollNext_fine (fuel : Nat) (s : St) (now : Nat) : Steps ReadK s (basePollNext fuel s now).1 :=
  (basePollNext_steps fuel s now).bind base_fine

theorem baseStartSend_calls (s : St) (id : Nat) (res : Res) :
    Steps (fun k => k = .removeReq ∨ k = .tSend) s (baseStartSend s id res).1 := by
  unfold Server.baseStartSend
  have h1 : Steps (fun k => k = .removeReq ∨ k = .tSend) s (removeRequest s id).1 := (Steps.refl s).then (.removeReq s id) (.inl rfl)
  revert h1; generalize Server.removeRequest s id = p1; obtain ⟨a1, b⟩ := p1; intro h1
  cases b
  · exact h1
  · exact h1.then (.tSend a1 _) (.inr rfl)

theorem baseStartSend_steps (s : St) (id : Nat) (res : Res) :
    Steps (fun k => SinkK IsSend k ∨ k = .removeReq) s (baseStartSend s id res).1 :=
  (baseStartSend_calls s id res).bind fun {k a b} hk hp => by
    rcases hk with rfl | rfl
    · exact (Steps.refl a).tail (.inr rfl) hp
    · cases hp; exact (tSend_steps a _).mono fun _ => .inl

theorem baseStartSend_fine (s : St) (id : Nat) (res : Res) : Steps (fun k => SinkK IsSend k ∨ TableK k) s (baseStartSend s id res).1 :=
  (baseStartSend_steps s id res).bind fun {k a b} hk hp => by
    rcases hk with h | h
    · exact (Steps.refl a).tail (.inl h) hp
    · subst h; cases hp; exact (removeRequest_steps _ _).mono fun _ => .inr

theorem dropOffered_steps (s : St) (rid id : Nat) : Steps DropK s (dropOffered s rid id) := by
  unfold Server.dropOffered
  have h := ((Steps.refl s).then (A := DropK) (.upd s rid .dropped) .dropped).then (.pushCancel _ id) .pushCancel
  exact .ite _ ((h.then (.cancelRx _ false) .cancelRx).trans (wakeServer_in .wake .woken _)) h

theorem armRead_steps (s : St) (r : SPoll Exec) : Steps (fun k => k = .upd .arm) s (armRead s r) := by
  cases r with
  | some ex => exact (Steps.refl s).then (.upd s ex.rid .arm) rfl
  | _ => exact .refl s

theorem dropRead_steps (s : St) (r : SPoll Exec) : Steps DropK s (dropRead s r) := by
  cases r with
  | some ex => exact dropOffered_steps s _ _
  | _ => exact .refl s

/-- the limiter around `BaseChannel::poll_next` -/
inductive ChanK (now : Nat) : Act → Prop
  | emit {o} (h : SinkK IsReady (.emit o)) : ChanK now (.emit o)
  | setT {t t'} (h : SimT.WKeep t t') : ChanK now (.setT t t')
  | woken : ChanK now .woken
  | spin : ChanK now .spin
  | gone : ChanK now (.upd .gone)
  | popCancel : ChanK now .popCancel
  | cancelRx : ChanK now (.cancelRx true)
  | removeReq : ChanK now .removeReq
  | tNext : ChanK now .tNext
  | cancelRead : ChanK now .cancelRead
  | baseSend : ChanK now .baseSend
  | expire : ChanK now (.expire now)
  | readStart : ChanK now (.readStart now)

/-- the request stream at the table grain -/
inductive PumpK (now : Nat) : Act → Prop
  | emit {o} (h : SinkK IsEnsure (.emit o)) : PumpK now (.emit o)
  | setT {t t'} (h : SimT.WKeep t t') : PumpK now (.setT t t')
  | woken : PumpK now .woken
  | spin : PumpK now .spin
  | uwoken : PumpK now (.upd .woken)
  | gone : PumpK now (.upd .gone)
  | arm : PumpK now (.upd .arm)
  | dropped : PumpK now (.upd .dropped)
  | rqGrant : PumpK now .rqGrant
  | rqFree : PumpK now .rqFree
  | popResp : PumpK now .popResp
  | rqRx : PumpK now (.rqRx true)
  | popCancel : PumpK now .popCancel
  | cancelRx (c) : PumpK now (.cancelRx c)
  | pushCancel : PumpK now .pushCancel
  | removeReq : PumpK now .removeReq
  | tNext : PumpK now .tNext
  | cancelRead : PumpK now .cancelRead
  | baseSend : PumpK now .baseSend
  | expire : PumpK now (.expire now)
  | readStart : PumpK now (.readStart now)

section
variable {now : Nat}

theorem sink_le_chan : ∀ k, SinkK IsReady k → ChanK now k := by
  intro k hk
  cases hk with
  | wake t => exact .emit (.wake t)
  | viol ep w => exact .emit (.viol ep w)
  | woken => exact .woken
  | obs h => exact .emit (.obs h)
  | setT h => exact .setT h

theorem base_le_chan : ∀ k, BaseK now k → ChanK now k := by intro k hk; cases hk <;> constructor

theorem sink_le_pump {Q : Obs → Prop} (hQ : ∀ o, Q o → IsEnsure o) : ∀ k, SinkK Q k → PumpK now k := by
  intro k hk
  cases hk with
  | wake t => exact .emit (.wake t)
  | viol ep w => exact .emit (.viol ep w)
  | woken => exact .woken
  | obs h => exact .emit (.obs (hQ _ h))
  | setT h => exact .setT h

theorem base_le_pump : ∀ k, BaseK now k → PumpK now k := by intro k hk; cases hk <;> constructor

theorem wake_le_pump : ∀ k, WakeK k → PumpK now k := by
  intro k hk
  cases hk with
  | wake t => exact .emit (.wake t)
  | _ => constructor

theorem drop_le_pump : ∀ k, DropK k → PumpK now k := by
  intro k hk
  cases hk with
  | wake t => exact .emit (.wake t)
  | _ => constructor

theorem chan_le_pump : ∀ k, ChanK now k → PumpK now k := by
  intro k hk
  cases hk with
  | emit h => exact .emit (SinkK.mono ready_le_ensure _ h)
  | setT h => exact .setT h
  | _ => constructor

theorem channelPollNext_steps (s : St) (now : Nat) : Steps (ChanK now) s (channelPollNext s now).1 := by
  have hr := fun a (h : Steps (ChanK now) s a) => h.trans ((tReady_steps a).mono sink_le_chan)
  have hb := fun fuel a (h : Steps (ChanK now) s a) => h.trans ((basePollNext_steps fuel a now).mono base_le_chan)
  exact channelPollNext_post (I := fun a => Steps (ChanK now) s a) (Φ := fun a _ => Steps (ChanK now) s a)
    { ready := fun a h _ => hr a h
      pending := fun a h _ => hr a h
      readyErr := fun a h _ => hr a h
      req := fun fuel a _ h _ => hb fuel a h
      other := fun fuel a _ h _ _ => hb fuel a h
      sent := fun a id res h _ => h.then (.baseSend a id res) .baseSend
      sendErr := fun a id res h _ => h.then (.baseSend a id res) .baseSend
      upd := fun a r h => h.then (.upd a r .gone) .gone
      spin := fun a h => h.then (.spin a) .spin }
    (fun fuel a h _ _ => hb fuel a h) s (.refl s)

theorem channelPollNext_pump (h : Steps (PumpK now) s a) : Steps (PumpK now) s (channelPollNext a now).1 :=
  h.trans ((channelPollNext_steps a now).mono chan_le_pump)

def WriteK (k : Act) : Prop :=
  (SinkK IsEnsure k ∨ k = .spin) ∨ WakeK k ∨ k = .popResp ∨ k = .rqRx true ∨ k = .baseSend

/-- `pump_write` at the call grain -/
inductive CallK : Act → Prop
  | tReady : CallK .tReady
  | tFlush : CallK .tFlush
  | spin : CallK .spin
  | popResp : CallK .popResp
  | rqRx : CallK (.rqRx true)
  | rqRelease : CallK .rqRelease
  | baseSend : CallK .baseSend

theorem pumpWrite_calls (s : St) (rc : Bool) : Steps CallK s (pumpWrite s rc).1 := by
  have hF : ∀ a rc, Steps CallK s a → Steps CallK s (flushArm a rc).1 := fun a rc h =>
    h.trans ((flushArm_calls a rc).mono (by rintro k rfl; exact .tFlush))
  unfold Server.pumpWrite
  have h1 : Steps CallK s (ensureWriteable s).1 :=
    (ensureWriteable_calls s).mono (by rintro k (rfl | rfl | rfl) <;> constructor)
  revert h1; generalize Server.ensureWriteable s = p; obtain ⟨s1, r⟩ := p; intro h1
  cases r with
  | pending => exact hF _ _ h1
  | err a => exact h1
  | spin => exact h1
  | ready =>
    dsimp only
    split
    case h_2 => exact hF _ _ (h1.then (.rqRx s1 true) .rqRx)
    case h_1 id res rest hq =>
      have h2 := ((h1.then (.popResp s1 (id, res) rest hq) .popResp).then (.rqRelease _) .rqRelease).then (.baseSend _ id res) .baseSend
      revert h2
      generalize Server.baseStartSend (Server.rqRelease { s1 with respQ := rest }) id res = p2
      obtain ⟨s2, o⟩ := p2
      intro h2
      cases o with
      | none => exact h2
      | some b => cases b <;> exact h2

theorem pumpWrite_steps (s : St) (rc : Bool) : Steps WriteK s (pumpWrite s rc).1 :=
  (pumpWrite_calls s rc).bind fun {k a b} hk hp => by
    cases hk with
    | tReady => cases hp; exact (tReady_ensure a).mono fun _ hk => .inl (.inl hk)
    | tFlush => cases hp; exact (tFlush_ensure a).mono fun _ hk => .inl (.inl hk)
    | rqRelease => cases hp; exact (rqRelease_steps a).mono fun _ hk => .inr (.inl hk)
    | spin => exact (Steps.refl a).tail (.inl (.inr rfl)) hp
    | popResp => exact (Steps.refl a).tail (.inr (.inr (.inl rfl))) hp
    | rqRx => exact (Steps.refl a).tail (.inr (.inr (.inr (.inl rfl)))) hp
    | baseSend => exact (Steps.refl a).tail (.inr (.inr (.inr (.inr rfl)))) hp

theorem write_le_pump : ∀ k, WriteK k → PumpK now k := by
  rintro k ((hk | rfl) | hk | rfl | rfl | rfl)
  · exact sink_le_pump (fun _ h => h) k hk
  · exact .spin
  · exact wake_le_pump k hk
  all_goals constructor

theorem rpStep_steps (a : St) : Steps (PumpK now) a (rpStep a now).1 := by
  have h1 : Steps (PumpK now) a (rpRd a now).1 := channelPollNext_pump (.refl a)
  have h3 : Steps (PumpK now) a (rpWr a now).1 :=
    (h1.trans ((armRead_steps _ _).mono (by rintro k rfl; exact .arm))).trans ((pumpWrite_steps _ _).mono write_le_pump)
  rcases rpStep_fst a now with e | e | ⟨ex, _, e⟩ <;> rw [e]
  · exact h1
  · exact h3
  · exact h3.trans ((dropOffered_steps _ _ _).mono drop_le_pump)

theorem requestsPollNext_steps (fuel : Nat) (s : St) : Steps (PumpK now) s (requestsPollNext fuel s now).1 :=
  requestsPollNext_loop (I := fun a => Steps (PumpK now) s a) (Φ := fun a _ => Steps (PumpK now) s a)
    (fun a h => .const (h.trans (rpStep_steps a))) (fun a h => h.then (.spin a) .spin) fuel s (.refl s)

end

/-- the guard of a dropped request queues a cancellation -/
inductive GuardK : Act → Prop
  | pushCancel : GuardK .pushCancel
  | cancelRx : GuardK (.cancelRx false)
  | wake (t) : GuardK (.emit (.wake t))
  | woken : GuardK .woken

/-- a response is queued, or waits for a permit of the response queue -/
inductive SendK : Act → Prop
  | pushResp : SendK .pushResp
  | rqRx : SendK (.rqRx false)
  | wake (t) : SendK (.emit (.wake t))
  | woken : SendK .woken
  | done : SendK (.upd .done)
  | park : SendK (.upd .park)
  | sending (res) : SendK (.upd (.sending res))
  | ret (v r) : SendK (.emit (.ret (.exec v) r))
  | rqUnassign : SendK .rqUnassign
  | rqTake : SendK .rqTake
  | rqWait : SendK .rqWait

/-- one poll, the drop, the scripted return of an execution -/
inductive ExecK : Act → Prop
  | noop : ExecK (.emit .noop)
  | handler (r ev t) : ExecK (.emit (.handler r ev t))
  | ret (v r) : ExecK (.emit (.ret (.exec v) r))
  | wake (t) : ExecK (.emit (.wake t))
  | polled : ExecK (.upd .polled)
  | aborted : ExecK (.upd .aborted)
  | running : ExecK (.upd .running)
  | handled : ExecK (.upd .handled)
  | gone : ExecK (.upd .gone)
  | finish (res) : ExecK (.upd (.finish res))
  | done : ExecK (.upd .done)
  | park : ExecK (.upd .park)
  | sending (res) : ExecK (.upd (.sending res))
  | uwoken : ExecK (.upd .woken)
  | rqUnsend : ExecK .rqUnsend
  | pushResp : ExecK .pushResp
  | rqRx : ExecK (.rqRx false)
  | woken : ExecK .woken
  | rqUnassign : ExecK .rqUnassign
  | rqTake : ExecK .rqTake
  | rqWait : ExecK .rqWait
  | rqGrant : ExecK .rqGrant
  | rqFree : ExecK .rqFree
  | pushCancel : ExecK .pushCancel
  | cancelRx : ExecK (.cancelRx false)

theorem guardDrop_steps (s : St) (e : Exec) : Steps GuardK s (guardDrop s e) := by
  unfold Server.guardDrop
  have h := (Steps.refl s).then (A := GuardK) (.pushCancel s e.id) .pushCancel
  exact .ite _ (.ite _ ((h.then (.cancelRx _ false) .cancelRx).trans (wakeServer_in .wake .woken _)) h) (.refl s)

theorem queueAndFinish_steps (e : Exec) (res : Res) (n : Nat) (h : Steps SendK s a) :
    Steps SendK s (queueAndFinish a e res n) := by
  unfold Server.queueAndFinish
  have h1 := h.then (.pushResp a (e.id, res)) .pushResp
  exact (Steps.then (Steps.ite _ h (.ite _ ((h1.then (.rqRx _ false) .rqRx).trans (wakeServer_in .wake .woken _)) h1))
    (.upd _ e.rid .done) .done).then (.emit _ _) (.ret _ _)

/-- the execution side with `queueAndFinish` (a response queued together with the wake-up of its reader) as one action -/
inductive ExecCallK : Act → Prop
  | queueFinish : ExecCallK .queueFinish
  | noop : ExecCallK (.emit .noop)
  | handler (r ev t) : ExecCallK (.emit (.handler r ev t))
  | ret (v r) : ExecCallK (.emit (.ret (.exec v) r))
  | wake (t) : ExecCallK (.emit (.wake t))
  | polled : ExecCallK (.upd .polled)
  | aborted : ExecCallK (.upd .aborted)
  | running : ExecCallK (.upd .running)
  | handled : ExecCallK (.upd .handled)
  | gone : ExecCallK (.upd .gone)
  | park : ExecCallK (.upd .park)
  | sending (res) : ExecCallK (.upd (.sending res))
  | uwoken : ExecCallK (.upd .woken)
  | rqUnsend : ExecCallK .rqUnsend
  | woken : ExecCallK .woken
  | rqUnassign : ExecCallK .rqUnassign
  | rqTake : ExecCallK .rqTake
  | rqWait : ExecCallK .rqWait
  | rqGrant : ExecCallK .rqGrant
  | rqFree : ExecCallK .rqFree
  | pushCancel : ExecCallK .pushCancel
  | cancelRx : ExecCallK (.cancelRx false)

/-- `trySend` at the call grain -/
inductive SendCallK : Act → Prop
  | queueFinish : SendCallK .queueFinish
  | rqUnassign : SendCallK .rqUnassign
  | rqTake : SendCallK .rqTake
  | rqWait : SendCallK .rqWait
  | park : SendCallK (.upd .park)
  | sending (res) : SendCallK (.upd (.sending res))
  | ret (v r) : SendCallK (.emit (.ret (.exec v) r))

theorem trySend_calls (a : St) (e : Exec) (res : Res) (n : Nat) : Steps SendCallK a (trySend a e res n) := by
  unfold Server.trySend
  have h := Steps.refl (A := SendCallK) a
  exact .ite _ (h.then (.queueFinish a e res n) .queueFinish)
    (.ite _ ((h.then (.rqUnassign a e.rid) .rqUnassign).then (.queueFinish _ e res n) .queueFinish)
      (.ite _ ((h.then (.upd a e.rid .park) .park).then (.emit _ _) (.ret _ _))
        (.ite _ ((h.then (.rqTake a) .rqTake).then (.queueFinish _ e res n) .queueFinish)
          (((h.then (.rqWait a e.rid) .rqWait).then (.upd _ e.rid (.sending res)) (.sending _)).then (.emit _ _) (.ret _ _)))))

theorem sendCall_le_execCall : ∀ k, SendCallK k → ExecCallK k := by intro k hk; cases hk <;> constructor

theorem trySend_steps (e : Exec) (res : Res) (n : Nat) (h : Steps SendK s a) : Steps SendK s (trySend a e res n) :=
  h.trans ((trySend_calls a e res n).bind fun {k a b} hk hp => by
    cases hk with
    | queueFinish => cases hp; exact queueAndFinish_steps _ _ _ (.refl a)
    | rqUnassign => exact (Steps.refl a).tail .rqUnassign hp
    | rqTake => exact (Steps.refl a).tail .rqTake hp
    | rqWait => exact (Steps.refl a).tail .rqWait hp
    | park => exact (Steps.refl a).tail .park hp
    | sending res => exact (Steps.refl a).tail (.sending res) hp
    | ret v r => exact (Steps.refl a).tail (.ret v r) hp)

theorem send_le_exec : ∀ k, SendK k → ExecK k := by intro k hk; cases hk <;> constructor
theorem wake_le_execCall : ∀ k, WakeK k → ExecCallK k := by intro k hk; cases hk <;> constructor
theorem guard_le_execCall : ∀ k, GuardK k → ExecCallK k := by intro k hk; cases hk <;> constructor

theorem execCall_fine {k : Act} {a b : St} (hk : ExecCallK k) (hp : Step k a b) : Steps ExecK a b := by
  cases hk with
  | queueFinish => cases hp; exact (queueAndFinish_steps _ _ _ (.refl a)).mono send_le_exec
  | noop => exact (Steps.refl a).tail .noop hp
  | handler r ev t => exact (Steps.refl a).tail (.handler r ev t) hp
  | ret v r => exact (Steps.refl a).tail (.ret v r) hp
  | wake t => exact (Steps.refl a).tail (.wake t) hp
  | polled => exact (Steps.refl a).tail .polled hp
  | aborted => exact (Steps.refl a).tail .aborted hp
  | running => exact (Steps.refl a).tail .running hp
  | handled => exact (Steps.refl a).tail .handled hp
  | gone => exact (Steps.refl a).tail .gone hp
  | park => exact (Steps.refl a).tail .park hp
  | sending res => exact (Steps.refl a).tail (.sending res) hp
  | uwoken => exact (Steps.refl a).tail .uwoken hp
  | rqUnsend => exact (Steps.refl a).tail .rqUnsend hp
  | woken => exact (Steps.refl a).tail .woken hp
  | rqUnassign => exact (Steps.refl a).tail .rqUnassign hp
  | rqTake => exact (Steps.refl a).tail .rqTake hp
  | rqWait => exact (Steps.refl a).tail .rqWait hp
  | rqGrant => exact (Steps.refl a).tail .rqGrant hp
  | rqFree => exact (Steps.refl a).tail .rqFree hp
  | pushCancel => exact (Steps.refl a).tail .pushCancel hp
  | cancelRx => exact (Steps.refl a).tail .cancelRx hp

theorem unsend_calls (r : Nat) (h : Steps ExecCallK s a) : Steps ExecCallK s (unsend a r) :=
  .ite _ ((h.then (.rqUnsend a r) .rqUnsend).trans ((rqRelease_steps _).mono wake_le_execCall)) (h.then (.rqUnsend a r) .rqUnsend)

theorem peDrop_calls (a : St) (e : Exec) (vid n : Nat) : Steps ExecCallK a (peDrop a e vid n) := by
  unfold peDrop
  generalize e.phase = ph
  cases ph with
  | sending => exact unsend_calls _ (.refl a)
  | _ => exact .ite _ (.refl a) ((Steps.refl a).then (.emit _ _) (.handler _ _ _))

theorem pollExec_calls (s : St) (vid n : Nat) : Steps ExecCallK s (pollExec s vid n) := by
  have h0 := fun e : Exec => (Steps.refl s).then (A := ExecCallK) (.upd s e.rid .polled) .polled
  have h1 := fun e : Exec => ((h0 e).then (.upd _ e.rid .running) .running).then (.emit _ (.handler vid .polled n)) (.handler _ _ _)
  have ho := pollExec_out s vid n
  generalize pollExec s vid n = a at ho ⊢
  cases ho with
  | noVis | dead => exact (Steps.refl s).then (.emit _ _) .noop
  | aborted e =>
    exact ((((h0 e).trans (peDrop_calls _ e vid n)).then (.upd _ e.rid .aborted) .aborted).then (.emit _ _) (.ret _ _))
  | sendNone e => exact (h0 e).then (.emit _ _) .noop
  | send e res => exact (h0 e).trans ((trySend_calls _ _ _ _).mono sendCall_le_execCall)
  | finish e res =>
    exact ((((h1 e).then (.emit _ (.handler vid .completed n)) (.handler _ _ _)).then (.upd _ e.rid .handled) .handled).trans
      ((trySend_calls _ _ _ _).mono sendCall_le_execCall))
  | pending e => exact ((h1 e).then (.upd _ e.rid .park) .park).then (.emit _ _) (.ret _ _)

theorem dropExec_calls (s : St) (vid n : Nat) : Steps ExecCallK s (dropExec s vid n) := by
  have ho := dropExec_out s vid n
  generalize dropExec s vid n = a at ho ⊢
  cases ho with
  | noVis | dead => exact (Steps.refl s).then (.emit _ _) .noop
  | live e =>
    refine Steps.trans (Steps.then ?_ (.upd _ e.rid .gone) .gone) ((guardDrop_steps _ e).mono guard_le_execCall)
    unfold deDrop
    generalize e.phase = ph
    cases ph with
    | running => exact .ite _ (.refl s) ((Steps.refl s).then (.emit _ _) (.handler _ _ _))
    | sending => exact unsend_calls _ (.refl s)
    | _ => exact .refl s

theorem pollExec_steps (s : St) (vid n : Nat) : Steps ExecK s (pollExec s vid n) := (pollExec_calls s vid n).bind execCall_fine
theorem dropExec_steps (s : St) (vid n : Nat) : Steps ExecK s (dropExec s vid n) := (dropExec_calls s vid n).bind execCall_fine

/-- the script tells a handler to return -/
inductive FinishK : Act → Prop
  | noop : FinishK (.emit .noop)
  | finish (res) : FinishK (.upd (.finish res))
  | uwoken : FinishK (.upd .woken)
  | wake (t) : FinishK (.emit (.wake t))

theorem finishHandler_steps (s : St) (vid : Nat) (res : Res) : Steps FinishK s (finishHandler s vid res) := by
  unfold Server.finishHandler
  generalize getExecVis s vid = oe
  cases oe with
  | none => exact (Steps.refl s).then (.emit _ _) .noop
  | some e =>
    have h0 : Steps FinishK s (updExec s e.rid (fun x => { x with finishCmd := some res })) :=
      (Steps.refl s).then (.upd s e.rid (.finish res)) (.finish res)
    exact .ite _ ((Steps.refl s).then (.emit _ _) .noop)
      (.ite _ (h0.trans ((wakeExec_steps _ _).mono fun k hk => by cases hk <;> constructor)) h0)

theorem finish_le_exec : ∀ k, FinishK k → ExecK k := by intro k hk; cases hk <;> constructor

inductive DropAllK : Act → Prop
  | noop : DropAllK (.emit .noop)
  | dropFlags : DropAllK .dropFlags
  | dropWaiters : DropAllK .dropWaiters
  | clear : DropAllK .clear
  | abort {k} (h : AbortK k) : DropAllK k

theorem dropServer_steps (s : St) : Steps DropAllK s (dropServer s) := by
  have habort : ∀ (es : List SEntry) {a : St}, Steps DropAllK s a → Steps DropAllK s (es.foldl (fun s e => abortExec s e.rid) a) := by
    intro es
    induction es with
    | nil => exact fun h => h
    | cons e es ih => exact fun h => ih (h.trans ((abortExec_steps _ _).mono fun _ => .abort))
  have hwake : ∀ (ws : List Nat) {a : St}, Steps DropAllK s a → Steps DropAllK s (ws.foldl wakeExec a) := by
    intro ws
    induction ws with
    | nil => exact fun h => h
    | cons w ws ih => exact fun h => ih (h.trans ((wakeExec_steps _ _).mono fun k hk => .abort (execWake_le_abort k hk)))
  unfold Server.dropServer
  refine .ite _ ((Steps.refl s).then (.emit _ _) .noop) ?_
  simp only
  have h1 := habort s.inflight ((Steps.refl s).then (.dropFlags s) .dropFlags)
  revert h1
  generalize (s.inflight.foldl (fun s e => Server.abortExec s e.rid) { s with dropped := true, woken := false }) = a1
  intro h1
  have h2 := hwake a1.rqWaiters (h1.then (.dropWaiters a1) .dropWaiters)
  revert h2
  generalize (a1.rqWaiters.foldl wakeExec { a1 with rqWaiters := [] }) = a2
  intro h2
  exact h2.then (.clear a2) .clear

/-- what `pollServerKeep` and `pollServer` add to the request stream -/
inductive PollK (obs0 : List Obs) (now : Nat) : Act → Prop
  | noop : PollK obs0 now (.emit .noop)
  | yielded (v i d tr) : PollK obs0 now (.emit (.yielded v i d tr))
  | ret (i r) : PollK obs0 now (.emit (.ret (.server i) r))
  | counts (ep a b) : PollK obs0 now (.emit (.counts ep a b))
  | unwoken : PollK obs0 now .unwoken
  | setDone : PollK obs0 now .setDone
  | nextVis : PollK obs0 now .nextVis
  | yield (v) : PollK obs0 now (.upd (.yield v))
  | dropAll : PollK obs0 now .dropAll
  | woken : PollK obs0 now .woken
  | spunReset : PollK obs0 now (.spunReset obs0)
  | pump {k} (h : PumpK now k) : PollK obs0 now k

theorem pskRet_steps (s : St) (r : ReqPoll) :
    Steps (fun k => k = .setDone ∨ k = .nextVis ∨ (∃ v, k = .upd (.yield v)) ∨ ∃ v i d tr, k = .emit (.yielded v i d tr)) s (pskRet s r).1 := by
  unfold Flow.pskRet
  split
  · exact .refl s
  · exact (Steps.refl s).then (.setDone s _) (.inl rfl)
  · exact (Steps.refl s).then (.setDone s _) (.inl rfl)
  · exact .refl s
  · split
    · exact (((Steps.refl s).then (.nextVis s) (.inr (.inl rfl))).then (.upd _ _ (.yield s.nextVis)) (.inr (.inr (.inl ⟨_, rfl⟩)))).then
        (.emit _ _) (.inr (.inr (.inr ⟨_, _, _, _, rfl⟩)))
    · exact .refl s

theorem pumps_le_poll {obs0 : List Obs} {now : Nat} : ∀ k, PumpK now k → PollK obs0 now k := fun _ => .pump

theorem pskFinish_steps {obs0 : List Obs} {now : Nat} (s : St) (r : ReqPoll) : Steps (PollK obs0 now) s (pskFinish s r) := by
  unfold Flow.pskFinish
  refine Steps.then (Steps.then ((pskRet_steps s r).mono ?_) (.emit _ _) (.ret _ _)) (.emit _ _) (.counts _ _ _)
  rintro k (rfl | rfl | ⟨v, rfl⟩ | ⟨v, i, d, tr, rfl⟩) <;> constructor

theorem pollServerKeep_steps (s : St) (now : Nat) : Steps (PollK s.obs now) s (pollServerKeep s now) := by
  rw [pollServerKeep_eq]
  refine .ite _ ((Steps.refl s).then (.emit _ _) .noop) ?_
  have h1 : Steps (PollK s.obs now) s (requestsPollNext (pollFuel { s with woken := false }) { s with woken := false } now).1 :=
    ((Steps.refl s).then (.unwoken s) .unwoken).trans ((requestsPollNext_steps _ _).mono pumps_le_poll)
  simp only
  exact .ite _ (h1.then (.spunReset _ s.obs) .spunReset) (.ite _ h1 (h1.trans (pskFinish_steps _ _)))

theorem pollServer_steps (s : St) (now : Nat) : Steps (PollK s.obs now) s (pollServer s now) := by
  unfold Server.pollServer
  simp only
  have h := pollServerKeep_steps s now
  exact .ite _ (h.then (.dropAll _) .dropAll) (.ite _ (h.then (.woken _) .woken) h)

/-- the events from outside: the transport changes, the clock moves, messages are taken off the wire -/
inductive ExtK : Act → Prop
  | setT (t t') : ExtK (.setT t t')
  | wake (t) : ExtK (.emit (.wake t))
  | woken : ExtK .woken
  | took (ep m) : ExtK (.emit (.took ep m))
  | timerWaker : ExtK .timerWaker

theorem liftT_steps (s : St) (r : SimT × Bool) : Steps ExtK s (liftT s r) := by
  unfold Server.liftT
  have h := (Steps.refl s).then (A := ExtK) (.setT s r.1) (.setT _ _)
  exact .ite _ (h.trans (wakeServer_in .wake .woken _)) h

theorem onAdvance_steps (s : St) (n : Nat) : Steps ExtK s (onAdvance s n) := by
  unfold Server.onAdvance
  generalize s.timers.nextFire = o
  cases o with
  | none => exact .refl s
  | some t =>
    exact .ite _ (((Steps.refl s).then (.timerWaker s false) .timerWaker).trans (wakeServer_in .wake .woken _)) (.refl s)

theorem took_steps (ms : List Msg) (h : Steps ExtK s a) : Steps ExtK s (ms.foldl (fun s m => Server.emit s (.took (tid s) m)) a) := by
  induction ms generalizing a with
  | nil => exact h
  | cons m ms ih => exact ih (h.then (.emit _ _) (.took _ _))

def OpK (c : Sys) : SOp → Act → Prop
  | .pollServer => PollK c.s.obs c.now
  | .dropServer => DropAllK
  | .pollExec _ | .dropExec _ => ExecK
  | .finish _ _ => FinishK
  | _ => ExtK

theorem applyOp_steps (c : Sys) (op : SOp) : Steps (OpK c op) c.s (applyOp c op).s := by
  cases op with
  | pollServer => exact pollServer_steps _ _
  | dropServer => exact dropServer_steps _
  | pollExec r => exact pollExec_steps _ _ _
  | dropExec r => exact dropExec_steps _ _ _
  | finish r res => exact finishHandler_steps _ _ _
  | injectReq id d tr b => exact liftT_steps _ _
  | injectCancel id tr => exact liftT_steps _ _
  | injectErr => exact liftT_steps _ _
  | eof => exact liftT_steps _ _
  | setReady b => exact liftT_steps _ _
  | setFlush b => exact liftT_steps _ _
  | fault k => exact (Steps.refl _).then (.setT _ _) (.setT _ _)
  | faultSkip n => exact (Steps.refl _).then (.setT _ _) (.setT _ _)
  | selfWake b => exact (Steps.refl _).then (.setT _ _) (.setT _ _)
  | take n => exact took_steps _ ((Steps.refl _).then (.setT _ _) (.setT _ _))
  | advance n => exact onAdvance_steps _ _

theorem applyOp_ext (c : Sys) (op : SOp) (hop : op ≠ .pollServer) (hdr : op ≠ .dropServer) (h1 : ∀ v, op ≠ .pollExec v)
    (h2 : ∀ v, op ≠ .dropExec v) (h3 : ∀ v res, op ≠ .finish v res) : Steps ExtK c.s (applyOp c op).s := by
  have h := applyOp_steps c op
  cases op with
  | pollServer => exact absurd rfl hop
  | dropServer => exact absurd rfl hdr
  | pollExec r => exact absurd rfl (h1 r)
  | dropExec r => exact absurd rfl (h2 r)
  | finish r res => exact absurd rfl (h3 r res)
  | _ => exact h

/-- an operation by what it calls: one of the five calls into the server, or an event from outside -/
inductive OpOut (c : Sys) : SOp → St → Prop
  | pollServer : OpOut c .pollServer (pollServer c.s c.now)
  | dropServer : OpOut c .dropServer (dropServer c.s)
  | pollExec (r) : OpOut c (.pollExec r) (pollExec c.s r c.now)
  | dropExec (r) : OpOut c (.dropExec r) (dropExec c.s r c.now)
  | finish (r res) : OpOut c (.finish r res) (finishHandler c.s r res)
  | ext {op a} (h : Steps ExtK c.s a) : OpOut c op a

theorem applyOp_out (c : Sys) (op : SOp) : OpOut c op (applyOp c op).s := by
  have hx := applyOp_steps c op
  cases op with
  | pollServer => exact .pollServer
  | dropServer => exact .dropServer
  | pollExec r => exact .pollExec r
  | dropExec r => exact .dropExec r
  | finish r res => exact .finish r res
  | _ => exact .ext hx

/-- the request stream in primitive updates -/
inductive PumpFK : Act → Prop
  | tNext (ep r) : PumpFK (.emit (.tNext ep r))
  | setT (t t') : PumpFK (.setT t t')
  | fused : PumpFK .fused
  | emit {o} (h : SinkK IsWrite (.emit o)) : PumpFK (.emit o)
  | woken : PumpFK .woken
  | spin : PumpFK .spin
  | uwoken : PumpFK (.upd .woken)
  | gone : PumpFK (.upd .gone)
  | arm : PumpFK (.upd .arm)
  | dropped : PumpFK (.upd .dropped)
  | abort : PumpFK (.upd .abort)
  | rqGrant : PumpFK .rqGrant
  | rqFree : PumpFK .rqFree
  | popResp : PumpFK .popResp
  | rqRx : PumpFK (.rqRx true)
  | popCancel : PumpFK .popCancel
  | cancelRx (c) : PumpFK (.cancelRx c)
  | pushCancel : PumpFK .pushCancel
  | timers : PumpFK .timers
  | forget : PumpFK .forget
  | rearm : PumpFK .rearm
  | started : PumpFK .started
  | panic (w) : PumpFK (.panic w)

theorem noise_le_pumpF : ∀ k, NoiseK k → PumpFK k := by
  intro k hk
  cases hk with
  | wake t => exact .emit (.wake t)
  | _ => constructor

theorem read_le_pumpF : ∀ k, ReadK k → PumpFK k := by
  intro k hk
  cases hk with
  | noise h => exact noise_le_pumpF _ h
  | _ => constructor

theorem sink_le_pumpF {Q : Obs → Prop} (hQ : ∀ o, Q o → IsWrite o) : ∀ k, SinkK Q k → PumpFK k := by
  intro k hk
  cases hk with
  | wake t => exact .emit (.wake t)
  | viol ep w => exact .emit (.viol ep w)
  | woken => exact .woken
  | obs h => exact .emit (.obs (hQ _ h))
  | setT h => exact .setT _ _

theorem pump_fine {now : Nat} {k : Act} {a b : St} (hk : PumpK now k) (hp : Step k a b) : Steps PumpFK a b := by
  have hb := fun (h : BaseK now k) => (base_fine h hp).mono read_le_pumpF
  cases hk with
  | removeReq => exact hb .removeReq
  | tNext => exact hb .tNext
  | cancelRead => exact hb .cancelRead
  | expire => exact hb .expire
  | readStart => exact hb .readStart
  | baseSend =>
    cases hp
    exact (baseStartSend_fine a _ _).mono fun k hk => hk.elim (sink_le_pumpF send_le_write k)
      fun h => noise_le_pumpF k (table_le_noise k h)
  | emit h => exact (Steps.refl a).tail (.emit (SinkK.mono ensure_le_write _ h)) hp
  | setT h => exact (Steps.refl a).tail (.setT _ _) hp
  | woken => exact (Steps.refl a).tail .woken hp
  | spin => exact (Steps.refl a).tail .spin hp
  | uwoken => exact (Steps.refl a).tail .uwoken hp
  | gone => exact (Steps.refl a).tail .gone hp
  | arm => exact (Steps.refl a).tail .arm hp
  | dropped => exact (Steps.refl a).tail .dropped hp
  | rqGrant => exact (Steps.refl a).tail .rqGrant hp
  | rqFree => exact (Steps.refl a).tail .rqFree hp
  | popResp => exact (Steps.refl a).tail .popResp hp
  | rqRx => exact (Steps.refl a).tail .rqRx hp
  | popCancel => exact (Steps.refl a).tail .popCancel hp
  | cancelRx c => exact (Steps.refl a).tail (.cancelRx c) hp
  | pushCancel => exact (Steps.refl a).tail .pushCancel hp

theorem requestsPollNext_fine (fuel : Nat) (s : St) (now : Nat) : Steps PumpFK s (requestsPollNext fuel s now).1 :=
  (requestsPollNext_steps fuel s).bind pump_fine

/-! ## users: which actions the predicates of `ExecClosed`, `StepClosed`, `LoopClosed`, `PrimClosed` are kept by; `Adds Q` -/

variable {now : Nat} {P : St → Prop}

/-- bookkeeping that none of the invariants reads -/
inductive BookK : Act → Prop
  | woken : BookK .woken
  | unwoken : BookK .unwoken
  | cancelRx (c) : BookK (.cancelRx c)
  | rqRx (c) : BookK (.rqRx c)
  | rqGrant : BookK .rqGrant
  | rqFree : BookK .rqFree
  | rqTake : BookK .rqTake
  | rqWait : BookK .rqWait
  | rqUnassign : BookK .rqUnassign
  | rqUnsend : BookK .rqUnsend
  | popResp : BookK .popResp
  | pushResp : BookK .pushResp
  | popCancel : BookK .popCancel
  | pushCancel : BookK .pushCancel
  | dropWaiters : BookK .dropWaiters

theorem Step.book {k : Act} {a b : St} (hk : BookK k) (hp : Step k a b) : Inert a b ∧ b.nextVis = a.nextVis := by
  -- fifteen actions, one `Step` each: the post-state is `a` with one bookkeeping field written, none of those below
  cases hk <;> cases hp
  all_goals exact ⟨⟨rfl, rfl, rfl, rfl, rfl, rfl, rfl, rfl, rfl, rfl, rfl, rfl, rfl, rfl⟩, rfl⟩

/-- the actions an `ExecClosed` predicate is kept by: no abort, observations that do not poison -/
inductive ExecCK : Act → Prop
  | emit {o} (h : Quiet o) : ExecCK (.emit o)
  | upd {u} (h : u ≠ .abort) : ExecCK (.upd u)
  | book {k} (h : BookK k) : ExecCK k
  | nextVis : ExecCK .nextVis

theorem ExecClosed.closed (hc : ExecClosed P) {k : Act} {a b : St} (hk : ExecCK k) (hp : Step k a b) (h : P a) : P b := by
  cases hk with
  | emit ho => cases hp; exact hc.emit _ _ ho h
  | upd hu => cases hp; exact hc.upd _ _ _ (UKind.stable _ hu) h
  | book hb => exact hc.inert _ _ (hp.book hb).1 h
  | nextVis => cases hp; exact hc.inert a _ ⟨rfl, rfl, rfl, rfl, rfl, rfl, rfl, rfl, rfl, rfl, rfl, rfl, rfl, rfl⟩ h

theorem wake_le_execC : ∀ k, WakeK k → ExecCK k := by
  intro k hk
  cases hk with
  | wake t => exact .emit trivial
  | uwoken => exact .upd UKind.noConfusion
  | _ => exact .book (by constructor)

theorem exec_le_execC : ∀ k, ExecK k → ExecCK k := by
  intro k hk
  cases hk with
  | noop | handler | ret | wake => exact .emit trivial
  | polled | aborted | running | handled | gone | finish | done | park | sending | uwoken => exact .upd UKind.noConfusion
  | _ => exact .book (by constructor)

theorem ExecClosed.along (hc : ExecClosed P) (hle : ∀ k, A k → ExecCK k) (hs : Steps A s a) (h : P s) : P a :=
  (hs.mono hle).kept hc.closed h

/-- the actions below the table operations that a `StepClosed` predicate is kept by -/
inductive StepFK : Act → Prop
  | exec {k} (h : ExecCK k) : StepFK k
  | setT (t t') : StepFK (.setT t t')
  | fused : StepFK .fused
  | timerWaker : StepFK .timerWaker

theorem StepClosed.fine (hc : StepClosed now P) {k : Act} {a b : St} (hk : StepFK k) (hp : Step k a b) (h : P a) : P b := by
  cases hk with
  | exec hk => exact hc.toExecClosed.closed hk hp h
  | setT => cases hp; exact hc.setT _ _ h
  | fused => cases hp; exact hc.setFused _ h
  | timerWaker => cases hp; exact hc.timerWaker _ _ h

theorem sink_le_stepF {Q : Obs → Prop} (hQ : ∀ o, Q o → Quiet o) : ∀ k, SinkK Q k → StepFK k := by
  intro k hk
  cases hk with
  | wake t => exact .exec (.emit trivial)
  | viol ep w => exact .exec (.emit trivial)
  | woken => exact .exec (.book .woken)
  | obs h => exact .exec (.emit (hQ _ h))
  | setT h => exact .setT _ _

theorem write_quiet : ∀ o, IsWrite o → Quiet o := by intro o ho; cases ho <;> exact trivial

theorem tNext_le_stepF : ∀ k, TNextK k → StepFK k := by
  intro k hk
  cases hk with
  | tNext ep r => exact .exec (.emit trivial)
  | setT t t' => exact .setT t t'
  | fused => exact .fused

/-- the table operations as whole actions, at clock `now` -/
inductive MedK (now : Nat) : Act → Prop
  | removeReq : MedK now .removeReq
  | tNext : MedK now .tNext
  | cancelRead : MedK now .cancelRead
  | baseSend : MedK now .baseSend
  | expire : MedK now (.expire now)
  | readStart : MedK now (.readStart now)

/-- the class of `StepClosed now` … -/
def StepK (now : Nat) (k : Act) : Prop := StepFK k ∨ MedK now k
/-- … and of `LoopClosed now` -/
def LoopK (now : Nat) (k : Act) : Prop := StepK now k ∨ k = .spin

theorem StepClosed.closed (hc : StepClosed now P) {k : Act} {a b : St} (hk : StepK now k) (hp : Step k a b) (h : P a) : P b := by
  rcases hk with hk | hk
  · exact hc.fine hk hp h
  · have hn : P (Server.tNext a).1 := (tNext_steps a).kept (fun hk hp h => hc.fine (tNext_le_stepF _ hk) hp h) h
    cases hk with
    | removeReq => cases hp; exact hc.removeReq _ _ h
    | expire => cases hp; exact hc.expire _ h
    | tNext => cases hp; exact hn
    | readStart => cases hp; exact hc.start _ _ _ _ _ hn
    | cancelRead => cases hp with | cancelRead _ id tr hq => exact hc.cancel _ _ _ h hq
    | baseSend =>
      cases hp
      exact (baseStartSend_steps a _ _).kept (fun hk hp h => hk.elim
        (fun hk => hc.fine (sink_le_stepF (fun o ho => write_quiet o (send_le_write o ho)) _ hk) hp h)
        (fun hk => by subst hk; cases hp; exact hc.removeReq _ _ h)) h

theorem LoopClosed.closed (hc : LoopClosed now P) {k : Act} {a b : St} (hk : LoopK now k) (hp : Step k a b) (h : P a) : P b := by
  rcases hk with hk | rfl
  · exact hc.toStepClosed.closed hk hp h
  · cases hp; exact hc.spin _ h

theorem pump_le_loop : ∀ k, PumpK now k → LoopK now k := by
  intro k hk
  cases hk with
  | emit h => exact .inl (.inl (sink_le_stepF (fun o ho => write_quiet o (ensure_le_write o ho)) _ h))
  | setT h => exact .inl (.inl (.setT _ _))
  | spin => exact .inr rfl
  | removeReq | tNext | cancelRead | baseSend | expire | readStart => exact .inl (.inr (by constructor))
  | uwoken | gone | arm | dropped => exact .inl (.inl (.exec (.upd UKind.noConfusion)))
  | _ => exact .inl (.inl (.exec (.book (by constructor))))

theorem bpStep_le_step : ∀ k, BpStepK now k → StepK now k := by
  intro k hk
  cases hk with
  | popCancel | cancelRx => exact .inl (.exec (.book (by constructor)))
  | _ => exact .inr (by constructor)

theorem drop_le_step : ∀ k, DropK k → StepK now k := by
  intro k hk
  cases hk with
  | dropped => exact .inl (.exec (.upd UKind.noConfusion))
  | wake t => exact .inl (.exec (.emit trivial))
  | _ => exact .inl (.exec (.book (by constructor)))

theorem ext_le_step : ∀ k, ExtK k → StepK now k := by
  intro k hk
  cases hk with
  | setT t t' => exact .inl (.setT t t')
  | wake t => exact .inl (.exec (.emit trivial))
  | took ep m => exact .inl (.exec (.emit trivial))
  | woken => exact .inl (.exec (.book .woken))
  | timerWaker => exact .inl .timerWaker

theorem StepClosed.along (hc : StepClosed now P) (hle : ∀ k, A k → StepK now k) (hs : Steps A s a) (h : P s) : P a :=
  (hs.mono hle).kept hc.closed h

theorem LoopClosed.along (hc : LoopClosed now P) (hle : ∀ k, A k → LoopK now k) (hs : Steps A s a) (h : P s) : P a :=
  (hs.mono hle).kept hc.closed h

/-- `PrimClosed now`: also the end of the stream; `spunReset` only back to the log of a state that has `P` -/
theorem PrimClosed.closed (hc : PrimClosed now P) {s0 : St} (h0 : P s0) {k : Act} {a b : St}
    (hk : LoopK now k ∨ k = .setDone ∨ k = .dropAll ∨ k = .spunReset s0.obs) (hp : Step k a b) (h : P a) : P b := by
  rcases hk with hk | rfl | rfl | rfl
  · exact hc.toLoopClosed.closed hk hp h
  · cases hp; exact hc.setDone _ _ h
  · cases hp; exact hc.drop _ h
  · cases hp; exact hc.spunReset s0 _ h0 h

theorem poll_le_prim {s0 : St} : ∀ k, PollK s0.obs now k → LoopK now k ∨ k = .setDone ∨ k = .dropAll ∨ k = .spunReset s0.obs := by
  intro k hk
  cases hk with
  | pump h => exact .inl (pump_le_loop _ h)
  | setDone => exact .inr (.inl rfl)
  | dropAll => exact .inr (.inr (.inl rfl))
  | spunReset => exact .inr (.inr (.inr rfl))
  | noop | yielded | ret | counts => exact .inl (.inl (.inl (.exec (.emit trivial))))
  | unwoken | woken => exact .inl (.inl (.inl (.exec (.book (by constructor)))))
  | nextVis => exact .inl (.inl (.inl (.exec .nextVis)))
  | yield v => exact .inl (.inl (.inl (.exec (.upd UKind.noConfusion))))

/-- the actions that add observations of class `Q` only (none of a coarser grain: their logs are not one action's) -/
def ObsK (Q : Obs → Prop) : Act → Prop
  | .emit o => Q o
  | .spin => ∀ t, Q (.spin t)
  | .panic w => ∀ t, Q (.panic t w)
  | .setT _ _ | .fused | .upd _ | .woken | .unwoken | .cancelRx _ | .rqRx _ | .rqGrant | .rqFree | .rqTake | .rqWait | .rqUnassign
  | .rqUnsend | .popResp | .pushResp | .popCancel | .pushCancel | .timers | .timerWaker | .forget | .rearm | .started | .setDone
  | .nextVis | .dropFlags | .dropWaiters | .clear => True
  | _ => False

theorem adds_has (Q : Obs → Prop) : Has (ObsK Q) (Adds Q) where
  refl := Adds.refl Q
  trans := Adds.trans
  prim := by
    intro k a b hk hp
    cases hp with
    | emit s o => exact Adds.emit _ hk
    | spin s => exact Adds.emit _ (hk _)
    | panic s w => exact (Adds.emit _ (hk _)).after rfl
    | setT | fused | upd | woken | unwoken | cancelRx | rqRx | rqGrant | rqFree | rqTake | rqWait | rqUnassign | rqUnsend | popResp
    | pushResp | popCancel | pushCancel | timers | timerWaker | forget | rearm | started | setDone | nextVis | dropFlags | dropWaiters
    | clear => exact Adds.of_eq rfl
    | _ => exact hk.elim

end TarpcModel.Server.Flow
