import TarpcModel.Lemmas.ClientBook
import TarpcModel.Lemmas.ClientFlowInv
/-!
# A dispatch poll that goes idle with a writable sink has drained the cancellation queue

`HasT p s`: one of the transport observations of `s` satisfies `p`.  With `p = readyP` (`poll_ready → Pending`):
every path on which `pump_write` ends `Pending` / `None` with cancellations still queued goes through an
`ensure_writeable` that returned `Pending` — which is observed.  So `run → Pending` (and a whole `pollDispatch` that
returns `Pending` without a terminal error and without a panic) leaves `cq = []` unless a `poll_ready → Pending` was
observed (`pollDispatch_drained`).

Together with `CqI` (`Lemmas/ClientCq.lean`, clause `ent`): after such a poll every in-flight entry belongs to a call that is
still awaiting it (`AtEnd.awaiting`, `Lemmas/ClientOwedMon.lean`).

The control flow of such a poll is `pumpWrite_idle … pollDispatchCore_idle` (`Lemmas/ClientSteps.lean`), `pollDispatch_idle`.
-/
namespace TarpcModel.Client

/-- one of the transport observations satisfies `p` -/
def HasT (p : Obs → Bool) (s : St) : Prop := ∃ o ∈ s.obs.filter Flow.isT, p o = true

theorem HasT.frameA {p : Obs → Bool} {s s' : St} (h : Flow.FrameA s s') : HasT p s' ↔ HasT p s := by
  unfold HasT; rw [h.tobs]

theorem hasT_tEmit_mono {p : Obs → Bool} {s : St} (h : HasT p s) (t' : SimT) (o : Obs) (w : Bool) :
    HasT p (Flow.tEmit s t' o w) := by
  obtain ⟨l, dw, he, _, _⟩ := Flow.tEmit_eq s t' o w
  obtain ⟨x, hx, hp⟩ := h
  rw [he]
  exact ⟨x, by simp only [List.filter_append]; exact List.mem_append_right _ hx, hp⟩

theorem hasT_tEmit_new {p : Obs → Bool} (s : St) (t' : SimT) {o : Obs} (w : Bool) (hT : Flow.isT o = true)
    (hp : p o = true) : HasT p (Flow.tEmit s t' o w) := by
  obtain ⟨l, dw, he, _, hh⟩ := Flow.tEmit_eq s t' o w
  rw [he]
  refine ⟨o, ?_, hp⟩
  simp only [List.filter_append]
  exact List.mem_append_left _ (List.mem_of_mem_head? (hh hT))

theorem hasT_tReady {p : Obs → Bool} {s : St} (h : HasT p s) : HasT p (tReady s).1 := by
  rw [Flow.tReady_eq]; exact hasT_tEmit_mono h _ _ _
theorem hasT_tFlush {p : Obs → Bool} {s : St} (h : HasT p s) : HasT p (tFlush s).1 := by
  rw [Flow.tFlush_eq]; exact hasT_tEmit_mono h _ _ _
theorem hasT_tClose {p : Obs → Bool} {s : St} (h : HasT p s) : HasT p (tClose s).1 := by
  rw [Flow.tClose_eq]; exact hasT_tEmit_mono h _ _ _
theorem hasT_tSend {p : Obs → Bool} {s : St} (h : HasT p s) (m : Msg) : HasT p (tSend s m).1 := by
  rw [Flow.tSend_eq]; exact hasT_tEmit_mono h _ _ _

theorem hasT_tNext {p : Obs → Bool} {s : St} (h : HasT p s) : HasT p (tNext s).1 := by
  rw [Flow.tNext_eq]
  split
  · exact h
  · obtain ⟨x, hx, hp⟩ := h
    refine ⟨x, ?_, hp⟩
    simp only [List.filter_cons, Flow.isT_tNext, ↓reduceIte]
    exact List.mem_cons_of_mem _ hx

/-- `poll_ready → Pending` is observed -/
theorem tReady_pending_hasT {s s1 : St} (h : tReady s = (s1, .pending)) : HasT readyP s1 := by
  have e : s1 = (tReady s).1 := by rw [h]
  have r : (tReady s).2 = .pending := by rw [h]
  rw [e, Flow.tReady_eq]
  rw [Flow.tReady_res] at r
  simp only
  exact hasT_tEmit_new s _ _ rfl (by rw [r]; rfl)

/-- `ensure_writeable → Pending` comes from a `poll_ready → Pending` (observed) -/
theorem ensureWriteable_pending_hasT {s s1 : St} (h : ensureWriteable s = (s1, .pending)) : HasT readyP s1 := by
  obtain ⟨_, _, h1, h2 | ⟨_, h2, h3⟩⟩ := ensureWriteable_pending h
  · exact of_fst h2 (hasT_tFlush (tReady_pending_hasT h1))
  · exact of_fst h3 (hasT_tReady (of_fst h2 (hasT_tFlush (tReady_pending_hasT h1))))

theorem Step.hasT {p : Obs → Bool} {now : Nat} {a : Act} {s s' : St} (ha : WriteK a) (st : Step now a s s')
    (h : HasT p s) : HasT p s' := by
  have fr : ∀ {s1 s2 : St}, Flow.FrameA s1 s2 → HasT p s1 → HasT p s2 := fun f h => (HasT.frameA f).mpr h
  have rq : ∀ {s1 s2 : St} {r : DReq}, pqRecv s = (s1, .item r) → insertRequest s1 now r = some s2 → HasT p s2 :=
    fun e hi => fr (Flow.insertRequest_frameA hi) (of_fst e (fr (Flow.pqRecv_frameA s) h))
  cases st with
  | ready => exact hasT_tReady h
  | flush => exact hasT_tFlush h
  | spin =>
    obtain ⟨x, hx, hp⟩ := h
    exact ⟨x, by simp only [Flow.emit_obs, List.filter_cons, Flow.isT_spin, ↓reduceIte]; exact List.mem_cons_of_mem _ hx, hp⟩
  | pqIdle _ => exact fr (Flow.pqRecv_frameA s) h
  | pqSkip e _ => exact of_fst e (fr (Flow.pqRecv_frameA s) h)
  | reqPanic _ e _ hi _ => exact rq e hi
  | reqSent _ e _ hi _ ht => exact of_fst ht (hasT_tSend (rq e hi) _)
  | reqFailed _ e _ hi _ ht =>
    exact fr (Flow.completeRequest_frameA _ _ _) (of_fst ht (hasT_tSend (rq e hi) _))
  | cqIdle _ => exact fr (Flow.cqRecv_frameA s) h
  | cqMiss e _ => exact of_fst e (fr (Flow.cqRecv_frameA s) h)
  | cancel e hc ht =>
    exact of_fst ht (hasT_tSend (of_fst hc (fr (Flow.cancelRequest_frameA _ _)
      (of_fst e (fr (Flow.cqRecv_frameA s) h)))) _)
  | expire => exact fr (Flow.expireStep_frameA _ now) h
  | _ => exact False.elim ha

theorem hasT_pollWriteRequest {p : Obs → Bool} {s : St} (h : HasT p s) (now : Nat) :
    HasT p (pollWriteRequest s now).1 :=
  ((pollWriteRequest_steps s now).mono req_le_write).kept Step.hasT h

theorem hasT_pollWriteCancel {p : Obs → Bool} {s : St} (h : HasT p s) : HasT p (pollWriteCancel s).1 :=
  ((pollWriteCancel_steps 0 s).mono can_le_write).kept Step.hasT h

/-! ### the cancellation queue is drained -/

/-- the dequeue loop of `poll_next_cancellation`, with enough fuel, stops `Pending` only on an empty queue -/
theorem nextCancelLoop_pending (fuel : Nat) {s s' : St} (h : nextCancelLoop fuel s = (s', .pending))
    (hf : s.cq.length < fuel) : s'.cq = [] := by
  have o := nextCancelLoop_out 0 fuel s
  rw [h] at o
  obtain ⟨s0, _, e | ⟨_, hf'⟩⟩ := o
  · rcases Flow.cqRecv_out s0 with ⟨_, _, _, e'⟩ | ⟨_, e', _⟩ | ⟨hq, e'⟩ <;> rw [e'] at e
    · cases e
    · cases e
    · -- `cqRecv → Pending`: the queue is empty, the waker is registered
      cases e; exact hq
  · omega

/-- `poll_next_cancellation` ends `Pending` / `None`: the sink was not ready (observed), or the queue is empty -/
theorem pollNextCancellation_drained {s s1 : St} {r : PW Entry} (h : pollNextCancellation s = (s1, r))
    (hr : r = .pending ∨ r = .none) : HasT readyP s1 ∨ s1.cq = [] := by
  revert h
  refine Flow.pollNextCancellation_cases (motive := fun q => q = (s1, r) → HasT readyP s1 ∨ s1.cq = []) s ?_ ?_
  · intro s0 e he hne hh
    injection hh with h1 h2
    subst h1
    cases e with
    | ready => exact absurd rfl hne
    | pending => exact Or.inl (ensureWriteable_pending_hasT he)
    | err a => rcases hr with rfl | rfl <;> simp [EW.toPW] at h2
    | spin => rcases hr with rfl | rfl <;> simp [EW.toPW] at h2
  · intro s0 he hh
    right
    rcases hr with rfl | rfl
    · exact nextCancelLoop_pending _ hh (Nat.lt_succ_self _)
    · exact (Flow.nextCancelLoop_none hh).1

theorem pollWriteCancel_drained {s s1 : St} {r : PW Unit} (h : pollWriteCancel s = (s1, r))
    (hr : r = .pending ∨ r = .none) : HasT readyP s1 ∨ s1.cq = [] := by
  revert h
  refine Flow.pollWriteCancel_cases (motive := fun q => q = (s1, r) → HasT readyP s1 ∨ s1.cq = []) s ?_ ?_ ?_
  · intro s0 r0 h0 hs hh
    injection hh with h1 h2
    subst h1
    refine pollNextCancellation_drained h0 ?_
    cases r0 <;> rcases hr with rfl | rfl <;> simp_all [PW.pass, PW.isSome]
  · intro _ _ _ _ _ hh; injection hh with _ h2; rcases hr with rfl | rfl <;> cases h2
  · intro _ _ _ _ _ hh; injection hh with _ h2; rcases hr with rfl | rfl <;> cases h2

theorem pumpWrite_drained {s s' : St} {r : PW Unit} {now : Nat} (h : pumpWrite s now = (s', r))
    (hr : r = .pending ∨ r = .none) : HasT readyP s' ∨ s'.cq = [] := by
  obtain ⟨_, _, s2, _, s3, _, _, h2, hs2, h3, hl⟩ := pumpWrite_idle h hr
  have a3 := Flow.pollExpired_frameA s2 now; rw [h3] at a3
  have c3 := Flow.pollExpired_cq_le s2 now; rw [h3] at c3
  rcases pollWriteCancel_drained h2 (PW.not_isStop hs2) with d | d
  · have d3 := (HasT.frameA a3).mpr d
    rcases hl with rfl | rfl
    · exact .inl (hasT_tClose d3)
    · exact .inl (hasT_tFlush d3)
  · have d3 := nil_of_length_le c3 d
    rcases hl with rfl | rfl
    · exact .inr (by rw [Flow.tClose_cq]; exact d3)
    · exact .inr (by rw [Flow.tFlush_cq]; exact d3)

/-- **`run → Pending` has drained the cancellation queue** unless a `poll_ready → Pending` was observed. -/
theorem pollDispatchCore_drained {s : St} {now : Nat} (hr : (pollDispatchCore s now).2 = .pending)
    (ht : (pollDispatchCore s now).1.termErr = none) (hp : (pollDispatchCore s now).1.poisoned = false) :
    HasT readyP (pollDispatchCore s now).1 ∨ (pollDispatchCore s now).1.cq = [] := by
  obtain ⟨_, _, h, hr'⟩ := pollDispatchCore_idle hr ht hp
  exact pumpWrite_drained h hr'

theorem dropI_done (s : St) : (dropI s).done = s.done := by
  unfold dropI
  exact foldl_field (·.done) (fun s (e : Entry) => osDropTx s e.cid) (fun s e => osDropTx_done s e.cid) _ _

theorem dropQ_done (s : St) : (dropQ s).done = s.done := by
  unfold dropQ
  exact foldl_field (·.done) (fun s (r : DReq) => osDropTx s r.cid) (fun s r => osDropTx_done s r.cid) _ _

theorem pqClose_done (s : St) : (pqClose s).done = s.done := by
  unfold pqClose
  exact foldl_field (·.done) wakeCall (fun s w => wakeCall_done s w) _ _

theorem dropDispatch_done (s : St) : (dropDispatch s).done = s.done := by
  rw [dropDispatch_stages]
  split
  · rfl
  · show (dropI (dropQ (pqClose { s with dDropped := true, dWoken := false }))).done = s.done
    rw [dropI_done, dropQ_done, pqClose_done]

/-- a dispatch poll that returns `Pending` (alive before, not done, no terminal error, no panic) ends with a
`pump_write → Pending / None` and the two closing observations of the poll -/
theorem pollDispatch_idle {s : St} {now : Nat} (ha : (s.dDropped || s.done.isSome || s.poisoned) = false)
    (h1 : (pollDispatch s now).poisoned = false) (h2 : (pollDispatch s now).done = none)
    (h3 : (pollDispatch s now).termErr = none) :
    ∃ s0 s1 r, pumpWrite s0 now = (s1, r) ∧ (r = .pending ∨ r = .none) ∧
      pollDispatch s now = emit (emit s1 (.ret (tid s1) .pending)) (.counts (tid s1) s1.inflight.length s1.timers.len) := by
  have hk : (pollDispatchKeep s now).done = none := by
    rw [Flow.pollDispatch_eq] at h2; split at h2
    · rwa [dropDispatch_done] at h2
    · exact h2
  rw [Flow.pollDispatch_of_keep hk] at h1 h3 ⊢
  obtain ⟨s1, hc, hp, ek⟩ := Flow.pollDispatchKeep_pending ha hk h1
  rw [ek] at h3
  obtain ⟨s0, r, h, hr⟩ := pollDispatchCore_idle (s := { s with dWoken := false }) (now := now) (by rw [hc]) (by rw [hc]; exact h3)
    (by rw [hc]; exact hp)
  rw [hc] at h
  exact ⟨s0, s1, r, h, hr, ek⟩

/-- **A dispatch poll that returns `Pending` has drained the cancellation queue**, unless a `poll_ready → Pending` was
observed. -/
theorem pollDispatch_drained {s : St} {now : Nat} (ha : (s.dDropped || s.done.isSome || s.poisoned) = false)
    (h1 : (pollDispatch s now).poisoned = false) (h2 : (pollDispatch s now).done = none)
    (h3 : (pollDispatch s now).termErr = none) :
    HasT readyP (pollDispatch s now) ∨ (pollDispatch s now).cq = [] := by
  obtain ⟨_, s1, _, h, hr, e⟩ := pollDispatch_idle ha h1 h2 h3
  rw [e]
  rcases pumpWrite_drained h hr with ⟨x, hx, hp⟩ | d
  · exact .inl ⟨x, by simpa [Flow.emit_obs, List.filter_cons] using hx, hp⟩
  · exact .inr d

end TarpcModel.Client
