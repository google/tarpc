import TarpcModel.Lemmas.ClientTop
import TarpcModel.Lemmas.ClientFlowSink
import TarpcModel.Lemmas.ClientCallStep
/-!
# The cancellation-queue invariant of the client model

`CqI D s`: every in-flight entry belongs to a call that is still waiting for it (`awaiting`, oneshot sender not
dropped) — or its request id is in the cancellation queue `cq`.  (`D = some cid` marks the moment inside `dropCall`
between the guard's `cqPush` and the end of the future's life: the entries of call `cid` are then *all* in `cq`.)
Supporting clauses: a dropped dispatch tracks nothing; the oneshot sender of a queued request has not been dropped;
a call that has not been enqueued yet and whose sender is gone (only inside `dropCall`) is not waiting for a permit.

The invariant is stated over `cores s` (per call: id of the future, phase, `txDropped`, `rxClosed`) and the two queues, the table,
the permit lists and `dDropped`; `QCq s s'` says that a step leaves all of those alone.  Preservation: one case per
action of the dispatch (`Step.cqi`), one per outcome of a poll of a call future (`CqU.pollOut`, over `CqI.call_change`:
only one call changes), one lemma per stage of dropping one (the view-level invariant `Inv` of `Lemmas/ClientIds.lean`
is used where the argument needs to know which call owns a queued request / an entry).
-/
namespace TarpcModel.Client

/-! ### the part of the state the invariant reads -/

/-- per call: the future's id, its phase, whether the oneshot sender was dropped without sending, and whether the
receiver is closed -/
def ccore (c : Call) : Nat × Phase × Bool × Bool := (c.cid, c.phase, c.os.txDropped, c.os.rxClosed)

def cores (s : St) : List (Nat × Phase × Bool × Bool) := s.calls.map ccore

/-- `s'` agrees with `s` on everything `CqI` reads. -/
structure QCq (s s' : St) : Prop where
  cs : cores s' = cores s
  inflight : s'.inflight = s.inflight
  cq : s'.cq = s.cq
  pq : s'.pq = s.pq
  pqWaiters : s'.pqWaiters = s.pqWaiters
  pqAssigned : s'.pqAssigned = s.pqAssigned
  dDropped : s'.dDropped = s.dDropped

theorem QCq.refl (s : St) : QCq s s := ⟨rfl, rfl, rfl, rfl, rfl, rfl, rfl⟩

theorem QCq.trans {a b c : St} (h1 : QCq a b) (h2 : QCq b c) : QCq a c :=
  ⟨h2.cs.trans h1.cs, h2.inflight.trans h1.inflight, h2.cq.trans h1.cq, h2.pq.trans h1.pq,
   h2.pqWaiters.trans h1.pqWaiters, h2.pqAssigned.trans h1.pqAssigned, h2.dDropped.trans h1.dDropped⟩

theorem QCq.of_calls {s s' : St} (hc : s'.calls = s.calls) (h1 : s'.inflight = s.inflight) (h2 : s'.cq = s.cq)
    (h3 : s'.pq = s.pq) (h4 : s'.pqWaiters = s.pqWaiters) (h5 : s'.pqAssigned = s.pqAssigned)
    (h6 : s'.dDropped = s.dDropped) : QCq s s' :=
  ⟨by unfold Client.cores; rw [hc], h1, h2, h3, h4, h5, h6⟩

/-- composition, last step first (so that the intermediate state is known when the first step is elaborated) -/
theorem QCq.after {a b c : St} (h2 : QCq b c) (h1 : QCq a b) : QCq a c := h1.trans h2

theorem qc_foldl {α : Type} (f : St → α → St) (hf : ∀ s a, QCq s (f s a)) (l : List α) (s : St) :
    QCq s (l.foldl f s) :=
  foldl_keeps (P := QCq s) (fun b a hb => hb.trans (hf b a)) l (QCq.refl s)

theorem qc_emit (s : St) (o : Obs) : QCq s (emit s o) := QCq.of_calls rfl rfl rfl rfl rfl rfl rfl

theorem qc_wakeDispatch (s : St) : QCq s (wakeDispatch s) := by
  obtain ⟨w, os, e⟩ := Flow.wakeDispatch_only s
  rw [e]; exact QCq.of_calls rfl rfl rfl rfl rfl rfl rfl

theorem cores_updCall (s : St) (cid : Nat) (f : Call → Call) (hf : ∀ c, ccore (f c) = ccore c) :
    cores (updCall s cid f) = cores s := by
  simp only [cores, updCall, List.map_map]
  apply List.map_congr_left
  intro c _
  simp only [Function.comp]
  split
  · exact hf c
  · rfl

theorem qc_updCall (s : St) (cid : Nat) (f : Call → Call) (hf : ∀ c, ccore (f c) = ccore c) :
    QCq s (updCall s cid f) :=
  ⟨cores_updCall s cid f hf, rfl, rfl, rfl, rfl, rfl, rfl⟩

theorem qc_wakeCall (s : St) (cid : Nat) : QCq s (wakeCall s cid) := by
  rcases Flow.wakeCall_out s cid with ⟨_, _, _, e⟩ | ⟨_, e⟩ <;> rw [e]
  · exact (qc_emit _ _).after (qc_updCall s cid _ (fun _ => rfl))
  · exact QCq.refl _

theorem qc_osSend (s : St) (cid : Nat) (o : Outcome) : QCq s (osSend s cid o) := by
  rcases Flow.osSend_out s cid o with ⟨_, e⟩ | ⟨_, _, _, e⟩ <;> rw [e]
  · exact QCq.refl _
  · split
    · exact (qc_wakeCall _ _).after (qc_updCall s cid _ (fun _ => rfl))
    · exact qc_updCall s cid _ (fun _ => rfl)

theorem qc_removeTimer (s : St) (k : Nat) : QCq s (removeTimer s k) := by
  rcases Flow.removeTimer_out s k with ⟨_, _, _, e⟩ | ⟨_, e⟩ <;> rw [e]
  · split
    · exact (qc_wakeDispatch _).after (QCq.of_calls rfl rfl rfl rfl rfl rfl rfl)
    · exact QCq.of_calls rfl rfl rfl rfl rfl rfl rfl
  · exact (qc_emit _ _).after (QCq.of_calls rfl rfl rfl rfl rfl rfl rfl)

theorem qc_tEmit (s : St) (t' : SimT) (o : Obs) (w : Bool) : QCq s (Flow.tEmit s t' o w) := by
  obtain ⟨l, dw, he, _, _⟩ := Flow.tEmit_eq s t' o w
  rw [he]; exact QCq.of_calls rfl rfl rfl rfl rfl rfl rfl
theorem qc_tReady (s : St) : QCq s (tReady s).1 := by rw [Flow.tReady_eq]; exact qc_tEmit _ _ _ _
theorem qc_tFlush (s : St) : QCq s (tFlush s).1 := by rw [Flow.tFlush_eq]; exact qc_tEmit _ _ _ _
theorem qc_tClose (s : St) : QCq s (tClose s).1 := by rw [Flow.tClose_eq]; exact qc_tEmit _ _ _ _
theorem qc_tSend (s : St) (m : Msg) : QCq s (tSend s m).1 := by
  rw [Flow.tSend_eq]; exact qc_tEmit s (s.t.startSend m).1 _ false
theorem qc_tNext (s : St) : QCq s (tNext s).1 := by
  rw [Flow.tNext_eq]; split
  · exact QCq.refl _
  · exact QCq.of_calls rfl rfl rfl rfl rfl rfl rfl

theorem qc_pqRecv_noItem (s : St) (h : ∀ r, (pqRecv s).2 ≠ .item r) : QCq s (pqRecv s).1 := by
  rcases Flow.pqRecv_out s with ⟨r, _, _, e⟩ | ⟨_, e, _⟩ | ⟨hq, e⟩ <;> rw [e] at h ⊢
  · exact absurd rfl (h r)
  · exact QCq.refl _
  · exact QCq.of_calls rfl rfl rfl rfl rfl rfl rfl

theorem qc_cqRecv_noItem (s : St) (h : ∀ r, (cqRecv s).2 ≠ .item r) : QCq s (cqRecv s).1 := by
  rcases Flow.cqRecv_out s with ⟨r, _, _, e⟩ | ⟨_, e, _⟩ | ⟨hq, e⟩ <;> rw [e] at h ⊢
  · exact absurd rfl (h r)
  · exact QCq.refl _
  · exact QCq.of_calls rfl rfl rfl rfl rfl rfl rfl

/-! ### the invariant -/

/-- `D`: the call (if any) whose guard has queued its cancellation and whose future is about to go away. -/
structure CqI (D : Option Nat) (s : St) : Prop where
  /-- a dropped dispatch tracks nothing -/
  dd : s.dDropped = true → s.inflight = [] ∧ s.pq = []
  /-- an entry's id is in the cancellation queue, or its call is waiting for it (sender alive) -/
  ent : ∀ e ∈ s.inflight, e.id ∈ s.cq ∨ ((∃ rx, (e.cid, Phase.awaiting, false, rx) ∈ cores s) ∧ D ≠ some e.cid)
  /-- the sender of a queued request has not been dropped -/
  pqTx : ∀ r ∈ s.pq, ∀ ph rx, (r.cid, ph, true, rx) ∉ cores s
  npTx : ∀ cid rx, (cid, Phase.notPolled, true, rx) ∉ cores s
  /-- a call waiting for a permit whose sender is gone (inside `dropCall` only) has left the wait queue -/
  rsTx : ∀ cid rx, (cid, Phase.reserving, true, rx) ∈ cores s → cid ∉ s.pqWaiters ∧ cid ∉ s.pqAssigned
  /-- the marked call has closed its receiver -/
  dcl : ∀ cid, D = some cid → ∀ ph tx, (cid, ph, tx, false) ∉ cores s

theorem CqI.qc {D : Option Nat} {s s' : St} (h : CqI D s) (q : QCq s s') : CqI D s' := by
  refine ⟨?_, ?_, ?_, ?_, ?_, ?_⟩
  · rw [q.dDropped, q.inflight, q.pq]; exact h.dd
  · rw [q.inflight, q.cq, q.cs]; exact h.ent
  · rw [q.pq, q.cs]; exact h.pqTx
  · rw [q.cs]; exact h.npTx
  · rw [q.cs, q.pqWaiters, q.pqAssigned]; exact h.rsTx
  · rw [q.cs]; exact h.dcl

theorem CqI.ent_call {D : Option Nat} {s : St} (h : CqI D s) {e : Entry} (he : e ∈ s.inflight) :
    e.id ∈ s.cq ∨ ∃ cl ∈ s.calls, cl.cid = e.cid ∧ cl.phase = .awaiting ∧ cl.os.txDropped = false := by
  rcases h.ent e he with h | ⟨⟨rx, hm⟩, _⟩
  · exact .inl h
  · obtain ⟨cl, hcl, hc⟩ := List.mem_map.mp hm
    simp only [ccore, Prod.mk.injEq] at hc
    exact .inr ⟨cl, hcl, hc.1, hc.2.1, hc.2.2.1⟩

/-- Entries / queued requests / waiters only go away (an entry may be re-keyed): the invariant survives. -/
theorem CqI.shrink {D : Option Nat} {s s' : St} (h : CqI D s) (hc : cores s' = cores s) (hd : s'.dDropped = s.dDropped)
    (hinf : ∀ e' ∈ s'.inflight, ∃ e ∈ s.inflight, e.id = e'.id ∧ e.cid = e'.cid)
    (hcq : s'.cq = s.cq) (hpq : ∀ r ∈ s'.pq, r ∈ s.pq)
    (hw : ∀ w ∈ s'.pqWaiters, w ∈ s.pqWaiters) (ha : ∀ w ∈ s'.pqAssigned, w ∈ s.pqAssigned) : CqI D s' := by
  refine ⟨?_, ?_, ?_, ?_, ?_, ?_⟩
  · intro hdd
    rw [hd] at hdd
    obtain ⟨h1, h2⟩ := h.dd hdd
    constructor
    · cases hi : s'.inflight with
      | nil => rfl
      | cons e l =>
        obtain ⟨e0, he0, -⟩ := hinf e (by rw [hi]; exact List.mem_cons_self)
        rw [h1] at he0; cases he0
    · cases hi : s'.pq with
      | nil => rfl
      | cons r l =>
        have := hpq r (by rw [hi]; exact List.mem_cons_self)
        rw [h2] at this; cases this
  · intro e' he'
    obtain ⟨e, he, h1, h2⟩ := hinf e' he'
    rw [hcq, hc, ← h1, ← h2]
    exact h.ent e he
  · intro r hr; rw [hc]; exact h.pqTx r (hpq r hr)
  · rw [hc]; exact h.npTx
  · intro cid rx hm
    rw [hc] at hm
    obtain ⟨a, b⟩ := h.rsTx cid rx hm
    exact ⟨fun hw' => a (hw cid hw'), fun ha' => b (ha cid ha')⟩
  · rw [hc]; exact h.dcl

/-! ### the queues -/

theorem cores_wakeCall (s : St) (cid : Nat) : cores (wakeCall s cid) = cores s := (qc_wakeCall s cid).cs

theorem cores_pqRelease (s : St) : cores (pqRelease s) = cores s := by
  rcases Flow.pqRelease_out s with ⟨_, _, _, e⟩ | ⟨_, e⟩ <;> rw [e]
  · rw [cores_wakeCall]; rfl
  · rfl

@[simp] theorem pqRelease_dDropped (s : St) : (pqRelease s).dDropped = s.dDropped := by
  rcases Flow.pqRelease_out s with ⟨_, _, _, e⟩ | ⟨_, e⟩ <;> rw [e]
  rw [wakeCall_dDropped]

theorem CqI.pqRelease {D : Option Nat} {s : St} (h : CqI D s) : CqI D (pqRelease s) := by
  rcases Flow.pqRelease_out s with ⟨w, rest, hw, e⟩ | ⟨hw, e⟩ <;> rw [e]
  · refine CqI.qc ?_ (qc_wakeCall _ _)
    refine ⟨h.dd, h.ent, h.pqTx, h.npTx, ?_, h.dcl⟩
    intro cid rx hm
    obtain ⟨a, b⟩ := h.rsTx cid rx hm
    rw [hw] at a
    simp only [List.mem_cons, not_or] at a
    exact ⟨a.2, by simp only [List.mem_append, List.mem_singleton, not_or]; exact ⟨b, a.1⟩⟩
  · exact h.qc (QCq.of_calls rfl rfl rfl rfl rfl rfl rfl)

/-- requests leave the queue -/
theorem CqI.setPq {D : Option Nat} {s : St} (h : CqI D s) (l : List DReq) (hl : ∀ r ∈ l, r ∈ s.pq) :
    CqI D { s with pq := l } :=
  h.shrink rfl rfl (fun e he => ⟨e, he, rfl, rfl⟩) rfl hl (fun _ hw => hw) (fun _ ha => ha)

theorem cqi_pqRecv {D : Option Nat} {s : St} (h : CqI D s) : CqI D (pqRecv s).1 := by
  rcases pqRecv_cases s with ⟨r, rest, hpq, heq⟩ | ⟨_, _, hne⟩
  · rw [heq]
    exact (h.setPq rest (fun x hx => by rw [hpq]; exact List.mem_cons_of_mem _ hx)).pqRelease
  · exact h.qc (qc_pqRecv_noItem s hne)

/-! ### the in-flight table -/

/-- entries leave the table (or are re-keyed) -/
theorem CqI.setInflight {D : Option Nat} {s : St} (h : CqI D s) (l : List Entry) (q : DelayQ)
    (hl : ∀ e' ∈ l, ∃ e ∈ s.inflight, e.id = e'.id ∧ e.cid = e'.cid) :
    CqI D { s with inflight := l, timers := q } :=
  h.shrink rfl rfl hl rfl (fun _ hr => hr) (fun _ hw => hw) (fun _ ha => ha)

theorem cqi_completeRequest {D : Option Nat} {s : St} (h : CqI D s) (id : Nat) (o : Outcome) :
    CqI D (completeRequest s id o).1 := by
  rcases Flow.completeRequest_out s id o with ⟨_, e⟩ | ⟨_, _, e⟩ <;> rw [e]
  · exact h
  · refine CqI.qc ?_ ((qc_osSend _ _ _).after (qc_removeTimer _ _))
    exact h.setInflight _ s.timers (fun e' he' => ⟨e', (List.mem_filter.mp he').1, rfl, rfl⟩)

/-- a cancellation is taken off the queue and the entry it names (if any) leaves the table -/
theorem CqI.cqPop {D : Option Nat} {s : St} (h : CqI D s) {i : Nat} {rest : List Nat} (hcq : s.cq = i :: rest)
    (l : List Entry) (hl : ∀ e' ∈ l, e' ∈ s.inflight ∧ e'.id ≠ i) :
    CqI D { s with cq := rest, inflight := l } := by
  refine ⟨?_, ?_, h.pqTx, h.npTx, h.rsTx, h.dcl⟩
  · intro hd
    obtain ⟨h1, h2⟩ := h.dd hd
    refine ⟨?_, h2⟩
    cases hl' : l with
    | nil => rfl
    | cons e l' =>
      have := (hl e (by rw [hl']; exact List.mem_cons_self)).1
      rw [h1] at this; cases this
  · intro e he
    obtain ⟨hm, hne⟩ := hl e he
    rcases h.ent e hm with hc | hc
    · left
      rw [hcq] at hc
      rcases List.mem_cons.mp hc with hc | hc
      · exact absurd hc hne
      · exact hc
    · exact Or.inr hc

/-! ### calls and their cores -/

theorem mem_cores_of_mem {s : St} {c : Call} (h : c ∈ s.calls) : ccore c ∈ cores s := List.mem_map_of_mem h

theorem mem_cores_of_getCall {s : St} {cid : Nat} {c : Call} (h : getCall s cid = some c) : ccore c ∈ cores s :=
  mem_cores_of_mem (List.mem_of_find?_eq_some h)

theorem core_of_getCall {s : St} {cid : Nat} {c : Call} (h : getCall s cid = some c) :
    (cid, c.phase, c.os.txDropped, c.os.rxClosed) ∈ cores s := by
  have := mem_cores_of_getCall h
  rwa [ccore, getCall_cid h] at this

theorem mem_cores {s : St} {y : Nat × Phase × Bool × Bool} (h : y ∈ cores s) : ∃ c ∈ s.calls, ccore c = y :=
  List.mem_map.mp h

theorem cuniq_of_inv {x : Option Nat} {s : St} (hi : Inv x (view s)) : CUniq s := by
  have := hi.cids
  simp only [view, List.map_map, List.length_map] at this
  have e : s.calls.map (·.cid) = s.calls.map ((fun c : CallV => c.cid) ∘ Call.v) := rfl
  unfold CUniq
  rw [e, this]; exact List.nodup_range

theorem getCall_of_mem_inv {x : Option Nat} {s : St} (hi : Inv x (view s)) {c : Call} (hc : c ∈ s.calls) :
    getCall s c.cid = some c :=
  (cuniq_of_inv hi).getCall_of_mem hc

theorem CUniq.getCall_of_core {s : St} (hu : CUniq s) {cid : Nat} {ph : Phase} {tx rx : Bool}
    (h : (cid, ph, tx, rx) ∈ cores s) :
    ∃ c, getCall s cid = some c ∧ c.phase = ph ∧ c.os.txDropped = tx ∧ c.os.rxClosed = rx := by
  obtain ⟨c, hc, he⟩ := mem_cores h
  simp only [ccore, Prod.mk.injEq] at he
  obtain ⟨e1, e2, e3, e4⟩ := he
  exact ⟨c, e1 ▸ hu.getCall_of_mem hc, e2, e3, e4⟩

/-! ### `poll_write_request` -/

theorem insertRequest_shape {s s' : St} {now : Nat} {r : DReq} (h : insertRequest s now r = some s') :
    QCq s s' ∨
    ∃ e : Entry, e.id = r.id ∧ e.cid = r.cid ∧ s'.inflight = s.inflight ++ [e] ∧ cores s' = cores s ∧ s'.cq = s.cq ∧
      s'.pq = s.pq ∧ s'.pqWaiters = s.pqWaiters ∧ s'.pqAssigned = s.pqAssigned ∧ s'.dDropped = s.dDropped := by
  have panic : ∀ site, s' = emit { s with poisoned := true } (.panic (tid s) site) → QCq s s' :=
    fun _ e => e ▸ (qc_emit _ _).after (QCq.of_calls rfl rfl rfl rfl rfl rfl rfl)
  rcases insertRequest_some h with ⟨_, e⟩ | ⟨_, _, _, _, e⟩ | ⟨_, q, key, w, _, e⟩
  · exact .inl (panic _ e)
  · exact .inl (panic _ e)
  · refine .inr ⟨entryOf r now key, rfl, rfl, ?_⟩
    rw [e]; cases w
    · exact ⟨rfl, rfl, rfl, rfl, rfl, rfl, rfl⟩
    · rw [if_pos rfl]
      exact ⟨Flow.wakeDispatch_inflight _, (qc_wakeDispatch _).cs, (qc_wakeDispatch _).cq, (qc_wakeDispatch _).pq,
        (qc_wakeDispatch _).pqWaiters, (qc_wakeDispatch _).pqAssigned, (qc_wakeDispatch _).dDropped⟩

theorem cqi_insertRequest {D : Option Nat} {s s' : St} {now : Nat} {r : DReq} (h : CqI D s)
    (hins : insertRequest s now r = some s') (hd : s.dDropped = false)
    (hr : (∃ rx, (r.cid, Phase.awaiting, false, rx) ∈ cores s) ∧ D ≠ some r.cid) : CqI D s' := by
  rcases insertRequest_shape hins with q | ⟨e, e1, e2, hinf, hc, hcq, hpq, hw, ha, hdd⟩
  · exact h.qc q
  · refine ⟨?_, ?_, ?_, ?_, ?_, ?_⟩
    · intro hd'; rw [hdd, hd] at hd'; cases hd'
    · intro e' he'
      rw [hinf] at he'
      rw [hcq, hc]
      rcases List.mem_append.mp he' with he' | he'
      · exact h.ent e' he'
      · simp only [List.mem_singleton] at he'
        subst he'
        right; rw [e2]; exact hr
    · rw [hpq, hc]; exact h.pqTx
    · rw [hc]; exact h.npTx
    · rw [hc, hw, ha]; exact h.rsTx
    · rw [hc]; exact h.dcl

theorem cqi_dequeued {D : Option Nat} {s s1 : St} {r : DReq} (hi : Inv none (view s)) (h : CqI D s)
    (e1 : pqRecv s = (s1, .item r)) (hc : osIsClosed s1 r.cid = false) :
    CqI D s1 ∧ s1.dDropped = false ∧ (∃ rx, (r.cid, Phase.awaiting, false, rx) ∈ cores s1) ∧ D ≠ some r.cid := by
  have h1 : CqI D s1 := of_fst e1 (cqi_pqRecv h)
  obtain ⟨rest, hpq, rfl⟩ := pqRecv_item e1
  have hmem : r ∈ s.pq := by rw [hpq]; exact List.mem_cons_self
  have hdd : (pqRelease { s with pq := rest }).dDropped = false := by
    rw [pqRelease_dDropped]
    cases hd : s.dDropped with
    | false => rfl
    | true => have := (h.dd hd).2; rw [hpq] at this; cases this
  unfold osIsClosed at hc
  cases hg : getCall (pqRelease { s with pq := rest }) r.cid with
  | none => simp [hg] at hc
  | some c =>
    rw [hg] at hc; simp only at hc
    -- the receiver is open, hence the call is awaiting; its sender is alive because its request was queued
    obtain ⟨cv, hcv, _, _, _, _, _, _, haw⟩ := hi.pq r hmem
    have hget : (view s).get r.cid = some c.v := by
      have := view_getCall_some hg; rw [view_pqRelease] at this; exact this
    rw [hget] at hcv; injection hcv with hcv; subst hcv
    have hm := mem_cores_of_getCall hg
    have htx : c.os.txDropped = false := by
      cases ht : c.os.txDropped with
      | false => rfl
      | true =>
        exfalso
        refine h.pqTx r hmem c.phase c.os.rxClosed ?_
        have : ccore c = (r.cid, c.phase, true, c.os.rxClosed) := by simp [ccore, getCall_cid hg, ht]
        have hm' := hm
        rw [cores_pqRelease] at hm'
        rw [← this]; exact hm'
    have hcore : ccore c = (r.cid, Phase.awaiting, false, false) := by
      have hph : c.phase = .awaiting := haw hc
      simp only [ccore, getCall_cid hg, htx]; rw [hc, hph]
    rw [hcore] at hm
    exact ⟨h1, hdd, ⟨false, hm⟩, fun hD => h1.dcl r.cid hD _ _ hm⟩

/-! ### expiry -/

theorem cqi_expireWith {D : Option Nat} {s : St} (h : CqI D s) (now : Nat) (r : DelayQ × DelayQ.PollRes) :
    CqI D (expireWith s now r).st := by
  have same : ∀ q, CqI D { s with timers := q } := fun q => h.qc (QCq.of_calls rfl rfl rfl rfl rfl rfl rfl)
  refine expireWith_cases (motive := fun p => CqI D p.st) s now r ?_ ?_ ?_ ?_ ?_
  · exact fun _ => same _
  · exact fun _ _ _ => same _
  · exact fun e en _ _ _ => CqI.qc
      (h.setInflight _ _ (fun e' he' => ⟨e', (List.mem_filter.mp he').1, rfl, rfl⟩)) (qc_osSend _ _ _)
  · exact fun _ _ _ _ _ _ _ _ => h.qc ((qc_emit _ _).after (QCq.of_calls rfl rfl rfl rfl rfl rfl rfl))
  · intro e en q' key w _ _ _ _
    have h1 := h.setInflight (s.inflight.map (rearmEntry e.val key (now - en.dueAt + clampTimeout (en.remainder - (now - en.dueAt)))
        (now + clampTimeout (en.remainder - (now - en.dueAt))))) q' (fun e' he' => by
      obtain ⟨e0, he0, rfl⟩ := List.mem_map.mp he'
      exact ⟨e0, he0, ((rearmEntry_same _ _ _ _ e0).1).symm, ((rearmEntry_same _ _ _ _ e0).2.1).symm⟩)
    show CqI D (if w = true then _ else _)
    split
    · exact h1.qc (qc_wakeDispatch _)
    · exact h1

/-! ### shutdown -/

theorem cqi_failAll {D : Option Nat} {s : St} (h : CqI D s) (a : Activity) : CqI D (failAll s a) := by
  unfold failAll
  simp only
  refine CqI.qc ?_ (qc_foldl _ (fun s (e : Entry) => qc_osSend s e.cid _) _ _)
  exact h.setInflight [] _ (fun e' he' => by cases he')

theorem cqi_pqClose {D : Option Nat} {s : St} (h : CqI D s) : CqI D (pqClose s) := by
  unfold pqClose
  simp only
  refine CqI.qc ?_ (qc_foldl _ (fun s w => qc_wakeCall s w) _ _)
  exact h.shrink rfl rfl (fun e he => ⟨e, he, rfl, rfl⟩) rfl (fun _ hr => hr) (fun _ hw => by cases hw) (fun _ ha => ha)

theorem Step.cqi {D : Option Nat} {now : Nat} {a : Act} {s s' : St} (ha : CoreK a) (st : Step now a s s')
    (hi : Inv none (view s)) (h : CqI D s) : CqI D s' := by
  have sent : ∀ {s1 s2 s3 : St} {r : DReq} {ok : Bool}, pqRecv s = (s1, .item r) → osIsClosed s1 r.cid = false →
      insertRequest s1 now r = some s2 → tSend s2 (.request r.id r.ctx.deadline r.ctx.trace r.body) = (s3, ok) →
      CqI D s3 := fun e1 hc hins ht =>
    have ⟨h1, k⟩ := cqi_dequeued hi h e1 hc
    of_fst ht ((cqi_insertRequest h1 hins k.1 k.2).qc (qc_tSend _ _))
  cases st with
  | ready => exact h.qc (qc_tReady s)
  | flush => exact h.qc (qc_tFlush s)
  | spin => exact h.qc (qc_emit s _)
  | close => exact h.qc (qc_tClose s)
  | pqIdle hne => exact h.qc (qc_pqRecv_noItem s hne)
  | pqSkip e1 _ => exact of_fst e1 (cqi_pqRecv h)
  | reqPanic _ e1 hc hins _ =>
    have ⟨h1, k⟩ := cqi_dequeued hi h e1 hc
    exact cqi_insertRequest h1 hins k.1 k.2
  | reqSent _ e1 hc hins _ ht => exact sent e1 hc hins ht
  | reqFailed _ e1 hc hins _ ht => exact cqi_completeRequest (sent e1 hc hins ht) _ _
  | cqIdle hne => exact h.qc (qc_cqRecv_noItem s hne)
  | @cqMiss _ _ i e1 hc =>
    obtain ⟨rest, hcq, rfl⟩ := cqRecv_item e1
    have hf := (cancelRequest_missed hc).1
    exact h.cqPop hcq s.inflight (fun e' he' => ⟨he', findEntry_none (s := { s with cq := rest }) hf e' he'⟩)
  | cancel e1 hc ht =>
    -- the cancellation leaves the queue and its entry the table in one action: `CqI` does not hold in between
    obtain ⟨rest, hcq, rfl⟩ := cqRecv_item e1
    obtain ⟨_, rfl⟩ := cancelRequest_found hc
    refine of_fst ht (CqI.qc (CqI.qc ?_ (qc_removeTimer _ _)) (qc_tSend _ _))
    refine h.cqPop hcq _ (fun e' he' => ?_)
    have := List.mem_filter.mp he'
    exact ⟨this.1, by simpa using this.2⟩
  | expire => exact cqi_expireWith h now _
  | readIdle _ => exact h.qc (qc_tNext s)
  | read e => exact cqi_completeRequest (of_fst e (h.qc (qc_tNext s))) _ _
  | pqClose => exact cqi_pqClose h
  | failAll _ a => exact cqi_failAll h a
  | drainFail a e1 _ => exact (of_fst e1 (cqi_pqRecv h)).qc (qc_osSend _ _ _)
  | termErr _ a => exact h.qc (QCq.of_calls rfl rfl rfl rfl rfl rfl rfl)
  | poison _ _ => exact h.qc (QCq.of_calls rfl rfl rfl rfl rfl rfl rfl)
  | _ => exact False.elim ha

theorem cqi_pollDispatchCore {D : Option Nat} {s : St} (hi : Inv none (view s)) (h : CqI D s) (now : Nat) :
    CqI D (pollDispatchCore s now).1 :=
  ((pollDispatchCore_steps s now).kept (P := fun s => Inv none (view s) ∧ CqI D s)
    (fun ha st h => ⟨Step.pres Inv.presD ha st h.1, Step.cqi ha st h.1 h.2⟩) ⟨hi, h⟩).2

theorem qc_keepFinish (obs0 : List Obs) (s : St) (r : Ret) : QCq s (Flow.keepFinish obs0 s r) := by
  unfold Flow.keepFinish
  split
  · exact QCq.of_calls rfl rfl rfl rfl rfl rfl rfl
  · split
    · exact QCq.refl _
    · exact (qc_emit _ _).after (qc_emit _ _)

theorem qc_keepDone (r : Ret) (s : St) : QCq s (Flow.keepDone r s) := by
  unfold Flow.keepDone
  split
  · exact QCq.refl _
  · exact QCq.of_calls rfl rfl rfl rfl rfl rfl rfl

theorem cqi_pollDispatchKeep {D : Option Nat} {s : St} (hi : Inv none (view s)) (h : CqI D s) (now : Nat) :
    CqI D (pollDispatchKeep s now) := by
  rw [Flow.pollDispatchKeep_eq]
  split
  · exact h.qc (qc_emit _ _)
  · have h0 : CqI D { s with dWoken := false } := h.qc (QCq.of_calls rfl rfl rfl rfl rfl rfl rfl)
    have h1 := cqi_pollDispatchCore (s := { s with dWoken := false }) hi h0 now
    exact h1.qc ((qc_keepDone _ _).after (qc_keepFinish _ _ _))

/-! ### the dispatch goes away -/

/-- what `osDropTx` does to the cores: at most the sender-dropped flag of call `x` is raised -/
theorem cores_osDropTx_sub (s : St) (x : Nat) :
    ∀ y ∈ cores (osDropTx s x), y ∈ cores s ∨ ∃ ph rx, y = (x, ph, true, rx) ∧ (x, ph, false, rx) ∈ cores s := by
  intro y hy
  rcases Flow.osDropTx_out s x with ⟨_, e⟩ | ⟨_, _, _, e⟩ <;> rw [e] at hy
  · exact Or.inl hy
  have key : ∀ y ∈ cores (updCall s x (fun c => { c with os := { c.os with txDropped := true, rxWaker := false } })),
      y ∈ cores s ∨ ∃ ph rx, y = (x, ph, true, rx) ∧ (x, ph, false, rx) ∈ cores s := by
    intro y hy
    simp only [cores, updCall, List.map_map, List.mem_map, Function.comp] at hy
    obtain ⟨c', hc', rfl⟩ := hy
    by_cases hx : c'.cid = x
    · have hb : (c'.cid == x) = true := by simpa using hx
      simp only [hb, ↓reduceIte]
      cases ht : c'.os.txDropped with
      | true =>
        left
        have : ccore { c' with os := { c'.os with txDropped := true, rxWaker := false } } = ccore c' := by
          simp [ccore, ht]
        rw [this]; exact mem_cores_of_mem hc'
      | false =>
        right
        refine ⟨c'.phase, c'.os.rxClosed, by simp [ccore, hx], ?_⟩
        have : ccore c' = (x, c'.phase, false, c'.os.rxClosed) := by simp [ccore, hx, ht]
        rw [← this]; exact mem_cores_of_mem hc'
    · have : (c'.cid == x) = false := by simpa using hx
      simp only [this, Bool.false_eq_true, ↓reduceIte]
      exact Or.inl (mem_cores_of_mem hc')
  split at hy
  · rw [cores_wakeCall] at hy; exact key y hy
  · exact key y hy

/-- no core of call `x` is in a phase before the enqueue -/
def NoEarly (s : St) (x : Nat) : Prop :=
  ∀ ph tx rx, (x, ph, tx, rx) ∈ cores s → ph ≠ Phase.notPolled ∧ ph ≠ Phase.reserving

theorem NoEarly.osDropTx {s : St} {y : Nat} (h : NoEarly s y) (x : Nat) : NoEarly (osDropTx s x) y := by
  intro ph tx rx hm
  rcases cores_osDropTx_sub s x _ hm with h1 | ⟨ph', rx', he, h1⟩
  · exact h ph tx rx h1
  · simp only [Prod.mk.injEq] at he
    obtain ⟨rfl, rfl, _, rfl⟩ := he
    exact h _ _ _ h1

/-- the clauses of `CqI` that talk about the calls only -/
structure TxI (D : Option Nat) (s : St) : Prop where
  npTx : ∀ cid rx, (cid, Phase.notPolled, true, rx) ∉ cores s
  rsTx : ∀ cid rx, (cid, Phase.reserving, true, rx) ∈ cores s → cid ∉ s.pqWaiters ∧ cid ∉ s.pqAssigned
  dcl : ∀ cid, D = some cid → ∀ ph tx, (cid, ph, tx, false) ∉ cores s

theorem CqI.txi {D : Option Nat} {s : St} (h : CqI D s) : TxI D s := ⟨h.npTx, h.rsTx, h.dcl⟩

theorem TxI.cqi {D : Option Nat} {s : St} (h : TxI D s) (h1 : s.inflight = []) (h2 : s.pq = []) : CqI D s :=
  ⟨fun _ => ⟨h1, h2⟩, fun e he => (by rw [h1] at he; cases he), fun r hr => (by rw [h2] at hr; cases hr),
   h.npTx, h.rsTx, h.dcl⟩

theorem TxI.osDropTx {D : Option Nat} {s : St} (h : TxI D s) {x : Nat} (hx : NoEarly s x) : TxI D (osDropTx s x) := by
  refine ⟨?_, ?_, ?_⟩
  · intro cid rx hm
    rcases cores_osDropTx_sub s x _ hm with h1 | ⟨ph', rx', he, h1⟩
    · exact h.npTx cid rx h1
    · simp only [Prod.mk.injEq] at he
      obtain ⟨rfl, rfl, _, rfl⟩ := he
      exact (hx _ _ _ h1).1 rfl
  · intro cid rx hm
    rw [osDropTx_pqWaiters, osDropTx_pqAssigned]
    rcases cores_osDropTx_sub s x _ hm with h1 | ⟨ph', rx', he, h1⟩
    · exact h.rsTx cid rx h1
    · simp only [Prod.mk.injEq] at he
      obtain ⟨rfl, rfl, _, rfl⟩ := he
      exact absurd rfl (hx _ _ _ h1).2
  · intro cid hD ph tx hm
    rcases cores_osDropTx_sub s x _ hm with h1 | ⟨ph', rx', he, h1⟩
    · exact h.dcl cid hD ph tx h1
    · simp only [Prod.mk.injEq] at he
      obtain ⟨rfl, rfl, _, rfl⟩ := he
      exact h.dcl _ hD _ _ h1

theorem TxI.foldl_osDropTx {D : Option Nat} {α : Type} (f : α → Nat) (l : List α) {s : St} (h : TxI D s)
    (hl : ∀ a ∈ l, NoEarly s (f a)) : TxI D (l.foldl (fun s a => Client.osDropTx s (f a)) s) :=
  (foldl_keeps_rest (K := fun s l => TxI D s ∧ ∀ a ∈ l, NoEarly s (f a))
    (fun _ a _ hb => ⟨hb.1.osDropTx (hb.2 a List.mem_cons_self),
      fun b hm => (hb.2 b (List.mem_cons_of_mem _ hm)).osDropTx _⟩) l ⟨h, hl⟩).1

theorem foldl_osDropTx_fields {α : Type} (f : α → Nat) (l : List α) (s : St) :
    (l.foldl (fun s a => osDropTx s (f a)) s).inflight = s.inflight ∧
    (l.foldl (fun s a => osDropTx s (f a)) s).pq = s.pq ∧
    (l.foldl (fun s a => osDropTx s (f a)) s).pqWaiters = s.pqWaiters ∧
    (l.foldl (fun s a => osDropTx s (f a)) s).pqAssigned = s.pqAssigned :=
  ⟨foldl_field (·.inflight) _ (fun s a => osDropTx_inflight s (f a)) l s,
    foldl_field (·.pq) _ (fun s a => osDropTx_pq s (f a)) l s,
    foldl_field (·.pqWaiters) _ (fun s a => osDropTx_pqWaiters s (f a)) l s,
    foldl_field (·.pqAssigned) _ (fun s a => osDropTx_pqAssigned s (f a)) l s⟩

/-- the call that owns a queued request / an entry has been enqueued -/
theorem noEarly_of_enq {x : Option Nat} {s : St} (hi : Inv x (view s)) {cid : Nat} {cv : CallV}
    (hg : (view s).get cid = some cv) (he : cv.enq) : NoEarly s cid := by
  intro ph tx rx hm
  obtain ⟨c, hc, h1, _, _⟩ := (cuniq_of_inv hi).getCall_of_core hm
  have := view_getCall_some hc
  rw [hg] at this; injection this with this; subst this
  have hp : c.v.phase = c.phase := rfl
  unfold CallV.enq at he
  rw [hp, h1] at he
  constructor <;> (intro e; subst e; simp at he)

theorem NoEarly.of_cores {s s' : St} {y : Nat} (h : NoEarly s y) (hc : cores s' = cores s) : NoEarly s' y := by
  intro ph tx rx hm; rw [hc] at hm; exact h ph tx rx hm

theorem NoEarly.foldl_osDropTx {α : Type} (f : α → Nat) (l : List α) {s : St} {y : Nat} (h : NoEarly s y) :
    NoEarly (l.foldl (fun s a => Client.osDropTx s (f a)) s) y :=
  foldl_keeps (P := fun s => NoEarly s y) (fun _ a hb => hb.osDropTx (f a)) l h

theorem TxI.of_same {D : Option Nat} {s s' : St} (h : TxI D s) (hc : cores s' = cores s)
    (hw : ∀ w ∈ s'.pqWaiters, w ∈ s.pqWaiters) (ha : s'.pqAssigned = s.pqAssigned) : TxI D s' := by
  refine ⟨by rw [hc]; exact h.npTx, ?_, by rw [hc]; exact h.dcl⟩
  intro cid rx hm
  rw [hc] at hm
  obtain ⟨a, b⟩ := h.rsTx cid rx hm
  exact ⟨fun hw' => a (hw cid hw'), by rw [ha]; exact b⟩

theorem cqi_dropDispatch {D : Option Nat} {s : St} (hi : Inv none (view s)) (h : CqI D s) : CqI D (dropDispatch s) := by
  rw [dropDispatch_stages]
  refine iteInduction (motive := CqI D) (fun _ => h.qc (qc_emit _ _)) (fun _ => ?_)
  · -- the queue is closed
    have q2 : QCq { s with dDropped := true, dWoken := false, pqClosed := true, pqWaiters := [] }
        (pqClose { s with dDropped := true, dWoken := false }) := by
      unfold pqClose
      exact qc_foldl _ (fun s w => qc_wakeCall s w) _ _
    generalize pqClose { s with dDropped := true, dWoken := false } = s2 at q2
    have c2 : cores s2 = cores s := q2.cs
    have t2 : TxI D s2 := h.txi.of_same c2 (fun w hw => by rw [q2.pqWaiters] at hw; cases hw) q2.pqAssigned
    have ne : ∀ y, NoEarly s y → NoEarly s2 y := fun y hy => hy.of_cores c2
    have neq : ∀ r ∈ s.pq, NoEarly s r.cid := by
      intro r hr
      obtain ⟨cv, hg, he, _⟩ := hi.pq r hr
      exact noEarly_of_enq hi hg he
    have nei : ∀ e ∈ s.inflight, NoEarly s e.cid := by
      intro e he'
      obtain ⟨cv, hg, he, _⟩ := hi.inf e he'
      exact noEarly_of_enq hi hg he
    -- the queued requests are dropped
    have f3 := foldl_osDropTx_fields (fun r : DReq => r.cid) s2.pq
      { s2 with pq := [], pqAvail := s2.bufCap - s2.pqAssigned.length }
    have t3 : TxI D (dropQ s2) := by
      unfold dropQ
      refine TxI.foldl_osDropTx _ _ (t2.of_same rfl (fun _ hw => hw) rfl) ?_
      intro r hr
      rw [q2.pq] at hr
      exact (ne _ (neq r hr)).of_cores rfl
    have ne3 : ∀ y, NoEarly s y → NoEarly (dropQ s2) y := by
      intro y hy
      unfold dropQ
      exact NoEarly.foldl_osDropTx _ _ ((ne y hy).of_cores rfl)
    have i3 : (dropQ s2).inflight = s.inflight := by unfold dropQ; rw [f3.1]; exact q2.inflight
    have p3 : (dropQ s2).pq = [] := by unfold dropQ; rw [f3.2.1]
    generalize dropQ s2 = s3 at t3 ne3 i3 p3
    -- the table is dropped
    have f4 := foldl_osDropTx_fields (fun e : Entry => e.cid) s3.inflight { s3 with inflight := [], timers := {} }
    have t4 : TxI D (dropI s3) := by
      unfold dropI
      refine TxI.foldl_osDropTx _ _ (t3.of_same rfl (fun _ hw => hw) rfl) ?_
      intro e he
      rw [i3] at he
      exact (ne3 _ (nei e he)).of_cores rfl
    have i4 : (dropI s3).inflight = [] := by unfold dropI; rw [f4.1]
    have p4 : (dropI s3).pq = [] := by unfold dropI; rw [f4.2.1]; exact p3
    generalize dropI s3 = s4 at t4 i4 p4
    exact (t4.of_same rfl (fun _ hw => hw) rfl : TxI D { s4 with cq := [] }).cqi i4 p4

theorem cqi_pollDispatch {D : Option Nat} {s : St} (hi : Inv none (view s)) (h : CqI D s) (now : Nat) :
    CqI D (pollDispatch s now) := by
  rw [Flow.pollDispatch_eq]
  have h1 := cqi_pollDispatchKeep hi h now
  exact iteInduction (motive := CqI D) (fun _ => cqi_dropDispatch (pollDispatchKeep_pres Inv.presD hi now) h1) (fun _ => h1)

/-! ### one call changes -/

theorem cids_eq_cores (s : St) : s.calls.map (·.cid) = (cores s).map (·.1) := by
  simp [cores, ccore, List.map_map, Function.comp]

theorem CUniq.unique {s : St} (hu : CUniq s) {cid : Nat} {c : Call} (hg : getCall s cid = some c)
    {y : Nat × Phase × Bool × Bool} (hy : y ∈ cores s) (e : y.1 = cid) : y = ccore c := by
  obtain ⟨c', hc', rfl⟩ := mem_cores hy
  obtain ⟨hm, hcid⟩ := getCall_some hg
  have : c' = c := eq_of_map_nodup hu hc' hm (by simpa [ccore, hcid] using e)
  rw [this]

/-- `s'` differs from `s` in call `cid` at most (and in fields `CqI` does not read); the cancellation queue may
have grown. -/
structure CS (cid : Nat) (s s' : St) : Prop where
  oth1 : ∀ y ∈ cores s', y.1 ≠ cid → y ∈ cores s
  oth2 : ∀ y ∈ cores s, y.1 ≠ cid → y ∈ cores s'
  cids : s'.calls.map (·.cid) = s.calls.map (·.cid)
  inflight : s'.inflight = s.inflight
  cq : ∀ i ∈ s.cq, i ∈ s'.cq
  pq : s'.pq = s.pq
  pqWaiters : s'.pqWaiters = s.pqWaiters
  pqAssigned : s'.pqAssigned = s.pqAssigned
  dDropped : s'.dDropped = s.dDropped

theorem qc_afterCallGone (s : St) : QCq s (afterCallGone s) := by
  obtain ⟨w, os, pw, cw, e⟩ := afterCallGone_only s
  rw [e]; exact QCq.of_calls rfl rfl rfl rfl rfl rfl rfl

theorem cuniq_of_cores {s s' : St} (hc : cores s' = cores s) (hu : CUniq s) : CUniq s' := by
  unfold CUniq; rw [cids_eq_cores, hc, ← cids_eq_cores]; exact hu

/-- `CqI` together with the distinctness of the call ids -/
structure CqU (D : Option Nat) (s : St) : Prop where
  u : CUniq s
  q : CqI D s

theorem CqU.qc {D : Option Nat} {s s' : St} (h : CqU D s) (q : QCq s s') : CqU D s' :=
  ⟨cuniq_of_cores q.cs h.u, h.q.qc q⟩

theorem OnlyCall.cores_iff {cid : Nat} {s s' : St} (h : OnlyCall cid s s') (y : Nat × Phase × Bool × Bool)
    (hn : y.1 ≠ cid) : y ∈ cores s' ↔ y ∈ cores s := by
  obtain ⟨g, hg, e⟩ := h
  simp only [cores, e, List.map_map, List.mem_map, Function.comp]
  constructor
  · rintro ⟨c, hc, rfl⟩
    by_cases hx : c.cid = cid
    · exact absurd (by simp [updFn, hx, ccore, hg]) hn
    · exact ⟨c, hc, by rw [updFn_ne g hx]⟩
  · rintro ⟨c, hc, rfl⟩
    exact ⟨c, hc, by rw [updFn_ne g (show c.cid ≠ cid from hn)]⟩

theorem At.core_iff {cid : Nat} {X : Call} {s : St} (h : At cid X s) {ph : Phase} {tx rx : Bool} :
    (cid, ph, tx, rx) ∈ cores s ↔ ph = X.phase ∧ tx = X.os.txDropped ∧ rx = X.os.rxClosed := by
  constructor
  · intro hm
    obtain ⟨c, hc, e⟩ := mem_cores hm
    have hcid : c.cid = cid := congrArg (·.1) e
    rw [h.2.2 c hc hcid] at e
    simp only [ccore, Prod.mk.injEq] at e
    exact ⟨e.2.1.symm, e.2.2.1.symm, e.2.2.2.symm⟩
  · rintro ⟨rfl, rfl, rfl⟩
    have := mem_cores_of_mem h.1
    rwa [ccore, h.2.1] at this

/-- The other calls, the table and the flags transfer by the frame (`CallFr`); every obligation is about the new record of
call `cid` and about what was added to the request channel. -/
theorem CqI.call_change {D D' : Option Nat} {s s' : St} {cid : Nat} {X X' : Call} (h : CqI D s) (hat : At cid X s)
    (fr : CallFr cid s s') (hat' : At cid X' s') (hD : D' = D ∨ D' = none) (hdcl : D' = some cid → X'.os.rxClosed = true)
    (queue : ∀ r ∈ s'.pq, (r ∈ s.pq ∧ (r.cid = cid → X.os.txDropped = false → X'.os.txDropped = false)) ∨
      (r.cid = cid ∧ X'.os.txDropped = false ∧ s.dDropped = false))
    (waiters : ∀ w ∈ s'.pqWaiters, w ∈ s.pqWaiters ∨ w = cid) (assigned : ∀ w ∈ s'.pqAssigned, w ∈ s.pqAssigned)
    (entries : ∀ e ∈ s.inflight, e.cid = cid → e.id ∉ s.cq → X.phase = .awaiting → X.os.txDropped = false →
      X'.phase = .awaiting ∧ X'.os.txDropped = false ∧ D' ≠ some cid)
    (notPolled : X'.phase = .notPolled → X'.os.txDropped = true → False)
    (reserving : X'.phase = .reserving → X'.os.txDropped = true → cid ∉ s'.pqWaiters ∧ cid ∉ s'.pqAssigned) : CqI D' s' := by
  have oth := fr.only.cores_iff
  have hDne : ∀ x, D ≠ some x → D' ≠ some x := by
    intro x hx; rcases hD with rfl | rfl
    · exact hx
    · simp
  refine ⟨?_, ?_, ?_, ?_, ?_, ?_⟩
  · intro hd
    rw [fr.dDropped] at hd
    obtain ⟨h1, h2⟩ := h.dd hd
    refine ⟨by rw [fr.inflight]; exact h1, ?_⟩
    cases hp : s'.pq with
    | nil => rfl
    | cons r l =>
      rcases queue r (by rw [hp]; exact List.mem_cons_self) with ⟨hr, _⟩ | ⟨_, _, hdd⟩
      · rw [h2] at hr; cases hr
      · rw [hd] at hdd; cases hdd
  · intro e he
    rw [fr.inflight] at he
    by_cases hc : e.id ∈ s.cq
    · exact .inl (fr.cq _ hc)
    · rcases h.ent e he with hc' | ⟨⟨rx, hm⟩, hne⟩
      · exact absurd hc' hc
      · right
        by_cases hx : e.cid = cid
        · rw [hx] at hm ⊢
          obtain ⟨p1, p2, _⟩ := hat.core_iff.mp hm
          obtain ⟨q1, q2, q3⟩ := entries e he hx hc p1.symm p2.symm
          exact ⟨⟨X'.os.rxClosed, hat'.core_iff.mpr ⟨q1.symm, q2.symm, rfl⟩⟩, q3⟩
        · exact ⟨⟨rx, (oth _ hx).mpr hm⟩, hDne _ hne⟩
  · intro r hr ph rx hm
    by_cases hx : r.cid = cid
    · rw [hx] at hm
      obtain ⟨_, p2, _⟩ := hat'.core_iff.mp hm
      rcases queue r hr with ⟨hr0, e⟩ | ⟨_, e, _⟩
      · have hX : X.os.txDropped = false := by
          cases ht : X.os.txDropped with
          | false => rfl
          | true =>
            exact absurd (by rw [hx]; exact hat.core_iff.mpr ⟨rfl, ht.symm, rfl⟩) (h.pqTx r hr0 X.phase X.os.rxClosed)
        rw [e hx hX] at p2; cases p2
      · rw [e] at p2; cases p2
    · rcases queue r hr with ⟨hr0, _⟩ | ⟨e, _⟩
      · exact h.pqTx r hr0 ph rx ((oth _ hx).mp hm)
      · exact hx e
  · intro c rx hm
    by_cases hx : c = cid
    · subst hx
      obtain ⟨p1, p2, _⟩ := hat'.core_iff.mp hm
      exact notPolled p1.symm p2.symm
    · exact h.npTx c rx ((oth (c, _, _, _) hx).mp hm)
  · intro c rx hm
    by_cases hx : c = cid
    · subst hx
      obtain ⟨p1, p2, _⟩ := hat'.core_iff.mp hm
      exact reserving p1.symm p2.symm
    · obtain ⟨n1, n2⟩ := h.rsTx c rx ((oth (c, _, _, _) hx).mp hm)
      exact ⟨fun hm' => (waiters c hm').elim n1 hx, fun hm' => n2 (assigned c hm')⟩
  · intro c hD' ph tx hm
    by_cases hx : c = cid
    · subst hx
      obtain ⟨_, _, p3⟩ := hat'.core_iff.mp hm
      rw [hdcl hD'] at p3; cases p3
    · rcases hD with rfl | rfl
      · exact h.dcl c hD' ph tx ((oth (c, _, _, _) hx).mp hm)
      · cases hD'

/-- one call is updated in place -/
theorem cqu_updCall {D D' : Option Nat} {s : St} {cid : Nat} {c : Call} (h : CqU D s) (hg : getCall s cid = some c)
    (f : Call → Call) (hf : ∀ c, (f c).cid = c.cid) (hD : D' = D ∨ D' = none)
    (hent : ∀ e ∈ s.inflight, e.cid = cid → e.id ∉ s.cq →
      (f c).phase = .awaiting ∧ (f c).os.txDropped = false ∧ D' ≠ some cid)
    (hpqtx : ∀ r ∈ s.pq, r.cid = cid → (f c).os.txDropped = false)
    (hnp : (f c).phase = .notPolled → (f c).os.txDropped = false)
    (hrs : (f c).phase = .reserving → (f c).os.txDropped = true → cid ∉ s.pqWaiters ∧ cid ∉ s.pqAssigned)
    (hdcl : D' = some cid → (f c).os.rxClosed = true) : CqU D' (updCall s cid f) := by
  have hat := At.of_getCall h.u hg
  have x := osStep_updCall s cid f hf
  exact ⟨x.fr.only.cuniq h.u, h.q.call_change hat x.fr (hat.upd f hf) hD hdcl
    (queue := fun r hr => .inl ⟨hr, fun hx _ => hpqtx r hr hx⟩) (waiters := fun w hw => .inl hw) (assigned := fun w hw => hw)
    (entries := fun e he hx hc _ _ => hent e he hx hc) (notPolled := fun p t => by rw [hnp p] at t; cases t) (reserving := hrs)⟩

/-! ### the call future -/

/-- the sender of a call with a queued request has not been dropped -/
theorem CqI.tx_false_of_pq {D : Option Nat} {s : St} (h : CqI D s) {cid : Nat} {c : Call} (hg : getCall s cid = some c)
    {r : DReq} (hr : r ∈ s.pq) (hx : r.cid = cid) : c.os.txDropped = false := by
  cases ht : c.os.txDropped with
  | false => rfl
  | true =>
    exfalso
    refine h.pqTx r hr c.phase c.os.rxClosed ?_
    rw [hx, ← ht]; exact core_of_getCall hg

/-- an entry whose id is not in the cancellation queue belongs to a call that is awaiting it -/
theorem CqU.awaiting_of_ent {D : Option Nat} {s : St} (h : CqU D s) {cid : Nat} {c : Call} (hg : getCall s cid = some c)
    {e : Entry} (he : e ∈ s.inflight) (hx : e.cid = cid) (hn : e.id ∉ s.cq) :
    c.phase = .awaiting ∧ c.os.txDropped = false ∧ D ≠ some cid := by
  rcases h.q.ent e he with hc | ⟨⟨rx, hm⟩, hD⟩
  · exact absurd hc hn
  · rw [hx] at hm hD
    have := h.u.unique hg hm rfl
    simp only [ccore, Prod.mk.injEq] at this
    exact ⟨this.2.1.symm, this.2.2.1.symm, hD⟩

theorem getCall_updCall_some {s : St} {cid : Nat} {c : Call} (hg : getCall s cid = some c) (f : Call → Call)
    (hf : ∀ c, (f c).cid = c.cid) : getCall (updCall s cid f) cid = some (f c) := by
  rw [Flow.getCall_updCall _ _ _ hf, hg]; rfl

/-- a call that has not been enqueued yet owns neither a queued request nor an entry -/
theorem no_ent_of_early {x : Option Nat} {s : St} (hi : Inv x (view s)) {cid : Nat} {c : Call}
    (hg : getCall s cid = some c) (hph : c.phase = .notPolled ∨ c.phase = .reserving) :
    (∀ e ∈ s.inflight, e.cid ≠ cid) ∧ (∀ r ∈ s.pq, r.cid ≠ cid) := by
  have hv := view_getCall_some hg
  have hne : ¬ c.v.enq := by
    unfold CallV.enq
    have : c.v.phase = c.phase := rfl
    rw [this]
    rcases hph with h | h <;> simp [h]
  constructor
  · intro e he hx
    obtain ⟨cv, hcv, henq, _⟩ := hi.inf e he
    rw [hx, hv] at hcv; injection hcv with hcv; subst hcv
    exact hne henq
  · intro r hr hx
    obtain ⟨cv, hcv, henq, _⟩ := hi.pq r hr
    rw [hx, hv] at hcv; injection hcv with hcv; subst hcv
    exact hne henq

theorem Polled.tx {Y X' : Call} (h : Polled Y X') : X'.os.txDropped = Y.os.txDropped := by
  rcases h with ⟨o, _, rfl⟩ | ⟨_, _, rfl⟩ | ⟨rfl, _, _⟩ <;> rfl

theorem CqU.pollOut {s s' : St} {cid : Nat} {X X' : Call} (hi : Inv none (view s)) (h : CqU none s) (hat : At cid X s)
    (fr : CallFr cid s s') (hat' : At cid X' s') (out : PollOut cid X s s' X') : CqU none s' := by
  refine ⟨fr.only.cuniq h.u, ?_⟩
  have hq := h.q
  -- a call that has not handed its request over: nothing tracked is its own, its oneshot is empty
  have early : X.phase = .notPolled ∨ X.phase = .reserving →
      (∀ e ∈ s.inflight, e.cid ≠ cid) ∧ (∀ r ∈ s.pq, r.cid ≠ cid) ∧ X.os.val = none := fun hph =>
    ⟨(no_ent_of_early hi hat.get hph).1, (no_ent_of_early hi hat.get hph).2,
      hi.early cid X.v (view_getCall_some hat.get) hph⟩
  have txNP : X.phase = .notPolled → X.os.txDropped = false := fun hp => by
    cases ht : X.os.txDropped with
    | false => rfl
    | true => exact absurd (hat.core_iff.mpr ⟨hp.symm, ht.symm, rfl⟩) (hq.npTx cid X.os.rxClosed)
  -- the oneshot of a call that has just handed its request over is empty and its sender alive: the poll registers the waker
  have fresh : ∀ {Y : Call}, Y.os = X.os → X.os.val = none → X.os.txDropped = false → Polled Y X' → X' = rxWakerFn Y := by
    intro Y hY hv ht e
    rcases e with ⟨o, e, _⟩ | ⟨_, e, _⟩ | ⟨e, _, _⟩
    · rw [hY, hv] at e; cases e
    · rw [hY, ht] at e; cases e
    · exact e
  have samePq : s'.pq = s.pq → (∀ r ∈ s.pq, r.cid = cid → X'.os.txDropped = X.os.txDropped) →
      ∀ r ∈ s'.pq, (r ∈ s.pq ∧ (r.cid = cid → X.os.txDropped = false → X'.os.txDropped = false)) ∨
        (r.cid = cid ∧ X'.os.txDropped = false ∧ s.dDropped = false) :=
    fun e k r hr => .inl ⟨e ▸ hr, fun hx hX => (k r (e ▸ hr) hx).trans hX⟩
  have pushed : ∀ {r : DReq}, r.cid = cid → s'.pq = s.pq ++ [r] → (∀ r ∈ s.pq, r.cid ≠ cid) →
      X'.os.txDropped = false → s.dDropped = false →
      ∀ r' ∈ s'.pq, (r' ∈ s.pq ∧ (r'.cid = cid → X.os.txDropped = false → X'.os.txDropped = false)) ∨
        (r'.cid = cid ∧ X'.os.txDropped = false ∧ s.dDropped = false) := by
    intro r hr e no ht dd r' hr'
    rw [e] at hr'
    rcases List.mem_append.mp hr' with h1 | h1
    · exact .inl ⟨h1, fun hx => absurd hx (no r' h1)⟩
    · rw [List.mem_singleton.mp h1]; exact .inr ⟨hr, ht, dd⟩
  have chg := hq.call_change hat fr hat' (D' := none) (.inl rfl) (fun h => by cases h)
  cases out with
  | dead hp ch e =>
    subst e
    exact chg (queue := samePq ch.pq (fun _ _ _ => rfl)) (waiters := fun w hw => .inl (ch.pqWaiters ▸ hw))
      (assigned := fun w hw => ch.pqAssigned ▸ hw) (entries := fun _ _ _ _ p1 p2 => ⟨p1, p2, by simp⟩)
      (notPolled := fun p _ => by rcases hp with hp | hp <;> rw [hp] at p <;> cases p)
      (reserving := fun p _ => by rcases hp with hp | hp <;> rw [hp] at p <;> cases p)
  | failedNew hp _ ch e =>
    obtain ⟨ne, nr, _⟩ := early (.inl hp)
    exact chg (queue := samePq ch.pq (fun r hr hx => absurd hx (nr r hr))) (waiters := fun w hw => .inl (ch.pqWaiters ▸ hw))
      (assigned := fun w hw => ch.pqAssigned ▸ hw) (entries := fun e he hx => absurd hx (ne e he))
      (notPolled := fun p _ => by rw [e] at p; cases p) (reserving := fun p _ => by rw [e] at p; cases p)
  | failedWait hp _ pq _ w a e =>
    obtain ⟨ne, nr, _⟩ := early (.inr hp)
    exact chg (queue := samePq pq (fun r hr hx => absurd hx (nr r hr)))
      (waiters := fun x hx => .inl (List.mem_filter.mp (w ▸ hx)).1) (assigned := fun x hx => (List.mem_filter.mp (a ▸ hx)).1)
      (entries := fun e he hx => absurd hx (ne e he))
      (notPolled := fun p _ => by rw [e] at p; cases p) (reserving := fun p _ => by rw [e] at p; cases p)
  | took r hr hp _ dd _ pq _ w a e =>
    obtain ⟨ne, nr, hv⟩ := early (.inl hp)
    have e' := fresh (Y := awaitFn (assignFn s X X)) rfl hv (txNP hp) e
    subst e'
    exact chg (queue := pushed hr pq nr (txNP hp) dd) (waiters := fun x hx => .inl (w ▸ hx)) (assigned := fun x hx => a ▸ hx)
      (entries := fun e he hx => absurd hx (ne e he)) (notPolled := fun p _ => by cases p) (reserving := fun p _ => by cases p)
  | used r hr hp _ dd has pq _ w a e =>
    obtain ⟨ne, nr, hv⟩ := early (.inr hp)
    have ht : X.os.txDropped = false := by
      cases ht : X.os.txDropped with
      | false => rfl
      | true => exact absurd has (hq.rsTx cid X.os.rxClosed (hat.core_iff.mpr ⟨hp.symm, ht.symm, rfl⟩)).2
    have e' := fresh (Y := awaitFn { X with woken := false }) rfl hv ht e
    subst e'
    exact chg (queue := pushed hr pq nr ht dd) (waiters := fun x hx => .inl (w ▸ hx))
      (assigned := fun x hx => (List.mem_filter.mp (a ▸ hx)).1)
      (entries := fun e he hx => absurd hx (ne e he)) (notPolled := fun p _ => by cases p) (reserving := fun p _ => by cases p)
  | joined hp _ _ _ pq _ w a e =>
    obtain ⟨ne, nr, _⟩ := early (.inl hp)
    subst e
    exact chg (queue := samePq pq (fun r hr hx => absurd hx (nr r hr)))
      (waiters := fun x hx => by rw [w] at hx; exact (List.mem_append.mp hx).imp id List.mem_singleton.mp)
      (assigned := fun x hx => a ▸ hx) (entries := fun e he hx => absurd hx (ne e he)) (notPolled := fun p _ => by cases p)
      (reserving := fun _ t => by rw [show (assignFn s X X).os.txDropped = X.os.txDropped from rfl, txNP hp] at t; cases t)
  | waits hp _ _ _ ch e =>
    obtain ⟨ne, nr, _⟩ := early (.inr hp)
    subst e
    exact chg (queue := samePq ch.pq (fun r hr hx => absurd hx (nr r hr))) (waiters := fun x hx => .inl (ch.pqWaiters ▸ hx))
      (assigned := fun x hx => ch.pqAssigned ▸ hx) (entries := fun e he hx => absurd hx (ne e he))
      (notPolled := fun p _ => by rw [show ({ X with woken := false } : Call).phase = X.phase from rfl, hp] at p; cases p)
      (reserving := fun _ t => by
        rw [ch.pqWaiters, ch.pqAssigned]
        exact hq.rsTx cid X.os.rxClosed (hat.core_iff.mpr ⟨hp.symm, t.symm, rfl⟩))
  | polled hp ch e =>
    have ph : X'.phase = .resolved ∨ X'.phase = .awaiting := by
      rcases e.weak with h1 | ⟨rfl, _, _⟩
      · exact .inl h1
      · exact .inr hp
    refine chg (queue := samePq ch.pq (fun _ _ _ => e.tx)) (waiters := fun x hx => .inl (ch.pqWaiters ▸ hx))
      (assigned := fun x hx => ch.pqAssigned ▸ hx) (entries := ?_)
      (notPolled := fun p _ => by rcases ph with h1 | h1 <;> rw [h1] at p <;> cases p)
      (reserving := fun p _ => by rcases ph with h1 | h1 <;> rw [h1] at p <;> cases p)
    -- an entry of the call: its oneshot is empty (`Inv.inf`), so the poll registers the waker
    intro en he hx _ _ ht
    obtain ⟨c, hc, _, _, _, hval, _⟩ := hi.inf en he
    rw [hx, view_getCall_some hat.get] at hc
    injection hc with hc; subst hc
    have e' := fresh (Y := { X with woken := false }) rfl hval ht e
    subst e'
    exact ⟨hp, ht, by simp⟩

theorem cqu_pollCall {s : St} (hi : Inv none (view s)) (h : CqI none s) (cid now : Nat) :
    CqU none (pollCall s cid now) := by
  have hU : CqU none s := ⟨cuniq_of_inv hi, h⟩
  cases hg : getCall s cid with
  | none => rw [pollCall_gone hg]; exact hU.qc (qc_emit _ _)
  | some X =>
    have hat := At.of_getCall hU.u hg
    obtain ⟨fr, X', hat', out⟩ := pollCall_out hat now
    exact hU.pollOut hi hat fr hat' out

/-! ### dropping a call future -/

theorem pqRelease_not_mem {s : St} {x : Nat} (h1 : x ∉ s.pqWaiters) (h2 : x ∉ s.pqAssigned) :
    x ∉ (pqRelease s).pqWaiters ∧ x ∉ (pqRelease s).pqAssigned := by
  rcases Flow.pqRelease_out s with ⟨w, rest, hw, e⟩ | ⟨hw, e⟩ <;> rw [e]
  · simp only [wakeCall_pqWaiters, wakeCall_pqAssigned]
    rw [hw] at h1
    simp only [List.mem_cons, not_or] at h1
    exact ⟨h1.2, by simp only [List.mem_append, List.mem_singleton, not_or]; exact ⟨h2, h1.1⟩⟩
  · exact ⟨h1, h2⟩

/-- the marked call has closed its receiver -/
theorem CqU.rx_of_D {D : Option Nat} {s : St} (h : CqU D s) {cid : Nat} {c : Call} (hg : getCall s cid = some c)
    (hD : D = some cid) : c.os.rxClosed = true := by
  cases hr : c.os.rxClosed with
  | true => rfl
  | false =>
    exfalso
    refine h.q.dcl cid hD c.phase c.os.txDropped ?_
    rw [← hr]; exact core_of_getCall hg

theorem cqu_osDropTx {D : Option Nat} {s : St} {cid : Nat} {c : Call} (h : CqU D s) (hg : getCall s cid = some c)
    (hne : ∀ e ∈ s.inflight, e.cid ≠ cid) (hnq : ∀ r ∈ s.pq, r.cid ≠ cid) (hnp : c.phase ≠ .notPolled)
    (hrs : c.phase = .reserving → cid ∉ s.pqWaiters ∧ cid ∉ s.pqAssigned) : CqU D (osDropTx s cid) := by
  rcases Flow.osDropTx_out s cid with ⟨_, e⟩ | ⟨_, _, _, e⟩ <;> rw [e]
  · exact h
  · have h1 : CqU D (updCall s cid (fun c => { c with os := { c.os with txDropped := true, rxWaker := false } })) := by
      refine cqu_updCall h hg _ (fun _ => rfl) (Or.inl rfl) ?_ ?_ ?_ ?_ ?_
      · intro e he hx; exact absurd hx (hne e he)
      · intro r hr hx; exact absurd hx (hnq r hr)
      · intro hp; exact absurd hp hnp
      · intro hp _; exact hrs hp
      · intro hD; have := h.rx_of_D hg hD; exact this
    split
    · exact h1.qc (qc_wakeCall _ _)
    · exact h1

theorem cqu_release_if {D : Option Nat} {t : St} (h : CqU D t) (b : Bool) {x : Nat}
    (h1 : x ∉ t.pqWaiters) (h2 : x ∉ t.pqAssigned) :
    CqU D (if b then pqRelease t else t) ∧ x ∉ (if b then pqRelease t else t).pqWaiters ∧
    x ∉ (if b then pqRelease t else t).pqAssigned ∧ cores (if b then pqRelease t else t) = cores t ∧
    (if b then pqRelease t else t).inflight = t.inflight ∧ (if b then pqRelease t else t).pq = t.pq := by
  cases b
  · exact ⟨h, h1, h2, rfl, rfl, rfl⟩
  · have := pqRelease_not_mem h1 h2
    simp only [↓reduceIte]
    refine ⟨⟨cuniq_of_cores (cores_pqRelease _) h.u, h.q.pqRelease⟩, this.1, this.2, cores_pqRelease _, ?_, ?_⟩
    · rcases Flow.pqRelease_out t with ⟨_, _, _, e⟩ | ⟨_, e⟩ <;> rw [e]
      rw [wakeCall_inflight]
    · exact Flow.pqRelease_pq t

theorem cqu_dropPre {s : St} (hi : Inv none (view s)) (h : CqI none s) (cid : Nat) : CqU none (dropPre s cid) := by
  have hU : CqU none s := ⟨cuniq_of_inv hi, h⟩
  unfold dropPre
  cases hg : getCall s cid with
  | none => exact hU
  | some c =>
    simp only
    cases hph : c.phase with
    | notPolled => exact hU
    | awaiting => exact hU
    | resolved => exact hU
    | dropped => exact hU
    | reserving =>
      simp only
      obtain ⟨hne, hnq⟩ := no_ent_of_early hi hg (Or.inr hph)
      -- the call leaves the wait queue
      have h1 : CqU none { s with pqAssigned := s.pqAssigned.filter (· != cid), pqWaiters := s.pqWaiters.filter (· != cid) } :=
        ⟨hU.u, h.shrink rfl rfl (fun e he => ⟨e, he, rfl, rfl⟩) rfl (fun _ hr => hr)
          (fun w hw => (List.mem_filter.mp hw).1) (fun w hw => (List.mem_filter.mp hw).1)⟩
      have n1 : cid ∉ (s.pqWaiters.filter (· != cid)) ∧ cid ∉ (s.pqAssigned.filter (· != cid)) := by
        constructor <;> (intro hm; have := (List.mem_filter.mp hm).2; simp at this)
      -- a permit it had been handed goes back
      have h2 := cqu_release_if h1 (s.pqAssigned.contains cid) n1.1 n1.2
      generalize (if s.pqAssigned.contains cid = true then
            pqRelease { s with pqAssigned := s.pqAssigned.filter (· != cid), pqWaiters := s.pqWaiters.filter (· != cid) }
          else { s with pqAssigned := s.pqAssigned.filter (· != cid), pqWaiters := s.pqWaiters.filter (· != cid) }) = s2 at h2
      obtain ⟨h2, w2, a2, c2, i2, p2⟩ := h2
      -- the unsent request is dropped with its oneshot sender
      have hm : (cid, Phase.reserving, c.os.txDropped, c.os.rxClosed) ∈ cores s2 := by
        rw [c2, ← hph]; exact core_of_getCall hg
      obtain ⟨c', hg', hp', _, _⟩ := h2.u.getCall_of_core hm
      exact cqu_osDropTx h2 hg' (fun e he => hne e (i2 ▸ he)) (fun r hr => hnq r (p2 ▸ hr))
        (by rw [hp']; simp) (fun _ => ⟨w2, a2⟩)

theorem cqu_dropClose {D : Option Nat} {s : St} (h : CqU D s) (cid : Nat) : CqU D (dropClose s cid) := by
  refine Flow.dropClose_cases (motive := CqU D) s cid (fun _ => h) (fun c hg hph => ?_)
  unfold guardClose
  refine cqu_updCall h hg _ (fun _ => rfl) (Or.inl rfl) ?_ ?_ ?_ ?_ ?_
  · intro e he hx hn; have := h.awaiting_of_ent hg he hx hn; exact this
  · intro r hr hx; have := h.q.tx_false_of_pq hg hr hx; exact this
  · intro hp; rcases hph with h' | h' <;> (rw [h'] at hp; cases hp)
  · intro hp ht
    refine h.q.rsTx cid c.os.rxClosed ?_
    have hp' : c.phase = .reserving := hp
    have ht' : c.os.txDropped = true := ht
    rw [← hp', ← ht']; exact core_of_getCall hg
  · intro _; rfl

/-- the guard of call `cid` is armed: the future is waiting for a permit or for its response -/
def guardedIn (s : St) (cid : Nat) : Bool :=
  (s.calls.map Flow.callSig).any (fun p => p.1 == cid && (p.2 == Phase.reserving || p.2 == Phase.awaiting))

/-- the mark `CqI` carries between the guard's `cqPush` and the end of the future -/
def dmark (s : St) (cid : Nat) : Option Nat := if guardedIn s cid then some cid else none

theorem dmark_of_sigs {s s' : St} (h : s'.calls.map Flow.callSig = s.calls.map Flow.callSig) (cid : Nat) :
    dmark s' cid = dmark s cid := by
  unfold dmark guardedIn; rw [h]

theorem dmark_none {s : St} {cid : Nat} (hg : getCall s cid = none) : dmark s cid = none := by
  unfold dmark guardedIn
  have : (s.calls.map Flow.callSig).any (fun p => p.1 == cid && (p.2 == Phase.reserving || p.2 == Phase.awaiting)) = false := by
    rw [List.any_eq_false]
    intro p hp
    obtain ⟨c, hc, rfl⟩ := List.mem_map.mp hp
    have := getCall_none hg c hc
    simp [Flow.callSig, this]
  rw [this]; rfl

theorem dmark_some {s : St} (hu : CUniq s) {cid : Nat} {c : Call} (hg : getCall s cid = some c) :
    dmark s cid = if c.phase = .reserving ∨ c.phase = .awaiting then some cid else none := by
  unfold dmark guardedIn
  obtain ⟨hm, hcid⟩ := getCall_some hg
  by_cases hph : c.phase = .reserving ∨ c.phase = .awaiting
  · have : (s.calls.map Flow.callSig).any (fun p => p.1 == cid && (p.2 == Phase.reserving || p.2 == Phase.awaiting)) = true := by
      rw [List.any_eq_true]
      refine ⟨Flow.callSig c, List.mem_map_of_mem hm, ?_⟩
      rcases hph with h | h <;> simp [Flow.callSig, hcid, h]
    rw [this, if_pos hph]; rfl
  · have : (s.calls.map Flow.callSig).any (fun p => p.1 == cid && (p.2 == Phase.reserving || p.2 == Phase.awaiting)) = false := by
      rw [List.any_eq_false]
      intro p hp
      obtain ⟨c', hc', rfl⟩ := List.mem_map.mp hp
      by_cases hx : c'.cid = cid
      · have : c' = c := eq_of_map_nodup hu hc' hm (by rw [hx, hcid])
        subst this
        simp only [not_or] at hph
        simp [Flow.callSig, hph.1, hph.2]
      · simp [Flow.callSig, hx]
    rw [this, if_neg hph]; rfl

theorem cqu_cqPush_mark {s : St} {cid : Nat} {c : Call} (h : CqU none s) (hg : getCall s cid = some c)
    (hrx : c.os.rxClosed = true) (hid : ∀ e ∈ s.inflight, e.cid = cid → e.id = c.id) :
    CqU (some cid) (cqPush s c.id) := by
  have hdcl : ∀ x, some cid = some x → ∀ ph tx, (x, ph, tx, false) ∉ cores s := by
    intro x hx ph tx hm
    injection hx with hx; subst hx
    have := h.u.unique hg hm rfl
    simp only [ccore, Prod.mk.injEq] at this
    rw [hrx] at this; exact absurd this.2.2.2 (by simp)
  unfold cqPush
  refine iteInduction (motive := CqU (some cid)) (fun hd => ?_) (fun _ => ?_)
  · refine ⟨h.u, ⟨h.q.dd, ?_, h.q.pqTx, h.q.npTx, h.q.rsTx, hdcl⟩⟩
    intro e he
    rw [(h.q.dd hd).1] at he; cases he
  · simp only
    have h1 : CqU (some cid) { s with cq := s.cq ++ [c.id] } := by
      refine ⟨h.u, ⟨h.q.dd, ?_, h.q.pqTx, h.q.npTx, h.q.rsTx, hdcl⟩⟩
      intro e he
      by_cases hx : e.cid = cid
      · left
        simp only [List.mem_append, List.mem_singleton]
        exact Or.inr (hid e he hx)
      · rcases h.q.ent e he with hc | ⟨hm, _⟩
        · exact Or.inl (List.mem_append_left _ hc)
        · exact Or.inr ⟨hm, fun hh => hx (by injection hh with hh; exact hh.symm)⟩
    refine iteInduction (motive := CqU (some cid)) (fun _ => ?_) (fun _ => h1)
    refine CqU.qc (CqU.qc h1 ?_) (qc_wakeDispatch _)
    exact QCq.of_calls rfl rfl rfl rfl rfl rfl rfl

theorem cqu_dropCancel {s : St} (h : CqU none s) (cid : Nat)
    (hid : ∀ c, getCall s cid = some c → ∀ e ∈ s.inflight, e.cid = cid → e.id = c.id)
    (hcl : ∀ c, getCall s cid = some c → (c.phase = .reserving ∨ c.phase = .awaiting) → c.os.rxClosed = true) :
    CqU (dmark s cid) (dropCancel s cid) := by
  refine Flow.dropCancel_cases (motive := CqU (dmark s cid)) s cid (fun hn => ?_) (fun c hg hph => ?_)
  · have e : dmark s cid = none := by
      cases hg : getCall s cid with
      | none => exact dmark_none hg
      | some c => rw [dmark_some h.u hg, if_neg (hn c hg)]
    rw [e]; exact h
  · rw [dmark_some h.u hg, if_pos hph]
    exact cqu_cqPush_mark h hg (hcl c hg hph) (hid c hg)

theorem dropCancel_calls (s : St) (cid : Nat) : (dropCancel s cid).calls = s.calls :=
  Flow.dropCancel_cases (motive := fun S => S.calls = s.calls) s cid (fun _ => rfl) (fun c _ _ => cqPush_calls s c.id)

theorem cqu_dropFinish {s : St} {cid : Nat} (h : CqU (dmark s cid) s) : CqU none (dropFinish s cid) := by
  refine Flow.dropFinish_cases (motive := CqU none) s cid (fun done => ?_) (fun c hg hph => ?_)
  · have e : dmark s cid = none := by
      cases hg : getCall s cid with
      | none => exact dmark_none hg
      | some c =>
        -- a resolved or dropped call is in no guarded phase
        rw [dmark_some h.u hg]
        rcases done c hg with e | e
        · rw [e]; simp
        · rw [e]; simp
    rw [e] at h; exact h.qc (qc_emit _ _)
  · rw [dmark_some h.u hg] at h
    have key : ∀ D, CqU D s → (D = some cid ∨ (D = none ∧ c.phase ≠ .awaiting)) →
        CqU none (afterCallGone (updCall s cid (fun c => { c with phase := .dropped, woken := false }))) := by
      intro D h hD
      refine CqU.qc ?_ (qc_afterCallGone _)
      refine cqu_updCall h hg _ (fun _ => rfl) (Or.inr rfl) ?_ ?_ ?_ ?_ ?_
      · intro e he hx hn
        obtain ⟨a, _, b⟩ := h.awaiting_of_ent hg he hx hn
        rcases hD with hD | ⟨_, hD⟩
        · exact absurd hD b
        · exact absurd a hD
      · intro r hr hx; have := h.q.tx_false_of_pq hg hr hx; exact this
      · intro hp; cases hp
      · intro hp; cases hp
      · intro hD'; cases hD'
    -- the mark is `some cid` for a guarded call, `none` for one that was never polled
    rcases hph with hph | hph
    · rw [if_pos hph] at h; exact key _ h (Or.inl rfl)
    · rw [if_neg (by rw [hph]; simp)] at h; exact key _ h (Or.inr ⟨rfl, by rw [hph]; simp⟩)

theorem cqi_dropCallG {s : St} (hi : Inv none (view s)) (h : CqI none s) (guarded : Bool) (cid : Nat) (at_ : DropAt)
    (now : Nat) : CqI none (dropCallG guarded s cid at_ now) := by
  refine dropCallG_walk (I₁ := fun S => Inv none (view S) ∧ CqI none S)
    (I₂ := fun S => (Inv none (view S) ∧ Closed (view S) cid) ∧ CqI none S)
    (I₃ := fun S => Inv none (view S) ∧ CqI (dmark S cid) S) (J := CqI none) guarded s cid at_ now
    ⟨by rw [view_dropPre]; exact hi, (cqu_dropPre hi h cid).q⟩
    (fun S h => ⟨pollDispatch_pres Inv.presD h.1 now, cqi_pollDispatch h.1 h.2 now⟩)
    (fun S h => ⟨dropClose_pres Inv.pres h.1 cid, (cqu_dropClose ⟨cuniq_of_inv h.1, h.2⟩ cid).q⟩)
    (fun S h => ⟨pollDispatch_closed Inv.pres h.1.1 now cid h.1.2, cqi_pollDispatch h.1.1 h.2 now⟩)
    (fun S h => ⟨dropCancel_pres Inv.pres h.1.1 cid h.1.2, ?_⟩)
    (fun S h => ⟨pollDispatch_pres Inv.presD h.1 now, by
      rw [dmark_of_sigs (Flow.pollDispatch_sigs S now) cid]; exact cqi_pollDispatch h.1 h.2 now⟩)
    (fun S h => (cqu_dropFinish ⟨cuniq_of_inv h.1, h.2⟩).q)
  -- the guard queues the cancellation: from here on the entries of `cid` are all in `cq`
  obtain ⟨⟨i4, c4⟩, q4⟩ := h
  rw [dmark_of_sigs (s := S) (by rw [dropCancel_calls]) cid]
  refine (cqu_dropCancel ⟨cuniq_of_inv i4, q4⟩ cid ?_ ?_).q
  · intro c hg e he hx
    obtain ⟨cv, hcv, _, hid, _⟩ := i4.inf e he
    rw [hx, view_getCall_some hg] at hcv; injection hcv with hcv; subst hcv
    exact hid.symm
  · intro c hg hph
    exact c4 c.v (view_getCall_some hg) hph

theorem cqi_dropCall {s : St} (hi : Inv none (view s)) (h : CqI none s) (cid : Nat) (at_ : DropAt) (now : Nat) :
    CqI none (dropCall s cid at_ now) := by
  rw [dropCall_eq]; exact cqi_dropCallG hi h _ cid at_ now

/-! ### handles, external events, ops -/

theorem cqi_newCall {s : St} (h : CqI none s) (hd : Nat) (ctx : Ctx) (body : Nat) : CqI none (newCall s hd ctx body) := by
  unfold newCall
  split
  · have hc : cores { s with calls := s.calls ++ [{ cid := s.calls.length, ctx := ctx, body := body, trace := ctx.trace }] }
        = cores s ++ [(s.calls.length, Phase.notPolled, false, false)] := by
      simp [cores, ccore]
    have old : ∀ {x : Nat} {ph : Phase} {rx : Bool}, (x, ph, true, rx) ∈ cores s ++ [(s.calls.length, Phase.notPolled, false, false)] →
        (x, ph, true, rx) ∈ cores s := by
      intro x ph rx hm
      rcases List.mem_append.mp hm with hm | hm
      · exact hm
      · simp at hm
    refine ⟨h.dd, ?_, fun r hr ph rx hm => h.pqTx r hr ph rx (old (hc ▸ hm)), fun x rx hm => h.npTx x rx (old (hc ▸ hm)),
      fun x rx hm => h.rsTx x rx (old (hc ▸ hm)), fun _ hD => by cases hD⟩
    intro e he
    rcases h.ent e he with hc' | ⟨⟨rx, hm⟩, hD⟩
    · exact Or.inl hc'
    · exact Or.inr ⟨⟨rx, by rw [hc]; exact List.mem_append_left _ hm⟩, hD⟩
  · exact h.qc (qc_emit _ _)

theorem qc_t (s : St) (t : SimT) : QCq s { s with t := t } := QCq.of_calls rfl rfl rfl rfl rfl rfl rfl

theorem qc_liftT (s : St) (r : SimT × Bool) : QCq s (liftT s r) := by
  unfold liftT
  simp only
  exact iteInduction (motive := QCq s) (fun _ => (qc_wakeDispatch _).after (qc_t _ _)) (fun _ => qc_t _ _)

theorem qc_onAdvance (s : St) (now : Nat) : QCq s (onAdvance s now) := by
  unfold onAdvance
  split
  · split
    · exact (qc_wakeDispatch _).after (QCq.of_calls rfl rfl rfl rfl rfl rfl rfl)
    · exact QCq.refl _
  · exact QCq.refl _

theorem applyOp_cq {c : Sys} (hi : Inv none (view c.s)) (h : CqI none c.s) (op : COp) : CqI none (applyOp c op).s :=
  Flow.applyOp_cases (P := fun _ s => CqI none s) c op
    (call := fun _ _ _ => cqi_newCall h _ _ _)
    (pollCall := fun cid => (cqu_pollCall hi h cid c.now).q)
    (dropCall := fun cid site => cqi_dropCall hi h cid site c.now)
    (clone := fun hd => by
      unfold cloneHandle; split
      · exact h.qc (QCq.of_calls rfl rfl rfl rfl rfl rfl rfl)
      · exact h.qc (qc_emit _ _))
    (dropHandle := fun hd => by
      unfold dropHandle; split
      · exact h.qc ((qc_afterCallGone _).after (QCq.of_calls rfl rfl rfl rfl rfl rfl rfl))
      · exact h.qc (qc_emit _ _))
    (pollDispatch := cqi_pollDispatch hi h c.now) (dropDispatch := cqi_dropDispatch hi h)
    (lift := fun _ => h.qc (qc_liftT _ _)) (setT := fun _ => h.qc (qc_t _ _))
    (take := fun _ _ => h.qc ((qc_foldl _ (fun s _ => qc_emit s _) _ _).after (qc_t _ _)))
    (advance := fun _ => h.qc (qc_onAdvance _ _))

theorem init_cq (k m b tc : Nat) (coupled : Bool) : CqI none (init k m b tc coupled) :=
  ⟨fun hd => (by cases hd), fun e he => (by cases he), fun r hr => (by cases hr), fun _ _ hm => (by cases hm),
   fun _ _ hm => (by cases hm), fun _ hD => (by cases hD)⟩

/-- **The cancellation-queue invariant holds in every reachable state.** -/
theorem reach_cq (m b tc : Nat) (coupled : Bool) (ops : List COp) :
    CqI none (ops.foldl applyOp (initSys m b tc coupled)).s :=
  (foldl_keeps (P := fun c : Sys => Inv none (view c.s) ∧ CqI none c.s)
    (fun _ op h => ⟨applyOp_inv h.1 op, applyOp_cq h.1 h.2 op⟩) ops
    ⟨init_inv 0 m b tc coupled, init_cq 0 m b tc coupled⟩).2

end TarpcModel.Client
