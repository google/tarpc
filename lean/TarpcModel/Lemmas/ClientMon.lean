import TarpcModel.Lemmas.ClientMonStep
import TarpcModel.Lemmas.ClientInv
/-
Coupling between the client model's state and the monitors' bookkeeping (`Book`), and a generic
acceptance lemma: a checker that never objects to an op, and never objects to an observation that is
`ObsGood` for a state coupled with its book, accepts every trace of the model.
-/
namespace TarpcModel.Client

/-- the `(cid, deadline)` pairs of the book's calls -/
def bsig (l : List BCall) : List (Nat × Nat) := l.map (fun c => (c.cid, c.deadline))

/-- The book agrees with the model about handles and about which calls exist with which deadline. -/
structure BCpl (c : Sys) (bk : Book) : Prop where
  handles : bk.handles = c.s.handles
  nextHandle : bk.nextHandle = c.s.nextHandle
  calls : bsig bk.calls = sigD c.s.calls

theorem bsig_updCall (b : Book) (cid : Nat) (f : BCall → BCall)
    (hf : ∀ x, (f x).cid = x.cid ∧ (f x).deadline = x.deadline) : bsig (b.updCall cid f).calls = bsig b.calls := by
  simp only [Book.updCall, bsig, List.map_map]
  apply List.map_congr_left
  intro x _
  simp only [Function.comp]
  split
  · rw [(hf x).1, (hf x).2]
  · rfl

theorem BCpl.endOp {c : Sys} {bk : Book} (h : BCpl c bk) : BCpl c bk.endOp := by
  unfold Book.endOp
  simp only
  split
  · refine ⟨h.handles, h.nextHandle, ?_⟩
    simp only
    rw [bsig_updCall]
    · exact h.calls
    · intro x; split <;> exact ⟨rfl, rfl⟩
  · exact ⟨h.handles, h.nextHandle, h.calls⟩

/-- (first alternative: plain field writes; second: a cancel `tSend`, a dispatch `ret`; third: `resolved`) -/
theorem BCpl.obs {c : Sys} {bk : Book} (h : BCpl c bk) (o : Obs) : BCpl c (bk.step (.obs o)) := by
  unfold Book.step
  simp only
  split <;> first
    | exact ⟨h.handles, h.nextHandle, h.calls⟩
    | (split <;> exact ⟨h.handles, h.nextHandle, h.calls⟩)
    | (refine ⟨h.handles, h.nextHandle, ?_⟩
       rw [bsig_updCall]
       · exact h.calls
       · intro x; exact ⟨rfl, rfl⟩)

theorem bcpl_iff {c : Sys} {bk : Book} : BCpl c bk ↔
    bk.handles = (frame c.s).2.2.1 ∧ bk.nextHandle = (frame c.s).2.2.2 ∧
      bsig bk.calls = (frame c.s).1.map (fun p => (p.1, p.2.deadline)) :=
  ⟨fun h => ⟨h.handles, h.nextHandle, h.calls.trans (sigD_eq _)⟩, fun h => ⟨h.1, h.2.1, h.2.2.trans (sigD_eq _).symm⟩⟩

theorem BCpl.op {c : Sys} {bk : Book} (hi : StInv c.s c.now) (h : BCpl c bk) (op : COp) :
    BCpl (stepOp c op).1 (bk.step (.op op)) := by
  obtain ⟨e1, e2, e3⟩ := bcpl_iff.1 h.endOp
  rw [bcpl_iff, stepOp_frame hi op, applyOp_frame hi op]
  unfold Book.step
  generalize bk.endOp = b at e1 e2 e3
  simp only [frame] at e1 e2 e3
  cases op with
  | call hd d tr body =>
    simp only [← e1]
    split
    · refine ⟨rfl, e2, ?_⟩
      have hl : b.calls.length = c.s.calls.length := by
        have := congrArg List.length e3
        simpa only [bsig, callSig, List.length_map] using this
      rw [hl, List.map_append, ← e3]
      simp only [bsig, List.map_append, List.map_cons, List.map_nil]
    · exact ⟨rfl, e2, e3⟩
  | clone hd =>
    simp only [← e1, ← e2]
    split
    · exact ⟨rfl, rfl, e3⟩
    · exact ⟨rfl, rfl, e3⟩
  | dropHandle hd => exact ⟨congrArg _ e1, e2, e3⟩
  | _ => exact ⟨e1, e2, e3⟩

theorem cpl_init (m bcap tcap : Nat) (coupled : Bool) : BCpl (initSys m bcap tcap coupled) {} :=
  ⟨rfl, rfl, rfl⟩

/-- The book finds the model's call: same deadline. -/
theorem BCpl.find {c : Sys} {bk : Book} (h : BCpl c bk) {cid : Nat} {ci : BCall}
    (hf : bk.calls.find? (·.cid == cid) = some ci) :
    ∃ cl ∈ c.s.calls, cl.cid = cid ∧ cl.ctx.deadline = ci.deadline := by
  have hm : (ci.cid, ci.deadline) ∈ bsig bk.calls :=
    List.mem_map_of_mem (f := fun c : BCall => (c.cid, c.deadline)) (List.mem_of_find?_eq_some hf)
  rw [h.calls] at hm
  obtain ⟨cl, hcl, he⟩ := List.mem_map.mp hm
  simp only [Prod.mk.injEq] at he
  have := List.find?_some hf
  simp only [beq_iff_eq] at this
  exact ⟨cl, hcl, he.1.trans this, he.2⟩

/-! ### a generic acceptance lemma -/

/-- the monitor over the observations of one op: every one of them is good for the state after the op -/
theorem mon_segment {σ : Type} (check : Book → σ → CEv → σ × Option String) {c' : Sys} {good : Obs → Prop}
    (hobs : ∀ bk st o, BCpl c' bk → good o → (check bk st (.obs o)).2 = none) :
    ∀ (os : List Obs) (mon1 : Mon σ), (∀ o ∈ os, good o) → BCpl c' mon1.book → mon1.bad = none →
      BCpl c' ((os.map CEv.obs).foldl (Mon.step check) mon1).book ∧
        ((os.map CEv.obs).foldl (Mon.step check) mon1).bad = none := by
  intro os
  induction os with
  | nil => exact fun mon1 _ h1 h2 => ⟨h1, h2⟩
  | cons o os ih =>
    intro mon1 hg h1 h2
    simp only [List.map_cons, List.foldl_cons]
    refine ih _ (fun o' ho' => hg o' (List.mem_cons_of_mem _ ho')) ?_ ?_
    · rw [Mon.step_book]; exact h1.obs o
    · exact Mon.step_ok h2 (hobs _ _ _ h1 (hg o List.mem_cons_self))

theorem mon_accepts_from {σ : Type} (check : Book → σ → CEv → σ × Option String) (m T : Nat)
    (hop : ∀ bk st op, (check bk st (.op op)).2 = none)
    (hobs : ∀ (c : Sys) bk st o, c.s.maxInFlight = m → c.now ≤ T → StInv c.s c.now → BCpl c bk →
      ObsGood m c.s.calls c.now o → (check bk st (.obs o)).2 = none)
    (ops : List COp) (c : Sys) (mon : Mon σ) (hi : StInv c.s c.now) (hm : c.s.maxInFlight = m) (hc : BCpl c mon.book)
    (hb : mon.bad = none) (hT : c.now + advSum ops ≤ T) : ((trace c ops).foldl (Mon.step check) mon).bad = none := by
  have := traceOf.fold (f := Mon.step check) (Z := fun _ => False) (fun _ _ h => h)
    (K := fun mon c ops => StInv c.s c.now ∧ c.s.maxInFlight = m ∧ BCpl c mon.book ∧ mon.bad = none ∧ c.now + advSum ops ≤ T)
    (fun mon c op ops ⟨hi, hm, hc, hb, hT⟩ => .inr (by
      have hi' := inv_stepOp hi op
      have hm' : (stepOp c op).1.s.maxInFlight = m := (maxInFlight_stepOp c op).trans hm
      have hnow : (stepOp c op).1.now + advSum ops ≤ T := by
        rw [stepOp_now]; simp only [advSum] at hT; omega
      have hog := obs_stepOp hi op
      rw [hm'] at hog
      have hc1 : BCpl (stepOp c op).1 (Mon.step check mon (.op op)).book := by
        rw [Mon.step_book]; exact hc.op hi op
      obtain ⟨hc2, hb2⟩ := mon_segment check (c' := (stepOp c op).1)
        (fun bk st o h1 hg => hobs _ bk st o hm' (by omega) hi' h1 hg) _ _ hog hc1
        (Mon.step_ok hb (hop _ _ _))
      exact ⟨hi', hm', hc2, hb2, hnow⟩))
    ops mon c (.inr ⟨hi, hm, hc, hb, hT⟩)
  rcases this with h | ⟨_, _, _, _, h, _⟩
  · exact h.elim
  · exact h

/-- A checker that never objects to an op, and never objects to an observation that is good for a state coupled
with its book (whose clock is within the script's total advance `T`), accepts every trace of the client model. -/
theorem mon_accepts {σ : Type} (check : Book → σ → CEv → σ × Option String) (m bcap tcap : Nat) (coupled : Bool)
    (init : σ) (T : Nat)
    (hop : ∀ bk st op, (check bk st (.op op)).2 = none)
    (hobs : ∀ (c : Sys) bk st o, c.s.maxInFlight = m → c.now ≤ T → StInv c.s c.now → BCpl c bk →
      ObsGood m c.s.calls c.now o → (check bk st (.obs o)).2 = none)
    (ops : List COp) (hT : advSum ops ≤ T) :
    (Mon.run check init (trace (initSys m bcap tcap coupled) ops)).ok = true := by
  unfold Mon.run Mon.ok
  rw [mon_accepts_from check m T hop hobs ops (initSys m bcap tcap coupled) { st := init }
    (inv_init 0 m bcap tcap coupled 0) rfl (cpl_init m bcap tcap coupled) rfl
    (by show 0 + advSum ops ≤ T; omega)]
  rfl

/-- Every observation in a trace is good for some list of calls at some instant within the script's total advance
(enough for observations whose goodness does not depend on the calls: `counts`, `panic`). -/
theorem trace_obs_good (m : Nat) (ops : List COp) (c : Sys) (hi : StInv c.s c.now) (hm : c.s.maxInFlight = m) :
    ∀ o, CEv.obs o ∈ trace c ops → ∃ calls now, now ≤ c.now + advSum ops ∧ ObsGood m calls now o := by
  intro o ho
  have := traceOf.forall_mem
    (Q := fun e => ∀ o, e = CEv.obs o → ∃ calls now, now ≤ c.now + advSum ops ∧ ObsGood m calls now o)
    (K := fun c' ops' => StInv c'.s c'.now ∧ c'.s.maxInFlight = m ∧ c'.now + advSum ops' ≤ c.now + advSum ops)
    (fun c' op ops' ⟨hi, hm, hT⟩ => by
      have hm' : (stepOp c' op).1.s.maxInFlight = m := (maxInFlight_stepOp c' op).trans hm
      have hnow : (stepOp c' op).1.now + advSum ops' ≤ c.now + advSum ops := by
        rw [stepOp_now]; simp only [advSum] at hT; omega
      refine ⟨(fun _ h => by cases h), fun o ho o' e => ?_, inv_stepOp hi op, hm', hnow⟩
      cases e
      exact ⟨_, (stepOp c' op).1.now, by omega, hm' ▸ obs_stepOp hi op o ho⟩)
    ops c ⟨hi, hm, Nat.le_refl _⟩ _ ho o rfl
  exact this

end TarpcModel.Client
