import TarpcModel.Lemmas.ClientFlowSpin
/-!
# What the client does to its transport — a closure principle

A reflexive and transitive relation `R` on client states that holds across transport-free steps (`FrameA`), across each of the
five transport calls, across the recording of a terminal error and the spin observation, and keeps the `ensure_writeable`
variant, holds across **every op** of a script with the fixed `ensure_writeable` (`applyOp_trel`): the dispatch does nothing else
to its transport and emits transport observations nowhere else.  (The client counterpart of `Server.Flow.PrimClosed`.)

Why only `ensureLoop = false`: a poll that spun ends by cutting the observation log back to where the poll started (`keepFinish`,
first arm) — observations are *removed*, and no relation that merely holds across each step survives that.  With the fixed
`ensure_writeable` the arm is never taken (`pollDispatchCore_not_spun`).
-/
namespace TarpcModel.Client.Flow

/-- `DRel` over `FrameA` alone, plus the `ensure_writeable` variant (`el`) and the recording of a terminal error (`term`) -/
structure TRel (R : St → St → Prop) : Prop where
  refl : ∀ s, R s s
  trans : ∀ {a b c}, R a b → R b c → R a c
  el : ∀ {s s'}, R s s' → s'.ensureLoop = s.ensureLoop
  frameA : ∀ {s s'}, FrameA s s' → R s s'
  ready : ∀ s, R s (tReady s).1
  flush : ∀ s, R s (tFlush s).1
  close : ∀ s, R s (tClose s).1
  send : ∀ s m, R s (tSend s m).1
  next : ∀ s, R s (tNext s).1
  term : ∀ s a, R s { s with termErr := some a }
  spin : ∀ s, R s (emit s (.spin (tid s)))

theorem TRel.toDRel {R : St → St → Prop} (hR : TRel R) : DRel R where
  refl := hR.refl
  trans := hR.trans
  prim := fun h => hR.frameA h.a
  ready := hR.ready
  flush := hR.flush
  send := hR.send
  spin := hR.spin
  close := hR.close
  next := hR.next

/-- what the ops above the core of a dispatch poll need (`NoSpinStep` is an `ORel` and not a `TRel`) -/
structure ORel (R : St → St → Prop) : Prop where
  refl : ∀ s, R s s
  trans : ∀ {a b c}, R a b → R b c → R a c
  el : ∀ {s s'}, R s s' → s'.ensureLoop = s.ensureLoop
  frameA : ∀ {s s'}, FrameA s s' → R s s'
  core : ∀ s now, s.ensureLoop = false → R s (pollDispatchCore s now).1

theorem TRel.toORel {R : St → St → Prop} (hR : TRel R) : ORel R :=
  ⟨hR.refl, hR.trans, hR.el, hR.frameA, fun s now _ => hR.toDRel.coreSteps hR.term (pollDispatchCore_steps s now)⟩

section
variable {R : St → St → Prop} (hR : ORel R)
include hR

theorem pollDispatchKeep_orel (s : St) (now : Nat) (hel : s.ensureLoop = false) : R s (pollDispatchKeep s now) := by
  have core : ∀ {s1 r}, pollDispatchCore { s with dWoken := false } now = (s1, r) → R s s1 := fun e =>
    hR.trans (hR.frameA (by constructor <;> rfl)) (of_fst e (hR.core { s with dWoken := false } now hel))
  have done : ∀ {s1 : St} (r : Ret), R s s1 → R s (keepDone r s1) := fun r h => by
    obtain ⟨d, e⟩ := keepDone_only r _
    rw [e]; exact hR.trans h (hR.frameA (by constructor <;> rfl))
  refine pollDispatchKeep_cases s now (fun _ => hR.frameA (emit_frameA _ _ rfl)) ?_ ?_ ?_
  · intro s1 r _ e hsp
    have := pollDispatchCore_not_spun { s with dWoken := false } now hel
    rw [e] at this
    exact absurd (hsp.symm.trans this) (by simp)
  · exact fun s1 r _ e _ _ => done r (core e)
  · exact fun s1 r _ e _ _ => done r
      (hR.trans (hR.trans (core e) (hR.frameA (emit_frameA _ _ rfl))) (hR.frameA (emit_frameA _ _ rfl)))

theorem pollDispatch_orel (s : St) (now : Nat) (hel : s.ensureLoop = false) : R s (pollDispatch s now) :=
  pollDispatch_cases s now (pollDispatchKeep_orel hR s now hel)
    (hR.trans (pollDispatchKeep_orel hR s now hel) (hR.frameA (dropDispatch_frameA _)))

theorem dropCall_orel (s : St) (cid : Nat) (at_ : DropAt) (now : Nat) (hel : s.ensureLoop = false) :
    R s (dropCall s cid at_ now) :=
  dropCall_kept (P := R s) (fun h => hR.trans h (hR.frameA (dropPre_frameA _ cid)))
    (fun h => hR.trans h (hR.frameA (dropClose_frameA _ cid))) (fun h => hR.trans h (hR.frameA (dropCancel_frameA _ cid)))
    (fun h => hR.trans h (hR.frameA (dropFinish_frameA _ cid)))
    (fun h => hR.trans h (pollDispatch_orel hR _ now ((hR.el h).trans hel))) (hR.refl s) at_

/-- **Every op.**  (`hX`: what the external transport events do.) -/
theorem applyOp_orel (hX : ∀ s t', ExtEv s.t t' → R s { s with t := t' })
    (c : Sys) (op : COp) (hel : c.s.ensureLoop = false) : R c.s (applyOp c op).s := by
  refine applyOp_ext_cases (P := fun _ s' => R c.s s') c op (fun _ _ _ => hR.frameA (newCall_frameA _ _ _ _))
    (fun _ => hR.frameA (pollCall_frameA _ _ _)) (fun _ _ => dropCall_orel hR _ _ _ _ hel)
    (fun _ => hR.frameA (cloneHandle_frameA _ _)) (fun _ => hR.frameA (dropHandle_frameA _ _))
    (pollDispatch_orel hR _ _ hel) (hR.frameA (dropDispatch_frameA _)) ?_ (fun _ hx => hX _ _ hx) ?_
    (fun _ => hR.frameA (onAdvance_frameA _ _))
  · intro r hx
    unfold liftT; dsimp only; split
    · exact hR.trans (hX _ _ hx) (hR.frameA (wakeDispatch_frameA _))
    · exact hX _ _ hx
  · intro t ms hx
    exact foldl_keeps (P := R c.s) (fun _ _ h => hR.trans h (hR.frameA (emit_frameA _ _ rfl))) ms (hX _ _ hx)

end

theorem applyOp_trel {R : St → St → Prop} (hR : TRel R) (hX : ∀ s t', ExtEv s.t t' → R s { s with t := t' })
    (c : Sys) (op : COp) (hel : c.s.ensureLoop = false) : R c.s (applyOp c op).s :=
  applyOp_orel hR.toORel hX c op hel

end TarpcModel.Client.Flow
