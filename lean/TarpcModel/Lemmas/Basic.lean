/-!
General facts about `ite`, pairs, folds, loops on fuel and lists with distinct keys that several parts of the development use and core
Lean does not state in this form.  Nothing here mentions the model.
-/
namespace TarpcModel

universe u v

/-- both branches of an `if` have the property (for hypotheses that depend on the condition: core's `iteInduction`) -/
theorem ite_of {α : Sort _} {P : α → Prop} {c : Prop} [Decidable c] {a b : α} (ha : P a) (hb : P b) :
    P (if c then a else b) :=
  iteInduction (fun _ => ha) (fun _ => hb)

theorem ite_ite_cases {α : Type} {motive : α → Prop} {p q : Prop} [Decidable p] [Decidable q] {x y z : α}
    (h1 : p → motive x) (h2 : ¬ p → q → motive y) (h3 : ¬ p → ¬ q → motive z) :
    motive (if p then x else if q then y else z) := by
  by_cases hp : p
  · rw [if_pos hp]; exact h1 hp
  · rw [if_neg hp]
    by_cases hq : q
    · rw [if_pos hq]; exact h2 hp hq
    · rw [if_neg hq]; exact h3 hp hq

theorem of_fst {α : Type u} {β : Type v} {P : α → Prop} {p : α × β} {a : α} {b : β} (h : p = (a, b)) (hp : P p.1) : P a := by
  rw [h] at hp; exact hp

theorem or_eq_false_of_not {a b : Bool} (h : ¬ (a || b) = true) : a = false ∧ b = false := by
  cases a <;> cases b <;> simp_all

/-- an invariant that may speak of the elements still to come (`K b rest`) holds at the end of the fold -/
theorem foldl_keeps_rest {α β : Type} {f : β → α → β} {K : β → List α → Prop} (h : ∀ b a l, K b (a :: l) → K (f b a) l)
    (l : List α) {b : β} (hb : K b l) : K (l.foldl f b) [] := by
  induction l generalizing b with
  | nil => exact hb
  | cons a l ih => exact ih (h b a l hb)

theorem foldl_keeps {α β : Type} {f : β → α → β} {P : β → Prop} (h : ∀ b a, P b → P (f b a)) (l : List α)
    {b : β} (hb : P b) : P (l.foldl f b) :=
  foldl_keeps_rest (K := fun b _ => P b) (fun b a _ => h b a) l hb

theorem foldl_field {σ α : Type} {β : Type u} (g : σ → β) (f : σ → α → σ) (hf : ∀ s a, g (f s a) = g s)
    (l : List α) (s : σ) : g (l.foldl f s) = g s :=
  foldl_keeps (P := fun s' => g s' = g s) (fun b a hb => (hf b a).trans hb) l rfl

theorem eq_of_map_nodup {α : Type u} {β : Type v} {f : α → β} {l : List α} (h : (l.map f).Nodup) {a b : α} (ha : a ∈ l)
    (hb : b ∈ l) (he : f a = f b) : a = b := by
  induction l with
  | nil => cases ha
  | cons x xs ih =>
    rw [List.map_cons, List.nodup_cons] at h
    rcases List.mem_cons.1 ha with rfl | ha'
    · rcases List.mem_cons.1 hb with rfl | hb'
      · rfl
      · exact absurd (he ▸ List.mem_map_of_mem hb') h.1
    · rcases List.mem_cons.1 hb with rfl | hb'
      · exact absurd (he ▸ List.mem_map_of_mem ha') h.1
      · exact ih h.2 ha' hb'

theorem find?_of_map_nodup {α : Type u} (f : α → Nat) {l : List α} (h : (l.map f).Nodup) {a : α} (ha : a ∈ l) :
    l.find? (fun x => f x == f a) = some a := by
  induction l with
  | nil => cases ha
  | cons x xs ih =>
    rw [List.map_cons, List.nodup_cons] at h
    rcases List.mem_cons.1 ha with rfl | ha'
    · simp
    · have hne : f x ≠ f a := fun e => h.1 (List.mem_map.2 ⟨a, ha', e.symm⟩)
      rw [List.find?_cons_of_neg (by simpa using hne)]
      exact ih h.2 ha'

theorem perm_cons_filter_key {α : Type u} (f : α → Nat) {l : List α} (hn : (l.map f).Nodup) {a : α} (ha : a ∈ l) :
    l.Perm (a :: l.filter (fun x => f x != f a)) := by
  induction l with
  | nil => cases ha
  | cons x l ih =>
    simp only [List.map_cons, List.nodup_cons, List.mem_map, not_exists, not_and] at hn
    rcases List.mem_cons.mp ha with rfl | ha'
    · have : l.filter (fun x => f x != f a) = l := by
        apply List.filter_eq_self.mpr
        intro b hb
        have := hn.1 b hb
        simp only [bne_iff_ne, ne_eq]; exact this
      simp [this]
    · have hne : f x ≠ f a := fun h => hn.1 a ha' h.symm
      have := ih hn.2 ha'
      simp only [List.filter_cons, bne_iff_ne, ne_eq, hne, not_false_eq_true, ↓reduceIte]
      exact (List.Perm.cons x this).trans (List.Perm.swap _ _ _)

theorem find?_map_key {α : Type} (key : α → Nat) (g : α → α) (hg : ∀ a, key (g a) = key a) (l : List α) (k : Nat) :
    (l.map g).find? (fun a => key a == k) = (l.find? (fun a => key a == k)).map g := by
  rw [List.find?_map]
  have : (fun a => key a == k) ∘ g = fun a => key a == k := funext fun a => by rw [Function.comp_apply, hg]
  rw [this]

theorem find?_map_upd {α : Type} (key : α → Nat) (f : α → α) (hf : ∀ a, key (f a) = key a) (l : List α) (x k : Nat) :
    (l.map (fun a => if key a == x then f a else a)).find? (fun a => key a == k) =
      (l.find? (fun a => key a == k)).map (fun a => if k = x then f a else a) := by
  rw [find?_map_key key _ (fun a => by split <;> simp [hf]) l k]
  cases h : l.find? (fun a => key a == k) with
  | none => rfl
  | some a =>
    have hk : key a = k := by simpa using List.find?_some h
    simp [hk]

theorem nil_of_length_le {α : Type} {l l' : List α} (h : l'.length ≤ l.length) (hl : l = []) : l' = [] := by
  subst hl; exact List.eq_nil_of_length_eq_zero (by simpa using h)

theorem ne_nil_of_length_le {α : Type} {l l' : List α} (h : l'.length ≤ l.length) (hl : l' ≠ []) : l ≠ [] := by
  intro hn; exact hl (nil_of_length_le h hn)

theorem sum_map_lt {α : Type} (f g : α → Nat) : ∀ (l : List α), (∀ x ∈ l, g x ≤ f x) → (∃ x ∈ l, g x < f x) →
    (l.map g).sum < (l.map f).sum := by
  intro l
  induction l with
  | nil => intro _ ⟨x, hx, _⟩; cases hx
  | cons a l ih =>
    intro hle ⟨x, hx, hlt⟩
    simp only [List.map_cons, List.sum_cons]
    have ha := hle a List.mem_cons_self
    have hl : (l.map g).sum ≤ (l.map f).sum := by
      clear ih hx hlt
      induction l with
      | nil => exact Nat.le_refl _
      | cons b l ih2 =>
        simp only [List.map_cons, List.sum_cons]
        have := hle b (List.mem_cons_of_mem _ List.mem_cons_self)
        have := ih2 (fun y hy => by
          rcases List.mem_cons.mp hy with rfl | hy
          · exact ha
          · exact hle y (List.mem_cons_of_mem _ (List.mem_cons_of_mem _ hy)))
        omega
    rcases List.mem_cons.mp hx with rfl | hx
    · omega
    · have := ih (fun y hy => hle y (List.mem_cons_of_mem _ hy)) ⟨x, hx, hlt⟩
      omega

theorem forall_mem_snoc {α : Type u} {p : α → Prop} {l : List α} {a : α} (h1 : ∀ x ∈ l, p x) (h2 : p a) :
    ∀ x ∈ l ++ [a], p x := by
  intro x hx
  rcases List.mem_append.1 hx with hx | hx
  · exact h1 x hx
  · rw [List.mem_singleton.1 hx]; exact h2

theorem nodup_map_snoc {α : Type u} {β : Type v} (f : α → β) {l : List α} (y : α) (h : (l.map f).Nodup)
    (hn : ∀ a ∈ l, f a ≠ f y) : ((l ++ [y]).map f).Nodup := by
  rw [List.map_append, List.nodup_append]
  refine ⟨h, by simp, ?_⟩
  intro b hb c hc
  obtain ⟨a, ha, rfl⟩ := List.mem_map.1 hb
  simp only [List.map_cons, List.map_nil, List.mem_singleton] at hc
  rw [hc]; exact hn a ha

theorem nodup_snoc {α : Type u} {l : List α} {a : α} (h : l.Nodup) (hn : a ∉ l) : (l ++ [a]).Nodup :=
  List.nodup_append.mpr ⟨h, List.pairwise_singleton _ a, fun b hb c hc => by
    rw [List.mem_singleton] at hc; subst hc; exact fun e => hn (e ▸ hb)⟩

theorem snoc_split {α} {l l1 l2 : List α} {m a : α} (h : l ++ [m] = l1 ++ a :: l2) :
    (l2 = [] ∧ l = l1 ∧ m = a) ∨ ∃ l2', l2 = l2' ++ [m] ∧ l = l1 ++ a :: l2' := by
  rcases List.eq_nil_or_concat l2 with rfl | ⟨l2', b, rfl⟩
  · left
    have : l ++ [m] = l1 ++ [a] := h
    have := List.append_inj' this rfl
    simp_all
  · right
    have : l ++ [m] = (l1 ++ a :: l2') ++ [b] := by simpa using h
    have := List.append_inj' this rfl
    refine ⟨l2', ?_, this.1⟩
    simp_all

theorem nodup_append_mid {A B : List Nat} {a : Nat} (h : (A ++ B).Nodup) (ha : a ∉ A) (hb : a ∉ B) :
    ((A ++ [a]) ++ B).Nodup := by
  rw [List.append_assoc, List.singleton_append]
  exact List.perm_middle.nodup_iff.mpr (List.nodup_cons.mpr ⟨fun hm => (List.mem_append.mp hm).elim ha hb, h⟩)

theorem mem_filter_ne {l : List Nat} {a w : Nat} : w ∈ l.filter (· != a) ↔ w ∈ l ∧ w ≠ a := by simp

theorem not_mem_filter_ne {l : List Nat} {a : Nat} : a ∉ l.filter (· != a) := by simp

theorem length_filter_ne_succ {l : List Nat} (hn : l.Nodup) {a : Nat} (ha : a ∈ l) :
    (l.filter (· != a)).length + 1 = l.length := by
  have h := (perm_cons_filter_key id (by simpa using hn) ha).length_eq
  simpa using h.symm

/-- what one iteration of a loop owes: the invariant if the loop goes round again, the property of the result if it ends -/
def IterSpec {σ ρ : Type} (I : σ → Prop) (Φ : σ → ρ → Prop) (p : σ × Option ρ) : Prop := p.2.elim (I p.1) (Φ p.1)

theorem IterSpec.const {σ ρ : Type} {P : σ → Prop} {p : σ × Option ρ} (h : P p.1) : IterSpec P (fun s _ => P s) p := by
  unfold IterSpec; cases p.2 <;> exact h

theorem IterSpec.of_eq {σ ρ : Type} {I : σ → Prop} {Φ : σ → ρ → Prop} {p : σ × Option ρ} (hn : p.2 = none → I p.1)
    (hs : ∀ r, p.2 = some r → Φ p.1 r) : IterSpec I Φ p := by
  unfold IterSpec
  cases h : p.2 with
  | none => exact hn h
  | some r => exact hs r h

/-- The rule of a loop on fuel (`loop (n + 1)` runs one iteration `step` and ends with its result or goes round again with `n`):
`Φ` of the state and result it ends with, from an invariant `I`, which may mention the fuel left, of the iterations that go
round again. -/
theorem fuel_loop {σ ρ : Type} {loop : Nat → σ → σ × ρ} {step : σ → σ × Option ρ}
    (hs : ∀ n s s' o, step s = (s', o) → loop (n + 1) s = o.elim (loop n s') fun r => (s', r))
    {I : Nat → σ → Prop} {Φ : σ → ρ → Prop} (hstep : ∀ n s, I (n + 1) s → IterSpec (I n) Φ (step s))
    (hzero : ∀ s, I 0 s → Φ (loop 0 s).1 (loop 0 s).2) : ∀ n s, I n s → Φ (loop n s).1 (loop n s).2 := by
  intro n
  induction n with
  | zero => exact hzero
  | succ n ih =>
    intro s h
    have a := hstep n s h
    have e := hs n s
    unfold IterSpec at a
    generalize step s = p at a e
    obtain ⟨s', r⟩ := p
    rw [e s' r rfl]
    cases r with
    | none => exact ih s' a
    | some r => exact a

end TarpcModel
