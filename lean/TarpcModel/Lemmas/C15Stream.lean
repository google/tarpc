import TarpcModel.Wire.Frame
import TarpcModel.Wire.Queue
/-!
Helper lemmas for the stream-level half of C15: length-delimited framing, and the FIFO pipe invariant `PipeInv`.
-/
namespace TarpcModel.Wire

/-! ### The length prefix round-trips -/

theorem be32Val_be32 (n : Nat) (h : n < 4294967296) :
    be32Val (UInt8.ofNat (n / 16777216 % 256)) (UInt8.ofNat (n / 65536 % 256))
      (UInt8.ofNat (n / 256 % 256)) (UInt8.ofNat (n % 256)) = n := by
  -- with every quotient taken by 256 the digit equations are linear in three quotients
  have e1 : n / 65536 = n / 256 / 256 := by rw [Nat.div_div_eq_div_mul]
  have e2 : n / 16777216 = n / 256 / 256 / 256 := by rw [Nat.div_div_eq_div_mul, Nat.div_div_eq_div_mul]
  simp only [be32Val, UInt8.toNat_ofNat', Nat.reducePow, Nat.mod_mod, e1, e2]
  omega

/-! ### `decode` -/

theorem measure_pos (s : DecState) : 0 < measure s := by
  unfold measure; omega

theorem measure_succ (s : DecState) : ∃ m, measure s = m + 1 :=
  ⟨measure s - 1, by have := measure_pos s; omega⟩

theorem decodeData_frame_measure {s s' : DecState} {n : Nat} {p : Payload}
    (h : decodeData s n = (s', .frame p)) : s'.buf.length ≤ s.buf.length ∧ s'.phase = .head := by
  unfold decodeData at h
  split at h
  · simp at h
  · simp only [Prod.mk.injEq, Step.frame.injEq] at h
    obtain ⟨rfl, _⟩ := h
    simp

theorem decode_frame_measure {s s' : DecState} {p : Payload}
    (h : decode s = (s', .frame p)) : measure s' < measure s := by
  unfold decode at h
  split at h
  · simp at h
  · split at h
    · split at h
      · split at h
        · simp at h
        · rename_i hb _
          have := decodeData_frame_measure h
          simp only [measure, this.2, hb, List.length_cons] at *
          omega
      · simp at h
    · rename_i hp
      have := decodeData_frame_measure h
      simp only [measure, this.2, hp]
      omega

/-! ### Fuel is irrelevant once it covers `measure` -/

theorem drain_fuel (f : Nat) : ∀ (g : Nat) (s : DecState), measure s ≤ f → measure s ≤ g →
    drain f s = drain g s := by
  induction f with
  | zero => intro g s hf; have := measure_pos s; omega
  | succ f ih =>
    intro g s hf hg
    cases g with
    | zero => have := measure_pos s; omega
    | succ g =>
      simp only [drain]
      rcases h : decode s with ⟨s', r⟩
      cases r with
      | frame p =>
        have := decode_frame_measure h
        simp only []
        rw [ih g s' (by omega) (by omega)]
      | none => rfl
      | oversize => rfl

theorem drainAll_of_frame {s s' : DecState} {p : Payload} (h : decode s = (s', .frame p)) :
    drainAll s = ((drainAll s').1, p :: (drainAll s').2) := by
  have hm := decode_frame_measure h
  unfold drainAll
  obtain ⟨m, hm'⟩ := measure_succ s
  rw [hm']
  simp only [drain, h]
  rw [drain_fuel m (measure s') s' (by omega) (Nat.le_refl _)]

theorem drainAll_of_none {s s' : DecState} (h : decode s = (s', .none)) :
    drainAll s = (s', []) := by
  unfold drainAll
  obtain ⟨m, hm'⟩ := measure_succ s
  rw [hm']
  simp only [drain, h]

theorem drainAll_of_oversize {s s' : DecState} (h : decode s = (s', .oversize)) :
    drainAll s = ({ s' with failed := true }, []) := by
  unfold drainAll
  obtain ⟨m, hm'⟩ := measure_succ s
  rw [hm']
  simp only [drain, h]

/-- `drainAll` depends on the state only through `decode`. -/
theorem drainAll_congr {a b : DecState} (h : decode a = decode b) : drainAll a = drainAll b := by
  rcases hb : decode b with ⟨s', r⟩
  have ha : decode a = (s', r) := h.trans hb
  cases r with
  | frame p => rw [drainAll_of_frame ha, drainAll_of_frame hb]
  | none => rw [drainAll_of_none ha, drainAll_of_none hb]
  | oversize => rw [drainAll_of_oversize ha, drainAll_of_oversize hb]

/-! ### Case analysis of `decode` -/

theorem decode_failed {s : DecState} (h : s.failed = true) : decode s = (s, .none) := by
  simp [decode, h]

theorem decode_data_eq {s : DecState} {n : Nat} (hf : s.failed = false) (hp : s.phase = .data n) :
    decode s = decodeData s n := by
  simp [decode, hf, hp]

theorem decode_head_eq {s : DecState} {b0 b1 b2 b3 : UInt8} {rest : List UInt8}
    (hf : s.failed = false) (hp : s.phase = .head) (hb : s.buf = b0 :: b1 :: b2 :: b3 :: rest) :
    decode s = if be32Val b0 b1 b2 b3 > s.max then (s, .oversize)
      else decodeData { s with buf := rest, phase := .data (be32Val b0 b1 b2 b3) } (be32Val b0 b1 b2 b3) := by
  simp [decode, hf, hp, hb]

theorem decode_short_eq {s : DecState} (hp : s.phase = .head) (hb : s.buf.length < 4) :
    decode s = (s, .none) := by
  rcases hbuf : s.buf with _ | ⟨a, _ | ⟨b, _ | ⟨c, _ | ⟨d, r⟩⟩⟩⟩ <;> simp [decode, hp, hbuf]
  rw [hbuf] at hb; simp at hb; omega

inductive DecodeCase (s : DecState) : Prop where
  | failed (hf : s.failed = true)
  | short (hf : s.failed = false) (hp : s.phase = .head) (hb : s.buf.length < 4)
  | long (b0 b1 b2 b3 : UInt8) (rest : List UInt8) (hf : s.failed = false) (hp : s.phase = .head)
      (hb : s.buf = b0 :: b1 :: b2 :: b3 :: rest)
  | data (n : Nat) (hf : s.failed = false) (hp : s.phase = .data n)

theorem decodeCase (s : DecState) : DecodeCase s := by
  cases hf : s.failed with
  | true => exact .failed hf
  | false =>
    cases hp : s.phase with
    | data n => exact .data n hf hp
    | head =>
      rcases hbuf : s.buf with _ | ⟨a, _ | ⟨b, _ | ⟨c, _ | ⟨d, r⟩⟩⟩⟩
      · exact .short hf hp (by simp [hbuf])
      · exact .short hf hp (by simp [hbuf])
      · exact .short hf hp (by simp [hbuf])
      · exact .short hf hp (by simp [hbuf])
      · exact .long a b c d r hf hp hbuf

/-! ### More bytes behind the buffer do not change what `decode` already decided -/

@[simp] theorem push_nil (s : DecState) : s.push [] = s := by
  simp [DecState.push]

@[simp] theorem push_push (s : DecState) (a b : List UInt8) : (s.push a).push b = s.push (a ++ b) := by
  simp [DecState.push, List.append_assoc]

@[simp] theorem push_failed (s : DecState) (m : List UInt8) : (s.push m).failed = s.failed := rfl
@[simp] theorem push_phase (s : DecState) (m : List UInt8) : (s.push m).phase = s.phase := rfl
@[simp] theorem push_max (s : DecState) (m : List UInt8) : (s.push m).max = s.max := rfl
@[simp] theorem push_buf (s : DecState) (m : List UInt8) : (s.push m).buf = s.buf ++ m := rfl

theorem decodeData_push_frame {s s' : DecState} {n : Nat} {p : Payload} (m : List UInt8)
    (h : decodeData s n = (s', .frame p)) : decodeData (s.push m) n = (s'.push m, .frame p) := by
  unfold decodeData at h ⊢
  split at h
  · simp at h
  · rename_i hlen
    simp only [Prod.mk.injEq, Step.frame.injEq] at h
    obtain ⟨rfl, rfl⟩ := h
    have hle : n ≤ s.buf.length := by omega
    have : ¬ ((s.push m).buf.length < n) := by simp; omega
    simp only [this, ↓reduceIte]
    simp [DecState.push, List.drop_append_of_le_length hle, List.take_append_of_le_length hle]

theorem decodeData_none {s s' : DecState} {n : Nat}
    (h : decodeData s n = (s', .none)) : s' = s := by
  unfold decodeData at h
  split at h
  · simp at h; exact h.symm
  · simp at h

theorem decodeData_ne_oversize {s s' : DecState} {n : Nat} : decodeData s n ≠ (s', .oversize) := by
  unfold decodeData
  split <;> simp

theorem decode_push_frame {s s' : DecState} {p : Payload} (m : List UInt8)
    (h : decode s = (s', .frame p)) : decode (s.push m) = (s'.push m, .frame p) := by
  cases decodeCase s with
  | failed hf => rw [decode_failed hf] at h; simp at h
  | short hf hp hb => rw [decode_short_eq hp hb] at h; simp at h
  | data n hf hp =>
    rw [decode_data_eq hf hp] at h
    rw [decode_data_eq (s := s.push m) hf hp]
    exact decodeData_push_frame m h
  | long b0 b1 b2 b3 rest hf hp hb =>
    rw [decode_head_eq hf hp hb] at h
    rw [decode_head_eq (s := s.push m) (b0 := b0) (b1 := b1) (b2 := b2) (b3 := b3) (rest := rest ++ m) hf hp (by simp [hb])]
    split at h
    · simp at h
    · rename_i hmax
      simp only [push_max, hmax, ↓reduceIte]
      exact decodeData_push_frame m h

theorem decode_push_oversize {s s' : DecState} (m : List UInt8)
    (h : decode s = (s', .oversize)) : decode (s.push m) = (s'.push m, .oversize) := by
  cases decodeCase s with
  | failed hf => rw [decode_failed hf] at h; simp at h
  | short hf hp hb => rw [decode_short_eq hp hb] at h; simp at h
  | data n hf hp => rw [decode_data_eq hf hp] at h; exact absurd h decodeData_ne_oversize
  | long b0 b1 b2 b3 rest hf hp hb =>
    rw [decode_head_eq hf hp hb] at h
    rw [decode_head_eq (s := s.push m) (b0 := b0) (b1 := b1) (b2 := b2) (b3 := b3) (rest := rest ++ m) hf hp (by simp [hb])]
    split at h
    · rename_i hmax
      simp only [Prod.mk.injEq, and_true] at h
      subst h
      simp only [push_max, hmax, ↓reduceIte]
    · exact absurd h decodeData_ne_oversize

/-- If `decode` wants more bytes it may have moved from `Head` to `Data`; either way the next call,
with more bytes, sees the same thing. -/
theorem decode_push_none {s s' : DecState} (m : List UInt8)
    (h : decode s = (s', .none)) : decode (s.push m) = decode (s'.push m) := by
  cases decodeCase s with
  | failed hf => rw [decode_failed hf] at h; simp at h; subst h; rfl
  | short hf hp hb => rw [decode_short_eq hp hb] at h; simp at h; subst h; rfl
  | data n hf hp =>
    rw [decode_data_eq hf hp] at h
    rw [decodeData_none h]
  | long b0 b1 b2 b3 rest hf hp hb =>
    rw [decode_head_eq hf hp hb] at h
    split at h
    · simp at h
    · rename_i hmax
      have hs' := decodeData_none h
      subst hs'
      rw [decode_head_eq (s := s.push m) (b0 := b0) (b1 := b1) (b2 := b2) (b3 := b3) (rest := rest ++ m) hf hp (by simp [hb])]
      simp only [push_max, hmax, ↓reduceIte]
      rw [decode_data_eq (n := be32Val b0 b1 b2 b3) (by simp [DecState.push, hf]) (by simp [DecState.push])]
      rfl

/-- A state in which `decode` wants more bytes stays like that until bytes arrive. -/
theorem decode_none_stable {s s' : DecState} (h : decode s = (s', .none)) :
    decode s' = (s', .none) := by
  have h2 := decode_push_none [] h
  simp only [push_nil] at h2
  rw [← h2, h]

/-! ### Draining early or late is the same -/

theorem drainAll_push (s : DecState) (m : List UInt8) :
    drainAll (s.push m) =
      ((drainAll ((drainAll s).1.push m)).1, (drainAll s).2 ++ (drainAll ((drainAll s).1.push m)).2) := by
  generalize hk : measure s = k
  induction k using Nat.strongRecOn generalizing s with
  | _ k ih =>
    rcases h : decode s with ⟨s', r⟩
    cases r with
    | frame p =>
      have hlt := decode_frame_measure h
      rw [drainAll_of_frame (decode_push_frame m h), drainAll_of_frame h]
      rw [ih (measure s') (by omega) s' rfl]
      simp
    | none =>
      rw [drainAll_of_none h]
      simp only [List.nil_append]
      exact drainAll_congr (decode_push_none m h)
    | oversize =>
      rw [drainAll_of_oversize h, drainAll_of_oversize (decode_push_oversize m h)]
      have : decode (DecState.push { s' with failed := true } m)
          = (DecState.push { s' with failed := true } m, .none) := decode_failed rfl
      rw [drainAll_of_none this]
      rfl

/-- After draining, `decode` wants more bytes (or the stream is dead). -/
theorem drainAll_drained (s : DecState) : drainAll (drainAll s).1 = ((drainAll s).1, []) := by
  generalize hk : measure s = k
  induction k using Nat.strongRecOn generalizing s with
  | _ k ih =>
    rcases h : decode s with ⟨s', r⟩
    cases r with
    | frame p =>
      have hlt := decode_frame_measure h
      rw [drainAll_of_frame h]
      exact ih (measure s') (by omega) s' rfl
    | none =>
      rw [drainAll_of_none h]
      exact drainAll_of_none (decode_none_stable h)
    | oversize =>
      rw [drainAll_of_oversize h]
      exact drainAll_of_none (decode_failed rfl)

/-- **Chunking is irrelevant**: feeding chunks one at a time (draining after each) is the same as
handing the decoder the concatenation at once. -/
theorem feedAll_eq (s : DecState) (hs : drainAll s = (s, [])) (cs : List (List UInt8)) :
    feedAll s cs = drainAll (s.push cs.flatten) := by
  induction cs generalizing s with
  | nil => simp [feedAll, hs]
  | cons c cs ih =>
    simp only [feedAll, feed, List.flatten_cons]
    rw [ih _ (drainAll_drained _), ← push_push, drainAll_push (s.push c) cs.flatten]

theorem initDec_drained (max : Nat) : drainAll (initDec max) = (initDec max, []) :=
  drainAll_of_none (by simp [decode, initDec])

/-! ### A complete frame at the front of the buffer is emitted -/

theorem decode_frame_front (s : DecState) (p : Payload) (rest : List UInt8)
    (hf : s.failed = false) (hp : s.phase = .head) (hb : s.buf = [])
    (hlen : p.length ≤ s.max) (hmax : s.max < 4294967296) :
    decode (s.push (frame p ++ rest)) = (s.push rest, .frame p) := by
  have hv := be32Val_be32 p.length (by omega)
  have hbuf : (s.push (frame p ++ rest)).buf =
      UInt8.ofNat (p.length / 16777216 % 256) :: UInt8.ofNat (p.length / 65536 % 256) ::
        UInt8.ofNat (p.length / 256 % 256) :: UInt8.ofNat (p.length % 256) :: (p ++ rest) := by
    simp [hb, frame, be32]
  rw [decode_head_eq (s := s.push (frame p ++ rest)) hf hp hbuf, hv]
  have : ¬ (p.length > s.max) := by omega
  simp only [push_max, this, ↓reduceIte]
  have h2 : ¬ (p.length + rest.length < p.length) := by omega
  simp [decodeData, DecState.push, hb, hf, hp, h2]

theorem drainAll_frame_front (s : DecState) (p : Payload) (rest : List UInt8)
    (hf : s.failed = false) (hp : s.phase = .head) (hb : s.buf = [])
    (hlen : p.length ≤ s.max) (hmax : s.max < 4294967296) :
    drainAll (s.push (frame p ++ rest)) = ((drainAll (s.push rest)).1, p :: (drainAll (s.push rest)).2) :=
  drainAll_of_frame (decode_frame_front s p rest hf hp hb hlen hmax)

/-- All the frames in front of `rest` come out, in order, and then `rest` is processed. -/
theorem drainAll_frames (s : DecState) (ps : List Payload) (rest : List UInt8)
    (hf : s.failed = false) (hp : s.phase = .head) (hb : s.buf = [])
    (hlen : ∀ p ∈ ps, p.length ≤ s.max) (hmax : s.max < 4294967296) :
    drainAll (s.push ((ps.map frame).flatten ++ rest)) =
      ((drainAll (s.push rest)).1, ps ++ (drainAll (s.push rest)).2) := by
  induction ps with
  | nil => simp
  | cons p ps ih =>
    simp only [List.map_cons, List.flatten_cons, List.append_assoc]
    rw [drainAll_frame_front s p _ hf hp hb (hlen p (by simp)) hmax,
      ih (fun q hq => hlen q (by simp [hq]))]
    simp

theorem feedAll_frames_tail (max : Nat) (hmax : max < 4294967296) (ps : List Payload)
    (hlen : ∀ p ∈ ps, p.length ≤ max) (tail : List UInt8) (cs : List (List UInt8))
    (hcs : cs.flatten = (ps.map frame).flatten ++ tail) :
    feedAll (initDec max) cs =
      ((drainAll ((initDec max).push tail)).1, ps ++ (drainAll ((initDec max).push tail)).2) := by
  rw [feedAll_eq _ (initDec_drained max) cs, hcs,
    drainAll_frames (initDec max) ps _ rfl rfl rfl hlen hmax]

/-! ### A strict prefix of a frame emits nothing -/

theorem frame_length (p : Payload) : (frame p).length = p.length + 4 := by
  simp [frame, be32]

/-- Cut inside the header. -/
theorem drainAll_cut_header (s : DecState) (p : Payload) (k : Nat)
    (hp : s.phase = .head) (hb : s.buf = []) (hk : k < 4) :
    drainAll (s.push ((frame p).take k)) = (s.push ((frame p).take k), []) := by
  apply drainAll_of_none
  exact decode_short_eq (s := s.push ((frame p).take k)) hp (by simp [hb]; omega)

/-- Cut after the header, inside (or just before) the body. -/
theorem drainAll_cut_body (s : DecState) (p : Payload) (j : Nat)
    (hf : s.failed = false) (hp : s.phase = .head) (hb : s.buf = [])
    (hlen : p.length ≤ s.max) (hmax : s.max < 4294967296) (hj : j < p.length) :
    drainAll (s.push ((frame p).take (j + 4))) =
      ({ s with buf := p.take j, phase := .data p.length }, []) := by
  apply drainAll_of_none
  have hv := be32Val_be32 p.length (by omega)
  have hbuf : (s.push ((frame p).take (j + 4))).buf =
      UInt8.ofNat (p.length / 16777216 % 256) :: UInt8.ofNat (p.length / 65536 % 256) ::
        UInt8.ofNat (p.length / 256 % 256) :: UInt8.ofNat (p.length % 256) :: p.take j := by
    simp [hb, frame, be32]
  rw [decode_head_eq (s := s.push ((frame p).take (j + 4))) hf hp hbuf, hv]
  have h1 : ¬ (p.length > s.max) := by omega
  have h2 : min j p.length < p.length := by omega
  simp [h1, decodeData, h2]

/-! ## The FIFO pipe (`Wire/Queue.lean`) -/

section Pipe
variable {α : Type}

theorem accepted_append (a b : List (PObs α)) : accepted (a ++ b) = accepted a ++ accepted b := by
  induction a with
  | nil => rfl
  | cons o os ih => cases o <;> simp [accepted, ih]

theorem delivered_append (a b : List (PObs α)) : delivered (a ++ b) = delivered a ++ delivered b := by
  induction a with
  | nil => rfl
  | cons o os ih => cases o <;> simp [delivered, ih]

/-- Conservation and order: what was accepted is what was delivered, then what is in flight, then what
is staged, then what died with the writer. -/
structure PipeInv (p : Pipe α) (obs : List (PObs α)) : Prop where
  cons : accepted obs = delivered obs ++ p.queue ++ p.staged ++ p.lost
  lostNil : p.writer ≠ .dropped → p.lost = []
  stagedNil : p.writer ≠ .opened → p.staged = []
  unbuffered : p.cfg.buffered = false → p.staged = [] ∧ p.lost = []
  capOk : ∀ c, p.cfg.cap = some c → p.cfg.buffered = false →
    p.queue.length ≤ c + 1 ∧ (p.parked = false → p.queue.length ≤ c)

theorem PipeInv.quiet {p : Pipe α} {obs : List (PObs α)} (h : PipeInv p obs) (o : List (PObs α))
    (ha : accepted o = []) (hd : delivered o = []) : PipeInv p (obs ++ o) :=
  ⟨by simpa [accepted_append, delivered_append, ha, hd] using h.cons, h.lostNil, h.stagedNil,
   h.unbuffered, h.capOk⟩

theorem PipeInv.flushStaged {p : Pipe α} {obs : List (PObs α)} (h : PipeInv p obs)
    (hw : p.writer = .opened) : PipeInv p.flushStaged obs := by
  obtain ⟨hc, hl, hs, hu, hcap⟩ := h
  have hl' := hl (by simp [hw])
  refine ⟨?_, ?_, ?_, ?_, ?_⟩
  · simp [hc, hl', Pipe.flushStaged]
  · simp [hl', Pipe.flushStaged]
  · simp [Pipe.flushStaged]
  · intro hb; have := hu hb; simp [Pipe.flushStaged, this]
  · intro c hcc hbb
    have := hu hbb
    simpa [Pipe.flushStaged, this] using hcap c hcc hbb

theorem PipeInv.autoFlush {p : Pipe α} {obs : List (PObs α)} (h : PipeInv p obs)
    (hw : p.writer = .opened) : PipeInv p.autoFlush obs := by
  unfold Pipe.autoFlush; split
  · exact h.flushStaged hw
  · exact h

@[simp] theorem flushStaged_writer (p : Pipe α) : p.flushStaged.writer = p.writer := rfl
@[simp] theorem flushStaged_cfg (p : Pipe α) : p.flushStaged.cfg = p.cfg := rfl
@[simp] theorem flushStaged_lost (p : Pipe α) : p.flushStaged.lost = p.lost := rfl
@[simp] theorem flushStaged_parked (p : Pipe α) : p.flushStaged.parked = p.parked := rfl
@[simp] theorem autoFlush_writer (p : Pipe α) : p.autoFlush.writer = p.writer := by
  unfold Pipe.autoFlush; split <;> rfl
@[simp] theorem autoFlush_cfg (p : Pipe α) : p.autoFlush.cfg = p.cfg := by
  unfold Pipe.autoFlush; split <;> rfl

theorem PipeInv.pop {p : Pipe α} {obs : List (PObs α)} (h : PipeInv p obs) :
    PipeInv p.pop.1 (obs ++ p.pop.2) := by
  obtain ⟨qc, ql, qs, qu, qcap⟩ := h
  unfold Pipe.pop
  cases hq : p.queue with
  | nil =>
    refine ⟨?_, ql, qs, qu, qcap⟩
    simp only
    split <;> simpa [accepted_append, delivered_append, accepted, delivered, hq] using qc
  | cons a r =>
    refine ⟨?_, ql, qs, qu, ?_⟩
    · simpa [accepted_append, delivered_append, accepted, delivered, hq] using qc
    · intro c hcc hbb
      have h2 := qcap c hcc hbb
      simp only [hq, List.length_cons] at h2
      simp; omega

theorem PipeInv.step {p : Pipe α} {obs : List (PObs α)} (h : PipeInv p obs) (op : POp α) :
    PipeInv (p.step op).1 (obs ++ (p.step op).2) := by
  cases op with
  | send a =>
    unfold Pipe.step
    by_cases hw : p.writer = .opened
    · by_cases hp : p.parked = true
      · simp only [hw, ne_eq, not_true_eq_false, ↓reduceIte, hp]
        exact h.quiet _ rfl rfl
      · by_cases hb : p.cfg.buffered = true
        · simp only [hw, ne_eq, not_true_eq_false, ↓reduceIte, hp, hb, Bool.false_eq_true]
          obtain ⟨hc, hl, hs, hu, hcap⟩ := h.autoFlush hw
          have hl' := hl (by simp [hw])
          refine ⟨?_, ?_, ?_, ?_, ?_⟩
          · simp [accepted_append, delivered_append, accepted, delivered, hc, hl']
          · simp [hl']
          · simp [hw]
          · simp [hb]
          · simp [hb]
        · simp only [hw, ne_eq, not_true_eq_false, ↓reduceIte, hp, hb, Bool.false_eq_true]
          obtain ⟨hc, hl, hs, hu, hcap⟩ := h
          have hl' := hl (by simp [hw])
          have hb' : p.cfg.buffered = false := by simpa using hb
          have hu' := hu hb'
          refine ⟨?_, ?_, ?_, ?_, ?_⟩
          · simp [accepted_append, delivered_append, accepted, delivered, hc, hl', hu'.1]
          · simp [hl']
          · simp
          · intro _; exact hu'
          · intro c hcc hbb
            have := hcap c hcc hbb
            have hp' : p.parked = false := by simpa using hp
            have hcc' : p.cfg.cap = some c := hcc
            simp only [List.length_append, List.length_cons, List.length_nil, hcc', overCap]
            constructor
            · have := this.2 hp'; omega
            · intro hd; simp at hd; omega
    · simp only [ne_eq, hw, not_false_eq_true, ↓reduceIte]
      exact h.quiet _ rfl rfl
  | flush =>
    unfold Pipe.step
    by_cases hw : p.writer = .opened
    · simp only [hw, ne_eq, not_true_eq_false, ↓reduceIte]
      exact (h.flushStaged hw).quiet _ rfl rfl
    · simp only [ne_eq, hw, not_false_eq_true, ↓reduceIte]
      exact h.quiet _ rfl rfl
  | recv =>
    unfold Pipe.step
    by_cases hw : p.writer = .opened
    · simp only [hw, ↓reduceIte]; exact (h.flushStaged hw).pop
    · simp only [hw, ↓reduceIte]; exact h.pop
  | close =>
    unfold Pipe.step
    by_cases hw : p.writer = .opened
    · simp only [hw, ne_eq, not_true_eq_false, ↓reduceIte]
      obtain ⟨hc, hl, hs, hu, hcap⟩ := h.flushStaged hw
      have hl' := hl (by simp [hw])
      refine ⟨?_, ?_, ?_, hu, hcap⟩
      · simpa [accepted_append, delivered_append, accepted, delivered] using hc
      · intro _; exact hl'
      · intro _; simp [Pipe.flushStaged]
    · simp only [ne_eq, hw, not_false_eq_true, ↓reduceIte]
      exact h.quiet _ rfl rfl
  | drop =>
    unfold Pipe.step
    by_cases hw : p.writer = .dropped
    · simp only [hw, ↓reduceIte]
      exact h.quiet _ rfl rfl
    · simp only [hw, ↓reduceIte]
      obtain ⟨hc, hl, hs, hu, hcap⟩ := h
      have hl' := hl hw
      refine ⟨?_, ?_, ?_, ?_, ?_⟩
      · simp [accepted_append, delivered_append, accepted, delivered, hc, hl']
      · simp
      · simp
      · intro hb; have := hu hb; simp [this]
      · exact hcap

theorem PipeInv.run {p : Pipe α} {obs : List (PObs α)} (h : PipeInv p obs) (ops : List (POp α)) :
    PipeInv (p.run ops).1 (obs ++ (p.run ops).2) := by
  induction ops generalizing p obs with
  | nil => simpa [Pipe.run] using h
  | cons op ops ih =>
    simp only [Pipe.run]
    have := ih (h.step op)
    simpa [List.append_assoc] using this

theorem PipeInv.init (cfg : PipeCfg) : PipeInv (Pipe.init cfg : Pipe α) [] :=
  ⟨by simp [Pipe.init, accepted, delivered], by simp [Pipe.init], by simp [Pipe.init],
   by simp [Pipe.init], by intro c _ _; simp [Pipe.init]⟩

theorem step_cfg (p : Pipe α) (op : POp α) : (p.step op).1.cfg = p.cfg := by
  cases op <;> simp only [Pipe.step, Pipe.pop]
  · split
    · rfl
    · split
      · rfl
      · split <;> simp
  · split <;> rfl
  · split <;> split <;> rfl
  · split <;> rfl
  · split <;> rfl

theorem run_cfg (p : Pipe α) (ops : List (POp α)) : (p.run ops).1.cfg = p.cfg := by
  induction ops generalizing p with
  | nil => rfl
  | cons op ops ih => simp only [Pipe.run, ih, step_cfg]

theorem run_append (p : Pipe α) (a b : List (POp α)) :
    p.run (a ++ b) = (((p.run a).1.run b).1, (p.run a).2 ++ ((p.run a).1.run b).2) := by
  induction a generalizing p with
  | nil => simp [Pipe.run]
  | cons op a ih => simp [Pipe.run, ih, List.append_assoc]

theorem run_recv_drain (p : Pipe α) (hw : p.writer ≠ .opened) (hv : p.eofVisible = true) :
    (p.run (List.replicate (p.queue.length + 1) .recv)).2 = p.queue.map .recv ++ [.eof] := by
  generalize hq : p.queue = q
  induction q generalizing p with
  | nil => simp [Pipe.run, Pipe.step, Pipe.pop, hw, hq, hv]
  | cons a q ih =>
    have hstep : p.step .recv = ({ p with queue := q, parked := false }, [.recv a]) := by
      simp [Pipe.step, Pipe.pop, hw, hq]
    rw [List.length_cons, List.replicate_succ]
    show (p.step .recv).2 ++ ((p.step .recv).1.run _).2 = _
    rw [hstep]
    simp only [List.map_cons, List.cons_append, List.nil_append, List.cons.injEq, true_and]
    exact ih { p with queue := q, parked := false } hw hv rfl

end Pipe

end TarpcModel.Wire
