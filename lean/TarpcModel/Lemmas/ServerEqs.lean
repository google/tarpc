import TarpcModel.Lemmas.DelayQFacts
import TarpcModel.Lemmas.ServerExpire
import TarpcModel.Lemmas.SimT
/-!
The server model (`Server/Model.lean`) in the forms the proofs use: beside what a function is *made of* (`f_steps`,
`Lemmas/ServerSteps.lean`), what it *returns*.  One scheme of names: `f_eq` — an equation for `f`: which fields it may change
(`frames` makes the field lemmas from it), or `f` staged, the intermediate states named (`bpStep`, `llStep`, `lfStep`, `rpStep`);
`f_out : FOut … (f …)` — the paths of `f` with what each returns; `f_loop` — the rule of a loop on fuel over its iteration, an
instance of `fuel_loop` (`f_succ` the loop's equation, `f_iter` the same as `fuel_loop` takes it, `f_unfold` the model's own);
`f_post` — a rule with one hypothesis per callee; `f_ind` — the corollary for a predicate of the state alone.  Also here, as
definitions: the closure classes `ExecClosed`, `StepClosed`, `LoopClosed`, `PrimClosed` (each asks for more) and `Adds`.
-/
namespace TarpcModel

namespace Server.Flow
open TarpcModel

theorem findEntry_some {s : St} {id : Nat} {e : SEntry} (h : findEntry s id = some e) : e ∈ s.inflight ∧ e.id = id := by
  unfold findEntry at h
  exact ⟨List.mem_of_find?_eq_some h, by simpa using List.find?_some h⟩

theorem findEntry_none {s : St} {id : Nat} (h : findEntry s id = none) : ∀ e ∈ s.inflight, e.id ≠ id := by
  unfold findEntry at h
  intro e he
  have := List.find?_eq_none.mp h e he
  simpa using this

open Lean in
/-- `frames name binders : e ~ s => f₁ f₂ … by tac` states `e.fᵢ = s.fᵢ` (simp lemmas `name_fᵢ`); the lists name the fields
some proof reads (`obs`, `woken`, `nextFresh`, `rqRxWaker`, written by almost every function, are in none: see its `_eq`). -/
macro "frames " n:ident bs:bracketedBinder* " : " e:term " ~ " s:term " => " flds:ident+ " by " tac:tacticSeq : command => do
  let cmds ← flds.mapM fun fld => do
    let nm := mkIdent (n.getId.appendAfter ("_" ++ fld.getId.toString))
    `(@[simp] theorem $nm $bs* : ($e).$fld:ident = ($s).$fld:ident := by $tac)
  return ⟨mkNullNode cmds⟩

frames emit (s : St) (o : Obs) : emit s o ~ s =>
  sidx limit ensureLoop throttleAfterRead inflight timers cancelQ cancelRxWaker respQ readFused execs done dropped
  poisoned t rqWaiters rqAssigned rqAvail nextVis
  by rfl

@[simp] theorem emit_obs (s : St) (o : Obs) : (emit s o).obs = o :: s.obs := rfl

theorem emitViolations_ind {P : St → Prop} (he : ∀ s w, P s → P (emit s (.tViolation (tid s) w))) (s : St) (n : Nat)
    (h : P s) : P (emitViolations s n) := by
  unfold emitViolations
  generalize ((s.t.violations.take (s.t.violations.length - n)).reverse) = l
  induction l generalizing s with
  | nil => exact h
  | cons a l ih => exact ih _ (he s a h)

theorem emitViolations_eq (s : St) (n : Nat) : ∃ o, emitViolations s n = { s with obs := o } :=
  emitViolations_ind (P := fun a => ∃ o, a = { s with obs := o }) (fun _ _ ⟨o, h⟩ => h ▸ ⟨_, rfl⟩) s n ⟨s.obs, rfl⟩

frames emitViolations (s : St) (n : Nat) : emitViolations s n ~ s =>
  sidx limit ensureLoop throttleAfterRead inflight timers cancelQ cancelRxWaker respQ readFused execs done dropped
  poisoned t rqWaiters rqAssigned rqAvail nextVis
  by (obtain ⟨o, h⟩ := emitViolations_eq s n; rw [h])

theorem wakeServer_eq (s : St) : ∃ w o, wakeServer s = { s with woken := w, obs := o } := by
  unfold wakeServer; split
  · exact ⟨s.woken, s.obs, rfl⟩
  · exact ⟨true, _, rfl⟩

frames wakeServer (s : St) : wakeServer s ~ s =>
  sidx limit ensureLoop throttleAfterRead inflight timers cancelQ cancelRxWaker respQ readFused execs done dropped
  poisoned t rqWaiters rqAssigned rqAvail nextVis
  by (obtain ⟨_, _, h⟩ := wakeServer_eq s; rw [h])

frames updExec (s : St) (r : Nat) (f : Exec → Exec) : updExec s r f ~ s =>
  sidx limit ensureLoop throttleAfterRead inflight timers cancelQ cancelRxWaker respQ readFused done dropped
  poisoned t rqWaiters rqAssigned rqAvail nextVis obs
  by rfl

theorem wakeExec_eq (s : St) (r : Nat) : ∃ es o, wakeExec s r = { s with execs := es, obs := o } := by
  unfold wakeExec; repeat' split
  all_goals first | exact ⟨s.execs, s.obs, rfl⟩ | exact ⟨_, _, rfl⟩

frames wakeExec (s : St) (r : Nat) : wakeExec s r ~ s =>
  sidx limit ensureLoop throttleAfterRead inflight timers cancelQ cancelRxWaker respQ readFused done dropped
  poisoned t rqWaiters rqAssigned rqAvail nextVis
  by (obtain ⟨_, _, h⟩ := wakeExec_eq s r; rw [h])

theorem abortExec_eq (s : St) (r : Nat) : ∃ es o, abortExec s r = { s with execs := es, obs := o } := by
  unfold abortExec; split
  · exact ⟨s.execs, s.obs, rfl⟩
  · simp only []
    split
    · obtain ⟨es, o, h⟩ := wakeExec_eq (updExec s r (fun e => { e with aborted := true, abortWaker := false })) r
      exact ⟨es, o, by rw [h]; rfl⟩
    · exact ⟨_, s.obs, rfl⟩

frames abortExec (s : St) (r : Nat) : abortExec s r ~ s =>
  sidx limit ensureLoop throttleAfterRead inflight timers cancelQ cancelRxWaker respQ readFused done dropped
  poisoned t rqWaiters rqAssigned rqAvail nextVis
  by (obtain ⟨_, _, h⟩ := abortExec_eq s r; rw [h])

/-- a call of the sink: the transport is set, its new violations and the call are reported, the owner is woken if the transport
says so -/
def sinkCall (s : St) (t' : SimT) (o : Obs) (w : Bool) : St :=
  if w = true then wakeServer (emit (emitViolations { s with t := t' } s.t.violations.length) o)
  else emit (emitViolations { s with t := t' } s.t.violations.length) o

theorem tReady_call (s : St) :
    tReady s = (sinkCall s s.t.pollReady.1 (.tReady (tid s) s.t.pollReady.2.1) s.t.pollReady.2.2, s.t.pollReady.2.1) := rfl
theorem tFlush_call (s : St) :
    tFlush s = (sinkCall s s.t.pollFlush.1 (.tFlush (tid s) s.t.pollFlush.2.1) s.t.pollFlush.2.2, s.t.pollFlush.2.1) := rfl
theorem tSend_call (s : St) (m : Msg) :
    tSend s m = (sinkCall s (s.t.startSend m).1 (.tSend (tid s) m (s.t.startSend m).2) false, (s.t.startSend m).2) := rfl

theorem sinkCall_obs (s : St) (t' : SimT) (o : Obs) (w : Bool) :
    ∃ vs wk, (sinkCall s t' o w).obs = wk ++ o :: (vs ++ s.obs) ∧ (∀ x ∈ vs, ∃ ep m, x = .tViolation ep m) ∧
      (wk = [] ∨ ∃ t, wk = [.wake t]) := by
  have hv : ∀ (l : List String) (a : St), ∃ vs, (l.foldl (fun s w => emit s (.tViolation (tid s) w)) a).obs = vs ++ a.obs ∧
      ∀ x ∈ vs, ∃ ep m, x = .tViolation ep m := by
    intro l
    induction l with
    | nil => exact fun a => ⟨[], rfl, fun _ h => by cases h⟩
    | cons v l ih =>
      intro a
      obtain ⟨vs, h1, h2⟩ := ih (emit a (.tViolation (tid a) v))
      exact ⟨vs ++ [.tViolation (tid a) v], by rw [List.foldl_cons, h1, List.append_assoc]; rfl, fun x hx => by
        rcases List.mem_append.mp hx with hx | hx
        · exact h2 x hx
        · exact ⟨_, _, List.mem_singleton.mp hx⟩⟩
  obtain ⟨vs, h1, h2⟩ := hv _ { s with t := t' }
  unfold sinkCall emitViolations
  cases w with
  | false => exact ⟨vs, [], by rw [if_neg (by simp)]; show _ :: _ = _; rw [h1]; rfl, h2, .inl rfl⟩
  | true =>
    rw [if_pos rfl]
    unfold wakeServer
    split
    · exact ⟨vs, [], by show _ :: _ = _; rw [h1]; rfl, h2, .inl rfl⟩
    · exact ⟨vs, [.wake _], by show _ :: _ :: _ = _; rw [h1]; rfl, h2, .inr ⟨_, rfl⟩⟩

theorem tReady_t (s : St) : (tReady s).1.t = s.t.pollReady.1 := by
  unfold tReady
  simp only
  split <;> simp

theorem tReady_res (s : St) : (tReady s).2 = s.t.pollReady.2.1 := by
  unfold tReady
  simp

theorem tReady_eq (s : St) : ∃ t o w, (tReady s).1 = { s with t := t, obs := o, woken := w } := by
  unfold tReady
  rcases s.t.pollReady with ⟨t, r, w⟩
  obtain ⟨o, h⟩ := emitViolations_eq { s with t := t } s.t.violations.length
  simp only [h]
  cases w
  · exact ⟨t, _, s.woken, rfl⟩
  · obtain ⟨w', o', h'⟩ := wakeServer_eq (emit { s with t := t, obs := o } (.tReady (tid s) r))
    exact ⟨t, o', w', h'⟩

frames tReady (s : St) : (tReady s).1 ~ s =>
  sidx limit ensureLoop throttleAfterRead inflight timers cancelQ cancelRxWaker respQ readFused execs done dropped
  poisoned rqWaiters rqAssigned rqAvail nextVis
  by (obtain ⟨_, _, _, h⟩ := tReady_eq s; rw [h])

theorem tFlush_t (s : St) : (tFlush s).1.t = s.t.pollFlush.1 := by
  unfold tFlush
  simp only
  split <;> simp

theorem tFlush_res (s : St) : (tFlush s).2 = s.t.pollFlush.2.1 := by
  unfold tFlush
  simp

theorem tFlush_eq (s : St) : ∃ t o w, (tFlush s).1 = { s with t := t, obs := o, woken := w } := by
  unfold tFlush
  rcases s.t.pollFlush with ⟨t, r, w⟩
  obtain ⟨o, h⟩ := emitViolations_eq { s with t := t } s.t.violations.length
  simp only [h]
  cases w
  · exact ⟨t, _, s.woken, rfl⟩
  · obtain ⟨w', o', h'⟩ := wakeServer_eq (emit { s with t := t, obs := o } (.tFlush (tid s) r))
    exact ⟨t, o', w', h'⟩

frames tFlush (s : St) : (tFlush s).1 ~ s =>
  sidx limit ensureLoop throttleAfterRead inflight timers cancelQ cancelRxWaker respQ readFused execs done dropped
  poisoned rqWaiters rqAssigned rqAvail nextVis
  by (obtain ⟨_, _, _, h⟩ := tFlush_eq s; rw [h])

theorem tSend_t (s : St) (m : Msg) : (tSend s m).1.t = (s.t.startSend m).1 := by
  unfold tSend
  simp

theorem tSend_res (s : St) (m : Msg) : (tSend s m).2 = (s.t.startSend m).2 := by
  unfold tSend
  simp

theorem tSend_eq (s : St) (m : Msg) : ∃ t o, (tSend s m).1 = { s with t := t, obs := o } := by
  unfold tSend
  rcases s.t.startSend m with ⟨t, ok⟩
  obtain ⟨o, h⟩ := emitViolations_eq { s with t := t } s.t.violations.length
  simp only [h]
  exact ⟨t, _, rfl⟩

frames tSend (s : St) (m : Msg) : (tSend s m).1 ~ s =>
  sidx limit ensureLoop throttleAfterRead inflight timers cancelQ cancelRxWaker respQ readFused execs done dropped
  poisoned rqWaiters rqAssigned rqAvail nextVis
  by (obtain ⟨_, _, h⟩ := tSend_eq s m; rw [h])

theorem tNext_t (s : St) : (tNext s).1.t = if s.readFused then s.t else s.t.pollNext.1 := by
  unfold tNext
  split
  · rfl
  · simp only; split <;> simp

theorem tNext_obs (s : St) :
    (tNext s).1.obs = if s.readFused then s.obs else .tNext (tid s) s.t.pollNext.2 :: s.obs := by
  unfold tNext
  split
  · rfl
  · dsimp only; split <;> rfl

theorem tNext_fused_eq (s : St) (h : s.readFused = true) : tNext s = (s, .eof) := by
  unfold tNext; simp [h]

theorem tNext_res (s : St) : (tNext s).2 = if s.readFused then .eof else s.t.pollNext.2 := by
  unfold tNext
  split <;> simp

theorem tNext_eq (s : St) : ∃ t o f, (tNext s).1 = { s with t := t, obs := o, readFused := f } := by
  unfold tNext
  split
  · exact ⟨s.t, s.obs, s.readFused, rfl⟩
  · rcases s.t.pollNext with ⟨t, r⟩
    simp only []
    split
    · exact ⟨t, _, true, rfl⟩
    · exact ⟨t, _, s.readFused, rfl⟩

frames tNext (s : St) : (tNext s).1 ~ s =>
  sidx limit ensureLoop throttleAfterRead inflight timers cancelQ cancelRxWaker respQ execs done dropped
  poisoned rqWaiters rqAssigned rqAvail nextVis
  by (obtain ⟨_, _, _, h⟩ := tNext_eq s; rw [h])

theorem tNext_wside (s : St) : SimT.wside (tNext s).1.t = SimT.wside s.t := by
  rw [tNext_t]; split
  · rfl
  · exact SimT.wside_pollNext _

theorem removeTimer_eq (s : St) (k : Nat) :
    ∃ q w o p, removeTimer s k = { s with timers := q, woken := w, obs := o, poisoned := p } := by
  unfold removeTimer
  split
  · next q woke _ =>
    simp only []
    split
    · obtain ⟨w, o, h⟩ := wakeServer_eq { s with timers := q }
      exact ⟨q, w, o, s.poisoned, h⟩
    · exact ⟨q, s.woken, s.obs, s.poisoned, rfl⟩
  · exact ⟨s.timers, s.woken, _, true, rfl⟩

frames removeTimer (s : St) (k : Nat) : removeTimer s k ~ s =>
  sidx limit ensureLoop throttleAfterRead inflight cancelQ cancelRxWaker respQ readFused execs done dropped
  t rqWaiters rqAssigned rqAvail nextVis
  by (obtain ⟨_, _, _, _, h⟩ := removeTimer_eq s k; rw [h])

theorem removeRequest_eq (s : St) (id : Nat) :
    ∃ l q w o p, (removeRequest s id).1 = { s with inflight := l, timers := q, woken := w, obs := o, poisoned := p } := by
  unfold removeRequest
  split
  · exact ⟨s.inflight, s.timers, s.woken, s.obs, s.poisoned, rfl⟩
  · next e _ =>
    obtain ⟨q, w, o, p, h⟩ := removeTimer_eq { s with inflight := s.inflight.filter (·.id != id) } e.timerKey
    exact ⟨_, q, w, o, p, h⟩

frames removeRequest (s : St) (id : Nat) : (removeRequest s id).1 ~ s =>
  sidx limit ensureLoop throttleAfterRead cancelQ cancelRxWaker respQ readFused execs done dropped
  t rqWaiters rqAssigned rqAvail nextVis
  by (obtain ⟨_, _, _, _, _, h⟩ := removeRequest_eq s id; rw [h])

theorem cancelRequest_eq (s : St) (id : Nat) :
    ∃ l es q w o p, (cancelRequest s id).1 =
      { s with inflight := l, execs := es, timers := q, woken := w, obs := o, poisoned := p } := by
  unfold cancelRequest
  split
  · exact ⟨s.inflight, s.execs, s.timers, s.woken, s.obs, s.poisoned, rfl⟩
  · next e _ =>
    simp only []
    obtain ⟨es, o1, h1⟩ := abortExec_eq { s with inflight := s.inflight.filter (·.id != id) } e.rid
    rw [h1]
    obtain ⟨q, w, o, p, h⟩ := removeTimer_eq
      { s with inflight := s.inflight.filter (·.id != id), execs := es, obs := o1 } e.timerKey
    exact ⟨_, es, q, w, o, p, h⟩

frames cancelRequest (s : St) (id : Nat) : (cancelRequest s id).1 ~ s =>
  sidx limit ensureLoop throttleAfterRead cancelQ cancelRxWaker respQ readFused done dropped
  t rqWaiters rqAssigned rqAvail nextVis
  by (obtain ⟨_, _, _, _, _, _, h⟩ := cancelRequest_eq s id; rw [h])

/-! #### what `poll_expired` (`Lemmas/ServerExpire.lean`) and `start_request` leave alone -/

frames expireStep (s : St) (now : Nat) : (expireStep s now).1 ~ s =>
  sidx limit ensureLoop throttleAfterRead cancelQ cancelRxWaker respQ readFused done dropped
  t rqWaiters rqAssigned rqAvail nextVis
  by (have h := expireStep_out s now; revert h; generalize expireStep s now = p; intro h; obtain ⟨s', r⟩ := p;
      dsimp only at h ⊢; cases h <;> (try simp) <;> (rename_i hr; have := rearm_frame hr; cases this; assumption))

/-- the fields `poll_expired` never touches -/
structure ExpFrame (s s' : St) : Prop where
  sidx : s'.sidx = s.sidx
  limit : s'.limit = s.limit
  ensureLoop : s'.ensureLoop = s.ensureLoop
  throttleAfterRead : s'.throttleAfterRead = s.throttleAfterRead
  cancelQ : s'.cancelQ = s.cancelQ
  cancelRxWaker : s'.cancelRxWaker = s.cancelRxWaker
  respQ : s'.respQ = s.respQ
  readFused : s'.readFused = s.readFused
  done : s'.done = s.done
  dropped : s'.dropped = s.dropped
  t : s'.t = s.t
  rqWaiters : s'.rqWaiters = s.rqWaiters
  rqAssigned : s'.rqAssigned = s.rqAssigned
  rqAvail : s'.rqAvail = s.rqAvail
  nextVis : s'.nextVis = s.nextVis

theorem pollExpired_frame (s : St) (now : Nat) : ExpFrame s (pollExpired s now).1 := by
  refine pollExpired_ind (P := ExpFrame s) now (fun s1 h => ?_) (fun s1 h => ?_) s ?_
  · obtain ⟨h0, h1, h2, h3, h4, h5, h6, h7, h8, h9, h10, h11, h12, h13, h14⟩ := h
    constructor <;> simp [*]
  · obtain ⟨h0, h1, h2, h3, h4, h5, h6, h7, h8, h9, h10, h11, h12, h13, h14⟩ := h
    constructor <;> simp [*]
  · constructor <;> rfl

frames pollExpired (s : St) (now : Nat) : (pollExpired s now).1 ~ s =>
  sidx limit ensureLoop throttleAfterRead cancelQ cancelRxWaker respQ readFused done dropped t rqWaiters rqAssigned rqAvail nextVis
  by (have h := pollExpired_frame s now; cases h; assumption)

theorem removeTimer_out (s : St) (k : Nat) :
    (s.timers.remove k = none ∧
      removeTimer s k = emit { s with poisoned := true } (.panic (tid s) "deadlines.remove: invalid key"))
    ∨ ∃ q w, s.timers.remove k = some (q, w) ∧
        removeTimer s k = if w = true then wakeServer { s with timers := q } else { s with timers := q } := by
  unfold removeTimer
  cases h : s.timers.remove k with
  | none => exact .inl ⟨rfl, rfl⟩
  | some qw => exact .inr ⟨qw.1, qw.2, rfl, rfl⟩

theorem removeRequest_out (s : St) (id : Nat) :
    (findEntry s id = none ∧ removeRequest s id = (s, false))
    ∨ (∃ e, findEntry s id = some e ∧
        removeRequest s id =
          (removeTimer { s with inflight := s.inflight.filter (·.id != id) } e.timerKey, true)) := by
  unfold removeRequest
  split
  · left; exact ⟨by assumption, rfl⟩
  · right; exact ⟨_, by assumption, rfl⟩

theorem cancelRequest_out (s : St) (id : Nat) :
    (findEntry s id = none ∧ cancelRequest s id = (s, false))
    ∨ (∃ e, findEntry s id = some e ∧
        cancelRequest s id =
          (removeTimer (abortExec { s with inflight := s.inflight.filter (·.id != id) } e.rid) e.timerKey, true)) := by
  unfold cancelRequest
  split
  · left; exact ⟨by assumption, rfl⟩
  · right; exact ⟨_, by assumption, rfl⟩

theorem startRequest_eq (s : St) (now id d : Nat) (tr : Trace) (b : Nat) :
    ∃ q nf l es w o p, (startRequest s now id d tr b).1 =
      { s with timers := q, nextFresh := nf, inflight := l, execs := es, woken := w, obs := o, poisoned := p } := by
  unfold startRequest
  split
  · exact ⟨s.timers, s.nextFresh, s.inflight, s.execs, s.woken, s.obs, s.poisoned, rfl⟩
  · generalize s.timers.insert now (clampTimeout (d - now)) id = r
    rcases r with ⟨q, res, w⟩
    cases res with
    | panic => exact ⟨s.timers, s.nextFresh, s.inflight, s.execs, s.woken, _, true, rfl⟩
    | ok key =>
      cases w
      · exact ⟨q, _, _, _, s.woken, s.obs, s.poisoned, rfl⟩
      · obtain ⟨w', o', h⟩ := wakeServer_eq s
        simp only [if_true, h]
        exact ⟨q, _, _, _, w', o', s.poisoned, rfl⟩

frames startRequest (s : St) (now id d : Nat) (tr : Trace) (b : Nat) : (startRequest s now id d tr b).1 ~ s =>
  sidx limit ensureLoop throttleAfterRead cancelQ cancelRxWaker respQ readFused done dropped
  t rqWaiters rqAssigned rqAvail nextVis
  by (obtain ⟨_, _, _, _, _, _, _, h⟩ := startRequest_eq s now id d tr b; rw [h])

theorem liftT_eq (s : St) (r : SimT × Bool) : ∃ w o, liftT s r = { s with t := r.1, woken := w, obs := o } := by
  unfold liftT
  cases r.2
  · exact ⟨s.woken, s.obs, rfl⟩
  · obtain ⟨w, o, h⟩ := wakeServer_eq { s with t := r.1 }
    exact ⟨w, o, h⟩

theorem onAdvance_eq (s : St) (n : Nat) : ∃ q w o, onAdvance s n = { s with timers := q, woken := w, obs := o } := by
  unfold onAdvance
  split
  · split
    · obtain ⟨w, o, h⟩ := wakeServer_eq { s with timers := { s.timers with waker := false } }
      exact ⟨_, w, o, h⟩
    · exact ⟨s.timers, s.woken, s.obs, rfl⟩
  · exact ⟨s.timers, s.woken, s.obs, rfl⟩

theorem dropOffered_eq (s : St) (rid id : Nat) :
    ∃ es cq cw w o, dropOffered s rid id = { s with execs := es, cancelQ := cq, cancelRxWaker := cw, woken := w, obs := o } := by
  unfold dropOffered
  simp only
  split
  · obtain ⟨w, o, h⟩ := wakeServer_eq
      { updExec s rid (fun e => { e with phase := .gone, guardArmed := false, woken := false }) with
        cancelQ := s.cancelQ ++ [id], cancelRxWaker := false }
    exact ⟨_, _, false, w, o, h⟩
  · exact ⟨_, _, s.cancelRxWaker, s.woken, s.obs, rfl⟩

/-! ## `basePollNext`, staged -/

def bpCancel (s : St) : St × RStatus :=
  match s.cancelQ with
  | id :: rest => ((removeRequest { s with cancelQ := rest } id).1, RStatus.ready)
  | [] => ({ s with cancelRxWaker := true }, RStatus.closed)

theorem bpCancel_out (s : St) :
    (∃ id rest, s.cancelQ = id :: rest ∧ bpCancel s = ((removeRequest { s with cancelQ := rest } id).1, .ready))
    ∨ (s.cancelQ = [] ∧ bpCancel s = ({ s with cancelRxWaker := true }, .closed)) := by
  unfold bpCancel
  cases h : s.cancelQ with
  | nil => exact .inr ⟨rfl, rfl⟩
  | cons id rest => exact .inl ⟨id, rest, rfl, rfl⟩

def expStatus : ExpRes → RStatus
  | .ready => .ready | .closed => .closed | .pending => .pending

def bpOther (s : St) : NextRes → St × RStatus
  | .item (.cancel id _) => ((cancelRequest s id).1, RStatus.ready)
  | .item _ => (s, RStatus.ready)
  | .eof => (s, RStatus.closed)
  | _ => (s, RStatus.pending)

def bp2 (s : St) (now : Nat) : St := (pollExpired (bpCancel s).1 now).1
def bp3 (s : St) (now : Nat) : St := (tNext (bp2 s now)).1
def bpNx (s : St) (now : Nat) : NextRes := (tNext (bp2 s now)).2
def bpSt (s : St) (now : Nat) : RStatus :=
  combine (combine (bpCancel s).2 (expStatus (pollExpired (bpCancel s).1 now).2)) (bpOther (bp3 s now) (bpNx s now)).2

/-- one iteration of `basePollNext`; `none` = go round again -/
def bpStep (s : St) (now : Nat) : St × Option (SPoll Exec) :=
  if (bp2 s now).poisoned then (bp2 s now, some .spin) else
  match bpNx s now with
  | .err => (bp3 s now, some (.err .read))
  | .item (.request id d tr b) =>
      match (startRequest (bp3 s now) now id d tr b).2 with
      | some ex => ((startRequest (bp3 s now) now id d tr b).1, some (.some ex))
      | none =>
          if (startRequest (bp3 s now) now id d tr b).1.poisoned then ((startRequest (bp3 s now) now id d tr b).1, some .spin)
          else ((startRequest (bp3 s now) now id d tr b).1, none)
  | nx =>
      if (bpOther (bp3 s now) nx).1.poisoned then ((bpOther (bp3 s now) nx).1, some .spin) else
      match combine (combine (bpCancel s).2 (expStatus (pollExpired (bpCancel s).1 now).2)) (bpOther (bp3 s now) nx).2 with
      | .ready => ((bpOther (bp3 s now) nx).1, none)
      | .closed => ((bpOther (bp3 s now) nx).1, some .none)
      | .pending => ((bpOther (bp3 s now) nx).1, some .pending)

inductive BpOut (s : St) (now : Nat) : St × Option (SPoll Exec) → Prop
  | poisoned2 : (bp2 s now).poisoned = true → BpOut s now (bp2 s now, some .spin)
  | readErr : (bp2 s now).poisoned = false → bpNx s now = .err → BpOut s now (bp3 s now, some (.err .read))
  | started (id d : Nat) (tr : Trace) (b : Nat) (ex : Exec) : (bp2 s now).poisoned = false →
      bpNx s now = .item (.request id d tr b) → (startRequest (bp3 s now) now id d tr b).2 = some ex →
      BpOut s now ((startRequest (bp3 s now) now id d tr b).1, some (.some ex))
  | startPanic (id d : Nat) (tr : Trace) (b : Nat) : (bp2 s now).poisoned = false →
      bpNx s now = .item (.request id d tr b) → (startRequest (bp3 s now) now id d tr b).2 = none →
      (startRequest (bp3 s now) now id d tr b).1.poisoned = true →
      BpOut s now ((startRequest (bp3 s now) now id d tr b).1, some .spin)
  | duplicate (id d : Nat) (tr : Trace) (b : Nat) : (bp2 s now).poisoned = false →
      bpNx s now = .item (.request id d tr b) → (startRequest (bp3 s now) now id d tr b).2 = none →
      (startRequest (bp3 s now) now id d tr b).1.poisoned = false →
      BpOut s now ((startRequest (bp3 s now) now id d tr b).1, none)
  | otherPoisoned : (bp2 s now).poisoned = false → bpNx s now ≠ .err →
      (∀ id d tr b, bpNx s now ≠ .item (.request id d tr b)) →
      (bpOther (bp3 s now) (bpNx s now)).1.poisoned = true →
      BpOut s now ((bpOther (bp3 s now) (bpNx s now)).1, some .spin)
  | again : (bp2 s now).poisoned = false → bpNx s now ≠ .err →
      (∀ id d tr b, bpNx s now ≠ .item (.request id d tr b)) →
      (bpOther (bp3 s now) (bpNx s now)).1.poisoned = false → bpSt s now = .ready →
      BpOut s now ((bpOther (bp3 s now) (bpNx s now)).1, none)
  | closed : (bp2 s now).poisoned = false → bpNx s now ≠ .err →
      (∀ id d tr b, bpNx s now ≠ .item (.request id d tr b)) →
      (bpOther (bp3 s now) (bpNx s now)).1.poisoned = false → bpSt s now = .closed →
      BpOut s now ((bpOther (bp3 s now) (bpNx s now)).1, some .none)
  | pending : (bp2 s now).poisoned = false → bpNx s now ≠ .err →
      (∀ id d tr b, bpNx s now ≠ .item (.request id d tr b)) →
      (bpOther (bp3 s now) (bpNx s now)).1.poisoned = false → bpSt s now = .pending →
      BpOut s now ((bpOther (bp3 s now) (bpNx s now)).1, some .pending)

theorem bpStep_out (s : St) (now : Nat) : BpOut s now (bpStep s now) := by
  unfold bpStep
  by_cases hp : (bp2 s now).poisoned = true
  · rw [if_pos hp]; exact .poisoned2 hp
  · rw [if_neg hp]
    have hp' : (bp2 s now).poisoned = false := by simpa using hp
    split
    · next heq => exact .readErr hp' heq
    · next id d tr b heq =>
      split
      · next ex hs => exact .started id d tr b ex hp' heq hs
      · next hs =>
        split
        · next hpo => exact .startPanic id d tr b hp' heq hs hpo
        · next hpo => exact .duplicate id d tr b hp' heq hs (by simpa using hpo)
    · next nx hn1 hn2 =>
      split
      · next hpo => exact .otherPoisoned hp' hn1 hn2 hpo
      · next hpo =>
        have hpo' : (bpOther (bp3 s now) (bpNx s now)).1.poisoned = false := by simpa using hpo
        split
        · next hc => exact .again hp' hn1 hn2 hpo' hc
        · next hc => exact .closed hp' hn1 hn2 hpo' hc
        · next hc => exact .pending hp' hn1 hn2 hpo' hc

theorem basePollNext_succ (fuel : Nat) (s : St) (now : Nat) :
    basePollNext (fuel + 1) s now =
      match bpStep s now with
      | (s', some r) => (s', r)
      | (s', none) => basePollNext fuel s' now := by
  rw [basePollNext]
  unfold bpStep bp3 bpNx bp2 bpCancel
  cases hq : s.cancelQ
  all_goals
    dsimp only
    generalize pollExpired _ now = p
    rcases p with ⟨s2, e⟩
    dsimp only
    by_cases hpo : s2.poisoned = true
    · simp [hpo]
    · simp only [hpo]
      rcases hn : tNext s2 with ⟨s3, nx⟩
      cases nx with
      | err => simp
      | pending => by_cases hp3 : s3.poisoned = true <;> cases e <;> simp [bpOther, expStatus, combine, hp3]
      | eof => by_cases hp3 : s3.poisoned = true <;> cases e <;> simp [bpOther, expStatus, combine, hp3]
      | item m =>
        cases m with
        | request id d tr b =>
          simp only
          rcases hs : startRequest s3 now id d tr b with ⟨s4, r⟩
          cases r <;> simp
          split <;> simp
        | cancel id tr =>
          by_cases hp3 : (cancelRequest s3 id).fst.poisoned = true <;> cases e <;>
            simp [bpOther, expStatus, combine, hp3]
        | response id r => by_cases hp3 : s3.poisoned = true <;> cases e <;> simp [bpOther, expStatus, combine, hp3]

theorem basePollNext_zero (s : St) (now : Nat) : basePollNext 0 s now = (emit s (.spin (tid s)), .spin) := rfl

theorem basePollNext_iter (now n : Nat) (s s' : St) (o : Option (SPoll Exec)) (h : bpStep s now = (s', o)) :
    basePollNext (n + 1) s now = o.elim (basePollNext n s' now) fun r => (s', r) := by
  rw [basePollNext_succ, h]; cases o <;> rfl

theorem basePollNext_loop {now : Nat} {I : St → Prop} {Φ : St → SPoll Exec → Prop}
    (hstep : ∀ s, I s → IterSpec I Φ (bpStep s now)) (hspin : ∀ s, I s → Φ (emit s (.spin (tid s))) .spin) :
    ∀ (fuel : Nat) (s : St), I s → Φ (basePollNext fuel s now).1 (basePollNext fuel s now).2 :=
  fuel_loop (loop := fun n s => basePollNext n s now) (step := fun s => bpStep s now) (basePollNext_iter now)
    (I := fun _ => I) (fun _ => hstep) hspin

theorem basePollNext_ind (P : St → Prop) (now : Nat) (hstep : ∀ s, P s → P (bpStep s now).1)
    (hspin : ∀ s, P s → P (emit s (.spin (tid s)))) : ∀ fuel s, P s → P (basePollNext fuel s now).1 :=
  basePollNext_loop (Φ := fun s _ => P s) (fun s h => .const (hstep s h)) hspin

/-! ## a closure principle for state invariants -/

/-- every observation except the two that poison the model -/
def Quiet : Obs → Prop
  | .spin _ => False
  | .panic _ _ => False
  | _ => True

/-- `s'` differs from `s` only in bookkeeping the table / timer / execution invariants do not
mention: the queues between the tasks, wakers, `nextVis`. -/
structure Inert (s s' : St) : Prop where
  sidx : s'.sidx = s.sidx
  limit : s'.limit = s.limit
  ensureLoop : s'.ensureLoop = s.ensureLoop
  throttleAfterRead : s'.throttleAfterRead = s.throttleAfterRead
  inflight : s'.inflight = s.inflight
  timers : s'.timers = s.timers
  execs : s'.execs = s.execs
  nextFresh : s'.nextFresh = s.nextFresh
  done : s'.done = s.done
  dropped : s'.dropped = s.dropped
  poisoned : s'.poisoned = s.poisoned
  obs : s'.obs = s.obs
  t : s'.t = s.t
  readFused : s'.readFused = s.readFused

/-- the updates the model applies to an execution outside `abortExec` -/
def Stable (f : Exec → Exec) : Prop :=
  ∀ e, (f e).rid = e.rid ∧ (f e).id = e.id ∧ (f e).deadline = e.deadline ∧ (f e).aborted = e.aborted

/-- closure under what the execution-side operations (`pollExec`, `dropExec`, `finishHandler`) do -/
structure ExecClosed (P : St → Prop) : Prop where
  inert : ∀ s s', Inert s s' → P s → P s'
  emit : ∀ s o, Quiet o → P s → P (emit s o)
  upd : ∀ s r f, Stable f → P s → P (updExec s r f)

/-- closure under the steps of the channel / `Requests` pumps at clock `now` -/
structure StepClosed (now : Nat) (P : St → Prop) : Prop extends ExecClosed P where
  setT : ∀ s t, P s → P { s with t := t }
  setFused : ∀ s, P s → P { s with readFused := true }
  removeReq : ∀ s id, P s → P (removeRequest s id).1
  cancel : ∀ s id tr, P s → (tNext s).2 = .item (.cancel id tr) → P (cancelRequest (tNext s).1 id).1
  expire : ∀ s, P s → P (pollExpired s now).1
  start : ∀ s id d tr b, P s → P (startRequest s now id d tr b).1
  timerWaker : ∀ s b, P s → P { s with timers := { s.timers with waker := b } }

/-- … and under the out-of-fuel exit of the model's loops: enough for `requestsPollNext` -/
structure LoopClosed (now : Nat) (P : St → Prop) : Prop extends StepClosed now P where
  spin : ∀ s, P s → P (Server.emit s (.spin (tid s)))

/-- What a state predicate must be closed under to be an invariant of every server operation at
clock `now`. -/
structure PrimClosed (now : Nat) (P : St → Prop) : Prop extends LoopClosed now P where
  spunReset : ∀ s0 s, P s0 → P s → P { s with obs := .spin (tid s) :: s0.obs, poisoned := true }
  setDone : ∀ s r, P s → P { s with done := some r }
  drop : ∀ s, P s → P (dropServer s)

theorem LoopClosed.and {now : Nat} {P Q : St → Prop} (hp : LoopClosed now P) (hq : LoopClosed now Q) :
    LoopClosed now (fun s => P s ∧ Q s) where
  inert := fun s s' hi h => ⟨hp.inert s s' hi h.1, hq.inert s s' hi h.2⟩
  emit := fun s o ho h => ⟨hp.emit s o ho h.1, hq.emit s o ho h.2⟩
  upd := fun s r f hf h => ⟨hp.upd s r f hf h.1, hq.upd s r f hf h.2⟩
  setT := fun s t h => ⟨hp.setT s t h.1, hq.setT s t h.2⟩
  setFused := fun s h => ⟨hp.setFused s h.1, hq.setFused s h.2⟩
  removeReq := fun s id h => ⟨hp.removeReq s id h.1, hq.removeReq s id h.2⟩
  cancel := fun s id tr h hr => ⟨hp.cancel s id tr h.1 hr, hq.cancel s id tr h.2 hr⟩
  expire := fun s h => ⟨hp.expire s h.1, hq.expire s h.2⟩
  start := fun s id d tr b h => ⟨hp.start s id d tr b h.1, hq.start s id d tr b h.2⟩
  timerWaker := fun s b h => ⟨hp.timerWaker s b h.1, hq.timerWaker s b h.2⟩
  spin := fun s h => ⟨hp.spin s h.1, hq.spin s h.2⟩

theorem LoopClosed.true (now : Nat) : LoopClosed now (fun _ => True) where
  inert := fun _ _ _ _ => trivial
  emit := fun _ _ _ _ => trivial
  upd := fun _ _ _ _ _ => trivial
  setT := fun _ _ _ => trivial
  setFused := fun _ _ => trivial
  removeReq := fun _ _ _ => trivial
  cancel := fun _ _ _ _ _ => trivial
  expire := fun _ _ => trivial
  start := fun _ _ _ _ _ _ => trivial
  timerWaker := fun _ _ _ => trivial
  spin := fun _ _ => trivial

/-- what the execution-side operations and the wake-ups emit -/
def ExecObs : Obs → Prop
  | .noop | .ret _ _ | .handler _ _ _ | .wake _ => True
  | _ => False

variable {now : Nat} {P : St → Prop}

def fixedPre (limit : Nat) (s : St) : St × Option (SPoll Exec) :=
  if decide (s.inflight.length ≥ limit) then
    match tReady s with
    | (s, .pending) => (s, some .pending)
    | (s, .err) => (s, some (.err .ready))
    | (s, .ready) => (s, none)
  else (s, none)

theorem limitedPollNextFixed_unfold (limit fuel : Nat) (s : St) (now : Nat) :
    limitedPollNextFixed limit (fuel + 1) s now =
      match fixedPre limit s with
      | (s, some r) => (s, r)
      | (s, none) =>
          match basePollNext (baseFuel s) s now with
          | (s, .some ex) =>
              if s.inflight.length > limit then
                match baseStartSend s ex.id (.err throttleKindIdx) with
                | (s, some false) => (s, .err .write)
                | (s, _) =>
                    limitedPollNextFixed limit fuel (updExec s ex.rid (fun e => { e with phase := .gone, woken := false })) now
              else (s, .some ex)
          | r => r := by
  rw [limitedPollNextFixed]; rfl

/-! ### the limiter: `llStep` / `lfStep` are one iteration of `limitedPollNextLegacy` / `limitedPollNextFixed` (`none` = the
request was refused, go round again) -/

def llStep (limit : Nat) (s : St) (now : Nat) : St × Option (SPoll Exec) :=
  if s.inflight.length ≥ limit then
    match tReady s with
    | (s, .pending) => (s, some .pending)
    | (s, .err) => (s, some (.err .ready))
    | (s, .ready) =>
        match basePollNext (baseFuel s) s now with
        | (s, .some ex) =>
            match baseStartSend s ex.id (.err throttleKindIdx) with
            | (s, some false) => (s, some (.err .write))
            | (s, _) => (limitedPollNextLegacy.markThrottled s ex.rid, none)
        | r => (r.1, some r.2)
  else ((basePollNext (baseFuel s) s now).1, some (basePollNext (baseFuel s) s now).2)

theorem limitedPollNextLegacy_succ (limit fuel : Nat) (s : St) (now : Nat) :
    limitedPollNextLegacy limit (fuel + 1) s now =
      match llStep limit s now with
      | (s', some r) => (s', r)
      | (s', none) => limitedPollNextLegacy limit fuel s' now := by
  rw [limitedPollNextLegacy]
  unfold llStep
  by_cases hl : s.inflight.length ≥ limit
  · rw [if_pos hl, if_pos hl]
    generalize tReady s = p
    obtain ⟨s1, r1⟩ := p
    cases r1 with
    | pending => rfl
    | err => rfl
    | ready =>
      dsimp only
      generalize basePollNext (baseFuel s1) s1 now = p
      obtain ⟨s2, r2⟩ := p
      cases r2 with
      | some ex =>
        dsimp only
        generalize baseStartSend s2 ex.id (.err throttleKindIdx) = p
        obtain ⟨s3, o⟩ := p
        cases o with
        | none => rfl
        | some b => cases b <;> rfl
      | _ => rfl
  · rw [if_neg hl, if_neg hl]

inductive LlOut (limit : Nat) (s : St) (now : Nat) : St × Option (SPoll Exec) → Prop
  | below (hl : ¬ s.inflight.length ≥ limit) :
      LlOut limit s now ((basePollNext (baseFuel s) s now).1, some (basePollNext (baseFuel s) s now).2)
  | pending (hl : s.inflight.length ≥ limit) (he : (tReady s).2 = .pending) : LlOut limit s now ((tReady s).1, some .pending)
  | readyErr (hl : s.inflight.length ≥ limit) (he : (tReady s).2 = .err) : LlOut limit s now ((tReady s).1, some (.err .ready))
  | through (hl : s.inflight.length ≥ limit) (he : (tReady s).2 = .ready)
      (hne : ∀ ex, (basePollNext (baseFuel (tReady s).1) (tReady s).1 now).2 ≠ .some ex) :
      LlOut limit s now ((basePollNext (baseFuel (tReady s).1) (tReady s).1 now).1,
        some (basePollNext (baseFuel (tReady s).1) (tReady s).1 now).2)
  | refuseErr (hl : s.inflight.length ≥ limit) (he : (tReady s).2 = .ready) (s2 : St) (ex : Exec)
      (hb : basePollNext (baseFuel (tReady s).1) (tReady s).1 now = (s2, .some ex))
      (hs : (baseStartSend s2 ex.id (.err throttleKindIdx)).2 = some false) :
      LlOut limit s now ((baseStartSend s2 ex.id (.err throttleKindIdx)).1, some (.err .write))
  | refused (hl : s.inflight.length ≥ limit) (he : (tReady s).2 = .ready) (s2 : St) (ex : Exec)
      (hb : basePollNext (baseFuel (tReady s).1) (tReady s).1 now = (s2, .some ex))
      (hs : (baseStartSend s2 ex.id (.err throttleKindIdx)).2 ≠ some false) :
      LlOut limit s now
        (limitedPollNextLegacy.markThrottled (baseStartSend s2 ex.id (.err throttleKindIdx)).1 ex.rid, none)

theorem llStep_out (limit : Nat) (s : St) (now : Nat) : LlOut limit s now (llStep limit s now) := by
  unfold llStep
  by_cases hl : s.inflight.length ≥ limit
  · rw [if_pos hl]
    have key : ∀ p : St × PollRes, tReady s = p →
        LlOut limit s now (match p with
          | (s, .pending) => (s, some .pending)
          | (s, .err) => (s, some (.err .ready))
          | (s, .ready) =>
              match basePollNext (baseFuel s) s now with
              | (s, .some ex) =>
                  match baseStartSend s ex.id (.err throttleKindIdx) with
                  | (s, some false) => (s, some (.err .write))
                  | (s, _) => (limitedPollNextLegacy.markThrottled s ex.rid, none)
              | r => (r.1, some r.2)) := by
      rintro ⟨s1, r1⟩ he
      have e1 : s1 = (tReady s).1 := by rw [he]
      have e2 : r1 = (tReady s).2 := by rw [he]
      cases r1 with
      | pending => rw [e1]; exact .pending hl e2.symm
      | err => rw [e1]; exact .readyErr hl e2.symm
      | ready =>
        dsimp only
        subst e1
        generalize hb : basePollNext (baseFuel (tReady s).1) (tReady s).1 now = q
        obtain ⟨s2, r2⟩ := q
        cases r2 with
        | some ex =>
          dsimp only
          generalize hs : baseStartSend s2 ex.id (.err throttleKindIdx) = q
          obtain ⟨s3, o⟩ := q
          have f1 : s3 = (baseStartSend s2 ex.id (.err throttleKindIdx)).1 := by rw [hs]
          have f2 : o = (baseStartSend s2 ex.id (.err throttleKindIdx)).2 := by rw [hs]
          cases o with
          | none => rw [f1]; exact .refused hl e2.symm s2 ex hb (by rw [← f2]; exact fun h => by cases h)
          | some b =>
            cases b with
            | true => rw [f1]; exact .refused hl e2.symm s2 ex hb (by rw [← f2]; exact fun h => by cases h)
            | false => rw [f1]; exact .refuseErr hl e2.symm s2 ex hb f2.symm
        | pending => have := LlOut.through (limit := limit) hl e2.symm (by rw [hb]; exact fun _ h => by cases h); rwa [hb] at this
        | none => have := LlOut.through (limit := limit) hl e2.symm (by rw [hb]; exact fun _ h => by cases h); rwa [hb] at this
        | err a => have := LlOut.through (limit := limit) hl e2.symm (by rw [hb]; exact fun _ h => by cases h); rwa [hb] at this
        | spin => have := LlOut.through (limit := limit) hl e2.symm (by rw [hb]; exact fun _ h => by cases h); rwa [hb] at this
    exact key _ rfl
  · rw [if_neg hl]; exact .below hl

theorem limitedLegacy_loop {now limit : Nat} {I : Nat → St → Prop} {Φ : St → SPoll Exec → Prop}
    (hstep : ∀ n s, I (n + 1) s → IterSpec (I n) Φ (llStep limit s now))
    (hspin : ∀ s, I 0 s → Φ (emit s (.spin (tid s))) .spin) :
    ∀ (fuel : Nat) (s : St), I fuel s →
      Φ (limitedPollNextLegacy limit fuel s now).1 (limitedPollNextLegacy limit fuel s now).2 :=
  fuel_loop (loop := fun n s => limitedPollNextLegacy limit n s now) (step := fun s => llStep limit s now)
    (fun n s s' o h => by rw [limitedPollNextLegacy_succ, h]; cases o <;> rfl) hstep hspin

def lfStep (limit : Nat) (s : St) (now : Nat) : St × Option (SPoll Exec) :=
  match fixedPre limit s with
  | (s, some r) => (s, some r)
  | (s, none) =>
      match basePollNext (baseFuel s) s now with
      | (s, .some ex) =>
          if s.inflight.length > limit then
            match baseStartSend s ex.id (.err throttleKindIdx) with
            | (s, some false) => (s, some (.err .write))
            | (s, _) => (updExec s ex.rid (fun e => { e with phase := .gone, woken := false }), none)
          else (s, some (.some ex))
      | r => (r.1, some r.2)

theorem limitedPollNextFixed_succ (limit fuel : Nat) (s : St) (now : Nat) :
    limitedPollNextFixed limit (fuel + 1) s now =
      match lfStep limit s now with
      | (s', some r) => (s', r)
      | (s', none) => limitedPollNextFixed limit fuel s' now := by
  rw [limitedPollNextFixed_unfold]
  unfold lfStep
  generalize fixedPre limit s = p
  obtain ⟨s1, o1⟩ := p
  cases o1 with
  | some r => rfl
  | none =>
    dsimp only
    generalize basePollNext (baseFuel s1) s1 now = p
    obtain ⟨s2, r2⟩ := p
    cases r2 with
    | some ex =>
      dsimp only
      by_cases hl : s2.inflight.length > limit
      · rw [if_pos hl, if_pos hl]
        generalize baseStartSend s2 ex.id (.err throttleKindIdx) = p
        obtain ⟨s3, o⟩ := p
        cases o with
        | none => rfl
        | some b => cases b <;> rfl
      · rw [if_neg hl, if_neg hl]
    | _ => rfl

inductive LfOut (limit : Nat) (s : St) (now : Nat) : St × Option (SPoll Exec) → Prop
  | pre (s1 : St) (r : SPoll Exec) (hp : fixedPre limit s = (s1, some r)) : LfOut limit s now (s1, some r)
  | through (s1 : St) (hp : fixedPre limit s = (s1, none)) (hne : ∀ ex, (basePollNext (baseFuel s1) s1 now).2 ≠ .some ex) :
      LfOut limit s now ((basePollNext (baseFuel s1) s1 now).1, some (basePollNext (baseFuel s1) s1 now).2)
  | fits (s1 : St) (hp : fixedPre limit s = (s1, none)) (s2 : St) (ex : Exec)
      (hb : basePollNext (baseFuel s1) s1 now = (s2, .some ex)) (hl : ¬ s2.inflight.length > limit) :
      LfOut limit s now (s2, some (.some ex))
  | refuseErr (s1 : St) (hp : fixedPre limit s = (s1, none)) (s2 : St) (ex : Exec)
      (hb : basePollNext (baseFuel s1) s1 now = (s2, .some ex)) (hl : s2.inflight.length > limit)
      (hs : (baseStartSend s2 ex.id (.err throttleKindIdx)).2 = some false) :
      LfOut limit s now ((baseStartSend s2 ex.id (.err throttleKindIdx)).1, some (.err .write))
  | refused (s1 : St) (hp : fixedPre limit s = (s1, none)) (s2 : St) (ex : Exec)
      (hb : basePollNext (baseFuel s1) s1 now = (s2, .some ex)) (hl : s2.inflight.length > limit)
      (hs : (baseStartSend s2 ex.id (.err throttleKindIdx)).2 ≠ some false) :
      LfOut limit s now
        (updExec (baseStartSend s2 ex.id (.err throttleKindIdx)).1 ex.rid (fun e => { e with phase := .gone, woken := false }), none)

theorem lfStep_out (limit : Nat) (s : St) (now : Nat) : LfOut limit s now (lfStep limit s now) := by
  unfold lfStep
  generalize hp : fixedPre limit s = p
  obtain ⟨s1, o1⟩ := p
  cases o1 with
  | some r => exact .pre s1 r hp
  | none =>
    dsimp only
    generalize hb : basePollNext (baseFuel s1) s1 now = q
    obtain ⟨s2, r2⟩ := q
    cases r2 with
    | some ex =>
      dsimp only
      by_cases hl : s2.inflight.length > limit
      · rw [if_pos hl]
        generalize hs : baseStartSend s2 ex.id (.err throttleKindIdx) = q
        obtain ⟨s3, o⟩ := q
        have f1 : s3 = (baseStartSend s2 ex.id (.err throttleKindIdx)).1 := by rw [hs]
        have f2 : o = (baseStartSend s2 ex.id (.err throttleKindIdx)).2 := by rw [hs]
        cases o with
        | none => rw [f1]; exact .refused s1 hp s2 ex hb hl (by rw [← f2]; exact fun h => by cases h)
        | some b =>
          cases b with
          | true => rw [f1]; exact .refused s1 hp s2 ex hb hl (by rw [← f2]; exact fun h => by cases h)
          | false => rw [f1]; exact .refuseErr s1 hp s2 ex hb hl f2.symm
      · rw [if_neg hl]; exact .fits s1 hp s2 ex hb hl
    | pending => have := LfOut.through (limit := limit) s1 hp (by rw [hb]; exact fun _ h => by cases h); rwa [hb] at this
    | none => have := LfOut.through (limit := limit) s1 hp (by rw [hb]; exact fun _ h => by cases h); rwa [hb] at this
    | err a => have := LfOut.through (limit := limit) s1 hp (by rw [hb]; exact fun _ h => by cases h); rwa [hb] at this
    | spin => have := LfOut.through (limit := limit) s1 hp (by rw [hb]; exact fun _ h => by cases h); rwa [hb] at this

theorem limitedFixed_loop {now limit : Nat} {I : Nat → St → Prop} {Φ : St → SPoll Exec → Prop}
    (hstep : ∀ n s, I (n + 1) s → IterSpec (I n) Φ (lfStep limit s now))
    (hspin : ∀ s, I 0 s → Φ (emit s (.spin (tid s))) .spin) :
    ∀ (fuel : Nat) (s : St), I fuel s →
      Φ (limitedPollNextFixed limit fuel s now).1 (limitedPollNextFixed limit fuel s now).2 :=
  fuel_loop (loop := fun n s => limitedPollNextFixed limit n s now) (step := fun s => lfStep limit s now)
    (fun n s s' o h => by rw [limitedPollNextFixed_succ, h]; cases o <;> rfl) hstep hspin

/-! ### the write pump: `ensure_writeable` as a Hoare rule (`I` before a `poll_ready`, `J` before a `poll_flush`) -/

/-- one round of `ensure_writeable`: `poll_ready`, on `Pending` a `poll_flush`; `none` = the flush made room, poll again -/
def ewStep (s : St) : St × Option EW :=
  match (tReady s).2 with
  | .ready => ((tReady s).1, some .ready)
  | .err => ((tReady s).1, some (.err .ready))
  | .pending =>
      match (tFlush (tReady s).1).2 with
      | .pending => ((tFlush (tReady s).1).1, some .pending)
      | .err => ((tFlush (tReady s).1).1, some (.err .flush))
      | .ready => ((tFlush (tReady s).1).1, none)

theorem ensureLoop_iter (n : Nat) (s s' : St) (o : Option EW) (h : ewStep s = (s', o)) :
    ensureLoop (n + 1) s = o.elim (ensureLoop n s') fun r => (s', r) := by
  rw [← show (ewStep s).1 = s' from congrArg Prod.fst h, ← show (ewStep s).2 = o from congrArg Prod.snd h, ensureLoop]
  unfold ewStep
  generalize tReady s = p1
  obtain ⟨s1, r1⟩ := p1
  cases r1 with
  | pending =>
    dsimp only
    generalize tFlush s1 = p2
    obtain ⟨s2, r2⟩ := p2
    cases r2 <;> rfl
  | _ => rfl

theorem ensureOnce_eq (s : St) :
    ensureOnce s = (ewStep s).2.elim ((tReady (ewStep s).1).1, match (tReady (ewStep s).1).2 with
      | .ready => .ready | .err => .err .ready | .pending => .pending) fun r => ((ewStep s).1, r) := by
  unfold ensureOnce ewStep
  generalize tReady s = p1
  obtain ⟨s1, r1⟩ := p1
  cases r1 with
  | pending =>
    dsimp only
    generalize tFlush s1 = p2
    obtain ⟨s2, r2⟩ := p2
    cases r2 with
    | ready =>
      dsimp only [Option.elim]
      generalize tReady s2 = p3
      obtain ⟨s3, r3⟩ := p3
      cases r3 <;> rfl
    | _ => rfl
  | _ => rfl

/-- what `poll_ready` must establish at `a`, by its result -/
def ReadySpec (J : St → Prop) (Φ : St → EW → Prop) (a : St) : Prop :=
  match (tReady a).2 with
  | .ready => Φ (tReady a).1 .ready
  | .err => Φ (tReady a).1 (.err .ready)
  | .pending => J (tReady a).1 ∧ Φ (tReady a).1 .pending

/-- what `poll_flush` must establish at `a`, by its result -/
def FlushSpec (I : St → Prop) (Φ : St → EW → Prop) (a : St) : Prop :=
  match (tFlush a).2 with
  | .pending => Φ (tFlush a).1 .pending
  | .err => Φ (tFlush a).1 (.err .flush)
  | .ready => I (tFlush a).1

section
variable {I J : St → Prop} {Φ : St → EW → Prop}

theorem ewStep_post (hr : ∀ a, I a → ReadySpec J Φ a) (hf : ∀ a, J a → FlushSpec I Φ a) (s : St) (h : I s) :
    IterSpec I Φ (ewStep s) := by
  unfold ewStep IterSpec
  have h1 := hr s h
  unfold ReadySpec at h1
  generalize tReady s = p at h1 ⊢
  obtain ⟨s1, r1⟩ := p
  cases r1 with
  | ready => exact h1
  | err => exact h1
  | pending =>
    have h2 := hf s1 h1.1
    unfold FlushSpec at h2
    dsimp only at h2 ⊢
    generalize tFlush s1 = p at h2 ⊢
    obtain ⟨s2, r2⟩ := p
    cases r2 <;> exact h2

theorem ensureOnce_post (hr : ∀ a, I a → ReadySpec J Φ a) (hf : ∀ a, J a → FlushSpec I Φ a) (s : St) (h : I s) :
    Φ (ensureOnce s).1 (ensureOnce s).2 := by
  rw [ensureOnce_eq]
  have h1 := ewStep_post hr hf s h
  unfold IterSpec at h1
  generalize ewStep s = q at h1 ⊢
  obtain ⟨s', o⟩ := q
  cases o with
  | some r => exact h1
  | none =>
    have h3 := hr s' h1
    unfold ReadySpec at h3
    dsimp only [Option.elim]
    generalize tReady s' = p at h3 ⊢
    obtain ⟨s3, r3⟩ := p
    cases r3 with
    | ready => exact h3
    | err => exact h3
    | pending => exact h3.2

theorem ensureLoop_post (hr : ∀ a, I a → ReadySpec J Φ a) (hf : ∀ a, J a → FlushSpec I Φ a)
    (hspin : ∀ a, I a → Φ (emit a (.spin (tid a))) .spin) :
    ∀ (fuel : Nat) (s : St), I s → Φ (ensureLoop fuel s).1 (ensureLoop fuel s).2 :=
  fuel_loop (loop := ensureLoop) (step := ewStep) ensureLoop_iter (I := fun _ => I) (fun _ => ewStep_post hr hf) hspin

theorem ensureWriteable_post (hr : ∀ a, I a → ReadySpec J Φ a) (hf : ∀ a, J a → FlushSpec I Φ a)
    (hspin : ∀ a, I a → Φ (emit a (.spin (tid a))) .spin) (s : St) (h : I s) :
    Φ (ensureWriteable s).1 (ensureWriteable s).2 := by
  unfold ensureWriteable
  split
  · exact ensureLoop_post hr hf hspin _ s h
  · exact ensureOnce_post hr hf s h

end

/-- (for what depends on the order of the three calls: `ensureOnce_post` asks of the first `poll_ready → Pending` what the
last owes) -/
inductive EoOut (s : St) : St × EW → Prop
  | ready (h : (tReady s).2 = .ready) : EoOut s ((tReady s).1, .ready)
  | readyErr (h : (tReady s).2 = .err) : EoOut s ((tReady s).1, .err .ready)
  | flushPending (h1 : (tReady s).2 = .pending) (h2 : (tFlush (tReady s).1).2 = .pending) :
      EoOut s ((tFlush (tReady s).1).1, .pending)
  | flushErr (h1 : (tReady s).2 = .pending) (h2 : (tFlush (tReady s).1).2 = .err) :
      EoOut s ((tFlush (tReady s).1).1, .err .flush)
  | ready2 (h1 : (tReady s).2 = .pending) (h2 : (tFlush (tReady s).1).2 = .ready)
      (h3 : (tReady (tFlush (tReady s).1).1).2 = .ready) : EoOut s ((tReady (tFlush (tReady s).1).1).1, .ready)
  | readyErr2 (h1 : (tReady s).2 = .pending) (h2 : (tFlush (tReady s).1).2 = .ready)
      (h3 : (tReady (tFlush (tReady s).1).1).2 = .err) : EoOut s ((tReady (tFlush (tReady s).1).1).1, .err .ready)
  | pending2 (h1 : (tReady s).2 = .pending) (h2 : (tFlush (tReady s).1).2 = .ready)
      (h3 : (tReady (tFlush (tReady s).1).1).2 = .pending) : EoOut s ((tReady (tFlush (tReady s).1).1).1, .pending)

theorem ensureOnce_out (s : St) : EoOut s (ensureOnce s) := by
  unfold ensureOnce
  have a1 := @EoOut.ready s
  have a2 := @EoOut.readyErr s
  have b1 := @EoOut.flushPending s
  have b2 := @EoOut.flushErr s
  have c1 := @EoOut.ready2 s
  have c2 := @EoOut.readyErr2 s
  have c3 := @EoOut.pending2 s
  generalize tReady s = p1 at *
  obtain ⟨s1, r1⟩ := p1
  cases r1 with
  | ready => exact a1 rfl
  | err => exact a2 rfl
  | pending =>
    dsimp only at *
    generalize tFlush s1 = p2 at *
    obtain ⟨s2, r2⟩ := p2
    cases r2 with
    | pending => exact b1 rfl rfl
    | err => exact b2 rfl rfl
    | ready =>
      dsimp only at *
      generalize tReady s2 = p3 at *
      obtain ⟨s3, r3⟩ := p3
      cases r3 with
      | ready => exact c1 rfl rfl rfl
      | err => exact c2 rfl rfl rfl
      | pending => exact c3 rfl rfl rfl

theorem ReadySpec.const (h : P (tReady s).1) : ReadySpec P (fun a _ => P a) s := by
  unfold ReadySpec
  split
  · exact h
  · exact h
  · exact ⟨h, h⟩  -- `Pending`: `J` for the flush that follows, `Φ` if this was the last call

theorem FlushSpec.const (h : P (tFlush s).1) : FlushSpec P (fun a _ => P a) s := by
  unfold FlushSpec; split <;> exact h

theorem ensureOnce_ind (hr : ∀ s, P s → P (tReady s).1) (hf : ∀ s, P s → P (tFlush s).1) (s : St) (h : P s) :
    P (ensureOnce s).1 :=
  ensureOnce_post (Φ := fun a _ => P a) (fun a h => .const (hr a h)) (fun a h => .const (hf a h)) s h

theorem ensureWriteable_ind (hr : ∀ s, P s → P (tReady s).1) (hf : ∀ s, P s → P (tFlush s).1)
    (hspin : ∀ s, P s → P (Server.emit s (.spin (tid s)))) (s : St) (h : P s) : P (ensureWriteable s).1 :=
  ensureWriteable_post (Φ := fun a _ => P a) (fun a h => .const (hr a h)) (fun a h => .const (hf a h)) hspin s h

theorem flushArm_eq (s : St) (rc : Bool) :
    flushArm s rc = ((tFlush s).1, match (tFlush s).2 with
      | .pending => .pending
      | .err => .err .flush
      | .ready => if (rc && (tFlush s).1.inflight.isEmpty) = true then .none else .pending) := by
  unfold flushArm
  generalize tFlush s = p
  obtain ⟨s1, r⟩ := p
  cases r with
  | ready => dsimp only; split <;> rfl
  | pending => rfl
  | err => rfl

theorem flushArm_ind (hf : ∀ s, P s → P (tFlush s).1) (s : St) (rc : Bool) (h : P s) : P (flushArm s rc).1 := by
  rw [flushArm_eq]; exact hf s h

theorem flushArm_res (s : St) (rc : Bool) :
    (flushArm s rc).2 = .pending ∨ (flushArm s rc).2 = .err .flush ∨ (flushArm s rc).2 = .none := by
  rw [flushArm_eq]
  generalize (tFlush s).2 = r
  cases r with
  | ready => dsimp only; split <;> simp
  | _ => simp

theorem flushArm_ne_some (s : St) (rc : Bool) (u : Unit) : (flushArm s rc).2 ≠ .some u := by
  rcases flushArm_res s rc with h | h | h <;> rw [h] <;> nofun

theorem flushArm_ne_spin (s : St) (rc : Bool) : (flushArm s rc).2 ≠ .spin := by
  rcases flushArm_res s rc with h | h | h <;> rw [h] <;> nofun

inductive BsOut (s : St) (id : Nat) (res : Res) : St × Option Bool → Prop
  | untracked (s1 : St) (he : removeRequest s id = (s1, false)) : BsOut s id res (s1, none)
  | sent (s1 : St) (he : removeRequest s id = (s1, true)) :
      BsOut s id res ((tSend s1 (.response id res)).1, some (tSend s1 (.response id res)).2)

theorem baseStartSend_out (s : St) (id : Nat) (res : Res) : BsOut s id res (baseStartSend s id res) := by
  unfold baseStartSend
  generalize he : removeRequest s id = p
  obtain ⟨s1, b⟩ := p
  cases b with
  | false => exact .untracked s1 he
  | true => exact .sent s1 he

inductive PwOut (s : St) (rc : Bool) : St × SPoll Unit → Prop
  | blocked (s1 : St) (he : ensureWriteable s = (s1, .pending)) : PwOut s rc (flushArm s1 rc)
  | err (s1 : St) (a : Activity) (he : ensureWriteable s = (s1, .err a)) : PwOut s rc (s1, .err a)
  | spin (s1 : St) (he : ensureWriteable s = (s1, .spin)) : PwOut s rc (s1, .spin)
  | sent (s1 : St) (id : Nat) (res : Res) (rest : List (Nat × Res)) (he : ensureWriteable s = (s1, .ready))
      (hq : s1.respQ = (id, res) :: rest)
      (hs : (baseStartSend (rqRelease { s1 with respQ := rest }) id res).2 ≠ some false) :
      PwOut s rc ((baseStartSend (rqRelease { s1 with respQ := rest }) id res).1, .some ())
  | sendErr (s1 : St) (id : Nat) (res : Res) (rest : List (Nat × Res)) (he : ensureWriteable s = (s1, .ready))
      (hq : s1.respQ = (id, res) :: rest)
      (hs : (baseStartSend (rqRelease { s1 with respQ := rest }) id res).2 = some false) :
      PwOut s rc ((baseStartSend (rqRelease { s1 with respQ := rest }) id res).1, .err .write)
  | idle (s1 : St) (he : ensureWriteable s = (s1, .ready)) (hq : s1.respQ = []) :
      PwOut s rc (flushArm { s1 with rqRxWaker := true } rc)

theorem pumpWrite_out (s : St) (rc : Bool) : PwOut s rc (pumpWrite s rc) := by
  unfold pumpWrite
  generalize he : ensureWriteable s = p
  obtain ⟨s1, r⟩ := p
  cases r with
  | pending => exact .blocked s1 he
  | err a => exact .err s1 a he
  | spin => exact .spin s1 he
  | ready =>
    dsimp only
    split
    · next id res rest hq =>
      generalize hb : baseStartSend (rqRelease { s1 with respQ := rest }) id res = q
      obtain ⟨s2, o⟩ := q
      have e1 : s2 = (baseStartSend (rqRelease { s1 with respQ := rest }) id res).1 := by rw [hb]
      have e2 : o = (baseStartSend (rqRelease { s1 with respQ := rest }) id res).2 := by rw [hb]
      cases o with
      | none => rw [e1]; exact .sent s1 id res rest he hq (by rw [← e2]; exact fun h => by cases h)
      | some b =>
        cases b with
        | true => rw [e1]; exact .sent s1 id res rest he hq (by rw [← e2]; exact fun h => by cases h)
        | false => rw [e1]; exact .sendErr s1 id res rest he hq e2.symm
    · next hq => exact .idle s1 he hq

/-- `pump_read` arms the guard of a request it yields -/
def armRead (s : St) : SPoll Exec → St
  | .some ex => updExec s ex.rid (fun e => { e with guardArmed := true })
  | _ => s

theorem armRead_eq (s : St) (r : SPoll Exec) : ∃ es, armRead s r = { s with execs := es } := by
  cases r <;> exact ⟨_, rfl⟩

@[simp] theorem armRead_inflight (s : St) (r : SPoll Exec) : (armRead s r).inflight = s.inflight := by cases r <;> rfl
@[simp] theorem armRead_cancelQ (s : St) (r : SPoll Exec) : (armRead s r).cancelQ = s.cancelQ := by cases r <;> rfl
@[simp] theorem armRead_respQ (s : St) (r : SPoll Exec) : (armRead s r).respQ = s.respQ := by cases r <;> rfl
@[simp] theorem armRead_readFused (s : St) (r : SPoll Exec) : (armRead s r).readFused = s.readFused := by cases r <;> rfl
@[simp] theorem armRead_dropped (s : St) (r : SPoll Exec) : (armRead s r).dropped = s.dropped := by cases r <;> rfl
@[simp] theorem armRead_t (s : St) (r : SPoll Exec) : (armRead s r).t = s.t := by cases r <;> rfl
@[simp] theorem armRead_obs (s : St) (r : SPoll Exec) : (armRead s r).obs = s.obs := by cases r <;> rfl

/-- the channel's stream has ended: `pump_write` may then end too -/
def readClosedOf : SPoll Exec → Bool
  | .none => true
  | _ => false

/-- a request that was read is dropped again (the write pump failed after the read) -/
def dropRead (s : St) : SPoll Exec → St
  | .some ex => dropOffered s ex.rid ex.id
  | _ => s

theorem requestsPollNext_unfold (fuel : Nat) (s : St) (now : Nat) :
    requestsPollNext (fuel + 1) s now =
      match channelPollNext s now with
      | (s, .err a) => (s, .err a)
      | (s, .spin) => (s, .spin)
      | (s, read) =>
          match pumpWrite (armRead s read) (readClosedOf read) with
          | (s, .err a) => (dropRead s read, .err a)
          | (s, .spin) => (s, .spin)
          | (s, write) =>
              match read, write with
              | .none, .none => (s, .none)
              | .some ex, _ => (s, .item ex.rid)
              | _, .some () => requestsPollNext fuel s now
              | _, _ => (s, .pending) := by
  rw [requestsPollNext]; rfl

/-- what `pollServerKeep` does with the result of `requestsPollNext` -/
def pskRet (s : St) : ReqPoll → St × Ret
  | .pending => (s, Ret.pending)
  | .none => ({ s with done := some .readyNone }, Ret.readyNone)
  | .err a => ({ s with done := some (.readyItemErr a) }, Ret.readyItemErr a)
  | .spin => (s, Ret.pending)
  | .item rid =>
      match getExec s rid with
      | some e =>
          (emit (updExec { s with nextVis := s.nextVis + 1 } rid (fun x => { x with vis := some s.nextVis }))
            (.yielded s.nextVis e.id e.deadline e.trace), Ret.readyItem)
      | none => (s, Ret.readyItem)

/-- `pollServerKeep` (`psk`) after the request stream returned `r` -/
def pskFinish (s : St) (r : ReqPoll) : St :=
  emit (emit (pskRet s r).1 (.ret (tid (pskRet s r).1) (pskRet s r).2))
    (.counts (tid (pskRet s r).1) (pskRet s r).1.inflight.length (pskRet s r).1.timers.len)

def hasSpin (l : List Obs) : Bool := l.any (fun o => match o with | .spin _ => true | _ => false)

theorem pollServerKeep_eq (s : St) (now : Nat) :
    pollServerKeep s now =
      if s.dropped || s.done.isSome || s.poisoned then emit s .noop
      else
        let p := requestsPollNext (pollFuel { s with woken := false }) { s with woken := false } now
        if (!hasSpin s.obs && hasSpin p.1.obs) = true then { p.1 with obs := .spin (tid p.1) :: s.obs, poisoned := true }
        else if p.1.poisoned then p.1
        else pskFinish p.1 p.2 := by
  unfold pollServerKeep pskFinish hasSpin
  split
  · rfl
  · simp only
    rcases requestsPollNext (pollFuel { s with woken := false }) { s with woken := false } now with ⟨s1, r⟩
    cases r <;> rfl

/-- the four ways a poll of the request stream by the application ends -/
inductive PskOut (s : St) (now : Nat) : St → Prop
  | dead (h : (s.dropped || s.done.isSome || s.poisoned) = true) : PskOut s now (emit s .noop)
  /-- out of fuel -/
  | reset (hl : s.dropped = false ∧ s.done.isSome = false ∧ s.poisoned = false) (s1 : St) (r : ReqPoll)
      (he : requestsPollNext (pollFuel { s with woken := false }) { s with woken := false } now = (s1, r))
      (h0 : hasSpin s.obs = false) (h1 : hasSpin s1.obs = true) :
      PskOut s now { s1 with obs := .spin (tid s1) :: s.obs, poisoned := true }
  | poisoned (hl : s.dropped = false ∧ s.done.isSome = false ∧ s.poisoned = false) (s1 : St) (r : ReqPoll)
      (he : requestsPollNext (pollFuel { s with woken := false }) { s with woken := false } now = (s1, r))
      (hpo : s1.poisoned = true) : PskOut s now s1
  | fin (hl : s.dropped = false ∧ s.done.isSome = false ∧ s.poisoned = false) (s1 : St) (r : ReqPoll)
      (he : requestsPollNext (pollFuel { s with woken := false }) { s with woken := false } now = (s1, r))
      (hpo : s1.poisoned = false) : PskOut s now (pskFinish s1 r)

theorem pollServerKeep_out (s : St) (now : Nat) : PskOut s now (pollServerKeep s now) := by
  rw [pollServerKeep_eq]
  split
  · next h => exact .dead h
  · next h =>
    simp only [Bool.or_eq_true, not_or, Bool.not_eq_true] at h
    generalize he : requestsPollNext (pollFuel { s with woken := false }) { s with woken := false } now = p
    obtain ⟨s1, r⟩ := p
    simp only
    split
    · next hsp =>
      simp only [Bool.and_eq_true, Bool.not_eq_true'] at hsp
      exact .reset ⟨h.1.1, h.1.2, h.2⟩ s1 r he hsp.1 hsp.2
    · split
      · next hpo => exact .poisoned ⟨h.1.1, h.1.2, h.2⟩ s1 r he hpo
      · next hpo => exact .fin ⟨h.1.1, h.1.2, h.2⟩ s1 r he (by simpa using hpo)

/-- the log of `s'` is that of `s` with observations from `Q` put on top -/
def Adds (Q : Obs → Prop) (s s' : St) : Prop := ∃ l, s'.obs = l ++ s.obs ∧ ∀ o ∈ l, Q o

theorem Adds.refl (Q : Obs → Prop) (s : St) : Adds Q s s := ⟨[], rfl, fun _ h => by cases h⟩

theorem Adds.of_eq {Q : Obs → Prop} {s s' : St} (h : s'.obs = s.obs) : Adds Q s s' := ⟨[], by simp [h], fun _ h => by cases h⟩

theorem Adds.trans {Q : Obs → Prop} {a b c : St} (h1 : Adds Q a b) (h2 : Adds Q b c) : Adds Q a c := by
  obtain ⟨l1, e1, p1⟩ := h1
  obtain ⟨l2, e2, p2⟩ := h2
  exact ⟨l2 ++ l1, by rw [e2, e1, List.append_assoc], fun o ho => (List.mem_append.mp ho).elim (p2 o) (p1 o)⟩

/-- the state before replaced by one with the same log.  (The equation is the last argument and elaborated first: against
`rfl : ?b.obs = a.obs` it fixes `?b := a`; give `b` by the first argument's type.) -/
theorem Adds.after {Q : Obs → Prop} {a b c : St} (h : Adds Q b c) (hb : b.obs = a.obs) : Adds Q a c := by
  obtain ⟨l, e, p⟩ := h
  exact ⟨l, by rw [e, hb], p⟩

theorem Adds.emit {Q : Obs → Prop} (s : St) {o : Obs} (ho : Q o) : Adds Q s (emit s o) :=
  ⟨[o], rfl, fun _ h => by rw [List.mem_singleton.mp h]; exact ho⟩

theorem Adds.mono {Q Q' : Obs → Prop} {s s' : St} (h : Adds Q s s') (hq : ∀ o, Q o → Q' o) : Adds Q' s s' := by
  obtain ⟨l, e, p⟩ := h
  exact ⟨l, e, fun o ho => hq o (p o ho)⟩

/-- what the operations on the in-flight table emit: of `ExecObs` the wake-ups, and panics -/
def TableObs (o : Obs) : Prop := ExecObs o ∨ ∃ ep m, o = .panic ep m

/-- after `pollServerKeep`: a stream that is done is dropped, one that yielded stays woken -/
inductive PsOut (s : St) (now : Nat) : St → Prop
  | drop (hd : (pollServerKeep s now).done.isSome = true) (hn : (pollServerKeep s now).dropped = false) :
      PsOut s now (dropServer (pollServerKeep s now))
  | yielded (hc : ((pollServerKeep s now).done.isSome && !(pollServerKeep s now).dropped) = false)
      (hv : (pollServerKeep s now).nextVis > s.nextVis) (hn : (pollServerKeep s now).dropped = false) :
      PsOut s now { pollServerKeep s now with woken := true }
  | keep (hc : ((pollServerKeep s now).done.isSome && !(pollServerKeep s now).dropped) = false)
      (hv : (decide ((pollServerKeep s now).nextVis > s.nextVis) && !(pollServerKeep s now).dropped) = false) :
      PsOut s now (pollServerKeep s now)

theorem pollServer_out (s : St) (now : Nat) : PsOut s now (pollServer s now) := by
  unfold pollServer
  simp only
  split
  · next h => simp only [Bool.and_eq_true, Bool.not_eq_true'] at h; exact .drop h.1 h.2
  · next h =>
    split
    · next h2 =>
      simp only [Bool.and_eq_true, Bool.not_eq_true', decide_eq_true_eq] at h2
      exact .yielded (by simpa using h) h2.1 h2.2
    · next h2 => exact .keep (by simpa using h) (by simpa using h2)

theorem pollServer_ind {P : St → Prop} (s : St) (now : Nat) (hk : P (pollServerKeep s now))
    (hdrop : P (dropServer (pollServerKeep s now))) (hwake : P { pollServerKeep s now with woken := true }) :
    P (pollServer s now) := by
  have ho := pollServer_out s now
  generalize pollServer s now = a at ho ⊢
  cases ho with
  | drop => exact hdrop
  | yielded => exact hwake
  | keep => exact hk

theorem flushArm_fst (s : St) (rc : Bool) : (flushArm s rc).1 = (tFlush s).1 := by rw [flushArm_eq]

theorem ensureOnce_ne_spin (s : St) : (ensureOnce s).2 ≠ .spin :=
  ensureOnce_post (I := fun _ => True) (J := fun _ => True) (Φ := fun _ r => r ≠ .spin)
    (fun a _ => by unfold ReadySpec; split <;> simp) (fun a _ => by unfold FlushSpec; split <;> simp) s trivial

theorem pumpWrite_ne_spin (s : St) (rc : Bool) (hel : s.ensureLoop = false) : (pumpWrite s rc).2 ≠ .spin := by
  have he : (ensureWriteable s).2 ≠ .spin := by
    unfold ensureWriteable; simp only [hel]; exact ensureOnce_ne_spin s
  have ho := pumpWrite_out s rc
  generalize pumpWrite s rc = p at ho ⊢
  cases ho with
  | blocked s1 h => exact flushArm_ne_spin _ _
  | idle s1 h hq => exact flushArm_ne_spin _ _
  | spin s1 h => rw [h] at he; exact absurd rfl he
  | _ => exact fun h => by cases h

/-- What the callees of the `MaxRequests` limiter owe for `Φ` to hold of the state and result it ends with, `I` being kept on
the way: `poll_ready` by its result; `BaseChannel::poll_next` when it yields a request (`req`: that may be refused) and when
it does not (`other`: that is the limiter's result); the refusal by whether its send failed. -/
structure LimSpec (now : Nat) (I : St → Prop) (Φ : St → SPoll Exec → Prop) : Prop where
  ready : ∀ s, I s → (tReady s).2 = .ready → I (tReady s).1
  pending : ∀ s, I s → (tReady s).2 = .pending → Φ (tReady s).1 .pending
  readyErr : ∀ s, I s → (tReady s).2 = .err → Φ (tReady s).1 (.err .ready)
  req : ∀ fuel s ex, I s → (basePollNext fuel s now).2 = .some ex → I (basePollNext fuel s now).1
  other : ∀ fuel s r, I s → (∀ ex, r ≠ .some ex) → (basePollNext fuel s now).2 = r → Φ (basePollNext fuel s now).1 r
  sent : ∀ s id res, I s → (baseStartSend s id res).2 ≠ some false → I (baseStartSend s id res).1
  sendErr : ∀ s id res, I s → (baseStartSend s id res).2 = some false → Φ (baseStartSend s id res).1 (.err .write)
  upd : ∀ s r, I s → I (updExec s r (fun e => { e with phase := .gone, woken := false }))
  spin : ∀ s, I s → Φ (emit s (.spin (tid s))) .spin

section
variable {now : Nat} {I : St → Prop} {Φ : St → SPoll Exec → Prop}

/-- the stage before the read, shared by the two limiters: at the limit `poll_ready`, which may end the poll -/
theorem LimSpec.pre (h : LimSpec now I Φ) (limit : Nat) {s s1 : St} {o : Option (SPoll Exec)} (hi : I s)
    (hp : fixedPre limit s = (s1, o)) : o.elim (I s1) (Φ s1) := by
  unfold fixedPre at hp
  split at hp
  · have a := h.ready s hi
    have b := h.pending s hi
    have c := h.readyErr s hi
    generalize tReady s = q at a b c hp
    obtain ⟨s0, r0⟩ := q
    cases r0 with
    | ready => cases hp; exact a rfl
    | pending => cases hp; exact b rfl
    | err => cases hp; exact c rfl
  · cases hp; exact hi

/-- a request is refused: the refusal is sent, the execution marked -/
theorem LimSpec.refuse (h : LimSpec now I Φ) {s1 s2 : St} {ex : Exec} {fuel : Nat} (hi : I s1)
    (hb : basePollNext fuel s1 now = (s2, .some ex)) (id : Nat) (res : Res) :
    ((baseStartSend s2 id res).2 = some false → Φ (baseStartSend s2 id res).1 (.err .write)) ∧
    ((baseStartSend s2 id res).2 ≠ some false →
      ∀ r, I (updExec (baseStartSend s2 id res).1 r (fun e => { e with phase := .gone, woken := false }))) := by
  have h2 : I s2 := by have := h.req fuel s1 ex hi (by rw [hb]); rwa [hb] at this
  exact ⟨h.sendErr s2 id res h2, fun hne r => h.upd _ r (h.sent s2 id res h2 hne)⟩

/-- the limiter as it is in tarpc; `hlow`: below the limit what `BaseChannel::poll_next` returns is the result -/
theorem limitedLegacy_post (h : LimSpec now I Φ) (limit : Nat)
    (hlow : ∀ fuel s, I s → ¬ s.inflight.length ≥ limit → Φ (basePollNext fuel s now).1 (basePollNext fuel s now).2) :
    ∀ (fuel : Nat) (s : St), I s →
      Φ (limitedPollNextLegacy limit fuel s now).1 (limitedPollNextLegacy limit fuel s now).2 :=
  limitedLegacy_loop (I := fun _ => I) (fun n s hi => by
    have ho := llStep_out limit s now
    unfold IterSpec
    generalize llStep limit s now = p at ho ⊢
    cases ho with
    | below hl => exact hlow _ s hi hl
    | pending hl he => exact h.pending s hi he
    | readyErr hl he => exact h.readyErr s hi he
    | through hl he hne => exact h.other _ _ _ (h.ready s hi he) hne rfl
    | refuseErr hl he s2 ex hb' hs => exact (h.refuse (h.ready s hi he) hb' _ _).1 hs
    | refused hl he s2 ex hb' hs => exact (h.refuse (h.ready s hi he) hb' _ _).2 hs _) h.spin

/-- the limiter that decides after the read; `hfit`: a request is the result when it fits under the limit -/
theorem limitedFixed_post (h : LimSpec now I Φ) (limit : Nat)
    (hfit : ∀ fuel s, I s → ∀ ex, (basePollNext fuel s now).2 = .some ex → ¬ (basePollNext fuel s now).1.inflight.length > limit →
      Φ (basePollNext fuel s now).1 (.some ex)) :
    ∀ (fuel : Nat) (s : St), I s →
      Φ (limitedPollNextFixed limit fuel s now).1 (limitedPollNextFixed limit fuel s now).2 :=
  limitedFixed_loop (I := fun _ => I) (fun n s hi => by
    have ho := lfStep_out limit s now
    unfold IterSpec
    generalize lfStep limit s now = p at ho ⊢
    cases ho with
    | pre s1 r hp => exact h.pre limit hi hp
    | through s1 hp hne => exact h.other _ _ _ (h.pre limit hi hp) hne rfl
    | fits s1 hp s2 ex hb' hl =>
      have := hfit (baseFuel s1) s1 (h.pre limit hi hp) ex (by rw [hb']) (by rw [hb']; exact hl)
      rwa [hb'] at this
    | refuseErr s1 hp s2 ex hb' hl hs => exact (h.refuse (h.pre limit hi hp) hb' _ _).1 hs
    | refused s1 hp s2 ex hb' hl hs => exact (h.refuse (h.pre limit hi hp) hb' _ _).2 hs _) h.spin

/-- the channel's poll whatever the limiter: `hreq`: a request it hands out -/
theorem channelPollNext_post (h : LimSpec now I Φ)
    (hreq : ∀ fuel s, I s → ∀ ex, (basePollNext fuel s now).2 = .some ex → Φ (basePollNext fuel s now).1 (.some ex))
    (s : St) (hi : I s) : Φ (channelPollNext s now).1 (channelPollNext s now).2 := by
  have hall : ∀ fuel a, I a → Φ (basePollNext fuel a now).1 (basePollNext fuel a now).2 := fun fuel a ha => by
    cases hr : (basePollNext fuel a now).2 with
    | some ex => exact hreq fuel a ha ex hr
    | _ => exact h.other fuel a _ ha (by simp) hr
  unfold channelPollNext
  split
  · exact hall _ s hi
  · split
    · exact limitedFixed_post h _ (fun fuel a ha ex he _ => hreq fuel a ha ex he) _ s hi
    · exact limitedLegacy_post h _ (fun fuel a ha _ => hall fuel a ha) _ s hi

end

def rpRd (s : St) (now : Nat) : St × SPoll Exec := channelPollNext s now
def rpWr (s : St) (now : Nat) : St × SPoll Unit :=
  pumpWrite (armRead (rpRd s now).1 (rpRd s now).2) (readClosedOf (rpRd s now).2)

/-- one iteration of `Requests::poll_next`; `none` = go round again (nothing was read, a response was written) -/
def rpStep (s : St) (now : Nat) : St × Option ReqPoll :=
  match (rpRd s now).2, (rpWr s now).2 with
  | .err a, _ => ((rpRd s now).1, some (.err a))
  | .spin, _ => ((rpRd s now).1, some .spin)
  | r, .err a => (dropRead (rpWr s now).1 r, some (.err a))
  | _, .spin => ((rpWr s now).1, some .spin)
  | .none, .none => ((rpWr s now).1, some .none)
  | .some ex, _ => ((rpWr s now).1, some (.item ex.rid))
  | _, .some () => ((rpWr s now).1, none)
  | _, _ => ((rpWr s now).1, some .pending)

theorem requestsPollNext_succ (fuel : Nat) (s : St) (now : Nat) :
    requestsPollNext (fuel + 1) s now =
      match rpStep s now with
      | (s', some r) => (s', r)
      | (s', none) => requestsPollNext fuel s' now := by
  rw [requestsPollNext_unfold]
  unfold rpStep rpWr rpRd
  generalize channelPollNext s now = c
  obtain ⟨s1, read⟩ := c
  cases read with
  | err a => rfl
  | spin => rfl
  | _ =>
    dsimp only
    generalize pumpWrite _ _ = w
    obtain ⟨s2, write⟩ := w
    cases write <;> rfl

theorem SPoll.idle_of_ne {α : Type} {r : SPoll α} (h1 : ∀ a, r ≠ .err a) (h2 : r ≠ .spin) (h3 : ∀ x, r ≠ .some x) :
    r = .pending ∨ r = .none := by
  cases r with
  | err a => exact absurd rfl (h1 a)
  | spin => exact absurd rfl h2
  | some x => exact absurd rfl (h3 x)
  | pending => exact Or.inl rfl
  | none => exact Or.inr rfl

/-- by what the channel's poll (`rpRd`) and the write pump (`rpWr`) return -/
inductive RpOut (s : St) (now : Nat) : St × Option ReqPoll → Prop
  | readErr (a) (h : (rpRd s now).2 = .err a) : RpOut s now ((rpRd s now).1, some (.err a))
  | readSpin (h : (rpRd s now).2 = .spin) : RpOut s now ((rpRd s now).1, some .spin)
  | writeErr (a) (hr : (∀ a, (rpRd s now).2 ≠ .err a) ∧ (rpRd s now).2 ≠ .spin) (h : (rpWr s now).2 = .err a) :
      RpOut s now (dropRead (rpWr s now).1 (rpRd s now).2, some (.err a))
  | writeSpin (hr : (∀ a, (rpRd s now).2 ≠ .err a) ∧ (rpRd s now).2 ≠ .spin) (h : (rpWr s now).2 = .spin) :
      RpOut s now ((rpWr s now).1, some .spin)
  | closed (hr : (rpRd s now).2 = .none) (hw : (rpWr s now).2 = .none) : RpOut s now ((rpWr s now).1, some .none)
  | item (ex) (hr : (rpRd s now).2 = .some ex) (hw : (∀ a, (rpWr s now).2 ≠ .err a) ∧ (rpWr s now).2 ≠ .spin) :
      RpOut s now ((rpWr s now).1, some (.item ex.rid))
  | again (hr : (rpRd s now).2 = .pending ∨ (rpRd s now).2 = .none) (hw : (rpWr s now).2 = .some ()) :
      RpOut s now ((rpWr s now).1, none)
  | idle (hr : (rpRd s now).2 = .pending ∨ (rpRd s now).2 = .none) (hw : (rpWr s now).2 = .pending ∨ (rpWr s now).2 = .none) :
      RpOut s now ((rpWr s now).1, some .pending)

theorem rpStep_out (s : St) (now : Nat) : RpOut s now (rpStep s now) := by
  unfold rpStep
  split
  · exact .readErr _ (by assumption)
  · exact .readSpin (by assumption)
  · exact .writeErr _ ⟨by assumption, by assumption⟩ (by assumption)
  · exact .writeSpin ⟨by assumption, by assumption⟩ (by assumption)
  · exact .closed (by assumption) (by assumption)
  · exact .item _ (by assumption) ⟨by assumption, by assumption⟩
  · exact .again (SPoll.idle_of_ne (by assumption) (by assumption) (by assumption)) (by assumption)
  · have hu : (rpWr s now).2 = .some () → False := by assumption
    exact .idle (SPoll.idle_of_ne (by assumption) (by assumption) (by assumption))
      (SPoll.idle_of_ne (by assumption) (by assumption) fun u h => hu (by cases u; exact h))

theorem rpStep_idle {s : St} {now : Nat} (h : (rpStep s now).2 = none ∨ (rpStep s now).2 = some .pending ∨
    (rpStep s now).2 = some .none) :
    ((rpRd s now).2 = .pending ∨ (rpRd s now).2 = .none) ∧ (rpStep s now).1 = (rpWr s now).1 ∧
    ((rpStep s now).2 ≠ none → (rpWr s now).2 = .pending ∨ (rpWr s now).2 = .none) := by
  have ho := rpStep_out s now
  generalize rpStep s now = p at ho h
  cases ho with
  | closed hr hw => exact ⟨.inr hr, rfl, fun _ => .inr hw⟩
  | again hr hw => exact ⟨hr, rfl, fun hne => absurd rfl hne⟩
  | idle hr hw => exact ⟨hr, rfl, fun _ => hw⟩
  | _ => rcases h with h | h | h <;> cases h

theorem rpStep_none {s : St} {now : Nat} (h : (rpStep s now).2 = none) : (rpWr s now).2 = .some () := by
  have ho := rpStep_out s now
  generalize rpStep s now = p at ho h
  cases ho with
  | again hr hw => exact hw
  | _ => cases h

theorem rpStep_fst (s : St) (now : Nat) : (rpStep s now).1 = (rpRd s now).1 ∨ (rpStep s now).1 = (rpWr s now).1 ∨
    ∃ ex, (rpRd s now).2 = .some ex ∧ (rpStep s now).1 = dropOffered (rpWr s now).1 ex.rid ex.id := by
  have ho := rpStep_out s now
  generalize rpStep s now = p at ho ⊢
  cases ho with
  | readErr | readSpin => exact .inl rfl
  | writeErr a hr h =>
    cases hrd : (rpRd s now).2 with
    | some ex => exact .inr (.inr ⟨ex, rfl, rfl⟩)
    | _ => exact .inr (.inl rfl)
  | _ => exact .inr (.inl rfl)

theorem requestsPollNext_iter (now n : Nat) (s s' : St) (o : Option ReqPoll) (h : rpStep s now = (s', o)) :
    requestsPollNext (n + 1) s now = o.elim (requestsPollNext n s' now) fun r => (s', r) := by
  rw [requestsPollNext_succ, h]; cases o <;> rfl

theorem requestsPollNext_loop {now : Nat} {I : St → Prop} {Φ : St → ReqPoll → Prop}
    (hstep : ∀ s, I s → IterSpec I Φ (rpStep s now)) (hspin : ∀ s, I s → Φ (emit s (.spin (tid s))) .spin) :
    ∀ (fuel : Nat) (s : St), I s → Φ (requestsPollNext fuel s now).1 (requestsPollNext fuel s now).2 :=
  fuel_loop (loop := fun n s => requestsPollNext n s now) (step := fun s => rpStep s now) (requestsPollNext_iter now)
    (I := fun _ => I) (fun _ => hstep) hspin

/-! ### `poll-exec`, `drop-exec` in stages -/

/-- an execution gives up its place in the response queue: a permit it held goes to the next waiter -/
def unsend (s : St) (r : Nat) : St :=
  if s.rqAssigned.contains r = true then
    rqRelease { s with rqAssigned := s.rqAssigned.filter (· != r), rqWaiters := s.rqWaiters.filter (· != r) }
  else { s with rqAssigned := s.rqAssigned.filter (· != r), rqWaiters := s.rqWaiters.filter (· != r) }

/-- `poll-exec` of an aborted execution: what is dropped -/
def peDrop (s0 : St) (e : Exec) (vid now : Nat) : St :=
  match e.phase with
  | .sending => unsend s0 e.rid
  | _ => if e.hDone then s0 else emit s0 (.handler vid .dropped now)

def peAborted (s0 : St) (e : Exec) (vid now : Nat) : St :=
  emit (updExec (peDrop s0 e vid now) e.rid (fun x => { x with phase := .done, guardArmed := false })) (.ret (.exec vid) .readyOk)

def peSending (s0 : St) (e : Exec) (now : Nat) : St :=
  match e.resp with
  | some res => trySend s0 e res now
  | none => emit s0 .noop

def peStart (s0 : St) (e : Exec) (vid now : Nat) : St :=
  emit (updExec s0 e.rid (fun x => { x with phase := .running })) (.handler vid .polled now)

def peRunning (s0 : St) (e : Exec) (vid now : Nat) : St :=
  match e.finishCmd with
  | some res =>
      trySend (updExec (emit (peStart s0 e vid now) (.handler vid .completed now)) e.rid
        (fun x => { x with hDone := true, finishCmd := none })) { e with hDone := true, phase := .running } res now
  | none =>
      emit (updExec (peStart s0 e vid now) e.rid (fun x => { x with abortWaker := true })) (.ret (.exec vid) .pending)

/-- `poll-exec` of an execution that runs -/
def peRun (s0 : St) (e : Exec) (vid now : Nat) : St :=
  match e.phase with
  | .sending => peSending s0 e now
  | _ => peRunning s0 e vid now

theorem pollExec_eq (s : St) (vid now : Nat) :
    pollExec s vid now =
      match getExecVis s vid with
      | none => emit s .noop
      | some e =>
          if !execLive e then emit s .noop
          else if e.aborted then peAborted (updExec s e.rid (fun x => { x with woken := false })) e vid now
          else peRun (updExec s e.rid (fun x => { x with woken := false })) e vid now := by
  unfold pollExec peAborted peDrop peRun peSending peRunning peStart unsend
  cases getExecVis s vid with
  | none => rfl
  | some e => cases e.phase <;> rfl

/-- `drop-exec` of a live execution: what is dropped -/
def deDrop (s : St) (e : Exec) (vid now : Nat) : St :=
  match e.phase with
  | .running => if e.hDone then s else emit s (.handler vid .dropped now)
  | .sending => unsend s e.rid
  | _ => s

theorem dropExec_eq (s : St) (vid now : Nat) :
    dropExec s vid now =
      match getExecVis s vid with
      | none => emit s .noop
      | some e =>
          if !execLive e then emit s .noop
          else guardDrop (updExec (deDrop s e vid now) e.rid (fun x => { x with phase := .gone, woken := false })) e := by
  unfold dropExec deDrop unsend
  cases getExecVis s vid with
  | none => rfl
  | some e =>
    dsimp only
    cases execLive e with
    | false => rfl
    | true => cases e.phase <;> rfl

/-- the paths of `poll-exec`; every live path first clears the wake flag -/
inductive PeOut (s : St) (vid now : Nat) : St → Prop
  | noVis (h : getExecVis s vid = none) : PeOut s vid now (emit s .noop)
  | dead (e) (h : getExecVis s vid = some e) (hl : execLive e = false) : PeOut s vid now (emit s .noop)
  | aborted (e) (h : getExecVis s vid = some e) (hl : execLive e = true) (ha : e.aborted = true) :
      PeOut s vid now (peAborted (updExec s e.rid (fun x => { x with woken := false })) e vid now)
  | sendNone (e) (h : getExecVis s vid = some e) (hl : execLive e = true) (ha : e.aborted = false) (hp : e.phase = .sending)
      (hr : e.resp = none) : PeOut s vid now (emit (updExec s e.rid (fun x => { x with woken := false })) .noop)
  | send (e res) (h : getExecVis s vid = some e) (hl : execLive e = true) (ha : e.aborted = false) (hp : e.phase = .sending)
      (hr : e.resp = some res) : PeOut s vid now (trySend (updExec s e.rid (fun x => { x with woken := false })) e res now)
  | finish (e res) (h : getExecVis s vid = some e) (hl : execLive e = true) (ha : e.aborted = false) (hp : e.phase ≠ .sending)
      (hf : e.finishCmd = some res) :
      PeOut s vid now (trySend (updExec (emit (peStart (updExec s e.rid (fun x => { x with woken := false })) e vid now)
        (.handler vid .completed now)) e.rid (fun x => { x with hDone := true, finishCmd := none }))
        { e with hDone := true, phase := .running } res now)
  | pending (e) (h : getExecVis s vid = some e) (hl : execLive e = true) (ha : e.aborted = false) (hp : e.phase ≠ .sending)
      (hf : e.finishCmd = none) :
      PeOut s vid now (emit (updExec (peStart (updExec s e.rid (fun x => { x with woken := false })) e vid now) e.rid
        (fun x => { x with abortWaker := true })) (.ret (.exec vid) .pending))

theorem pollExec_out (s : St) (vid now : Nat) : PeOut s vid now (pollExec s vid now) := by
  rw [pollExec_eq]
  cases h : getExecVis s vid with
  | none => exact .noVis h
  | some e =>
    dsimp only
    cases hl : execLive e with
    | false => exact .dead e h hl
    | true =>
      cases ha : e.aborted with
      | true => exact .aborted e h hl ha
      | false =>
        show PeOut s vid now (peRun _ e vid now)
        unfold peRun peSending peRunning
        cases hp : e.phase with
        | sending =>
          dsimp only
          cases hr : e.resp with
          | none => exact .sendNone e h hl ha hp hr
          | some res => exact .send e res h hl ha hp hr
        | _ =>
          dsimp only
          cases hf : e.finishCmd with
          | none => exact .pending e h hl ha (by rw [hp]; nofun) hf
          | some res => exact .finish e res h hl ha (by rw [hp]; nofun) hf

inductive DeOut (s : St) (vid now : Nat) : St → Prop
  | noVis (h : getExecVis s vid = none) : DeOut s vid now (emit s .noop)
  | dead (e) (h : getExecVis s vid = some e) (hl : execLive e = false) : DeOut s vid now (emit s .noop)
  | live (e) (h : getExecVis s vid = some e) (hl : execLive e = true) :
      DeOut s vid now (guardDrop (updExec (deDrop s e vid now) e.rid (fun x => { x with phase := .gone, woken := false })) e)

theorem dropExec_out (s : St) (vid now : Nat) : DeOut s vid now (dropExec s vid now) := by
  rw [dropExec_eq]
  cases h : getExecVis s vid with
  | none => exact .noVis h
  | some e =>
    dsimp only
    cases hl : execLive e with
    | false => exact .dead e h hl
    | true => exact .live e h hl

end Server.Flow

namespace Server

/-- the execution `startRequest` creates -/
def newExec (s : St) (id d : Nat) (tr : Trace) (b : Nat) : Exec :=
  { rid := s.execs.length, id := id, deadline := d, trace := { tr with span := .fresh s.nextFresh }, body := b,
    guardArmed := false }

/-- `startRequest`'s state after the timer queue's self-wake (`w`: an insert that becomes the earliest
deadline wakes the waker the queue stored at its last `poll_expired`): only `woken` and `obs` change -/
def startWoke (s : St) (w : Bool) : St := if w then wakeServer s else s

/-- the three outcomes of `startRequest`: duplicate id, invalid deadline (panic), accepted.
(The result of `DelayQ.insert` is named, not projected out of the call, so that no term the kernel has
to reduce contains the call itself.) -/
theorem startRequest_out (s : St) (now id d : Nat) (tr : Trace) (b : Nat) :
    ((findEntry s id).isSome = true ∧ startRequest s now id d tr b = (s, none))
    ∨ (findEntry s id = none ∧ (s.timers.insert now (clampTimeout (d - now)) id).2.1 = .panic ∧
        startRequest s now id d tr b =
          (emit { s with poisoned := true } (.panic (tid s) "DelayQueue::insert: invalid deadline"), none))
    ∨ (findEntry s id = none ∧ ∃ q key w, s.timers.insert now (clampTimeout (d - now)) id = (q, .ok key, w) ∧
        startRequest s now id d tr b =
          ({ startWoke s w with
                    timers := q, nextFresh := s.nextFresh + 1,
                    inflight := s.inflight ++ [{ id := id, timerKey := key, rid := s.execs.length,
                                                 remainder := (d - now) - clampTimeout (d - now),
                                                 dueAt := now + clampTimeout (d - now) }],
                    execs := s.execs ++ [newExec s id d tr b] }, some (newExec s id d tr b))) := by
  unfold startRequest
  split
  · left; exact ⟨by assumption, rfl⟩
  · rename_i hf
    have hf' : findEntry s id = none := by
      cases h : findEntry s id <;> simp_all
    right
    split
    · next hins => left; exact ⟨hf', by rw [hins], rfl⟩
    · right
      rename_i q key woke hins
      refine ⟨hf', q, key, woke, hins, ?_⟩
      unfold startWoke
      cases woke
      · rfl
      · simp only [if_true]
        unfold wakeServer newExec
        split <;> rfl

theorem startWoke_eq (s : St) (w : Bool) : ∃ w' o, startWoke s w = { s with woken := w', obs := o } := by
  unfold startWoke; split
  · exact Flow.wakeServer_eq s
  · exact ⟨s.woken, s.obs, rfl⟩

theorem startWoke_obs (s : St) (w : Bool) : (startWoke s w).obs = s.obs ∨ ∃ t, (startWoke s w).obs = .wake t :: s.obs := by
  unfold startWoke wakeServer
  split
  · split
    · exact .inl rfl
    · exact .inr ⟨_, rfl⟩
  · exact .inl rfl

@[simp] theorem startWoke_inflight (s : St) (w : Bool) : (startWoke s w).inflight = s.inflight := by
  obtain ⟨_, _, h⟩ := startWoke_eq s w; rw [h]

@[simp] theorem startWoke_timers (s : St) (w : Bool) : (startWoke s w).timers = s.timers := by
  obtain ⟨_, _, h⟩ := startWoke_eq s w; rw [h]

@[simp] theorem startWoke_limit (s : St) (w : Bool) : (startWoke s w).limit = s.limit := by
  obtain ⟨_, _, h⟩ := startWoke_eq s w; rw [h]

@[simp] theorem startWoke_execs (s : St) (w : Bool) : (startWoke s w).execs = s.execs := by
  obtain ⟨_, _, h⟩ := startWoke_eq s w; rw [h]

@[simp] theorem startWoke_nextFresh (s : St) (w : Bool) : (startWoke s w).nextFresh = s.nextFresh := by
  obtain ⟨_, _, h⟩ := startWoke_eq s w; rw [h]

/-- the intermediate states of `dropServer` on a stream that is neither dropped nor poisoned -/
def dsS1 (s : St) : St := s.inflight.foldl (fun s e => abortExec s e.rid) { s with dropped := true, woken := false }
def dsS2 (s : St) : St := (dsS1 s).rqWaiters.foldl wakeExec { dsS1 s with rqWaiters := [] }

theorem dropServer_eq (s : St) :
    dropServer s = if (s.dropped || s.poisoned) = true then emit s .noop
      else { dsS2 s with inflight := [], timers := {}, cancelQ := [], respQ := [] } := rfl

end Server
end TarpcModel
