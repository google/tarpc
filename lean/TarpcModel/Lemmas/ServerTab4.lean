import TarpcModel.Lemmas.ServerTab2
import TarpcModel.Lemmas.ServerTabY
/-!
The third coupling (`Tab.Y`) walked through one poll of the request stream, next to `Tab.NN` and in its manner; the two clauses
of the C11 monitor's `checkC11Idle` on the `counts` observation that ends an idle poll.
-/
namespace TarpcModel.Server.Tab
open TarpcModel TarpcModel.Server TarpcModel.Server.Flow TarpcModel.Server.ObsMon TarpcModel.Server.Mon06
open TarpcModel.Server.Mon11

/-! ## the clauses of `checkC11Rest` -/

/-- the first clause of `checkC11Rest`: no more requests in flight than the monitor's table lists -/
def checkC11Bound (b : Book) (_ : Unit) : SEv → Unit × Option String
  | .obs (.counts (.server _) inflight _) =>
      if !b.failed && inflight > b.table.length then
        ((), some s!"{inflight} requests reported in flight, only {b.table.length} yielded requests can still be tracked")
      else ((), none)
  | _ => ((), none)

/-- the other two: the stalled limiter, and the idle channel (as many in flight as the table lists) -/
def checkC11Idle (b : Book) (_ : Unit) : SEv → Unit × Option String
  | .obs (.counts (.server _) inflight _) =>
      if b.stalled && !b.failed && inflight > b.sweep.table.length then
        ((), some s!"limiter at its limit and sink not ready: {inflight} reported in flight, only {b.sweep.table.length} yielded request(s) unfinished (cancellations / expirations are not processed until the sink is ready)")
      else if b.idleNow && inflight != b.table.length && !b.reuseTainted then
        ((), some s!"channel idle: {inflight} reported in flight, {b.table.length} yielded requests unanswered, uncancelled, unexpired and not abandoned")
      else ((), none)
  | _ => ((), none)

theorem checkC11Rest_split (b : Book) (u : Unit) (e : SEv) :
    (checkC11Rest b u e).2 = (checkC11Bound b u e).2.orElse fun _ => (checkC11Idle b u e).2 := by
  cases e with
  | op o => rfl
  | obs o =>
    cases o <;> try rfl
    rename_i ep a t
    cases ep <;> try rfl
    simp only [checkC11Rest, checkC11Bound, checkC11Idle]
    by_cases h1 : (!b.failed && decide (a > b.table.length)) = true
    · rw [if_pos h1, if_pos h1]; rfl
    · rw [if_neg h1, if_neg h1]; rfl

def chk11 (b : Book) (o : Obs) : Option String := (checkC11Idle b () (.obs o)).2

theorem chk11_other (b : Book) (o : Obs) (h : ∀ k a t, o ≠ .counts (.server k) a t) : chk11 b o = none := by
  unfold chk11
  cases o with
  | counts ep a t =>
    cases ep with
    | server k => exact absurd rfl (h k a t)
    | _ => rfl
  | _ => rfl

theorem chk11_mild (o : Obs) (h2 : isOut o = false) (b : Book) : chk11 b o = none :=
  chk11_other b o (fun k a t h => by rw [h] at h2; cases h2)

theorem CK11.extW {b0 : Book} {s s' : St} (hx : ExtW s s') (h : CK chk11 b0 s.obs) : CK chk11 b0 s'.obs :=
  CK.adds (fun o ho => chk11_mild o ho.2) hx h

/-! ## model steps that abort and forget, seen exactly (no timer is re-armed) -/

/-- `g` keeps an execution's identity, number, phase; it does not disarm its guard -/
def Gy (g : Exec → Exec) : Prop :=
  ∀ e, (g e).rid = e.rid ∧ (g e).id = e.id ∧ (g e).vis = e.vis ∧ execLive (g e) = execLive e ∧
    (e.guardArmed = true → (g e).guardArmed = true)

/-- a step of the model under which `Y` survives: seen exactly, the table only shrinks -/
structure MY (s s' : St) : Prop where
  ex : ∃ g : Exec → Exec, s'.execs = s.execs.map g ∧ Gy g
  ents : ∀ en' ∈ s'.inflight, en' ∈ s.inflight
  cq : s'.cancelQ = s.cancelQ
  inb : s'.t.inbound = s.t.inbound
  dr : s'.dropped = s.dropped

theorem Gy.id : Gy id := fun _ => ⟨rfl, rfl, rfl, rfl, fun h => h⟩

theorem my_rel : MapRel Gy MY where
  frame := fun {s s'} h1 h2 h3 _ h5 h6 => ⟨⟨id, by simp [h1], Gy.id⟩, fun en' h => by rw [← h2]; exact h, h3, h5, h6⟩
  trans := fun {a b c} h1 h2 => by
    obtain ⟨g1, e1, i1⟩ := h1.ex
    obtain ⟨g2, e2, i2⟩ := h2.ex
    refine ⟨⟨g2 ∘ g1, by rw [e2, e1, List.map_map], fun e => ?_⟩, fun en h => h1.ents en (h2.ents en h),
      h2.cq.trans h1.cq, h2.inb.trans h1.inb, h2.dr.trans h1.dr⟩
    obtain ⟨p1, p2, p3, p4, p5⟩ := i1 e
    obtain ⟨q1, q2, q3, q4, q5⟩ := i2 (g1 e)
    exact ⟨q1.trans p1, q2.trans p2, q3.trans p3, q4.trans p4, fun h => q5 (p5 h)⟩
  upd := fun s r f hf =>
    ⟨⟨fun e => if e.rid == r then f e else e, rfl, fun e => by simp only; split <;> first | exact hf e | exact Gy.id e⟩,
      fun en' h => h, rfl, rfl, rfl⟩
  woken := fun e => ⟨rfl, rfl, rfl, rfl, fun h => h⟩
  abort := fun e => ⟨rfl, rfl, rfl, rfl, fun h => h⟩

theorem my_wakeServer (s : St) : MY s (wakeServer s) := my_rel.wakeServer s

theorem my_forget_abort (s : St) (id : Nat) (r : Nat) (q : DelayQ) :
    MY s (abortExec { s with timers := q, inflight := s.inflight.filter (·.id != id) } r) := by
  have hm := my_rel.abortExec { s with timers := q, inflight := s.inflight.filter (·.id != id) } r
  exact ⟨hm.ex, fun en' h' => (List.mem_filter.mp (hm.ents en' h')).1, hm.cq, hm.inb, hm.dr⟩

theorem my_expireStep {now : Nat} {s : St} (hrem : ∀ en ∈ s.inflight, en.remainder = 0) :
    MY s (expireStep s now).1 ∧ ∀ en ∈ (expireStep s now).1.inflight, en.remainder = 0 := by
  have hs := expireStep_out s now
  revert hs; generalize expireStep s now = p; intro hs
  obtain ⟨s', r⟩ := p
  dsimp only at hs ⊢
  cases hs with
  | idleNone q hp => exact ⟨my_rel.frame rfl rfl rfl rfl rfl rfl, hrem⟩
  | idlePending q hp => exact ⟨my_rel.frame rfl rfl rfl rfl rfl rfl, hrem⟩
  | orphan q e hp hf => exact ⟨my_rel.frame rfl rfl rfl rfl rfl rfl, hrem⟩
  | abort q e en hp hf h0 =>
    have hm := my_forget_abort s e.val en.rid q
    exact ⟨hm, fun en' h' => hrem en' (hm.ents en' h')⟩
  | rearmed q e en s2 hp hf h0 hr =>
    exfalso
    have hen : en ∈ s.inflight := (findEntry_some hf).1
    have : restOf now en = 0 := by unfold restOf; rw [hrem en hen]; simp
    exact h0 this
  | panicked q e en hp hf h0 hr => exact ⟨my_rel.frame rfl rfl rfl rfl rfl rfl, hrem⟩

theorem my_pollExpired {now : Nat} {s : St} (hrem : ∀ en ∈ s.inflight, en.remainder = 0) : MY s (pollExpired s now).1 := by
  have := pollExpired_ind (P := fun s1 => (∀ en ∈ s1.inflight, en.remainder = 0) ∧ MY s s1) now
    (fun s1 h1 => ⟨h1.1, my_rel.trans h1.2 (my_rel.emit _ _)⟩)
    (fun s1 h1 => ⟨(my_expireStep h1.1).2, my_rel.trans h1.2 (my_expireStep h1.1).1⟩) s ⟨hrem, my_rel.refl s⟩
  exact this.2

theorem my_cancelRequest (s : St) (id : Nat) : MY s (cancelRequest s id).1 := by
  rcases cancelRequest_out s id with ⟨_, he⟩ | ⟨e, _, he⟩ <;> rw [he]
  · exact my_rel.refl s
  · exact my_rel.trans (my_forget_abort s id e.rid s.timers) (my_rel.removeTimer _ _)

theorem expireStep_due {now : Nat} {s : St} (h : TInv now s) (hrem : ∀ en ∈ s.inflight, en.remainder = 0) :
    ∀ en ∈ s.inflight, en ∈ (expireStep s now).1.inflight ∨ ceilMs en.dueAt * nsPerMs ≤ now := by
  have hs := expireStep_out s now
  revert hs; generalize expireStep s now = p; intro hs
  obtain ⟨s', r⟩ := p
  dsimp only at hs ⊢
  cases hs with
  | idleNone q hp => exact fun en hen => Or.inl hen
  | idlePending q hp => exact fun en hen => Or.inl hen
  | orphan q e hp hf => exact fun en hen => Or.inl hen
  | abort q e en' hp hf h0 =>
    intro en hen
    by_cases hc : en.id = e.val
    · right
      obtain ⟨en2, hen2, hk, hv, huniq, _⟩ := h.popped hp
      have := huniq en' hf; subst this
      have hee : en = en' := eq_of_map_nodup (f := (·.id)) h.ids hen hen2 (hc.trans hv.symm)
      subst hee
      obtain ⟨hcore, _⟩ := DelayQ.pollExpired_expired hp h.wf
      have hne := DelayQ.pollExpired_not_early hp h.sound
      have htk := h.tk en hen _ hcore hk.symm
      have hw : (DelayQ.core e).2.2 = e.whenMs := rfl
      rw [hw] at htk
      rw [← htk]; exact hne
    · left
      have : (abortExec { s with timers := q, inflight := s.inflight.filter (·.id != e.val) } en'.rid).inflight =
          s.inflight.filter (·.id != e.val) := by simp
      rw [this]
      exact List.mem_filter.mpr ⟨hen, by simpa using hc⟩
  | rearmed q e en s2 hp hf h0 hr =>
    exfalso
    have hen : en ∈ s.inflight := (findEntry_some hf).1
    have : restOf now en = 0 := by unfold restOf; rw [hrem en hen]; simp
    exact h0 this
  | panicked q e en hp hf h0 hr => exact fun en hen => Or.inl hen

theorem pollExpired_due {now : Nat} {s : St} (h : TInv now s) (hrem : ∀ en ∈ s.inflight, en.remainder = 0) :
    ∀ en ∈ s.inflight, en ∈ (pollExpired s now).1.inflight ∨ ceilMs en.dueAt * nsPerMs ≤ now := by
  have := pollExpired_ind (P := fun s1 => TInv now s1 ∧ (∀ en ∈ s1.inflight, en.remainder = 0) ∧
      ∀ en ∈ s.inflight, en ∈ s1.inflight ∨ ceilMs en.dueAt * nsPerMs ≤ now) now
    (fun s1 h1 => ⟨h1.1.of_sim rfl rfl (ExecsSim.refl _), h1.2.1, h1.2.2⟩)
    (fun s1 h1 => ⟨h1.1.expireStep, (my_expireStep h1.2.1).2, fun en hen => by
      rcases h1.2.2 en hen with h2 | h2
      · exact expireStep_due h1.1 h1.2.1 en h2
      · exact Or.inr h2⟩) s ⟨h, hrem, fun en hen => Or.inl hen⟩
  exact this.2.2

/-! ## the walked invariant, next to `NN` -/

structure NY (b0 : Book) (now : Nat) (pend : Option (Nat × Nat)) (rest : List Nat) (s : St) : Prop where
  nn : NN b0 now pend rest s
  ck : CK chk11 b0 s.obs
  y : (bo b0 s.obs).spun = true ∨ Y now pend (bw (bo b0 s.obs)) (mv s)

variable {b0 : Book} {now : Nat} {rest : List Nat}

theorem NY.unspun {pend : Option (Nat × Nat)} {s : St} (h : NY b0 now pend rest s) (hn : (bo b0 s.obs).spun = false) :
    K now pend (bview (bo b0 s.obs)) (sview s) ∧ X rest (bw (bo b0 s.obs)) (mv s) ∧ Y now pend (bw (bo b0 s.obs)) (mv s) :=
  ⟨(of_unspun h.nn.n hn).1, (of_unspun h.nn.n hn).2, of_unspun h.y hn⟩

theorem NY_model {pend pend' : Option (Nat × Nat)} {s s' : St} (hx : ExtW s s') (hnn : NN b0 now pend' rest s')
    (hY : K now pend (bview (bo b0 s.obs)) (sview s) → X rest (bw (bo b0 s.obs)) (mv s) →
      Y now pend (bw (bo b0 s.obs)) (mv s) → Y now pend' (bw (bo b0 s.obs)) (mv s'))
    (h : NY b0 now pend rest s) : NY b0 now pend' rest s' := by
  refine ⟨hnn, CK11.extW hx h.ck, unspun_or fun hn => ?_⟩
  obtain ⟨hn0, _, hle⟩ := bo_extW_unspun b0 hx hn
  obtain ⟨hK, hX, hY0⟩ := h.unspun hn0
  exact (hY hK hX hY0).le hle

theorem NY_qm {pend : Option (Nat × Nat)} {s s' : St} (hq : QM s s') (h : NY b0 now pend rest s) :
    NY b0 now pend rest s' :=
  NY_model hq.1 (NN_qm hq h.nn) (fun _ _ hY => by rw [hq.2]; exact hY) h

theorem rem0_st {pend : Option (Nat × Nat)} {B : BW} {s : St} (h : Y now pend B (mv s)) :
    ∀ en ∈ s.inflight, en.remainder = 0 :=
  fun en hen => h.rem0 (ze en) (List.mem_map_of_mem hen)

theorem Y_my {pend : Option (Nat × Nat)} {B B' : BW} {s s' : St} (hm : MY s s') (h : Y now pend B (mv s)) (hB : BW.le B B')
    (hgone : s'.dropped = false → ∀ en ∈ s.inflight, en ∈ s'.inflight ∨ (∀ p ∈ B'.table, p.1 ≠ en.id) ∨
      ∀ p ∈ B'.table, p.1 = en.id → ∀ eb ∈ B.execs, eb.rid = p.2 → eb.id = p.1 → eb.tick ≤ B.now ∨ eb.abandoned = true)
    (hpk : ∀ r i, pend = some (r, i) → ∀ en ∈ s.inflight, en.id = i → en ∈ s'.inflight) :
    Y now pend B' (mv s') := by
  obtain ⟨g, hg, hid⟩ := hm.ex
  rw [← hB.execs, ← hB.now] at hgone
  replace h := h.le hB
  have hmem : ∀ x' ∈ (mv s').execs, ∃ e ∈ s.execs, x' = ye (g e) := by
    intro x' hx'
    obtain ⟨e', he', rfl⟩ := List.mem_map.mp hx'
    rw [hg] at he'
    obtain ⟨e, he, rfl⟩ := List.mem_map.mp he'
    exact ⟨e, he, rfl⟩
  have hold : ∀ e ∈ s.execs, ye e ∈ (mv s).execs := fun e he => List.mem_map_of_mem he
  have hy : ∀ e, (ye (g e)).rid = (ye e).rid ∧ (ye (g e)).id = (ye e).id ∧ (ye (g e)).vis = (ye e).vis ∧
      (ye (g e)).live = (ye e).live ∧ ((ye e).armed = true → (ye (g e)).armed = true) := hid
  have hsub : ∀ en' ∈ (mv s').ents, en' ∈ (mv s).ents := by
    intro en' hen'
    obtain ⟨e0, he0, rfl⟩ := List.mem_map.mp hen'
    exact List.mem_map_of_mem (hm.ents e0 he0)
  have hcq : (mv s').cq = (mv s).cq := hm.cq
  have hdr : (mv s').dropped = (mv s).dropped := hm.dr
  refine ⟨?_, ?_, ?_, ?_, fun en hen => h.rem0 en (hsub en hen), ?_, ?_, by rw [hcq]; exact h.cqab, ?_, ?_⟩
  · intro x' hx' eb heb hv
    obtain ⟨e, he, rfl⟩ := hmem x' hx'
    obtain ⟨_, _, a3, a4, _⟩ := hy e
    rw [a4]; exact h.gl (ye e) (hold e he) eb heb (a3.symm.trans hv)
  · intro x' hx' hv hl
    obtain ⟨e, he, rfl⟩ := hmem x' hx'
    obtain ⟨_, _, a3, a4, a5⟩ := hy e
    exact a5 (h.arm (ye e) (hold e he) (fun hc => hv (a3.trans hc)) (a4.symm.trans hl))
  · intro x' hx' hv en hen hr
    obtain ⟨e, he, rfl⟩ := hmem x' hx'
    obtain ⟨a1, a2, a3, _, _⟩ := hy e
    rw [hcq, a1, a2]
    exact h.nv (ye e) (hold e he) (a3.symm.trans hv) en (hsub en hen) (hr.trans a1)
  · intro r i hp
    obtain ⟨⟨en, hen, h1, h2, h3⟩, hl⟩ := h.pnd r i hp
    obtain ⟨en0, hen0, rfl⟩ := List.mem_map.mp hen
    refine ⟨⟨ze en0, List.mem_map_of_mem (hpk r i hp en0 hen0 h1), h1, h2, h3⟩, fun x' hx' hr => ?_⟩
    obtain ⟨e, he, rfl⟩ := hmem x' hx'
    obtain ⟨a1, _, _, a4, _⟩ := hy e
    rw [a4]; exact hl (ye e) (hold e he) (a1.symm.trans hr)
  · intro en hen x' hx' hr eb heb hv
    obtain ⟨e, he, rfl⟩ := hmem x' hx'
    obtain ⟨a1, _, a3, _, _⟩ := hy e
    exact h.lo en (hsub en hen) (ye e) (hold e he) (a1.symm.trans hr) eb heb (a3.symm.trans hv)
  · intro i d tr b hmm
    exact h.near i d tr b (by rw [show (mv s').inb = (mv s).inb from hm.inb] at hmm; exact hmm)
  · intro hd en hen x' hx' hr eb heb hv hab
    obtain ⟨e, he, rfl⟩ := hmem x' hx'
    obtain ⟨a1, _, a3, _, _⟩ := hy e
    rw [hcq]
    exact h.i3 (hdr ▸ hd) en (hsub en hen) (ye e) (hold e he) (a1.symm.trans hr) eb heb (a3.symm.trans hv) hab
  · intro hd p hp
    obtain ⟨eb, heb, h1, h2, h3⟩ := h.i2 (hdr ▸ hd) p hp
    refine ⟨eb, heb, h1, h2, ?_⟩
    rcases h3 with ⟨en, hen, hei⟩ | h3
    · obtain ⟨en0, hen0, rfl⟩ := List.mem_map.mp hen
      rcases hgone hd en0 hen0 with h4 | h4 | h4
      · exact Or.inl ⟨ze en0, List.mem_map_of_mem h4, hei⟩
      · exact absurd hei.symm (h4 p hp)
      · exact Or.inr (h4 p hp hei.symm eb heb h1 h2)
    · exact Or.inr h3

theorem NY_bpCancel {s : St} (h : NY b0 now none rest s) : NY b0 now none rest (bpCancel s).1 :=
  NY_model (extW_bpCancel s) (NN_bpCancel h.nn) (fun hK _ hY => mv_bpCancel s ▸ hY.popCq (K_eid_mv hK)) h

theorem tick_le_of_lo {pend : Option (Nat × Nat)} {B : BW} {S : MV} (hX : X rest B S) (hY : Y now pend B S)
    (heid : ∀ en ∈ S.ents, ∀ x ∈ S.execs, x.rid = en.rid → x.id = en.id)
    {en : ZE} (hen : en ∈ S.ents) {eb : WB} (heb : eb ∈ B.execs) (hid : eb.id = en.id) :
    eb.tick ≤ ceilMs en.due * nsPerMs := by
  obtain ⟨x, hx, hr⟩ := hX.esrc en hen
  obtain ⟨x0, hx0, hv0⟩ := hX.bsrc eb heb
  have h1 := heid en hen x hx hr
  have h2 := hX.bid eb heb x0 hx0 hv0
  have hxx : x = x0 := hX.id_inj hx hx0 (by rw [h1, ← hid, h2])
  subst hxx
  have h3 := hY.lo en hen x hx hr eb heb hv0
  have h6 : eb.tick = ceilMs (max eb.deadline eb.yieldedAt) * nsPerMs := rfl
  rw [h6]
  exact Nat.mul_le_mul_right nsPerMs (ceilMs_mono h3)

theorem NY_pollExpired {s : St} (ht : TInv now s) (h : NY b0 now none rest s) :
    NY b0 now none rest (pollExpired s now).1 := by
  refine NY_model (extW_pollExpired s now) (NN_pollExpired ht h.nn) (fun hK hX hY => ?_) h
  have hrem := rem0_st hY
  refine Y_my (my_pollExpired hrem) hY (BW.le.refl _) (fun _ en hen => ?_) (fun r i hp => by cases hp)
  rcases pollExpired_due ht hrem en hen with h1 | h1
  · exact Or.inl h1
  · right; right
    intro p hp hpe eb heb _ hei
    left
    have := tick_le_of_lo hX hY (K_eid_mv hK) (List.mem_map_of_mem hen) heb (hei.trans hpe)
    have hclk : (bw (bo b0 s.obs)).now = now := hK.clk
    rw [hclk]
    exact Nat.le_trans this h1

/-! ### the transport read -/

theorem Y_tNext {pend : Option (Nat × Nat)} {B : BW} {s : St} (hf : s.readFused = false) (h : Y now pend B (mv s)) :
    Y now pend B (mv (tNext s).1) ∧ ∀ i d tr b, (tNext s).2 = .item (.request i d tr b) → d ≤ clampNs := by
  obtain ⟨ht, hr⟩ := tNext_nf s hf
  rw [mv_tNext, ht, hr]
  rcases pollNext_inb s.t with ⟨h1, h2⟩ | ⟨i0, h1, h2⟩
  · rw [h1]
    exact ⟨h, fun i d tr b hc => absurd hc (h2 _)⟩
  · refine ⟨h.read i0 s.t.pollNext.1.inbound h1, fun i d tr b hc => ?_⟩
    have := h2 _ hc
    refine h.near i d tr b ?_
    show Inb.msg (.request i d tr b) ∈ s.t.inbound
    rw [h1, this]; exact List.mem_cons_self ..

theorem step_tNext_cancel_table (b : Book) (ep : TaskId) (id : Nat) (tr : Trace) :
    ∀ p ∈ (b.step (.obs (.tNext ep (.item (.cancel id tr))))).table, p.1 ≠ id := by
  intro p hp
  have hp' : p ∈ (bw (b.step (.obs (.tNext ep (.item (.cancel id tr)))))).table := hp
  rw [(bw_step_tNext_cancel b ep id tr).1] at hp'
  simpa using (List.mem_filter.mp hp').2

theorem NY_tNext_other {pend : Option (Nat × Nat)} {s : St}
    (hr : ∀ id tr, (tNext s).2 ≠ .item (.cancel id tr)) (h : NY b0 now pend rest s) :
    NY b0 now pend rest (tNext s).1 ∧
    ∀ i d tr b, (tNext s).2 = .item (.request i d tr b) → (bo b0 (tNext s).1.obs).spun = true ∨
      (((mv (tNext s).1).execs.map (·.id) ++ i :: (inbIds (mv (tNext s).1).inb ++ rest)).Nodup ∧ d ≤ clampNs) := by
  obtain ⟨hnn, hside⟩ := NN_tNext_other hr h.nn
  cases hf : s.readFused with
  | true =>
    rw [tNext_fused_eq s hf]
    exact ⟨h, fun i d tr b hc => by cases hc⟩
  | false =>
    have hobs := tNext_obs s hf
    have hck : CK chk11 b0 (tNext s).1.obs := by
      rw [hobs]
      exact ⟨h.ck, Or.inr (chk11_other _ _ (fun _ _ _ hc => by cases hc))⟩
    refine ⟨⟨hnn, hck, unspun_or fun hn => ?_⟩, fun i d tr b hc => unspun_or fun hn => ?_⟩
    · obtain ⟨hn0, hle⟩ := bo_tNext_unspun b0 hf hn
      exact (Y_tNext hf (h.unspun hn0).2.2).1.le hle
    · exact ⟨of_unspun (hside i d tr b hc) hn, (Y_tNext hf (h.unspun (bo_tNext_unspun b0 hf hn).1).2.2).2 i d tr b hc⟩

theorem NY_cancel {s : St} (ht : TInv now (tNext s).1) (id : Nat) (tr : Trace)
    (hr : (tNext s).2 = .item (.cancel id tr)) (h : NY b0 now none rest s) :
    NY b0 now none rest (cancelRequest (tNext s).1 id).1 := by
  have hf : s.readFused = false := by
    cases hf : s.readFused with
    | false => rfl
    | true => rw [tNext_fused_eq s hf] at hr; cases hr
  have hobs := tNext_obs s hf
  have hck3 : CK chk11 b0 (tNext s).1.obs := by
    rw [hobs]
    exact ⟨h.ck, Or.inr (chk11_other _ _ (fun _ _ _ hc => by cases hc))⟩
  have hx := extW_cancelRequest (tNext s).1 id
  refine ⟨NN_cancel ht id tr hr h.nn, CK11.extW hx hck3, unspun_or fun hn => ?_⟩
  obtain ⟨hn3, _, hle5⟩ := bo_extW_unspun b0 hx hn
  obtain ⟨hn0, hle⟩ := bo_tNext_unspun b0 hf hn3
  obtain ⟨hK, _, hY⟩ := h.unspun hn0
  have hY3 := (Y_tNext hf hY).1.le hle
  refine (Y_my (my_cancelRequest (tNext s).1 id) hY3 (BW.le.refl _) (fun _ en hen => ?_)
    (fun r i hp => by cases hp)).le hle5
  rcases cancelRequest_eff (tNext s).1 id with ⟨_, h2⟩ | ⟨en', _, _, h3⟩
  · rw [h2]; exact Or.inl hen
  · by_cases hc : en.id = id
    · right; left
      intro p hp
      rw [hobs, bo_cons, hr] at hp
      rw [hc]
      exact step_tNext_cancel_table (bo b0 s.obs) (tid s) id tr p hp
    · left
      rw [h3]
      exact List.mem_filter.mpr ⟨hen, by simpa using hc⟩

/-! ### a request is started -/

theorem NY_startRequest {s : St} (id d : Nat) (tr : Trace) (b : Nat) (h : NY b0 now none rest s)
    (hnd : (bo b0 s.obs).spun = true ∨
      (((mv s).execs.map (·.id) ++ id :: (inbIds (mv s).inb ++ rest)).Nodup ∧ d ≤ clampNs)) :
    NY b0 now (startedOf (startRequest s now id d tr b)) rest (startRequest s now id d tr b).1 := by
  have hnn := NN_startRequest id d tr b h.nn (hnd.imp (fun h => h) And.left)
  rcases startRequest_effT s now id d tr b with ⟨h1, h2⟩ | ⟨ex, h1, hr, hi, z, hz1, hz2, hz4, hz3, hmv⟩
  · rw [startedOf, h1]
    exact NY_qm h2 h
  · rw [startedOf, h1] at hnn ⊢
    show NY b0 now (some (ex.rid, ex.id)) rest _
    have hnn' : NN b0 now (some (ex.rid, ex.id)) rest (startRequest s now id d tr b).1 := hnn
    have hx := extW_startRequest s now id d tr b
    refine ⟨hnn', CK11.extW hx h.ck, unspun_or fun hn => ?_⟩
    obtain ⟨hn0, _, hle⟩ := bo_extW_unspun b0 hx hn
    obtain ⟨hK, _, hY⟩ := h.unspun hn0
    rw [hr, hi, hmv]
    exact (hY.start ⟨s.execs.length, id, d, none, true, false, false⟩ z ⟨rfl, rfl⟩ ⟨hz1, hz2, hz3 (of_unspun hnd hn0).2, hz4⟩
      (K_fresh hK).1).le hle


theorem NY_readSteps : ReadSteps now (SInv false now) (fun pend s => NY b0 now pend rest s)
    (fun s id d _ _ => (bo b0 s.obs).spun = true ∨
      (((mv s).execs.map (·.id) ++ id :: (inbIds (mv s).inb ++ rest)).Nodup ∧ d ≤ clampNs)) where
  bpCancel := fun _ _ h => NY_bpCancel h
  expire := fun _ hs h => NY_pollExpired hs.t h
  read := fun _ _ _ hr h => NY_tNext_other hr h
  cancel := fun s id tr hs _ hr h => NY_cancel ((sinv_closed false now).tNext s hs).t id tr hr h
  start := fun _ id d tr b _ h hc => NY_startRequest id d tr b h hc

/-! ## the write side -/

theorem my_armRead (s : St) (r : SPoll Exec) : MY s (armRead s r) := by
  unfold armRead; split
  · exact my_rel.upd _ _ _ (fun e => ⟨rfl, rfl, rfl, rfl, fun _ => rfl⟩)
  · exact my_rel.refl s

theorem NY_armRead {pend : Option (Nat × Nat)} {s : St} (r : SPoll Exec) (h : NY b0 now pend rest s) :
    NY b0 now pend rest (armRead s r) := by
  have hx := extW_armRead s r
  refine NY_model hx (NN_armRead r h.nn) (fun hK hX hY => ?_) h
  exact Y_my (my_armRead s r) hY (BW.le.refl _)
    (fun _ en hen => Or.inl (by rw [armRead_inflight]; exact hen))
    (fun _ _ _ en hen _ => by rw [armRead_inflight]; exact hen)

def ArmedV (r : Nat) (S : MV) : Prop := ∀ x ∈ S.execs, x.rid = r → x.armed = true

theorem armRead_armed (s : St) (ex : Exec) : ArmedV ex.rid (mv (armRead s (.some ex))) := by
  intro x hx hr
  obtain ⟨e, he, rfl⟩ := List.mem_map.mp hx
  simp only [armRead, updExec] at he
  obtain ⟨e0, _, rfl⟩ := List.mem_map.mp he
  by_cases h0 : e0.rid = ex.rid
  · rw [if_pos (by simpa using h0)]; rfl
  · exfalso
    rw [if_neg (by simpa using h0)] at hr
    exact h0 hr

theorem step_tSend_table (b : Book) (ep : TaskId) (id : Nat) (res : Res) (ok : Bool) :
    ∀ p ∈ (b.step (.obs (.tSend ep (.response id res) ok))).table, p.1 ≠ id := by
  intro p hp
  have : (b.step (.obs (.tSend ep (.response id res) ok))).table = b.table.filter (·.1 != id) := by
    cases ok <;> rfl
  rw [this] at hp
  simpa using (List.mem_filter.mp hp).2

theorem NY_baseStartSend {pend : Option (Nat × Nat)} {s : St} (id : Nat) (res : Res) (h : NY b0 now pend rest s)
    (hd : (bo b0 s.obs).spun = true ∨ ∀ x ∈ (mv s).execs, x.id = id → x.live = false) :
    NY b0 now pend rest (baseStartSend s id res).1 := by
  have hnn := NN_baseStartSend id res h.nn (hd.imp (fun h => h) (fun h x hx hi => Or.inr (h x hx hi)))
  refine baseStartSend_walk (C := fun p => NY b0 now pend rest p.1) s id res h
    (fun sA s0 hA htrue hx0 hmvA hobs hv heq => ?_)
  rw [heq] at hnn
  refine ⟨hnn, ?_, unspun_or fun hn => ?_⟩
  · rw [hobs]
    exact ⟨CK11.extW hx0 h.ck, Or.inr (chk11_other _ _ (fun _ _ _ hc => by cases hc))⟩
  · rw [hv, hmvA, show mv sA = (mv s).forget id from hA ▸ mv_removeRequest s id]
    rw [hobs] at hn ⊢
    obtain ⟨hn0, _, hle0⟩ := bo_extW_unspun b0 hx0 (bo_cons_unspun hn)
    obtain ⟨hK, hX, hY⟩ := h.unspun hn0
    refine hY.forget (hle0.trans (by rw [bo_cons]; exact bw_step_tSend _ _ _ _ _)) id (mv s).cq (K_eid_mv hK)
      (fun _ h => h) (fun _ h _ => h) (fun r j hp hj => ?_)
      (fun p hp hpi => absurd hpi (by rw [bo_cons] at hp; exact step_tSend_table _ _ _ _ _ p hp))
    -- the pending request's execution is live, those with the id sent are not
    obtain ⟨⟨en, hen, hei, her, _⟩, hlive⟩ := hY.pnd r j hp
    obtain ⟨x, hx, hxr⟩ := hX.esrc en hen
    have hxd := of_unspun hd hn0 x hx ((K_eid_mv hK en hen x hx hxr).trans (hei.trans hj))
    rw [hlive x hx (hxr.trans her)] at hxd
    cases hxd

theorem NY_popRq {pend : Option (Nat × Nat)} {s1 : St} {l : List (Nat × Res)} (hl : ∀ p ∈ l, p ∈ s1.respQ)
    (h : NY b0 now pend rest s1) : NY b0 now pend rest (rqRelease { s1 with respQ := l }) :=
  NY_model (s := s1) (Adds.after (qm_rqRelease { s1 with respQ := l }).1 rfl) (NN_popRq hl h.nn)
    (fun _ _ hY => (qm_rqRelease { s1 with respQ := l }).2 ▸ hY.congr rfl rfl rfl rfl rfl) h

theorem NY_pumpWrite {pend : Option (Nat × Nat)} {s : St} (rc : Bool) (h : NY b0 now pend rest s) :
    NY b0 now pend rest (pumpWrite s rc).1 := by
  refine pumpWrite_walk (fun hq h => NY_qm hq h) (fun s1 id res l hq h1 => ?_) s rc h
  exact NY_baseStartSend id res (NY_popRq (fun p hp => hq ▸ List.mem_cons_of_mem _ hp) h1) (rq_head_dead h1.nn hq)

theorem NY_dropOffered {s : St} (rid id : Nat) (h : NY b0 now (some (rid, id)) rest s) :
    NY b0 now none rest (dropOffered s rid id) := by
  refine NY_model (dropOffered_eff s rid id).1 (NN_dropOffered rid id h.nn) (fun hK hX hY => ?_) h
  obtain ⟨_, x0, hx0, hr0, hi0, hv0⟩ := hK.pnd rid id rfl
  obtain ⟨e0, he0, rfl⟩ := List.mem_map.mp hx0
  rw [mv_dropOffered]
  refine hY.giveUp (fun x hx hxr => ?_) (fun eb heb hei => ?_)
  · obtain ⟨a, ha, rfl⟩ := List.mem_map.mp hx
    have : xe a = xe e0 := eq_of_rid_nodup hK.ridNodup (List.mem_map_of_mem ha) hx0 (hxr.trans hr0.symm)
    exact ⟨(congrArg XE.vis this).trans hv0, (congrArg XE.id this).trans hi0⟩
  · obtain ⟨x1, hx1, hv1⟩ := hX.bsrc eb heb
    have h1 := hX.bid eb heb x1 hx1 hv1
    have : x1 = ye e0 := hX.id_inj hx1 (List.mem_map_of_mem he0) (by rw [h1, hei]; exact hi0.symm)
    rw [this] at hv1
    exact absurd ((show (ye e0).vis = none from hv0).symm.trans hv1) nofun

/-! ## `Requests::poll_next` (no limiter) -/

def ArmedP : Option (Nat × Nat) → MV → Prop
  | some (rid, _) => ArmedV rid
  | none => fun _ => True

theorem armedP_armRead (s : St) (r : SPoll Exec) : ArmedP (pendOf r) (mv (armRead s r)) := by
  cases r with
  | some ex => exact armRead_armed s ex
  | _ => trivial

theorem armedP_pumpWrite {pend : Option (Nat × Nat)} {s : St} (rc : Bool) (h : ArmedP pend (mv s)) :
    ArmedP pend (mv (pumpWrite s rc).1) := by
  cases pend with
  | none => trivial
  | some p =>
    intro x hx
    have he : (mv (pumpWrite s rc).1).execs = (mv s).execs := (pumpWrite_mv s rc).1
    rw [he] at hx
    exact h x hx

/-- `NY` with the pending request's guard armed -/
def NYa (b0 : Book) (now : Nat) (rest : List Nat) (pend : Option (Nat × Nat)) (s : St) : Prop :=
  NY b0 now pend rest s ∧ ArmedP pend (mv s)

theorem NY_writeSteps : WriteSteps now (SInv false now) (fun s => NY b0 now none rest s) (fun pend s => NY b0 now pend rest s)
    (NYa b0 now rest) where
  arm := fun s r _ h => ⟨NY_armRead r h, armedP_armRead s r⟩
  pump := fun _ rc _ _ h => ⟨NY_pumpWrite rc h.1, armedP_pumpWrite rc h.2⟩
  drop := fun _ rc rid id _ _ h _ => ⟨NY_dropOffered rid id (NY_pumpWrite rc h.1), trivial⟩
  again := fun _ h => h.1

abbrev PostRqY (b0 : Book) (now : Nat) (rest : List Nat) : St × ReqPoll → Prop :=
  PostRq (fun s => NY b0 now none rest s) (NYa b0 now rest)

theorem NY_requestsPollNext (fuel : Nat) (s : St) (hs : SInv false now s) (h : NY b0 now none rest s) (hl : s.limit = none)
    (hel : s.ensureLoop = false) : PostRqY b0 now rest (requestsPollNext fuel s now) :=
  requestsPollNext_carried (sinv_closed false now).toLoopClosed NY_readSteps NY_writeSteps
    (fun s h => NY_qm (QM.emit s _ rfl rfl) h) (fun _ h => ⟨h, trivial⟩) fuel s hs hl hel h

/-! ## the book's own flags during a poll (no limiter) -/

/-- no limiter, no stalled poll, not in an idle poll -/
structure BL (b : Book) : Prop where
  lim : b.limit = none
  st : b.stalled = false
  idle : b.idleNow = false

theorem BL.of_eq {b b' : Book} (h : BL b) (h1 : b'.limit = b.limit) (h2 : b'.stalled = b.stalled)
    (h3 : b'.idleNow = b.idleNow) : BL b' := ⟨h1.trans h.lim, h2.trans h.st, h3.trans h.idle⟩

theorem BL.step {b : Book} (h : BL b) (o : Obs) (ho : ∀ k r, o ≠ .ret (.server k) r) : BL (b.step (.obs o)) := by
  have hl := h.lim
  cases o with
  | tNext ep r =>
    obtain ⟨t, a, e⟩ := preRead_frame b
    rw [step_tNext_eq, e]
    cases r with
    | item m =>
      cases m with
      | cancel id tr => simp only; split <;> exact h.of_eq rfl rfl rfl
      | _ => exact h.of_eq rfl rfl rfl
    | _ => exact h.of_eq rfl rfl rfl
  | tReady ep r =>
    obtain ⟨st, bl, e⟩ := step_tReady b ep r
    have hst : (b.step (.obs (.tReady ep r))).stalled = b.stalled := by
      simp only [Book.step]
      by_cases h1 : (r == PollRes.err) = true
      · simp only [h1, if_true, hl, Option.isSome_none, Bool.and_false, Bool.false_eq_true, if_false]
      · simp only [h1, if_false, hl, Option.isSome_none, Bool.and_false, Bool.false_eq_true, if_false]
    exact h.of_eq (by rw [e]) hst (by rw [e])
  | tFlush ep r =>
    rw [step_tFlush]
    exact h.of_eq rfl rfl rfl
  | tSend ep m ok =>
    cases m with
    | response id res => cases ok <;> exact h.of_eq rfl rfl rfl
    | _ => exact h.of_eq rfl rfl rfl
  | ret t r =>
    cases t with
    | server k => exact absurd rfl (ho k r)
    | exec v => cases r <;> exact h.of_eq rfl rfl rfl
    | _ => exact h.of_eq rfl rfl rfl
  | handler r ev t => cases ev <;> exact h.of_eq rfl rfl rfl
  | counts ep a c => cases ep <;> exact h.of_eq rfl rfl rfl
  | _ => exact h.of_eq rfl rfl rfl

theorem BL.bo {b0 : Book} (h : BL b0) (l : List Obs) (hl : ∀ o ∈ l, ∀ k r, o ≠ .ret (.server k) r) : BL (bo b0 l) :=
  bo_all (P := fun b b' => BL b → BL b') (fun _ h => h) (fun h1 h2 h => h2 (h1 h)) (fun _ o ho h => h.step o ho) b0 l hl h

/-! ## the sweep at the end of an idle poll -/

/-- At an idle poll with nothing left to cancel, the book's execution of a tracked request is neither due
(`X.due_untracked`: its tick is not before the entry's) nor abandoned (`Y.i3` would put its id in the cancellation queue). -/
theorem idle_live {B : BW} {S : MV} (hX : X rest B S) (hY : Y now none B S)
    (heid : ∀ en ∈ S.ents, ∀ x ∈ S.execs, x.rid = en.rid → x.id = en.id)
    (hidle : ∀ en ∈ S.ents, now < ceilMs en.due * nsPerMs) (hcq : S.cq = []) (hdr : S.dropped = false)
    {eb : WB} (heb : eb ∈ B.execs) {en : ZE} (hen : en ∈ S.ents) (hid : en.id = eb.id) :
    ¬ eb.tick ≤ now ∧ eb.abandoned = false := by
  refine ⟨fun hle => hX.due_untracked heid now hidle heb hle en hen hid, ?_⟩
  obtain ⟨x, hx, hr⟩ := hX.esrc en hen
  obtain ⟨x0, hx0, hv0⟩ := hX.bsrc eb heb
  have hxx : x = x0 := hX.id_inj hx hx0 (by rw [heid en hen x hx hr, hid, hX.bid eb heb x0 hx0 hv0])
  subst hxx
  cases hab : eb.abandoned with
  | false => rfl
  | true =>
    have hc := hY.i3 hdr en hen x hx hr eb heb hv0 hab
    rw [hcq] at hc; cases hc

/-- So the sweep keeps every table entry of a tracked request.  `b1'`: the book the checker sweeps, `b1` after the flags
of the `ret` step. -/
theorem idle_keep {b1 b1' : Book} {s : St} (l : Option Nat)
    (hK : K now none (bview b1) (sview s)) (hX : X rest (bw b1) (mv s)) (hY : Y now none (bw b1) (mv s))
    (he : b1'.execs = b1.execs) (htb : b1'.table = b1.table) (hnw : b1'.now = b1.now)
    (hidle : ∀ en ∈ (mv s).ents, now < ceilMs en.due * nsPerMs) (hcq : s.cancelQ = []) (hdr : s.dropped = false) :
    ∀ p ∈ b1'.table, (∃ en ∈ (mv s).ents, en.id = p.1) → p ∈ (sweptBook b1' l).table := by
  intro p hp ⟨en, hen, hei⟩
  obtain ⟨i, r⟩ := p
  rcases swept_table_mem b1' l i r hp with hk | ⟨e, hex, hbad⟩
  · exact hk
  · exfalso
    rw [htb] at hp
    obtain ⟨eb, heb, hbr, hbi, _⟩ := hY.i2 hdr (i, r) hp
    obtain ⟨e1, he1, rfl⟩ := List.mem_map.mp heb
    -- the execution the sweep looked up is the one the table entry belongs to
    have hfe : b1'.exec r = some e1 := by
      unfold Book.exec
      rw [he, ← show e1.rid = r from hbr]
      exact find?_of_map_nodup (·.rid) (K_bnd hK) he1
    obtain rfl : e1 = e := Option.some.inj (hfe.symm.trans hex)
    obtain ⟨hnd, hna⟩ := idle_live hX hY (K_eid_mv hK) hidle hcq hdr heb hen (hei.trans hbi.symm)
    rcases hbad with hd | ha
    · rw [hnw, show b1.now = now from hK.clk] at hd
      exact hnd hd
    · rw [show (wb e1).abandoned = e1.abandoned from rfl, ha] at hna
      cases hna

/-- Neither id list has duplicates and each is included in the other. -/
theorem idle_count {b1 b1' : Book} {s : St} (l : Option Nat) (ht : TInv now s)
    (hK : K now none (bview b1) (sview s)) (hX : X rest (bw b1) (mv s)) (hY : Y now none (bw b1) (mv s))
    (he : b1'.execs = b1.execs) (htb : b1'.table = b1.table) (hnw : b1'.now = b1.now)
    (hidle : ∀ en ∈ (mv s).ents, now < ceilMs en.due * nsPerMs) (hcq : s.cancelQ = []) (hdr : s.dropped = false) :
    s.inflight.length = (sweptBook b1' l).table.length := by
  have hclk : b1.now = now := hK.clk
  -- the tracked requests are in the swept table: in the table unless due or abandoned (`K.tab`), and kept by the sweep
  have h1 : ∀ a ∈ s.inflight.map (·.id), a ∈ (sweptBook b1' l).table.map (·.1) := by
    intro a ha
    obtain ⟨en0, hen0, rfl⟩ := List.mem_map.mp ha
    have hzen : ze en0 ∈ (mv s).ents := List.mem_map_of_mem hen0
    obtain ⟨x, hx, hr⟩ := hX.esrc (ze en0) hzen
    obtain ⟨e, hem, rfl⟩ := List.mem_map.mp hx
    have hxid : e.id = en0.id := K_eid_st hK en0 hen0 e hem hr
    cases hv : e.vis with
    | none =>
      exfalso
      rcases hY.nv (ye e) hx hv (ze en0) hzen hr.symm with ⟨i, hp⟩ | hc
      · cases hp
      · have : (ye e).id ∈ s.cancelQ := hc
        rw [hcq] at this; cases this
    | some v =>
      obtain ⟨ebx, hfind, hbid, _, _⟩ := hK.bex (xe e) (List.mem_map_of_mem hem) v hv
      have htab := hK.tab (SEntry.ir en0) (List.mem_map_of_mem hen0) (xe e) (List.mem_map_of_mem hem) hr v hv ebx hfind
      rw [bview_find] at hfind
      cases hex0 : b1.exec v with
      | none => rw [hex0] at hfind; cases hfind
      | some e0 =>
        rw [hex0] at hfind
        obtain rfl : xb e0 = ebx := Option.some.inj hfind
        have he0id : e0.id = e.id := hbid
        obtain ⟨hndue, hnab⟩ := idle_live hX hY (K_eid_mv hK) hidle hcq hdr
          (List.mem_map_of_mem (List.mem_of_find?_eq_some hex0) : wb e0 ∈ (bw b1).execs) hzen (hxid.symm.trans he0id.symm)
        have hmem : (en0.id, v) ∈ b1.table := by
          rcases htab with h3 | h3 | h3
          · exact h3
          · have h3' : e0.tick ≤ b1.now := h3
            rw [hclk] at h3'
            exact absurd h3' hndue
          · have h3' : e0.abandoned = true := h3
            rw [show (wb e0).abandoned = e0.abandoned from rfl, h3'] at hnab
            cases hnab
        rw [← htb] at hmem
        exact List.mem_map.mpr ⟨(en0.id, v), idle_keep l hK hX hY he htb hnw hidle hcq hdr _ hmem ⟨ze en0, hzen, rfl⟩, rfl⟩
  have hexec : ∀ r, b1'.exec r = b1.exec r := by intro r; unfold Book.exec; rw [he]
  have hbnd := K_bnd hK
  have hT : (sweptBook b1' l).table = b1'.table.filter (fun p : Nat × Nat =>
      match b1'.exec p.2 with
      | some e => !(decide (e.tick ≤ b1'.now)) && !e.abandoned
      | none => true) := rfl
  -- the swept table lists tracked requests only
  have h2 : ∀ a ∈ (sweptBook b1' l).table.map (·.1), a ∈ s.inflight.map (·.id) := by
    intro a ha
    obtain ⟨p, hp, rfl⟩ := List.mem_map.mp ha
    rw [hT] at hp
    obtain ⟨hpt, hcond⟩ := List.mem_filter.mp hp
    rw [htb] at hpt
    obtain ⟨eb, heb, hr, hi, halt⟩ := hY.i2 hdr p hpt
    obtain ⟨e1, he1, rfl⟩ := List.mem_map.mp heb
    have hfe : b1.exec p.2 = some e1 := by
      have := find?_of_map_nodup (·.rid) hbnd he1
      unfold Book.exec
      rw [← show e1.rid = p.2 from hr]
      exact this
    simp only [hexec, hfe, hnw, hclk, Bool.and_eq_true, Bool.not_eq_true', decide_eq_false_iff_not] at hcond
    rcases halt with ⟨en, hen, hei⟩ | h3 | h3
    · obtain ⟨en0, hen0, rfl⟩ := List.mem_map.mp hen
      exact List.mem_map.mpr ⟨en0, hen0, hei⟩
    · exfalso
      have h3' : e1.tick ≤ b1.now := h3
      rw [hclk] at h3'
      exact hcond.1 h3'
    · exfalso
      have h3' : e1.abandoned = true := h3
      rw [hcond.2] at h3'; cases h3'
  have hnd1 : (s.inflight.map (·.id)).Nodup := ht.ids
  have hnd2 : ((sweptBook b1' l).table.map (·.1)).Nodup := by
    have := hK.tnd
    have hsub : List.Sublist ((sweptBook b1' l).table.map (·.1)) ((bview b1).table.map (·.1)) := by
      refine List.Sublist.map _ ?_
      rw [hT]
      show List.Sublist _ b1.table
      rw [← htb]
      exact List.filter_sublist
    exact this.sublist hsub
  have a1 := hnd1.length_le_of_subset h1
  have a2 := hnd2.length_le_of_subset h2
  simp only [List.length_map] at a1 a2
  omega

/-! ## the end of a poll: `yielded`, `ret`, `counts` -/

theorem NY_yield {s : St} {rid id : Nat} {e : Exec} (hg : getExec s rid = some e) (ht : TInv now s)
    (h : NY b0 now (some (rid, id)) rest s) (harm : ArmedV rid (mv s)) :
    NY b0 now none rest (emit (updExec { s with nextVis := s.nextVis + 1 } rid (fun x => { x with vis := some s.nextVis }))
      (.yielded s.nextVis e.id e.deadline e.trace)) := by
  obtain ⟨hem, her⟩ := getExec_mem hg
  refine ⟨NN_yield hg ht h.nn, ⟨h.ck, Or.inr (chk11_other _ _ (fun _ _ _ hc => by cases hc))⟩, ?_⟩
  show ((bo b0 s.obs).step (.obs (.yielded s.nextVis e.id e.deadline e.trace))).spun = true ∨ _
  refine unspun_or fun hn => ?_
  obtain ⟨hK, hX, hY⟩ := h.unspun (step_unspun hn)
  obtain ⟨hid, hall, hv, hbv⟩ := yield_eff hg hK
  have hclk : (bo b0 s.obs).now = now := hK.clk
  show Y now none (bw ((bo b0 s.obs).step (.obs (.yielded s.nextVis e.id e.deadline e.trace)))) _
  rw [mv_yield, bw_step_yielded, hid]
  refine hY.yield hX e.deadline hall hv hbv harm (fun en hen hr => ?_)
  · obtain ⟨en0, hen0, rfl⟩ := List.mem_map.mp hen
    obtain ⟨c, hc, hk, _⟩ := ht.fwd en0 hen0
    have hok := ht.dl en0 hen0 c hc hk e hem (her.trans hr.symm)
    have hrem : en0.remainder = 0 := rem0_st hY en0 hen0
    have hlo := hok.lo
    rw [hrem] at hlo
    -- the pending entry is this one: it was armed in this poll
    obtain ⟨⟨en1, hen1, hen1i, hen1r, hdue⟩, _⟩ := hY.pnd rid id rfl
    obtain ⟨en1', hen1', rfl⟩ := List.mem_map.mp hen1
    have hsame : en0 = en1' := by
      have h1 : en0.id = id := by rw [← K_eid_st hK en0 hen0 e hem (her.trans hr.symm)]; exact hid
      exact eq_of_map_nodup (f := (·.id)) ht.ids hen0 hen1' (h1.trans hen1i.symm)
    have hclk' : (bw (bo b0 s.obs)).now = now := hclk
    rw [hclk']
    show max e.deadline now ≤ en0.dueAt
    exact Nat.max_le.mpr ⟨hlo, by rw [hsame]; exact hdue⟩

theorem Y_ret_aux {pend : Option (Nat × Nat)} {b1 : Book} {S : MV} (c : Bool) (h : Y now pend (bw b1) S) :
    Y now pend (bw (if c then sweptBook b1 (some b1.now) else b1)) S := by
  cases c
  · exact h
  · refine h.sweepG (fun x => x.tick ≤ b1.now) ?_ (fun p hp => (swept_table_sub b1 (some b1.now)).subset hp) rfl
    show (sweptBook b1 (some b1.now)).execs.map wb = _
    rw [swept_execs_eq]
    exact map_ite_comm b1.execs (fun e => e.tick ≤ b1.now) (fun x => x.tick ≤ b1.now) wb (fun e => Iff.rfl)
      (fun e => { e with expiredSeen := true }) (fun x => { x with expiredSeen := true }) (fun e => rfl)

theorem Y_step_ret {pend : Option (Nat × Nat)} {b : Book} {S : MV} (k : Nat) (r : Ret) (h : Y now pend (bw b) S) :
    Y now pend (bw (b.step (.obs (.ret (.server k) r)))) S := by
  rw [step_ret_eq]
  have hle : ∀ b1 : Book, b1.now = b.now → b1.execs = b.execs → b1.table = b.table → b1.failed = b.failed →
      Y now pend (bw b1) S := by
    intro b1 h1 h2 h3 h4
    refine h.le ⟨h1, congrArg (List.map wb) h2, fun p hp => ?_, fun hf => ?_⟩
    · show p ∈ b.table
      rw [← h3]; exact hp
    · show b1.failed = true
      rw [h4]; exact hf
  cases r with
  | pending => exact Y_ret_aux _ (hle _ rfl rfl rfl rfl)
  | readyNone => exact Y_ret_aux _ (hle _ rfl rfl rfl rfl)
  | readyItem => exact Y_ret_aux _ (hle _ rfl rfl rfl rfl)
  | readyItemErr a => exact Y_ret_aux _ (hle _ rfl rfl rfl rfl)
  | readyOk => exact Y_ret_aux _ (hle _ rfl rfl rfl rfl)
  | readyErr a => exact Y_ret_aux _ (hle _ rfl rfl rfl rfl)

theorem chk11_counts (b' : Book) (k a t : Nat) (hst : b'.stalled = false)
    (hidle : b'.idleNow = true → a = b'.table.length) : chk11 b' (.counts (.server k) a t) = none := by
  unfold chk11
  simp only [checkC11Idle]
  rw [if_neg (by rw [hst]; simp)]
  cases hi : b'.idleNow with
  | false => rw [if_neg (by simp)]
  | true =>
    have := hidle hi
    rw [if_neg (by simp [this])]

theorem chk11_ret_aux (b1 : Book) (c : Bool) (k a t : Nat) (hst : b1.stalled = false) (hid : b1.idleNow = false)
    (h : c = true → a = (sweptBook b1 (some b1.now)).table.length) :
    chk11 (if c then sweptBook b1 (some b1.now) else b1) (.counts (.server k) a t) = none := by
  cases c
  · exact chk11_counts _ k a t hst (fun hi => by
      have hi' : b1.idleNow = true := hi
      rw [hid] at hi'; cases hi')
  · exact chk11_counts _ k a t hst (fun _ => h rfl)

theorem chk11_after_ret (b1 : Book) (k k' : Nat) (r : Ret) (a t : Nat) (hbl : BL b1)
    (hcnt : (r = .pending ∨ r = .readyNone) → ∀ b1' : Book, b1'.execs = b1.execs → b1'.table = b1.table →
      b1'.now = b1.now → ∀ l, a = (sweptBook b1' l).table.length) :
    chk11 (b1.step (.obs (.ret (.server k) r))) (.counts (.server k') a t) = none := by
  rw [step_ret_eq]
  cases r with
  | pending => exact chk11_ret_aux _ _ k' a t hbl.st hbl.idle (fun _ => by apply hcnt (Or.inl rfl) <;> rfl)
  | readyNone => exact chk11_ret_aux _ _ k' a t hbl.st hbl.idle (fun _ => by apply hcnt (Or.inr rfl) <;> rfl)
  | readyItem => exact chk11_ret_aux _ _ k' a t hbl.st hbl.idle (fun hc => by simp at hc)
  | readyItemErr e => exact chk11_ret_aux _ _ k' a t hbl.st hbl.idle (fun hc => by simp at hc)
  | readyOk => exact chk11_ret_aux _ _ k' a t hbl.st hbl.idle (fun hc => by simp at hc)
  | readyErr e => exact chk11_ret_aux _ _ k' a t hbl.st hbl.idle (fun hc => by simp at hc)

theorem NY_fin {s1 : St} (rt : Ret) (h1 : NY b0 now none rest s1) (hbl : BL b0)
    (hnr : ∀ o ∈ s1.obs, ∀ k r, o ≠ .ret (.server k) r) (ht1 : (rt = .pending ∨ rt = .readyNone) → TInv now s1)
    (hnn : NN b0 now none rest (emit (emit s1 (.ret (tid s1) rt)) (.counts (tid s1) s1.inflight.length s1.timers.len)))
    (hidle : (rt = .pending ∨ rt = .readyNone) → DelayQ.Idle now s1.timers ∧ s1.cancelQ = [] ∧ s1.dropped = false) :
    NY b0 now none rest (emit (emit s1 (.ret (tid s1) rt)) (.counts (tid s1) s1.inflight.length s1.timers.len)) := by
  refine ⟨hnn, ?_, ?_⟩
  · rw [emit_obs, emit_obs]
    refine ⟨⟨h1.ck, Or.inr (chk11_other _ _ (fun _ _ _ hc => by cases hc))⟩, ?_⟩
    rw [bo_cons]
    refine unspun_or fun hn => ?_
    obtain ⟨hK, hX, hY⟩ := h1.unspun (step_unspun hn)
    refine chk11_after_ret (bo b0 s1.obs) s1.sidx s1.sidx rt _ _ (hbl.bo _ hnr) (fun hr b1' he htb hnw l => ?_)
    obtain ⟨hi, hcq, hdr⟩ := hidle hr
    exact idle_count l (ht1 hr) hK hX hY he htb hnw (idle_mv (ht1 hr) hi) hcq hdr
  · rw [bo_fin, bw_fin, mv_emit, mv_emit]
    exact unspun_or fun hn => Y_step_ret s1.sidx rt (of_unspun h1.y (step_unspun hn))

theorem PostRqY.toT {s : St} {r : ReqPoll} (h : PostRqY b0 now rest (s, r)) : PostRqT b0 now rest (s, r) :=
  h.imp (fun _ h => h.nn) (fun _ _ h => h.1.nn)

theorem NY_pskFinish {s : St} {r : ReqPoll} (ht : TInv now s) (h : PostRqY b0 now rest (s, r)) (hsp : r ≠ .spin)
    (hbl : BL b0) (hnr : ∀ o ∈ s.obs, ∀ k r, o ≠ .ret (.server k) r)
    (hidle : (r = .pending ∨ r = .none) → DelayQ.Idle now s.timers ∧ s.cancelQ = [] ∧ s.dropped = false) :
    NY b0 now none rest (pskFinish s r) := by
  have hnn := NN_pskFinish ht h.toT hsp (fun hr => (hidle hr).1)
  cases r with
  | pending => exact NY_fin .pending h.1 hbl hnr (fun _ => ht) hnn (fun _ => hidle (Or.inl rfl))
  | spin => exact absurd rfl hsp
  | none =>
    have h1 : NY b0 now none rest { s with done := some .readyNone } :=
      NY_qm (s := s) (s' := { s with done := some .readyNone }) (QM.of_eq rfl rfl) h.1
    exact NY_fin (s1 := { s with done := some .readyNone }) .readyNone h1 hbl hnr
      (fun _ => ht.of_sim rfl rfl (ExecsSim.refl _)) hnn (fun _ => hidle (Or.inr rfl))
  | err a =>
    have h1 : NY b0 now none rest { s with done := some (.readyItemErr a) } :=
      NY_qm (s := s) (s' := { s with done := some (.readyItemErr a) }) (QM.of_eq rfl rfl) h.1
    exact NY_fin (s1 := { s with done := some (.readyItemErr a) }) (.readyItemErr a) h1 hbl hnr
      nofun hnn nofun
  | item rid =>
    obtain ⟨id, hN, harm⟩ := h
    simp only [pskFinish, pskRet] at hnn ⊢
    split
    · next e he =>
      rw [he] at hnn
      refine NY_fin .readyItem (NY_yield he ht hN harm) hbl ?_ nofun hnn
        nofun
      intro o ho k r hc
      simp only [emit_obs, List.mem_cons] at ho
      rcases ho with rfl | ho
      · cases hc
      · exact hnr o ho k r hc
    · next he =>
      rw [he] at hnn
      have hs := pnd_spun hN.nn he
      have h1 : NY b0 now none rest s := ⟨⟨Or.inl hs, hN.nn.ck⟩, hN.ck, Or.inl hs⟩
      exact NY_fin .readyItem h1 hbl hnr nofun hnn
        nofun

/-! ## the request stream is dropped; one poll by the application -/

theorem Y_dropServer {B : BW} {s : St} (hY : Y now none B (mv s)) : Y now none B (mv (dropServer s)) := by
  rw [dropServer_eq]
  split
  · exact hY
  · have h2 : MY (dsS1 s) (dsS2 s) := my_rel.pre (my_rel.foldl_wake _ _) rfl rfl rfl rfl rfl rfl
    have h12 := my_rel.trans (my_rel.foldl_abort s.inflight { s with dropped := true, woken := false }) h2
    generalize dsS2 s = s2 at h12 ⊢
    -- the stream is dropped, nothing is tracked or queued any more: only the executions are looked at
    have hno : ∀ {P : Prop}, (true = false) → P := fun h => nomatch h
    have hY0 : Y now none B (mv { s with dropped := true, woken := false }) :=
      ⟨hY.gl, hY.arm, hY.nv, hY.pnd, hY.rem0, hY.lo, hY.near, hY.cqab, hno, hno⟩
    have hd2 : s2.dropped = true := h12.dr
    have hY2 : Y now none B (mv s2) := Y_my h12 hY0 (BW.le.refl _) (fun hd => by rw [hd2] at hd; cases hd) nofun
    have hnil : ∀ {α : Type} {P : Prop} {a : α}, a ∈ ([] : List α) → P := fun h => nomatch h
    exact ⟨hY2.gl, hY2.arm, fun _ _ _ _ h => hnil h, nofun, fun _ h => hnil h, fun _ h => hnil h, hY2.near,
      fun _ h => hnil h, fun hd => hno (hd2.symm.trans hd), fun hd => hno (hd2.symm.trans hd)⟩

theorem NY_dropServer {s : St} (h : NY b0 now none rest s)
    (hd : (bo b0 s.obs).spun = true ∨ (bo b0 s.obs).dropped = true) : NY b0 now none rest (dropServer s) :=
  NY_model (extW_dropServer s) (NN_dropServer h.nn hd) (fun _ _ hY => Y_dropServer hY) h

/-- `NYa` — or the channel is poisoned (it reports no counts any more) and only `NN` and the verdicts so far are kept -/
def NYp (b0 : Book) (now : Nat) (rest : List Nat) (pend : Option (Nat × Nat)) (s : St) : Prop :=
  NYa b0 now rest pend s ∨ (s.poisoned = true ∧ CK chk11 b0 s.obs ∧ NN b0 now pend rest s)

theorem NYp.nn {pend : Option (Nat × Nat)} {s : St} (h : NYp b0 now rest pend s) : NN b0 now pend rest s :=
  h.elim (fun h => h.1.nn) (fun h => h.2.2)

theorem NYp.qm {pend : Option (Nat × Nat)} {s s' : St} (hq : QM s s') (hp : s'.poisoned = s.poisoned)
    (h : NYp b0 now rest pend s) : NYp b0 now rest pend s' :=
  h.imp (fun h => ⟨NY_qm hq h.1, hq.2 ▸ h.2⟩) (fun h => ⟨hp.trans h.1, CK11.extW hq.1 h.2.1, NN_qm hq h.2.2⟩)

theorem NYp.ny {pend : Option (Nat × Nat)} {s : St} (h : NYp b0 now rest pend s) (hpo : s.poisoned = false) :
    NYa b0 now rest pend s :=
  h.resolve_right (fun h => by rw [hpo] at h; cases h.1)

theorem PostRqY.of_p {s1 : St} {r : ReqPoll} (hpo : s1.poisoned = false)
    (h : PostRq (NYp b0 now rest none) (NYp b0 now rest) (s1, r)) : PostRqY b0 now rest (s1, r) :=
  h.at (fun _ h => (h.ny hpo).1) (fun _ h => h.ny hpo)

theorem NY_pskEnd {s s1 : St} {r : ReqPoll} (hf : ClampFits) (hn : now < panicFreeNs) (h0 : s.obs = [])
    (hs : SInv false now s) (hq : QC now s) (hbl : BL b0) (hl : s.limit = none) (hcfg : s.throttleAfterRead = false)
    (hel : s.ensureLoop = false)
    (he : requestsPollNext (pollFuel { s with woken := false }) { s with woken := false } now = (s1, r))
    (hdr : s.dropped = false) (hpo : s1.poisoned = false)
    (hp : PostRq (NYp b0 now rest none) (NYp b0 now rest) (s1, r)) : NY b0 now none rest (pskFinish s1 r) := by
  obtain ⟨_, ht1, hnr, hd1, hsp, hidle⟩ := requestsPollNext_ends hf hn h0 hs hq hl hcfg hel he
  exact NY_pskFinish ht1 (.of_p hpo hp) (hsp hpo) hbl hnr (fun hr => ⟨(hidle hr).1, (hidle hr).2, hd1.trans hdr⟩)

theorem NY_pollServer {s : St} (hf : ClampFits) (hn : now < panicFreeNs) (h0 : s.obs = []) (hs : SInv false now s)
    (hq : QC now s) (hdd : DoneDropped s) (h : Btw (NYp b0 now rest) s) (hbl : BL b0) (hl : s.limit = none)
    (hcfg : s.throttleAfterRead = false) (hel : s.ensureLoop = false) : Btw (NYp b0 now rest) (pollServer s now) := by
  have hdrop : ∀ {s1 : St} {r}, PostRq (NYp b0 now rest none) (NYp b0 now rest) (s1, r) → (r = .none ∨ ∃ a, r = .err a) →
      (bo b0 (pskFinish s1 r).obs).spun = true ∨ (bo b0 (pskFinish s1 r).obs).dropped = true :=
    fun hp => (J_pskFinish (hp.imp (fun _ h => h.nn.n.toJ) (fun _ _ h => h.nn.n.toJ))).2
  refine pollServer_walkR (R := NYp b0 now rest) hdd (fun _ h => h.qm (QM.emit s _ rfl rfl) rfl) (fun hpo h => ?_)
    (fun s1 r he _ h1 => ?_)
    (fun s1 r he hlv hpo hp => Or.inl ⟨NY_pskEnd hf hn h0 hs hq hbl hl hcfg hel he hlv.1 hpo hp, trivial⟩)
    (fun s1 r he hlv hpo hr hp =>
      Or.inl ⟨NY_dropServer (NY_pskEnd hf hn h0 hs hq hbl hl hcfg hel he hlv.1 hpo hp) (hdrop hp hr), trivial⟩)
    (fun _ s' h => h.qm (s := s') (QM.of_eq rfl rfl) rfl) h
  · exact (NY_requestsPollNext (b0 := b0) (rest := rest) (pollFuel { s with woken := false }) { s with woken := false }
      ((sinv_closed false now).inert s _ (by constructor <;> rfl) hs)
      (NY_qm (s := s) (s' := { s with woken := false }) (QM.of_eq rfl rfl) (h.ny hpo).1) hl hel).imp
      (fun _ h => Or.inl ⟨h, trivial⟩) (fun _ _ => Or.inl)
  · rw [(requestsPollNext_ends hf hn h0 hs hq hl hcfg hel he).1] at h1; cases h1

theorem NYp.ck {pend : Option (Nat × Nat)} {s : St} (h : NYp b0 now rest pend s) : CK chk11 b0 s.obs :=
  h.elim (fun h => h.1.ck) (fun h => h.2.1)

end TarpcModel.Server.Tab
