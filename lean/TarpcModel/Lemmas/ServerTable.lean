import TarpcModel.Lemmas.ServerFlow
import TarpcModel.Lemmas.ServerExecs
/-!
The table invariant of the server model, `TInv`: tracked entries and armed timers correspond by key (over the queue's `cores`,
which carry the ticks), and each timer is due when its execution's deadline says (`TimerOk`); `SInv` adds the reason for every
abort and every panic, is closed under every operation and holds in every reachable state.  This is the one place where the
table ↔ timers correspondence is walked through the model: `TableWF` (`Lemmas/ServerInv.lean`, the same without the ticks) is
read off it (`Flow.TInv.tableWF`).

The configuration flags.  From `Lemmas/ServerFlow.lean` on, lemmas assume `s.throttleAfterRead = false` and
`s.ensureLoop = false`: the model has both variants of two pieces of the code, selected by flags the translator generates
(`Gen/Flags.lean`).  `throttleAfterRead = false` is `MaxRequests::poll_next` as it is in tarpc (`limitedPollNextLegacy`, the
limit tested before the read; `limitedPollNextFixed` is a what-if variant, `Props/C12.lean`); `ensureLoop = false` is
`ensure_writeable` as it is in tarpc (one pass; the looping variant can spin, `C14_server_spin_witness`).  The flags never
change (`cfg_closed`); `init_cfg` discharges the two hypotheses by evaluating the generated flags — with another setting the
lemmas stay true and become inapplicable.
-/
namespace TarpcModel.Server.Flow
open TarpcModel

theorem findEntry_isSome_of_mem {s : St} {e : SEntry} (he : e ∈ s.inflight) : (findEntry s e.id).isSome = true := by
  cases h : findEntry s e.id with
  | some _ => rfl
  | none => exact absurd rfl (findEntry_none h e he)

/-! ### the invariant -/

/-- what `TInv` needs to know about a change of the execution list -/
def ExecsSim (l l' : List Exec) : Prop :=
  l'.length = l.length ∧
  ∀ ex' ∈ l', ∃ ex ∈ l, ex'.rid = ex.rid ∧ ex'.id = ex.id ∧ ex'.deadline = ex.deadline

/-- the longest timeout a deadline timer is armed with (`MAX_DEADLINE_TIMEOUT`), in nanoseconds -/
def clampNs : Nat := Gen.serverTimerClampSecs * 1000000000

theorem clampTimeout_cases (t : Nat) :
    clampTimeout t = t ∨ (Gen.serverTimerClampSecs ≠ 0 ∧ clampNs < t ∧ clampTimeout t = clampNs) := by
  unfold clampTimeout clampNs
  generalize Gen.serverTimerClampSecs = k
  by_cases hk : k = 0
  · left; simp [hk]
  · have : (k == 0) = false := by simpa using hk
    rw [this]
    simp only [Bool.false_eq_true, if_false]
    by_cases hle : t ≤ k * 1000000000
    · left; exact Nat.min_eq_left hle
    · right; exact ⟨hk, by omega, Nat.min_eq_right (by omega)⟩

theorem clampTimeout_le_self (t : Nat) : clampTimeout t ≤ t := by
  rcases clampTimeout_cases t with h | ⟨_, hlt, h⟩ <;> rw [h]
  · exact Nat.le_refl _
  · exact Nat.le_of_lt hlt

theorem clampTimeout_le (hf : Gen.serverTimerClampSecs ≠ 0) (t : Nat) : clampTimeout t ≤ clampNs := by
  rcases clampTimeout_cases t with h | ⟨_, _, h⟩
  · unfold clampTimeout clampNs at *
    have : (Gen.serverTimerClampSecs == 0) = false := by simpa using hf
    rw [this]; exact Nat.min_le_right _ _
  · rw [h]; exact Nat.le_refl _

/-- The server clamps its deadline timers and the clamp fits the `DelayQueue` range with `2^35` ms to
spare. -/
def ClampFits : Prop :=
  Gen.serverTimerClampSecs ≠ 0 ∧ Gen.serverTimerClampSecs * 1000 + 2 ^ 35 + 1 ≤ delayQMaxMs

/-- the clock (ns) before which the `DelayQueue::insert` range check cannot fail: `2^35` ms -/
def panicFreeNs : Nat := 2 ^ 35 * nsPerMs

/-- The `DelayQueue::insert` range check cannot fail before `panicFreeNs` when the armed timeout is
clamped and the clamp fits the queue's range:
`when - wheelElapsed ≤ ceilMs (now + clampNs) ≤ now_ms + clamp_ms + 1 ≤ 2^36 - 1`. -/
theorem insert_panic_late (hf : ClampFits) (q : DelayQ) (now t val : Nat)
    (h : (q.insert now (clampTimeout t) val).2.1 = .panic) : panicFreeNs ≤ now := by
  rcases hq : q.insert now (clampTimeout t) val with ⟨q', r, w⟩
  rw [hq] at h
  cases h
  exact DelayQ.insert_panic_late hq (clampTimeout_le hf.1 t) hf.2

/-- the wheel clock is not ahead of the caller's: an insert at `now` is never moved to the wheel clock -/
theorem max_ceilMs_eq {we now t : Nat} (h : we * nsPerMs ≤ now) : max (ceilMs (now + t)) we = ceilMs (now + t) := by
  apply Nat.max_eq_left
  unfold ceilMs nsPerMs at *
  omega

/-- **What the table knows about the armed timer of a tracked request** (`en`: the table entry, `whenMs`:
the tick of its timer in the queue, `ex`: the execution it guards):
* the timer is due at exactly `en.dueAt`, which the queue rounds up to the millisecond;
* `dueAt + remainder` — when the timer is due plus what has not been armed yet — is not before the deadline (`lo`:
  never early) and not after `max deadline now` (`hi`: not late; equal to the deadline unless the request was read
  when its deadline had already passed; `now` because the clock only moves on). -/
structure TimerOk (now : Nat) (en : SEntry) (whenMs : Nat) (ex : Exec) : Prop where
  tick : whenMs = ceilMs en.dueAt
  lo : ex.deadline ≤ en.dueAt + en.remainder
  hi : en.dueAt + en.remainder ≤ max ex.deadline now
  id : ex.id = en.id

theorem TimerOk.mono {now now' : Nat} {en : SEntry} {w : Nat} {ex : Exec} (h : TimerOk now en w ex)
    (hle : now ≤ now') : TimerOk now' en w ex :=
  ⟨h.tick, h.lo, Nat.le_trans h.hi (by omega), h.id⟩

theorem TimerOk.congr {now : Nat} {en : SEntry} {w : Nat} {ex ex' : Exec} (h : TimerOk now en w ex)
    (hd : ex'.deadline = ex.deadline) (hi : ex'.id = ex.id) : TimerOk now en w ex' :=
  ⟨h.tick, hd ▸ h.lo, hd ▸ h.hi, hi ▸ h.id⟩

theorem TimerOk.reach {now : Nat} {en : SEntry} {w : Nat} {ex : Exec} (h : TimerOk now en w ex) :
    ex.deadline ≤ w * nsPerMs + en.remainder := by
  have := le_ceil_tick en.dueAt
  rw [← h.tick] at this
  have := h.lo
  omega

theorem TimerOk.tick_lt {now : Nat} {en : SEntry} {w : Nat} {ex : Exec} (h : TimerOk now en w ex) :
    en.dueAt ≤ w * nsPerMs ∧ w * nsPerMs < en.dueAt + nsPerMs := by
  rw [h.tick]; unfold ceilMs nsPerMs; omega

/-- the table invariant (head of this file); the clock `now` enters through `Sound` and `TimerOk` only (`TInv.mono`) -/
structure TInv (now : Nat) (s : St) : Prop where
  wf : DelayQ.KeysOk s.timers
  sound : DelayQ.Sound s.timers now
  ids : (s.inflight.map (·.id)).Nodup
  fwd : ∀ en ∈ s.inflight, ∃ c ∈ s.timers.cores, c.1 = en.timerKey ∧ c.2.1 = en.id
  bwd : ∀ c ∈ s.timers.cores, ∃ en ∈ s.inflight, en.timerKey = c.1 ∧ en.id = c.2.1
  ridLt : ∀ en ∈ s.inflight, en.rid < s.execs.length
  execRid : ∀ ex ∈ s.execs, ex.rid < s.execs.length
  /-- the tick of the armed timer of a tracked request is its exact due time, rounded up to the ms -/
  tk : ∀ en ∈ s.inflight, ∀ c ∈ s.timers.cores, c.1 = en.timerKey → c.2.2 = ceilMs en.dueAt
  /-- the timer of a tracked request is due `remainder` before the deadline, or now for one read late (`TimerOk`) -/
  dl : ∀ en ∈ s.inflight, ∀ c ∈ s.timers.cores, c.1 = en.timerKey → ∀ ex ∈ s.execs, ex.rid = en.rid →
    TimerOk now en c.2.2 ex

theorem TInv.mono {now now' : Nat} {s : St} (h : TInv now s) (hle : now ≤ now') : TInv now' s :=
  { h with sound := h.sound.mono hle,
           dl := fun en hen c hc hk ex hex hr => (h.dl en hen c hc hk ex hex hr).mono hle }

theorem TInv.of_sim {now : Nat} {s s' : St} (h : TInv now s) (hi : s'.inflight = s.inflight) (ht : s'.timers = s.timers)
    (he : ExecsSim s.execs s'.execs) : TInv now s' := by
  refine ⟨ht ▸ h.wf, ht ▸ h.sound, hi ▸ h.ids, ?_, ?_, ?_, ?_, ?_, ?_⟩
  · rw [hi, ht]; exact h.fwd
  · rw [hi, ht]; exact h.bwd
  · rw [hi, he.1]; exact h.ridLt
  · intro ex' hex'
    obtain ⟨ex, hex, hr, _, _⟩ := he.2 ex' hex'
    rw [he.1, hr]; exact h.execRid ex hex
  · rw [hi, ht]; exact h.tk
  · rw [hi, ht]
    intro en hen c hc hk ex' hex' hr'
    obtain ⟨ex, hex, hr, hid, hd⟩ := he.2 ex' hex'
    exact (h.dl en hen c hc hk ex hex (hr ▸ hr')).congr hd hid

theorem ExecsSim.refl (l : List Exec) : ExecsSim l l := ⟨rfl, fun ex h => ⟨ex, h, rfl, rfl, rfl⟩⟩

theorem ExecsSim.trans {a b c : List Exec} (h1 : ExecsSim a b) (h2 : ExecsSim b c) : ExecsSim a c := by
  refine ⟨h2.1.trans h1.1, fun ex'' h'' => ?_⟩
  obtain ⟨ex', h', r1, i1, d1⟩ := h2.2 ex'' h''
  obtain ⟨ex, h, r2, i2, d2⟩ := h1.2 ex' h'
  exact ⟨ex, h, r1.trans r2, i1.trans i2, d1.trans d2⟩

theorem ExecsSim.map (l : List Exec) (g : Exec → Exec)
    (hg : ∀ e, (g e).rid = e.rid ∧ (g e).id = e.id ∧ (g e).deadline = e.deadline) : ExecsSim l (l.map g) := by
  refine ⟨List.length_map _, fun ex' h' => ?_⟩
  obtain ⟨ex, h, rfl⟩ := List.mem_map.mp h'
  exact ⟨ex, h, hg ex⟩

theorem updExec_sim (s : St) (r : Nat) (f : Exec → Exec)
    (hf : ∀ e, (f e).rid = e.rid ∧ (f e).id = e.id ∧ (f e).deadline = e.deadline) :
    ExecsSim s.execs (updExec s r f).execs := by
  unfold updExec
  exact ExecsSim.map _ _ (fun e => by split; exact hf e; exact ⟨rfl, rfl, rfl⟩)

/-- **One fresh entry**: `en'` with the timer `c'`, whose key no other entry has; every other entry and timer of `s'` is
one of `s`, with its partner.  What is left to show is the arithmetic of the new timer (`htk`, `hdl`). -/
theorem TInv.fresh_entry {now : Nat} {s s' : St} (h : TInv now s) (hwf : DelayQ.KeysOk s'.timers)
    (hs : DelayQ.Sound s'.timers now) (hids : (s'.inflight.map (·.id)).Nodup) {en' : SEntry} {c' : Nat × Nat × Nat}
    (hen' : en' ∈ s'.inflight) (hc' : c' ∈ s'.timers.cores) (hck : c'.1 = en'.timerKey) (hcv : c'.2.1 = en'.id)
    (hnew : ∀ x ∈ s'.inflight, x ≠ en' → x.timerKey ≠ c'.1)
    (hold : ∀ x ∈ s'.inflight, x ≠ en' →
      x ∈ s.inflight ∧ ∀ c ∈ s.timers.cores, c.1 = x.timerKey → c ∈ s'.timers.cores)
    (hback : ∀ c ∈ s'.timers.cores, c ≠ c' →
      c ∈ s.timers.cores ∧ ∀ x ∈ s.inflight, x.timerKey = c.1 → x ∈ s'.inflight)
    (hlen : s.execs.length ≤ s'.execs.length) (hrid' : en'.rid < s'.execs.length)
    (hexr : ∀ ex ∈ s'.execs, ex.rid < s'.execs.length)
    (hexold : ∀ ex ∈ s'.execs, ex.rid < s.execs.length → ex ∈ s.execs)
    (htk : c'.2.2 = ceilMs en'.dueAt) (hdl : ∀ ex ∈ s'.execs, ex.rid = en'.rid → TimerOk now en' c'.2.2 ex) :
    TInv now s' := by
  have holdc : ∀ x ∈ s'.inflight, x ≠ en' → ∀ c ∈ s'.timers.cores, c.1 = x.timerKey → c ∈ s.timers.cores := by
    intro x hx hxe c hc hk
    by_cases hcc : c = c'
    · exact absurd (hcc ▸ hk).symm (hnew x hx hxe)
    · exact (hback c hc hcc).1
  refine ⟨hwf, hs, hids, ?_, ?_, ?_, hexr, ?_, ?_⟩
  · intro x hx
    by_cases hxe : x = en'
    · exact ⟨c', hc', hxe ▸ hck, hxe ▸ hcv⟩
    · obtain ⟨c, hc, a, b⟩ := h.fwd x (hold x hx hxe).1
      exact ⟨c, (hold x hx hxe).2 c hc a, a, b⟩
  · intro c hc
    by_cases hcc : c = c'
    · exact ⟨en', hen', hcc ▸ hck.symm, hcc ▸ hcv.symm⟩
    · obtain ⟨x, hx, a, b⟩ := h.bwd c (hback c hc hcc).1
      exact ⟨x, (hback c hc hcc).2 x hx a, a, b⟩
  · intro x hx
    by_cases hxe : x = en'
    · exact hxe ▸ hrid'
    · exact Nat.lt_of_lt_of_le (h.ridLt x (hold x hx hxe).1) hlen
  · intro x hx c hc hk
    by_cases hxe : x = en'
    · subst hxe
      rw [DelayQ.cores_key_unique hwf hc hc' (hk.trans hck.symm)]; exact htk
    · exact h.tk x (hold x hx hxe).1 c (holdc x hx hxe c hc hk) hk
  · intro x hx c hc hk ex hex hr
    by_cases hxe : x = en'
    · subst hxe
      rw [DelayQ.cores_key_unique hwf hc hc' (hk.trans hck.symm)]; exact hdl ex hex hr
    · have hxo := (hold x hx hxe).1
      exact h.dl x hxo c (holdc x hx hxe c hc hk) hk ex (hexold ex hex (hr ▸ h.ridLt x hxo)) hr

theorem TInv.removeCore {now : Nat} {s s' : St} (h : TInv now s) {en : SEntry} (hen : en ∈ s.inflight)
    (hwf : DelayQ.KeysOk s'.timers) (hsound : DelayQ.Sound s'.timers now)
    (hc : ∀ c, c ∈ s'.timers.cores ↔ c ∈ s.timers.cores ∧ c.1 ≠ en.timerKey)
    (hi : s'.inflight = s.inflight.filter (·.id != en.id)) (he : ExecsSim s.execs s'.execs) : TInv now s' := by
  have hmem : ∀ e, e ∈ s'.inflight ↔ e ∈ s.inflight ∧ e.id ≠ en.id := by
    intro e; rw [hi]; simp
  refine ⟨hwf, hsound, ?_, ?_, ?_, ?_, ?_, ?_, ?_⟩
  · rw [hi]
    exact List.Nodup.sublist (List.Sublist.map _ List.filter_sublist) h.ids
  · intro e he'
    obtain ⟨hin, hne⟩ := (hmem e).mp he'
    obtain ⟨c, hcm, hk, hv⟩ := h.fwd e hin
    refine ⟨c, (hc c).mpr ⟨hcm, fun hkk => ?_⟩, hk, hv⟩
    obtain ⟨c0, hc0, hk0, hv0⟩ := h.fwd en hen
    have : c = c0 := DelayQ.cores_key_unique h.wf hcm hc0 (by rw [hkk, hk0])
    subst this
    exact hne (hv.symm.trans hv0)
  · intro c hcm
    obtain ⟨hcm', hkne⟩ := (hc c).mp hcm
    obtain ⟨e, hin, hk, hv⟩ := h.bwd c hcm'
    refine ⟨e, (hmem e).mpr ⟨hin, fun hid => ?_⟩, hk, hv⟩
    have : e = en := eq_of_map_nodup (f := (·.id)) h.ids hin hen hid
    subst this
    exact hkne hk.symm
  · intro e he'
    rw [he.1]; exact h.ridLt e ((hmem e).mp he').1
  · intro ex' hex'
    obtain ⟨ex, hex, hr, _, _⟩ := he.2 ex' hex'
    rw [he.1, hr]; exact h.execRid ex hex
  · intro e he' c hcm hk
    exact h.tk e ((hmem e).mp he').1 c ((hc c).mp hcm).1 hk
  · intro e he' c hcm hk ex' hex' hr'
    obtain ⟨ex, hex, hr, hid, hd⟩ := he.2 ex' hex'
    exact (h.dl e ((hmem e).mp he').1 c ((hc c).mp hcm).1 hk ex hex (hr ▸ hr')).congr hd hid

theorem TInv.remove_some {now : Nat} {s : St} (h : TInv now s) {en : SEntry} (hen : en ∈ s.inflight) :
    ∃ q' w, s.timers.remove en.timerKey = some (q', w) := by
  cases hr : s.timers.remove en.timerKey with
  | some p => exact ⟨p.1, p.2, rfl⟩
  | none =>
    have := (DelayQ.remove_none_iff _ _).mp hr
    obtain ⟨c, hc, hk, _⟩ := h.fwd en hen
    exact absurd ((DelayQ.mem_keys_iff _ _).mpr ⟨c, hc, hk⟩) this

/-- a tracked entry goes together with its timer: `s1` is `s` without the entries of `en.id`, the queue not yet touched -/
theorem TInv.untrack_eq {now : Nat} {s s1 : St} (h : TInv now s) {en : SEntry} (hen : en ∈ s.inflight)
    (hi : s1.inflight = s.inflight.filter (·.id != en.id)) (ht : s1.timers = s.timers) (he : ExecsSim s.execs s1.execs) :
    ∃ q' w, removeTimer s1 en.timerKey = (if w = true then wakeServer { s1 with timers := q' } else { s1 with timers := q' }) ∧
      TInv now { s1 with timers := q' } := by
  obtain ⟨q', w, hr⟩ := h.remove_some hen
  rcases removeTimer_out s1 en.timerKey with ⟨hn, _⟩ | ⟨q, w', hq, e⟩
  · rw [ht, hr] at hn; cases hn
  · rw [ht, hr] at hq; cases hq
    exact ⟨q', w, e, h.removeCore hen (DelayQ.remove_WF hr h.wf) (DelayQ.remove_Sound hr h.sound) (DelayQ.remove_some hr).2 hi he⟩

theorem TInv.untrack {now : Nat} {s s1 : St} (h : TInv now s) {en : SEntry} (hen : en ∈ s.inflight)
    (hi : s1.inflight = s.inflight.filter (·.id != en.id)) (ht : s1.timers = s.timers) (he : ExecsSim s.execs s1.execs) :
    TInv now (removeTimer s1 en.timerKey) := by
  obtain ⟨q', w, e, hcore⟩ := h.untrack_eq hen hi ht he
  rw [e]
  split
  · exact hcore.of_sim (wakeServer_inflight _) (wakeServer_timers _) (by rw [wakeServer_execs]; exact ExecsSim.refl _)
  · exact hcore

theorem TInv.removeReq {now : Nat} {s : St} (h : TInv now s) (id : Nat) : TInv now (removeRequest s id).1 := by
  rcases removeRequest_out s id with ⟨_, e⟩ | ⟨en, hf, e⟩ <;> rw [e]
  · exact h
  · obtain ⟨hen, rfl⟩ := findEntry_some hf
    exact (h.untrack (s1 := { s with inflight := s.inflight.filter (·.id != en.id) }) hen rfl rfl (ExecsSim.refl _))

/-! ### how the execution list changes -/

/-- `l'` is `l` with bookkeeping updated; only executions with rid `r` may have been newly aborted -/
def ExecsAb (r : Option Nat) (l l' : List Exec) : Prop :=
  l'.length = l.length ∧
  ∀ ex' ∈ l', ∃ ex ∈ l, ex'.rid = ex.rid ∧ ex'.id = ex.id ∧ ex'.deadline = ex.deadline ∧
    (ex'.aborted = true → ex.aborted = true ∨ r = some ex.rid)

theorem ExecsAb.sim {r : Option Nat} {l l' : List Exec} (h : ExecsAb r l l') : ExecsSim l l' :=
  ⟨h.1, fun ex' h' => by obtain ⟨ex, he, a, b, c, _⟩ := h.2 ex' h'; exact ⟨ex, he, a, b, c⟩⟩

theorem ExecsAb.refl (r : Option Nat) (l : List Exec) : ExecsAb r l l :=
  ⟨rfl, fun ex h => ⟨ex, h, rfl, rfl, rfl, Or.inl⟩⟩

theorem ExecsAb.map (r : Option Nat) (l : List Exec) (g : Exec → Exec)
    (hg : ∀ e, (g e).rid = e.rid ∧ (g e).id = e.id ∧ (g e).deadline = e.deadline ∧
      ((g e).aborted = true → e.aborted = true ∨ r = some e.rid)) : ExecsAb r l (l.map g) := by
  refine ⟨List.length_map _, fun ex' h' => ?_⟩
  obtain ⟨ex, h, rfl⟩ := List.mem_map.mp h'
  exact ⟨ex, h, hg ex⟩

theorem updExec_ab (s : St) (r : Nat) (f : Exec → Exec) (hf : Stable f) : ExecsAb none s.execs (updExec s r f).execs := by
  unfold updExec
  refine ExecsAb.map _ _ _ (fun e => ?_)
  split
  · obtain ⟨a, b, c, d⟩ := hf e; exact ⟨a, b, c, fun h => Or.inl (d ▸ h)⟩
  · exact ⟨rfl, rfl, rfl, Or.inl⟩

theorem wakeExec_ab (s : St) (r : Nat) : ExecsAb none s.execs (wakeExec s r).execs := by
  obtain ⟨b, h⟩ := wakeExec_execs s r
  rw [h]
  refine ExecsAb.map _ _ _ fun e => ?_
  split
  · exact ⟨rfl, rfl, rfl, .inl⟩
  · exact ⟨rfl, rfl, rfl, .inl⟩

theorem abortExec_ab (s : St) (r : Nat) : ExecsAb (some r) s.execs (abortExec s r).execs := by
  obtain ⟨b, h⟩ := abortExec_execs s r
  rw [h]
  refine ExecsAb.map _ _ _ fun e => ?_
  unfold abortOne
  split
  · next hr => exact ⟨rfl, rfl, rfl, fun _ => .inr (by simp at hr; rw [hr])⟩
  · exact ⟨rfl, rfl, rfl, .inl⟩

theorem TInv.cancelReq {now : Nat} {s : St} (h : TInv now s) (id : Nat) : TInv now (cancelRequest s id).1 := by
  rcases cancelRequest_out s id with ⟨_, e⟩ | ⟨en, hf, e⟩ <;> rw [e]
  · exact h
  · obtain ⟨hen, rfl⟩ := findEntry_some hf
    exact (h.untrack (s1 := abortExec { s with inflight := s.inflight.filter (·.id != en.id) } en.rid) hen
      (abortExec_inflight _ _) (abortExec_timers _ _) (abortExec_ab _ _).sim)

theorem cancelRequest_ab (s : St) (id : Nat) :
    (findEntry s id = none ∧ (cancelRequest s id).1 = s) ∨
    (∃ en, findEntry s id = some en ∧ ExecsAb (some en.rid) s.execs (cancelRequest s id).1.execs) := by
  rcases cancelRequest_out s id with ⟨hf, e⟩ | ⟨en, hf, e⟩ <;> rw [e]
  · exact Or.inl ⟨hf, rfl⟩
  · exact Or.inr ⟨en, hf, by rw [removeTimer_execs]; exact abortExec_ab _ en.rid⟩

/-- what a fired timer tells in a state satisfying the invariant: it belongs to a tracked entry, which
is the one `findEntry` finds for its value -/
theorem TInv.popped {now : Nat} {s : St} (h : TInv now s) {q : DelayQ} {e : DqEntry}
    (hp : s.timers.pollExpired now = (q, .expired e)) :
    ∃ en, en ∈ s.inflight ∧ en.timerKey = e.key ∧ en.id = e.val ∧
      (∀ en', findEntry { s with timers := q } e.val = some en' → en' = en) ∧
      findEntry { s with timers := q } e.val ≠ none := by
  obtain ⟨hcore, hcs⟩ := DelayQ.pollExpired_expired hp h.wf
  obtain ⟨en, hen, hk, hv⟩ := h.bwd _ hcore
  have hv' : en.id = e.val := hv
  refine ⟨en, hen, hk, hv', ?_, ?_⟩
  · intro en' hf
    obtain ⟨hen', hid'⟩ := findEntry_some hf
    exact eq_of_map_nodup (f := (·.id)) h.ids hen' hen (hid'.trans hv'.symm)
  · intro hfe
    exact absurd hv' (findEntry_none hfe en hen)

theorem TInv.found_key {now : Nat} {s : St} (h : TInv now s) {q : DelayQ} {e : DqEntry} {en : SEntry}
    (hp : s.timers.pollExpired now = (q, .expired e)) (hf : findEntry { s with timers := q } e.val = some en) :
    en ∈ s.inflight ∧ en.id = e.val ∧ en.timerKey = e.key := by
  obtain ⟨en0, hen, hk, hv, huniq, _⟩ := h.popped hp
  rw [huniq en hf]
  exact ⟨hen, hv, hk⟩

/-- **Re-arming keeps the invariant**: the fired timer of `en` is replaced by a fresh one, armed at the
current clock (which the fired one had reached) with a part of what was left of the time until the
deadline; the entry pays that part out of its remainder. -/
theorem TInv.rearm {now : Nat} {s : St} (h : TInv now s) {q : DelayQ} {e : DqEntry} {en : SEntry} {s2 : St}
    (hp : s.timers.pollExpired now = (q, .expired e)) (hen : en ∈ s.inflight) (hk : en.timerKey = e.key)
    (hr : Server.rearm { s with timers := q } now en = some s2) : TInv now s2 := by
  have hwfq := DelayQ.pollExpired_WF hp h.wf
  have hsq := DelayQ.pollExpired_Sound hp h.sound
  obtain ⟨hcore, hcs⟩ := DelayQ.pollExpired_expired hp h.wf
  have hne := DelayQ.pollExpired_not_early hp h.sound
  obtain ⟨q', key, w, hi, rfl⟩ := rearm_some hr
  simp only at hi
  obtain ⟨hkey, hnk, hcs'⟩ := DelayQ.insert_ok hi
  have hwf := DelayQ.insert_WF hi hwfq
  have hs := DelayQ.insert_Sound hi hsq
  have hfresh : ∀ c ∈ q.cores, c.1 ≠ key := fun c hc hck => by
    have := DelayQ.cores_key_lt hwfq hc; omega
  have hexecs : (if w = true then wakeServer { s with timers := q } else { s with timers := q }).execs = s.execs := by
    cases w <;> simp
  have hupd_en : rearmUpd en.id key now en =
      { en with timerKey := key, dueAt := now + clampTimeout (restOf now en),
                remainder := restOf now en - clampTimeout (restOf now en) } := by
    unfold rearmUpd; rw [if_pos (by simp)]
  -- the other entries are untouched, and their timers survive the pop and the insert
  have hother : ∀ x ∈ s.inflight, x ≠ en → rearmUpd en.id key now x = x := by
    intro x hx hxe
    exact rearmUpd_ne (fun hid => hxe (eq_of_map_nodup (f := (·.id)) h.ids hx hen hid))
  have hsplit : ∀ x' ∈ s.inflight.map (rearmUpd en.id key now), x' ≠ rearmUpd en.id key now en →
      x' ∈ s.inflight ∧ x' ≠ en := by
    intro x' hx' hne
    obtain ⟨x, hx, rfl⟩ := List.mem_map.mp hx'
    have hxe : x ≠ en := fun hxe => hne (by rw [hxe])
    rw [hother x hx hxe]; exact ⟨hx, hxe⟩
  have hkeep : ∀ x ∈ s.inflight, x ≠ en → ∀ c ∈ s.timers.cores, c.1 = x.timerKey → c ∈ q.cores := by
    intro x hx hxe c hc hck
    refine (hcs c).mpr ⟨hc, fun hce => hxe ?_⟩
    obtain ⟨c0, hc0, hk0, hv0⟩ := h.fwd en hen
    have hcc : c = c0 := DelayQ.cores_key_unique h.wf hc hc0 (by rw [hce, hk0, hk])
    obtain ⟨cx, hcx, hkx, hvx⟩ := h.fwd x hx
    have hcc' : c = cx := DelayQ.cores_key_unique h.wf hc hcx (by rw [hck, hkx])
    exact eq_of_map_nodup (f := (·.id)) h.ids hx hen (by rw [← hvx, ← hcc', hcc, hv0])
  refine h.fresh_entry hwf hs ?_ (en' := rearmUpd en.id key now en) (List.mem_map.mpr ⟨en, hen, rfl⟩)
    ((hcs' _).mpr (Or.inr rfl)) (by rw [hupd_en]) (rearmUpd_id _ _ _ _).symm ?_ ?_ ?_ (by rw [hexecs]; exact Nat.le_refl _)
    (by rw [hexecs, rearmUpd_rid]; exact h.ridLt en hen) (by rw [hexecs]; exact h.execRid)
    (by rw [hexecs]; exact fun _ hex _ => hex) (by rw [hupd_en]; exact max_ceilMs_eq hsq.el) ?_
  · show ((s.inflight.map (rearmUpd en.id key now)).map (·.id)).Nodup
    have : (s.inflight.map (rearmUpd en.id key now)).map (·.id) = s.inflight.map (·.id) := by
      rw [List.map_map]; apply List.map_congr_left; intro x _; simp
    rw [this]; exact h.ids
  · intro x hx hxe
    obtain ⟨hx, hxe⟩ := hsplit x hx hxe
    obtain ⟨c0, hc0, hk0, _⟩ := h.fwd x hx
    exact fun hk' => hfresh c0 (hkeep x hx hxe c0 hc0 hk0) (hk0.trans hk')
  · intro x hx hxe
    obtain ⟨hx, hxe⟩ := hsplit x hx hxe
    exact ⟨hx, fun c hc hck => (hcs' c).mpr (Or.inl (hkeep x hx hxe c hc hck))⟩
  · intro c hc hcc
    have hcq : c ∈ q.cores := ((hcs' c).mp hc).resolve_right hcc
    obtain ⟨hcold, hcne⟩ := (hcs c).mp hcq
    refine ⟨hcold, fun x hx hxk => ?_⟩
    have hxe : x ≠ en := fun hxe => hcne (by rw [← hxk, hxe, hk])
    exact List.mem_map.mpr ⟨x, hx, hother x hx hxe⟩
  · -- the fired timer was due no later than its tick, which the clock has reached
    rw [hexecs]
    intro ex hex hrid
    rw [rearmUpd_rid] at hrid
    rw [hupd_en]
    have hold := h.dl en hen _ hcore hk.symm ex hex hrid
    have hw : (DelayQ.core e).2.2 = e.whenMs := rfl
    have hdue : en.dueAt ≤ now := by
      have := hold.tick_lt.1
      rw [hw] at this
      exact Nat.le_trans this hne
    have h3 := clampTimeout_le_self (restOf now en)
    have hrest : restOf now en = en.remainder - (now - en.dueAt) := rfl
    refine ⟨max_ceilMs_eq hsq.el, ?_, ?_, hold.id⟩
    · have := hold.lo
      show ex.deadline ≤ now + clampTimeout (restOf now en) + (restOf now en - clampTimeout (restOf now en))
      omega
    · have := hold.hi
      show now + clampTimeout (restOf now en) + (restOf now en - clampTimeout (restOf now en)) ≤ max ex.deadline now
      omega

theorem TInv.expireStep {now : Nat} {s : St} (h : TInv now s) : TInv now (Server.expireStep s now).1 := by
  have hs := expireStep_out s now
  revert hs; generalize Server.expireStep s now = p; intro hs
  obtain ⟨s', r⟩ := p
  dsimp only at hs ⊢
  have idle : ∀ q r, s.timers.pollExpired now = (q, r) → (∀ e, r ≠ .expired e) → TInv now { s with timers := q } := by
    intro q r hp hr
    have hwf := DelayQ.pollExpired_WF hp h.wf
    have hs := DelayQ.pollExpired_Sound hp h.sound
    have hcs := DelayQ.pollExpired_other hp h.wf hr
    exact ⟨hwf, hs, h.ids, fun en hen => by obtain ⟨c, hc, a, b⟩ := h.fwd en hen; exact ⟨c, (hcs c).mpr hc, a, b⟩,
      fun c hc => h.bwd c ((hcs c).mp hc), h.ridLt, h.execRid,
      fun en hen c hc => h.tk en hen c ((hcs c).mp hc),
      fun en hen c hc => h.dl en hen c ((hcs c).mp hc)⟩
  cases hs with
  | idleNone q hp => exact idle q _ hp (by intro e h; cases h)
  | idlePending q hp => exact idle q _ hp (by intro e h; cases h)
  | orphan q e hp hf =>
    obtain ⟨en, _, _, _, _, hne⟩ := h.popped hp
    exact absurd hf hne
  | abort q e en' hp hf h0 =>
    obtain ⟨hen, hv, hk⟩ := h.found_key hp hf
    have hwf := DelayQ.pollExpired_WF hp h.wf
    have hs := DelayQ.pollExpired_Sound hp h.sound
    obtain ⟨hcore, hcs⟩ := DelayQ.pollExpired_expired hp h.wf
    refine h.removeCore hen (by simpa using hwf) (by simpa using hs) ?_ (by simp [hv]) ?_
    · intro c; simp only [abortExec_timers]; rw [hcs c, hk]
    · exact (abortExec_ab { s with timers := q, inflight := s.inflight.filter (·.id != e.val) } en'.rid).sim
  | rearmed q e en' s2 hp hf h0 hr =>
    obtain ⟨hen, hv, hk⟩ := h.found_key hp hf
    exact h.rearm hp hen hk hr
  | panicked q e en' hp hf h0 hr => exact h.of_sim rfl rfl (ExecsSim.refl _)

theorem TInv.expire {now : Nat} {s : St} (h : TInv now s) : TInv now (pollExpired s now).1 :=
  pollExpired_ind (P := TInv now) now (fun _ h1 => h1.of_sim rfl rfl (ExecsSim.refl _))
    (fun _ h1 => h1.expireStep) s h

/-- what one call of `poll_expired` may do to the executions: nothing but bookkeeping, or abort those of
one request, whose deadline has passed -/
def ExpAb (now : Nat) (l l' : List Exec) : Prop :=
  ExecsAb none l l' ∨ ∃ r, ExecsAb (some r) l l' ∧ ∀ ex ∈ l, ex.rid = r → ex.deadline ≤ now

/-- one iteration: a `continue` (re-arm) leaves the executions alone; an expiry aborts only executions
whose deadline has passed — the timer that fired had nothing left to arm (`remainder = 0`), so its tick,
which the clock has reached, is no earlier than the deadline -/
theorem TInv.expireStep_ab {now : Nat} {s : St} (h : TInv now s) :
    ExpAb now s.execs (Server.expireStep s now).1.execs ∧
    ((Server.expireStep s now).2 = none → (Server.expireStep s now).1.execs = s.execs) := by
  have hs := expireStep_out s now
  revert hs; generalize Server.expireStep s now = p; intro hs
  obtain ⟨s', r⟩ := p
  dsimp only at hs ⊢
  cases hs with
  | idleNone q hp => exact ⟨Or.inl (ExecsAb.refl _ _), fun h => by cases h⟩
  | idlePending q hp => exact ⟨Or.inl (ExecsAb.refl _ _), fun h => by cases h⟩
  | orphan q e hp hf => exact ⟨Or.inl (ExecsAb.refl _ _), fun h => by cases h⟩
  | abort q e en' hp hf h0 =>
    obtain ⟨hen, hv, hk⟩ := h.found_key hp hf
    obtain ⟨hcore, _⟩ := DelayQ.pollExpired_expired hp h.wf
    refine ⟨Or.inr ⟨en'.rid, abortExec_ab _ en'.rid, fun ex hex hr => ?_⟩, fun h => by cases h⟩
    have hne := DelayQ.pollExpired_not_early hp h.sound
    have hold := h.dl en' hen _ hcore hk.symm ex hex hr
    have hw : (DelayQ.core e).2.2 = e.whenMs := rfl
    have hdue := hold.tick_lt.1
    rw [hw] at hdue
    have hlo := hold.lo
    have hrest : restOf now en' = en'.remainder - (now - en'.dueAt) := rfl
    omega
  | rearmed q e en' s2 hp hf h0 hr =>
    have := (rearm_frame hr).execs
    exact ⟨Or.inl (by rw [this]; exact ExecsAb.refl _ _), fun _ => this⟩
  | panicked q e en' hp hf h0 hr => exact ⟨Or.inl (ExecsAb.refl _ _), fun h => by cases h⟩

/-- **The expiry path aborts only executions whose deadline has passed (never early).** -/
theorem TInv.expire_ab {now : Nat} {s : St} (h : TInv now s) : ExpAb now s.execs (pollExpired s now).1.execs :=
  -- the iterations that go round again (re-arms) leave the executions alone
  pollExpired_loop (I := fun s1 => TInv now s1 ∧ s1.execs = s.execs) (Φ := fun s' _ => ExpAb now s.execs s'.execs)
    (fun s1 ⟨h1, he⟩ => by
      have a := h1.expireStep_ab
      have b := h1.expireStep
      generalize Server.expireStep s1 now = p at a b ⊢
      obtain ⟨s', r⟩ := p
      cases r with
      | none => exact ⟨b, (a.2 rfl).trans he⟩
      | some r => exact he ▸ a.1)
    (fun s1 ⟨_, he⟩ => Or.inl (by rw [← he]; exact ExecsAb.refl _ _))
    (fun s1 ⟨_, he⟩ => Or.inl (by rw [← he]; exact ExecsAb.refl _ _)) s ⟨h, rfl⟩

theorem TInv.start {now : Nat} {s : St} (h : TInv now s) (id d : Nat) (tr : Trace) (b : Nat) :
    TInv now (startRequest s now id d tr b).1 := by
  rcases startRequest_out s now id d tr b with ⟨_, e⟩ | ⟨_, _, e⟩ | ⟨hfn, q, key, w, hi, e⟩ <;> rw [e]
  · exact h
  · exact h.of_sim rfl rfl (ExecsSim.refl _)
  · generalize startWoke s w = sw
    obtain ⟨hkey, hnk, hcs⟩ := DelayQ.insert_ok hi
    have hfresh : ∀ c ∈ s.timers.cores, c.1 ≠ key := fun c hc hck => by
      have := DelayQ.cores_key_lt h.wf hc; omega
    have hsplit : ∀ {α : Type} {l : List α} {a x : α}, x ∈ l ++ [a] → x ≠ a → x ∈ l := fun hx hxa =>
      (List.mem_append.mp hx).resolve_right fun hm => hxa (List.mem_singleton.mp hm)
    refine h.fresh_entry (DelayQ.insert_WF hi h.wf) (DelayQ.insert_Sound hi h.sound) ?_
      (List.mem_append.mpr (Or.inr (List.mem_singleton.mpr rfl))) ((hcs _).mpr (Or.inr rfl)) rfl rfl ?_ ?_ ?_
      (by simp) (by simp) ?_ ?_ (max_ceilMs_eq h.sound.el) ?_
    · simp only [List.map_append, List.map_cons, List.map_nil]
      rw [List.nodup_append]
      refine ⟨h.ids, by simp, ?_⟩
      intro a ha b hb
      simp only [List.mem_singleton] at hb
      obtain ⟨en, hen, rfl⟩ := List.mem_map.mp ha
      rw [hb]; exact findEntry_none hfn en hen
    · intro x hx hxe hk'
      obtain ⟨c0, hc0, hk0, _⟩ := h.fwd x (hsplit hx hxe)
      exact hfresh c0 hc0 (hk0.trans hk')
    · exact fun x hx hxe => ⟨hsplit hx hxe, fun c hc _ => (hcs c).mpr (Or.inl hc)⟩
    · exact fun c hc hcc => ⟨((hcs c).mp hc).resolve_right hcc, fun x hx _ => List.mem_append.mpr (Or.inl hx)⟩
    · intro ex hex
      simp only [List.length_append, List.length_cons, List.length_nil]
      rcases List.mem_append.mp hex with hex | hex
      · have := h.execRid ex hex; omega
      · simp only [List.mem_singleton] at hex; subst hex; simp [newExec]
    · intro ex hex hlt
      refine hsplit hex fun he => ?_
      subst he
      exact absurd hlt (Nat.lt_irrefl _)
    · intro ex hex hr
      have hexnew : ex.deadline = d ∧ ex.id = id := by
        rcases List.mem_append.mp hex with hex | hex
        · have := h.execRid ex hex; simp only at hr; omega
        · simp only [List.mem_singleton] at hex; subst hex; exact ⟨rfl, rfl⟩
      have h3 := clampTimeout_le_self (d - now)
      refine ⟨max_ceilMs_eq h.sound.el, ?_, ?_, hexnew.2⟩
      · rw [hexnew.1]
        show d ≤ now + clampTimeout (d - now) + ((d - now) - clampTimeout (d - now))
        omega
      · rw [hexnew.1]
        show now + clampTimeout (d - now) + ((d - now) - clampTimeout (d - now)) ≤ max d now
        omega

theorem foldl_abort_sim (es : List SEntry) (s : St) :
    ExecsSim s.execs (es.foldl (fun s e => abortExec s e.rid) s).execs :=
  foldl_keeps (P := fun s' : St => ExecsSim s.execs s'.execs) (fun b e h => h.trans (abortExec_ab b e.rid).sim) es
    (ExecsSim.refl _)

theorem foldl_wake_sim (ws : List Nat) (s : St) : ExecsSim s.execs (ws.foldl wakeExec s).execs :=
  foldl_keeps (P := fun s' : St => ExecsSim s.execs s'.execs) (fun b e h => h.trans (wakeExec_ab b e).sim) ws (ExecsSim.refl _)

theorem TInv.cleared {now : Nat} {s : St} (hi : s.inflight = []) (ht : s.timers = {})
    (he : ∀ ex ∈ s.execs, ex.rid < s.execs.length) : TInv now s := by
  have hc : s.timers.cores = [] := by rw [ht]; rfl
  refine ⟨ht ▸ DelayQ.WF_empty, ht ▸ DelayQ.Sound_empty now, ?_, ?_, ?_, ?_, he, ?_, ?_⟩ <;> simp [hi, hc]

theorem TInv.drop {now : Nat} {s : St} (h : TInv now s) : TInv now (dropServer s) := by
  rw [dropServer_eq]
  split
  · exact h.of_sim rfl rfl (ExecsSim.refl _)
  · have h1 : ExecsSim s.execs (dsS1 s).execs := foldl_abort_sim s.inflight { s with dropped := true, woken := false }
    have h2 : ExecsSim (dsS1 s).execs (dsS2 s).execs := foldl_wake_sim (dsS1 s).rqWaiters { dsS1 s with rqWaiters := [] }
    refine TInv.cleared rfl rfl fun ex' hex' => ?_
    obtain ⟨ex, hex, hr, _, _⟩ := (h1.trans h2).2 ex' hex'
    rw [(h1.trans h2).1, hr]; exact h.execRid ex hex

/-! ### observation bookkeeping: what a step may add -/

def insertPanicMsg : String := "DelayQueue::insert: invalid deadline"

/-- what may be said of a panic observed at clock `now`: it is the `DelayQueue` range panic, and — the
armed timeouts being clamped — it does not happen before `panicFreeNs` -/
def PanicOk (now : Nat) (m : String) : Prop := m = insertPanicMsg ∧ (ClampFits → panicFreeNs ≤ now)

theorem PanicOk.mono {now now' : Nat} {m : String} (h : PanicOk now m) (hle : now ≤ now') : PanicOk now' m :=
  ⟨h.1, fun hf => Nat.le_trans (h.2 hf) hle⟩

abbrev PanicLate (now : Nat) (o : Obs) : Prop := ∀ ep m, o = Obs.panic ep m → PanicOk now m

/-- `s'.obs` extends `s.obs` and the only panic it may add is the (late) `DelayQueue` range panic -/
abbrev ObsExt (now : Nat) (s s' : St) : Prop := Adds (PanicLate now) s s'

theorem Adds.mem {Q : Obs → Prop} {s s' : St} (h : Adds Q s s') {o : Obs} (ho : o ∈ s.obs) : o ∈ s'.obs := by
  obtain ⟨n, e, _⟩ := h; rw [e]; exact List.mem_append.mpr (Or.inr ho)

theorem Adds.hasSpin {Q : Obs → Prop} {s s' : St} (h : Adds Q s s') (hs : hasSpin s.obs = true) : hasSpin s'.obs = true := by
  obtain ⟨n, e, _⟩ := h; rw [e]; unfold Flow.hasSpin at *; simp [hs]

theorem Adds.obsExt {now : Nat} {Q : Obs → Prop} {s s' : St} (h : Adds Q s s')
    (hQ : ∀ o, Q o → ∀ ep m, o ≠ .panic ep m) : ObsExt now s s' :=
  h.mono fun o ho ep m hm => absurd hm (hQ o ho ep m)

theorem ExecObs.not_panic {o : Obs} (h : ExecObs o) (ep : TaskId) (m : String) : o ≠ .panic ep m := by
  rintro rfl; exact h

theorem obsExt_abortExec {now : Nat} (s : St) (r : Nat) : ObsExt now s (abortExec s r) :=
  (adds_abortExec s r).obsExt fun _ => ExecObs.not_panic

theorem obsExt_dropServer {now : Nat} (s : St) : ObsExt now s (dropServer s) :=
  (adds_dropServer s).obsExt fun _ => ExecObs.not_panic

theorem obsExt_wakeServer {now : Nat} (s : St) : ObsExt now s (wakeServer s) :=
  (adds_wakeServer s).obsExt fun _ => ExecObs.not_panic

theorem obsExt_startRequest (s : St) (now id d : Nat) (tr : Trace) (b : Nat) :
    ObsExt now s (startRequest s now id d tr b).1 := by
  rcases startRequest_out s now id d tr b with ⟨_, e⟩ | ⟨_, hp, e⟩ | ⟨_, q, key, w, hi, e⟩ <;> rw [e]
  · exact Adds.refl _ _
  · refine Adds.trans (Adds.of_eq (s' := { s with poisoned := true }) rfl) (Adds.emit _ ?_)
    intro _ _ h; cases h
    exact ⟨rfl, fun hf => insert_panic_late hf s.timers now (d - now) id hp⟩
  · obtain ⟨w', o, e'⟩ := startWoke_eq s w
    unfold startWoke at e' ⊢
    split
    · exact Adds.trans (obsExt_wakeServer s) (Adds.of_eq rfl)
    · exact Adds.of_eq rfl

theorem obsExt_pollExpired (s : St) (now : Nat) : ObsExt now s (pollExpired s now).1 := by
  refine pollExpired_rel (R := ObsExt now) now (Adds.refl _) (fun _ _ _ => Adds.trans)
    (fun s1 => Adds.emit _ (by intro _ _ h; cases h)) (fun s1 => ?_) s
  have hs := expireStep_out s1 now
  revert hs; generalize expireStep s1 now = p; intro hs
  obtain ⟨s', r⟩ := p
  dsimp only at hs ⊢
  cases hs with
  | idleNone q hp => exact Adds.of_eq rfl
  | idlePending q hp => exact Adds.of_eq rfl
  | orphan q e hp hf => exact Adds.of_eq rfl
  | abort q e en hp hf h0 => exact Adds.after (obsExt_abortExec _ _) rfl
  | rearmed q e en s2 hp hf h0 hr =>
    obtain ⟨q', key, w, _, rfl⟩ := rearm_some hr
    cases w
    · exact Adds.of_eq rfl
    · exact Adds.trans (Adds.trans (Adds.of_eq (s' := { s1 with timers := q }) rfl) (obsExt_wakeServer _)) (Adds.of_eq rfl)
  | panicked q e en hp hf h0 hr =>
    refine Adds.trans (Adds.of_eq (s' := { s1 with poisoned := true }) rfl) (Adds.emit _ ?_)
    intro _ _ h; cases h
    -- the queue is given as `rearm_none hr` states it, `{ s1 with timers := q }.timers`: left to unification against `q`, the
    -- two sides of `(_.insert …).2.1 = .panic` are compared by unfolding `DelayQ.insert`
    exact ⟨rfl, fun hf' =>
      insert_panic_late hf' ({ s1 with timers := q } : St).timers now (restOf now en) en.id (rearm_none hr)⟩

theorem TInv.untrack_obs {now : Nat} {s s1 : St} (h : TInv now s) {en : SEntry} (hen : en ∈ s.inflight)
    (hi : s1.inflight = s.inflight.filter (·.id != en.id)) (ht : s1.timers = s.timers) (he : ExecsSim s.execs s1.execs) :
    ObsExt now s1 (removeTimer s1 en.timerKey) ∧ (removeTimer s1 en.timerKey).poisoned = s1.poisoned := by
  obtain ⟨q', w, e, _⟩ := h.untrack_eq hen hi ht he
  rw [e]
  split
  · exact ⟨Adds.trans (Adds.of_eq (s' := { s1 with timers := q' }) rfl) (obsExt_wakeServer _), by simp⟩
  · exact ⟨Adds.of_eq rfl, rfl⟩

theorem TInv.removeReq_obs {now : Nat} {s : St} (h : TInv now s) (id : Nat) :
    ObsExt now s (removeRequest s id).1 ∧ (removeRequest s id).1.poisoned = s.poisoned := by
  rcases removeRequest_out s id with ⟨_, e⟩ | ⟨en, hf, e⟩ <;> rw [e]
  · exact ⟨Adds.refl _ _, rfl⟩
  · obtain ⟨hen, rfl⟩ := findEntry_some hf
    have := h.untrack_obs hen (s1 := { s with inflight := s.inflight.filter (·.id != en.id) }) rfl rfl (ExecsSim.refl _)
    exact ⟨Adds.after this.1 rfl, this.2⟩

theorem TInv.obsExt_cancelReq {now : Nat} {s : St} (h : TInv now s) (id : Nat) : ObsExt now s (cancelRequest s id).1 := by
  rcases cancelRequest_out s id with ⟨_, e⟩ | ⟨en, hf, e⟩ <;> rw [e]
  · exact Adds.refl _ _
  · obtain ⟨hen, rfl⟩ := findEntry_some hf
    exact Adds.trans (Adds.trans (Adds.of_eq (s' := { s with inflight := s.inflight.filter (·.id != en.id) }) rfl)
        (obsExt_abortExec _ en.rid))
      (h.untrack_obs (s1 := abortExec { s with inflight := s.inflight.filter (·.id != en.id) } en.rid) hen
        (abortExec_inflight _ _) (abortExec_timers _ _) (abortExec_ab _ _).sim).1

theorem obsExt_tNext {now : Nat} (s : St) : ObsExt now s (tNext s).1 :=
  (adds_has _).steps ((tNext_steps s).mono fun k hk => by
    cases hk with
    | tNext ep r => intro _ _ h; cases h
    | _ => exact trivial)

theorem tNext_item_obs {s : St} {m : Msg} (h : (tNext s).2 = .item m) :
    Obs.tNext (tid s) (.item m) ∈ (tNext s).1.obs := by
  rw [tNext_res] at h
  rw [tNext_obs]
  by_cases hf : s.readFused = true
  · rw [if_pos hf] at h; cases h
  · rw [if_neg hf] at h ⊢
    rw [h]; exact List.mem_cons_self

theorem startRequest_execs_cases (s : St) (now id d : Nat) (tr : Trace) (b : Nat) :
    (startRequest s now id d tr b).1.execs = s.execs ∨
    ∃ e, (startRequest s now id d tr b).1.execs = s.execs ++ [e] ∧ e.aborted = false := by
  rcases startRequest_out s now id d tr b with ⟨_, e⟩ | ⟨_, _, e⟩ | ⟨_, q, key, w, _, e⟩ <;> rw [e]
  · exact Or.inl rfl
  · exact Or.inl rfl
  · exact Or.inr ⟨newExec s id d tr b, rfl, rfl⟩

/-! ### the full server invariant -/

/-- a `Cancel` for request id `id` was read from the transport -/
def cancelSeen (id : Nat) (obs : List Obs) : Prop := ∃ ep tr, Obs.tNext ep (.item (.cancel id tr)) ∈ obs

/-- Why an execution may be found aborted (C06 "never early"): the model spun (and stopped
recording), a `Cancel` for its id was read, the request stream was dropped, or its deadline passed. -/
def AbortWhy (now : Nat) (s : St) : Prop :=
  ∀ ex ∈ s.execs, ex.aborted = true →
    hasSpin s.obs = true ∨ cancelSeen ex.id s.obs ∨ s.dropped = true ∨ ex.deadline ≤ now

/-- the only panic ever observed is the `DelayQueue` range panic, and not before `panicFreeNs` -/
def OnlyInsertPanic (now : Nat) (s : St) : Prop := ∀ ep m, Obs.panic ep m ∈ s.obs → PanicOk now m

/-- The server invariant.  `w = true`: with the abort-reason clause (which reads the observations
recorded in the state); `w = false`: without it — that form survives clearing the observations, as the
event trace (`stepOp`) does after every op. -/
structure SInv (w : Bool) (now : Nat) (s : St) : Prop where
  t : TInv now s
  why : w = true → AbortWhy now s
  panics : OnlyInsertPanic now s

theorem SInv.mono {w : Bool} {now now' : Nat} {s : St} (h : SInv w now s) (hle : now ≤ now') : SInv w now' s :=
  ⟨h.t.mono hle, fun hw ex hex ha => by
    rcases h.why hw ex hex ha with h1 | h1 | h1 | h1
    · exact Or.inl h1
    · exact Or.inr (Or.inl h1)
    · exact Or.inr (Or.inr (Or.inl h1))
    · exact Or.inr (Or.inr (Or.inr (Nat.le_trans h1 hle))), fun ep m hm => (h.panics ep m hm).mono hle⟩

theorem SInv.clear_obs {w : Bool} {now : Nat} {s : St} (h : SInv w now s) :
    SInv false now { s with obs := [] } :=
  ⟨h.t.of_sim rfl rfl (ExecsSim.refl _), (fun hw => by cases hw), (by intro ep m hm; cases hm)⟩

theorem SInv.panics_ext {w : Bool} {now : Nat} {s s' : St} (h : SInv w now s) (hobs : ObsExt now s s') :
    OnlyInsertPanic now s' := by
  intro ep m hm
  obtain ⟨new, e, p⟩ := hobs
  rw [e] at hm
  rcases List.mem_append.mp hm with hm | hm
  · exact p _ hm ep m rfl
  · exact h.panics ep m hm

/-- the generic step: the table invariant is re-established, observations only grow (benignly), and
every newly aborted execution has a reason -/
theorem SInv.step {w : Bool} {now : Nat} {s s' : St} (h : SInv w now s) (ht : TInv now s') (hobs : ObsExt now s s')
    (hdrop : s.dropped = true → s'.dropped = true) (r : Option Nat) (hab : ExecsAb r s.execs s'.execs)
    (hr : ∀ ex ∈ s.execs, r = some ex.rid →
      hasSpin s'.obs = true ∨ cancelSeen ex.id s'.obs ∨ s'.dropped = true ∨ ex.deadline ≤ now) : SInv w now s' := by
  refine ⟨ht, fun hw ex' hex' ha' => ?_, fun ep m hm => ?_⟩
  · obtain ⟨ex, hex, hrid, hid, hd, hab'⟩ := hab.2 ex' hex'
    rw [hid, hd]
    rcases hab' ha' with ha | ha
    · rcases h.why hw ex hex ha with h1 | h1 | h1 | h1
      · exact Or.inl (hobs.hasSpin h1)
      · obtain ⟨ep, tr, hm⟩ := h1
        exact Or.inr (Or.inl ⟨ep, tr, hobs.mem hm⟩)
      · exact Or.inr (Or.inr (Or.inl (hdrop h1)))
      · exact Or.inr (Or.inr (Or.inr h1))
    · exact hr ex hex ha
  · exact h.panics_ext hobs ep m hm

theorem SInv.keep {w : Bool} {now : Nat} {s s' : St} (h : SInv w now s) (hi : s'.inflight = s.inflight)
    (ht : s'.timers = s.timers) (he : ExecsAb none s.execs s'.execs) (hobs : ObsExt now s s')
    (hd : s.dropped = true → s'.dropped = true) : SInv w now s' :=
  h.step (h.t.of_sim hi ht he.sim) hobs hd none he (fun _ _ hr => by cases hr)

theorem TInv.timerWaker {now : Nat} {s : St} (h : TInv now s) (b : Bool) :
    TInv now { s with timers := { s.timers with waker := b } } :=
  ⟨⟨h.wf.nodup, h.wf.lt⟩, ⟨h.sound.lvl, h.sound.blk, h.sound.top, h.sound.exp, h.sound.el, h.sound.wn⟩,
    h.ids, h.fwd, h.bwd, h.ridLt, h.execRid, h.tk, h.dl⟩

theorem sinv_closed (w : Bool) (now : Nat) : PrimClosed now (SInv w now) where
  inert := fun s s' hi h =>
    h.keep hi.inflight hi.timers (by rw [hi.execs]; exact ExecsAb.refl _ _) (Adds.of_eq hi.obs)
      (fun hd => by rw [hi.dropped]; exact hd)
  emit := fun s o hq h =>
    h.keep rfl rfl (ExecsAb.refl _ _) (Adds.emit s (by intro ep m ho; subst ho; exact absurd hq id)) id
  upd := fun s r f hf h => h.keep rfl rfl (updExec_ab s r f hf) (Adds.of_eq rfl) id
  setT := fun s t h => h.keep rfl rfl (ExecsAb.refl _ _) (Adds.of_eq rfl) id
  setFused := fun s h => h.keep rfl rfl (ExecsAb.refl _ _) (Adds.of_eq rfl) id
  removeReq := fun s id h =>
    h.step (h.t.removeReq id) (h.t.removeReq_obs id).1 (by simp) none
      (by rw [removeRequest_execs]; exact ExecsAb.refl _ _) (fun _ _ hr => by cases hr)
  cancel := fun s id tr h hnx => by
    have h1 : SInv w now (tNext s).1 :=
      h.keep (by simp) (by simp) (by rw [tNext_execs]; exact ExecsAb.refl _ _) (obsExt_tNext s) (by simp)
    have hseen : cancelSeen id (cancelRequest (tNext s).1 id).1.obs :=
      ⟨_, tr, (h1.t.obsExt_cancelReq id).mem (tNext_item_obs hnx)⟩
    rcases cancelRequest_ab (tNext s).1 id with ⟨_, heq⟩ | ⟨en, hf, hab⟩
    · rw [heq]; exact h1
    · refine h1.step (h1.t.cancelReq id) (h1.t.obsExt_cancelReq id) (by simp) (some en.rid) hab ?_
      intro ex hex hr
      obtain ⟨hen, hid⟩ := findEntry_some hf
      obtain ⟨c, hc, hk, _⟩ := h1.t.fwd en hen
      have := (h1.t.dl en hen c hc hk ex hex (Option.some.inj hr).symm).id
      rw [this, hid]
      exact Or.inr (Or.inl hseen)
  expire := fun s h => by
    rcases h.t.expire_ab with hab | ⟨r, hab, hdl⟩
    · exact h.step h.t.expire (obsExt_pollExpired s now) (by simp) none hab (fun _ _ hr => by cases hr)
    · exact h.step h.t.expire (obsExt_pollExpired s now) (by simp) (some r) hab
        (fun ex hex hr => Or.inr (Or.inr (Or.inr (hdl ex hex (Option.some.inj hr).symm))))
  start := fun s id d tr b h => by
    refine ⟨h.t.start id d tr b, ?_, ?_⟩
    · intro hw ex' hex' ha'
      have hold : ex' ∈ s.execs := by
        rcases startRequest_execs_cases s now id d tr b with he | ⟨e, he, hna⟩
        · rw [he] at hex'; exact hex'
        · rw [he] at hex'
          simp only [List.mem_append, List.mem_singleton] at hex'
          rcases hex' with h' | h'
          · exact h'
          · subst h'; rw [hna] at ha'; cases ha'
      rcases h.why hw ex' hold ha' with h1 | h1 | h1 | h1
      · exact Or.inl ((obsExt_startRequest s now id d tr b).hasSpin h1)
      · obtain ⟨ep, tr', hm⟩ := h1
        exact Or.inr (Or.inl ⟨ep, tr', (obsExt_startRequest s now id d tr b).mem hm⟩)
      · exact Or.inr (Or.inr (Or.inl (by simpa using h1)))
      · exact Or.inr (Or.inr (Or.inr h1))
    · exact h.panics_ext (obsExt_startRequest s now id d tr b)
  timerWaker := fun s b h => ⟨h.t.timerWaker b, h.why, h.panics⟩
  spin := fun s h => h.keep rfl rfl (ExecsAb.refl _ _) (Adds.emit s (by intro _ _ ho; cases ho)) id
  spunReset := fun s0 s h0 h =>
    ⟨h.t.of_sim rfl rfl (ExecsSim.refl _), fun _ ex hex ha => Or.inl (by simp [hasSpin]),
      fun ep m hm => by
        simp only [List.mem_cons] at hm
        rcases hm with hm | hm
        · cases hm
        · exact h0.panics ep m hm⟩
  setDone := fun s r h => h.keep rfl rfl (ExecsAb.refl _ _) (Adds.of_eq rfl) id
  drop := fun s h => by
    by_cases hc : (s.dropped || s.poisoned) = true
    · have : dropServer s = Server.emit s .noop := by rw [dropServer_eq, if_pos hc]
      rw [this]
      exact h.keep rfl rfl (ExecsAb.refl _ _) (Adds.emit s (by intro _ _ ho; cases ho)) id
    · exact ⟨h.t.drop, fun _ _ _ _ => Or.inr (Or.inr (Or.inl (dropServer_dropped s (by simpa using hc)))),
        h.panics_ext (obsExt_dropServer s)⟩

theorem dropServer_aborts_all (s : St) (hlive : (s.dropped || s.poisoned) = false) :
    ∀ en ∈ s.inflight, ∀ ex ∈ (dropServer s).execs, ex.rid = en.rid → ex.aborted = true :=
  fun en hen => dropServer_ab s hlive en hen

/-- the part of a table entry that `poll_expired` never changes (a re-arm changes the timer key and the
remainder) -/
def _root_.TarpcModel.Server.SEntry.ir (e : SEntry) : Nat × Nat := (e.id, e.rid)

theorem map_ir_rearmUpd (l : List SEntry) (id key now : Nat) :
    (l.map (rearmUpd id key now)).map SEntry.ir = l.map SEntry.ir := by
  rw [List.map_map]; apply List.map_congr_left; intro x _
  simp [SEntry.ir]

theorem findEntry_ir {s s' : St} (h : s'.inflight.map SEntry.ir = s.inflight.map SEntry.ir) (id : Nat) :
    (findEntry s' id).map SEntry.ir = (findEntry s id).map SEntry.ir := by
  unfold findEntry
  generalize s'.inflight = l' at h
  generalize s.inflight = l at h
  induction l generalizing l' with
  | nil => cases l' with
    | nil => rfl
    | cons a l' => simp at h
  | cons b l ih =>
    cases l' with
    | nil => simp at h
    | cons a l' =>
      simp only [List.map_cons, List.cons.injEq] at h
      have hid : a.id = b.id := congrArg Prod.fst h.1
      simp only [List.find?_cons, hid]
      split
      · simp [h.1]
      · exact ih l' h.2

theorem filter_ir {l l' : List SEntry} (h : l'.map SEntry.ir = l.map SEntry.ir) (id : Nat) :
    (l'.filter (·.id != id)).map SEntry.ir = (l.filter (·.id != id)).map SEntry.ir := by
  induction l generalizing l' with
  | nil => cases l' with
    | nil => rfl
    | cons a l' => simp at h
  | cons b l ih =>
    cases l' with
    | nil => simp at h
    | cons a l' =>
      simp only [List.map_cons, List.cons.injEq] at h
      have hid : a.id = b.id := congrArg Prod.fst h.1
      simp only [List.filter_cons, hid]
      split
      · simp only [List.map_cons, h.1, ih h.2]
      · exact ih h.2

/-- what `poll_expired` does to the table (up to timer keys and remainders) and to the executions -/
inductive ExpTouch (s : St) : St → ExpRes → Prop
  | same (s' : St) (r : ExpRes) (hi : s'.inflight.map SEntry.ir = s.inflight.map SEntry.ir) (he : s'.execs = s.execs)
      (hr : r ≠ .ready) : ExpTouch s s' r
  | orphan (s' : St) (id : Nat) (hi : s'.inflight.map SEntry.ir = s.inflight.map SEntry.ir) (he : s'.execs = s.execs)
      (hf : findEntry s id = none) : ExpTouch s s' .ready
  | expired (s' : St) (id : Nat) (en : SEntry) (hf : findEntry s id = some en)
      (hi : s'.inflight.map SEntry.ir = (s.inflight.filter (·.id != id)).map SEntry.ir)
      (b : Bool) (he : s'.execs = s.execs.map (abortOne en.rid b)) : ExpTouch s s' .ready

theorem expireStep_touch (s : St) (now : Nat) :
    match (expireStep s now).2 with
    | some r => ExpTouch s (expireStep s now).1 r
    | none => (expireStep s now).1.inflight.map SEntry.ir = s.inflight.map SEntry.ir ∧
        (expireStep s now).1.execs = s.execs := by
  have hs := expireStep_out s now
  revert hs; generalize expireStep s now = p; intro hs
  obtain ⟨s', r⟩ := p
  dsimp only at hs ⊢
  cases hs with
  | idleNone q hp => exact ExpTouch.same _ _ rfl rfl (by intro h; cases h)
  | idlePending q hp => exact ExpTouch.same _ _ rfl rfl (by intro h; cases h)
  | orphan q e hp hf => exact ExpTouch.orphan _ e.val rfl rfl hf
  | abort q e en hp hf h0 =>
    obtain ⟨b, hb⟩ := abortExec_execs { s with timers := q, inflight := s.inflight.filter (·.id != e.val) } en.rid
    exact ExpTouch.expired _ e.val en hf (by simp) b hb
  | rearmed q e en s2 hp hf h0 hr =>
    obtain ⟨q', key, w, _, rfl⟩ := rearm_some hr
    exact ⟨map_ir_rearmUpd _ _ _ _, by cases w <;> simp⟩
  | panicked q e en hp hf h0 hr => exact ExpTouch.same _ _ rfl rfl (by intro h; cases h)

/-- **Frame** of the expiry path: `pollExpired` either leaves the table (up to re-armed timer keys and
remainders) and the executions alone, or it reports an expiration, removes exactly the entries with the
expired id and touches only executions with the rid of that entry. -/
theorem pollExpired_touches (s : St) (now : Nat) : ExpTouch s (pollExpired s now).1 (pollExpired s now).2 :=
  pollExpired_loop (I := fun s1 => s1.inflight.map SEntry.ir = s.inflight.map SEntry.ir ∧ s1.execs = s.execs)
    (Φ := fun s' r => ExpTouch s s' r)
    (fun s1 ⟨hi, he⟩ => by
      have h1 := expireStep_touch s1 now
      generalize Server.expireStep s1 now = p at h1 ⊢
      obtain ⟨s', r⟩ := p
      cases r with
      | none => exact ⟨h1.1.trans hi, h1.2.trans he⟩
      | some r =>
        dsimp only at h1 ⊢
        cases h1 with
        | same _ hi' he' hr => exact ExpTouch.same _ _ (hi'.trans hi) (he'.trans he) hr
        | orphan id hi' he' hf =>
          refine ExpTouch.orphan _ id (hi'.trans hi) (he'.trans he) ?_
          have := findEntry_ir hi id
          rw [hf] at this
          cases hfe : findEntry s id with
          | none => rfl
          | some x => rw [hfe] at this; cases this
        | expired id en hf hi' b he' =>
          have := findEntry_ir hi id
          rw [hf] at this
          cases hfe : findEntry s id with
          | none => rw [hfe] at this; cases this
          | some en0 =>
            rw [hfe] at this
            have hrid : en.rid = en0.rid := congrArg Prod.snd (Option.some.inj this)
            exact ExpTouch.expired _ id en0 hfe (hi'.trans (filter_ir hi id)) b (by rw [he', he, hrid]))
    (fun s1 ⟨hi, he⟩ => ExpTouch.same _ _ hi he (by intro h; cases h))
    (fun s1 ⟨hi, he⟩ => ExpTouch.same _ _ hi he (by intro h; cases h)) s ⟨rfl, rfl⟩

/-! ### reachable states -/

theorem sinv_init (w : Bool) (limit : Option Nat) (respCap tcap : Nat) (coupled : Bool) :
    SInv w 0 (init 0 limit respCap tcap coupled) := by
  refine ⟨TInv.cleared rfl rfl ?_, ?_, ?_⟩
  all_goals simp [init, AbortWhy, OnlyInsertPanic]

/-- the virtual time an op advances the clock by -/
def opAdv : SOp → Nat
  | .advance n => n
  | _ => 0

/-- the total virtual time a script advances the clock by -/
def advSum : List SOp → Nat
  | [] => 0
  | op :: ops => opAdv op + advSum ops

theorem applyOp_now (c : Sys) (op : SOp) : (applyOp c op).now = c.now + opAdv op := by
  cases op <;> rfl

theorem foldl_applyOp_now (ops : List SOp) (c : Sys) : (ops.foldl applyOp c).now = c.now + advSum ops :=
  foldl_keeps_rest (f := applyOp) (K := fun (c' : Sys) ops' => c'.now + advSum ops' = c.now + advSum ops)
    (fun c' op ops' h => by rw [applyOp_now]; simp only [advSum] at h; omega) ops rfl

theorem advSum_append (l1 l2 : List SOp) : advSum (l1 ++ l2) = advSum l1 + advSum l2 := by
  induction l1 with
  | nil => simp [advSum]
  | cons op l1 ih => simp only [List.cons_append, advSum, ih]; omega

theorem reach_now (limit : Option Nat) (respCap tcap : Nat) (coupled : Bool) (ops : List SOp) :
    (ops.foldl applyOp (initSys limit respCap tcap coupled)).now = advSum ops := by
  rw [foldl_applyOp_now]; exact Nat.zero_add _

theorem reach_now_lt (limit : Option Nat) (respCap tcap : Nat) (coupled : Bool) (ops : List SOp)
    (hT : advSum ops < panicFreeNs) : (ops.foldl applyOp (initSys limit respCap tcap coupled)).now < panicFreeNs := by
  rw [reach_now]; exact hT

theorem sinv_run {w : Bool} (c : Sys) (h : SInv w c.now c.s) (ops : List SOp) :
    SInv w (ops.foldl applyOp c).now (ops.foldl applyOp c).s :=
  reach_inv (SInv w) (sinv_closed w) (fun _ _ _ hle h => h.mono hle) c h ops

theorem sinv_applyOp {w : Bool} (c : Sys) (op : SOp) (h : SInv w c.now c.s) :
    SInv w (applyOp c op).now (applyOp c op).s := sinv_run c h [op]

theorem sinv_reach (w : Bool) (limit : Option Nat) (respCap tcap : Nat) (coupled : Bool) (ops : List SOp) :
    SInv w (ops.foldl applyOp (initSys limit respCap tcap coupled)).now
      (ops.foldl applyOp (initSys limit respCap tcap coupled)).s :=
  sinv_run _ (sinv_init w limit respCap tcap coupled) ops

/-- evaluates the translator's flags (`Gen/Flags.lean`; see the head comment) -/
theorem init_cfg (limit : Option Nat) (respCap tcap : Nat) (coupled : Bool) :
    (initSys limit respCap tcap coupled).s.throttleAfterRead = false ∧
    (initSys limit respCap tcap coupled).s.ensureLoop = false := ⟨rfl, rfl⟩

theorem ns_reach (limit : Option Nat) (respCap tcap : Nat) (coupled : Bool) (ops : List SOp) :
    hasSpin (ops.foldl applyOp (initSys limit respCap tcap coupled)).s.obs = false :=
  NS_reach (initSys limit respCap tcap coupled) (by unfold NS; rfl) rfl rfl ops

/-! ### going idle: the last `poll_expired` reported nothing due -/

theorem combine_not_ready {a b : RStatus} (h : combine a b ≠ .ready) : a ≠ .ready ∧ b ≠ .ready := by
  cases a <;> cases b <;> simp_all [combine]

theorem bpOther_not_ready {s : St} {nx : NextRes} (h : (bpOther s nx).2 ≠ .ready) : (bpOther s nx).1 = s := by
  unfold bpOther at *
  split at h
  · exact absurd rfl h
  · exact absurd rfl h
  · rfl
  · rfl

/-- when one iteration of the channel's `poll_next` decides to go idle, its own `poll_expired` call
(made earlier in the same iteration) did not report an expiration and nothing touched the table or
the timers afterwards -/
theorem bpStep_idle (s : St) (now : Nat) (h : (bpStep s now).2 = some .pending ∨ (bpStep s now).2 = some .none) :
    (pollExpired (bpCancel s).1 now).2 ≠ .ready ∧
    (bpStep s now).1.timers = (pollExpired (bpCancel s).1 now).1.timers ∧
    (bpStep s now).1.inflight = (pollExpired (bpCancel s).1 now).1.inflight ∧
    (bpStep s now).1.execs = (pollExpired (bpCancel s).1 now).1.execs := by
  have key : bpSt s now ≠ .ready → (pollExpired (bpCancel s).1 now).2 ≠ .ready ∧
      (bpOther (bp3 s now) (bpNx s now)).1.timers = (pollExpired (bpCancel s).1 now).1.timers ∧
      (bpOther (bp3 s now) (bpNx s now)).1.inflight = (pollExpired (bpCancel s).1 now).1.inflight ∧
      (bpOther (bp3 s now) (bpNx s now)).1.execs = (pollExpired (bpCancel s).1 now).1.execs := by
    intro hne
    unfold bpSt at hne
    obtain ⟨h12, h3⟩ := combine_not_ready hne
    obtain ⟨_, h2⟩ := combine_not_ready h12
    rw [bpOther_not_ready h3]
    refine ⟨fun hr => h2 (by rw [hr]; rfl), ?_, ?_, ?_⟩ <;> simp [bp3, bp2]
  have ho := bpStep_out s now
  generalize bpStep s now = out at *
  cases ho with
  | closed hp hn1 hn2 hpo hc => exact key (by rw [hc]; simp)
  | pending hp hn1 hn2 hpo hc => exact key (by rw [hc]; simp)
  | _ => rcases h with h | h <;> cases h

theorem basePollNext_idle (now : Nat) (fuel : Nat) (s : St) :
    ((basePollNext fuel s now).2 = .pending ∨ (basePollNext fuel s now).2 = .none) →
    ∃ s1, (pollExpired s1 now).2 ≠ .ready ∧
      (basePollNext fuel s now).1.timers = (pollExpired s1 now).1.timers ∧
      (basePollNext fuel s now).1.inflight = (pollExpired s1 now).1.inflight ∧
      (basePollNext fuel s now).1.execs = (pollExpired s1 now).1.execs :=
  basePollNext_loop (I := fun _ => True)
    (Φ := fun a r => (r = .pending ∨ r = .none) → ∃ s1, (pollExpired s1 now).2 ≠ .ready ∧
      a.timers = (pollExpired s1 now).1.timers ∧ a.inflight = (pollExpired s1 now).1.inflight ∧
      a.execs = (pollExpired s1 now).1.execs)
    (fun a _ => .of_eq (fun _ => trivial) (fun r hr h =>
      ⟨_, bpStep_idle a now (h.imp (fun e => by rw [hr, e]) (fun e => by rw [hr, e]))⟩))
    (fun _ _ => nofun) fuel s trivial

/-- when `poll_expired` reports no expiration, the queue was empty, or the last iteration of its loop —
from a state `s2` reached by re-arming timers — found nothing due (or its `insert` panicked) -/
theorem pollExpired_not_ready {s : St} {now : Nat} (h : (pollExpired s now).2 ≠ .ready) :
    s.timers.isEmpty = true ∨ ∃ s2, (pollExpired s now).1 = (expireStep s2 now).1 ∧
      ((∀ e, (s2.timers.pollExpired now).2 ≠ .expired e) ∨ (expireStep s2 now).1.poisoned = true) := by
  cases he : s.timers.isEmpty with
  | true => exact Or.inl rfl
  | false =>
    right
    obtain ⟨s2, r, hr, heq⟩ := pollExpired_last s now he
    rw [heq] at h ⊢
    refine ⟨s2, rfl, ?_⟩
    have hs := expireStep_out s2 now
    revert hs hr; generalize expireStep s2 now = p; intro hr hs
    obtain ⟨s', r'⟩ := p
    dsimp only at hs hr h ⊢
    subst hr
    cases hs with
    | idleNone q hp => left; intro e; rw [hp]; simp
    | idlePending q hp => left; intro e; rw [hp]; simp
    | orphan q e hp hf => exact absurd rfl h
    | abort q e en hp hf h0 => exact absurd rfl h
    | panicked q e en hp hf h0 hr => right; simp

/-! ### a finished request stream has been dropped -/

/-- once `done` is recorded the application has dropped the stream -/
def DoneDropped (s : St) : Prop := s.done.isSome = true → s.dropped = true

theorem pskFinish_frame (s : St) (r : ReqPoll) :
    (pskFinish s r).dropped = s.dropped ∧ (pskFinish s r).poisoned = s.poisoned ∧ (pskFinish s r).inflight = s.inflight := by
  have := pskRet_frame s r
  simp only [pskFinish, emit_dropped, emit_poisoned, emit_inflight]
  exact ⟨this.1, this.2.1, this.2.2.2.1⟩

theorem pollServer_cases (s : St) (now : Nat) (hlive : (s.dropped || s.done.isSome || s.poisoned) = false) :
    ((pollServerKeep s now).done = none ∧
      (pollServer s now = pollServerKeep s now ∨ pollServer s now = { pollServerKeep s now with woken := true })) ∨
    ((pollServerKeep s now).done.isSome = true ∧ (pollServerKeep s now).dropped = false ∧
      (pollServerKeep s now).poisoned = false ∧ pollServer s now = dropServer (pollServerKeep s now)) := by
  have hl := hlive
  simp only [Bool.or_eq_false_iff] at hl
  -- a live stream is not dropped by its poll, and a poll that records `done` is not poisoned
  have hk : (pollServerKeep s now).dropped = false ∧
      ((pollServerKeep s now).done.isSome = true → (pollServerKeep s now).poisoned = false) := by
    rcases pollServerKeep_live s now hlive with ⟨_, hd, hdr⟩ | ⟨hp, heq⟩
    · exact ⟨hdr, fun h => by rw [hd] at h; cases h⟩
    · have hdd := (dd_closed s.done s.dropped now).requestsPollNext (pollFuel { s with woken := false })
        { s with woken := false } ⟨rfl, rfl⟩
      have hfr := pskFinish_frame (requestsPollNext (pollFuel { s with woken := false }) { s with woken := false } now).1
        (requestsPollNext (pollFuel { s with woken := false }) { s with woken := false } now).2
      rw [← heq] at hfr
      exact ⟨by rw [hfr.1, hdd.2]; exact hl.1.1, fun _ => by rw [hfr.2.1]; exact hp⟩
  have hn : ((pollServerKeep s now).done.isSome && !(pollServerKeep s now).dropped) = false →
      (pollServerKeep s now).done = none := fun hc => by
    rw [hk.1] at hc
    cases hd : (pollServerKeep s now).done with
    | none => rfl
    | some r => rw [hd] at hc; cases hc
  have ho := pollServer_out s now
  generalize pollServer s now = s' at ho ⊢
  cases ho with
  | drop hd hdr => exact .inr ⟨hd, hdr, hk.2 hd, rfl⟩
  | yielded hc _ _ => exact .inl ⟨hn hc, .inr rfl⟩
  | keep hc _ => exact .inl ⟨hn hc, .inl rfl⟩

theorem DoneDropped_pollServer {s : St} (h : DoneDropped s) (now : Nat) : DoneDropped (pollServer s now) := by
  by_cases hl : (s.dropped || s.done.isSome || s.poisoned) = true
  · have hk := pollServerKeep_dead s now hl
    have ho := pollServer_out s now
    generalize pollServer s now = s' at ho ⊢
    cases ho with
    | drop hd hdr => rw [hk] at hd hdr; exact absurd ((h hd).symm.trans hdr) (by decide)
    | yielded _ _ _ => rw [hk]; exact h
    | keep _ _ => rw [hk]; exact h
  · have hl' : (s.dropped || s.done.isSome || s.poisoned) = false := by simpa using hl
    rcases pollServer_cases s now hl' with ⟨hd, heq | heq⟩ | ⟨hd, hdr, hp, heq⟩
    · rw [heq]; intro hs; rw [hd] at hs; cases hs
    · rw [heq]; intro hs; simp only [hd] at hs; cases hs
    · rw [heq]; intro _; exact dropServer_dropped _ (by simp [hdr, hp])

theorem StepClosed.applyOp_env {now : Nat} {P : St → Prop} (hc : StepClosed now P) (c : Sys) (op : SOp) (h : P c.s)
    (hp : op ≠ .pollServer) (hd : op ≠ .dropServer) : P (applyOp c op).s := by
  have hx := applyOp_steps c op
  have he : ∀ k, ExecK k → StepK now k := fun k hk => .inl (.exec (exec_le_execC k hk))
  cases op with
  | pollServer => exact absurd rfl hp
  | dropServer => exact absurd rfl hd
  | pollExec r => exact hc.along he hx h
  | dropExec r => exact hc.along he hx h
  | finish r res => exact hc.along (fun k hk => he k (finish_le_exec k hk)) hx h
  | _ => exact hc.along ext_le_step hx h

theorem DoneDropped_applyOp (c : Sys) (op : SOp) (h : DoneDropped c.s) : DoneDropped (applyOp c op).s := by
  by_cases hp : op = .pollServer
  · subst hp; exact DoneDropped_pollServer h _
  by_cases hd : op = .dropServer
  · subst hd
    unfold DoneDropped
    simp only [applyOp, dropServer_done]
    exact fun hdn => dropServer_dropped_mono _ (h hdn)
  · have hs := (dd_closed c.s.done c.s.dropped c.now).toStepClosed.applyOp_env c op ⟨rfl, rfl⟩ hp hd
    unfold DoneDropped; rw [hs.1, hs.2]; exact h

theorem DoneDropped_reach (c : Sys) (h : DoneDropped c.s) (ops : List SOp) : DoneDropped (ops.foldl applyOp c).s :=
  foldl_keeps (P := fun c : Sys => DoneDropped c.s) DoneDropped_applyOp ops h

theorem pollServerKeep_reports (s : St) (now : Nat) (hlive : (s.dropped || s.done.isSome || s.poisoned) = false)
    (hp : (pollServerKeep s now).poisoned = false) :
    match (pollServerKeep s now).done with
    | some (.readyItemErr a) => fails (pollServerKeep s now) = a :: fails s
    | _ => fails (pollServerKeep s now) = fails s := by
  rcases pollServerKeep_live s now hlive with ⟨hp', _, _⟩ | ⟨_, heq⟩
  · rw [hp] at hp'; cases hp'
  · have hsh := requestsPollNext_shape now (pollFuel { s with woken := false }) { s with woken := false }
    have hl := hlive
    simp only [Bool.or_eq_false_iff] at hl
    have hd : s.done = none := by
      cases h : s.done
      · rfl
      · rw [h] at hl; simp at hl
    have hdd := (dd_closed s.done s.dropped now).requestsPollNext (pollFuel { s with woken := false })
      { s with woken := false } ⟨rfl, rfl⟩
    rw [heq, pskFinish_done, pskRet_done]
    have hff : ∀ s1 r, fails (pskFinish s1 r) = fails s1 := by
      intro s1 r
      unfold pskFinish
      rw [fails_emit, fails_emit]
      unfold pskRet
      split <;> try rfl
      split
      · simp only [Option.toList]; rw [fails_emit]; rfl
      · rfl
    rw [hff]
    generalize requestsPollNext (pollFuel { s with woken := false }) { s with woken := false } now = p at *
    rcases p with ⟨s1, r⟩
    unfold ErrShape at hsh
    have hfs : fails { s with woken := false } = fails s := rfl
    rw [hfs] at hsh
    cases r with
    | err a => exact hsh
    | none => exact hsh
    | pending => simp only at hdd ⊢; rw [hdd.1, hd]; exact hsh
    | item rid => simp only at hdd ⊢; rw [hdd.1, hd]; exact hsh
    | spin => simp only at hdd ⊢; rw [hdd.1, hd]; exact hsh

theorem pollServerKeep_done_drained {s : St} {now : Nat} (hinv0 : SInv true now s) (hlive : s.done = none)
    (hend : (pollServerKeep s now).done = some .readyNone) :
    (pollServerKeep s now).readFused = true ∧ (pollServerKeep s now).inflight = [] ∧
    (pollServerKeep s now).t.buffered = [] ∧ (pollServerKeep s now).timers.len = 0 := by
  by_cases hl : (s.dropped || s.done.isSome || s.poisoned) = true
  · rw [pollServerKeep_dead _ _ hl] at hend
    simp only [emit_done, hlive] at hend
    cases hend
  · have hl' : (s.dropped || s.done.isSome || s.poisoned) = false := by simpa using hl
    rcases pollServerKeep_live s now hl' with ⟨_, hd, _⟩ | ⟨hp, heq⟩
    · rw [hd] at hend; cases hend
    · rw [heq] at hend ⊢
      rw [pskFinish_done, pskRet_done] at hend
      have hspec := (requestsPollNext_spec now (pollFuel { s with woken := false }) { s with woken := false }).2
      have hinv := (sinv_closed true now).requestsPollNext (pollFuel { s with woken := false }) { s with woken := false }
        ((sinv_closed true now).inert _ _ (by constructor <;> rfl) hinv0)
      have hdd := (dd_closed s.done s.dropped now).requestsPollNext (pollFuel { s with woken := false })
        { s with woken := false } ⟨rfl, rfl⟩
      generalize requestsPollNext (pollFuel { s with woken := false }) { s with woken := false } now = p at *
      rcases p with ⟨s1, r⟩
      have hfr := pskRet_frame s1 r
      have hr : r = .none := by
        cases r with
        | none => rfl
        | err a => simp at hend
        | _ =>
          simp only at hend hdd
          rw [hdd.1, hlive] at hend
          cases hend
      subst hr
      obtain ⟨h1, h2, h3⟩ := hspec rfl
      simp only at h1 h2 h3 hfr
      refine ⟨?_, ?_, ?_, ?_⟩
      · rw [pskFinish, emit_readFused, emit_readFused, hfr.2.2.1]; exact h1
      · rw [pskFinish, emit_inflight, emit_inflight, hfr.2.2.2.1]; exact h2
      · rw [pskFinish, emit_t, emit_t, hfr.2.2.2.2.1]; exact h3
      · rw [pskFinish, emit_timers, emit_timers, hfr.2.2.2.2.2, DelayQ.len_eq]
        -- no tracked entry ⇒ no timer (the table / timer bijection)
        have hb := hinv.t.bwd
        simp only at hb
        cases hall : s1.timers.items with
        | nil => rfl
        | cons e es =>
          have : DelayQ.core e ∈ s1.timers.cores := by
            unfold DelayQ.cores; rw [hall]; simp
          obtain ⟨en, hen, _⟩ := hb _ this
          rw [h2] at hen; cases hen

/-! ### where `handler … dropped` observations come from -/

/-- what `poll-exec vid` at `now` may add (`Adds (DropIf vid now ab)`, `pollExec_dropped_obs`): the one `dropped` report is that of the
polled handler, on the aborted path (`ab`) only -/
def DropIf (vid now : Nat) (ab : Prop) (o : Obs) : Prop := ∀ v t, o = .handler v .dropped t → v = vid ∧ t = now ∧ ab

theorem adds_rqRelease_wake (s : St) : Adds (fun o => ∃ t, o = .wake t) s (rqRelease s) :=
  (adds_has _).steps ((rqRelease_steps s).mono fun k hk => by
    cases hk with
    | wake t => exact ⟨_, rfl⟩
    | _ => exact trivial)

theorem adds_trySend_ret (s : St) (e : Exec) (res : Res) (n : Nat) :
    Adds (fun o => (∃ t, o = .wake t) ∨ ∃ t r, o = .ret t r) s (trySend s e res n) :=
  (adds_has _).steps ((trySend_steps e res n (.refl s)).mono fun k hk => by
    cases hk with
    | wake t => exact .inl ⟨_, rfl⟩
    | ret v r => exact .inr ⟨_, _, rfl⟩
    | _ => exact trivial)

theorem pollExec_dropped_obs (s : St) (vid now : Nat) : ∀ v t, Obs.handler v .dropped t ∈ (pollExec s vid now).obs →
    Obs.handler v .dropped t ∈ s.obs ∨
      (v = vid ∧ t = now ∧ ∃ e, getExecVis s vid = some e ∧ e.aborted = true ∧ e ∈ s.execs) := by
  generalize hab : (∃ e, getExecVis s vid = some e ∧ e.aborted = true ∧ e ∈ s.execs) = ab
  suffices h : Adds (DropIf vid now ab) s (pollExec s vid now) by
    obtain ⟨l, e, p⟩ := h
    intro v t hm
    rw [e] at hm
    exact (List.mem_append.mp hm).elim (fun h => .inr (p _ h v t rfl)) .inl
  have hrel := fun a => (adds_rqRelease_wake a).mono (Q' := DropIf vid now ab) (fun _ ⟨_, e⟩ _ _ h => by rw [e] at h; cases h)
  have hsend := fun a e res n => (adds_trySend_ret a e res n).mono (Q' := DropIf vid now ab)
    (fun _ h _ _ e => by rcases h with ⟨_, h⟩ | ⟨_, _, h⟩ <;> rw [h] at e <;> cases e)
  have ho := pollExec_out s vid now
  generalize pollExec s vid now = s' at ho ⊢
  -- in every live path the execution is first marked polled (`s0`)
  have h0 : ∀ e : Exec, Adds (DropIf vid now ab) s (updExec s e.rid (fun x => { x with woken := false })) :=
    fun _ => Adds.of_eq rfl
  cases ho with
  | noVis _ | dead _ _ _ => exact Adds.emit s (by intro _ _ h; cases h)
  | aborted e hg _ ha =>
    -- the wrapped future is dropped: a pending send hands its permit on, a handler is reported unless it had returned
    refine Adds.trans (h0 e) ?_
    generalize updExec s e.rid (fun x => { x with woken := false }) = s0
    refine Adds.trans ?_ (Adds.after (Adds.emit _ (by intro _ _ h; cases h)) rfl)
    unfold peDrop unsend
    split
    · split
      · exact Adds.after (hrel _) rfl
      · exact Adds.of_eq rfl
    · split
      · exact Adds.refl _ _
      · exact Adds.emit _ (fun _ _ h => by
          cases h; exact ⟨rfl, rfl, hab ▸ ⟨e, hg, ha, by unfold getExecVis at hg; exact List.mem_of_find?_eq_some hg⟩⟩)
  | sendNone e _ _ _ _ _ => exact Adds.trans (h0 e) (Adds.emit _ (by intro _ _ h; cases h))
  | send e res _ _ _ _ _ => exact Adds.trans (h0 e) (hsend _ _ _ _)
  | finish e res _ _ _ _ _ =>
    refine Adds.trans (h0 e) (Adds.trans ?_ (hsend _ _ _ _))
    generalize updExec s e.rid (fun x => { x with woken := false }) = s0
    refine Adds.trans (Adds.after (Adds.emit _ (o := .handler vid .polled now) (by intro _ _ h; cases h)) rfl) ?_
    exact Adds.after (Adds.emit _ (o := .handler vid .completed now) (by intro _ _ h; cases h)) rfl
  | pending e _ _ _ _ _ =>
    refine Adds.trans (h0 e) (Adds.trans ?_ (Adds.emit _ (by intro _ _ h; cases h)))
    generalize updExec s e.rid (fun x => { x with woken := false }) = s0
    exact Adds.trans (Adds.after (Adds.emit _ (o := .handler vid .polled now) (by intro _ _ h; cases h)) rfl) (Adds.of_eq rfl)

end TarpcModel.Server.Flow
