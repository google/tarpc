import TarpcModel.Lemmas.ClientGeneric
/-!
Poisoning has a visible cause: in every reachable state, `poisoned = true` only if a `panic` or a `spin`
observation was emitted (`isStop`).  One more instance of the `Pres` interface (`Lemmas/ClientPres.lean`): the view's
`rel` keeps the `isStop` observations (`relevant_of_isStop`), and the transitions that set `poisoned` (`panic`,
`poison`, `trunc`, `sendReqFail` / `readHit` with a panicking `remove`) all come with such an observation.

Used by `Lemmas/ClientPanic.lean` / `Props/C16Client.lean`: no panic (bounded clock) and no spin (fixed
`ensure_writeable`) ⇒ never poisoned.
-/
namespace TarpcModel.Client

/-- the dispatch is poisoned only if a stop observation (`panic` / `spin`) is on record -/
def PoisonStop (v : View) : Prop := v.poisoned = true → v.rel.any isStop = true

theorem PoisonStop.of_same {v v' : View} (h : PoisonStop v) (hp : v'.poisoned = v.poisoned)
    (hr : ∀ o ∈ v.rel, o ∈ v'.rel) : PoisonStop v' := by
  intro hp'
  rw [hp] at hp'
  obtain ⟨o, ho, hs⟩ := List.any_eq_true.mp (h hp')
  exact List.any_eq_true.mpr ⟨o, hr o ho, hs⟩

theorem PoisonStop.of_stop {v' : View} {o : Obs} (ho : o ∈ v'.rel) (hs : isStop o = true) : PoisonStop v' :=
  fun _ => List.any_eq_true.mpr ⟨o, ho, hs⟩

/-- the common shape of `sendReqFail` / `readHit`: an entry is removed (its `remove` may panic), an observation is
recorded and a value is sent on a oneshot -/
theorem PoisonStop.removeSend {v : View} (h : PoisonStop v) (inf : List Entry) (pn : Bool) (t : TaskId) (site : String)
    (o : Obs) (cid : Nat) (oc : Outcome) :
    PoisonStop (View.send { v with inflight := inf, poisoned := v.poisoned || pn,
                                   rel := stopObs pn t site ++ o :: v.rel } cid oc) := by
  intro hp
  rw [View.send_poisoned] at hp
  rw [View.send_rel]
  cases pn with
  | true => exact List.any_eq_true.mpr ⟨.panic t site, by simp [stopObs], rfl⟩
  | false =>
    simp only [Bool.or_false] at hp
    obtain ⟨o', ho', hs⟩ := List.any_eq_true.mp (h hp)
    exact List.any_eq_true.mpr ⟨o', by simp [stopObs, ho'], hs⟩

/-- the ids invariant with `PoisonStop` -/
def Poi (x : Option Nat) (v : View) : Prop := Inv x v ∧ PoisonStop v

theorem Poi.presD : PresD Poi where
  inv := fun h => h.1
  stop := fun o h ho => ⟨Inv.presD.stop o h.1 ho, h.2.of_same rfl (fun _ h => List.mem_cons_of_mem _ h)⟩
  panic := fun t site h => ⟨Inv.presD.panic t site h.1, PoisonStop.of_stop (o := .panic t site) List.mem_cons_self rfl⟩
  poison := fun {x v} h hs => ⟨Inv.presD.poison h.1 hs, fun _ => by
    rcases hs with hs | hs
    · exact hs
    · exact h.2 hs⟩
  trunc := fun t h0 h => ⟨Inv.presD.trunc t h0.1 h.1, PoisonStop.of_stop (o := .spin t) List.mem_cons_self rfl⟩
  pqPop := fun h hpq => ⟨Inv.presD.pqPop h.1 hpq, h.2.of_same rfl (fun _ h => h)⟩
  cqPop := fun h hcq => ⟨Inv.presD.cqPop h.1 hcq, h.2.of_same rfl (fun _ h => h)⟩
  infRemove := fun id' h => ⟨Inv.presD.infRemove id' h.1, h.2.of_same rfl (fun _ h => h)⟩
  drop_x := fun h hx => ⟨Inv.presD.drop_x h.1 hx, h.2⟩
  popInsert := fun key rem due h hpq hnc => ⟨Inv.presD.popInsert key rem due h.1 hpq hnc, h.2.of_same rfl (fun _ h => h)⟩
  infRearm := fun id key t due h => ⟨Inv.presD.infRearm id key t due h.1, h.2.of_same rfl (fun _ h => h)⟩
  sendReqOk := fun t body h hp he hid hb =>
    ⟨Inv.presD.sendReqOk t body h.1 hp he hid hb, h.2.of_same rfl (fun _ h => List.mem_cons_of_mem _ h)⟩
  sendReqFail := fun t body pn t' site h hp he hid hb =>
    ⟨Inv.presD.sendReqFail t body pn t' site h.1 hp he hid hb, h.2.removeSend _ pn t' site _ _ _⟩
  sendCancel := fun t ok h hc => ⟨Inv.presD.sendCancel t ok h.1 hc, h.2.of_same rfl (fun _ h => List.mem_cons_of_mem _ h)⟩
  send := fun cid o h h1 h2 h3 h4 => ⟨Inv.presD.send cid o h.1 h1 h2 h3 h4,
    h.2.of_same (View.send_poisoned _ _ _) (fun _ h => by rw [View.send_rel]; exact h)⟩
  readMiss := fun t id' res h hm => ⟨Inv.presD.readMiss t id' res h.1 hm, h.2.of_same rfl (fun _ h => List.mem_cons_of_mem _ h)⟩
  readHit := fun t res pn t' site h he =>
    ⟨Inv.presD.readHit t res pn t' site h.1 he, h.2.removeSend _ pn t' site _ _ _⟩
  infClear := fun h => ⟨Inv.presD.infClear h.1, h.2.of_same rfl (fun _ h => h)⟩
  pqClear := fun h => ⟨Inv.presD.pqClear h.1, h.2.of_same rfl (fun _ h => h)⟩
  cqClear := fun h => ⟨Inv.presD.cqClear h.1, h.2.of_same rfl (fun _ h => h)⟩

theorem Poi.pres : Pres Poi where
  toPresD := Poi.presD
  assign := fun h hc hp => ⟨Inv.pres.assign h.1 hc hp, h.2.of_same rfl (fun _ h => h)⟩
  enqueue := fun h hc hp => ⟨Inv.pres.enqueue h.1 hc hp, h.2.of_same rfl (fun _ h => h)⟩
  resolveVal := fun now h hc hp hv => ⟨Inv.pres.resolveVal now h.1 hc hp hv, h.2.of_same rfl (fun _ h => List.mem_cons_of_mem _ h)⟩
  resolveShut := fun now h hc hp => ⟨Inv.pres.resolveShut now h.1 hc hp, h.2.of_same rfl (fun _ h => List.mem_cons_of_mem _ h)⟩
  guardClose := fun h hc hp => ⟨Inv.pres.guardClose h.1 hc hp, h.2.of_same rfl (fun _ h => h)⟩
  cqPush := fun h hc hp hr => ⟨Inv.pres.cqPush h.1 hc hp hr, h.2.of_same rfl (fun _ h => h)⟩
  dropGuarded := fun h hc hp hr => ⟨Inv.pres.dropGuarded h.1 hc hp hr, h.2.of_same rfl (fun _ h => h)⟩
  dropNP := fun h hc hp => ⟨Inv.pres.dropNP h.1 hc hp, h.2.of_same rfl (fun _ h => h)⟩

theorem applyOp_poi {c : Sys} (h : Poi none (view c.s)) (op : COp) : Poi none (view (applyOp c op).s) :=
  applyOp_keeps Poi.pres (fun _ _ h => ⟨h.1.of_handles _ _, h.2.of_same rfl (fun _ h => h)⟩)
    (fun _ _ h => ⟨h.1.newCall _ _, h.2.of_same rfl (fun _ h => h)⟩) h op

theorem foldl_poi (ops : List COp) {c : Sys} (h : Poi none (view c.s)) : Poi none (view (ops.foldl applyOp c).s) :=
  foldl_keeps (P := fun c : Sys => Poi none (view c.s)) (fun _ op h => applyOp_poi h op) ops h

/-- **Poisoning has a visible cause.**  In every state a script reaches, if the dispatch is poisoned then a `panic`
or a `spin` observation is among the observations emitted so far. -/
theorem reach_poisoned_stop (m b tc : Nat) (coupled : Bool) (ops : List COp)
    (hp : (ops.foldl applyOp (initSys m b tc coupled)).s.poisoned = true) :
    ∃ o ∈ (ops.foldl applyOp (initSys m b tc coupled)).s.obs, isStop o = true := by
  have h0 : Poi none (view (initSys m b tc coupled).s) := ⟨init_inv 0 m b tc coupled, fun hp => by cases hp⟩
  obtain ⟨o, ho, hs⟩ := List.any_eq_true.mp ((foldl_poi ops h0).2 hp)
  exact ⟨o, (List.mem_filter.mp ho).1, hs⟩

end TarpcModel.Client
