import TarpcModel.Lemmas.ServerDelayQBridge
/-!
The pre/post form of "the server aborts at the deadline": a tracked request that is *due* when
`BaseChannel::poll_next` is called (its timer tick has passed and nothing is left to arm after taking off the lateness)
stays due — it is never re-armed — until it is removed, and it is removed either by the expiry path or by a `Cancel`
(both abort the handler) or by a queued guard cancellation (the application had already dropped the request).  Since an
idle poll leaves no due timer behind (`basePollNext_idle_timers`), such a request is gone when the poll goes idle.
-/
namespace TarpcModel.Server.Flow
open TarpcModel

/-- the tracked entry with id `id` (guarding execution `rid`) is due for expiry at `now`: its timer tick has passed and
nothing of its remainder is left after taking off the lateness (measured from the exact due time `dueAt`) -/
def DueEntry (id rid now : Nat) (s : St) : Prop :=
  ∃ en ∈ s.inflight, en.id = id ∧ en.rid = rid ∧ ∃ k ∈ s.timers.cores, k.1 = en.timerKey ∧
    k.2.2 * nsPerMs ≤ now ∧ en.remainder ≤ now - en.dueAt

/-- no entry with id `id` is tracked, and if it was not a queued guard cancellation (`cq0`) that removed it, every
execution with rid `rid` has been aborted -/
def Gone (id rid : Nat) (cq0 : List Nat) (s : St) : Prop :=
  (∀ en ∈ s.inflight, en.id ≠ id) ∧ (id ∈ cq0 ∨ Ab rid s)

/-- the request is tracked and due (`DueEntry`), or gone (`cq0`: the guard-cancellation queue at the start; it only shrinks) -/
structure DueOr (id rid now : Nat) (cq0 : List Nat) (s : St) : Prop where
  cq : ∀ x ∈ s.cancelQ, x ∈ cq0
  st : DueEntry id rid now s ∨ Gone id rid cq0 s

variable {id rid now : Nat} {cq0 : List Nat}

/-- distinct tracked entries have distinct timer keys -/
theorem TInv.key_ne {s : St} (h : TInv now s) {a b : SEntry} (ha : a ∈ s.inflight) (hb : b ∈ s.inflight)
    (hne : a.id ≠ b.id) : a.timerKey ≠ b.timerKey := by
  intro hk
  obtain ⟨c, hc, hck, hcv⟩ := h.fwd a ha
  obtain ⟨c', hc', hck', hcv'⟩ := h.fwd b hb
  have : c = c' := DelayQ.cores_key_unique h.wf hc hc' (by rw [hck, hck', hk])
  subst this
  exact hne (hcv.symm.trans hcv')

theorem DueOr.same {s s' : St} (hd : DueOr id rid now cq0 s) (hi : s'.inflight = s.inflight)
    (hc : ∀ c, c ∈ s'.timers.cores ↔ c ∈ s.timers.cores) (he : s'.execs = s.execs)
    (hq : ∀ x ∈ s'.cancelQ, x ∈ s.cancelQ) : DueOr id rid now cq0 s' := by
  refine ⟨fun x hx => hd.cq x (hq x hx), ?_⟩
  rcases hd.st with ⟨en, hen, h1, h2, k, hk, h3, h4, h5⟩ | ⟨hno, hw⟩
  · exact .inl ⟨en, hi ▸ hen, h1, h2, k, (hc k).2 hk, h3, h4, h5⟩
  · exact .inr ⟨hi ▸ hno, hw.imp (fun x => x) (fun h => h.of_execs he)⟩

/-- the entry `e` is removed together with its timer -/
theorem DueOr.removed {s s' : St} (h : TInv now s) (hd : DueOr id rid now cq0 s) {e : SEntry} (he : e ∈ s.inflight)
    (hi : s'.inflight = s.inflight.filter (·.id != e.id))
    (hc : ∀ c, c ∈ s'.timers.cores ↔ c ∈ s.timers.cores ∧ c.1 ≠ e.timerKey)
    (hq : ∀ x ∈ s'.cancelQ, x ∈ s.cancelQ) (hab : Ab rid s → Ab rid s')
    (hwhy : e.id = id → e.rid = rid → id ∈ cq0 ∨ Ab rid s') : DueOr id rid now cq0 s' := by
  refine ⟨fun x hx => hd.cq x (hq x hx), ?_⟩
  rcases hd.st with ⟨en, hen, h1, h2, k, hk, h3, h4, h5⟩ | ⟨hno, hw⟩
  · by_cases hid : e.id = id
    · right
      have hee : en = e := eq_of_map_nodup (f := (·.id)) h.ids hen he (h1.trans hid.symm)
      subst hee
      refine ⟨?_, hwhy hid h2⟩
      intro en' hen'
      rw [hi] at hen'
      have := (List.mem_filter.1 hen').2
      simp only [bne_iff_ne, ne_eq] at this
      rw [← hid]; exact this
    · left
      have hne : en.id ≠ e.id := fun hh => hid (hh.symm.trans h1)
      refine ⟨en, ?_, h1, h2, k, (hc k).2 ⟨hk, ?_⟩, h3, h4, h5⟩
      · rw [hi]; exact List.mem_filter.2 ⟨hen, by simpa using hne⟩
      · rw [h3]; exact h.key_ne hen he hne
  · right
    refine ⟨?_, hw.imp (fun x => x) hab⟩
    intro en' hen'
    rw [hi] at hen'
    exact hno en' (List.mem_filter.1 hen').1

/-- another entry's timer is re-armed -/
theorem DueOr.rearmedOther {s s' : St} (h : TInv now s) (hd : DueOr id rid now cq0 s) {e : SEntry} (he : e ∈ s.inflight)
    (hne : e.id ≠ id) (key t : Nat)
    (hi : s'.inflight = s.inflight.map (rearmUpd e.id key t))
    (hc : ∀ c, c ∈ s.timers.cores → c.1 ≠ e.timerKey → c ∈ s'.timers.cores)
    (hex : s'.execs = s.execs) (hq : ∀ x ∈ s'.cancelQ, x ∈ s.cancelQ) : DueOr id rid now cq0 s' := by
  refine ⟨fun x hx => hd.cq x (hq x hx), ?_⟩
  rcases hd.st with ⟨en, hen, h1, h2, k, hk, h3, h4, h5⟩ | ⟨hno, hw⟩
  · left
    have hne' : en.id ≠ e.id := fun hh => hne (hh.symm.trans h1)
    refine ⟨en, ?_, h1, h2, k, hc k hk ?_, h3, h4, h5⟩
    · rw [hi]; exact List.mem_map.2 ⟨en, hen, rearmUpd_ne hne'⟩
    · rw [h3]; exact h.key_ne hen he hne'
  · right
    refine ⟨?_, hw.imp (fun x => x) (fun h => h.of_execs hex)⟩
    intro en' hen'
    rw [hi] at hen'
    obtain ⟨x, hx, rfl⟩ := List.mem_map.1 hen'
    rw [rearmUpd_id]; exact hno x hx

theorem DueOr.removeTimer {s : St} {k : Nat} {q' : DelayQ} {w : Bool} (hr : s.timers.remove k = some (q', w))
    (hd : DueOr id rid now cq0 { s with timers := q' }) : DueOr id rid now cq0 (removeTimer s k) := by
  rcases removeTimer_out s k with ⟨hn, _⟩ | ⟨q, w', hq, e⟩
  · rw [hr] at hn; cases hn
  · rw [hr] at hq; cases hq
    rw [e]
    split
    · exact hd.same (wakeServer_inflight _) (fun c => by rw [wakeServer_timers]) (wakeServer_execs _)
        (fun x hx => by rw [wakeServer_cancelQ] at hx; exact hx)
    · exact hd

theorem DueOr.removeReq {s : St} (h : TInv now s) (hd : DueOr id rid now cq0 s) (x : Nat) (hx : x ∈ cq0) :
    DueOr id rid now cq0 (removeRequest s x).1 := by
  rcases removeRequest_out s x with ⟨_, e⟩ | ⟨e, hf, he⟩ <;> rw [‹removeRequest s x = _›]
  · exact hd
  · obtain ⟨hen, hid⟩ := findEntry_some hf
    obtain ⟨q', w, hr⟩ := h.remove_some hen
    subst hid
    exact DueOr.removeTimer (s := { s with inflight := s.inflight.filter (·.id != e.id) }) hr
      (hd.removed h hen rfl (DelayQ.remove_some hr).2 (fun _ hx => hx) (fun ha => ha.of_execs rfl)
        (fun hid _ => .inl (hid ▸ hx)))

theorem DueOr.cancelReq {s : St} (h : TInv now s) (hd : DueOr id rid now cq0 s) (x : Nat) :
    DueOr id rid now cq0 (cancelRequest s x).1 := by
  rcases cancelRequest_out s x with ⟨_, e⟩ | ⟨e, hf, he⟩ <;> rw [‹cancelRequest s x = _›]
  · exact hd
  · obtain ⟨hen, hid⟩ := findEntry_some hf
    obtain ⟨q', w, hr⟩ := h.remove_some hen
    subst hid
    refine DueOr.removeTimer (s := abortExec { s with inflight := s.inflight.filter (·.id != e.id) } e.rid)
      (by rw [abortExec_timers]; exact hr) ?_
    exact hd.removed h hen (by simp) (by simpa using (DelayQ.remove_some hr).2)
      (fun x hx => by simpa using hx)
      (fun ha => (Ab.abortExec (s := { s with inflight := s.inflight.filter (·.id != e.id) })
        (ha.of_execs rfl) e.rid).of_execs rfl)
      (fun _ hrid => .inr (by
        rw [← hrid]
        exact (Ab.of_abortExec { s with inflight := s.inflight.filter (·.id != e.id) } e.rid).of_execs rfl))

theorem DueOr.expireStep {s : St} (h : TInv now s) (hd : DueOr id rid now cq0 s) :
    DueOr id rid now cq0 (Server.expireStep s now).1 := by
  have hs := expireStep_out s now
  revert hs
  generalize Server.expireStep s now = p
  intro hs
  obtain ⟨s', r⟩ := p
  dsimp only at hs ⊢
  cases hs with
  | idleNone q hp =>
    exact hd.same rfl (DelayQ.pollExpired_other hp h.wf (fun _ hh => by cases hh)) rfl (fun _ hx => hx)
  | idlePending q hp =>
    exact hd.same rfl (DelayQ.pollExpired_other hp h.wf (fun _ hh => by cases hh)) rfl (fun _ hx => hx)
  | orphan q e hp hf =>
    exfalso
    obtain ⟨en', hen', _, hv'⟩ := h.bwd _ (DelayQ.pollExpired_expired hp h.wf).1
    exact findEntry_none hf en' hen' hv'
  | abort q e en hp hf h0 =>
    obtain ⟨hen, hid, hkey⟩ := h.found_key hp hf
    refine hd.removed h hen (by simp [hid]) ?_ (fun x hx => by simpa using hx)
      (fun ha => Ab.abortExec (s := { s with timers := q, inflight := s.inflight.filter (·.id != e.val) })
          (ha.of_execs rfl) en.rid)
      (fun _ hrid => .inr (by rw [← hrid]; exact Ab.of_abortExec _ en.rid))
    intro c
    rw [abortExec_timers, hkey]
    exact (DelayQ.pollExpired_expired hp h.wf).2 c
  | rearmed q e en s2 hp hf h0 hr =>
    obtain ⟨hen, hid, hkey⟩ := h.found_key hp hf
    obtain ⟨q2, key, w, hins, rfl⟩ := rearm_some hr
    have hfr := rearm_frame hr
    have hcores : ∀ c, c ∈ s.timers.cores → c.1 ≠ en.timerKey → c ∈ q2.cores := by
      intro c hc hne
      exact ((DelayQ.insert_ok hins).2.2 c).2 (.inl (((DelayQ.pollExpired_expired hp h.wf).2 c).2 ⟨hc, hkey ▸ hne⟩))
    by_cases hval : en.id = id
    · -- a due entry is never re-armed
      exfalso
      rcases hd.st with ⟨en', hen', h1, h2, k, hk, h3, h4, h5⟩ | ⟨hno, _⟩
      · have hee : en' = en := eq_of_map_nodup (f := (·.id)) h.ids hen' hen (h1.trans hval.symm)
        subst hee
        have hkc : k = DelayQ.core e :=
          DelayQ.cores_key_unique h.wf hk (DelayQ.pollExpired_expired hp h.wf).1 (by rw [h3, hkey]; rfl)
        subst hkc
        apply h0
        show en'.remainder - (now - en'.dueAt) = 0
        omega
      · exact hno en hen hval
    · refine hd.rearmedOther h hen hval key now ?_ hcores ?_ ?_
      · cases w <;> simp
      · cases w <;> simp
      · intro x hx
        have : x ∈ ({ s with timers := q } : St).cancelQ := by
          cases w
          · simpa using hx
          · simpa using hx
        exact this
  | panicked q e en hp hf h0 hr =>
    exact hd.same rfl (fun _ => Iff.rfl) rfl (fun _ hx => hx)

theorem DueOr.expire {s : St} (h : TInv now s) (hd : DueOr id rid now cq0 s) :
    DueOr id rid now cq0 (pollExpired s now).1 :=
  (pollExpired_ind (P := fun s => TInv now s ∧ DueOr id rid now cq0 s) now
    (fun _ h1 => ⟨h1.1.of_sim rfl rfl (ExecsSim.refl _), h1.2.same rfl (fun _ => Iff.rfl) rfl (fun _ hx => hx)⟩)
    (fun _ h1 => ⟨h1.1.expireStep, h1.2.expireStep h1.1⟩) s ⟨h, hd⟩).2

theorem DueOr.bpCancel {s : St} (h : TInv now s) (hd : DueOr id rid now cq0 s) :
    DueOr id rid now cq0 (Flow.bpCancel s).1 := by
  unfold Flow.bpCancel
  cases hq : s.cancelQ with
  | nil => dsimp only; exact hd.same rfl (fun _ => Iff.rfl) rfl (fun _ hx => by rw [hq]; exact hx)
  | cons x rest =>
    dsimp only
    have hd' : DueOr id rid now cq0 { s with cancelQ := rest } :=
      hd.same rfl (fun _ => Iff.rfl) rfl (fun y hy => by rw [hq]; exact List.mem_cons_of_mem _ hy)
    exact DueOr.removeReq (s := { s with cancelQ := rest }) (h.of_sim rfl rfl (ExecsSim.refl _)) hd' x (hd.cq x (by rw [hq]; exact List.mem_cons_self))

theorem DueOr.bpOther {s : St} (h : TInv now s) (hd : DueOr id rid now cq0 s) (nx : NextRes) :
    DueOr id rid now cq0 (Flow.bpOther s nx).1 := by
  unfold Flow.bpOther
  split
  · exact hd.cancelReq h _
  · exact hd
  · exact hd
  · exact hd

/-- one iteration of `BaseChannel::poll_next` that goes round again or goes idle keeps "due or gone" -/
theorem bpStep_dueOr {s : St} (h : SInv false now s) (hd : DueOr id rid now cq0 s)
    (hr : (bpStep s now).2 = none ∨ (bpStep s now).2 = some .pending ∨ (bpStep s now).2 = some .none) :
    DueOr id rid now cq0 (bpStep s now).1 := by
  have hc := (sinv_closed false now).toStepClosed
  have h1 : SInv false now (bpCancel s).1 := hc.bpCancel s h
  have d1 := hd.bpCancel h.t
  have h2 : SInv false now (bp2 s now) := hc.expire _ h1
  have d2 : DueOr id rid now cq0 (bp2 s now) := d1.expire h1.t
  have h3 : SInv false now (bp3 s now) := hc.tNext _ h2
  have d3 : DueOr id rid now cq0 (bp3 s now) :=
    d2.same (tNext_inflight _) (fun c => by rw [show (bp3 s now).timers = (bp2 s now).timers from tNext_timers _])
      (tNext_execs _) (fun x hx => by rw [show (bp3 s now).cancelQ = (bp2 s now).cancelQ from tNext_cancelQ _] at hx; exact hx)
  have ho := bpStep_out s now
  revert ho hr
  generalize bpStep s now = out
  intro hr ho
  cases ho with
  | duplicate id' d tr b hp hnx hs hpo => rw [startRequest_none hs hpo]; exact d3
  | again _ _ _ _ _ => exact d3.bpOther h3.t _
  | closed _ _ _ _ _ => exact d3.bpOther h3.t _
  | pending _ _ _ _ _ => exact d3.bpOther h3.t _
  | _ => rcases hr with hr | hr | hr <;> cases hr

/-- **Pre/post.**  `BaseChannel::poll_next` going idle keeps "due or gone" … -/
theorem basePollNext_dueOr (fuel : Nat) (s : St) (h : SInv false now s) (hd : DueOr id rid now cq0 s) :
    ((basePollNext fuel s now).2 = .pending ∨ (basePollNext fuel s now).2 = .none) →
    DueOr id rid now cq0 (basePollNext fuel s now).1 :=
  basePollNext_loop (I := fun s => SInv false now s ∧ DueOr id rid now cq0 s)
    (Φ := fun s r => (r = .pending ∨ r = .none) → DueOr id rid now cq0 s)
    (fun s h => .of_eq (fun hr => ⟨(sinv_closed false now).toStepClosed.bpStep s h.1, bpStep_dueOr h.1 h.2 (.inl hr)⟩)
      (fun r hr hi => bpStep_dueOr h.1 h.2 (.inr (hi.imp (fun e => by rw [hr, e]) (fun e => by rw [hr, e])))))
    (fun _ _ => nofun) fuel s ⟨h, hd⟩

/-- … and since nothing due is left behind, a request that was due when the poll began is gone when it goes idle. -/
theorem basePollNext_due_gone (hf : ClampFits) (hn : now < panicFreeNs) (fuel : Nat) {s : St} (h : SInv false now s)
    (hq : QC now s) (hd : DueEntry id rid now s)
    (hi : (basePollNext fuel s now).2 = .pending ∨ (basePollNext fuel s now).2 = .none) :
    Gone id rid s.cancelQ (basePollNext fuel s now).1 := by
  have hd' := basePollNext_dueOr fuel s h ⟨fun _ hx => hx, .inl hd⟩ hi
  rcases hd'.st with ⟨en, _, _, _, k, hk, _, hdue, _⟩ | hg
  · have := (basePollNext_idle_timers hf hn fuel s hq hi).cores k hk
    omega
  · exact hg

theorem TimerOk.not_late {now : Nat} {en : SEntry} {w : Nat} {ex : Exec} (hok : TimerOk now en w ex)
    (hnd : now < w * nsPerMs) :
    now < ceilMs ex.deadline * nsPerMs ∨ (ex.deadline < en.dueAt ∧ en.dueAt ≤ now ∧ now < en.dueAt + nsPerMs) := by
  obtain ⟨h3, h4⟩ := hok.tick_lt
  have h1 := hok.lo
  have h2 := hok.hi
  by_cases hle : en.dueAt ≤ ex.deadline
  · exact .inl (Nat.lt_of_lt_of_le hnd (tick_le_ceil h4 hle))
  · exact .inr (by omega)

/-- **Not late, at state level**: in a state whose table invariant holds and whose timer queue is idle at `now` (nothing
due), every tracked request is before the millisecond tick of its deadline, or was read after its deadline less than a
millisecond ago. -/
theorem TInv.idle_not_late {now : Nat} {s : St} (h : TInv now s) (hi : DelayQ.Idle now s.timers) {en : SEntry}
    (hen : en ∈ s.inflight) {ex : Exec} (hex : ex ∈ s.execs) (hr : ex.rid = en.rid) :
    now < ceilMs ex.deadline * nsPerMs ∨ (ex.deadline < en.dueAt ∧ en.dueAt ≤ now ∧ now < en.dueAt + nsPerMs) := by
  obtain ⟨k, hk, hkey, -⟩ := h.fwd en hen
  exact (h.dl en hen k hk hkey ex hex hr).not_late (hi.cores k hk)

end TarpcModel.Server.Flow
