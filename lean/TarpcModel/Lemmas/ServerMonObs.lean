import TarpcModel.Lemmas.ServerFlow
import TarpcModel.Monitors.Server
/-!
Five named classes of relations between the state before and after: `WakeRel R`, extended by `SendRel R`, by `ExecRel R` (the
execution side), by `TransRel R` (the calls of the sink) and by `NoiseRel R` (timer wheel, table, abort flags).  A class lists
primitive updates a relation contains (`WakeRel.has` … `NoiseRel.has` say which actions of `Lemmas/ServerSteps.lean`); along a
model function it holds as an instance of that function's `_steps` lemma.  The couplings of the monitors' acceptance proofs
(`NzS`, `QS` / `Ext` / `LD`, `Q18`) are instances.  `Flt p` (the same observations of class `p`, in the same order) follows
from `Adds` (`Flt.steps`); the `fx_…` lemmas state it with the filter written out, as the monitors' proofs rewrite with it.
-/
namespace TarpcModel.Server.ObsMon
open TarpcModel TarpcModel.Server TarpcModel.Server.Flow

/-- a class of observations that contains nothing a poll of the request stream reports -/
structure PollQuiet (p : Obs → Bool) : Prop where
  tReady : ∀ ep r, p (.tReady ep r) = false
  tSend : ∀ ep m ok, p (.tSend ep m ok) = false
  tFlush : ∀ ep r, p (.tFlush ep r) = false
  tNext : ∀ ep r, p (.tNext ep r) = false
  tViolation : ∀ ep w, p (.tViolation ep w) = false
  wake : ∀ t, p (.wake t) = false
  spin : ∀ t, p (.spin t) = false
  panic : ∀ t w, p (.panic t w) = false

/-- the same observations of class `p`, in the same order -/
def Flt (p : Obs → Bool) (s s' : St) : Prop := s'.obs.filter p = s.obs.filter p

/-- a class of observations that contains none of: wake-ups, `noop`, `took` -/
structure WakeQuiet (p : Obs → Bool) : Prop where
  wake : ∀ t, p (.wake t) = false
  noop : p .noop = false
  took : ∀ ep m, p (.took ep m) = false

/-- … nor the `ret` of an execution -/
structure SendQuiet (p : Obs → Bool) : Prop extends WakeQuiet p where
  retExec : ∀ v r, p (.ret (.exec v) r) = false

/-- … nor any handler event: none of the kinds the execution-side ops and the external events emit -/
structure ExecQuiet (p : Obs → Bool) : Prop extends SendQuiet p where
  handler : ∀ r ev t, p (.handler r ev t) = false

/-- an update of an execution that keeps what identifies it -/
def Ident (f : Exec → Exec) : Prop :=
  ∀ e, (f e).rid = e.rid ∧ (f e).id = e.id ∧ (f e).deadline = e.deadline ∧ (f e).trace = e.trace ∧
    (f e).vis = e.vis ∧ (f e).aborted = e.aborted

/-- everything stays but bookkeeping no relation of the classes reads (`woken`, the queues, permits and wakers between the tasks) -/
structure Frame (s s' : St) : Prop where
  obs : s'.obs = s.obs
  execs : s'.execs = s.execs
  inflight : s'.inflight = s.inflight
  timers : s'.timers = s.timers
  nextVis : s'.nextVis = s.nextVis
  nextFresh : s'.nextFresh = s.nextFresh
  t : s'.t = s.t
  done : s'.done = s.done
  dropped : s'.dropped = s.dropped
  poisoned : s'.poisoned = s.poisoned
  readFused : s'.readFused = s.readFused

/-- `upd`: an update that keeps the phase; `SendRel.updPhase`: one that moves it -/
structure WakeRel (R : St → St → Prop) : Prop where
  refl : ∀ s, R s s
  trans : ∀ {a b c}, R a b → R b c → R a c
  inert : ∀ {s s'}, Frame s s' → R s s'
  upd : ∀ s r f, Ident f → (∀ e, (f e).phase = e.phase) → R s (updExec s r f)
  wake : ∀ s t, R s (emit s (.wake t))

structure SendRel (R : St → St → Prop) : Prop extends WakeRel R where
  updPhase : ∀ s r f, Ident f → R s (updExec s r f)
  retExec : ∀ s v r, R s (emit s (.ret (.exec v) r))

structure ExecRel (R : St → St → Prop) : Prop extends SendRel R where
  noop : ∀ s, R s (emit s .noop)
  handler : ∀ s r ev t, R s (emit s (.handler r ev t))

theorem rel_ite {R : St → St → Prop} {s : St} (c : Prop) [Decidable c] {x y : St} (hx : R s x) (hy : R s y) :
    R s (if c then x else y) := ite_of (P := R s) (c := c) hx hy

structure TransRel (R : St → St → Prop) : Prop extends WakeRel R where
  setT : ∀ s t, t.inbound = s.t.inbound → R s { s with t := t }
  viol : ∀ s ep w, R s (emit s (.tViolation ep w))
  spin : ∀ s t, R s (emit s (.spin t))
  tReady : ∀ s ep r, R s (emit s (.tReady ep r))
  tFlush : ∀ s ep r, R s (emit s (.tFlush ep r))

/-- `gone`: `UKind.dropped` (by `dropOffered`); `tables`: any table and any wheel, so a relation of the class says nothing about
`inflight` and `timers` -/
structure NoiseRel (R : St → St → Prop) : Prop extends WakeRel R where
  gone : ∀ s r, R s (updExec s r (fun e => { e with phase := .gone, guardArmed := false, woken := false }))
  abort : ∀ s r, R s (updExec s r (fun e => { e with aborted := true, abortWaker := false }))
  tables : ∀ s i q, R s { s with inflight := i, timers := q }
  spin : ∀ s t, R s (emit s (.spin t))
  panic : ∀ s t w, R s (emit { s with poisoned := true } (.panic t w))

section
variable {R : St → St → Prop} {s a : St}

theorem UKind.ident : ∀ u : UKind, u ≠ .abort → (∀ v, u ≠ .yield v) → Ident u.f := by
  intro u h1 h2
  cases u with
  | abort => exact absurd rfl h1
  | yield v => exact absurd rfl (h2 v)
  | _ => exact fun e => ⟨rfl, rfl, rfl, rfl, rfl, rfl⟩

/-- the updates of an execution that keep its phase -/
inductive Calm : UKind → Prop
  | woken : Calm .woken
  | polled : Calm .polled
  | arm : Calm .arm
  | finish (res) : Calm (.finish res)
  | park : Calm .park
  | handled : Calm .handled

theorem Calm.ident {u : UKind} (h : Calm u) : Ident u.f ∧ ∀ e, (u.f e).phase = e.phase := by
  cases h <;> exact ⟨fun e => ⟨rfl, rfl, rfl, rfl, rfl, rfl⟩, fun e => rfl⟩

theorem Frame.of_book {a b : St} (h : Inert a b ∧ b.nextVis = a.nextVis) : Frame a b :=
  ⟨h.1.obs, h.1.execs, h.1.inflight, h.1.timers, h.2, h.1.nextFresh, h.1.t, h.1.done, h.1.dropped, h.1.poisoned, h.1.readFused⟩

inductive WakeRK : Act → Prop
  | wake (t) : WakeRK (.emit (.wake t))
  | upd {u} (h : Calm u) : WakeRK (.upd u)
  | book {k} (h : BookK k) : WakeRK k

theorem WakeRel.has (hc : WakeRel R) : Has WakeRK R where
  refl := hc.refl
  trans := hc.trans
  prim := by
    intro k a b hk hp
    cases hk with
    | wake t => cases hp; exact hc.wake _ _
    | upd hu => cases hp; exact hc.upd _ _ _ hu.ident.1 hu.ident.2
    | book hb => exact hc.inert (.of_book (hp.book hb))

inductive SendOnlyK : Act → Prop
  | ret (v r) : SendOnlyK (.emit (.ret (.exec v) r))
  | upd {u} (h1 : u ≠ .abort) (h2 : ∀ v, u ≠ .yield v) : SendOnlyK (.upd u)

def SendRK (k : Act) : Prop := WakeRK k ∨ SendOnlyK k

theorem SendRel.has (hc : SendRel R) : Has SendRK R :=
  hc.toWakeRel.has.or ⟨hc.refl, hc.trans, by
    intro k a b hk hp
    cases hk with
    | ret v r => cases hp; exact hc.retExec _ _ _
    | upd h1 h2 => cases hp; exact hc.updPhase _ _ _ (UKind.ident _ h1 h2)⟩

inductive ExecOnlyK : Act → Prop
  | noop : ExecOnlyK (.emit .noop)
  | handler (r ev t) : ExecOnlyK (.emit (.handler r ev t))

def ExecRK (k : Act) : Prop := SendRK k ∨ ExecOnlyK k

theorem ExecRel.has (hc : ExecRel R) : Has ExecRK R :=
  hc.toSendRel.has.or ⟨hc.refl, hc.trans, by
    intro k a b hk hp
    cases hk with
    | noop => cases hp; exact hc.noop _
    | handler r ev t => cases hp; exact hc.handler _ _ _ _⟩

inductive TransOnlyK : Act → Prop
  | viol (ep w) : TransOnlyK (.emit (.tViolation ep w))
  | tReady (ep r) : TransOnlyK (.emit (.tReady ep r))
  | tFlush (ep r) : TransOnlyK (.emit (.tFlush ep r))
  | spin : TransOnlyK .spin
  | setT {t t'} (h : t'.inbound = t.inbound) : TransOnlyK (.setT t t')

def TransRK (k : Act) : Prop := WakeRK k ∨ TransOnlyK k

theorem TransRel.has (hc : TransRel R) : Has TransRK R :=
  hc.toWakeRel.has.or ⟨hc.refl, hc.trans, by
    intro k a b hk hp
    cases hk with
    | viol ep w => cases hp; exact hc.viol _ _ _
    | tReady ep r => cases hp; exact hc.tReady _ _ _
    | tFlush ep r => cases hp; exact hc.tFlush _ _ _
    | spin => cases hp; exact hc.spin _ _
    | setT h => cases hp; exact hc.setT _ _ h⟩

inductive NoiseOnlyK : Act → Prop
  | dropped : NoiseOnlyK (.upd .dropped)
  | abort : NoiseOnlyK (.upd .abort)
  | timers : NoiseOnlyK .timers
  | timerWaker : NoiseOnlyK .timerWaker
  | forget : NoiseOnlyK .forget
  | rearm : NoiseOnlyK .rearm
  | spin : NoiseOnlyK .spin
  | panic (w) : NoiseOnlyK (.panic w)

def NoiseRK (k : Act) : Prop := WakeRK k ∨ NoiseOnlyK k

theorem NoiseRel.has (hc : NoiseRel R) : Has NoiseRK R :=
  hc.toWakeRel.has.or ⟨hc.refl, hc.trans, by
    intro k a b hk hp
    cases hk with
    | dropped => cases hp; exact hc.gone _ _
    | abort => cases hp; exact hc.abort _ _
    | timers => cases hp; exact hc.tables a a.inflight _
    | timerWaker => cases hp; exact hc.tables a a.inflight _
    | forget => cases hp; exact hc.tables a _ a.timers
    | rearm => cases hp; exact hc.tables a _ _
    | spin => cases hp; exact hc.spin _ _
    | panic w => cases hp; exact hc.panic _ _ _⟩

theorem serverWake_le_wakeR : ∀ k, (∃ t, k = .emit (.wake t)) ∨ k = .woken → WakeRK k := by
  rintro k (⟨t, rfl⟩ | rfl)
  · exact .wake t
  · exact .book .woken

theorem wake_le_wakeR : ∀ k, WakeK k → WakeRK k := by
  intro k hk
  cases hk with
  | wake t => exact .wake t
  | uwoken => exact .upd .woken
  | _ => exact .book (by constructor)

theorem guard_le_wakeR : ∀ k, GuardK k → WakeRK k := by
  intro k hk
  cases hk with
  | wake t => exact .wake t
  | _ => exact .book (by constructor)

theorem exec_le_execR : ∀ k, ExecK k → ExecRK k := by
  intro k hk
  cases hk with
  | noop => exact .inr .noop
  | handler r ev t => exact .inr (.handler r ev t)
  | ret v r => exact .inl (.inr (.ret v r))
  | wake t => exact .inl (.inl (.wake t))
  | polled | finish | park | handled | uwoken => exact .inl (.inl (.upd (by constructor)))
  | aborted | running | gone | done | sending => exact .inl (.inr (.upd UKind.noConfusion fun _ => UKind.noConfusion))
  | _ => exact .inl (.inl (.book (by constructor)))

theorem sink_le_transR {Q : Obs → Prop} (hQ : ∀ o, Q o → IsEnsure o) : ∀ k, SinkK Q k → TransRK k := by
  intro k hk
  cases hk with
  | wake t => exact .inl (.wake t)
  | viol ep w => exact .inr (.viol ep w)
  | woken => exact .inl (.book .woken)
  | obs h =>
    cases hQ _ h with
    | ready ep r => exact .inr (.tReady ep r)
    | flush ep r => exact .inr (.tFlush ep r)
  | setT h => exact .inr (.setT h.inbound)

theorem noise_le_noiseR : ∀ k, NoiseK k → NoiseRK k := by
  intro k hk
  cases hk with
  | wake t => exact .inl (.wake t)
  | woken => exact .inl (.book .woken)
  | uwoken => exact .inl (.upd .woken)
  | _ => exact .inr (by constructor)

theorem expire_le_noiseR : ∀ k, ExpireK k → NoiseRK k := by
  rintro k (hk | rfl)
  · exact noise_le_noiseR k hk
  · exact .inr .spin

theorem drop_le_noiseR : ∀ k, DropK k → NoiseRK k := by
  intro k hk
  cases hk with
  | dropped => exact .inr .dropped
  | wake t => exact .inl (.wake t)
  | _ => exact .inl (.book (by constructor))

theorem WakeRel.wakeServer (hc : WakeRel R) (h : R s a) : R s (wakeServer a) :=
  hc.trans h (hc.has.steps ((wakeServer_steps a).mono serverWake_le_wakeR))

theorem WakeRel.rqRelease (hc : WakeRel R) (h : R s a) : R s (rqRelease a) :=
  hc.trans h (hc.has.steps ((rqRelease_steps a).mono wake_le_wakeR))

theorem WakeRel.guardDrop (hc : WakeRel R) (e : Exec) (h : R s a) : R s (guardDrop a e) :=
  hc.trans h (hc.has.steps ((guardDrop_steps a e).mono guard_le_wakeR))

theorem WakeRel.finishHandler (hc : WakeRel R) (hn : ∀ s, R s (emit s .noop)) (vid : Nat) (res : Res) (h : R s a) :
    R s (finishHandler a vid res) := by
  refine hc.trans h ((hc.has.or (B := fun k => k = .emit .noop) ⟨hc.refl, hc.trans, ?_⟩).steps
    ((finishHandler_steps a vid res).mono fun k hk => ?_))
  · rintro k a b rfl hp; cases hp; exact hn _
  · cases hk with
    | noop => exact .inr rfl
    | finish res => exact .inl (.upd (.finish res))
    | uwoken => exact .inl (.upd .woken)
    | wake t => exact .inl (.wake t)

theorem WakeRel.armRead (hc : WakeRel R) (r : SPoll Exec) (h : R s a) : R s (armRead a r) :=
  hc.trans h (hc.has.steps ((armRead_steps a r).mono (by rintro k rfl; exact .upd .arm)))

theorem TransRel.emitViolations (hc : TransRel R) (n : Nat) (h : R s a) : R s (Server.emitViolations a n) :=
  hc.trans h (hc.has.steps ((emitViolations_steps (Q := fun _ => False) a n).mono (sink_le_transR fun _ h => h.elim)))

theorem TransRel.tReady' (hc : TransRel R) (h : R s a) : R s (Server.tReady a).1 :=
  hc.trans h (hc.has.steps ((tReady_steps a).mono (sink_le_transR ready_le_ensure)))

theorem TransRel.ensureWriteable (hc : TransRel R) (h : R s a) : R s (Server.ensureWriteable a).1 :=
  hc.trans h (hc.has.steps ((ensureWriteable_steps a).mono fun k hk =>
    hk.elim (sink_le_transR (fun _ h => h) k) (by rintro rfl; exact .inr .spin)))

theorem TransRel.flushArm (hc : TransRel R) (rc : Bool) (h : R s a) : R s (Server.flushArm a rc).1 :=
  hc.trans h (hc.has.steps ((flushArm_steps a rc).mono (sink_le_transR flush_le_ensure)))

theorem TransRel.hasSend (hc : TransRel R) (hs : ∀ s ep m ok, R s (emit s (.tSend ep m ok))) :
    Has (fun k => TransRK k ∨ ∃ ep m ok, k = .emit (.tSend ep m ok)) R :=
  hc.has.or ⟨hc.refl, hc.trans, by rintro k a b ⟨ep, m, ok, rfl⟩ hp; cases hp; exact hs _ _ _ _⟩

theorem sinkSend_le {Q : Obs → Prop} (hQ : ∀ o, Q o → IsWrite o) :
    ∀ k, SinkK Q k → TransRK k ∨ ∃ ep m ok, k = .emit (.tSend ep m ok) := by
  intro k hk
  cases hk with
  | wake t => exact .inl (.inl (.wake t))
  | viol ep w => exact .inl (.inr (.viol ep w))
  | woken => exact .inl (.inl (.book .woken))
  | obs h =>
    cases hQ _ h with
    | ready ep r => exact .inl (.inr (.tReady ep r))
    | flush ep r => exact .inl (.inr (.tFlush ep r))
    | send ep m ok => exact .inr ⟨_, _, _, rfl⟩
  | setT h => exact .inl (.inr (.setT h.inbound))

theorem NoiseRel.along (hc : NoiseRel R) {A : Act → Prop} (hle : ∀ k, A k → NoiseK k) {a b : St} (hs : Steps A a b) (h : R s a) :
    R s b :=
  hc.trans h (hc.has.steps (hs.mono fun k hk => noise_le_noiseR k (hle k hk)))

theorem NoiseRel.removeRequest (hc : NoiseRel R) (id : Nat) (h : R s a) : R s (Server.removeRequest a id).1 :=
  hc.along table_le_noise (removeRequest_steps a id) h

theorem NoiseRel.cancelRequest (hc : NoiseRel R) (id : Nat) (h : R s a) : R s (Server.cancelRequest a id).1 :=
  hc.along (fun _ h => h) (cancelRequest_steps a id) h

theorem NoiseRel.pollExpired (hc : NoiseRel R) (now : Nat) (h : R s a) : R s (Server.pollExpired a now).1 :=
  hc.trans h (hc.has.steps ((pollExpired_steps a now).mono expire_le_noiseR))

theorem NoiseRel.dropOffered (hc : NoiseRel R) (rid id : Nat) (h : R s a) : R s (Server.dropOffered a rid id) :=
  hc.trans h (hc.has.steps ((dropOffered_steps a rid id).mono drop_le_noiseR))

theorem NoiseRel.dropRead (hc : NoiseRel R) (r : SPoll Exec) (h : R s a) : R s (dropRead a r) :=
  hc.trans h (hc.has.steps ((dropRead_steps a r).mono drop_le_noiseR))

theorem NoiseRel.startRequest (hc : NoiseRel R)
    (hs : ∀ s ex nf i q, R s { s with timers := q, nextFresh := nf, inflight := i, execs := ex })
    (now id d : Nat) (tr : Trace) (b : Nat) (h : R s a) : R s (Server.startRequest a now id d tr b).1 := by
  refine hc.trans h ((hc.has.or (B := fun k => k = .started) ⟨hc.refl, hc.trans, ?_⟩).steps
    ((startRequest_steps a now id d tr b).mono fun k hk => ?_))
  · rintro k a b rfl hp; cases hp; exact hs _ _ _ _ _
  · cases hk with
    | started => exact .inr rfl
    | wake t => exact .inl (.inl (.wake t))
    | woken => exact .inl (.inl (.book .woken))
    | panic w => exact .inl (.inr (.panic w))

theorem NoiseRel.dropServer (hc : NoiseRel R) (hn : ∀ s, R s (emit s .noop))
    (hd : ∀ s, R s { s with dropped := true, woken := false }) (h : R s a) : R s (Server.dropServer a) := by
  refine hc.trans h ((hc.has.or (B := fun k => k = .emit .noop ∨ k = .dropFlags ∨ k = .clear) ⟨hc.refl, hc.trans, ?_⟩).steps
    ((dropServer_steps a).mono fun k hk => ?_))
  · rintro k a b (rfl | rfl | rfl) hp <;> cases hp
    · exact hn _
    · exact hd _
    · exact hc.trans (hc.inert (s' := { a with cancelQ := [], respQ := [] }) ⟨rfl, rfl, rfl, rfl, rfl, rfl, rfl, rfl, rfl, rfl, rfl⟩)
        (hc.tables _ [] {})
  · cases hk with
    | noop => exact .inr (.inl rfl)
    | dropFlags => exact .inr (.inr (.inl rfl))
    | clear => exact .inr (.inr (.inr rfl))
    | dropWaiters => exact .inl (.inl (.book .dropWaiters))
    | abort h =>
      cases h with
      | abort => exact .inl (.inr .abort)
      | uwoken => exact .inl (.inl (.upd .woken))
      | wake t => exact .inl (.inl (.wake t))

theorem NoiseRel.bpCancel (hc : NoiseRel R) (h : R s a) : R s (Flow.bpCancel a).1 :=
  hc.trans h (hc.has.steps ((bpCancel_steps a).bind fun {k a b} hk hp => by
    rcases hk with rfl | rfl | rfl
    · exact (Steps.refl _).then hp (.inl (.book .popCancel))
    · exact (Steps.refl _).then hp (.inl (.book (.cancelRx _)))
    · cases hp; exact (removeRequest_steps _ _).mono fun k hk => noise_le_noiseR k (table_le_noise k hk)))

theorem NoiseRel.bpOther (hc : NoiseRel R) (nx : NextRes) (h : R s a) : R s (Flow.bpOther a nx).1 := by
  unfold Flow.bpOther
  split
  · exact hc.cancelRequest _ h
  all_goals exact h

/-- the actions of the write pump -/
theorem NoiseRel.hasWrite (hn : NoiseRel R) (ht : TransRel R) (hs : ∀ s ep m ok, R s (emit s (.tSend ep m ok))) :
    Has (fun k => (TransRK k ∨ ∃ ep m ok, k = .emit (.tSend ep m ok)) ∨ NoiseRK k) R :=
  (ht.hasSend hs).or hn.has

theorem NoiseRel.baseStartSend (hn : NoiseRel R) (ht : TransRel R) (hs : ∀ s ep m ok, R s (emit s (.tSend ep m ok)))
    (id : Nat) (res : Res) (h : R s a) : R s (Server.baseStartSend a id res).1 :=
  hn.trans h ((hn.hasWrite ht hs).steps ((baseStartSend_fine a id res).mono fun k hk =>
    hk.elim (fun h => .inl (sinkSend_le send_le_write k h)) fun h => .inr (noise_le_noiseR k (table_le_noise k h))))

theorem NoiseRel.pumpWrite (hn : NoiseRel R) (ht : TransRel R) (hs : ∀ s ep m ok, R s (emit s (.tSend ep m ok)))
    (rc : Bool) (h : R s a) : R s (Server.pumpWrite a rc).1 := by
  refine hn.trans h ((hn.hasWrite ht hs).steps ((pumpWrite_steps a rc).bind fun {k a b} hk hp => ?_))
  rcases hk with (hk | rfl) | hk | rfl | rfl | rfl
  · exact (Steps.refl _).then hp (.inl (sinkSend_le ensure_le_write k hk))
  · exact (Steps.refl _).then hp (.inl (.inl (.inr .spin)))
  · exact (Steps.refl _).then hp (.inr (.inl (wake_le_wakeR k hk)))
  · exact (Steps.refl _).then hp (.inr (.inl (.book .popResp)))
  · exact (Steps.refl _).then hp (.inr (.inl (.book (.rqRx _))))
  · cases hp
    exact (baseStartSend_fine _ _ _).mono fun k hk =>
      hk.elim (fun h => .inl (sinkSend_le send_le_write k h)) fun h => .inr (noise_le_noiseR k (table_le_noise k h))

theorem ExecRel.pollExec (hc : ExecRel R) (vid n : Nat) (h : R s a) : R s (pollExec a vid n) :=
  hc.trans h (hc.has.steps ((pollExec_steps a vid n).mono exec_le_execR))

theorem ExecRel.dropExec (hc : ExecRel R) (vid n : Nat) (h : R s a) : R s (dropExec a vid n) :=
  hc.trans h (hc.has.steps ((dropExec_steps a vid n).mono exec_le_execR))

end

section
variable {p : Obs → Bool}

theorem Flt.of_adds {s s' : St} (h : Adds (fun o => p o = false) s s') : Flt p s s' := by
  obtain ⟨l, hl, hq⟩ := h
  unfold Flt
  rw [hl, List.filter_append, List.filter_eq_nil_iff.mpr fun o ho => by simp [hq o ho], List.nil_append]

theorem Flt.steps {A : Act → Prop} (hle : ∀ k, A k → ObsK (fun o => p o = false) k) {s s' : St} (h : Steps A s s') :
    Flt p s s' :=
  .of_adds ((adds_has _).steps (h.mono hle))

theorem PollQuiet.pump (hp : PollQuiet p) : ∀ k, PumpFK k → ObsK (fun o => p o = false) k := by
  intro k hk
  cases hk with
  | tNext ep r => exact hp.tNext _ _
  | emit h =>
    cases h with
    | wake t => exact hp.wake _
    | viol ep w => exact hp.tViolation _ _
    | obs ho =>
      cases ho with
      | ready ep r => exact hp.tReady _ _
      | flush ep r => exact hp.tFlush _ _
      | send ep m ok => exact hp.tSend _ _ _
  | spin => exact hp.spin
  | panic w => exact fun t => hp.panic t w
  | _ => exact trivial

variable (hp : PollQuiet p)
include hp

theorem flt_removeRequest (s : St) (id : Nat) : Flt p s (removeRequest s id).1 :=
  Flt.steps (fun k hk => hp.pump k (read_le_pumpF k (noise_le_read k (table_le_noise k hk)))) (removeRequest_steps s id)
theorem flt_cancelRequest (s : St) (id : Nat) : Flt p s (cancelRequest s id).1 :=
  Flt.steps (fun k hk => hp.pump k (read_le_pumpF k (noise_le_read k hk))) (cancelRequest_steps s id)
theorem flt_pollExpired (s : St) (now : Nat) : Flt p s (pollExpired s now).1 :=
  Flt.steps (fun k hk => hp.pump k (read_le_pumpF k (expire_le_read k hk))) (pollExpired_steps s now)
theorem flt_startRequest (s : St) (now id d : Nat) (tr : Trace) (b : Nat) : Flt p s (startRequest s now id d tr b).1 :=
  Flt.steps (fun k hk => hp.pump k (read_le_pumpF k (start_le_read k hk))) (startRequest_steps s now id d tr b)

/-- **One poll of the request stream emits no observation of a poll-quiet class.** -/
theorem flt_requestsPollNext (now : Nat) : ∀ (fuel : Nat) (s : St), Flt p s (requestsPollNext fuel s now).1 :=
  fun fuel s => Flt.steps hp.pump (requestsPollNext_fine fuel s now)

end
section
variable {p : Obs → Bool}

theorem WakeQuiet.wakeK (hq : WakeQuiet p) : ∀ k, WakeK k → ObsK (fun o => p o = false) k := by
  intro k hk
  cases hk with
  | wake t => exact hq.wake t
  | _ => exact trivial

theorem WakeQuiet.abortK (hq : WakeQuiet p) : ∀ k, AbortK k → ObsK (fun o => p o = false) k := by
  intro k hk
  cases hk with
  | wake t => exact hq.wake t
  | _ => exact trivial

theorem SendQuiet.sendK (hq : SendQuiet p) : ∀ k, SendK k → ObsK (fun o => p o = false) k := by
  intro k hk
  cases hk with
  | wake t => exact hq.wake t
  | ret v r => exact hq.retExec v r
  | _ => exact trivial

theorem ExecQuiet.execK (hq : ExecQuiet p) : ∀ k, ExecK k → ObsK (fun o => p o = false) k := by
  intro k hk
  cases hk with
  | noop => exact hq.noop
  | handler r ev t => exact hq.handler r ev t
  | ret v r => exact hq.retExec v r
  | wake t => exact hq.wake t
  | _ => exact trivial

theorem fx_rqRelease (hq : WakeQuiet p) (s : St) : (rqRelease s).obs.filter p = s.obs.filter p :=
  Flt.steps hq.wakeK (rqRelease_steps s)

theorem fx_guardDrop (hq : WakeQuiet p) (s : St) (e : Exec) : (guardDrop s e).obs.filter p = s.obs.filter p :=
  Flt.steps (fun k hk => by
    cases hk with
    | wake t => exact hq.wake t
    | _ => exact trivial) (guardDrop_steps s e)

theorem fx_trySend (hq : SendQuiet p) (s : St) (e : Exec) (res : Res) (n : Nat) :
    (trySend s e res n).obs.filter p = s.obs.filter p :=
  Flt.steps hq.sendK (trySend_steps e res n (.refl s))

theorem fx_pollExec (hq : ExecQuiet p) (s : St) (vid n : Nat) : (pollExec s vid n).obs.filter p = s.obs.filter p :=
  Flt.steps hq.execK (pollExec_steps s vid n)

theorem fx_dropExec (hq : ExecQuiet p) (s : St) (vid n : Nat) : (dropExec s vid n).obs.filter p = s.obs.filter p :=
  Flt.steps hq.execK (dropExec_steps s vid n)

theorem fx_finishHandler (hq : WakeQuiet p) (s : St) (vid : Nat) (res : Res) :
    (finishHandler s vid res).obs.filter p = s.obs.filter p :=
  Flt.steps (fun k hk => by
    cases hk with
    | noop => exact hq.noop
    | wake t => exact hq.wake t
    | _ => exact trivial) (finishHandler_steps s vid res)

theorem fx_dropServer (hq : WakeQuiet p) (s : St) : (dropServer s).obs.filter p = s.obs.filter p :=
  Flt.steps (fun k hk => by
    cases hk with
    | noop => exact hq.noop
    | abort h => exact hq.abortK _ h
    | _ => exact trivial) (dropServer_steps s)

end

/-- the operations from outside (not a poll, a drop or the scripted return) -/
theorem applyOp_ext_closed {P : St → Prop} (hw : ∀ s, P s → P (wakeServer s))
    (hk : ∀ s ep m, P s → P (Server.emit s (.took ep m))) (hT : ∀ s t, P s → P { s with t := t })
    (hW : ∀ s b, P s → P { s with timers := { s.timers with waker := b } }) (c : Sys) (op : SOp)
    (hop : op ≠ .pollServer) (hdr : op ≠ .dropServer) (h1 : ∀ v, op ≠ .pollExec v) (h2 : ∀ v, op ≠ .dropExec v)
    (h3 : ∀ v res, op ≠ .finish v res) (h : P c.s) : P (applyOp c op).s := by
  have hl : ∀ r : SimT × Bool, P (liftT c.s r) := fun r => by
    unfold liftT
    exact rel_ite (R := fun _ => P) (s := c.s) _ (hw _ (hT _ _ h)) (hT _ _ h)
  cases op with
  | pollServer => exact absurd rfl hop
  | dropServer => exact absurd rfl hdr
  | pollExec r => exact absurd rfl (h1 r)
  | dropExec r => exact absurd rfl (h2 r)
  | finish r res => exact absurd rfl (h3 r res)
  | injectReq id d tr b => exact hl _
  | injectCancel id tr => exact hl _
  | injectErr => exact hl _
  | eof => exact hl _
  | setReady b => exact hl _
  | setFlush b => exact hl _
  | fault k => exact hT _ _ h
  | faultSkip n => exact hT _ _ h
  | selfWake b => exact hT _ _ h
  | take n =>
    show P (List.foldl (fun s m => Server.emit s (.took (tid s) m)) { c.s with t := (c.s.t.take n).1 } (c.s.t.take n).2)
    generalize (c.s.t.take n).2 = ms
    have h0 := hT c.s (c.s.t.take n).1 h
    revert h0
    generalize ({ c.s with t := (c.s.t.take n).1 } : St) = s1
    intro h0
    induction ms generalizing s1 with
    | nil => exact h0
    | cons m ms ih => exact ih _ (hk _ _ _ h0)
  | advance n =>
    show P (onAdvance c.s (c.now + n))
    unfold onAdvance
    split
    · split
      · exact hw _ (hW _ _ h)
      · exact h
    · exact h

theorem applyOp_closed {P : St → Prop} (hc : ExecClosed P) (hT : ∀ s t, P s → P { s with t := t })
    (hW : ∀ s b, P s → P { s with timers := { s.timers with waker := b } }) (c : Sys) (op : SOp)
    (hop : op ≠ .pollServer) (hdr : op ≠ .dropServer) (h : P c.s) : P (applyOp c op).s := by
  have hx := applyOp_ext_closed hc.wakeServer (fun s ep m => hc.emit s _ trivial) hT hW c op hop hdr
  cases op with
  | pollExec r => exact hc.pollExec _ _ _ h
  | dropExec r => exact hc.dropExec _ _ _ h
  | finish r res => exact hc.finishHandler _ _ _ h
  | _ => exact hx nofun nofun nofun h

section
variable {p : Obs → Bool}

theorem fx_applyOp_wake (hq : WakeQuiet p) (c : Sys) (op : SOp) (hop : op ≠ .pollServer)
    (h1 : ∀ v, op ≠ .pollExec v) (h2 : ∀ v, op ≠ .dropExec v) :
    (applyOp c op).s.obs.filter p = c.s.obs.filter p := by
  cases op with
  | pollServer => exact absurd rfl hop
  | pollExec r => exact absurd rfl (h1 r)
  | dropExec r => exact absurd rfl (h2 r)
  | dropServer => exact fx_dropServer hq _
  | finish r res => exact fx_finishHandler hq _ _ _
  | _ =>
    exact Flt.steps (fun k hk => by
        cases hk with
        | wake t => exact hq.wake t
        | took ep m => exact hq.took ep m
        | _ => exact trivial)
      (applyOp_ext c _ hop (fun h => by cases h) h1 h2 (fun _ _ h => by cases h))

theorem fx_applyOp (hq : ExecQuiet p) (c : Sys) (op : SOp) (hop : op ≠ .pollServer) :
    (applyOp c op).s.obs.filter p = c.s.obs.filter p := by
  cases op with
  | pollExec r => exact fx_pollExec hq _ _ _
  | dropExec r => exact fx_dropExec hq _ _ _
  | _ => exact fx_applyOp_wake hq.toWakeQuiet c _ hop (fun _ h => by cases h) (fun _ h => by cases h)

end
end TarpcModel.Server.ObsMon
