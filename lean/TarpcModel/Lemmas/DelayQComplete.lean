import TarpcModel.Lemmas.DelayQSlots
/-!
Two-sided invariant of the timer-wheel emulation `Prim/DelayQ.lean` (the "not late" direction; the
"never early" direction is `Sound` in `Lemmas/DelayQFacts.lean`).

* `Pos E e` (`PosN` in `Lemmas/DelayQSlots.lean`): entry `e` (deadline `w`, level `L`) is filed at a
  two-sided position relative to the wheel clock `E = wheelElapsed`: `L ≤ 5`,
  `E ≤ slotStart w L` and `slotStart w L < winEnd E L` — the slot lies in the level-`L` block
  containing `E` (`L < 5`), resp. within one rotation of the start of the top-level slot containing
  `E` (`L = 5`).  It makes the deadline `levelNextExpiration` computes for `e`'s slot equal to the
  start of that slot (`posN_exDeadline`).
* `WStrict q`: all wheel entries satisfy `Pos`, and at levels ≥ 1 the slot is strictly in the future
  of the wheel clock.  `WLoop q t`: the weaker loop invariant inside `wheelPoll` (right after a cascade
  the lowest occupied level may have entries in the slot starting exactly at the wheel clock).
* `IsNext q ex` / `nextExpiration_isNext`: `nextExpiration` returns the globally earliest slot.
* `pot`: potential `Σ level`; each cascade round lowers it, which bounds the rounds of `wheelPoll`
  and `pollIdx` by the fuel the model gives them (`wheelPoll_round`, `pollIdx_round`: one round of each loop, for every
  fuel; the `_complete`, `_fuel_irrel`, `_min` lemmas are inductions over them).
* `DelayOk q`: the registered `Sleep` (`delay`) exists when the wheel is non-empty and is not after
  any wheel entry.
* `Complete q` = `WStrict` + `DelayOk` + "the `expired` stack holds elapsed entries"; preserved by
  `insert` (within `whenOf < slotStart wheelElapsed 5 + 2^36`), `remove`, `pollExpired`.
-/
namespace TarpcModel.DelayQ

/-! ### `levelNextExpiration`, `nextExpiration` -/

theorem foldl_min_spec (f : DqEntry → Nat) (l : List DqEntry) (init : Nat) :
    l.foldl (fun acc e => if f e < acc then f e else acc) init ≤ init ∧
    (∀ e ∈ l, l.foldl (fun acc e => if f e < acc then f e else acc) init ≤ f e) ∧
    (l.foldl (fun acc e => if f e < acc then f e else acc) init = init ∨
      ∃ e ∈ l, l.foldl (fun acc e => if f e < acc then f e else acc) init = f e) := by
  induction l generalizing init with
  | nil => simp
  | cons x xs ih =>
    simp only [List.foldl_cons, List.mem_cons, forall_eq_or_imp]
    obtain ⟨h1, h2, h3⟩ := ih (if f x < init then f x else init)
    by_cases hc : f x < init
    · simp only [hc, if_true] at h1 h2 h3 ⊢
      refine ⟨by omega, ⟨h1, h2⟩, ?_⟩
      rcases h3 with h3 | ⟨e, he, h3⟩
      · exact .inr ⟨x, .inl rfl, h3⟩
      · exact .inr ⟨e, .inr he, h3⟩
    · simp only [hc, if_false] at h1 h2 h3 ⊢
      refine ⟨h1, ⟨by omega, h2⟩, ?_⟩
      rcases h3 with h3 | ⟨e, he, h3⟩
      · exact .inl h3
      · exact .inr ⟨e, .inr he, h3⟩

theorem levelNextExpiration_none_iff (q : DelayQ) (L : Nat) :
    levelNextExpiration q L = none ↔ ∀ e ∈ q.entries, e.level ≠ L := by
  unfold levelNextExpiration
  simp only
  split
  · next h =>
    simp only [List.isEmpty_iff, List.filter_eq_nil_iff, beq_iff_eq] at h
    simp only [true_iff]
    exact h
  · next h =>
    simp only [List.isEmpty_iff, List.filter_eq_nil_iff, beq_iff_eq] at h
    simp only [reduceCtorEq, false_iff]
    exact h

/-- the slot `levelNextExpiration` selects is the slot of an entry of that level with minimal rotation
distance from the slot of the wheel clock -/
theorem levelNextExpiration_some_min {q : DelayQ} {L : Nat} {ex : Expiration}
    (h : levelNextExpiration q L = some ex) :
    ∃ m ∈ q.entries, m.level = L ∧ ex.slot = slotFor m.whenMs L ∧
      ∀ e ∈ q.entries, e.level = L → dist q.wheelElapsed m.whenMs L ≤ dist q.wheelElapsed e.whenMs L := by
  unfold levelNextExpiration at h
  simp only at h
  split at h
  · cases h
  · next hne =>
    cases h
    simp only
    obtain ⟨h1, h2, h3⟩ := foldl_min_spec (fun e => dist q.wheelElapsed e.whenMs L)
      (q.entries.filter (·.level == L)) 64
    simp only [List.isEmpty_iff] at hne
    obtain ⟨x, hx⟩ := List.exists_mem_of_ne_nil _ hne
    have hx64 : dist q.wheelElapsed x.whenMs L < 64 := Nat.mod_lt _ (by decide)
    have hbx := h2 x hx
    rcases h3 with h3 | ⟨m, hm, h3⟩
    · exfalso; omega
    · have hm' := List.mem_filter.1 hm
      refine ⟨m, hm'.1, by simpa using hm'.2, ?_, ?_⟩
      · show (List.foldl (fun acc e => if dist q.wheelElapsed e.whenMs L < acc then dist q.wheelElapsed e.whenMs L else acc)
          64 (q.entries.filter (·.level == L)) + slotFor q.wheelElapsed L) % 64 = slotFor m.whenMs L
        rw [h3]
        unfold dist slotFor
        omega
      · intro e he hl
        rw [← h3]
        exact h2 e (List.mem_filter.2 ⟨he, by simpa using hl⟩)

theorem nextExpiration_none_iff (q : DelayQ) :
    nextExpiration q = none ↔ ∀ e ∈ q.entries, 6 ≤ e.level := by
  unfold nextExpiration
  simp only [List.findSome?_eq_none_iff, List.mem_range, levelNextExpiration_none_iff]
  constructor
  · intro h e he
    apply Classical.byContradiction
    intro hlt
    exact h e.level (by omega) e he rfl
  · intro h L hL e he heq
    have := h e he; omega

theorem nextExpiration_some_lowest {q : DelayQ} {ex : Expiration} (h : nextExpiration q = some ex) :
    ∃ L, L ≤ 5 ∧ levelNextExpiration q L = some ex ∧ ∀ e ∈ q.entries, e.level < L → False := by
  unfold nextExpiration at h
  rw [List.findSome?_eq_some_iff] at h
  obtain ⟨l1, L, l2, hl, hex, hnone⟩ := h
  have hLm : L ∈ List.range 6 := by rw [hl]; simp
  refine ⟨L, by have := List.mem_range.1 hLm; omega, hex, ?_⟩
  intro e he hlt
  -- every level below `L` precedes it in `range 6`
  have hmem : e.level ∈ l1 := by
    have hnd : (List.range 6).Nodup := List.nodup_range
    have hin : e.level ∈ List.range 6 := List.mem_range.2 (by have := List.mem_range.1 hLm; omega)
    rw [hl] at hin
    rcases List.mem_append.1 hin with h1 | h1
    · exact h1
    · exfalso
      rcases List.mem_cons.1 h1 with h1 | h1
      · omega
      · -- `e.level` after `L` in a sorted list: contradiction
        have hs : (List.range 6).Pairwise (· < ·) := List.pairwise_lt_range
        rw [hl] at hs
        have := (List.pairwise_append.1 hs).2.1
        have := (List.pairwise_cons.1 this).1 _ h1
        omega
  have := hnone _ hmem
  rw [levelNextExpiration_none_iff] at this
  exact this e he rfl

/-! ### the two-sided wheel invariant -/

/-- entry `e` is filed where the wheel clock `E` expects it -/
def Pos (E : Nat) (e : DqEntry) : Prop := PosN E e.whenMs e.level

/-- start (ms) of the slot in which `e` is filed -/
def sst (e : DqEntry) : Nat := slotStart e.whenMs e.level

/-- the entry is filed in slot `s` of level `L` -/
def atSlot (L s : Nat) (e : DqEntry) : Bool := e.level == L && slotFor e.whenMs L == s

theorem atSlot_iff {L s : Nat} {e : DqEntry} : atSlot L s e = true ↔ e.level = L ∧ slotFor e.whenMs L = s := by
  simp [atSlot]

/-- Wheel invariant at the API boundary: every entry is at a two-sided position, and entries of the
levels ≥ 1 are filed in a slot strictly in the future of the wheel clock. -/
structure WStrict (q : DelayQ) : Prop where
  pos : ∀ e ∈ q.entries, Pos q.wheelElapsed e
  str : ∀ e ∈ q.entries, 1 ≤ e.level → q.wheelElapsed < sst e

/-- Loop invariant of `wheelPoll` at poll time `t` (ms): right after a cascade the entries of the
lowest occupied level may sit in the slot that starts exactly at the wheel clock. -/
structure WLoop (q : DelayQ) (t : Nat) : Prop where
  pos : ∀ e ∈ q.entries, Pos q.wheelElapsed e
  wstr : ∀ e ∈ q.entries, 1 ≤ e.level →
    q.wheelElapsed < sst e ∨ ((∀ y ∈ q.entries, e.level ≤ y.level) ∧ q.wheelElapsed ≤ t)

theorem WStrict.loop {q : DelayQ} (h : WStrict q) (t : Nat) : WLoop q t :=
  ⟨h.pos, fun e he hl => .inl (h.str e he hl)⟩

theorem sst_le (e : DqEntry) : sst e ≤ e.whenMs := slotStart_le _ _

/-- What `nextExpiration` returns on a well-formed wheel: the lowest occupied level, the occupied slot
of that level with the earliest start, and that start as deadline — which is strictly before the
slot of every entry filed elsewhere. -/
structure IsNext (q : DelayQ) (ex : Expiration) : Prop where
  lvl : ex.level ≤ 5
  lowest : ∀ y ∈ q.entries, ex.level ≤ y.level
  occ : ∃ m ∈ q.entries, atSlot ex.level ex.slot m = true
  inSlot : ∀ y ∈ q.entries, atSlot ex.level ex.slot y = true → sst y = ex.deadline
  other : ∀ y ∈ q.entries, atSlot ex.level ex.slot y = false → ex.deadline < sst y
  ge : q.wheelElapsed ≤ ex.deadline

theorem IsNext.le {q : DelayQ} {ex : Expiration} (hn : IsNext q ex) : ∀ y ∈ q.entries, ex.deadline ≤ sst y := by
  intro y hy
  cases hat : atSlot ex.level ex.slot y with
  | true => exact Nat.le_of_eq (hn.inSlot y hy hat).symm
  | false => exact Nat.le_of_lt (hn.other y hy hat)

theorem nextExpiration_isNext {q : DelayQ} {t : Nat} {ex : Expiration} (h : WLoop q t)
    (hex : nextExpiration q = some ex) : IsNext q ex := by
  obtain ⟨L, hL5, hlev, hlow⟩ := nextExpiration_some_lowest hex
  obtain ⟨hl, hs64, hdl⟩ := levelNextExpiration_some hlev
  obtain ⟨m, hm, hmL, hslot, hmin⟩ := levelNextExpiration_some_min hlev
  subst hl
  have hpm : PosN q.wheelElapsed m.whenMs ex.level := hmL ▸ h.pos m hm
  have hD : ex.deadline = slotStart m.whenMs ex.level := by
    rw [hdl, hslot]; exact posN_exDeadline hpm
  have hlowest : ∀ y ∈ q.entries, ex.level ≤ y.level := by
    intro y hy
    apply Classical.byContradiction
    intro hlt
    exact hlow y hy (by omega)
  refine ⟨hL5, hlowest, ⟨m, hm, atSlot_iff.2 ⟨hmL, hslot.symm⟩⟩, ?_, ?_, ?_⟩
  · intro y hy hat
    obtain ⟨hyL, hys⟩ := atSlot_iff.1 hat
    have hpy : PosN q.wheelElapsed y.whenMs ex.level := hyL ▸ h.pos y hy
    rw [hD, sst, hyL]
    exact posN_same_slot hpy hpm (by rw [hys, hslot])
  · intro y hy hat
    have hpy : PosN q.wheelElapsed y.whenMs y.level := h.pos y hy
    by_cases hyL : y.level = ex.level
    · -- same level, other slot
      have hpy' : PosN q.wheelElapsed y.whenMs ex.level := hyL ▸ hpy
      have hle : slotStart m.whenMs ex.level ≤ slotStart y.whenMs ex.level :=
        posN_dist_le hpm hpy' (hmin y hy hyL)
      have hne : slotStart m.whenMs ex.level ≠ slotStart y.whenMs ex.level := by
        intro heq
        have := slotFor_eq_of_slotStart_eq heq
        have : atSlot ex.level ex.slot y = true := atSlot_iff.2 ⟨hyL, by rw [← this, hslot]⟩
        rw [hat] at this; cases this
      rw [hD, sst, hyL]; omega
    · -- a higher level: strictly in the future, hence after the whole block of the lower level
      have hlt : ex.level < y.level := by have := hlowest y hy; omega
      have hstr : q.wheelElapsed < sst y := by
        rcases h.wstr y hy (by omega) with h1 | ⟨h1, _⟩
        · exact h1
        · have := h1 m hm; omega
      have := posN_cross hpm hpy hlt hstr
      have hpos : 0 < 64 ^ ex.level := Nat.pow_pos (by decide)
      rw [hD, sst]; omega
  · rw [hD]; exact hpm.2.1

/-! ### `slotTop`, potential, `cascade` -/

theorem slotTop_fold_isSome (l : List DqEntry) (acc : Option DqEntry) (h : l ≠ [] ∨ acc.isSome) :
    (l.foldl (fun acc e => match acc with
      | none => some e
      | some a => if e.seq > a.seq then some e else some a) acc).isSome := by
  induction l generalizing acc with
  | nil => simpa using h
  | cons x xs ih =>
    simp only [List.foldl_cons]
    apply ih
    right
    cases acc with
    | none => rfl
    | some a => simp only; split <;> rfl

theorem slotTop_eq_filter (q : DelayQ) (L s : Nat) :
    slotTop q L s = (q.entries.filter (atSlot L s)).foldl
      (fun acc e => match acc with
        | none => some e
        | some a => if e.seq > a.seq then some e else some a) none := rfl

theorem slotTop_isSome {q : DelayQ} {L s : Nat} {m : DqEntry} (hm : m ∈ q.entries) (hat : atSlot L s m = true) :
    ∃ e, slotTop q L s = some e := by
  have : (slotTop q L s).isSome := by
    rw [slotTop_eq_filter]
    apply slotTop_fold_isSome
    left
    exact List.ne_nil_of_mem (List.mem_filter.2 ⟨hm, hat⟩)
  exact Option.isSome_iff_exists.1 this

theorem slotTop_at {q : DelayQ} {L s : Nat} {e : DqEntry} (h : slotTop q L s = some e) :
    e ∈ q.entries ∧ atSlot L s e = true := by
  obtain ⟨h1, h2, h3⟩ := slotTop_some h
  exact ⟨h1, atSlot_iff.2 ⟨h2, h3⟩⟩

/-- potential: the number of cascade steps the entries can still undergo -/
def potL (l : List DqEntry) : Nat := (l.map (·.level)).sum

def pot (q : DelayQ) : Nat := potL q.entries

theorem potL_le {l : List DqEntry} (h : ∀ e ∈ l, e.level ≤ 5) : potL l ≤ 5 * l.length := by
  induction l with
  | nil => simp [potL]
  | cons x xs ih =>
    have := ih (fun e he => h e (List.mem_cons_of_mem _ he))
    have := h x List.mem_cons_self
    simp only [potL, List.map_cons, List.sum_cons, List.length_cons] at *
    omega

theorem potL_filter_le (p : DqEntry → Bool) (l : List DqEntry) : potL (l.filter p) ≤ potL l := by
  induction l with
  | nil => simp [potL]
  | cons x xs ih =>
    simp only [List.filter_cons]
    split <;> simp only [potL, List.map_cons, List.sum_cons] at * <;> omega

theorem potL_filter_key {l : List DqEntry} {e : DqEntry} (he : e ∈ l) :
    potL (l.filter (·.key != e.key)) + e.level ≤ potL l := by
  induction l with
  | nil => cases he
  | cons x xs ih =>
    rcases List.mem_cons.1 he with rfl | he
    · have := potL_filter_le (·.key != e.key) xs
      simp only [List.filter_cons, bne_self_eq_false, Bool.false_eq_true, if_false]
      simp only [potL, List.map_cons, List.sum_cons] at *
      omega
    · have := ih he
      simp only [List.filter_cons]
      split <;> simp only [potL, List.map_cons, List.sum_cons] at * <;> omega

theorem pot_bump {q : DelayQ} {e : DqEntry} (he : e ∈ q.entries) (hl : 1 ≤ e.level) :
    pot (bump q e (e.level - 1)) + 1 ≤ pot q := by
  have := potL_filter_key he
  simp only [pot, bump, potL, List.map_append, List.sum_append, List.map_cons, List.map_nil, List.sum_cons,
    List.sum_nil] at *
  omega

theorem pot_pop (q : DelayQ) (e : DqEntry) : pot (pop q e) ≤ pot q := potL_filter_le _ _

/-- number of entries filed in slot `(L, s)` -/
def cnt (q : DelayQ) (L s : Nat) : Nat := (q.entries.filter (atSlot L s)).length

theorem cnt_le_len (q : DelayQ) (L s : Nat) : cnt q L s ≤ q.entries.length := List.length_filter_le _ _

theorem cnt_eq_zero {q : DelayQ} {L s : Nat} (h : cnt q L s = 0) : ∀ x ∈ q.entries, atSlot L s x = false := by
  intro x hx
  have := List.eq_nil_of_length_eq_zero h
  rw [List.filter_eq_nil_iff] at this
  simpa using this x hx

theorem cnt_bump {q : DelayQ} {L s : Nat} {e : DqEntry} (he : e ∈ q.entries) (hat : atSlot L s e = true)
    (hl : 1 ≤ L) : cnt (bump q e (L - 1)) L s + 1 ≤ cnt q L s := by
  have hnew : atSlot L s { e with level := L - 1, seq := q.seqCtr } = false := by
    have : (L - 1 == L) = false := by simp; omega
    simp [atSlot, this]
  have hlt : ((q.entries.filter (atSlot L s)).filter (·.key != e.key)).length <
      (q.entries.filter (atSlot L s)).length :=
    length_filter_lt (List.mem_filter.2 ⟨he, hat⟩) rfl
  simp only [cnt, bump, List.filter_append, List.length_append, List.filter_cons, hnew, List.filter_nil,
    Bool.false_eq_true, if_false, List.length_nil, Nat.add_zero]
  rw [List.filter_filter] at hlt ⊢
  have : (q.entries.filter (fun a => atSlot L s a && (a.key != e.key))).length =
      (q.entries.filter (fun a => (a.key != e.key) && atSlot L s a)).length := by
    congr 1; apply List.filter_congr; intro x _; exact Bool.and_comm _ _
  omega

/-- a cascade with enough fuel empties the slot -/
theorem cascade_clears (L s : Nat) (hl : 1 ≤ L) : ∀ (fuel : Nat) (q : DelayQ), cnt q L s ≤ fuel →
    cnt (cascade fuel q L s) L s = 0
  | 0, q, h => by simpa [cascade] using h
  | fuel + 1, q, h => by
    rw [cascade_succ]
    split
    · next hnone =>
      apply Classical.byContradiction
      intro hne
      have : (q.entries.filter (atSlot L s)) ≠ [] := by
        intro h0; apply hne; simp [cnt, h0]
      obtain ⟨m, hm⟩ := List.exists_mem_of_ne_nil _ this
      obtain ⟨hm1, hm2⟩ := List.mem_filter.1 hm
      obtain ⟨e, he⟩ := slotTop_isSome hm1 hm2
      rw [he] at hnone; cases hnone
    · next e he =>
      obtain ⟨he1, he2⟩ := slotTop_at he
      have := cnt_bump he1 he2 hl
      exact cascade_clears L s hl fuel _ (by omega)

theorem cascade_pot_le (L s : Nat) (hl : 1 ≤ L) : ∀ (fuel : Nat) (q : DelayQ), pot (cascade fuel q L s) ≤ pot q
  | 0, q => Nat.le_refl _
  | fuel + 1, q => by
    rw [cascade_succ]
    split
    · exact Nat.le_refl _
    · next e he =>
      obtain ⟨he1, he2⟩ := slotTop_at he
      have hlv : e.level = L := (atSlot_iff.1 he2).1
      have := pot_bump he1 (by omega)
      rw [hlv] at this
      have := cascade_pot_le L s hl fuel (bump q e (L - 1))
      omega

theorem cascade_pot_lt {L s : Nat} (hl : 1 ≤ L) {fuel : Nat} {q : DelayQ} {m : DqEntry} (hm : m ∈ q.entries)
    (hat : atSlot L s m = true) : pot (cascade (fuel + 1) q L s) + 1 ≤ pot q := by
  rw [cascade_succ]
  obtain ⟨e, he⟩ := slotTop_isSome hm hat
  rw [he]
  simp only
  obtain ⟨he1, he2⟩ := slotTop_at he
  have hlv : e.level = L := (atSlot_iff.1 he2).1
  have := pot_bump he1 (by omega)
  rw [hlv] at this
  have := cascade_pot_le L s hl fuel (bump q e (L - 1))
  omega

/-! ### `wheelPoll` -/

/-- `set_elapsed` -/
def advanceTo (q : DelayQ) (d : Nat) : DelayQ := { q with wheelElapsed := max q.wheelElapsed d }

@[simp] theorem advanceTo_entries (q : DelayQ) (d : Nat) : (advanceTo q d).entries = q.entries := rfl
@[simp] theorem advanceTo_expired (q : DelayQ) (d : Nat) : (advanceTo q d).expired = q.expired := rfl
@[simp] theorem advanceTo_elapsed (q : DelayQ) (d : Nat) :
    (advanceTo q d).wheelElapsed = max q.wheelElapsed d := rfl
@[simp] theorem advanceTo_pot (q : DelayQ) (d : Nat) : pot (advanceTo q d) = pot q := rfl

/-- `wheelPoll_succ` in `advanceTo` form: the equations of `wheelPoll_round` then close by rewriting -/
theorem wheelPoll_succ' (fuel : Nat) (q : DelayQ) (now : Nat) :
    wheelPoll (fuel + 1) q now =
      match nextExpiration q with
      | none => (advanceTo q now, none)
      | some ex =>
          if ex.deadline > now then (advanceTo q now, none)
          else if ex.level == 0 then
            match slotTop q 0 ex.slot with
            | some e => (pop q e, some e)
            | none => (q, none)
          else
            wheelPoll fuel (advanceTo (cascade (q.entries.length + 1) q ex.level ex.slot) ex.deadline) now :=
  rfl

/-- one cascade round keeps the loop invariant and uses up potential -/
theorem cascade_WLoop {q qc : DelayQ} {t : Nat} {ex : Expiration} (h : WLoop q t) (hn : IsNext q ex)
    (hl0 : ex.level ≠ 0) (hd : ex.deadline ≤ t)
    (hqc : qc = cascade (q.entries.length + 1) q ex.level ex.slot) :
    WLoop (advanceTo qc ex.deadline) t ∧ pot qc + 1 ≤ pot q := by
  have hl1 : 1 ≤ ex.level := by omega
  obtain ⟨f1, -, -⟩ := cascade_fields ex.level ex.slot (q.entries.length + 1) q
  have hent := cascade_entries ex.level ex.slot (q.entries.length + 1) q
  have hclr := cnt_eq_zero (cascade_clears ex.level ex.slot hl1 (q.entries.length + 1) q
    (Nat.le_trans (cnt_le_len _ _ _) (Nat.le_succ _)))
  rw [← hqc] at f1 hent hclr
  have hmax : max qc.wheelElapsed ex.deadline = ex.deadline := by
    rw [f1]; exact Nat.max_eq_right hn.ge
  -- the two kinds of entries after the cascade
  have hcase : ∀ x ∈ qc.entries,
      (x ∈ q.entries ∧ ex.deadline < sst x) ∨
      (x.level = ex.level - 1 ∧ Pos ex.deadline x) := by
    intro x hx
    rcases hent x hx with hold | ⟨hlv, e, he, hel, hes, hw⟩
    · exact .inl ⟨hold, hn.other x hold (hclr x hx)⟩
    · right
      refine ⟨hlv, ?_⟩
      have hsst : sst e = ex.deadline := hn.inSlot e he (atSlot_iff.2 ⟨hel, hes⟩)
      have hp : PosN q.wheelElapsed e.whenMs ex.level := hel ▸ h.pos e he
      have := posN_cascade hp hl1
      unfold Pos
      rw [hlv, hw, ← hsst, sst, hel]
      exact this
  constructor
  · constructor
    · intro x hx
      show Pos (max qc.wheelElapsed ex.deadline) x
      rw [hmax]
      rcases hcase x hx with ⟨hold, hlt⟩ | ⟨_, hp⟩
      · exact posN_mono (h.pos x hold) hn.ge (Nat.le_of_lt hlt)
      · exact hp
    · intro x hx hl
      show max qc.wheelElapsed ex.deadline < sst x ∨
        ((∀ y ∈ qc.entries, x.level ≤ y.level) ∧ max qc.wheelElapsed ex.deadline ≤ t)
      rw [hmax]
      rcases hcase x hx with ⟨_, hlt⟩ | ⟨hlv, _⟩
      · exact .inl hlt
      · right
        refine ⟨?_, hd⟩
        intro y hy
        rcases hcase y hy with ⟨hold, _⟩ | ⟨hlv', _⟩
        · have := hn.lowest y hold; omega
        · omega
  · obtain ⟨m, hm, hat⟩ := hn.occ
    rw [hqc]
    exact cascade_pot_lt hl1 hm hat

/-- one round of `Wheel::poll`, whatever the (positive) fuel: nothing due / a level-0 entry comes out / a slot is cascaded -/
theorem wheelPoll_round {q : DelayQ} {t : Nat} (h : WLoop q t) :
    ((∀ fuel, wheelPoll (fuel + 1) q t = (advanceTo q t, none)) ∧ (∀ y ∈ q.entries, t < sst y) ∧
      ∀ ex, nextExpiration q = some ex → t < ex.deadline) ∨
    (∃ ex e, IsNext q ex ∧ ex.level = 0 ∧ ex.deadline ≤ t ∧ slotTop q 0 ex.slot = some e ∧
      ∀ fuel, wheelPoll (fuel + 1) q t = (pop q e, some e)) ∨
    (∃ ex, nextExpiration q = some ex ∧ ex.deadline ≤ t ∧
      (∀ fuel, wheelPoll (fuel + 1) q t =
        wheelPoll fuel (advanceTo (cascade (q.entries.length + 1) q ex.level ex.slot) ex.deadline) t) ∧
      WLoop (advanceTo (cascade (q.entries.length + 1) q ex.level ex.slot) ex.deadline) t ∧
      pot (cascade (q.entries.length + 1) q ex.level ex.slot) + 1 ≤ pot q) := by
  cases hex : nextExpiration q with
  | none =>
    have hemp : ∀ e ∈ q.entries, False := by
      intro e he
      have h1 := (nextExpiration_none_iff q).1 hex e he
      have h2 := (h.pos e he).1
      omega
    exact .inl ⟨fun fuel => by rw [wheelPoll_succ', hex], fun y hy => (hemp y hy).elim, fun _ h => by cases h⟩
  | some ex =>
    have hn := nextExpiration_isNext h hex
    by_cases hgt : ex.deadline > t
    · refine .inl ⟨fun fuel => by rw [wheelPoll_succ', hex]; exact if_pos hgt,
        fun y hy => Nat.lt_of_lt_of_le hgt (hn.le y hy), fun ex' h' => ?_⟩
      cases h'
      exact hgt
    · have hle : ex.deadline ≤ t := Nat.le_of_not_gt hgt
      by_cases hl0 : ex.level = 0
      · obtain ⟨m, hm, hat⟩ := hn.occ
        obtain ⟨e, he⟩ := slotTop_isSome hm (hl0 ▸ hat)
        refine .inr (.inl ⟨ex, e, hn, hl0, hle, he, fun fuel => ?_⟩)
        rw [wheelPoll_succ', hex]
        simp only [hgt, hl0, he, if_false, beq_self_eq_true, if_true]
      · obtain ⟨hloop, hpot⟩ := cascade_WLoop h hn hl0 hle rfl
        refine .inr (.inr ⟨ex, rfl, hle, fun fuel => ?_, hloop, hpot⟩)
        rw [wheelPoll_succ', hex]
        simp only [hgt, hl0, if_false, beq_iff_eq]

/-- What `Wheel::poll` at time `t` (ms) achieves on a well-formed wheel. -/
structure WPOut (q : DelayQ) (t : Nat) (q' : DelayQ) (r : Option DqEntry) : Prop where
  strict : WStrict q'
  potle : DelayQ.pot q' ≤ DelayQ.pot q
  mono : q.wheelElapsed ≤ q'.wheelElapsed
  none_lt : r = none → ∀ y ∈ q'.entries, t < sst y
  progress : r = none → ∀ ex, nextExpiration q = some ex → ex.deadline ≤ t → DelayQ.pot q' + 1 ≤ DelayQ.pot q

theorem wheelPoll_complete (t : Nat) : ∀ (fuel : Nat) (q : DelayQ), WLoop q t → pot q + 1 ≤ fuel →
    WPOut q t (wheelPoll fuel q t).1 (wheelPoll fuel q t).2 := by
  intro fuel
  induction fuel with
  | zero => intro q _ hf; omega
  | succ fuel ih =>
    intro q h hf
    rcases wheelPoll_round h with ⟨hw, hlt, hex⟩ | ⟨ex, e, hn, hl0, -, he, hw⟩ | ⟨ex, hex, -, hw, hloop, hpot⟩
    · rw [hw]
      refine ⟨⟨?_, ?_⟩, Nat.le_refl _, Nat.le_max_left _ _, fun _ => hlt,
        fun _ ex h' hle => absurd (hex ex h') (Nat.not_lt.2 hle)⟩
      · intro e he
        exact posN_mono (h.pos e he) (Nat.le_max_left _ _)
          (Nat.max_le.2 ⟨(h.pos e he).2.1, Nat.le_of_lt (hlt e he)⟩)
      · intro e he hl
        refine Nat.max_lt.2 ⟨?_, hlt e he⟩
        rcases h.wstr e he hl with h1 | ⟨_, h1⟩
        · exact h1
        · exact Nat.lt_of_le_of_lt h1 (hlt e he)
    · rw [hw]
      obtain ⟨m, hm, hat⟩ := hn.occ
      refine ⟨⟨?_, ?_⟩, pot_pop q e, Nat.le_refl _, fun hr => by simp at hr, fun hr => by simp at hr⟩
      · intro x hx
        exact h.pos x (List.mem_filter.1 hx).1
      · intro x hx hl
        rcases h.wstr x (List.mem_filter.1 hx).1 hl with h1 | ⟨h1, _⟩
        · exact h1
        · -- `x` would be of the lowest occupied level, which is 0
          have := h1 m hm
          have := (atSlot_iff.1 hat).1
          omega
    · rw [hw]
      have := ih _ hloop (by rw [advanceTo_pot]; omega)
      obtain ⟨f1, -, -⟩ := cascade_fields ex.level ex.slot (q.entries.length + 1) q
      have h1 := this.potle
      rw [advanceTo_pot] at h1
      refine ⟨this.strict, by omega, ?_, this.none_lt, fun _ _ _ _ => by omega⟩
      refine Nat.le_trans ?_ this.mono
      rw [advanceTo_elapsed, f1]
      exact Nat.le_max_left _ _

/-! ### `pollIdx` -/

theorem WStrict.of_eq {q q' : DelayQ} (h : WStrict q) (he : q'.entries = q.entries)
    (hE : q'.wheelElapsed = q.wheelElapsed) : WStrict q' :=
  ⟨by rw [he, hE]; exact h.pos, by rw [he, hE]; exact h.str⟩

theorem nextExpiration_congr {q q' : DelayQ} (he : q'.entries = q.entries)
    (hE : q'.wheelElapsed = q.wheelElapsed) : nextExpiration q' = nextExpiration q := by
  have : levelNextExpiration q' = levelNextExpiration q := by
    funext L
    simp only [levelNextExpiration, he, hE]
  simp only [nextExpiration, this]

theorem nextDeadline_congr {q q' : DelayQ} (he : q'.entries = q.entries)
    (hE : q'.wheelElapsed = q.wheelElapsed) : nextDeadline q' = nextDeadline q := by
  simp only [nextDeadline, nextExpiration_congr he hE]

/-- on a well-formed wheel the next deadline is not after any entry … -/
theorem nextDeadline_le {q : DelayQ} (h : WStrict q) {d : Nat} (hd : nextDeadline q = some d) :
    ∀ e ∈ q.entries, d ≤ e.whenMs := by
  unfold nextDeadline at hd
  cases hex : nextExpiration q with
  | none => rw [hex] at hd; cases hd
  | some ex =>
    rw [hex] at hd
    simp only [Option.map_some, Option.some.injEq] at hd
    intro e he
    exact hd ▸ Nat.le_trans ((nextExpiration_isNext (h.loop 0) hex).le e he) (sst_le e)

/-- … and exists unless the wheel is empty -/
theorem nextDeadline_none {q : DelayQ} (h : WStrict q) (hd : nextDeadline q = none) : q.entries = [] := by
  unfold nextDeadline at hd
  simp only [Option.map_eq_none_iff] at hd
  apply List.eq_nil_iff_forall_not_mem.2
  intro e he
  have h1 := (nextExpiration_none_iff q).1 hd e he
  have h2 := (h.pos e he).1
  omega

/-- bookkeeping of the registered `Sleep`: it exists when the wheel is non-empty and is not after any
wheel entry -/
structure DelayOk (q : DelayQ) : Prop where
  dsome : q.delay = none → q.entries = []
  dle : ∀ dl, q.delay = some dl → ∀ e ∈ q.entries, dl ≤ e.whenMs

theorem DelayOk.fresh {q : DelayQ} (h : WStrict q) (w : Bool) :
    DelayOk { q with delay := nextDeadline q, waker := w } :=
  ⟨fun hd => (nextDeadline_none h (show nextDeadline q = none from hd) : q.entries = []),
   fun _ hd => (nextDeadline_le h (show nextDeadline q = some _ from hd) : ∀ e ∈ q.entries, _ ≤ e.whenMs)⟩

/-- What the loop of `poll_idx` achieves. -/
structure PIOut (now : Nat) (q q' : DelayQ) (r : PollRes) : Prop where
  strict : WStrict q'
  dok : DelayOk q'
  mono : q.wheelElapsed ≤ q'.wheelElapsed
  pend : r = .pending → q'.waker = true ∧ ∃ dl, q'.delay = some dl ∧ now < dl * nsPerMs
  emp : r = .none → q'.entries = [] ∧ q'.waker = true ∧ q'.delay = Option.none

/-- fuel condition of the `poll_idx` loop: one round more than the potential, and one more if the
`Sleep` is not known to be the wheel's next deadline -/
def IdxFuel (q : DelayQ) (fuel : Nat) : Prop :=
  (q.delay.isSome ∧ nextDeadline q = q.delay ∧ pot q + 1 ≤ fuel) ∨ pot q + 2 ≤ fuel

theorem wheelFuel_ok {q : DelayQ} (h : WStrict q) : pot q + 1 ≤ wheelFuel q := by
  have := potL_le (l := q.entries) (fun e he => (h.pos e he).1)
  unfold wheelFuel pot
  omega

/-- if the round yields nothing, the `Sleep` was the wheel's next deadline, so the round used up potential -/
theorem idx_fuel_some {q : DelayQ} {f dl : Nat} (hs : WStrict q) (hf : IdxFuel q (f + 1)) (hdl : q.delay = some dl) :
    WPOut { q with wheelNow := dl } dl
      (wheelPoll (wheelFuel { q with wheelNow := dl }) { q with wheelNow := dl } dl).1
      (wheelPoll (wheelFuel { q with wheelNow := dl }) { q with wheelNow := dl } dl).2 ∧
    ((wheelPoll (wheelFuel { q with wheelNow := dl }) { q with wheelNow := dl } dl).2 = none →
      pot (wheelPoll (wheelFuel { q with wheelNow := dl }) { q with wheelNow := dl } dl).1 + 1 ≤ f) := by
  have hs1 : WStrict { q with wheelNow := dl } := hs.of_eq rfl rfl
  have hp := wheelPoll_complete dl (wheelFuel { q with wheelNow := dl }) { q with wheelNow := dl }
    (hs1.loop dl) (wheelFuel_ok hs1)
  refine ⟨hp, ?_⟩
  intro hnone
  have h1 := hp.potle
  have hpq : pot { q with wheelNow := dl } = pot q := rfl
  rcases hf with ⟨-, h3, h4⟩ | h4
  · rw [hdl, nextDeadline] at h3
    cases hex : nextExpiration q with
    | none => rw [hex] at h3; cases h3
    | some ex =>
      rw [hex] at h3
      simp only [Option.map_some, Option.some.injEq] at h3
      have := hp.progress hnone ex ((nextExpiration_congr rfl rfl).trans hex) (Nat.le_of_eq h3)
      omega
  · omega

theorem idx_fuel_none {q : DelayQ} {f : Nat} (hs : WStrict q) (hf : IdxFuel q (f + 1)) (hdl : q.delay = none) :
    WPOut q q.wheelNow (wheelPoll (wheelFuel q) q q.wheelNow).1 (wheelPoll (wheelFuel q) q q.wheelNow).2 ∧
    ((wheelPoll (wheelFuel q) q q.wheelNow).2 = none → pot (wheelPoll (wheelFuel q) q q.wheelNow).1 + 1 ≤ f) := by
  have hp := wheelPoll_complete q.wheelNow (wheelFuel q) q (hs.loop _) (wheelFuel_ok hs)
  refine ⟨hp, ?_⟩
  intro hnone
  have h1 := hp.potle
  rcases hf with ⟨h2, -⟩ | h4
  · rw [hdl] at h2; cases h2
  · omega

theorem IdxFuel.fresh {p1 : DelayQ} {fuel : Nat} (hsome : ¬ (nextDeadline p1).isNone = true)
    (hfuel : pot p1 + 1 ≤ fuel) : IdxFuel { p1 with delay := nextDeadline p1 } fuel :=
  .inl ⟨Option.isSome_iff_ne_none.2 (fun h : nextDeadline p1 = none => hsome (by rw [h]; rfl)),
    nextDeadline_congr rfl rfl, hfuel⟩

/-- how a round of `poll_idx` that polled the wheel (result `(p1, r)`) ends, for every fuel -/
inductive IdxEnd (now f : Nat) (q p1 : DelayQ) : Option DqEntry → Prop
  | yield (e : DqEntry)
      (h : ∀ fuel, pollIdx (fuel + 1) q now = ({ p1 with delay := nextDeadline p1 }, .expired e)) : IdxEnd now f q p1 (some e)
  | empty (hn : nextDeadline p1 = none)
      (h : ∀ fuel, pollIdx (fuel + 1) q now = ({ p1 with delay := nextDeadline p1, waker := true }, .none)) : IdxEnd now f q p1 none
  | again (hf : IdxFuel { p1 with delay := nextDeadline p1 } f)
      (h : ∀ fuel, pollIdx (fuel + 1) q now = pollIdx fuel { p1 with delay := nextDeadline p1 } now) : IdxEnd now f q p1 none

theorem idxEnd_of_tail {now f : Nat} {q p1 : DelayQ} {r : Option DqEntry}
    (ht : ∀ fuel, pollIdx (fuel + 1) q now = idxTail (fun q => pollIdx fuel q now) (p1, r))
    (hfuel : r = none → pot p1 + 1 ≤ f) : IdxEnd now f q p1 r := by
  cases r with
  | some e => exact .yield e ht
  | none =>
    by_cases hn : (nextDeadline p1).isNone = true
    · exact .empty (by simpa using hn) (fun fuel => by rw [ht]; simp only [idxTail, hn, if_true])
    · exact .again (IdxFuel.fresh hn (hfuel rfl)) (fun fuel => by rw [ht]; simp only [idxTail, hn]; rfl)

theorem pollIdx_round {q : DelayQ} {now f : Nat} (hs : WStrict q) (hf : IdxFuel q (f + 1)) :
    (∃ dl, q.delay = some dl ∧ now < dl * nsPerMs ∧ ∀ fuel, pollIdx (fuel + 1) q now = ({ q with waker := true }, .pending)) ∨
    ∃ q0 t, q0.entries = q.entries ∧ q0.wheelElapsed = q.wheelElapsed ∧
      WPOut q0 t (wheelPoll (wheelFuel q0) q0 t).1 (wheelPoll (wheelFuel q0) q0 t).2 ∧
      IdxEnd now f q (wheelPoll (wheelFuel q0) q0 t).1 (wheelPoll (wheelFuel q0) q0 t).2 := by
  cases hdl : q.delay with
  | some dl =>
    by_cases hlt : now < dl * nsPerMs
    · exact .inl ⟨dl, rfl, hlt, fun fuel => by rw [pollIdx_succ, hdl]; simp only [hlt, if_true]⟩
    · obtain ⟨hp, hfuel⟩ := idx_fuel_some hs hf hdl
      exact .inr ⟨{ q with wheelNow := dl }, dl, rfl, rfl, hp,
        idxEnd_of_tail (fun fuel => by rw [pollIdx_succ, hdl]; simp only [hlt, if_false]) hfuel⟩
  | none =>
    obtain ⟨hp, hfuel⟩ := idx_fuel_none hs hf hdl
    exact .inr ⟨q, q.wheelNow, rfl, rfl, hp, idxEnd_of_tail (fun fuel => by rw [pollIdx_succ, hdl]) hfuel⟩

theorem pollIdx_complete (now : Nat) : ∀ (fuel : Nat) (q : DelayQ), WStrict q → DelayOk q → IdxFuel q fuel →
    PIOut now q (pollIdx fuel q now).1 (pollIdx fuel q now).2 := by
  intro fuel
  induction fuel with
  | zero => intro q _ _ hf; rcases hf with ⟨_, _, h⟩ | h <;> omega
  | succ fuel ih =>
    intro q hs hd hf
    rcases pollIdx_round (now := now) hs hf with ⟨dl, hdl, hlt, h⟩ | ⟨q0, t, -, hE, hp, hend⟩
    · rw [h]
      exact ⟨hs.of_eq rfl rfl, ⟨hd.dsome, hd.dle⟩, Nat.le_refl _, fun _ => ⟨rfl, dl, hdl, hlt⟩, (fun h => by cases h)⟩
    · have hmono : q.wheelElapsed ≤ (wheelPoll (wheelFuel q0) q0 t).1.wheelElapsed := hE ▸ hp.mono
      generalize wheelPoll (wheelFuel q0) q0 t = p at hp hend hmono
      obtain ⟨p1, r⟩ := p
      simp only at hp hend hmono
      cases hend with
      | yield e h =>
        rw [h]
        exact ⟨hp.strict.of_eq rfl rfl, DelayOk.fresh hp.strict p1.waker, hmono, (fun h => by cases h), (fun h => by cases h)⟩
      | empty hn h =>
        rw [h]
        exact ⟨hp.strict.of_eq rfl rfl, DelayOk.fresh hp.strict true, hmono, (fun h => by cases h),
          fun _ => ⟨(nextDeadline_none hp.strict hn : p1.entries = []), rfl, hn⟩⟩
      | again hf' h =>
        rw [h]
        have := ih { p1 with delay := nextDeadline p1 } (hp.strict.of_eq rfl rfl) (DelayOk.fresh hp.strict p1.waker) hf'
        exact ⟨this.strict, this.dok, Nat.le_trans hmono this.mono, this.pend, this.emp⟩

/-! ### fuel adequacy: more fuel changes nothing -/

/-- `wheelPoll` never reaches its fuel-exhausted branch on a well-formed wheel: its result does not depend on
additional fuel.  (The number of rounds is at most the potential `pot q ≤ 5 · entries.length`, plus one.) -/
theorem wheelPoll_fuel_irrel (t : Nat) : ∀ (f : Nat) (q : DelayQ), WLoop q t → pot q + 1 ≤ f → ∀ k,
    wheelPoll (f + k) q t = wheelPoll f q t := by
  intro f
  induction f with
  | zero => intro q _ hf; omega
  | succ f ih =>
    intro q h hf k
    have hfk : f + 1 + k = (f + k) + 1 := by omega
    rw [hfk]
    rcases wheelPoll_round h with ⟨hw, -⟩ | ⟨ex, e, -, -, -, -, hw⟩ | ⟨ex, -, -, hw, hloop, hpot⟩
    · rw [hw, hw]
    · rw [hw, hw]
    · rw [hw, hw]
      exact ih _ hloop (by rw [advanceTo_pot]; omega) k

/-- the loop of `poll_idx` never reaches its fuel-exhausted branch on a well-formed queue -/
theorem pollIdx_fuel_irrel (now : Nat) : ∀ (f : Nat) (q : DelayQ), WStrict q → DelayOk q → IdxFuel q f → ∀ k,
    pollIdx (f + k) q now = pollIdx f q now := by
  intro f
  induction f with
  | zero => intro q _ _ hf; rcases hf with ⟨_, _, h⟩ | h <;> omega
  | succ f ih =>
    intro q hs hd hf k
    have hfk : f + 1 + k = (f + k) + 1 := by omega
    rw [hfk]
    rcases pollIdx_round (now := now) hs hf with ⟨-, -, -, h⟩ | ⟨q0, t, -, -, hp, hend⟩
    · rw [h, h]
    · generalize wheelPoll (wheelFuel q0) q0 t = p at hp hend
      obtain ⟨p1, r⟩ := p
      simp only at hp hend
      cases hend with
      | yield e h => rw [h, h]
      | empty hn h => rw [h, h]
      | again hf' h =>
        rw [h, h]
        exact ih { p1 with delay := nextDeadline p1 } (hp.strict.of_eq rfl rfl) (DelayOk.fresh hp.strict p1.waker) hf' k

/-! ### the invariant at the API boundary and its preservation -/

/-- **The two-sided wheel invariant.**  Every wheel entry is filed in the slot its deadline hashes to
within the window of its level (`WStrict`), the registered `Sleep` exists whenever the wheel is
non-empty and is not after any wheel entry (`DelayOk`), and the `expired` stack only holds entries
that the wheel clock has reached. -/
structure Complete (q : DelayQ) : Prop where
  strict : WStrict q
  dok : DelayOk q
  exp : ∀ e ∈ q.expired, e.whenMs ≤ q.wheelElapsed

theorem Complete_empty : Complete {} :=
  ⟨⟨by simp, by simp⟩, ⟨fun _ => rfl, by simp⟩, by simp⟩

theorem pollFuel_ok {q : DelayQ} (h : WStrict q) : IdxFuel q (wheelFuel q + 8) :=
  .inr (by have := wheelFuel_ok h; omega)

/-- `pollExpired` keeps the invariant; if it reports nothing, nothing is due and the `Sleep` is registered
for an instant that is in the future and not after any remaining deadline. -/
theorem pollExpired_complete {q : DelayQ} (now : Nat) (h : Complete q) :
    Complete (q.pollExpired now).1 ∧
    (q.wheelElapsed ≤ (q.pollExpired now).1.wheelElapsed) ∧
    ((q.pollExpired now).2 = .pending ∨ (q.pollExpired now).2 = .none →
      (q.pollExpired now).1.waker = true ∧ (q.pollExpired now).1.expired = [] ∧
      (((q.pollExpired now).1.entries = [] ∧ (q.pollExpired now).1.delay = none) ∨
       ∃ dl, (q.pollExpired now).1.delay = some dl ∧ now < dl * nsPerMs ∧
         ∀ e ∈ (q.pollExpired now).1.entries, dl ≤ e.whenMs)) := by
  cases hx : q.expired with
  | cons e rest =>
    rw [pollExpired_cons now hx]
    refine ⟨⟨h.strict.of_eq rfl rfl, ⟨h.dok.dsome, h.dok.dle⟩, ?_⟩, Nat.le_refl _, ?_⟩
    · intro x hx'
      exact h.exp x (by rw [hx]; exact List.mem_cons_of_mem _ hx')
    · intro hr; rcases hr with hr | hr <;> cases hr
  | nil =>
    rw [pollExpired_nil now hx]
    have hs0 : WStrict { q with waker := true } := h.strict.of_eq rfl rfl
    have hd0 : DelayOk { q with waker := true } := ⟨h.dok.dsome, h.dok.dle⟩
    have hout := pollIdx_complete now (wheelFuel { q with waker := true } + 8) { q with waker := true } hs0 hd0
      (pollFuel_ok hs0)
    have hfr := (pollIdx_expired (wheelFuel { q with waker := true } + 8) { q with waker := true } now).trans hx
    refine ⟨⟨hout.strict, hout.dok, by rw [hfr]; simp⟩, hout.mono, ?_⟩
    intro hr
    rcases hr with hr | hr
    · obtain ⟨hw, dl, hdl, hlt⟩ := hout.pend hr
      exact ⟨hw, hfr, .inr ⟨dl, hdl, hlt, hout.dok.dle dl hdl⟩⟩
    · obtain ⟨he, hw, hd⟩ := hout.emp hr
      exact ⟨hw, hfr, .inl ⟨he, hd⟩⟩

/-- what `insert` does to the registered `Sleep` -/
theorem insert_delay {q q' : DelayQ} {now to v k : Nat} {w : Bool}
    (h : q.insert now to v = (q', .ok k, w)) :
    (q'.delay = some (whenOf q now to) ∧
      (q.delay = none ∨ ∃ dl, q.delay = some dl ∧ max dl q.wheelElapsed > whenOf q now to)) ∨
    (q'.delay = q.delay ∧ ∃ dl, q.delay = some dl ∧ max dl q.wheelElapsed ≤ whenOf q now to) := by
  unfold insert at h
  simp only at h
  split at h
  · simp at h
  · cases hd : q.delay with
    | none =>
      simp only [hd, if_true] at h
      simp only [Prod.mk.injEq] at h
      obtain ⟨rfl, -, -⟩ := h
      exact .inl ⟨rfl, .inl rfl⟩
    | some dl =>
      simp only [hd] at h
      split at h
      · next hc =>
        simp only [Prod.mk.injEq] at h
        obtain ⟨rfl, -, -⟩ := h
        exact .inl ⟨rfl, .inr ⟨dl, rfl, by simpa [whenOf] using hc⟩⟩
      · next hc =>
        simp only [Prod.mk.injEq] at h
        obtain ⟨rfl, -, -⟩ := h
        refine .inr ⟨?_, dl, rfl, by simpa [whenOf] using hc⟩
        split <;> rfl

/-- `insert` keeps the invariant if the new deadline is less than one rotation after the start of the
top-level slot of the wheel clock. -/
theorem insert_complete {q q' : DelayQ} {now to v : Nat} {r : InsertRes} {w : Bool}
    (h : q.insert now to v = (q', r, w)) (hq : Complete q)
    (hr : whenOf q now to < slotStart q.wheelElapsed 5 + 64 ^ 6) : Complete q' := by
  rcases insert_cases h with ⟨_, h', _⟩ | ⟨hk, _, hE, _, hc⟩
  · exact h' ▸ hq
  · subst hk
    have hdel := insert_delay h
    have hWE : q.wheelElapsed ≤ whenOf q now to := Nat.le_max_right _ _
    -- the `Sleep` after the insert, given that the new entry (if filed in the wheel) has deadline `whenOf`
    have hdok : (∀ e ∈ q'.entries, e ∈ q.entries ∨ e.whenMs = whenOf q now to) → DelayOk q' := by
      intro hent
      rcases hdel with ⟨hd', hwhy⟩ | ⟨hd', dl, hdl, hle⟩
      · refine ⟨(fun hn => by rw [hd'] at hn; cases hn), ?_⟩
        intro dl' hdl' e he
        rw [hd'] at hdl'; cases hdl'
        rcases hent e he with hold | hnew
        · rcases hwhy with hnone | ⟨dl, hdl, hgt⟩
          · rw [hq.dok.dsome hnone] at hold; cases hold
          · have := hq.dok.dle dl hdl e hold
            have : whenOf q now to < dl := by
              rcases Nat.le_total dl q.wheelElapsed with h1 | h1
              · rw [Nat.max_eq_right h1] at hgt; omega
              · rw [Nat.max_eq_left h1] at hgt; exact hgt
            omega
        · omega
      · refine ⟨(fun hn => by rw [hd', hdl] at hn; cases hn), ?_⟩
        intro dl' hdl' e he
        rw [hd', hdl] at hdl'; cases hdl'
        rcases hent e he with hold | hnew
        · exact hq.dok.dle dl hdl e hold
        · have := Nat.le_max_left dl q.wheelElapsed
          omega
    rcases hc with ⟨e1, e2, hW⟩ | ⟨e1, e2, hW, _⟩
    · refine ⟨hq.strict.of_eq e1 hE, hdok (fun e he => .inl (e1 ▸ he)), ?_⟩
      rw [e2, hE]
      exact List.forall_mem_cons.2 ⟨hW, hq.exp⟩
    · have hnew := levelFor_posN hW hr
      refine ⟨⟨?_, ?_⟩, hdok ?_, by rw [e2, hE]; exact hq.exp⟩
      · rw [e1, hE]
        exact List.forall_mem_append.2 ⟨hq.strict.pos, List.forall_mem_singleton.2 hnew.1⟩
      · rw [e1, hE]
        exact List.forall_mem_append.2 ⟨hq.strict.str, List.forall_mem_singleton.2 hnew.2⟩
      · rw [e1]
        exact List.forall_mem_append.2 ⟨fun _ he => .inl he, List.forall_mem_singleton.2 (.inr rfl)⟩

/-- what `remove` does to the registered `Sleep` -/
theorem remove_delay {q q' : DelayQ} {k : Nat} {w : Bool} (h : q.remove k = some (q', w)) :
    q'.delay = q.delay ∨ q'.delay = nextDeadline q' := by
  unfold remove at h
  split at h
  · simp only [Option.some.injEq, Prod.mk.injEq] at h
    obtain ⟨rfl, -⟩ := h
    split
    · right; exact (nextDeadline_congr rfl rfl).symm
    · left; rfl
  · cases h

theorem remove_complete {q q' : DelayQ} {k : Nat} {w : Bool} (h : q.remove k = some (q', w))
    (hq : Complete q) : Complete q' := by
  obtain ⟨_, e1, e2, _, e4, _⟩ := remove_cases h
  have hs : WStrict q' := by
    constructor
    · rw [e1, e4]; intro e he; exact hq.strict.pos e (List.mem_filter.1 he).1
    · rw [e1, e4]; intro e he; exact hq.strict.str e (List.mem_filter.1 he).1
  refine ⟨hs, ?_, ?_⟩
  · rcases remove_delay h with hd | hd
    · constructor
      · intro hn
        rw [hd] at hn
        rw [e1, hq.dok.dsome hn]; rfl
      · intro dl hdl e he
        rw [hd] at hdl
        rw [e1] at he
        exact hq.dok.dle dl hdl e (List.mem_filter.1 he).1
    · exact ⟨fun hn => nextDeadline_none hs (hd ▸ hn), fun dl hdl => nextDeadline_le hs (hd ▸ hdl)⟩
  · rw [e2, e4]; intro e he; exact hq.exp e (List.mem_filter.1 he).1

end TarpcModel.DelayQ
