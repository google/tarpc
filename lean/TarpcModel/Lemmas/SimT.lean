import TarpcModel.Sim.Transport
/-
`SimT` alone, for both endpoints: what `useAfter` and the fault countdown (`fires`, `letThrough`) leave alone; the outcomes
of the owner's five calls and of `drain` (the common tail of flush and close), each branch with its condition (`…_out`);
what the write-side calls leave alone (`WKeep`) and what `poll_next` leaves alone (`pollNext_frame`); the parked sink
(`Blocked`), which both endpoints' parking invariants rest on.
-/
namespace TarpcModel.SimT

theorem useAfter_frame (t : SimT) (what : String) : ∃ v, t.useAfter what = { t with violations := v } := by
  unfold useAfter; split
  · exact ⟨_, rfl⟩
  · split <;> exact ⟨_, rfl⟩

@[simp] theorem useAfter_gotReady (t : SimT) (w : String) : (t.useAfter w).gotReady = t.gotReady := by
  obtain ⟨v, h⟩ := useAfter_frame t w; rw [h]
@[simp] theorem useAfter_buffered (t : SimT) (w : String) : (t.useAfter w).buffered = t.buffered := by
  obtain ⟨v, h⟩ := useAfter_frame t w; rw [h]
@[simp] theorem useAfter_inbound (t : SimT) (w : String) : (t.useAfter w).inbound = t.inbound := by
  obtain ⟨v, h⟩ := useAfter_frame t w; rw [h]
@[simp] theorem useAfter_closed (t : SimT) (w : String) : (t.useAfter w).closed = t.closed := by
  obtain ⟨v, h⟩ := useAfter_frame t w; rw [h]
@[simp] theorem useAfter_failed (t : SimT) (w : String) : (t.useAfter w).failed = t.failed := by
  obtain ⟨v, h⟩ := useAfter_frame t w; rw [h]
@[simp] theorem useAfter_writeWaker (t : SimT) (w : String) : (t.useAfter w).writeWaker = t.writeWaker := by
  obtain ⟨v, h⟩ := useAfter_frame t w; rw [h]
@[simp] theorem useAfter_faultReady (t : SimT) (w : String) : (t.useAfter w).faultReady = t.faultReady := by
  obtain ⟨v, h⟩ := useAfter_frame t w; rw [h]
@[simp] theorem useAfter_faultSend (t : SimT) (w : String) : (t.useAfter w).faultSend = t.faultSend := by
  obtain ⟨v, h⟩ := useAfter_frame t w; rw [h]
@[simp] theorem useAfter_faultFlush (t : SimT) (w : String) : (t.useAfter w).faultFlush = t.faultFlush := by
  obtain ⟨v, h⟩ := useAfter_frame t w; rw [h]
@[simp] theorem useAfter_faultClose (t : SimT) (w : String) : (t.useAfter w).faultClose = t.faultClose := by
  obtain ⟨v, h⟩ := useAfter_frame t w; rw [h]
@[simp] theorem useAfter_coupled (t : SimT) (w : String) : (t.useAfter w).coupled = t.coupled := by
  obtain ⟨v, h⟩ := useAfter_frame t w; rw [h]
@[simp] theorem useAfter_flushOpen (t : SimT) (w : String) : (t.useAfter w).flushOpen = t.flushOpen := by
  obtain ⟨v, h⟩ := useAfter_frame t w; rw [h]
@[simp] theorem useAfter_faultSkip (t : SimT) (w : String) : (t.useAfter w).faultSkip = t.faultSkip := by
  obtain ⟨v, h⟩ := useAfter_frame t w; rw [h]
@[simp] theorem useAfter_selfWake (t : SimT) (w : String) : (t.useAfter w).selfWake = t.selfWake := by
  obtain ⟨v, h⟩ := useAfter_frame t w; rw [h]
@[simp] theorem useAfter_sentLog (t : SimT) (w : String) : (t.useAfter w).sentLog = t.sentLog := by
  obtain ⟨v, h⟩ := useAfter_frame t w; rw [h]
@[simp] theorem useAfter_isReadyNow (t : SimT) (w : String) : (t.useAfter w).isReadyNow = t.isReadyNow := by
  obtain ⟨v, h⟩ := useAfter_frame t w; rw [h]; rfl

theorem useAfter_violations (t : SimT) (what : String) :
    (t.useAfter what).violations = t.violations ∨
      (t.failed = true ∧ (t.useAfter what).violations = (what ++ "-after-failure") :: t.violations) ∨
      (t.failed = false ∧ t.closed = true ∧ (t.useAfter what).violations = (what ++ "-after-close") :: t.violations) := by
  unfold useAfter violate
  by_cases hf : t.failed = true
  · simp [hf]
  · by_cases hc : t.closed = true <;> simp [hf, hc]

theorem letThrough_frame (t : SimT) (a : Bool) : ∃ k, t.letThrough a = { t with faultSkip := k } := by
  unfold letThrough; split
  · exact ⟨_, rfl⟩
  · exact ⟨_, rfl⟩

@[simp] theorem letThrough_cap (t : SimT) (a : Bool) : (t.letThrough a).cap = t.cap := by
  obtain ⟨k, h⟩ := letThrough_frame t a; rw [h]
@[simp] theorem letThrough_coupled (t : SimT) (a : Bool) : (t.letThrough a).coupled = t.coupled := by
  obtain ⟨k, h⟩ := letThrough_frame t a; rw [h]
@[simp] theorem letThrough_buffered (t : SimT) (a : Bool) : (t.letThrough a).buffered = t.buffered := by
  obtain ⟨k, h⟩ := letThrough_frame t a; rw [h]
@[simp] theorem letThrough_wire (t : SimT) (a : Bool) : (t.letThrough a).wire = t.wire := by
  obtain ⟨k, h⟩ := letThrough_frame t a; rw [h]
@[simp] theorem letThrough_sentLog (t : SimT) (a : Bool) : (t.letThrough a).sentLog = t.sentLog := by
  obtain ⟨k, h⟩ := letThrough_frame t a; rw [h]
@[simp] theorem letThrough_inbound (t : SimT) (a : Bool) : (t.letThrough a).inbound = t.inbound := by
  obtain ⟨k, h⟩ := letThrough_frame t a; rw [h]
@[simp] theorem letThrough_eof (t : SimT) (a : Bool) : (t.letThrough a).eof = t.eof := by
  obtain ⟨k, h⟩ := letThrough_frame t a; rw [h]
@[simp] theorem letThrough_readyOpen (t : SimT) (a : Bool) : (t.letThrough a).readyOpen = t.readyOpen := by
  obtain ⟨k, h⟩ := letThrough_frame t a; rw [h]
@[simp] theorem letThrough_flushOpen (t : SimT) (a : Bool) : (t.letThrough a).flushOpen = t.flushOpen := by
  obtain ⟨k, h⟩ := letThrough_frame t a; rw [h]
@[simp] theorem letThrough_faultReady (t : SimT) (a : Bool) : (t.letThrough a).faultReady = t.faultReady := by
  obtain ⟨k, h⟩ := letThrough_frame t a; rw [h]
@[simp] theorem letThrough_faultSend (t : SimT) (a : Bool) : (t.letThrough a).faultSend = t.faultSend := by
  obtain ⟨k, h⟩ := letThrough_frame t a; rw [h]
@[simp] theorem letThrough_faultFlush (t : SimT) (a : Bool) : (t.letThrough a).faultFlush = t.faultFlush := by
  obtain ⟨k, h⟩ := letThrough_frame t a; rw [h]
@[simp] theorem letThrough_faultClose (t : SimT) (a : Bool) : (t.letThrough a).faultClose = t.faultClose := by
  obtain ⟨k, h⟩ := letThrough_frame t a; rw [h]
@[simp] theorem letThrough_faultNext (t : SimT) (a : Bool) : (t.letThrough a).faultNext = t.faultNext := by
  obtain ⟨k, h⟩ := letThrough_frame t a; rw [h]
@[simp] theorem letThrough_selfWake (t : SimT) (a : Bool) : (t.letThrough a).selfWake = t.selfWake := by
  obtain ⟨k, h⟩ := letThrough_frame t a; rw [h]
@[simp] theorem letThrough_closed (t : SimT) (a : Bool) : (t.letThrough a).closed = t.closed := by
  obtain ⟨k, h⟩ := letThrough_frame t a; rw [h]
@[simp] theorem letThrough_failed (t : SimT) (a : Bool) : (t.letThrough a).failed = t.failed := by
  obtain ⟨k, h⟩ := letThrough_frame t a; rw [h]
@[simp] theorem letThrough_gotReady (t : SimT) (a : Bool) : (t.letThrough a).gotReady = t.gotReady := by
  obtain ⟨k, h⟩ := letThrough_frame t a; rw [h]
@[simp] theorem letThrough_readWaker (t : SimT) (a : Bool) : (t.letThrough a).readWaker = t.readWaker := by
  obtain ⟨k, h⟩ := letThrough_frame t a; rw [h]
@[simp] theorem letThrough_writeWaker (t : SimT) (a : Bool) : (t.letThrough a).writeWaker = t.writeWaker := by
  obtain ⟨k, h⟩ := letThrough_frame t a; rw [h]
@[simp] theorem letThrough_violations (t : SimT) (a : Bool) : (t.letThrough a).violations = t.violations := by
  obtain ⟨k, h⟩ := letThrough_frame t a; rw [h]
@[simp] theorem letThrough_isReadyNow (t : SimT) (a : Bool) : (t.letThrough a).isReadyNow = t.isReadyNow := by
  obtain ⟨k, h⟩ := letThrough_frame t a; rw [h]; rfl
@[simp] theorem letThrough_false (t : SimT) : t.letThrough false = t := rfl

theorem fires_false (t : SimT) : t.fires false = false := rfl

@[simp] theorem useAfter_fires (t : SimT) (w : String) (a : Bool) : (t.useAfter w).fires a = t.fires a := by
  unfold fires; rw [useAfter_faultSkip]

theorem pollReady_out (t : SimT) : ∃ v u, v = t.useAfter "ready" ∧ u = v.letThrough v.faultReady ∧
    ((v.fires v.faultReady = true ∧ t.pollReady = ({ v with faultReady := false, failed := true }, .err, false)) ∨
     (v.fires v.faultReady = false ∧ v.isReadyNow = true ∧ t.pollReady = ({ u with gotReady := true }, .ready, false)) ∨
     (v.fires v.faultReady = false ∧ v.isReadyNow = false ∧ t.pollReady = ({ u with writeWaker := true }, .pending, false))) := by
  refine ⟨_, _, rfl, rfl, ?_⟩
  unfold pollReady
  generalize t.useAfter "ready" = v
  cases hf : v.fires v.faultReady
  · cases hr : v.isReadyNow
    · right; right; simp [hf, hr]
    · right; left; simp [hf, hr]
  · left; simp [hf]

theorem startSend_out (t : SimT) (m : Msg) :
    ∃ u, u = (if (t.useAfter "send").gotReady then t.useAfter "send" else (t.useAfter "send").violate "send-without-ready") ∧
      ((u.fires u.faultSend = true ∧ t.startSend m = ({ u with faultSend := false, gotReady := false }, false)) ∨
       (u.fires u.faultSend = false ∧ t.startSend m =
          ({ u.letThrough u.faultSend with
               buffered := (u.letThrough u.faultSend).buffered ++ [m],
               sentLog := (u.letThrough u.faultSend).sentLog ++ [m], gotReady := false }, true))) := by
  refine ⟨_, rfl, ?_⟩
  unfold startSend; dsimp only
  generalize (if (t.useAfter "send").gotReady then t.useAfter "send"
    else (t.useAfter "send").violate "send-without-ready") = u
  cases hf : u.fires u.faultSend
  · right; simp
  · left; simp

theorem drain_out (t : SimT) : ∃ u, u = ({ t with wire := t.wire ++ t.buffered, buffered := [] } : SimT) ∧
    (((t.writeWaker && u.isReadyNow && t.selfWake) = true ∧ t.drain = ({ u with writeWaker := false }, true)) ∨
     ((t.writeWaker && u.isReadyNow && t.selfWake) = false ∧ t.drain = (u, false))) := by
  refine ⟨_, rfl, ?_⟩
  unfold drain; dsimp only
  cases h : (t.writeWaker && ({ t with wire := t.wire ++ t.buffered, buffered := [] } : SimT).isReadyNow && t.selfWake)
  · right; exact ⟨rfl, by simp⟩
  · left; exact ⟨rfl, by simp⟩

theorem pollFlush_out (t : SimT) : ∃ v u, v = t.useAfter "flush" ∧ u = v.letThrough v.faultFlush ∧
    ((v.fires v.faultFlush = true ∧ t.pollFlush = ({ v with faultFlush := false, failed := true }, .err, false)) ∨
     (v.fires v.faultFlush = false ∧ (u.coupled && !u.flushOpen && !u.buffered.isEmpty) = true ∧
        t.pollFlush = ({ u with writeWaker := true }, .pending, false)) ∨
     (v.fires v.faultFlush = false ∧ (u.coupled && !u.flushOpen && !u.buffered.isEmpty) = false ∧
        t.pollFlush = (u.drain.1, .ready, u.drain.2))) := by
  refine ⟨_, _, rfl, rfl, ?_⟩
  unfold pollFlush
  generalize t.useAfter "flush" = v
  cases hf : v.fires v.faultFlush
  · cases h2 : ((v.letThrough v.faultFlush).coupled && !(v.letThrough v.faultFlush).flushOpen && !(v.letThrough v.faultFlush).buffered.isEmpty)
    · right; right; simp_all
    · right; left; simp_all
  · left; simp [hf]

theorem pollClose_out (t : SimT) : ∃ v u, v = t.useAfter "close" ∧ u = v.letThrough v.faultClose ∧
    ((v.fires v.faultClose = true ∧ t.pollClose = ({ v with faultClose := false, failed := true }, .err, false)) ∨
     (v.fires v.faultClose = false ∧ (u.coupled && !u.flushOpen && !u.buffered.isEmpty) = true ∧
        t.pollClose = ({ u with writeWaker := true }, .pending, false)) ∨
     (v.fires v.faultClose = false ∧ (u.coupled && !u.flushOpen && !u.buffered.isEmpty) = false ∧
        t.pollClose = ({ u.drain.1 with closed := true }, .ready, u.drain.2))) := by
  refine ⟨_, _, rfl, rfl, ?_⟩
  unfold pollClose
  generalize t.useAfter "close" = v
  cases hf : v.fires v.faultClose
  · cases h2 : ((v.letThrough v.faultClose).coupled && !(v.letThrough v.faultClose).flushOpen && !(v.letThrough v.faultClose).buffered.isEmpty)
    · right; right; simp_all
    · right; left; simp_all
  · left; simp [hf]

/-- (`u.inbound = t.inbound` follows from `u = t.letThrough _`; it is stated because every reader needs it) -/
theorem pollNext_out (t : SimT) :
    (t.fires t.faultNext = true ∧ t.pollNext = ({ t with faultNext := false }, .err)) ∨
    (t.fires t.faultNext = false ∧ ∃ u : SimT, u = t.letThrough t.faultNext ∧ u.inbound = t.inbound ∧
      t.pollNext = (match u.inbound with
        | .msg m :: rest => ({ u with inbound := rest }, .item m)
        | .err :: rest => ({ u with inbound := rest }, .err)
        | [] => if u.eof then (u, .eof) else ({ u with readWaker := true }, .pending))) := by
  unfold SimT.pollNext
  cases hf : t.fires t.faultNext
  · right; exact ⟨rfl, t.letThrough t.faultNext, rfl, letThrough_inbound t _, rfl⟩
  · left; exact ⟨rfl, by simp⟩

/-- the read side and the configuration of the medium: what no write-side call of the owner touches -/
structure WKeep (t t' : SimT) : Prop where
  cap : t'.cap = t.cap
  coupled : t'.coupled = t.coupled
  inbound : t'.inbound = t.inbound
  eof : t'.eof = t.eof
  readyOpen : t'.readyOpen = t.readyOpen
  flushOpen : t'.flushOpen = t.flushOpen
  selfWake : t'.selfWake = t.selfWake
  readWaker : t'.readWaker = t.readWaker
  faultNext : t'.faultNext = t.faultNext

theorem WKeep.refl (t : SimT) : WKeep t t := ⟨rfl, rfl, rfl, rfl, rfl, rfl, rfl, rfl, rfl⟩

theorem WKeep.trans {a b c : SimT} (h1 : WKeep a b) (h2 : WKeep b c) : WKeep a c :=
  ⟨h2.cap.trans h1.cap, h2.coupled.trans h1.coupled, h2.inbound.trans h1.inbound, h2.eof.trans h1.eof,
    h2.readyOpen.trans h1.readyOpen, h2.flushOpen.trans h1.flushOpen, h2.selfWake.trans h1.selfWake,
    h2.readWaker.trans h1.readWaker, h2.faultNext.trans h1.faultNext⟩

theorem wkeep_violate (t : SimT) (w : String) : WKeep t (t.violate w) := by constructor <;> rfl

theorem wkeep_useAfter (t : SimT) (w : String) : WKeep t (t.useAfter w) := by
  obtain ⟨v, h⟩ := useAfter_frame t w; rw [h]; constructor <;> rfl

theorem wkeep_letThrough (t : SimT) (a : Bool) : WKeep t (t.letThrough a) := by
  unfold letThrough; split <;> constructor <;> rfl

theorem wkeep_drain (t : SimT) : WKeep t t.drain.1 := by
  obtain ⟨_, rfl, ⟨_, h⟩ | ⟨_, h⟩⟩ := drain_out t <;> rw [h] <;> constructor <;> rfl

theorem wkeep_pre (t : SimT) (w : String) (a : Bool) : WKeep t ((t.useAfter w).letThrough a) :=
  (wkeep_useAfter t w).trans (wkeep_letThrough _ a)

theorem wkeep_pollReady (t : SimT) : WKeep t t.pollReady.1 := by
  have h0 := wkeep_useAfter t "ready"
  have h1 := wkeep_pre t "ready" (t.useAfter "ready").faultReady
  obtain ⟨_, _, rfl, rfl, h⟩ := pollReady_out t
  rcases h with ⟨_, he⟩ | ⟨_, _, he⟩ | ⟨_, _, he⟩ <;> rw [he]
  · exact h0.trans (by constructor <;> rfl)
  · exact h1.trans (by constructor <;> rfl)
  · exact h1.trans (by constructor <;> rfl)

theorem wkeep_startSend (t : SimT) (m : Msg) : WKeep t (t.startSend m).1 := by
  obtain ⟨u, hu, he⟩ := startSend_out t m
  have h0 : WKeep t u := by
    rw [hu]; split
    · exact wkeep_useAfter t "send"
    · exact (wkeep_useAfter t "send").trans (wkeep_violate _ _)
  rcases he with ⟨_, he⟩ | ⟨_, he⟩ <;> rw [he]
  · exact h0.trans (by constructor <;> rfl)
  · exact (h0.trans (wkeep_letThrough u u.faultSend)).trans (by constructor <;> rfl)

theorem wkeep_pollFlush (t : SimT) : WKeep t t.pollFlush.1 := by
  have h0 := wkeep_useAfter t "flush"
  have h1 := wkeep_pre t "flush" (t.useAfter "flush").faultFlush
  obtain ⟨_, _, rfl, rfl, h⟩ := pollFlush_out t
  rcases h with ⟨_, he⟩ | ⟨_, _, he⟩ | ⟨_, _, he⟩ <;> rw [he]
  · exact h0.trans (by constructor <;> rfl)
  · exact h1.trans (by constructor <;> rfl)
  · exact h1.trans (wkeep_drain _)

theorem wkeep_pollClose (t : SimT) : WKeep t t.pollClose.1 := by
  have h0 := wkeep_useAfter t "close"
  have h1 := wkeep_pre t "close" (t.useAfter "close").faultClose
  obtain ⟨_, _, rfl, rfl, h⟩ := pollClose_out t
  rcases h with ⟨_, he⟩ | ⟨_, _, he⟩ | ⟨_, _, he⟩ <;> rw [he]
  · exact h0.trans (by constructor <;> rfl)
  · exact h1.trans (by constructor <;> rfl)
  · exact (h1.trans (wkeep_drain _)).trans (by constructor <;> rfl)

/-- a fact about any other field is `obtain ⟨i, r, f, k, h⟩ := pollNext_frame t; rw [h]` -/
theorem pollNext_frame (t : SimT) : ∃ i r f k,
    t.pollNext.1 = { t with inbound := i, readWaker := r, faultNext := f, faultSkip := k } := by
  have hl := letThrough_frame t t.faultNext
  rcases pollNext_out t with ⟨_, he⟩ | ⟨_, u, hu, _, he⟩ <;> rw [he]
  · exact ⟨_, _, _, _, rfl⟩
  · obtain ⟨k, hk⟩ := hl
    rw [hu, hk]
    split
    · exact ⟨_, _, _, _, rfl⟩
    · exact ⟨_, _, _, _, rfl⟩
    · split
      · exact ⟨_, _, _, _, rfl⟩
      · exact ⟨_, _, _, _, rfl⟩

theorem pollNext_pending_reg (t : SimT) (h : t.pollNext.2 = .pending) :
    t.pollNext.1.inbound = [] ∧ t.pollNext.1.readWaker = true := by
  rcases pollNext_out t with ⟨_, he⟩ | ⟨_, u, _, _, he⟩ <;> rw [he] at h ⊢
  · cases h
  · revert h
    cases hi : u.inbound with
    | nil => dsimp only; split
             · nofun
             · exact fun _ => ⟨rfl, rfl⟩
    | cons a rest => cases a <;> nofun

/-! only `start_send` writes the log of accepted sends -/

@[simp] theorem drain_sentLog (t : SimT) : t.drain.1.sentLog = t.sentLog := by
  obtain ⟨_, rfl, ⟨_, h⟩ | ⟨_, h⟩⟩ := drain_out t <;> rw [h]

@[simp] theorem pollReady_sentLog (t : SimT) : t.pollReady.1.sentLog = t.sentLog := by
  obtain ⟨_, _, rfl, rfl, h⟩ := pollReady_out t
  rcases h with ⟨_, he⟩ | ⟨_, _, he⟩ | ⟨_, _, he⟩ <;> rw [he] <;> simp

@[simp] theorem pollFlush_sentLog (t : SimT) : t.pollFlush.1.sentLog = t.sentLog := by
  obtain ⟨_, _, rfl, rfl, h⟩ := pollFlush_out t
  rcases h with ⟨_, he⟩ | ⟨_, _, he⟩ | ⟨_, _, he⟩ <;> rw [he] <;> simp

@[simp] theorem pollClose_sentLog (t : SimT) : t.pollClose.1.sentLog = t.sentLog := by
  obtain ⟨_, _, rfl, rfl, h⟩ := pollClose_out t
  rcases h with ⟨_, he⟩ | ⟨_, _, he⟩ | ⟨_, _, he⟩ <;> rw [he] <;> simp

@[simp] theorem pollNext_sentLog (t : SimT) : t.pollNext.1.sentLog = t.sentLog := by
  obtain ⟨i, r, f, k, h⟩ := pollNext_frame t; rw [h]

theorem startSend_sentLog (t : SimT) (m : Msg) :
    (t.startSend m).1.sentLog = if (t.startSend m).2 then t.sentLog ++ [m] else t.sentLog := by
  obtain ⟨u, hu, h⟩ := startSend_out t m
  have hs : u.sentLog = t.sentLog := by
    rw [hu]; split
    · exact useAfter_sentLog t _
    · exact useAfter_sentLog t _
  rcases h with ⟨_, he⟩ | ⟨_, he⟩ <;> rw [he] <;> simp [hs]

theorem wakeIfReady_sentLog (t : SimT) : t.wakeIfReady.1.sentLog = t.sentLog := by
  unfold SimT.wakeIfReady; split <;> rfl

/-- not ready, waker registered, and the owner's own flush will not change that: coupled with the flush shut and something
buffered, or nothing buffered (an uncoupled sink closed to readiness with something buffered is left out: nobody parks on one) -/
def Blocked (t : SimT) : Prop :=
  t.isReadyNow = false ∧ t.writeWaker = true ∧
    ((t.coupled = true ∧ t.flushOpen = false ∧ t.buffered ≠ []) ∨ t.buffered = [])

theorem Blocked.of_fields {t t' : SimT} (hb : Blocked t) (hr : t'.isReadyNow = t.isReadyNow) (hw : t'.writeWaker = true)
    (hc : t'.coupled = t.coupled) (hf : t'.flushOpen = t.flushOpen) (hbuf : t'.buffered = t.buffered) : Blocked t' := by
  obtain ⟨h1, h2, h3⟩ := hb
  exact ⟨by rw [hr]; exact h1, hw, by rw [hc, hf, hbuf]; exact h3⟩

theorem useAfter_fields (t : SimT) (w : String) :
    (t.useAfter w).isReadyNow = t.isReadyNow ∧ (t.useAfter w).writeWaker = t.writeWaker ∧ (t.useAfter w).coupled = t.coupled ∧
    (t.useAfter w).flushOpen = t.flushOpen ∧ (t.useAfter w).buffered = t.buffered :=
  ⟨useAfter_isReadyNow t w, useAfter_writeWaker t w, useAfter_coupled t w, useAfter_flushOpen t w, useAfter_buffered t w⟩

theorem Blocked.useAfter {t : SimT} (hb : Blocked t) (w : String) : Blocked (t.useAfter w) := by
  obtain ⟨a, b, c, d, e⟩ := useAfter_fields t w
  exact hb.of_fields a (by rw [b]; exact hb.2.1) c d e

theorem Blocked.pre {t : SimT} (hb : Blocked t) (w : String) (a : Bool) : Blocked ((t.useAfter w).letThrough a) :=
  (hb.useAfter w).of_fields (letThrough_isReadyNow _ a) (by rw [letThrough_writeWaker]; exact (hb.useAfter w).2.1)
    (letThrough_coupled _ a) (letThrough_flushOpen _ a) (letThrough_buffered _ a)

/-- what is left of `Blocked` when the owner's own flush may make room -/
def WSink (t : SimT) : Prop := t.isReadyNow = false ∧ t.writeWaker = true

theorem Blocked.wsink {t : SimT} (h : Blocked t) : WSink t := ⟨h.1, h.2.1⟩

theorem pollReady_wsink {t : SimT} (h : WSink t) : WSink t.pollReady.1 ∧ t.pollReady.2.1 ≠ .ready := by
  obtain ⟨u1, u2, _, _, _⟩ := useAfter_fields t "ready"
  obtain ⟨_, _, rfl, rfl, hout⟩ := pollReady_out t
  rcases hout with ⟨_, he⟩ | ⟨_, hr, he⟩ | ⟨_, hr, he⟩ <;> rw [he]
  · exact ⟨⟨by show (t.useAfter "ready").isReadyNow = false; rw [u1]; exact h.1,
      by show (t.useAfter "ready").writeWaker = true; rw [u2]; exact h.2⟩, by simp⟩
  · rw [u1, h.1] at hr; cases hr
  · refine ⟨⟨?_, rfl⟩, by simp⟩
    show ((t.useAfter "ready").letThrough _).isReadyNow = false
    rw [letThrough_isReadyNow, u1]; exact h.1

theorem pollReady_of_blocked {t : SimT} (hb : Blocked t) : t.pollReady.2.1 ≠ .ready ∧ Blocked t.pollReady.1 := by
  refine ⟨(pollReady_wsink hb.wsink).2, ?_⟩
  have h0 := hb.useAfter "ready"
  have h1 := hb.pre "ready" (t.useAfter "ready").faultReady
  obtain ⟨_, _, rfl, rfl, h⟩ := pollReady_out t
  rcases h with ⟨_, he⟩ | ⟨_, hr, he⟩ | ⟨_, _, he⟩ <;> rw [he]
  · exact h0.of_fields rfl h0.2.1 rfl rfl rfl
  · rw [h0.1] at hr; cases hr
  · exact h1.of_fields rfl rfl rfl rfl rfl

theorem pollReady_pending_spec (t : SimT) (h : t.pollReady.2.1 = .pending) :
    t.pollReady.1.isReadyNow = false ∧ t.pollReady.1.writeWaker = true ∧ t.pollReady.1.coupled = t.coupled ∧
    t.pollReady.1.flushOpen = t.flushOpen ∧ t.pollReady.1.buffered = t.buffered := by
  have k := wkeep_pre t "ready" (t.useAfter "ready").faultReady
  obtain ⟨_, _, rfl, rfl, h⟩ := pollReady_out t
  rcases h with ⟨_, he⟩ | ⟨_, _, he⟩ | ⟨_, hr, he⟩ <;> rw [he] at h ⊢
  · cases h
  · cases h
  · exact ⟨by show ((t.useAfter "ready").letThrough _).isReadyNow = false; rw [letThrough_isReadyNow]; exact hr, rfl,
      k.coupled, k.flushOpen, by show ((t.useAfter "ready").letThrough _).buffered = _; rw [letThrough_buffered, useAfter_buffered]⟩

theorem drain_of_nil {t : SimT} (hb : t.buffered = []) (hr : t.isReadyNow = false) :
    t.drain.2 = false ∧ t.drain.1.isReadyNow = false ∧ t.drain.1.writeWaker = t.writeWaker ∧ t.drain.1.buffered = [] ∧
    t.drain.1.coupled = t.coupled ∧ t.drain.1.flushOpen = t.flushOpen := by
  have h0 : ({ t with wire := t.wire ++ t.buffered, buffered := [] } : SimT).isReadyNow = false := by
    rw [← hr]; unfold SimT.isReadyNow; simp [hb]
  obtain ⟨_, rfl, ⟨hc, _⟩ | ⟨_, hd⟩⟩ := drain_out t
  · rw [h0] at hc; simp at hc
  · rw [hd]; exact ⟨rfl, h0, rfl, rfl, rfl, rfl⟩

theorem blocked_buffered {t : SimT} (hb : Blocked t) (hc : (t.coupled && !t.flushOpen && !t.buffered.isEmpty) = false) :
    t.buffered = [] := by
  rcases hb.2.2 with ⟨a, b, c⟩ | c
  · rw [a, b] at hc; simp [c] at hc
  · exact c

/-- the tail `poll_flush` and `poll_close` share, on a blocked sink: nothing to drain, nobody woken -/
theorem Blocked.drain {u : SimT} (h : Blocked u) (hc : (u.coupled && !u.flushOpen && !u.buffered.isEmpty) = false) :
    Blocked u.drain.1 ∧ u.drain.2 = false := by
  obtain ⟨d1, d2, d3, d4, d5, d6⟩ := drain_of_nil (blocked_buffered h hc) h.1
  exact ⟨⟨d2, by rw [d3]; exact h.2.1, Or.inr d4⟩, d1⟩

theorem pollFlush_of_blocked {t : SimT} (hb : Blocked t) : Blocked t.pollFlush.1 ∧ t.pollFlush.2.2 = false := by
  have h0 := hb.useAfter "flush"
  have h1 := hb.pre "flush" (t.useAfter "flush").faultFlush
  obtain ⟨_, _, rfl, rfl, h⟩ := pollFlush_out t
  rcases h with ⟨_, he⟩ | ⟨_, _, he⟩ | ⟨_, hc, he⟩ <;> rw [he]
  · exact ⟨h0.of_fields rfl h0.2.1 rfl rfl rfl, rfl⟩
  · exact ⟨h1.of_fields rfl rfl rfl rfl rfl, rfl⟩
  · exact h1.drain hc

theorem pollClose_of_blocked {t : SimT} (hb : Blocked t) : Blocked t.pollClose.1 ∧ t.pollClose.2.2 = false := by
  have h0 := hb.useAfter "close"
  have h1 := hb.pre "close" (t.useAfter "close").faultClose
  obtain ⟨_, _, rfl, rfl, h⟩ := pollClose_out t
  rcases h with ⟨_, he⟩ | ⟨_, _, he⟩ | ⟨_, hc, he⟩ <;> rw [he]
  · exact ⟨h0.of_fields rfl h0.2.1 rfl rfl rfl, rfl⟩
  · exact ⟨h1.of_fields rfl rfl rfl rfl rfl, rfl⟩
  · exact ⟨(h1.drain hc).1.of_fields rfl (h1.drain hc).1.2.1 rfl rfl rfl, (h1.drain hc).2⟩

theorem pollFlush_pending_spec (t : SimT) (h : t.pollFlush.2.1 = .pending) :
    t.pollFlush.1.writeWaker = true ∧ t.pollFlush.1.coupled = true ∧ t.pollFlush.1.flushOpen = false ∧
    t.pollFlush.1.buffered ≠ [] ∧ t.pollFlush.1.isReadyNow = t.isReadyNow := by
  obtain ⟨_, _, rfl, rfl, h⟩ := pollFlush_out t
  rcases h with ⟨_, he⟩ | ⟨_, hc, he⟩ | ⟨_, _, he⟩ <;> rw [he] at h ⊢
  · cases h
  · simp only [Bool.and_eq_true, Bool.not_eq_true', List.isEmpty_eq_false_iff] at hc
    exact ⟨rfl, hc.1.1, hc.1.2, hc.2, by
      show ((t.useAfter "flush").letThrough _).isReadyNow = _; rw [letThrough_isReadyNow, useAfter_isReadyNow]⟩
  · cases h

theorem wakeIfReady_spec (t : SimT) (hw : t.wakeIfReady.2 = false) (hr : t.isReadyNow = false) (hk : t.writeWaker = true) :
    t.wakeIfReady.1.isReadyNow = false ∧ t.wakeIfReady.1.writeWaker = true := by
  unfold SimT.wakeIfReady at hw ⊢
  split
  · rename_i hc; rw [if_pos hc] at hw; cases hw
  · exact ⟨hr, hk⟩

theorem pollFlush_wsink {t : SimT} (h : WSink t) (hs : t.selfWake = true) :
    WSink t.pollFlush.1 ∨ t.pollFlush.2.2 = true := by
  obtain ⟨u1, u2, _, _, _⟩ := useAfter_fields t "flush"
  have hk := wkeep_pre t "flush" (t.useAfter "flush").faultFlush
  obtain ⟨_, _, rfl, rfl, hout⟩ := pollFlush_out t
  rcases hout with ⟨_, he⟩ | ⟨_, _, he⟩ | ⟨_, _, he⟩ <;> rw [he]
  · exact .inl ⟨by show (t.useAfter "flush").isReadyNow = false; rw [u1]; exact h.1,
      by show (t.useAfter "flush").writeWaker = true; rw [u2]; exact h.2⟩
  · refine .inl ⟨?_, rfl⟩
    show ((t.useAfter "flush").letThrough _).isReadyNow = false
    rw [letThrough_isReadyNow, u1]; exact h.1
  · have hw : ((t.useAfter "flush").letThrough (t.useAfter "flush").faultFlush).writeWaker = true := by
      rw [letThrough_writeWaker, u2]; exact h.2
    obtain ⟨_, rfl, ⟨_, hd⟩ | ⟨hc, hd⟩⟩ := drain_out ((t.useAfter "flush").letThrough (t.useAfter "flush").faultFlush) <;> rw [hd]
    · exact .inr rfl
    · rw [hw, hk.selfWake, hs, Bool.true_and, Bool.and_true] at hc
      exact .inl ⟨hc, hw⟩

theorem startSend_not_ready {t : SimT} (m : Msg) (h : t.isReadyNow = false) : (t.startSend m).1.isReadyNow = false := by
  obtain ⟨u, hu, hout⟩ := startSend_out t m
  have hv : u.isReadyNow = false := by
    rw [hu]; split
    · rw [useAfter_isReadyNow]; exact h
    · show (t.useAfter "send").isReadyNow = false; rw [useAfter_isReadyNow]; exact h
  rcases hout with ⟨_, he⟩ | ⟨_, he⟩ <;> rw [he]
  · exact hv
  · have hl : (u.letThrough u.faultSend).isReadyNow = false := by rw [letThrough_isReadyNow]; exact hv
    generalize u.letThrough u.faultSend = p at hl
    unfold SimT.isReadyNow at hl ⊢
    simp only [List.length_append, List.length_cons, List.length_nil] at hl ⊢
    split at hl
    · rename_i hc; rw [if_pos hc]; simp at hl ⊢; omega
    · rename_i hc; rw [if_neg hc]
      cases hro : p.readyOpen
      · simp
      · rw [hro] at hl; simp at hl ⊢; omega

theorem startSend_writeWaker (t : SimT) (m : Msg) : (t.startSend m).1.writeWaker = t.writeWaker := by
  obtain ⟨u, hu, hout⟩ := startSend_out t m
  have hv : u.writeWaker = t.writeWaker := by
    rw [hu]; split
    · exact useAfter_writeWaker t _
    · exact useAfter_writeWaker t _
  rcases hout with ⟨_, he⟩ | ⟨_, he⟩ <;> rw [he]
  · exact hv
  · show (u.letThrough u.faultSend).writeWaker = _
    rw [letThrough_writeWaker]; exact hv

/-- the owner never sent without a preceding `poll_ready → Ready` -/
def NoSWR (t : SimT) : Prop := "send-without-ready" ∉ t.violations

theorem NoSWR_useAfter {t : SimT} (h : NoSWR t) (w : String) (h1 : "send-without-ready" ≠ w ++ "-after-failure")
    (h2 : "send-without-ready" ≠ w ++ "-after-close") : NoSWR (t.useAfter w) := by
  unfold NoSWR at *
  rcases useAfter_violations t w with h' | ⟨_, h'⟩ | ⟨_, _, h'⟩ <;> rw [h'] <;> simp [h, h1, h2]

theorem NoSWR_letThrough {t : SimT} (h : NoSWR t) (a : Bool) : NoSWR (t.letThrough a) := by
  unfold NoSWR at *; simpa using h

theorem NoSWR_pollReady {t : SimT} (h : NoSWR t) : NoSWR t.pollReady.1 := by
  have := NoSWR_useAfter h "ready" (by decide) (by decide)
  obtain ⟨_, _, rfl, rfl, hout⟩ := pollReady_out t
  rcases hout with ⟨_, he⟩ | ⟨_, _, he⟩ | ⟨_, _, he⟩ <;> rw [he]
  · exact this
  · exact NoSWR_letThrough this _
  · exact NoSWR_letThrough this _

theorem pollReady_ready {t : SimT} (h : t.pollReady.2.1 = .ready) : t.pollReady.1.gotReady = true := by
  obtain ⟨_, _, rfl, rfl, hout⟩ := pollReady_out t
  rcases hout with ⟨_, he⟩ | ⟨_, _, he⟩ | ⟨_, _, he⟩ <;> rw [he] at h ⊢ <;> (try cases h) <;> (try rfl)

theorem pollReady_gotReady {t : SimT} (h : t.gotReady = true) : t.pollReady.1.gotReady = true := by
  obtain ⟨_, _, rfl, rfl, hout⟩ := pollReady_out t
  rcases hout with ⟨_, he⟩ | ⟨_, _, he⟩ | ⟨_, _, he⟩ <;> rw [he] <;> simp [h]

@[simp] theorem pollReady_inbound (t : SimT) : t.pollReady.1.inbound = t.inbound := (wkeep_pollReady t).inbound

theorem NoSWR_pollFlush {t : SimT} (h : NoSWR t) : NoSWR t.pollFlush.1 := by
  have := NoSWR_letThrough (NoSWR_useAfter h "flush" (by decide) (by decide)) (t.useAfter "flush").faultFlush
  obtain ⟨_, _, rfl, rfl, hout⟩ := pollFlush_out t
  rcases hout with ⟨_, he⟩ | ⟨_, _, he⟩ | ⟨_, _, he⟩ <;> rw [he]
  · exact NoSWR_useAfter h "flush" (by decide) (by decide)
  · exact this
  · simp only
    obtain ⟨_, rfl, ⟨_, hd⟩ | ⟨_, hd⟩⟩ := drain_out ((t.useAfter "flush").letThrough (t.useAfter "flush").faultFlush) <;> rw [hd] <;>
      exact this

@[simp] theorem pollFlush_gotReady (t : SimT) : t.pollFlush.1.gotReady = t.gotReady := by
  obtain ⟨_, _, rfl, rfl, h⟩ := pollFlush_out t
  rcases h with ⟨_, he⟩ | ⟨_, _, he⟩ | ⟨_, _, he⟩ <;> rw [he]
  · simp
  · simp
  · obtain ⟨_, rfl, ⟨_, hd⟩ | ⟨_, hd⟩⟩ := drain_out ((t.useAfter "flush").letThrough (t.useAfter "flush").faultFlush) <;> rw [hd] <;>
      simp

@[simp] theorem pollFlush_inbound (t : SimT) : t.pollFlush.1.inbound = t.inbound := (wkeep_pollFlush t).inbound

theorem pollFlush_pending {t : SimT} (h : t.pollFlush.2.1 = .pending) : t.pollFlush.1.writeWaker = true :=
  (pollFlush_pending_spec t h).1

@[simp] theorem drain_buffered (t : SimT) : t.drain.1.buffered = [] := by
  obtain ⟨_, rfl, ⟨_, h⟩ | ⟨_, h⟩⟩ := drain_out t <;> rw [h]

theorem pollFlush_ready {t : SimT} (h : t.pollFlush.2.1 = .ready) : t.pollFlush.1.buffered = [] := by
  obtain ⟨_, _, rfl, rfl, hout⟩ := pollFlush_out t
  rcases hout with ⟨_, he⟩ | ⟨_, _, he⟩ | ⟨_, _, he⟩ <;> rw [he] at h ⊢ <;> (try cases h)
  exact drain_buffered _

theorem NoSWR_startSend {t : SimT} (h : NoSWR t) (hg : t.gotReady = true) (m : Msg) : NoSWR (t.startSend m).1 := by
  obtain ⟨u, hu, hout⟩ := startSend_out t m
  rw [useAfter_gotReady, hg, if_pos rfl] at hu
  have := NoSWR_useAfter h "send" (by decide) (by decide)
  rw [← hu] at this
  rcases hout with ⟨_, he⟩ | ⟨_, he⟩ <;> rw [he]
  · exact this
  · exact NoSWR_letThrough this _

@[simp] theorem startSend_inbound (t : SimT) (m : Msg) : (t.startSend m).1.inbound = t.inbound :=
  (wkeep_startSend t m).inbound

/-- the write side of the transport: the fields the calls of the sink read or write; `pollNext` leaves them alone -/
def wside (t : SimT) :=
  (t.cap, t.coupled, t.buffered, t.wire, t.sentLog, t.readyOpen, t.flushOpen, t.faultReady, t.faultSend,
   t.faultFlush, t.faultClose, t.closed, t.failed, t.gotReady, t.writeWaker, t.violations)

theorem wside_pollNext (t : SimT) : wside t.pollNext.1 = wside t := by
  obtain ⟨i, r, f, k, h⟩ := pollNext_frame t; rw [h]; rfl

theorem wside_gotReady {t t' : SimT} (h : wside t' = wside t) : t'.gotReady = t.gotReady := by
  simp only [wside, Prod.mk.injEq] at h; exact h.2.2.2.2.2.2.2.2.2.2.2.2.2.1

theorem wside_violations {t t' : SimT} (h : wside t' = wside t) : t'.violations = t.violations := by
  simp only [wside, Prod.mk.injEq] at h; exact h.2.2.2.2.2.2.2.2.2.2.2.2.2.2.2

theorem wside_buffered {t t' : SimT} (h : wside t' = wside t) : t'.buffered = t.buffered := by
  simp only [wside, Prod.mk.injEq] at h; exact h.2.2.1

theorem wside_writeWaker {t t' : SimT} (h : wside t' = wside t) : t'.writeWaker = t.writeWaker := by
  simp only [wside, Prod.mk.injEq] at h; exact h.2.2.2.2.2.2.2.2.2.2.2.2.2.2.1

theorem pollNext_inbound_le (t : SimT) : t.pollNext.1.inbound.length ≤ t.inbound.length := by
  rcases pollNext_out t with ⟨_, he⟩ | ⟨_, u, _, hi, he⟩ <;> rw [he]
  · simp
  · rw [← hi]
    repeat' split
    all_goals simp_all

theorem pollNext_inbound_lt {t : SimT} {m : Msg} (h : t.pollNext.2 = .item m) :
    t.pollNext.1.inbound.length < t.inbound.length := by
  rcases pollNext_out t with ⟨_, he⟩ | ⟨_, u, _, hi, he⟩ <;> rw [he] at h ⊢
  · cases h
  · rw [← hi]
    repeat' split at h
    all_goals simp_all

end TarpcModel.SimT
