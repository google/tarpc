import TarpcModel.Lemmas.DelayQFacts
/-!
Slot arithmetic for the two-sided invariant of the timer-wheel emulation `Prim/DelayQ.lean`, from two facts about the
window of a level (`winEnd_eq_mul`, `winEnd_lt5`).
-/
namespace TarpcModel.DelayQ

/-! ### arithmetic of slots -/

/-- start (ms) of the level-`L` slot that contains `w` -/
def slotStart (w L : Nat) : Nat := w - w % 64 ^ L

/-- end of the window in which level-`L` entries live when the wheel clock is `E`: the end of the
level-`L` block containing `E` for `L < 5`; for the top level one full rotation after the start of
the slot containing `E`. -/
def winEnd (E L : Nat) : Nat :=
  if L = 5 then (E - E % 64 ^ 5) + 64 ^ 6 else (E - E % 64 ^ (L + 1)) + 64 ^ (L + 1)

/-- two-sided position invariant of an entry with deadline `w` at level `L`, wheel clock `E` (`Pos` is the same of an entry) -/
def PosN (E w L : Nat) : Prop := L ≤ 5 ∧ E ≤ slotStart w L ∧ slotStart w L < winEnd E L

theorem pow64_pos (L : Nat) : 0 < 64 ^ L := Nat.pow_pos (by decide)

theorem slotStart_eq (w L : Nat) : slotStart w L = 64 ^ L * (w / 64 ^ L) :=
  Nat.mul_div_self_eq_mod_sub_self.symm

theorem slotStart_le (w L : Nat) : slotStart w L ≤ w := Nat.sub_le _ _

theorem lt_slotStart_add (w L : Nat) : w < slotStart w L + 64 ^ L := by
  rw [slotStart_eq, ← Nat.mul_succ]
  exact Nat.lt_mul_div_succ w (pow64_pos L)

theorem slotStart_succ_le (w L : Nat) : slotStart w (L + 1) ≤ slotStart w L := by
  have : w % 64 ^ L ≤ w % 64 ^ (L + 1) := by
    rw [← Nat.mod_mul_right_mod w (64 ^ L) 64, ← Nat.pow_succ]
    exact Nat.mod_le _ _
  unfold slotStart
  omega

theorem winEnd_lt5 {L : Nat} (h : L < 5) (E : Nat) : winEnd E L = 64 ^ (L + 1) * (E / 64 ^ (L + 1) + 1) := by
  rw [winEnd, if_neg (by omega), ← Nat.mul_div_self_eq_mod_sub_self, Nat.mul_succ]

theorem winEnd_eq_mul (E L : Nat) : ∃ k, winEnd E L = 64 ^ L * k ∧ k ≤ E / 64 ^ L + 64 := by
  unfold winEnd
  split
  · next h =>
    subst h
    exact ⟨E / 64 ^ 5 + 64, by rw [← Nat.mul_div_self_eq_mod_sub_self, Nat.mul_add, ← Nat.pow_succ], Nat.le_refl _⟩
  · refine ⟨64 * (E / 64 ^ (L + 1) + 1), ?_, ?_⟩
    · rw [← Nat.mul_div_self_eq_mod_sub_self, ← Nat.mul_assoc, ← Nat.pow_succ, Nat.mul_succ]
    · rw [Nat.pow_succ, ← Nat.div_div_eq_div_mul]
      omega

theorem winEnd_mono {E E' : Nat} (h : E ≤ E') (L : Nat) : winEnd E L ≤ winEnd E' L := by
  have hm : ∀ c, E - E % c ≤ E' - E' % c := fun c => by
    rw [← Nat.mul_div_self_eq_mod_sub_self, ← Nat.mul_div_self_eq_mod_sub_self]
    exact Nat.mul_le_mul_left _ (Nat.div_le_div_right h)
  unfold winEnd
  split
  · exact Nat.add_le_add_right (hm _) _
  · exact Nat.add_le_add_right (hm _) _

theorem posN_window {E w L : Nat} (h : PosN E w L) : E / 64 ^ L ≤ w / 64 ^ L ∧ w / 64 ^ L < E / 64 ^ L + 64 := by
  obtain ⟨-, hlo, hhi⟩ := h
  obtain ⟨k, hk, hk'⟩ := winEnd_eq_mul E L
  rw [hk, slotStart_eq] at hhi
  exact ⟨Nat.div_le_div_right (Nat.le_trans hlo (slotStart_le w L)),
    Nat.lt_of_lt_of_le (Nat.lt_of_mul_lt_mul_left hhi) hk'⟩

theorem posN_end {E w L : Nat} (h : PosN E w L) : slotStart w L + 64 ^ L ≤ winEnd E L := by
  obtain ⟨k, hk, -⟩ := winEnd_eq_mul E L
  have := h.2.2
  rw [hk, slotStart_eq] at this ⊢
  exact Nat.mul_succ .. ▸ Nat.mul_le_mul_left _ (Nat.lt_of_mul_lt_mul_left this)

/-- the deadline the wheel computes for the slot of a well-placed entry is the start of that slot -/
theorem posN_exDeadline {E w L : Nat} (h : PosN E w L) :
    exDeadline (64 ^ L) E (slotFor w L) = slotStart w L := by
  obtain ⟨k, hk, hk'⟩ := winEnd_eq_mul E L
  obtain ⟨-, hlo, hhi⟩ := h
  rw [slotStart_eq] at hlo hhi ⊢
  refine exDeadline_of_window (pow64_pos L) hlo (Nat.lt_of_lt_of_le hhi ?_)
  calc winEnd E L = 64 ^ L * k := hk
    _ ≤ 64 ^ L * (E / 64 ^ L + 64) := Nat.mul_le_mul_left _ hk'
    _ = 64 ^ L * (E / 64 ^ L) + 64 * 64 ^ L := by rw [Nat.mul_add, Nat.mul_comm _ 64]
    _ ≤ E + 64 * 64 ^ L := Nat.add_le_add_right (Nat.mul_div_le E _) _

/-- rotation distance of `w`'s slot from the slot of the wheel clock, as `levelNextExpiration` computes it -/
def dist (E w L : Nat) : Nat := (slotFor w L + 64 - slotFor E L) % 64

theorem posN_slotStart_eq {E w L : Nat} (h : PosN E w L) :
    slotStart w L = slotStart E L + dist E w L * 64 ^ L := by
  obtain ⟨h1, h2⟩ := posN_window h
  have hd : dist E w L = w / 64 ^ L - E / 64 ^ L := by
    unfold dist slotFor slotRange
    omega
  rw [hd, slotStart_eq, slotStart_eq, Nat.mul_comm (_ - _), ← Nat.mul_add, Nat.add_sub_cancel' h1]

theorem posN_mono {E E' w L : Nat} (h : PosN E w L) (h1 : E ≤ E') (h2 : E' ≤ slotStart w L) : PosN E' w L :=
  ⟨h.1, h2, Nat.lt_of_lt_of_le h.2.2 (winEnd_mono h1 L)⟩

/-- entries of one level: smaller rotation distance means earlier slot -/
theorem posN_dist_le {E a b L : Nat} (ha : PosN E a L) (hb : PosN E b L) (h : dist E a L ≤ dist E b L) :
    slotStart a L ≤ slotStart b L := by
  rw [posN_slotStart_eq ha, posN_slotStart_eq hb]
  exact Nat.add_le_add_left (Nat.mul_le_mul_right _ h) _

theorem posN_same_slot {E a b L : Nat} (ha : PosN E a L) (hb : PosN E b L) (h : slotFor a L = slotFor b L) :
    slotStart a L = slotStart b L := by
  rw [posN_slotStart_eq ha, posN_slotStart_eq hb, dist, dist, h]

theorem slotFor_eq_of_slotStart_eq {a b L : Nat} (h : slotStart a L = slotStart b L) : slotFor a L = slotFor b L := by
  rw [slotStart_eq, slotStart_eq] at h
  unfold slotFor slotRange
  rw [Nat.eq_of_mul_eq_mul_left (pow64_pos L) h]

/-- `a`'s slot ends with the level-`La` block of `E` at the latest; `b`'s starts at a later multiple of `64 ^ (La + 1)` -/
theorem posN_cross {E a b La Lb : Nat} (ha : PosN E a La) (hb : PosN E b Lb) (hl : La < Lb)
    (hs : E < slotStart b Lb) : slotStart a La + 64 ^ La ≤ slotStart b Lb := by
  have h5 : La < 5 := Nat.lt_of_lt_of_le hl hb.1
  have hd : 64 ^ Lb = 64 ^ (La + 1) * 64 ^ (Lb - (La + 1)) := by
    rw [← Nat.pow_add]
    congr 1
    omega
  refine Nat.le_trans (posN_end ha) ?_
  rw [slotStart_eq, hd, Nat.mul_assoc] at hs ⊢
  rw [winEnd_lt5 h5]
  exact Nat.mul_le_mul_left _ (Nat.div_lt_of_lt_mul hs)

/-- the clock moves to the start of a level-`(L-1)` block, which ends after `w` -/
theorem posN_cascade {E w L : Nat} (h : PosN E w L) (h1 : 1 ≤ L) : PosN (slotStart w L) w (L - 1) := by
  obtain ⟨K, rfl⟩ : ∃ K, L = K + 1 := ⟨L - 1, by omega⟩
  have hK : K < 5 := h.1
  refine ⟨by omega, slotStart_succ_le w K, ?_⟩
  rw [Nat.add_sub_cancel, winEnd_lt5 hK, slotStart_eq w (K + 1), Nat.mul_div_cancel_left _ (pow64_pos _),
    Nat.mul_succ, ← slotStart_eq]
  exact Nat.lt_of_le_of_lt (slotStart_le w K) (lt_slotStart_add w (K + 1))

theorem posN_lt_winEnd {E w L : Nat} (h : PosN E w L) : w < winEnd E L :=
  Nat.lt_of_lt_of_le (lt_slotStart_add w L) (posN_end h)

theorem posN_blk {E w L : Nat} (h : PosN E w L) (h5 : L < 5) : w / 64 ^ (L + 1) ≤ E / 64 ^ (L + 1) := by
  have := posN_lt_winEnd h
  rw [winEnd_lt5 h5] at this
  exact Nat.le_of_lt_succ (Nat.div_lt_of_lt_mul this)

theorem posN_top {E w : Nat} (h : PosN E w 5) : w ≤ E + delayQMaxMs := by
  have h1 : w < E - E % 64 ^ 5 + 64 ^ 6 := posN_lt_winEnd h
  have h36 : 64 ^ 6 = delayQMaxMs + 1 := by decide
  omega

/-! ### `levelFor` puts a new entry at a two-sided position -/

/-- a new entry (`E < w`, within one rotation of the start of the top-level slot of `E`) is filed at a
two-sided position, strictly in the future of the wheel clock at levels ≥ 1 -/
theorem levelFor_posN {E w : Nat} (hw : E < w) (hr : w < (E - E % 64 ^ 5) + 64 ^ 6) :
    PosN E w (levelFor E w) ∧ (1 ≤ levelFor E w → E < slotStart w (levelFor E w)) := by
  have h1 := levelFor_le E w
  have h2 := @levelFor_eq_blk E w
  have h3 := @levelFor_ne E w
  generalize levelFor E w = L at h1 h2 h3 ⊢
  -- at levels ≥ 1 the slot indices of `E` and `w` differ, so the slot of `w` starts after `E`
  have hstr : 1 ≤ L → E < slotStart w L := by
    intro hl
    have : E / 64 ^ L < w / 64 ^ L :=
      Nat.lt_of_le_of_ne (Nat.div_le_div_right (Nat.le_of_lt hw)) (Ne.symm (h3 hl))
    rw [slotStart_eq]
    exact Nat.lt_of_lt_of_le (Nat.lt_mul_div_succ E (pow64_pos L)) (Nat.mul_le_mul_left _ this)
  refine ⟨⟨h1, ?_, Nat.lt_of_le_of_lt (slotStart_le w L) ?_⟩, hstr⟩
  · rcases Nat.eq_zero_or_pos L with rfl | hl
    · rw [slotStart, Nat.pow_zero, Nat.mod_one]
      exact Nat.le_of_lt hw
    · exact Nat.le_of_lt (hstr hl)
  · rcases Nat.lt_or_ge L 5 with h | h
    · rw [winEnd_lt5 h, ← h2 h]
      exact Nat.lt_mul_div_succ w (pow64_pos _)
    · obtain rfl : L = 5 := by omega
      exact hr

end TarpcModel.DelayQ
