import TarpcModel.Lemmas.ClientInv
/-!
# One poll of a call future, as a labelled step

`pollCall_out`: `pollCall s cid now` takes one step `PollOut cid X s s' X'` (`X`, `X'`: the record of call `cid` before and
after).  Each case gives its guard, the request channel afterwards as equations in the old state, and the new record, so an
invariant is preserved by one case analysis whose cases are record equations; `CallFr cid s s'` is what every case leaves
alone.  The compound functions of the call side have one outcome lemma each (`…_out`).

This is on `St`, beside the view-level transitions of `Lemmas/ClientPres.lean`: the invariants above (`CqI`, `WkI`, `AccA`)
read what `view` drops — `woken`, the wakers of the oneshot, the permit lists.
-/
namespace TarpcModel.Client

/-- the call ids are pairwise distinct -/
def CUniq (s : St) : Prop := (s.calls.map (·.cid)).Nodup

theorem pollCall_gone {s : St} {cid : Nat} (hg : getCall s cid = none) (now : Nat) : pollCall s cid now = emit s .noop := by
  unfold pollCall; rw [hg]

theorem CUniq.eq_of_getCall {s : St} (hu : CUniq s) {cid : Nat} {c0 c : Call} (hg : getCall s cid = some c0) (hc : c ∈ s.calls)
    (he : c.cid = cid) : c = c0 := by
  obtain ⟨hm, hcid⟩ := getCall_some hg
  exact eq_of_map_nodup (f := fun c : Call => c.cid) (show (s.calls.map (·.cid)).Nodup from hu) hc hm (by rw [he, hcid])

theorem CUniq.getCall_of_mem {s : St} (hu : CUniq s) {c : Call} (hc : c ∈ s.calls) : getCall s c.cid = some c := by
  cases hg : getCall s c.cid with
  | none => exact absurd rfl (getCall_none hg c hc)
  | some c1 => rw [hu.eq_of_getCall hg hc rfl]

/-- `X` is the call with id `cid` -/
def At (cid : Nat) (X : Call) (s : St) : Prop := X ∈ s.calls ∧ X.cid = cid ∧ ∀ c ∈ s.calls, c.cid = cid → c = X

theorem At.of_getCall {s : St} (hu : CUniq s) {cid : Nat} {X : Call} (hg : getCall s cid = some X) : At cid X s :=
  ⟨(getCall_some hg).1, (getCall_some hg).2, fun _ hc e => hu.eq_of_getCall hg hc e⟩

theorem At.get {s : St} {cid : Nat} {X : Call} (h : At cid X s) : getCall s cid = some X := by
  cases hg : getCall s cid with
  | none => exact absurd h.2.1 (getCall_none hg X h.1)
  | some c1 =>
    obtain ⟨hm, he⟩ := getCall_some hg
    rw [h.2.2 c1 hm he]

theorem At.map {s s' : St} {cid : Nat} {X : Call} (h : At cid X s) (g : Call → Call) (hg : ∀ c, (g c).cid = c.cid)
    (e : s'.calls = s.calls.map g) : At cid (g X) s' := by
  refine ⟨by rw [e]; exact List.mem_map_of_mem h.1, by rw [hg]; exact h.2.1, ?_⟩
  intro c' hc' ec
  rw [e] at hc'
  obtain ⟨c, hc, rfl⟩ := List.mem_map.mp hc'
  rw [h.2.2 c hc (by rw [← hg]; exact ec)]

theorem At.of_calls {s s' : St} {cid : Nat} {X : Call} (h : At cid X s) (e : s'.calls = s.calls) : At cid X s' := by
  unfold At; rw [e]; exact h

theorem updFn_cid (w : Nat) (f : Call → Call) (hf : ∀ c, (f c).cid = c.cid) (c : Call) : (updFn w f c).cid = c.cid := by
  unfold updFn; split
  · exact hf c
  · rfl

theorem updFn_ne {w : Nat} (f : Call → Call) {c : Call} (h : c.cid ≠ w) : updFn w f c = c := by
  unfold updFn; rw [if_neg (by simpa using h)]

theorem At.upd {s : St} {cid : Nat} {X : Call} (h : At cid X s) (f : Call → Call) (hf : ∀ c, (f c).cid = c.cid) :
    At cid (f X) (updCall s cid f) := by
  have := h.map (updFn cid f) (updFn_cid cid f hf) (s' := updCall s cid f) rfl
  have e : updFn cid f X = f X := by unfold updFn; rw [if_pos (by simpa using h.2.1)]
  rw [e] at this; exact this

theorem At.upd_ne {s : St} {cid w : Nat} {X : Call} (h : At cid X s) (hne : w ≠ cid) (f : Call → Call)
    (hf : ∀ c, (f c).cid = c.cid) : At cid X (updCall s w f) := by
  have := h.map (updFn w f) (updFn_cid w f hf) (s' := updCall s w f) rfl
  rw [updFn_ne f (by rw [h.2.1]; exact fun e => hne e.symm)] at this; exact this

def OnlyCall (cid : Nat) (s s' : St) : Prop :=
  ∃ g : Call → Call, (∀ c, (g c).cid = c.cid) ∧ s'.calls = s.calls.map (updFn cid g)

theorem OnlyCall.of_calls {cid : Nat} {s s' : St} (h : s'.calls = s.calls) : OnlyCall cid s s' :=
  ⟨id, fun _ => rfl, by
    have : updFn cid id = id := by funext c; unfold updFn; split <;> rfl
    rw [h, this, List.map_id]⟩

theorem OnlyCall.trans {cid : Nat} {a b c : St} (h1 : OnlyCall cid a b) (h2 : OnlyCall cid b c) : OnlyCall cid a c := by
  obtain ⟨g1, c1, e1⟩ := h1
  obtain ⟨g2, c2, e2⟩ := h2
  refine ⟨g2 ∘ g1, fun x => by simp [Function.comp, c1, c2], ?_⟩
  rw [e2, e1, List.map_map]
  apply List.map_congr_left
  intro x _
  simp only [Function.comp, updFn]
  by_cases hx : (x.cid == cid) = true
  · simp [hx, c1]
  · simp [hx]

theorem OnlyCall.of_upd {cid : Nat} {s s' : St} {f : Call → Call} (h : s'.calls = (updCall s cid f).calls)
    (hf : ∀ c, (f c).cid = c.cid) : OnlyCall cid s s' := ⟨f, hf, h⟩

theorem OnlyCall.cids {cid : Nat} {s s' : St} (h : OnlyCall cid s s') : s'.calls.map (·.cid) = s.calls.map (·.cid) := by
  obtain ⟨g, hg, e⟩ := h
  rw [e, List.map_map]
  exact List.map_congr_left fun c _ => updFn_cid cid g hg c

theorem cuniq_of_cids {s s' : St} (hc : s'.calls.map (·.cid) = s.calls.map (·.cid)) (hu : CUniq s) : CUniq s' := by
  unfold CUniq; rw [hc]; exact hu

theorem OnlyCall.cuniq {cid : Nat} {s s' : St} (h : OnlyCall cid s s') (hu : CUniq s) : CUniq s' := cuniq_of_cids h.cids hu

/-- the other calls, the channel's and the dispatch's flags, the in-flight table; the cancellation queue only grows -/
structure CallFr (cid : Nat) (s s' : St) : Prop where
  only : OnlyCall cid s s'
  pqClosed : s'.pqClosed = s.pqClosed
  dDropped : s'.dDropped = s.dDropped
  bufCap : s'.bufCap = s.bufCap
  inflight : s'.inflight = s.inflight
  poisoned : s'.poisoned = s.poisoned
  cq : ∀ i ∈ s.cq, i ∈ s'.cq

theorem CallFr.of_calls {cid : Nat} {s s' : St} (calls : s'.calls = s.calls := by rfl)
    (pqClosed : s'.pqClosed = s.pqClosed := by rfl) (dDropped : s'.dDropped = s.dDropped := by rfl)
    (bufCap : s'.bufCap = s.bufCap := by rfl) (inflight : s'.inflight = s.inflight := by rfl)
    (poisoned : s'.poisoned = s.poisoned := by rfl) (cq : ∀ i ∈ s.cq, i ∈ s'.cq := by exact fun _ h => h) : CallFr cid s s' :=
  ⟨.of_calls calls, pqClosed, dDropped, bufCap, inflight, poisoned, cq⟩

theorem CallFr.refl (cid : Nat) (s : St) : CallFr cid s s := .of_calls

theorem CallFr.trans {cid : Nat} {a b c : St} (h1 : CallFr cid a b) (h2 : CallFr cid b c) : CallFr cid a c :=
  ⟨h1.only.trans h2.only, h2.pqClosed.trans h1.pqClosed, h2.dDropped.trans h1.dDropped, h2.bufCap.trans h1.bufCap,
   h2.inflight.trans h1.inflight, h2.poisoned.trans h1.poisoned, fun i hi => h2.cq i (h1.cq i hi)⟩

structure ChanSame (s s' : St) : Prop where
  pq : s'.pq = s.pq
  pqAvail : s'.pqAvail = s.pqAvail
  pqWaiters : s'.pqWaiters = s.pqWaiters
  pqAssigned : s'.pqAssigned = s.pqAssigned

theorem ChanSame.refl (s : St) : ChanSame s s := ⟨rfl, rfl, rfl, rfl⟩

theorem ChanSame.trans {a b c : St} (h1 : ChanSame a b) (h2 : ChanSame b c) : ChanSame a c :=
  ⟨h2.pq.trans h1.pq, h2.pqAvail.trans h1.pqAvail, h2.pqWaiters.trans h1.pqWaiters, h2.pqAssigned.trans h1.pqAssigned⟩

/-- a step of the future of call `cid` beside the request channel (its oneshot, the cancellation queue, wakes) -/
structure OsStep (cid : Nat) (s s' : St) : Prop where
  fr : CallFr cid s s'
  ch : ChanSame s s'

theorem OsStep.refl (cid : Nat) (s : St) : OsStep cid s s := ⟨.refl _ _, .refl _⟩

theorem OsStep.trans {cid : Nat} {a b c : St} (h1 : OsStep cid a b) (h2 : OsStep cid b c) : OsStep cid a c :=
  ⟨h1.fr.trans h2.fr, h1.ch.trans h2.ch⟩

theorem OsStep.after {cid : Nat} {a b c : St} (h2 : OsStep cid b c) (h1 : OsStep cid a b) : OsStep cid a c := h1.trans h2

theorem OsStep.of_upd {cid : Nat} {s s' : St} {f : Call → Call} (calls : s'.calls = (updCall s cid f).calls)
    (hf : ∀ c, (f c).cid = c.cid) (pqClosed : s'.pqClosed = s.pqClosed := by rfl) (dDropped : s'.dDropped = s.dDropped := by rfl)
    (bufCap : s'.bufCap = s.bufCap := by rfl) (inflight : s'.inflight = s.inflight := by rfl)
    (poisoned : s'.poisoned = s.poisoned := by rfl) (cq : ∀ i ∈ s.cq, i ∈ s'.cq := by exact fun _ h => h)
    (ch : ChanSame s s' := by exact ⟨rfl, rfl, rfl, rfl⟩) : OsStep cid s s' :=
  ⟨⟨.of_upd calls hf, pqClosed, dDropped, bufCap, inflight, poisoned, cq⟩, ch⟩

theorem OsStep.of_calls {cid : Nat} {s s' : St} (fr : CallFr cid s s' := by exact .of_calls)
    (ch : ChanSame s s' := by exact ⟨rfl, rfl, rfl, rfl⟩) : OsStep cid s s' := ⟨fr, ch⟩

theorem osStep_emit (cid : Nat) (s : St) (o : Obs) : OsStep cid s (emit s o) := .of_calls

theorem osStep_updCall (s : St) (cid : Nat) (f : Call → Call) (hf : ∀ c, (f c).cid = c.cid) : OsStep cid s (updCall s cid f) :=
  .of_upd rfl hf

theorem osStep_wakeDispatch (cid : Nat) (s : St) : OsStep cid s (wakeDispatch s) := by
  obtain ⟨w, os, e⟩ := Flow.wakeDispatch_only s
  rw [e]; exact .of_calls

theorem osStep_wakeCall (s : St) (cid : Nat) : OsStep cid s (wakeCall s cid) := by
  rcases Flow.wakeCall_out s cid with ⟨_, _, _, e⟩ | ⟨_, e⟩ <;> rw [e]
  · exact (osStep_emit cid _ _).after (osStep_updCall s cid _ (fun _ => rfl))
  · exact .refl _ _

theorem osStep_osDropTx (s : St) (cid : Nat) : OsStep cid s (osDropTx s cid) := by
  rcases Flow.osDropTx_out s cid with ⟨_, e⟩ | ⟨_, _, _, e⟩ <;> rw [e]
  · exact .refl _ _
  · split
    · exact (osStep_wakeCall _ cid).after (osStep_updCall s cid _ (fun _ => rfl))
    · exact osStep_updCall s cid _ (fun _ => rfl)

theorem osStep_cqPush (cid : Nat) (s : St) (i : Nat) : OsStep cid s (cqPush s i) := by
  unfold cqPush
  split
  · exact .refl _ _
  · simp only
    have h1 : OsStep cid s { s with cq := s.cq ++ [i] } := .of_calls (.of_calls (cq := fun _ h => List.mem_append_left _ h))
    split
    · exact (osStep_wakeDispatch cid _).after
        ((.of_calls : OsStep cid { s with cq := s.cq ++ [i] } { s with cq := s.cq ++ [i], cqRxWaker := false }).after h1)
    · exact h1

theorem afterCallGone_only (s : St) :
    ∃ w os pw cw, afterCallGone s = { s with dWoken := w, obs := os, pqRxWaker := pw, cqRxWaker := cw } :=
  (afterCallGone_steps 0 s).lift
    (R := fun a b => ∃ w os pw cw, b = { a with dWoken := w, obs := os, pqRxWaker := pw, cqRxWaker := cw })
    (fun _ => ⟨_, _, _, _, rfl⟩) (fun ⟨_, _, _, _, e1⟩ ⟨_, _, _, _, e2⟩ => by subst e1; subst e2; exact ⟨_, _, _, _, rfl⟩) fun {_ s0 _} ha st => by
    cases st with
    | wakePq => obtain ⟨w, os, e⟩ := Flow.wakeDispatch_only { s0 with pqRxWaker := false }; exact ⟨_, _, _, _, e⟩
    | wakeCq => obtain ⟨w, os, e⟩ := Flow.wakeDispatch_only { s0 with cqRxWaker := false }; exact ⟨_, _, _, _, e⟩
    | _ => exact False.elim ha

theorem osStep_afterCallGone (cid : Nat) (s : St) : OsStep cid s (afterCallGone s) := by
  obtain ⟨w, os, pw, cw, e⟩ := afterCallGone_only s
  rw [e]; exact .of_calls

theorem pqPush_out (cid : Nat) (s : St) (r : DReq) :
    CallFr cid s (pqPush s r) ∧ (pqPush s r).calls = s.calls ∧ (pqPush s r).pq = s.pq ++ [r] ∧
      (pqPush s r).pqAvail = s.pqAvail ∧ (pqPush s r).pqWaiters = s.pqWaiters ∧ (pqPush s r).pqAssigned = s.pqAssigned := by
  unfold pqPush
  simp only
  split
  · obtain ⟨w, os, e⟩ := Flow.wakeDispatch_only { s with pq := s.pq ++ [r], pqRxWaker := false }
    rw [e]
    exact ⟨.of_calls, rfl, rfl, rfl, rfl, rfl⟩
  · exact ⟨.of_calls, rfl, rfl, rfl, rfl, rfl⟩

def resolveFn (o : Outcome) (c : Call) : Call :=
  { c with phase := .resolved, outcome := some o, woken := false, os := { c.os with rxClosed := true, rxWaker := false } }

def rxWakerFn (c : Call) : Call := { c with os := { c.os with rxWaker := true } }

def awaitFn (c : Call) : Call := { c with phase := .awaiting }

def assignFn (s : St) (c0 : Call) (c' : Call) : Call :=
  { c' with id := s.nextId, trace := { c0.ctx.trace with span := .fresh s.nextFresh }, woken := false }

theorem At.osStep {s s' : St} {cid : Nat} {X : Call} (h : At cid X s) (x : OsStep cid s s') : ∃ X', At cid X' s' := by
  obtain ⟨g, hg, e⟩ := x.fr.only
  exact ⟨_, h.map (updFn cid g) (updFn_cid cid g hg) e⟩

theorem afterCallGone_calls (s : St) : (afterCallGone s).calls = s.calls := by
  obtain ⟨w, os, pw, cw, e⟩ := afterCallGone_only s
  rw [e]

theorem cqPush_calls (s : St) (i : Nat) : (cqPush s i).calls = s.calls := by
  unfold cqPush
  split
  · rfl
  · simp only
    split
    · rw [Flow.wakeDispatch_calls]
    · rfl

theorem resolve_out {s : St} {cid : Nat} {X : Call} (h : At cid X s) (o : Outcome) (now : Nat) :
    OsStep cid s (resolve s cid o now) ∧ At cid (resolveFn o X) (resolve s cid o now) := by
  unfold resolve
  simp only
  refine ⟨(osStep_afterCallGone cid _).after ((osStep_emit cid _ _).after (osStep_updCall s cid (resolveFn o) (fun _ => rfl))),
    (h.upd (resolveFn o) (fun _ => rfl)).of_calls ?_⟩
  rw [afterCallGone_calls]; rfl

/-- the oneshot of `Y` was polled, `X'` is the call afterwards -/
def Polled (Y X' : Call) : Prop :=
  (∃ o, Y.os.val = some o ∧ X' = resolveFn o { Y with os := { Y.os with val := none } }) ∨
  (Y.os.val = none ∧ Y.os.txDropped = true ∧ X' = resolveFn .shutdown Y) ∨
  (X' = rxWakerFn Y ∧ Y.os.val = none ∧ Y.os.txDropped = false)

theorem Polled.weak {Y X' : Call} (h : Polled Y X') :
    X'.phase = .resolved ∨ (X' = rxWakerFn Y ∧ Y.os.val = none ∧ Y.os.txDropped = false) := by
  rcases h with ⟨o, _, rfl⟩ | ⟨_, _, rfl⟩ | h
  · exact Or.inl rfl
  · exact Or.inl rfl
  · exact Or.inr h

theorem pollOneshot_out {s : St} {cid : Nat} {X : Call} (h : At cid X s) (now : Nat) :
    OsStep cid s (pollOneshot s cid now) ∧ ∃ X', At cid X' (pollOneshot s cid now) ∧ Polled X X' := by
  unfold pollOneshot
  rw [h.get]
  simp only
  cases hv : X.os.val with
  | some o =>
    simp only
    have a1 := h.upd (fun c => { c with os := { c.os with val := none } }) (fun _ => rfl)
    obtain ⟨x2, a2⟩ := resolve_out a1 o now
    exact ⟨x2.after (osStep_updCall s cid _ (fun _ => rfl)), _, a2, Or.inl ⟨o, hv, rfl⟩⟩
  | none =>
    simp only
    split
    · rename_i htx
      obtain ⟨x2, a2⟩ := resolve_out h .shutdown now
      exact ⟨x2, _, a2, Or.inr (Or.inl ⟨hv, htx, rfl⟩)⟩
    · rename_i htx
      exact ⟨(osStep_emit cid _ _).after (osStep_updCall s cid rxWakerFn (fun _ => rfl)), rxWakerFn X,
        (h.upd rxWakerFn (fun _ => rfl)).of_calls rfl, Or.inr (Or.inr ⟨rfl, hv, by simpa using htx⟩)⟩

theorem At.oneshot {s : St} {cid : Nat} {X : Call} (h : At cid X s) (now : Nat) :
    ∃ X', At cid X' (pollOneshot s cid now) ∧
      (X'.phase = .resolved ∨ (X' = rxWakerFn X ∧ X.os.val = none ∧ X.os.txDropped = false)) := by
  obtain ⟨_, X', a, p⟩ := pollOneshot_out h now
  exact ⟨X', a, p.weak⟩

theorem failShutdown_out {s : St} {cid : Nat} {X : Call} (h : At cid X s) (id now : Nat) :
    OsStep cid s (failShutdown s cid id now) ∧ ∃ X', At cid X' (failShutdown s cid id now) ∧ X'.phase = .resolved := by
  unfold failShutdown
  simp only
  have x1 := osStep_osDropTx s cid
  obtain ⟨X1, a1⟩ := h.osStep x1
  have x2 : OsStep cid _ (guardClose (osDropTx s cid) cid) := osStep_updCall _ cid _ (fun _ => rfl)
  have a2 : At cid _ (guardClose (osDropTx s cid) cid) := a1.upd _ (fun _ => rfl)
  have x3 := osStep_cqPush cid (guardClose (osDropTx s cid) cid) id
  have a3 := a2.of_calls (cqPush_calls (guardClose (osDropTx s cid) cid) id)
  obtain ⟨x4, a4⟩ := resolve_out a3 .shutdown now
  exact ⟨x4.after (x3.after (x2.after x1)), _, a4, rfl⟩

theorem enqueue_out {s : St} {cid : Nat} {X : Call} (h : At cid X s) (c : Call) (hc : c.cid = cid) (now : Nat) :
    CallFr cid s (enqueue s c now) ∧
    (enqueue s c now).pq = s.pq ++ [{ cid := cid, id := c.id, ctx := { deadline := c.ctx.deadline, trace := c.trace }, body := c.body }] ∧
    (enqueue s c now).pqAvail = s.pqAvail ∧ (enqueue s c now).pqWaiters = s.pqWaiters ∧
    (enqueue s c now).pqAssigned = s.pqAssigned ∧ ∃ X', At cid X' (enqueue s c now) ∧ Polled (awaitFn X) X' := by
  unfold enqueue
  simp only
  rw [hc]
  obtain ⟨f1, p0, p1, p2, p3, p4⟩ :=
    pqPush_out cid s { cid := cid, id := c.id, ctx := { deadline := c.ctx.deadline, trace := c.trace }, body := c.body }
  have a1 := h.of_calls p0
  generalize pqPush s _ = s1 at f1 p0 p1 p2 p3 p4 a1
  have x2 := osStep_updCall s1 cid awaitFn (fun _ => rfl)
  obtain ⟨x3, X', a3, hX'⟩ := pollOneshot_out (a1.upd awaitFn (fun _ => rfl)) now
  have x := x2.trans x3
  exact ⟨f1.trans x.fr, x.ch.pq.trans p1, x.ch.pqAvail.trans p2, x.ch.pqWaiters.trans p3, x.ch.pqAssigned.trans p4, X', a3, hX'⟩

theorem assignId_out {s : St} {cid : Nat} {X : Call} (h : At cid X s) (c0 : Call) :
    OsStep cid s (assignId s cid c0) ∧ At cid (assignFn s c0 X) (assignId s cid c0) := by
  unfold assignId
  exact ⟨.of_upd rfl (fun _ => rfl),
    (h.of_calls (s' := { s with nextFresh := s.nextFresh + 1, nextId := s.nextId + 1 }) rfl).upd (assignFn s c0) (fun _ => rfl)⟩

inductive PollOut (cid : Nat) (X : Call) (s s' : St) (X' : Call) : Prop
  | dead (hp : X.phase = .resolved ∨ X.phase = .dropped) (ch : ChanSame s s') (e : X' = X)
  | failedNew (hp : X.phase = .notPolled) (hc : s.pqClosed = true ∨ s.dDropped = true) (ch : ChanSame s s')
      (e : X'.phase = .resolved)
  | failedWait (hp : X.phase = .reserving) (hc : s.pqClosed = true ∨ s.dDropped = true) (pq : s'.pq = s.pq)
      (av : s'.pqAvail = if s.pqAssigned.contains cid then s.pqAvail + 1 else s.pqAvail)
      (w : s'.pqWaiters = s.pqWaiters.filter (· != cid)) (a : s'.pqAssigned = s.pqAssigned.filter (· != cid))
      (e : X'.phase = .resolved)
  | took (r : DReq) (hr : r.cid = cid) (hp : X.phase = .notPolled) (op : s.pqClosed = false) (dd : s.dDropped = false)
      (hav : 0 < s.pqAvail) (pq : s'.pq = s.pq ++ [r]) (av : s'.pqAvail = s.pqAvail - 1)
      (w : s'.pqWaiters = s.pqWaiters) (a : s'.pqAssigned = s.pqAssigned) (e : Polled (awaitFn (assignFn s X X)) X')
  | used (r : DReq) (hr : r.cid = cid) (hp : X.phase = .reserving) (op : s.pqClosed = false) (dd : s.dDropped = false)
      (has : cid ∈ s.pqAssigned) (pq : s'.pq = s.pq ++ [r]) (av : s'.pqAvail = s.pqAvail)
      (w : s'.pqWaiters = s.pqWaiters) (a : s'.pqAssigned = s.pqAssigned.filter (· != cid))
      (e : Polled (awaitFn { X with woken := false }) X')
  | joined (hp : X.phase = .notPolled) (op : s.pqClosed = false) (dd : s.dDropped = false) (hav : s.pqAvail = 0)
      (pq : s'.pq = s.pq) (av : s'.pqAvail = s.pqAvail) (w : s'.pqWaiters = s.pqWaiters ++ [cid])
      (a : s'.pqAssigned = s.pqAssigned) (e : X' = { assignFn s X X with phase := .reserving })
  | waits (hp : X.phase = .reserving) (op : s.pqClosed = false) (dd : s.dDropped = false) (has : cid ∉ s.pqAssigned)
      (ch : ChanSame s s') (e : X' = { X with woken := false })
  | polled (hp : X.phase = .awaiting) (ch : ChanSame s s') (e : Polled { X with woken := false } X')

theorem pollOut_fresh {s : St} {cid : Nat} {X : Call} (hat : At cid X s) (hph : X.phase = .notPolled) (now : Nat) {a : St}
    (ha : a = assignId s cid X) :
    (fun s' => CallFr cid s s' ∧ ∃ X', At cid X' s' ∧ PollOut cid X s s' X')
      (if a.pqClosed || a.dDropped then failShutdown a cid s.nextId now
        else if a.pqAvail > 0 then enqueue { a with pqAvail := a.pqAvail - 1 } (assignedCall s X) now
        else emit (updCall { a with pqWaiters := a.pqWaiters ++ [cid] } cid (fun c => { c with phase := .reserving }))
          (.ret (.call cid) .pending)) := by
  have hcid : X.cid = cid := hat.2.1
  obtain ⟨xa, ata⟩ := assignId_out hat X
  rw [← ha] at xa ata
  refine ite_ite_cases (motive := fun s' => CallFr cid s s' ∧ ∃ X', At cid X' s' ∧ PollOut cid X s s' X')
    (fun hc => ?_) (fun hc hav => ?_) (fun hc hav => ?_)
  · obtain ⟨x2, X', a2, hX'⟩ := failShutdown_out ata s.nextId now
    have x := xa.trans x2
    refine ⟨x.fr, X', a2, .failedNew hph ?_ x.ch hX'⟩
    rw [← xa.fr.pqClosed, ← xa.fr.dDropped]; simpa using hc
  · obtain ⟨hcl, hdd⟩ := or_eq_false_of_not hc
    rw [xa.fr.pqClosed] at hcl; rw [xa.fr.dDropped] at hdd; rw [xa.ch.pqAvail] at hav
    have x1 : CallFr cid a { a with pqAvail := a.pqAvail - 1 } := .of_calls
    obtain ⟨f2, e1, e2, e3, e4, X', a2, hX'⟩ :=
      enqueue_out (ata.of_calls (s' := { a with pqAvail := a.pqAvail - 1 }) rfl) (assignedCall s X) hcid now
    refine ⟨(xa.fr.trans x1).trans f2, X', a2, .took _ rfl hph hcl hdd (by simpa using hav)
      (by rw [e1]; show a.pq ++ _ = _; rw [xa.ch.pq]) (by rw [e2]; show a.pqAvail - 1 = _; rw [xa.ch.pqAvail])
      (e3.trans xa.ch.pqWaiters) (e4.trans xa.ch.pqAssigned) hX'⟩
  · obtain ⟨hcl, hdd⟩ := or_eq_false_of_not hc
    rw [xa.fr.pqClosed] at hcl; rw [xa.fr.dDropped] at hdd; rw [xa.ch.pqAvail] at hav
    -- the state is named first: stating its fields on the nested term is slow
    generalize hs' : emit (updCall _ cid _) _ = s'
    have a3 : At cid { assignFn s X X with phase := .reserving } s' := by
      rw [← hs']
      exact ((ata.of_calls (s' := { a with pqWaiters := a.pqWaiters ++ [cid] }) rfl).upd
        (fun c => { c with phase := .reserving }) (fun _ => rfl)).of_calls rfl
    have f3 : CallFr cid a s' := by
      rw [← hs']
      exact ⟨.of_upd rfl (fun _ => rfl), rfl, rfl, rfl, rfl, rfl, fun _ h => h⟩
    refine ⟨xa.fr.trans f3, _, a3, .joined hph hcl hdd (by omega) ?_ ?_ ?_ ?_ rfl⟩
    · rw [← hs', Flow.emit_pq, Flow.updCall_pq]; exact xa.ch.pq
    · rw [← hs', Flow.emit_pqAvail, Flow.updCall_pqAvail]; exact xa.ch.pqAvail
    · rw [← hs', Flow.emit_pqWaiters, Flow.updCall_pqWaiters, ← xa.ch.pqWaiters]
    · rw [← hs', Flow.emit_pqAssigned, Flow.updCall_pqAssigned]; exact xa.ch.pqAssigned

theorem pollOut_waiting {s : St} {cid : Nat} {X : Call} (hat : At cid X s) (hph : X.phase = .reserving) (now : Nat) {a : St}
    (ha : a = updCall s cid (fun c => { c with woken := false })) :
    (fun s' => CallFr cid s s' ∧ ∃ X', At cid X' s' ∧ PollOut cid X s s' X')
      (if a.pqClosed || a.dDropped then
          failShutdown { a with pqAssigned := a.pqAssigned.filter (· != cid), pqWaiters := a.pqWaiters.filter (· != cid),
                                pqAvail := if a.pqAssigned.contains cid then a.pqAvail + 1 else a.pqAvail } cid X.id now
        else if a.pqAssigned.contains cid then enqueue { a with pqAssigned := a.pqAssigned.filter (· != cid) } X now
        else emit a (.ret (.call cid) .pending)) := by
  have hcid : X.cid = cid := hat.2.1
  have xa : OsStep cid s a := ha ▸ osStep_updCall s cid _ (fun _ => rfl)
  have ata : At cid { X with woken := false } a := ha ▸ hat.upd (fun c => { c with woken := false }) (fun _ => rfl)
  refine ite_ite_cases (motive := fun s' => CallFr cid s s' ∧ ∃ X', At cid X' s' ∧ PollOut cid X s s' X')
    (fun hc => ?_) (fun hc has => ?_) (fun hc has => ?_)
  · -- `b`: `a` after the future has left both lists
    generalize hb : ({ a with pqAssigned := a.pqAssigned.filter (fun x => x != cid),
                              pqWaiters := a.pqWaiters.filter (fun x => x != cid),
                              pqAvail := if a.pqAssigned.contains cid then a.pqAvail + 1 else a.pqAvail } : St) = b
    have ata' : At cid { X with woken := false } b := by rw [← hb]; exact ata.of_calls rfl
    have fb : CallFr cid a b := by rw [← hb]; exact .of_calls
    have eq : b.pq = s.pq := by rw [← hb]; exact xa.ch.pq
    have ev : b.pqAvail = if s.pqAssigned.contains cid then s.pqAvail + 1 else s.pqAvail := by
      rw [← hb, ← xa.ch.pqAssigned, ← xa.ch.pqAvail]
    have ew : b.pqWaiters = s.pqWaiters.filter (fun x => x != cid) := by rw [← hb, ← xa.ch.pqWaiters]
    have ea : b.pqAssigned = s.pqAssigned.filter (fun x => x != cid) := by rw [← hb, ← xa.ch.pqAssigned]
    clear hb
    obtain ⟨x2, X', a2, hX'⟩ := failShutdown_out ata' X.id now
    refine ⟨(xa.fr.trans fb).trans x2.fr, X', a2, .failedWait hph ?_ (x2.ch.pq.trans eq) (x2.ch.pqAvail.trans ev)
      (x2.ch.pqWaiters.trans ew) (x2.ch.pqAssigned.trans ea) hX'⟩
    rw [← xa.fr.pqClosed, ← xa.fr.dDropped]; simpa using hc
  · obtain ⟨hcl, hdd⟩ := or_eq_false_of_not hc
    rw [xa.fr.pqClosed] at hcl; rw [xa.fr.dDropped] at hdd
    have has' : cid ∈ s.pqAssigned := by rw [← xa.ch.pqAssigned]; simpa using has
    have x1 : CallFr cid a { a with pqAssigned := a.pqAssigned.filter (fun x => x != cid) } :=
      .of_calls
    obtain ⟨f2, e1, e2, e3, e4, X', a2, hX'⟩ :=
      enqueue_out (ata.of_calls (s' := { a with pqAssigned := a.pqAssigned.filter (fun x => x != cid) }) rfl) X hcid now
    refine ⟨(xa.fr.trans x1).trans f2, X', a2, .used _ rfl hph hcl hdd has'
      (by rw [e1]; show a.pq ++ _ = _; rw [xa.ch.pq]) (e2.trans xa.ch.pqAvail) (e3.trans xa.ch.pqWaiters)
      (by rw [e4]; show a.pqAssigned.filter _ = _; rw [xa.ch.pqAssigned]) hX'⟩
  · obtain ⟨hcl, hdd⟩ := or_eq_false_of_not hc
    rw [xa.fr.pqClosed] at hcl; rw [xa.fr.dDropped] at hdd
    have has' : cid ∉ s.pqAssigned := by rw [← xa.ch.pqAssigned]; simpa using has
    have x := xa.trans (osStep_emit cid a (.ret (.call cid) .pending))
    exact ⟨x.fr, _, ata.of_calls rfl, .waits hph hcl hdd has' x.ch rfl⟩

theorem pollCall_out {s : St} {cid : Nat} {X : Call} (hat : At cid X s) (now : Nat) :
    CallFr cid s (pollCall s cid now) ∧ ∃ X', At cid X' (pollCall s cid now) ∧ PollOut cid X s (pollCall s cid now) X' := by
  have same : ∀ {c}, getCall s cid = some c → X = c := fun hg => by have := hat.get; rw [hg] at this; cases this; rfl
  refine Flow.pollCall_cases (motive := fun s' => CallFr cid s s' ∧ ∃ X', At cid X' s' ∧ PollOut cid X s s' X') s cid now ?_ ?_ ?_ ?_
  · intro hd
    exact ⟨(osStep_emit cid s _).fr, X, hat.of_calls rfl, .dead (hd X hat.get) (osStep_emit cid s _).ch rfl⟩
  · intro c a hg hph ha
    obtain rfl := same hg
    exact pollOut_fresh hat hph now ha
  · intro c a hg hph ha
    obtain rfl := same hg
    exact pollOut_waiting hat hph now ha
  · intro c hg hph
    obtain rfl := same hg
    have x1 := osStep_updCall s cid (fun c => { c with woken := false }) (fun _ => rfl)
    obtain ⟨x2, X', a2, hX'⟩ := pollOneshot_out (hat.upd (fun c => { c with woken := false }) (fun _ => rfl)) now
    have x := x1.trans x2
    exact ⟨x.fr, X', a2, .polled hph x.ch hX'⟩

end TarpcModel.Client
