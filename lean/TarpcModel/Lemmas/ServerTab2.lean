import TarpcModel.Lemmas.ServerTab1
import TarpcModel.Lemmas.ServerPollWalk
/-!
The second coupling (`Tab.X`) walked through one poll of the request stream, on top of `Mon06.J`, and what the walks of all
the couplings need of the model alone.  A step of the model is read as an operation on the view (`mv_…`, `bw_step_…`), and `X`
is kept by its lemma for that operation; a book past a spin is set aside once per step (`unspun_or`).  From
`NN_requestsPollNext` on: channels without a limiter (`s.limit = none`), as in the Props statements, and with `ensureLoop =
false`, `throttleAfterRead = false` (the state's copies of `Gen.serverEnsureLoop`, `Gen.throttleAfterRead`, both `false`).
-/
namespace TarpcModel.Server.Tab
open TarpcModel TarpcModel.Server TarpcModel.Server.Flow TarpcModel.Server.ObsMon TarpcModel.Server.Mon06

/-! ## relations that map the executions -/

/-- `R` holds across the steps that map the executions by some `g` with `G g` and leave table, queues, transport input alone -/
structure MapRel (G : (Exec → Exec) → Prop) (R : St → St → Prop) : Prop where
  frame : ∀ {s s' : St}, s'.execs = s.execs → s'.inflight = s.inflight → s'.cancelQ = s.cancelQ → s'.respQ = s.respQ →
    s'.t.inbound = s.t.inbound → s'.dropped = s.dropped → R s s'
  trans : ∀ {a b c : St}, R a b → R b c → R a c
  upd : ∀ s r f, G f → R s (updExec s r f)
  woken : G fun e => { e with woken := true }
  abort : G fun e => { e with aborted := true, abortWaker := false }

section
variable {G : (Exec → Exec) → Prop} {R : St → St → Prop} (hc : MapRel G R)
include hc

theorem MapRel.refl (s : St) : R s s := hc.frame rfl rfl rfl rfl rfl rfl

theorem MapRel.pre {s s0 s' : St} (h : R s0 s') (h1 : s0.execs = s.execs) (h2 : s0.inflight = s.inflight)
    (h3 : s0.cancelQ = s.cancelQ) (h4 : s0.respQ = s.respQ) (h5 : s0.t.inbound = s.t.inbound) (h6 : s0.dropped = s.dropped) :
    R s s' :=
  hc.trans (hc.frame h1 h2 h3 h4 h5 h6) h

theorem MapRel.emit (s : St) (o : Obs) : R s (emit s o) := hc.frame rfl rfl rfl rfl rfl rfl

inductive MapK : Act → Prop
  | emit (o) : MapK (.emit o)
  | uwoken : MapK (.upd .woken)
  | abort : MapK (.upd .abort)
  | woken : MapK .woken
  | timers : MapK .timers
  | panic (w) : MapK (.panic w)

theorem MapRel.has : Has MapK R where
  refl := hc.refl
  trans := hc.trans
  prim := by
    intro k a b hk hp
    cases hk with
    | emit o => cases hp; exact hc.emit _ _
    | uwoken => cases hp; exact hc.upd _ _ _ hc.woken
    | abort => cases hp; exact hc.upd _ _ _ hc.abort
    | woken | timers | panic => cases hp; exact hc.frame rfl rfl rfl rfl rfl rfl

theorem MapRel.wakeServer (s : St) : R s (wakeServer s) := hc.has.steps (wakeServer_in (fun _ => .emit _) .woken s)

theorem MapRel.wakeExec (s : St) (r : Nat) : R s (wakeExec s r) :=
  hc.has.steps ((wakeExec_steps s r).mono fun _ hk => by cases hk <;> constructor)

theorem MapRel.abortExec (s : St) (r : Nat) : R s (abortExec s r) :=
  hc.has.steps ((abortExec_steps s r).mono fun _ hk => by cases hk <;> constructor)

theorem MapRel.removeTimer (s : St) (k : Nat) : R s (removeTimer s k) :=
  hc.has.steps ((removeTimer_steps s k).mono fun _ hk => by cases hk <;> constructor)

theorem MapRel.foldl_abort (es : List SEntry) (s : St) : R s (es.foldl (fun s e => Server.abortExec s e.rid) s) := by
  induction es generalizing s with
  | nil => exact hc.refl s
  | cons e es ih => exact hc.trans (hc.abortExec s e.rid) (ih _)

theorem MapRel.foldl_wake (ws : List Nat) (s : St) : R s (ws.foldl Server.wakeExec s) := by
  induction ws generalizing s with
  | nil => exact hc.refl s
  | cons w ws ih => exact hc.trans (hc.wakeExec s w) (ih _)

end

/-! ## model steps that only abort, re-arm and forget aborted requests -/

/-- `g` keeps an execution's identity and number, does not revive it and does not clear its abort flag -/
def Gm (g : Exec → Exec) : Prop :=
  ∀ e, (g e).rid = e.rid ∧ (g e).id = e.id ∧ (g e).vis = e.vis ∧ (execLive (g e) = true → execLive e = true) ∧
    (e.aborted = true → (g e).aborted = true)

/-- a step of the model under which `X` survives -/
structure MS (s s' : St) : Prop where
  ex : ∃ g : Exec → Exec, s'.execs = s.execs.map g ∧ Gm g
  ents : ∀ en' ∈ s'.inflight, ∃ en ∈ s.inflight, en.id = en'.id ∧ en.rid = en'.rid ∧
    en'.dueAt + en'.remainder ≤ en.dueAt + en.remainder
  cq : ∀ i ∈ s'.cancelQ, i ∈ s.cancelQ
  rq : ∀ p ∈ s'.respQ, p ∈ s.respQ
  inb : s'.t.inbound = s.t.inbound
  gone : ∀ en ∈ s.inflight, (∃ en' ∈ s'.inflight, en'.rid = en.rid) ∨ Ab en.rid s'

theorem Gm.id : Gm id := fun _ => ⟨rfl, rfl, rfl, fun h => h, fun h => h⟩

theorem MS.trans {a b c : St} (h1 : MS a b) (h2 : MS b c) : MS a c := by
  obtain ⟨g1, e1, i1⟩ := h1.ex
  obtain ⟨g2, e2, i2⟩ := h2.ex
  refine ⟨⟨g2 ∘ g1, by rw [e2, e1, List.map_map], fun e => ?_⟩, ?_, fun i h => h1.cq i (h2.cq i h),
    fun p h => h1.rq p (h2.rq p h), h2.inb.trans h1.inb, ?_⟩
  · obtain ⟨p1, p2, p3, p4, p5⟩ := i1 e
    obtain ⟨q1, q2, q3, q4, q5⟩ := i2 (g1 e)
    exact ⟨q1.trans p1, q2.trans p2, q3.trans p3, fun h => p4 (q4 h), fun h => q5 (p5 h)⟩
  · intro en'' h
    obtain ⟨en', h', a1, a2, a3⟩ := h2.ents en'' h
    obtain ⟨en, h0, b1, b2, b3⟩ := h1.ents en' h'
    exact ⟨en, h0, b1.trans a1, b2.trans a2, Nat.le_trans a3 b3⟩
  · intro en hen
    rcases h1.gone en hen with ⟨en', hen', hr⟩ | hab
    · rcases h2.gone en' hen' with ⟨en'', hen'', hr'⟩ | hab
      · exact Or.inl ⟨en'', hen'', hr'.trans hr⟩
      · exact Or.inr (by rw [← hr]; exact hab)
    · right
      intro e'' he'' hr
      rw [e2] at he''
      obtain ⟨e', he', rfl⟩ := List.mem_map.mp he''
      rw [(i2 e').1] at hr
      exact (i2 e').2.2.2.2 (hab e' he' hr)

theorem ms_rel : MapRel Gm MS where
  frame := fun {s s'} h1 h2 h3 h4 h5 _ =>
    ⟨⟨id, by simp [h1], Gm.id⟩, fun en' h => ⟨en', by rw [← h2]; exact h, rfl, rfl, Nat.le_refl _⟩,
      fun i h => by rw [← h3]; exact h, fun p h => by rw [← h4]; exact h, h5,
      fun en h => Or.inl ⟨en, by rw [h2]; exact h, rfl⟩⟩
  trans := MS.trans
  upd := fun s r f hf =>
    ⟨⟨fun e => if e.rid == r then f e else e, rfl, fun e => by simp only; split <;> first | exact hf e | exact Gm.id e⟩,
      fun en' h => ⟨en', h, rfl, rfl, Nat.le_refl _⟩, fun i h => h, fun p h => h, rfl, fun en h => Or.inl ⟨en, h, rfl⟩⟩
  woken := fun e => ⟨rfl, rfl, rfl, fun h => h, fun h => h⟩
  abort := fun e => ⟨rfl, rfl, rfl, fun h => h, fun _ => rfl⟩

theorem ms_wakeServer (s : St) : MS s (wakeServer s) := ms_rel.wakeServer s

theorem Ab.ms {r : Nat} {s s' : St} (h : Ab r s) (hm : MS s s') : Ab r s' := by
  obtain ⟨g, e, i⟩ := hm.ex
  intro e' he' hr
  rw [e] at he'
  obtain ⟨e0, he0, rfl⟩ := List.mem_map.mp he'
  rw [(i e0).1] at hr
  exact (i e0).2.2.2.2 (h e0 he0 hr)

theorem ms_forget_abort {s : St} (hnd : (s.inflight.map (·.id)).Nodup) (id : Nat) (en : SEntry)
    (hf : findEntry s id = some en) (q : DelayQ) :
    MS s (abortExec { s with timers := q, inflight := s.inflight.filter (·.id != id) } en.rid) := by
  obtain ⟨hen, hid⟩ := findEntry_some hf
  have hm := ms_rel.abortExec { s with timers := q, inflight := s.inflight.filter (·.id != id) } en.rid
  refine ⟨hm.ex, ?_, hm.cq, hm.rq, hm.inb, ?_⟩
  · intro en' h'
    obtain ⟨en0, h0, a1, a2, a3⟩ := hm.ents en' h'
    exact ⟨en0, (List.mem_filter.mp h0).1, a1, a2, a3⟩
  · intro en0 h0
    by_cases hc : en0.id = id
    · have : en0 = en := eq_of_map_nodup (f := (·.id)) hnd h0 hen (hc.trans hid.symm)
      subst this
      exact Or.inr (Ab.of_abortExec _ _)
    · rcases hm.gone en0 (List.mem_filter.mpr ⟨h0, by simpa using hc⟩) with h1 | h1
      · exact Or.inl h1
      · exact Or.inr h1


theorem ms_rearm {s s2 : St} {now : Nat} {en : SEntry} (hnd : (s.inflight.map (·.id)).Nodup) (hen : en ∈ s.inflight)
    (h0 : restOf now en ≠ 0) (hr : rearm s now en = some s2) : MS s s2 := by
  obtain ⟨q, key, w, _, rfl⟩ := rearm_some hr
  have hex : (if w = true then wakeServer s else s).execs = s.execs := by cases w <;> simp
  have hcq : (if w = true then wakeServer s else s).cancelQ = s.cancelQ := by cases w <;> simp
  have hrq : (if w = true then wakeServer s else s).respQ = s.respQ := by cases w <;> simp
  have ht : (if w = true then wakeServer s else s).t = s.t := by cases w <;> simp
  refine ⟨⟨id, by simp [hex], Gm.id⟩, ?_, fun i h => by rw [← hcq]; exact h, fun p h => by rw [← hrq]; exact h,
    by show (if w = true then wakeServer s else s).t.inbound = _; rw [ht], ?_⟩
  · intro en' h'
    obtain ⟨x, hx, rfl⟩ := List.mem_map.mp h'
    refine ⟨x, hx, by simp, by simp, ?_⟩
    by_cases hc : x.id = en.id
    · have : x = en := eq_of_map_nodup (f := (·.id)) hnd hx hen hc
      subst this
      unfold rearmUpd
      rw [if_pos (by simp)]
      have h3 := clampTimeout_le_self (restOf now x)
      have hrest : restOf now x = x.remainder - (now - x.dueAt) := rfl
      simp only
      omega
    · rw [rearmUpd_ne hc]; exact Nat.le_refl _
  · intro en0 h0'
    exact Or.inl ⟨rearmUpd en.id key now en0, List.mem_map_of_mem h0', by simp⟩

theorem ms_expireStep {now : Nat} {s : St} (h : TInv now s) : MS s (expireStep s now).1 := by
  have hs := expireStep_out s now
  revert hs; generalize expireStep s now = p; intro hs
  obtain ⟨s', r⟩ := p
  dsimp only at hs ⊢
  cases hs with
  | idleNone q hp => exact ms_rel.frame rfl rfl rfl rfl rfl rfl
  | idlePending q hp => exact ms_rel.frame rfl rfl rfl rfl rfl rfl
  | orphan q e hp hf => exact ms_rel.frame rfl rfl rfl rfl rfl rfl
  | abort q e en hp hf h0 => exact ms_forget_abort h.ids e.val en hf q
  | rearmed q e en s2 hp hf h0 hr =>
    have hen : en ∈ s.inflight := (findEntry_some hf).1
    exact ms_rel.pre (ms_rearm (s := { s with timers := q }) h.ids hen h0 hr) rfl rfl rfl rfl rfl rfl
  | panicked q e en hp hf h0 hr => exact ms_rel.frame rfl rfl rfl rfl rfl rfl

theorem ms_pollExpired {now : Nat} {s : St} (h : TInv now s) : MS s (pollExpired s now).1 := by
  have := pollExpired_ind (P := fun s1 => TInv now s1 ∧ MS s s1) now
    (fun s1 h1 => ⟨h1.1.of_sim rfl rfl (ExecsSim.refl _), h1.2.trans (ms_rel.emit _ _)⟩)
    (fun s1 h1 => ⟨h1.1.expireStep, h1.2.trans (ms_expireStep h1.1)⟩) s ⟨h, ms_rel.refl s⟩
  exact this.2

theorem ms_cancelRequest {now : Nat} {s : St} (h : TInv now s) (id : Nat) : MS s (cancelRequest s id).1 := by
  rcases cancelRequest_out s id with ⟨_, he⟩ | ⟨e, hf, he⟩ <;> rw [he]
  · exact ms_rel.refl s
  · exact (ms_forget_abort h.ids id e hf s.timers).trans (ms_rel.removeTimer _ _)

theorem ms_dropServer (s : St) : MS s (dropServer s) := by
  rw [dropServer_eq]
  split
  · exact ms_rel.emit s _
  · have h1 : MS s (dsS1 s) :=
      have h := ms_rel.foldl_abort s.inflight { s with dropped := true, woken := false }
      ⟨h.ex, h.ents, h.cq, h.rq, h.inb, h.gone⟩
    have h2 : MS (dsS1 s) (dsS2 s) := ms_rel.pre (ms_rel.foldl_wake _ _) rfl rfl rfl rfl rfl rfl
    have h12 := h1.trans h2
    refine ⟨h12.ex, fun en' h => (by cases h), fun i h => (by cases h), fun p h => (by cases h), h12.inb, fun en hen => Or.inr ?_⟩
    exact Ab.of_execs (Ab.ms (Ab.foldl_abort s.inflight _ en hen) h2) rfl

/-! ## from the states to the views -/

theorem X_ms {rest : List Nat} {B : BW} {s s' : St} (hm : MS s s') (h : X rest B (mv s)) : X rest B (mv s') := by
  obtain ⟨g, hg, hid⟩ := hm.ex
  refine h.model s.execs ye (ye ∘ g) rfl (by show s'.execs.map ye = _; rw [hg, List.map_map]) ?_ ?_ ?_ ?_ hm.inb ?_
  · intro a _
    obtain ⟨h1, h2, h3, h4, h5⟩ := hid a
    exact ⟨h1, h2, h3, h4, h5⟩
  · intro en' hen'
    obtain ⟨e0, he0, rfl⟩ := List.mem_map.mp hen'
    obtain ⟨en, hen, a1, a2, a3⟩ := hm.ents e0 he0
    exact ⟨ze en, List.mem_map_of_mem hen, a1, a2, a3⟩
  · intro i hi; exact Or.inl (hm.cq i hi)
  · intro i hi
    obtain ⟨p, hp, rfl⟩ := List.mem_map.mp hi
    exact Or.inl (List.mem_map_of_mem (hm.rq p hp))
  · intro a ha ⟨en, hen, hr⟩
    obtain ⟨en0, hen0, rfl⟩ := List.mem_map.mp hen
    rcases hm.gone en0 hen0 with ⟨en', hen', hr'⟩ | hab
    · exact Or.inl ⟨ze en', List.mem_map_of_mem hen', hr'.trans hr⟩
    · refine Or.inr (Or.inl ?_)
      exact hab (g a) (by rw [hg]; exact List.mem_map_of_mem ha) ((hid a).1.trans hr.symm)

theorem K_eid_st {now : Nat} {pend : Option (Nat × Nat)} {B : BV} {s : St} (h : K now pend B (sview s)) :
    ∀ en ∈ s.inflight, ∀ e ∈ s.execs, e.rid = en.rid → e.id = en.id := by
  intro en hen e he hr
  exact h.eid (SEntry.ir en) (List.mem_map_of_mem hen) (xe e) (List.mem_map_of_mem he) hr

theorem K_bnd {now : Nat} {pend : Option (Nat × Nat)} {b : Book} {S : SV} (h : K now pend (bview b) S) :
    (b.execs.map (·.rid)).Nodup := by
  have heq : (bview b).execs.map (·.rid) = b.execs.map (·.rid) := by simp only [bview, List.map_map]; rfl
  rw [← heq]; exact h.bNodup

theorem K_eid_mv {now : Nat} {pend : Option (Nat × Nat)} {B : BV} {s : St} (h : K now pend B (sview s)) :
    ∀ en ∈ (mv s).ents, ∀ x ∈ (mv s).execs, x.rid = en.rid → x.id = en.id := by
  intro en hen x hx hr
  obtain ⟨en0, hen0, rfl⟩ := List.mem_map.mp hen
  obtain ⟨e, he, rfl⟩ := List.mem_map.mp hx
  exact K_eid_st h en0 hen0 e he hr

/-! ## the walked invariant -/

/-- the monitor is past a spin, or `K` and `X` couple the book folded over the observations so far with the state -/
def N (b0 : Book) (now : Nat) (pend : Option (Nat × Nat)) (rest : List Nat) (s : St) : Prop :=
  (bo b0 s.obs).spun = true ∨
    (K now pend (bview (bo b0 s.obs)) (sview s) ∧ X rest (bw (bo b0 s.obs)) (mv s))

theorem N.toJ {b0 : Book} {now : Nat} {pend : Option (Nat × Nat)} {rest : List Nat} {s : St} (h : N b0 now pend rest s) :
    J b0 now pend s := h.imp id And.left

/-- the `checkC06Rest` verdict on one observation -/
def chk06 (b : Book) (o : Obs) : Option String := (checkC06Rest b () (.obs o)).2

theorem chk06_other (b : Book) (o : Obs) (h1 : ∀ r t, o ≠ .handler r .polled t)
    (h2 : ∀ ep id res ok, o ≠ .tSend ep (.response id res) ok) : chk06 b o = none := by
  unfold chk06
  cases o with
  | handler r ev t =>
    cases ev with
    | polled => exact absurd rfl (h1 r t)
    | _ => rfl
  | tSend ep m ok =>
    cases m with
    | response id res => exact absurd rfl (h2 ep id res ok)
    | _ => rfl
  | _ => rfl

theorem chk06_mild (o : Obs) (h1 : isCore o = false) (h2 : isOut o = false) (b : Book) : chk06 b o = none := by
  refine chk06_other b o ?_ ?_
  · intro r t h; rw [h] at h2; cases h2
  · intro ep id res ok h; rw [h] at h1; cases h1

/-- `N`, and `checkC06Rest` has accepted every observation so far -/
structure NN (b0 : Book) (now : Nat) (pend : Option (Nat × Nat)) (rest : List Nat) (s : St) : Prop where
  n : N b0 now pend rest s
  ck : CK chk06 b0 s.obs

theorem CK.adds {chk : Book → Obs → Option String} {Q : Obs → Prop} {b0 : Book} {s s' : St}
    (hm : ∀ o, Q o → ∀ b, chk b o = none) (hx : Adds Q s s') (h : CK chk b0 s.obs) : CK chk b0 s'.obs := by
  obtain ⟨l, e, p⟩ := hx
  rw [e]
  exact h.append l (fun o ho b => hm o (p o ho) b)

theorem CK.extW {b0 : Book} {s s' : St} (hx : ExtW s s') (h : CK chk06 b0 s.obs) : CK chk06 b0 s'.obs :=
  CK.adds (fun o ho => chk06_mild o ho.1 ho.2) hx h

theorem NN_model {b0 : Book} {now : Nat} {pend pend' : Option (Nat × Nat)} {rest : List Nat} {s s' : St} (hx : ExtW s s')
    (hJ : J b0 now pend s → J b0 now pend' s')
    (hX : K now pend (bview (bo b0 s.obs)) (sview s) → X rest (bw (bo b0 s.obs)) (mv s) →
      X rest (bw (bo b0 s.obs)) (mv s'))
    (h : NN b0 now pend rest s) : NN b0 now pend' rest s' := by
  refine ⟨unspun_or fun hn => ?_, h.ck.extW hx⟩
  obtain ⟨hn0, _, hle⟩ := bo_extW_unspun b0 hx hn
  obtain ⟨hK, hXs⟩ := of_unspun h.n hn0
  exact ⟨of_unspun (hJ (Or.inr hK)) hn, (hX hK hXs).le hle⟩

theorem NN_qm {b0 : Book} {now : Nat} {pend : Option (Nat × Nat)} {rest : List Nat} {s s' : St} (hq : QM s s')
    (h : NN b0 now pend rest s) : NN b0 now pend rest s' :=
  NN_model hq.1 (J_same hq.1.ext (sview_of_mv hq.2)) (fun _ hX => by rw [hq.2]; exact hX) h

theorem NN_ms {b0 : Book} {now : Nat} {pend pend' : Option (Nat × Nat)} {rest : List Nat} {s s' : St} (hx : ExtW s s')
    (hJ : J b0 now pend s → J b0 now pend' s') (hm : MS s s') (h : NN b0 now pend rest s) : NN b0 now pend' rest s' :=
  NN_model hx hJ (fun _ hX => X_ms hm hX) h

/-! ## the primitives of the read side -/

theorem extW_removeRequest (s : St) (id : Nat) : ExtW s (removeRequest s id).1 :=
  extW_of (qsx_removeRequest s id) (flt_removeRequest isOut_pollQuiet s id)

theorem extW_pollExpired (s : St) (now : Nat) : ExtW s (pollExpired s now).1 :=
  extW_of (ext_pollExpired s now) (flt_pollExpired isOut_pollQuiet s now)

theorem extW_cancelRequest (s : St) (id : Nat) : ExtW s (cancelRequest s id).1 :=
  extW_of (ext_cancelRequest s id) (flt_cancelRequest isOut_pollQuiet s id)

theorem extW_startRequest (s : St) (now id d : Nat) (tr : Trace) (b : Nat) : ExtW s (startRequest s now id d tr b).1 := by
  refine extW_of ?_ (flt_startRequest isOut_pollQuiet s now id d tr b)
  rcases startRequest_eff s now id d tr b with ⟨_, h2⟩ | ⟨ex, _, _, _, _, hx, _, _⟩
  · exact h2.1
  · exact hx

theorem extW_bpCancel (s : St) : ExtW s (bpCancel s).1 := by
  rcases bpCancel_out s with ⟨i, l, _, he⟩ | ⟨_, he⟩ <;> rw [he]
  · exact Adds.after (extW_removeRequest _ _) rfl
  · exact Adds.of_eq rfl

theorem extW_armRead (s : St) (r : SPoll Exec) : ExtW s (armRead s r) := Adds.of_eq (armRead_obs s r)

theorem extW_dropServer (s : St) : ExtW s (dropServer s) :=
  extW_of (ext_dropServer s) (fx_dropServer isOut_wakeQuiet s)

theorem ms_setRq (s : St) (l : List (Nat × Res)) (h : ∀ p ∈ l, p ∈ s.respQ) : MS s { s with respQ := l } :=
  ⟨⟨id, by simp, Gm.id⟩, fun en' h' => ⟨en', h', rfl, rfl, Nat.le_refl _⟩, fun i h' => h', h, rfl,
    fun en h' => Or.inl ⟨en, h', rfl⟩⟩

theorem dead_of_rq {rest : List Nat} {B : BW} {s : St} (h : X rest B (mv s)) {p : Nat × Res} (hp : p ∈ s.respQ) :
    ∀ e ∈ s.execs, e.id = p.1 → e.aborted = true ∨ execLive e = false := by
  intro e he hei
  obtain ⟨x, hx, hxi, hl⟩ := h.rq p.1 (List.mem_map_of_mem hp)
  have : ye e = x := h.id_inj (List.mem_map_of_mem he) hx (hei.trans hxi.symm)
  right
  rw [← this] at hl; exact hl

variable {b0 : Book} {now : Nat} {rest : List Nat}

theorem NN_bpCancel {pend : Option (Nat × Nat)} {s : St} (h : NN b0 now pend rest s) :
    NN b0 now pend rest (bpCancel s).1 :=
  NN_model (extW_bpCancel s) J_bpCancel (fun hK hX => mv_bpCancel s ▸ hX.popCq (K_eid_mv hK)) h

theorem NN_pollExpired {pend : Option (Nat × Nat)} {s : St} (ht : TInv now s) (h : NN b0 now pend rest s) :
    NN b0 now pend rest (pollExpired s now).1 :=
  NN_ms (extW_pollExpired s now) (J_pollExpired ht) (ms_pollExpired ht) h

/-! ### the transport read -/

theorem bw_preRead (b : Book) : BW.le (bw b) (bw (preRead b)) := by
  obtain ⟨t, a, e⟩ := preRead_frame b
  refine ⟨by rw [e]; rfl, by rw [e]; rfl, ?_, fun hf => by rw [e]; exact hf⟩
  unfold preRead
  split
  · exact fun p hp =>
      (sweepOne_spec ({ b with justRead := none, sawT := true, prevReadyP := false } : Book)).2.2.2.2.1.subset hp
  · exact fun _ h => h

/-- the `cancelRead` mark is in neither view -/
theorem bw_step_tNext_cancel (b : Book) (ep : TaskId) (id : Nat) (tr : Trace) :
    bw (b.step (.obs (.tNext ep (.item (.cancel id tr))))) =
      { bw (preRead b) with table := (preRead b).table.filter (·.1 != id) } ∧
    (b.step (.obs (.tNext ep (.item (.cancel id tr))))).abandonOrder = (preRead b).abandonOrder := by
  rw [step_tNext_eq]
  simp only
  generalize (preRead b).table.reverse.find? (fun p : Nat × Nat => p.1 == id) = o
  cases o with
  | none => exact ⟨rfl, rfl⟩
  | some p =>
    refine ⟨?_, rfl⟩
    have e := updExec_wb (preRead b) p.2 (fun e => { e with cancelRead := true }) (fun e => rfl)
    show ({ bw ((preRead b).updExec p.2 _) with table := _ } : BW) = _
    rw [e]
    rfl

theorem bw_step_tNext (b : Book) (ep : TaskId) (r : NextRes) : BW.le (bw b) (bw (b.step (.obs (.tNext ep r)))) := by
  refine (bw_preRead b).trans ?_
  cases r with
  | item m =>
    cases m with
    | request id d tr body => rw [step_tNext_eq]; exact ⟨rfl, rfl, fun _ h => h, fun h => h⟩
    | cancel id tr =>
      rw [(bw_step_tNext_cancel b ep id tr).1]
      exact ⟨rfl, rfl, fun p hp => (List.mem_filter.mp hp).1, fun h => h⟩
    | response id res => rw [step_tNext_eq]; exact BW.le.refl _
  | pending => rw [step_tNext_eq]; exact BW.le.refl _
  | err => rw [step_tNext_eq]; exact ⟨rfl, rfl, fun _ h => h, fun _ => rfl⟩
  | eof => rw [step_tNext_eq]; exact ⟨rfl, rfl, fun _ h => h, fun h => h⟩

theorem bo_tNext_unspun (b0 : Book) {s : St} (hf : s.readFused = false) (hn : (bo b0 (tNext s).1.obs).spun = false) :
    (bo b0 s.obs).spun = false ∧ BW.le (bw (bo b0 s.obs)) (bw (bo b0 (tNext s).1.obs)) := by
  rw [tNext_obs s hf] at hn ⊢
  exact ⟨bo_cons_unspun hn, by rw [bo_cons]; exact bw_step_tNext _ _ _⟩

theorem pollNext_inb (t : SimT) :
    (t.pollNext.1.inbound = t.inbound ∧ ∀ m, t.pollNext.2 ≠ .item m) ∨
    (∃ i, t.inbound = i :: t.pollNext.1.inbound ∧ ∀ m, t.pollNext.2 = .item m → i = .msg m) := by
  rcases SimT.pollNext_out t with ⟨_, he⟩ | ⟨_, u, _, hi, he⟩
  · left; rw [he]; exact ⟨rfl, fun m h => by cases h⟩
  · rw [he, ← hi]
    generalize hl : u.inbound = l
    cases l with
    | nil =>
      left
      simp only
      split
      · refine ⟨?_, fun m h => by cases h⟩
        exact hl
      · exact ⟨rfl, fun m h => by cases h⟩
    | cons a l =>
      right
      cases a with
      | msg m => exact ⟨.msg m, rfl, fun m' h => by cases h; rfl⟩
      | err => exact ⟨.err, rfl, fun m' h => by cases h⟩

theorem tNext_nf (s : St) (h : s.readFused = false) :
    (tNext s).1.t = s.t.pollNext.1 ∧ (tNext s).2 = s.t.pollNext.2 := by
  unfold tNext
  rw [if_neg (by simp [h])]
  constructor
  · simp only; split <;> rfl
  · rfl

theorem mv_tNext (s : St) : mv (tNext s).1 = { mv s with inb := (tNext s).1.t.inbound } := by
  unfold mv; simp

theorem X_tNext {B : BW} {s : St} (hf : s.readFused = false) (h : X rest B (mv s)) :
    X rest B (mv (tNext s).1) ∧
    ∀ i d tr b, (tNext s).2 = .item (.request i d tr b) →
      ((mv (tNext s).1).execs.map (·.id) ++ i :: (inbIds (mv (tNext s).1).inb ++ rest)).Nodup := by
  obtain ⟨ht, hr⟩ := tNext_nf s hf
  rw [mv_tNext, ht, hr]
  rcases pollNext_inb s.t with ⟨h1, h2⟩ | ⟨i0, h1, h2⟩
  · rw [h1]
    exact ⟨h, fun i d tr b hc => absurd hc (h2 _)⟩
  · obtain ⟨hX, hside⟩ := h.read i0 s.t.pollNext.1.inbound h1
    refine ⟨hX, fun i d tr b hc => ?_⟩
    exact hside i d tr b (h2 _ hc)

theorem NN_tNext_other {pend : Option (Nat × Nat)} {s : St}
    (hr : ∀ id tr, (tNext s).2 ≠ .item (.cancel id tr)) (h : NN b0 now pend rest s) :
    NN b0 now pend rest (tNext s).1 ∧
    ∀ i d tr b, (tNext s).2 = .item (.request i d tr b) → (bo b0 (tNext s).1.obs).spun = true ∨
      ((mv (tNext s).1).execs.map (·.id) ++ i :: (inbIds (mv (tNext s).1).inb ++ rest)).Nodup := by
  cases hf : s.readFused with
  | true =>
    rw [tNext_fused_eq s hf]
    exact ⟨h, fun i d tr b hc => by cases hc⟩
  | false =>
    have hobs := tNext_obs s hf
    have hck : CK chk06 b0 (tNext s).1.obs := by
      rw [hobs]
      exact ⟨h.ck, Or.inr (chk06_other _ _ (fun _ _ hc => by cases hc) (fun _ _ _ _ hc => by cases hc))⟩
    refine ⟨⟨unspun_or fun hn => ?_, hck⟩, fun i d tr b hc => unspun_or fun hn => ?_⟩
    · obtain ⟨hn0, hle⟩ := bo_tNext_unspun b0 hf hn
      obtain ⟨hK, hX⟩ := of_unspun h.n hn0
      exact ⟨of_unspun (J_tNext_other hr (Or.inr hK)) hn, (X_tNext hf hX).1.le hle⟩
    · exact (X_tNext hf (of_unspun h.n (bo_tNext_unspun b0 hf hn).1).2).2 i d tr b hc

theorem NN_cancel {s : St} (ht : TInv now (tNext s).1) (id : Nat) (tr : Trace)
    (hr : (tNext s).2 = .item (.cancel id tr)) (h : NN b0 now none rest s) :
    NN b0 now none rest (cancelRequest (tNext s).1 id).1 := by
  have hf : s.readFused = false := by
    cases hf : s.readFused with
    | false => rfl
    | true => rw [tNext_fused_eq s hf] at hr; cases hr
  have hobs := tNext_obs s hf
  have hck3 : CK chk06 b0 (tNext s).1.obs := by
    rw [hobs]
    exact ⟨h.ck, Or.inr (chk06_other _ _ (fun _ _ hc => by cases hc) (fun _ _ _ _ hc => by cases hc))⟩
  have hx := extW_cancelRequest (tNext s).1 id
  refine ⟨unspun_or fun hn => ?_, hck3.extW hx⟩
  obtain ⟨hn3, _, hle5⟩ := bo_extW_unspun b0 hx hn
  obtain ⟨hn0, hle⟩ := bo_tNext_unspun b0 hf hn3
  obtain ⟨hK, hX⟩ := of_unspun h.n hn0
  exact ⟨of_unspun (J_cancel id tr hr (Or.inr hK)) hn, (X_ms (ms_cancelRequest ht id) ((X_tNext hf hX).1.le hle)).le hle5⟩

theorem step_obs_flags (b : Book) (o : Obs) :
    (b.step (.obs o)).topPoll = b.topPoll ∧ (b.failed = true → (b.step (.obs o)).failed = true) := by
  cases o with
  | tNext ep r =>
    obtain ⟨t, a, e⟩ := preRead_frame b
    rw [step_tNext_eq, e]
    cases r with
    | item m =>
      cases m with
      | cancel i tr => simp only; split <;> exact ⟨rfl, id⟩
      | _ => exact ⟨rfl, id⟩
    | err => exact ⟨rfl, fun _ => rfl⟩
    | _ => exact ⟨rfl, id⟩
  | tReady ep r =>
    obtain ⟨st, bl, e⟩ := step_tReady b ep r
    rw [e]
    exact ⟨rfl, fun h => by show (r == .err || b.failed) = true; rw [h, Bool.or_true]⟩
  | tFlush ep r =>
    rw [step_tFlush]
    exact ⟨rfl, fun h => by show (r == .err || b.failed) = true; rw [h, Bool.or_true]⟩
  | tSend ep m ok =>
    cases m with
    | response i res =>
      cases ok with
      | true => exact ⟨rfl, id⟩
      | false => exact ⟨rfl, fun _ => rfl⟩
    | _ => exact ⟨rfl, id⟩
  | ret t r =>
    cases t with
    | server k =>
      rw [step_ret_eq]
      simp only [apply_ite Book.topPoll, apply_ite Book.failed, sweptBook, Book.sweep, ite_self]
      cases r <;> exact ⟨rfl, id⟩
    | exec v => cases r <;> exact ⟨rfl, id⟩
    | _ => exact ⟨rfl, id⟩
  | handler r ev t => cases ev <;> exact ⟨rfl, id⟩
  | counts ep a c => cases ep <;> exact ⟨rfl, id⟩
  | _ => exact ⟨rfl, id⟩

theorem bo_topPoll (b : Book) (l : List Obs) : (bo b l).topPoll = b.topPoll :=
  bo_all (Q := fun _ => True) (P := fun b b' => b'.topPoll = b.topPoll) (fun _ => rfl) (fun h1 h2 => h2.trans h1)
    (fun b o _ => (step_obs_flags b o).1) b l (fun _ _ => trivial)

/-! ### a request is started -/

theorem startRequest_effT (s : St) (now id d : Nat) (tr : Trace) (b : Nat) :
    ((startRequest s now id d tr b).2 = none ∧ QM s (startRequest s now id d tr b).1) ∨
    (∃ ex, (startRequest s now id d tr b).2 = some ex ∧ ex.rid = s.execs.length ∧ ex.id = id ∧
      ∃ z : ZE, z.id = id ∧ z.rid = s.execs.length ∧ now ≤ z.due ∧ (d ≤ clampNs → z.rem = 0) ∧
      mv (startRequest s now id d tr b).1 = (mv s).start ⟨s.execs.length, id, d, none, true, false, false⟩ z) := by
  have hrem : d ≤ clampNs → (d - now) - clampTimeout (d - now) = 0 := by
    intro hd
    rcases clampTimeout_cases (d - now) with h1 | ⟨_, h1, _⟩
    · rw [h1]; omega
    · omega
  rcases startRequest_out s now id d tr b with ⟨_, he⟩ | ⟨_, _, he⟩ | ⟨_, q, key, w, _, he⟩ <;> rw [he]
  · exact Or.inl ⟨rfl, QM.refl s⟩
  · exact Or.inl ⟨rfl, (QM.emit _ _ rfl rfl).pre rfl rfl⟩
  · obtain ⟨w', o, hw⟩ := startWoke_eq s w
    exact Or.inr ⟨_, rfl, rfl, rfl, ⟨id, s.execs.length, now + clampTimeout (d - now), (d - now) - clampTimeout (d - now)⟩, rfl,
      rfl, Nat.le_add_right _ _, hrem, by rw [hw]; simp [mv, MV.start, ye, ze, execLive, newExec]⟩

theorem K_fresh {pend : Option (Nat × Nat)} {B : BV} {s : St} (h : K now pend B (sview s)) :
    (∀ x ∈ (mv s).execs, x.rid ≠ s.execs.length) ∧ (∀ en ∈ (mv s).ents, en.rid ≠ s.execs.length) := by
  have hlen : (sview s).execs.length = s.execs.length := by simp [sview]
  constructor
  · intro x hx
    obtain ⟨e, he, rfl⟩ := List.mem_map.mp hx
    have := h.ridLt (xe e) (List.mem_map_of_mem he)
    rw [hlen] at this
    exact Nat.ne_of_lt this
  · intro en hen
    obtain ⟨e, he, rfl⟩ := List.mem_map.mp hen
    have := h.iridLt (SEntry.ir e) (List.mem_map_of_mem he)
    rw [hlen] at this
    exact Nat.ne_of_lt this

theorem NN_startRequest {s : St} (id d : Nat) (tr : Trace) (b : Nat) (h : NN b0 now none rest s)
    (hnd : (bo b0 s.obs).spun = true ∨ ((mv s).execs.map (·.id) ++ id :: (inbIds (mv s).inb ++ rest)).Nodup) :
    NN b0 now (startedOf (startRequest s now id d tr b)) rest (startRequest s now id d tr b).1 := by
  rcases startRequest_effT s now id d tr b with ⟨h1, h2⟩ | ⟨ex, h1, hr, hi, z, hz1, hz2, _, _, hmv⟩
  · rw [startedOf, h1]
    exact NN_qm h2 h
  · rw [startedOf, h1]
    show NN b0 now (some (ex.rid, ex.id)) rest _
    have hx := extW_startRequest s now id d tr b
    have hJ : J b0 now none s → J b0 now (some (ex.rid, ex.id)) (startRequest s now id d tr b).1 := by
      intro hJ
      have := J_startRequest id d tr b hJ
      rw [h1] at this
      exact this
    refine ⟨unspun_or fun hn => ?_, h.ck.extW hx⟩
    obtain ⟨hn0, _, hle⟩ := bo_extW_unspun b0 hx hn
    obtain ⟨hK, hX⟩ := of_unspun h.n hn0
    rw [hmv]
    exact ⟨of_unspun (hJ (Or.inr hK)) hn, (hX.start _ z rfl ⟨hz1, hz2⟩ (of_unspun hnd hn0) (K_fresh hK).1).le hle⟩


theorem NN_readSteps : ReadSteps now (SInv false now) (fun pend s => NN b0 now pend rest s)
    (fun s id _ _ _ => (bo b0 s.obs).spun = true ∨ ((mv s).execs.map (·.id) ++ id :: (inbIds (mv s).inb ++ rest)).Nodup) where
  bpCancel := fun _ _ h => NN_bpCancel h
  expire := fun _ hs h => NN_pollExpired hs.t h
  read := fun _ _ _ hr h => NN_tNext_other hr h
  cancel := fun s id tr hs _ hr h => NN_cancel ((sinv_closed false now).tNext s hs).t id tr hr h
  start := fun _ id d tr b _ h hc => NN_startRequest id d tr b h hc

/-! ## the write side -/

theorem NN_armRead {pend : Option (Nat × Nat)} {s : St} (r : SPoll Exec) (h : NN b0 now pend rest s) :
    NN b0 now pend rest (armRead s r) := by
  refine NN_ms (extW_armRead s r) (J_qs (qs_armRead s r)) ?_ h
  unfold armRead; split
  · exact ms_rel.upd _ _ _ (fun e => ⟨rfl, rfl, rfl, fun h => h, fun h => h⟩)
  · exact ms_rel.refl s

theorem tSend_obs_extT (s : St) (m : Msg) :
    ∃ s0, QM s s0 ∧ (tSend s m).1.obs = .tSend (tid s) m (tSend s m).2 :: s0.obs ∧ mv (tSend s m).1 = mv s0 := by
  refine ⟨emitViolations { s with t := (s.t.startSend m).1 } s.t.violations.length,
    (qm_emitViolations _ _).pre rfl (mv_setT s _ (by simp)), ?_, ?_⟩
  · rw [tSend_call]; rfl
  · rw [tSend_call]; rfl

theorem bw_step_tSend (b : Book) (ep : TaskId) (id : Nat) (res : Res) (ok : Bool) :
    BW.le (bw b) (bw (b.step (.obs (.tSend ep (.response id res) ok)))) := by
  cases ok
  · exact ⟨rfl, rfl, fun p hp => (List.mem_filter.mp hp).1, fun _ => rfl⟩
  · exact ⟨rfl, rfl, fun p hp => (List.mem_filter.mp hp).1, fun h => h⟩

theorem execOfResult_mem {b : Book} {id : Nat} {res : Res} {e : BExec} (h : b.execOfResult id res = some e) :
    e ∈ b.execs ∧ e.id = id := by
  unfold Book.execOfResult at h
  have h1 := List.mem_of_find?_eq_some h
  have h2 := List.find?_some h
  simp only [Bool.and_eq_true, beq_iff_eq] at h2
  exact ⟨List.mem_reverse.mp h1, h2.1⟩

theorem chk06_tSend (b : Book) (ep : TaskId) (id : Nat) (res : Res) (ok : Bool)
    (h : ∀ e ∈ b.execs, e.id = id → e.expiredSeen = false) : chk06 b (.tSend ep (.response id res) ok) = none := by
  unfold chk06
  simp only [checkC06Rest]
  split
  · next e tp hE hL =>
    obtain ⟨hm, hi⟩ := execOfResult_mem hE
    have hx := h e hm hi
    rw [if_neg (by rw [hx]; simp)]
  · rfl

/-- (`sA`: the entry removed; `s0`: just before `tSend`) -/
theorem baseStartSend_walk {C : St × Option Bool → Prop} (s : St) (id : Nat) (res : Res) (hnone : C (s, none))
    (hsend : ∀ sA s0 : St, (removeRequest s id).1 = sA → (removeRequest s id).2 = true → ExtW s s0 → mv s0 = mv sA →
      (tSend sA (.response id res)).1.obs = .tSend (tid sA) (.response id res) (tSend sA (.response id res)).2 :: s0.obs →
      mv (tSend sA (.response id res)).1 = mv s0 →
      baseStartSend s id res = ((tSend sA (.response id res)).1, some (tSend sA (.response id res)).2) →
      C ((tSend sA (.response id res)).1, some (tSend sA (.response id res)).2)) :
    C (baseStartSend s id res) := by
  have hi := removeRequest_inflight s id
  have hxA := extW_removeRequest s id
  have ho := baseStartSend_out s id res
  generalize hb : baseStartSend s id res = q at ho
  cases ho with
  | untracked s1 he =>
    rw [he] at hi
    rcases hi with ⟨_, h1, _⟩ | ⟨hc, _⟩
    · have : s1 = s := h1
      rw [this]; exact hnone
    · cases hc
  | sent s1 he =>
    rw [he] at hxA
    obtain ⟨s0, hq0, hobs, hv⟩ := tSend_obs_extT s1 (.response id res)
    exact hsend s1 s0 (by rw [he]) (by rw [he]) (Adds.trans hxA hq0.1) hq0.2 hobs hv hb

theorem NN_baseStartSend {pend : Option (Nat × Nat)} {s : St} (id : Nat) (res : Res) (h : NN b0 now pend rest s)
    (hd : (bo b0 s.obs).spun = true ∨ ∀ x ∈ (mv s).execs, x.id = id → x.aborted = true ∨ x.live = false) :
    NN b0 now pend rest (baseStartSend s id res).1 := by
  have hJf := J_baseStartSend (pend := pend) (b0 := b0) (now := now) id res (s := s) h.n.toJ
  refine baseStartSend_walk (C := fun p => NN b0 now pend rest p.1) s id res h
    (fun sA s0 hA htrue hx0 hmvA hobs hv heq => ?_)
  rw [heq] at hJf
  -- while the monitor has not spun before the send: `X` at `sA`, and no execution with the id has been seen to expire
  have hpre : (bo b0 s0.obs).spun = false → X rest (bw (bo b0 s0.obs)) (mv sA) ∧
      ∀ e ∈ (bo b0 s0.obs).execs, e.id = id → e.expiredSeen = false := by
    intro hn
    obtain ⟨hn0, _, hle⟩ := bo_extW_unspun b0 hx0 hn
    obtain ⟨hK, hX⟩ := of_unspun h.n hn0
    refine ⟨((hA ▸ mv_removeRequest s id : mv sA = _) ▸ hX.forget id (K_eid_mv hK) (of_unspun hd hn0)).le hle,
      fun e he hei => ?_⟩
    cases hfe : findEntry s id with
    | none =>
      have : (removeRequest s id).2 = false := by unfold removeRequest; rw [hfe]
      rw [htrue] at this; cases this
    | some en =>
      obtain ⟨hen, heni⟩ := findEntry_some hfe
      cases hes : e.expiredSeen with
      | false => rfl
      | true =>
        exact absurd (heni.trans hei.symm) (hX.expd (wb e) (hle.execs ▸ List.mem_map_of_mem he) hes (ze en)
          (List.mem_map_of_mem hen))
  refine ⟨unspun_or fun hn => ⟨of_unspun hJf hn, ?_⟩, ?_⟩
  · rw [hv, hmvA]
    rw [hobs] at hn ⊢
    exact (hpre (bo_cons_unspun hn)).1.le (by rw [bo_cons]; exact bw_step_tSend _ _ _ _ _)
  · rw [hobs]
    exact ⟨h.ck.extW hx0, unspun_or fun hn => chk06_tSend _ _ _ _ _ (hpre hn).2⟩

theorem mv_rqRelease_pop (s : St) (l : List (Nat × Res)) :
    (mv (rqRelease { s with respQ := l })).execs = (mv s).execs := by
  exact (congrArg MV.execs (qm_rqRelease { s with respQ := l }).2).trans rfl

theorem pumpWrite_walk {P : St → Prop} (hqm : ∀ {s s' : St}, QM s s' → P s → P s')
    (hsend : ∀ (s1 : St) (id : Nat) (res : Res) (l : List (Nat × Res)), s1.respQ = (id, res) :: l → P s1 →
      P (baseStartSend (rqRelease { s1 with respQ := l }) id res).1)
    (s : St) (rc : Bool) (h : P s) : P (pumpWrite s rc).1 :=
  pumpWrite_keeps (fun s h => hqm (qm_ensureWriteable s) h) (fun s rc h => hqm (qm_flushArm s rc) h)
    (fun s h => hqm (s := s) (QM.of_eq rfl rfl) h) hsend s rc h

theorem pumpWrite_mv (s : St) (rc : Bool) :
    (pumpWrite s rc).1.execs.map ye = s.execs.map ye ∧ (pumpWrite s rc).1.cancelQ = s.cancelQ := by
  have hqm : ∀ {a b : St}, QM a b → b.execs.map ye = a.execs.map ye ∧ b.cancelQ = a.cancelQ :=
    fun hq => ⟨congrArg MV.execs hq.2, congrArg MV.cq hq.2⟩
  refine pumpWrite_walk (P := fun x => x.execs.map ye = s.execs.map ye ∧ x.cancelQ = s.cancelQ)
    (fun hq h => ⟨(hqm hq).1.trans h.1, (hqm hq).2.trans h.2⟩) (fun s1 id res l _ h1 => ?_) s rc ⟨rfl, rfl⟩
  have h2 := hqm (a := { s1 with respQ := l }) (qm_rqRelease _)
  generalize rqRelease { s1 with respQ := l } = a at h2 ⊢
  refine baseStartSend_walk (C := fun p => p.1.execs.map ye = s.execs.map ye ∧ p.1.cancelQ = s.cancelQ) a id res
    ⟨h2.1.trans h1.1, h2.2.trans h1.2⟩ (fun sA s0 hA _ _ hv0 _ hv _ => ?_)
  have e : mv (tSend sA (.response id res)).1 = (mv a).forget id := hv.trans (hv0.trans (hA ▸ mv_removeRequest a id))
  exact ⟨(congrArg MV.execs e).trans (h2.1.trans h1.1), (congrArg MV.cq e).trans (h2.2.trans h1.2)⟩

theorem rq_head_dead {pend : Option (Nat × Nat)} {s1 : St} {id : Nat} {res : Res} {l : List (Nat × Res)}
    (h : NN b0 now pend rest s1) (hq : s1.respQ = (id, res) :: l) :
    (bo b0 (rqRelease { s1 with respQ := l }).obs).spun = true ∨
      ∀ x ∈ (mv (rqRelease { s1 with respQ := l })).execs, x.id = id → x.live = false := by
  refine unspun_or fun hn x hx hxi => ?_
  obtain ⟨hn0, _, _⟩ := bo_extW_unspun b0 (Adds.after (a := s1) (qm_rqRelease { s1 with respQ := l }).1 rfl) hn
  obtain ⟨_, hX⟩ := of_unspun h.n hn0
  rw [mv_rqRelease_pop] at hx
  obtain ⟨x0, hx0, hxi0, hl⟩ := hX.rq id (by show id ∈ s1.respQ.map (·.1); rw [hq]; exact List.mem_cons_self ..)
  rw [hX.id_inj hx hx0 (hxi.trans hxi0.symm)]; exact hl

theorem NN_popRq {pend : Option (Nat × Nat)} {s1 : St} {l : List (Nat × Res)} (hl : ∀ p ∈ l, p ∈ s1.respQ)
    (h : NN b0 now pend rest s1) : NN b0 now pend rest (rqRelease { s1 with respQ := l }) :=
  NN_qm (qm_rqRelease _)
    (NN_ms (s := s1) (s' := { s1 with respQ := l }) (Adds.of_eq rfl) (J_qs (QS.of_eq rfl rfl)) (ms_setRq s1 l hl) h)

theorem NN_pumpWrite {pend : Option (Nat × Nat)} {s : St} (rc : Bool) (h : NN b0 now pend rest s) :
    NN b0 now pend rest (pumpWrite s rc).1 := by
  refine pumpWrite_walk (fun hq h => NN_qm hq h) (fun s1 id res l hq h1 => ?_) s rc h
  exact NN_baseStartSend id res (NN_popRq (fun p hp => hq ▸ List.mem_cons_of_mem _ hp) h1)
    ((rq_head_dead h1 hq).imp (fun h => h) (fun h x hx hi => Or.inr (h x hx hi)))

def dropG (rid : Nat) (e : Exec) : Exec :=
  if e.rid == rid then { e with phase := .gone, guardArmed := false, woken := false } else e

theorem dropOffered_eff (s : St) (rid id : Nat) :
    ExtW s (dropOffered s rid id) ∧ (dropOffered s rid id).execs = s.execs.map (dropG rid) ∧
    (dropOffered s rid id).inflight = s.inflight ∧ (dropOffered s rid id).cancelQ = s.cancelQ ++ [id] ∧
    (dropOffered s rid id).respQ = s.respQ ∧ (dropOffered s rid id).t = s.t ∧
    (dropOffered s rid id).dropped = s.dropped := by
  unfold dropOffered
  simp only
  split
  · exact ⟨Adds.after (Adds.after (qm_wakeServer _).1 rfl) rfl, by simp [updExec, dropG], by simp, by simp, by simp, by simp, by simp⟩
  · exact ⟨Adds.of_eq rfl, rfl, rfl, rfl, rfl, rfl, rfl⟩

theorem ye_dropG (r : Nat) (e : Exec) : ye (dropG r e) = (ye e).giveUp r := by
  unfold dropG YE.giveUp
  show ye (if e.rid == r then _ else e) = if e.rid == r then _ else ye e
  cases e.rid == r <;> rfl

theorem mv_dropOffered (s : St) (r i : Nat) : mv (dropOffered s r i) = (mv s).giveUp r i := by
  obtain ⟨_, hex, hinf, hcq, hrq, ht, hdr⟩ := dropOffered_eff s r i
  have hnv : (dropOffered s r i).nextVis = s.nextVis := by
    unfold dropOffered; simp only; split
    · simp [updExec]
    · rfl
  unfold mv MV.giveUp
  rw [hex, hinf, hcq, hrq, ht, hdr, hnv, List.map_map, List.map_map]
  congr 1
  exact List.map_congr_left (fun e _ => ye_dropG r e)

theorem NN_dropOffered {s : St} (rid id : Nat) (h : NN b0 now (some (rid, id)) rest s) :
    NN b0 now none rest (dropOffered s rid id) := by
  refine NN_model (dropOffered_eff s rid id).1 (J_dropOffered rid id id) (fun hK hX => ?_) h
  obtain ⟨_, x0, hx0, hr0, hi0, _⟩ := hK.pnd rid id rfl
  obtain ⟨e0, he0, rfl⟩ := List.mem_map.mp hx0
  rw [mv_dropOffered]
  exact hX.giveUp rid id ⟨ye e0, List.mem_map_of_mem he0, hr0, hi0⟩

/-! ## `Requests::poll_next` (no limiter) -/

theorem NN_writeSteps : WriteSteps now (SInv false now) (fun s => NN b0 now none rest s) (fun pend s => NN b0 now pend rest s)
    (fun pend s => NN b0 now pend rest s) where
  arm := fun _ r _ h => NN_armRead r h
  pump := fun _ rc _ _ h => NN_pumpWrite rc h
  drop := fun _ rc rid id _ _ h _ => NN_dropOffered rid id (NN_pumpWrite rc h)
  again := fun _ h => h

abbrev PostRqT (b0 : Book) (now : Nat) (rest : List Nat) : St × ReqPoll → Prop :=
  PostRq (fun s => NN b0 now none rest s) (fun pend s => NN b0 now pend rest s)

theorem NN_requestsPollNext (fuel : Nat) (s : St) (hs : SInv false now s) (h : NN b0 now none rest s) (hl : s.limit = none)
    (hel : s.ensureLoop = false) : PostRqT b0 now rest (requestsPollNext fuel s now) :=
  requestsPollNext_carried (sinv_closed false now).toLoopClosed NN_readSteps NN_writeSteps
    (fun s h => NN_qm (QM.emit s _ rfl rfl) h) (fun _ h => h) fuel s hs hl hel h

/-! ## a poll that ends `spin` has spun or panicked -/

theorem hasSpin_emit_spin (s : St) (t : TaskId) : hasSpin (emit s (.spin t)).obs = true := by
  unfold hasSpin; simp [Server.emit]

theorem requestsPollNext_spin (now fuel : Nat) (s : St) (hl : s.limit = none) (hel : s.ensureLoop = false)
    (h : (requestsPollNext fuel s now).2 = .spin) :
    hasSpin (requestsPollNext fuel s now).1.obs = true ∨ (requestsPollNext fuel s now).1.poisoned = true := by
  have hI := (cfg_closed s now).toLoopClosed
  have hspin : ∀ x : St, True → hasSpin (emit x (.spin (tid x))).obs = true ∨ (emit x (.spin (tid x))).poisoned = true :=
    fun x _ => Or.inl (hasSpin_emit_spin x _)
  have hstep : ∀ x : St, Cfg s x → True → PostRdO (fun _ => True)
      (fun x => hasSpin x.obs = true ∨ x.poisoned = true) (fun _ _ => True) (bpStep x now) := by
    intro x _ _
    have ho := bpStep_out x now
    generalize bpStep x now = out at ho ⊢
    cases ho with
    | poisoned2 hp => exact Or.inr hp
    | startPanic id d tr b hp hn hs' hpo => exact Or.inr hpo
    | otherPoisoned hp hn1 hn2 hpo => exact Or.inr hpo
    | _ => trivial
  have hw := requestsPollNext_walk (Q := fun _ _ => True) hI (fun x hx => ⟨hx.2.1.trans hl, hx.2.2.1.trans hel⟩) hspin
    (basePollNext_walk hI hspin hstep) (fun _ _ => trivial)
    ⟨fun _ _ _ _ => trivial, fun _ _ _ _ _ => trivial, fun _ _ _ _ _ _ _ _ => trivial, fun _ _ => trivial⟩
    fuel s ⟨rfl, rfl, rfl, rfl⟩ trivial
  revert hw h
  generalize requestsPollNext fuel s now = p
  obtain ⟨s', r⟩ := p
  intro h hw
  cases h
  exact hw

/-! ## the end of a poll: `yielded`, `ret`, `counts` -/

theorem X_swept {b1 : Book} {S : MV} (l : Option Nat) (h : X rest (bw b1) S)
    (heid : ∀ en ∈ S.ents, ∀ x ∈ S.execs, x.rid = en.rid → x.id = en.id)
    (hidle : ∀ en ∈ S.ents, b1.now < ceilMs en.due * nsPerMs) : X rest (bw (sweptBook b1 l)) S := by
  refine h.sweepG (fun x => x.tick ≤ b1.now) ?_ (fun eb heb hc => h.due_untracked heid b1.now hidle heb hc)
  show (sweptBook b1 l).execs.map wb = _
  rw [swept_execs_eq]
  exact map_ite_comm b1.execs (fun e => e.tick ≤ b1.now) (fun x => x.tick ≤ b1.now) wb (fun e => Iff.rfl)
    (fun e => { e with expiredSeen := true }) (fun x => { x with expiredSeen := true }) (fun e => rfl)

theorem X_ret_aux {b1 : Book} {S : MV} (c : Bool) (h : X rest (bw b1) S)
    (heid : ∀ en ∈ S.ents, ∀ x ∈ S.execs, x.rid = en.rid → x.id = en.id)
    (hidle : c = true → ∀ en ∈ S.ents, b1.now < ceilMs en.due * nsPerMs) :
    X rest (bw (if c then sweptBook b1 (some b1.now) else b1)) S := by
  cases c
  · exact h
  · exact X_swept _ h heid (hidle rfl)

theorem X_step_ret {b : Book} {S : MV} (k : Nat) (r : Ret) (h : X rest (bw b) S)
    (heid : ∀ en ∈ S.ents, ∀ x ∈ S.execs, x.rid = en.rid → x.id = en.id)
    (hidle : (r = .pending ∨ r = .readyNone) → ∀ en ∈ S.ents, b.now < ceilMs en.due * nsPerMs) :
    X rest (bw (b.step (.obs (.ret (.server k) r)))) S := by
  rw [step_ret_eq]
  have hle : ∀ b1 : Book, b1.now = b.now → b1.execs = b.execs → b1.table = b.table → b1.failed = b.failed →
      X rest (bw b1) S := by
    intro b1 h1 h2 h3 h4
    refine h.le ⟨h1, congrArg (List.map wb) h2, fun p hp => ?_, fun hf => ?_⟩
    · show p ∈ b.table
      rw [← h3]; exact hp
    · show b1.failed = true
      rw [h4]; exact hf
  cases r with
  | pending => exact X_ret_aux _ (hle _ rfl rfl rfl rfl) heid (fun _ => hidle (Or.inl rfl))
  | readyNone => exact X_ret_aux _ (hle _ rfl rfl rfl rfl) heid (fun _ => hidle (Or.inr rfl))
  | readyItem => exact X_ret_aux _ (hle _ rfl rfl rfl rfl) heid (fun hc => by simp at hc)
  | readyItemErr a => exact X_ret_aux _ (hle _ rfl rfl rfl rfl) heid (fun hc => by simp at hc)
  | readyOk => exact X_ret_aux _ (hle _ rfl rfl rfl rfl) heid (fun hc => by simp at hc)
  | readyErr a => exact X_ret_aux _ (hle _ rfl rfl rfl rfl) heid (fun hc => by simp at hc)

theorem chk06_irrel (b : Book) (o : Obs) (h1 : ∀ r ev t, o ≠ .handler r ev t) (h2 : ∀ ep m ok, o ≠ .tSend ep m ok) :
    chk06 b o = none :=
  chk06_other b o (fun r t => h1 r .polled t) (fun ep _ _ ok => h2 ep _ ok)

theorem idle_mv {s : St} (ht : TInv now s) (hi : DelayQ.Idle now s.timers) :
    ∀ en ∈ (mv s).ents, now < ceilMs en.due * nsPerMs := by
  intro en hen
  obtain ⟨e0, he0, rfl⟩ := List.mem_map.mp hen
  obtain ⟨c, hc, hk, _⟩ := ht.fwd e0 he0
  have h1 := hi.cores c hc
  rw [ht.tk e0 he0 c hc hk] at h1
  exact h1

theorem mv_yield (s : St) (rid : Nat) (o : Obs) :
    mv (emit (updExec { s with nextVis := s.nextVis + 1 } rid (fun x => { x with vis := some s.nextVis })) o) =
      (mv s).handOut rid := by
  show MV.mk _ _ _ _ _ _ _ = MV.mk _ _ _ _ _ _ _
  congr 1
  show (List.map (fun e' => if e'.rid == rid then { e' with vis := some s.nextVis } else e') s.execs).map ye = _
  simp only [mv, List.map_map]
  refine List.map_congr_left (fun e' _ => ?_)
  show ye (if e'.rid == rid then _ else e') = if (ye e').rid == rid then _ else ye e'
  show ye (if e'.rid == rid then _ else e') = if e'.rid == rid then _ else ye e'
  cases e'.rid == rid <;> rfl

theorem yield_eff {b : Book} {s : St} {rid id : Nat} {e : Exec} (hg : getExec s rid = some e)
    (hK : K now (some (rid, id)) (bview b) (sview s)) :
    e.id = id ∧ (∀ x ∈ (mv s).execs, x.rid = rid → x.vis = none ∧ x.id = id) ∧
    (∀ x ∈ (mv s).execs, x.vis ≠ some s.nextVis) ∧ ∀ eb ∈ (bw b).execs, eb.rid ≠ s.nextVis := by
  obtain ⟨hem, her⟩ := getExec_mem hg
  obtain ⟨_, x0, hx0, hr0, hid0, hv0⟩ := hK.pnd rid id rfl
  have hxe : xe e = x0 := eq_of_rid_nodup hK.ridNodup (List.mem_map_of_mem hem) hx0 (her.trans hr0.symm)
  refine ⟨by rw [← hid0, ← hxe]; rfl, ?_, ?_, ?_⟩
  · intro x hx hxr
    obtain ⟨e', he', rfl⟩ := List.mem_map.mp hx
    have : xe e' = x0 := eq_of_rid_nodup hK.ridNodup (List.mem_map_of_mem he') hx0 (hxr.trans hr0.symm)
    constructor
    · show (xe e').vis = none
      rw [this]; exact hv0
    · show (xe e').id = id
      rw [this]; exact hid0
  · intro x hx hxv
    obtain ⟨e', he', rfl⟩ := List.mem_map.mp hx
    have := hK.visLt (xe e') (List.mem_map_of_mem he') s.nextVis hxv
    exact Nat.lt_irrefl _ this
  · intro eb heb hr
    obtain ⟨e0, he0, rfl⟩ := List.mem_map.mp heb
    have := hK.bLt (xb e0) (List.mem_map_of_mem he0)
    have hr' : (xb e0).rid = s.nextVis := hr
    rw [hr'] at this
    exact Nat.lt_irrefl _ this

theorem NN_yield {s : St} {rid id : Nat} {e : Exec} (hg : getExec s rid = some e) (ht : TInv now s)
    (h : NN b0 now (some (rid, id)) rest s) :
    NN b0 now none rest (emit (updExec { s with nextVis := s.nextVis + 1 } rid (fun x => { x with vis := some s.nextVis }))
      (.yielded s.nextVis e.id e.deadline e.trace)) := by
  obtain ⟨hem, her⟩ := getExec_mem hg
  refine ⟨?_, ⟨h.ck, Or.inr (chk06_irrel _ _ (fun _ _ _ hc => by cases hc) (fun _ _ _ hc => by cases hc))⟩⟩
  show ((bo b0 s.obs).step (.obs (.yielded s.nextVis e.id e.deadline e.trace))).spun = true ∨ _
  refine unspun_or fun hn => ?_
  obtain ⟨hK, hX⟩ := of_unspun h.n (step_unspun hn)
  refine ⟨of_unspun (J_yield hg (Or.inr hK)) hn, ?_⟩
  obtain ⟨hid, hall, hv, hbv⟩ := yield_eff hg hK
  show X rest (bw ((bo b0 s.obs).step (.obs (.yielded s.nextVis e.id e.deadline e.trace)))) _
  rw [mv_yield, bw_step_yielded, hid]
  refine hX.yield rid id e.deadline hall ⟨ye e, List.mem_map_of_mem hem, her⟩ hv hbv (fun en hen hr => ?_)
  obtain ⟨en0, hen0, rfl⟩ := List.mem_map.mp hen
  obtain ⟨c, hc, hk, _⟩ := ht.fwd en0 hen0
  have hok := ht.dl en0 hen0 c hc hk e hem (her.trans hr.symm)
  have hclk : (bw (bo b0 s.obs)).now = now := hK.clk
  rw [hclk]
  exact hok.hi

theorem bo_fin (b0 : Book) (s1 : St) (rt : Ret) (n t : Nat) :
    bo b0 (emit (emit s1 (.ret (tid s1) rt)) (.counts (tid s1) n t)).obs =
      { (bo b0 s1.obs).step (.obs (.ret (tid s1) rt)) with justRead := none, lastCounts := n } := by
  rw [emit_obs, emit_obs, bo_cons, bo_cons]
  exact step_counts _ _ _ _

theorem bw_fin (b : Book) (n : Nat) : bw { b with justRead := none, lastCounts := n } = bw b := rfl

theorem NN_emit_ret {pend : Option (Nat × Nat)} {s : St} (k : Nat) (r : Ret) (h : NN b0 now pend rest s)
    (hidle : (r = .pending ∨ r = .readyNone) → ∀ en ∈ (mv s).ents, now < ceilMs en.due * nsPerMs) :
    NN b0 now pend rest (emit s (.ret (.server k) r)) := by
  refine ⟨?_, ⟨h.ck, Or.inr (chk06_irrel _ _ (fun _ _ _ hc => by cases hc) (fun _ _ _ hc => by cases hc))⟩⟩
  show ((bo b0 s.obs).step (.obs (.ret (.server k) r))).spun = true ∨ _
  refine unspun_or fun hn => ?_
  obtain ⟨hK, hX⟩ := of_unspun h.n (step_unspun hn)
  have hclk : (bo b0 s.obs).now = now := hK.clk
  exact ⟨of_unspun (J_emit_ret k r (Or.inr hK)) hn, X_step_ret (b := bo b0 s.obs) (S := mv s) k r hX (K_eid_mv hK)
    (fun hr en hen => by rw [hclk]; exact hidle hr en hen)⟩

theorem pnd_spun {s : St} {rid id : Nat} (hN : NN b0 now (some (rid, id)) rest s) (he : getExec s rid = none) :
    (bo b0 s.obs).spun = true := by
  refine (unspun_or fun hn => ?_).elim (fun h => h) False.elim
  obtain ⟨_, x0, hx0, hr0, _, _⟩ := (of_unspun hN.n hn).1.pnd rid id rfl
  obtain ⟨e, hem, rfl⟩ := List.mem_map.mp hx0
  unfold getExec at he
  have := List.find?_eq_none.mp he e hem
  simp at this
  exact this hr0

theorem NN_pskFinish {s : St} {r : ReqPoll} (ht : TInv now s) (h : PostRqT b0 now rest (s, r))
    (hsp : r ≠ .spin) (hidle : (r = .pending ∨ r = .none) → DelayQ.Idle now s.timers) :
    NN b0 now none rest (pskFinish s r) := by
  have hfin : ∀ (s1 : St) (rt : Ret), NN b0 now none rest s1 →
      ((rt = .pending ∨ rt = .readyNone) → ∀ en ∈ (mv s1).ents, now < ceilMs en.due * nsPerMs) →
      NN b0 now none rest (emit (emit s1 (.ret (tid s1) rt)) (.counts (tid s1) s1.inflight.length s1.timers.len)) := by
    intro s1 rt h1 hi
    have h2 : NN b0 now none rest (emit s1 (.ret (tid s1) rt)) := NN_emit_ret s1.sidx rt h1 hi
    refine ⟨?_, ⟨h2.ck, Or.inr (chk06_irrel _ _ (fun _ _ _ hc => by cases hc) (fun _ _ _ hc => by cases hc))⟩⟩
    -- the `counts` observation changes nothing the two views read
    unfold N
    rw [bo_fin]
    exact h2.n
  cases r with
  | pending => exact hfin s .pending h (fun _ => idle_mv ht (hidle (Or.inl rfl)))
  | spin => exact absurd rfl hsp
  | none =>
    refine hfin { s with done := some .readyNone } .readyNone
      (NN_qm (s := s) (s' := { s with done := some .readyNone }) (QM.of_eq rfl rfl) h) (fun _ => ?_)
    exact idle_mv (s := s) ht (hidle (Or.inr rfl))
  | err a =>
    refine hfin { s with done := some (.readyItemErr a) } (.readyItemErr a)
      (NN_qm (s := s) (s' := { s with done := some (.readyItemErr a) }) (QM.of_eq rfl rfl) h) nofun
  | item rid =>
    obtain ⟨id, hN⟩ := h
    simp only [pskFinish, pskRet]
    split
    · next e he =>
      exact hfin _ .readyItem (NN_yield he ht hN) nofun
    · next he =>
      refine hfin s .readyItem ?_ nofun
      exact ⟨Or.inl (pnd_spun hN he), hN.ck⟩

/-! ## an idle poll has drained the guard-cancellation queue -/

theorem bpStep_idle_cq (s : St) (now : Nat) (h : (bpStep s now).2 = some .pending ∨ (bpStep s now).2 = some .none) :
    (bpStep s now).1.cancelQ = [] := by
  have key : bpSt s now ≠ .ready → (bpOther (bp3 s now) (bpNx s now)).1.cancelQ = [] := by
    intro hne
    unfold bpSt at hne
    obtain ⟨h12, h3⟩ := combine_not_ready hne
    obtain ⟨h1, _⟩ := combine_not_ready h12
    rw [bpOther_not_ready h3]
    show (tNext (pollExpired (bpCancel s).1 now).1).1.cancelQ = []
    rw [tNext_cancelQ, pollExpired_cancelQ]
    rcases bpCancel_out s with ⟨i, l, _, he⟩ | ⟨hc, he⟩ <;> rw [he] at h1 ⊢
    · exact absurd rfl h1
    · exact hc
  have ho := bpStep_out s now
  generalize bpStep s now = out at *
  cases ho with
  | closed hp hn1 hn2 hpo hc => exact key (by rw [hc]; simp)
  | pending hp hn1 hn2 hpo hc => exact key (by rw [hc]; simp)
  | _ => rcases h with h | h <;> cases h

theorem basePollNext_idle_cq (now fuel : Nat) (s : St) :
    ((basePollNext fuel s now).2 = .pending ∨ (basePollNext fuel s now).2 = .none) →
    (basePollNext fuel s now).1.cancelQ = [] :=
  basePollNext_loop (I := fun _ => True) (Φ := fun s r => (r = .pending ∨ r = .none) → s.cancelQ = [])
    (fun s _ => .of_eq (fun _ => trivial)
      (fun r hr h => bpStep_idle_cq s now (h.imp (fun e => by rw [hr, e]) (fun e => by rw [hr, e]))))
    (fun _ _ => nofun) fuel s trivial

theorem requestsPollNext_idle_cq (now fuel : Nat) (s : St) (hl : s.limit = none) :
    ((requestsPollNext fuel s now).2 = .pending ∨ (requestsPollNext fuel s now).2 = .none) →
    (requestsPollNext fuel s now).1.cancelQ = [] := by
  refine requestsPollNext_loop (I := fun s => s.limit = none) (Φ := fun s r => (r = .pending ∨ r = .none) → s.cancelQ = [])
    (fun s hl => ?_) (fun _ _ => nofun) fuel s hl
  have hrd : rpRd s now = basePollNext (baseFuel s) s now := channelPollNext_none hl now
  unfold IterSpec
  cases hr : (rpStep s now).2 with
  | none =>
    show (rpStep s now).1.limit = none
    rw [(rpStep_idle (Or.inl hr)).2.1]
    exact ((cfg_closed s now).toLoopClosed.rpWr s ⟨rfl, rfl, rfl, rfl⟩).2.1.trans hl
  | some r =>
    intro hi
    have hr' : (rpStep s now).2 = some .pending ∨ (rpStep s now).2 = some .none := by
      rcases hi with rfl | rfl
      · exact Or.inl hr
      · exact Or.inr hr
    obtain ⟨hread, hst, _⟩ := rpStep_idle (Or.inr hr')
    have harm := armRead_cancelQ (rpRd s now).1 (rpRd s now).2
    show (rpStep s now).1.cancelQ = []
    rw [hst, rpWr, (pumpWrite_mv _ _).2, harm]
    rw [hrd] at hread ⊢
    exact basePollNext_idle_cq now _ s hread

/-- a `ret` of the request stream -/
def isRS : Obs → Bool
  | .ret (.server _) _ => true
  | _ => false

theorem isRS_pollQuiet : PollQuiet isRS :=
  ⟨fun _ _ => rfl, fun _ _ _ => rfl, fun _ _ => rfl, fun _ _ => rfl, fun _ _ => rfl, fun _ => rfl, fun _ => rfl, fun _ _ => rfl⟩

/-! ## one poll of the request stream by the application -/

theorem NN_dropServer {pend : Option (Nat × Nat)} {s : St} (h : NN b0 now pend rest s)
    (hd : (bo b0 s.obs).spun = true ∨ (bo b0 s.obs).dropped = true) : NN b0 now pend rest (dropServer s) :=
  NN_ms (extW_dropServer s) (fun hJ => J_dropServer hJ hd) (ms_dropServer s) h

/-- `NN` between ops -/
abbrev NP (b0 : Book) (now : Nat) (rest : List Nat) : St → Prop := Btw fun pend s => NN b0 now pend rest s

theorem requestsPollNext_ends {s s1 : St} {r : ReqPoll} (hf : ClampFits) (hn : now < panicFreeNs) (h0 : s.obs = [])
    (hs : SInv false now s) (hq : QC now s) (hl : s.limit = none) (hcfg : s.throttleAfterRead = false)
    (hel : s.ensureLoop = false)
    (he : requestsPollNext (pollFuel { s with woken := false }) { s with woken := false } now = (s1, r)) :
    hasSpin s1.obs = false ∧ TInv now s1 ∧ (∀ o ∈ s1.obs, ∀ k r', o ≠ .ret (.server k) r') ∧ s1.dropped = s.dropped ∧
      (s1.poisoned = false → r ≠ .spin) ∧ ((r = .pending ∨ r = .none) → DelayQ.Idle now s1.timers ∧ s1.cancelQ = []) := by
  have hs0 : SInv false now { s with woken := false } := (sinv_closed false now).inert s _ (by constructor <;> rfl) hs
  have hns : NS s := by unfold NS; rw [h0]; rfl
  have h1 := NS_requestsPollNext now (pollFuel { s with woken := false }) { s with woken := false }
    (by unfold pollFuel; simp only; omega) (NS_of_obs hns rfl) hcfg hel
  have hidle := requestsPollNext_idle_timers hf hn (pollFuel { s with woken := false }) { s with woken := false } hl
    (hq.of_timers rfl)
  have hicq := requestsPollNext_idle_cq now (pollFuel { s with woken := false }) { s with woken := false } hl
  have hspin := requestsPollNext_spin now (pollFuel { s with woken := false }) { s with woken := false } hl hel
  have ht1 := ((sinv_closed false now).requestsPollNext (pollFuel { s with woken := false }) { s with woken := false } hs0).t
  have hdd := (dd_closed s.done s.dropped now).requestsPollNext (pollFuel { s with woken := false })
    { s with woken := false } ⟨rfl, rfl⟩
  have hflt := flt_requestsPollNext isRS_pollQuiet now (pollFuel { s with woken := false }) { s with woken := false }
  rw [he] at h1 hidle hicq hspin ht1 hdd hflt
  refine ⟨h1, ht1, fun o ho k r' hc => ?_, hdd.2, fun hpo hr => ?_, fun hr => ⟨hidle hr, hicq hr⟩⟩
  · have : o ∈ s1.obs.filter isRS := List.mem_filter.mpr ⟨ho, by rw [hc]; rfl⟩
    rw [show s1.obs.filter isRS = _ from hflt, show ({ s with woken := false } : St).obs = [] from h0] at this
    cases this
  · rcases hspin hr with h2 | h2
    · rw [show hasSpin s1.obs = false from h1] at h2; cases h2
    · rw [hpo] at h2; cases h2

theorem PostRq.at {S S' : St → Prop} {Q Q' : Option (Nat × Nat) → St → Prop} {p : St × ReqPoll} (h : PostRq S Q p)
    (hS : p.2 = .spin → S p.1 → S' p.1) (hQ : ∀ pend, Q pend p.1 → Q' pend p.1) : PostRq S' Q' p := by
  obtain ⟨s, r⟩ := p
  cases r with
  | item rid => obtain ⟨id, h⟩ := h; exact ⟨id, hQ _ h⟩
  | spin => exact hS rfl h
  | _ => exact hQ _ h

theorem NN_pollServer {s : St} (hf : ClampFits) (hn : now < panicFreeNs) (h0 : s.obs = []) (hs : SInv false now s)
    (hq : QC now s) (hdd : DoneDropped s) (h : NP b0 now rest s) (hl : s.limit = none)
    (hcfg : s.throttleAfterRead = false) (hel : s.ensureLoop = false) : NP b0 now rest (pollServer s now) := by
  have hfin : ∀ (s1 : St) r, requestsPollNext (pollFuel { s with woken := false }) { s with woken := false } now = (s1, r) →
      s1.poisoned = false → PostRqT b0 now rest (s1, r) → NN b0 now none rest (pskFinish s1 r) := fun s1 r he hpo hp => by
    obtain ⟨_, ht1, _, _, hsp, hidle⟩ := requestsPollNext_ends hf hn h0 hs hq hl hcfg hel he
    exact NN_pskFinish ht1 hp (hsp hpo) (fun hr => (hidle hr).1)
  refine pollServer_walkR (R := fun pend s => NN b0 now pend rest s) hdd (fun _ h => NN_qm (QM.emit s _ rfl rfl) h)
    (fun _ h => NN_requestsPollNext _ _ ((sinv_closed false now).inert s _ (by constructor <;> rfl) hs)
      (NN_qm (s := s) (QM.of_eq rfl rfl) h) hl hel)
    (fun s1 r he _ h1 => ?_) (fun s1 r he _ => hfin s1 r he) (fun s1 r he _ hpo hr hp => ?_)
    (fun _ s' h => NN_qm (s := s') (QM.of_eq rfl rfl) h) h
  · rw [(requestsPollNext_ends hf hn h0 hs hq hl hcfg hel he).1] at h1; cases h1
  · exact NN_dropServer (hfin s1 r he hpo hp) ((J_pskFinish (hp.imp (fun _ h => h.n.toJ) (fun _ _ h => h.n.toJ))).2 hr)

end TarpcModel.Server.Tab
