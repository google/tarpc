import TarpcModel.Client.Run
import TarpcModel.Lemmas.ClientFrames
import TarpcModel.Lemmas.DelayQInv
/-
Shared invariants of the client model (`Client/Model.lean`, `Client/Run.lean`).

* `StInv s now` (= `Inv' none none s now`): the state invariant at virtual time `now`, a conjunction of
  - `TInv`  — in-flight table ↔ armed timers (bound, `DelayQ.WF`/`Timely`, every entry has its timer and
              `deadline ≤ whenMs * 1e6 + remainder` — the armed timer plus the part of the time until the deadline
              that `clampTimeout` cut off and `poll_expired` re-arms later —, every timer has its entry);
  - `IdInv` — request ids queued or in flight are pairwise distinct and `< nextId`;
  - `CInv`  — call ids (`cid`) are unique, request ids of live/resolved polled calls are distinct and `< nextId`, a
              oneshot / outcome holding `DeadlineExceeded` implies the call's deadline has passed;
  - `RInv`  — a call still waiting for its permit has not been enqueued; queued / in-flight requests carry the deadline
              of their call;
  - `OInv`  — every observation emitted so far is `ObsGood` at `now` (counts within bound and equal; only the
              `DelayQueue::insert` range panic, and — if the clamp fits the queue's range, `ClampFits` — only at or
              after `panicFreeNs` = 2^35 ms; `resolved … DeadlineExceeded t` only with `deadline ≤ t ≤ now`).
  `Inv' x b` generalises it for use *inside* a poll: `x = some cid` while call `cid` is in its first poll (it already
  owns a request id although its phase still says `notPolled`), `b = some f` to assert that the state's `frame`
  (calls' `(cid, ctx)`, `maxInFlight`, handles) still equals `f`.
* `Quiet s s'`: `s'` differs from `s` only in fields the invariant does not read; `Inv'.quiet` transfers the invariant.
  One `quiet_f` lemma per model function that only wakes tasks / talks to the transport / moves permits.
* `Inv'.step`: every action of the dispatch (`Step`, `Lemmas/ClientSteps.lean`) keeps the invariant, from the table
  operations (`Step.of_quiet`); one preservation lemma `Inv'.f` per function of the call future and per op, up to
  `Inv'.applyOp`; `inv_reach`, `inv_stepOp`, `obs_stepOp`, `applyOp_frame`, `stepOp_frame`, `maxInFlight_reach` lift them
  to scripts; `advSum ops` (the sum of a script's `advance` amounts) is the clock of the state it reaches (`now_reach`).
* `StInv`, `SFrame`, … carry these names (not `Inv`, `Frame`, …) so that this family can be
  imported together with `Lemmas/ClientIds.lean` … (`Lemmas/ClientPanic.lean` does).
  (`callSig` here is the calls' `(cid, ctx)` list, `Flow.callSig` one call's `(cid, phase)`.)
-/
namespace TarpcModel.Client
open TarpcModel.DelayQ

/-! ### the clamped timeout -/

/-- `MAX_DEADLINE_TIMEOUT` in ns (meaningful when `Gen.clientTimerClampSecs ≠ 0`). -/
def clampNs : Nat := Gen.clientTimerClampSecs * 1000000000

theorem clampTimeout_le_self (t : Nat) : clampTimeout t ≤ t := by
  unfold clampTimeout; split
  · exact Nat.le_refl _
  · exact Nat.min_le_left _ _

/-- `insert_request` arms the timer with a clamped timeout and keeps the rest as the entry's `remainder`: together
they reach the deadline. -/
theorem deadline_le_arm (now d : Nat) :
    d ≤ now + clampTimeout (d - now) + ((d - now) - clampTimeout (d - now)) := by
  have := clampTimeout_le_self (d - now); omega

/-! ### observations -/

/-- From this instant on the `DelayQueue::insert` range check can fail (2^35 ms, in ns). -/
def panicFreeNs : Nat := 2 ^ 35 * nsPerMs

/-- The clamp is active and small enough for the `DelayQueue` range: `now_ms + clamp_ms + 1 ≤ 2^36 - 1` for
`now < 2^35 ms`.  (A `decide`-able fact about the generated constant; proved where it is used.) -/
def ClampFits : Prop :=
  Gen.clientTimerClampSecs ≠ 0 ∧ Gen.clientTimerClampSecs * 1000 + 2 ^ 35 + 1 ≤ delayQMaxMs

instance : Decidable ClampFits := by unfold ClampFits; exact inferInstance

/-- What the invariant promises about each observation emitted so far (`m` = `max_in_flight_requests`, `now` = the
virtual clock): `counts` are within the bound and agree, the only panic site ever reached is the `DelayQueue::insert`
range check — and, if the clamp fits the queue's range (`ClampFits`), not before `panicFreeNs` —, and a
`DeadlineExceeded` resolution carries a time (not in the future) not before the deadline of the call. -/
def ObsGood (m : Nat) (calls : List Call) (now : Nat) : Obs → Prop
  | .counts _ i t => i ≤ m ∧ i = t
  | .panic _ site => site = "DelayQueue::insert: invalid deadline" ∧ (ClampFits → panicFreeNs ≤ now)
  | .resolved cid o t => o = .deadline → ∃ c ∈ calls, c.cid = cid ∧ c.ctx.deadline ≤ t ∧ t ≤ now
  | _ => True

theorem ObsGood.mono {m : Nat} {calls : List Call} {now now' : Nat} {o : Obs} (h : ObsGood m calls now o)
    (hle : now ≤ now') : ObsGood m calls now' o := by
  cases o <;> try exact h
  · rename_i cid oc t
    intro hd
    obtain ⟨c, hc, h1, h2, h3⟩ := h hd
    exact ⟨c, hc, h1, h2, Nat.le_trans h3 hle⟩
  · exact ⟨h.1, fun hf => Nat.le_trans (h.2 hf) hle⟩

/-- Observations the invariant says nothing about. -/
def Harmless : Obs → Prop
  | .counts _ _ _ => False
  | .panic _ _ => False
  | .resolved _ o _ => o ≠ .deadline
  | _ => True

theorem Harmless.good {o : Obs} (h : Harmless o) (m : Nat) (calls : List Call) (now : Nat) : ObsGood m calls now o := by
  cases o <;> simp_all [Harmless, ObsGood]

/-! ### steps that do not touch what the invariant talks about -/

/-- the part of a call future the invariant talks about -/
def callCore (c : Call) : Nat × Ctx × Phase × Nat × Option Outcome × Option Outcome :=
  (c.cid, c.ctx, c.phase, c.id, c.os.val, c.outcome)

structure TimersSame (q q' : DelayQ) : Prop where
  entries : q'.entries = q.entries
  expired : q'.expired = q.expired
  nextKey : q'.nextKey = q.nextKey
  wheelElapsed : q'.wheelElapsed = q.wheelElapsed
  wheelNow : q'.wheelNow = q.wheelNow

theorem TimersSame.refl (q : DelayQ) : TimersSame q q := ⟨rfl, rfl, rfl, rfl, rfl⟩
theorem TimersSame.trans {a b c : DelayQ} (h1 : TimersSame a b) (h2 : TimersSame b c) : TimersSame a c :=
  ⟨h2.entries.trans h1.entries, h2.expired.trans h1.expired, h2.nextKey.trans h1.nextKey,
   h2.wheelElapsed.trans h1.wheelElapsed, h2.wheelNow.trans h1.wheelNow⟩

/-- `s'` differs from `s` only in fields the invariant does not read (wakers, permits, the transport, …), in the
non-core part of calls, and by harmless observations. -/
structure Quiet (s s' : St) : Prop where
  maxInFlight : s'.maxInFlight = s.maxInFlight
  inflight : s'.inflight = s.inflight
  timers : TimersSame s.timers s'.timers
  nextId : s'.nextId = s.nextId
  pq : s'.pq = s.pq
  calls : s'.calls.map callCore = s.calls.map callCore
  obs : ∀ o ∈ s'.obs, o ∈ s.obs ∨ Harmless o
  handles : s'.handles = s.handles
  nextHandle : s'.nextHandle = s.nextHandle

theorem Quiet.refl (s : St) : Quiet s s :=
  ⟨rfl, rfl, TimersSame.refl _, rfl, rfl, rfl, fun _ h => Or.inl h, rfl, rfl⟩

theorem Quiet.trans {a b c : St} (h1 : Quiet a b) (h2 : Quiet b c) : Quiet a c :=
  ⟨h2.maxInFlight.trans h1.maxInFlight, h2.inflight.trans h1.inflight, h1.timers.trans h2.timers,
   h2.nextId.trans h1.nextId, h2.pq.trans h1.pq, h2.calls.trans h1.calls,
   fun o h => (h2.obs o h).elim (fun h' => h1.obs o h') Or.inr, h2.handles.trans h1.handles,
   h2.nextHandle.trans h1.nextHandle⟩

/-- an update of fields the invariant does not read (the timer queue may differ in its waker): every hypothesis is found
by `rfl` -/
theorem Quiet.of_same {s s' : St} (m : s'.maxInFlight = s.maxInFlight := by rfl) (inf : s'.inflight = s.inflight := by rfl)
    (tm : TimersSame s.timers s'.timers := by exact ⟨rfl, rfl, rfl, rfl, rfl⟩) (nid : s'.nextId = s.nextId := by rfl)
    (pq : s'.pq = s.pq := by rfl) (calls : s'.calls = s.calls := by rfl) (obs : s'.obs = s.obs := by rfl)
    (h : s'.handles = s.handles := by rfl) (nh : s'.nextHandle = s.nextHandle := by rfl) : Quiet s s' :=
  ⟨m, inf, tm, nid, pq, by rw [calls], fun o ho => Or.inl (obs ▸ ho), h, nh⟩

theorem quiet_emit (s : St) {o : Obs} (h : Harmless o) : Quiet s (emit s o) :=
  ⟨rfl, rfl, TimersSame.refl _, rfl, rfl, rfl, fun o' h' => by
    simp only [emit, List.mem_cons] at h'
    rcases h' with rfl | h'
    · exact Or.inr h
    · exact Or.inl h', rfl, rfl⟩

theorem Quiet.emit {a b : St} (h : Quiet a b) {o : Obs} (ho : Harmless o) : Quiet a (emit b o) :=
  h.trans (quiet_emit b ho)

theorem quiet_foldl {α : Type} (f : St → α → St) (hf : ∀ s a, Quiet s (f s a)) (l : List α) (s : St) :
    Quiet s (l.foldl f s) := by
  induction l generalizing s with
  | nil => exact Quiet.refl s
  | cons a l ih => exact (hf s a).trans (ih _)

theorem quiet_wakeDispatch (s : St) : Quiet s (wakeDispatch s) := by
  rcases Flow.wakeDispatch_out s with ⟨_, e⟩ | ⟨_, e⟩ <;> rw [e]
  · exact Quiet.refl s
  · exact Quiet.trans (by exact .of_same) (quiet_emit _ (by simp [Harmless]))

theorem quiet_updCall (s : St) (cid : Nat) (f : Call → Call) (hf : ∀ c, callCore (f c) = callCore c) :
    Quiet s (updCall s cid f) := by
  refine ⟨rfl, rfl, TimersSame.refl _, rfl, rfl, ?_, fun o h => Or.inl h, rfl, rfl⟩
  simp only [updCall, List.map_map]
  apply List.map_congr_left
  intro c _
  simp only [Function.comp]
  split
  · exact hf c
  · rfl

theorem quiet_wakeCall (s : St) (cid : Nat) : Quiet s (wakeCall s cid) := by
  rcases Flow.wakeCall_out s cid with ⟨_, _, _, e⟩ | ⟨_, e⟩ <;> rw [e]
  · exact Quiet.emit (quiet_updCall s cid _ (by intro c; rfl)) (by simp [Harmless])
  · exact Quiet.refl s

theorem quiet_osDropTx (s : St) (cid : Nat) : Quiet s (osDropTx s cid) := by
  rcases Flow.osDropTx_out s cid with ⟨_, e⟩ | ⟨_, _, _, e⟩ <;> rw [e]
  · exact Quiet.refl s
  · split
    · exact (quiet_updCall s cid _ (by intro c; rfl)).trans (quiet_wakeCall _ _)
    · exact quiet_updCall s cid _ (by intro c; rfl)

theorem quiet_pqRelease (s : St) : Quiet s (pqRelease s) := by
  rcases Flow.pqRelease_out s with ⟨_, _, _, e⟩ | ⟨_, e⟩ <;> rw [e]
  · exact Quiet.trans (by exact .of_same) (quiet_wakeCall _ _)
  · exact .of_same

theorem quiet_pqClose (s : St) : Quiet s (pqClose s) := by
  unfold pqClose
  exact Quiet.trans (by exact .of_same) (quiet_foldl wakeCall quiet_wakeCall _ _)

theorem quiet_cqPush (s : St) (id : Nat) : Quiet s (cqPush s id) := by
  unfold cqPush
  split
  · exact Quiet.refl s
  · simp only
    split
    · exact Quiet.trans (by exact .of_same) (quiet_wakeDispatch _)
    · exact .of_same

theorem quiet_cqRecv (s : St) : Quiet s (cqRecv s).1 := by
  rcases Flow.cqRecv_out s with ⟨_, _, _, e⟩ | ⟨_, e, _⟩ | ⟨_, e⟩ <;> rw [e]
  · exact .of_same
  · exact Quiet.refl s
  · exact .of_same

theorem quiet_emitViolations (s : St) (n : Nat) : Quiet s (emitViolations s n) := by
  unfold emitViolations
  exact quiet_foldl _ (fun s w => quiet_emit s (by simp [Harmless])) _ _

theorem quiet_t (s : St) (t : SimT) : Quiet s { s with t := t } := by exact .of_same

theorem quiet_tEmit (s : St) (t' : SimT) {o : Obs} (w : Bool) (ho : Harmless o) : Quiet s (Flow.tEmit s t' o w) := by
  have h1 : Quiet s (emit (emitViolations { s with t := t' } s.t.violations.length) o) :=
    ((quiet_t s t').trans (quiet_emitViolations _ _)).emit ho
  unfold Flow.tEmit; dsimp only; split
  · exact h1.trans (quiet_wakeDispatch _)
  · exact h1

theorem quiet_tReady (s : St) : Quiet s (tReady s).1 := by
  rw [Flow.tReady_eq]; exact quiet_tEmit _ _ _ (by simp [Harmless])

theorem quiet_tFlush (s : St) : Quiet s (tFlush s).1 := by
  rw [Flow.tFlush_eq]; exact quiet_tEmit _ _ _ (by simp [Harmless])

theorem quiet_tClose (s : St) : Quiet s (tClose s).1 := by
  rw [Flow.tClose_eq]; exact quiet_tEmit _ _ _ (by simp [Harmless])

theorem quiet_tSend (s : St) (m : Msg) : Quiet s (tSend s m).1 := by
  rw [Flow.tSend_eq]; exact quiet_tEmit s _ (o := .tSend (tid s) m _) false trivial

theorem quiet_tNext (s : St) : Quiet s (tNext s).1 := by
  unfold tNext
  split
  · exact Quiet.refl s
  · generalize s.t.pollNext = p
    obtain ⟨t, r⟩ := p
    simp only
    have h1 : Quiet s (emit { s with t := t } (.tNext (tid s) r)) :=
      Quiet.trans (by exact .of_same) (quiet_emit _ (by simp [Harmless]))
    split
    · exact h1.trans (by exact .of_same)
    · exact h1

theorem quiet_guardClose (s : St) (cid : Nat) : Quiet s (guardClose s cid) :=
  quiet_updCall s cid _ (by intro c; rfl)

theorem quiet_wakePq (s : St) :
    Quiet s (if s.pqRxWaker = true then wakeDispatch { s with pqRxWaker := false } else s) := by
  split
  · exact Quiet.trans (by exact .of_same) (quiet_wakeDispatch _)
  · exact Quiet.refl s

theorem quiet_wakeCq (s : St) :
    Quiet s (if s.cqRxWaker = true then wakeDispatch { s with cqRxWaker := false } else s) := by
  split
  · exact Quiet.trans (by exact .of_same) (quiet_wakeDispatch _)
  · exact Quiet.refl s

theorem quiet_afterCallGone (s : St) : Quiet s (afterCallGone s) := by
  unfold afterCallGone
  split
  · exact (quiet_wakePq s).trans (quiet_wakeCq _)
  · exact Quiet.refl s

theorem quiet_liftT (s : St) (r : SimT × Bool) : Quiet s (liftT s r) := by
  unfold liftT
  simp only
  split
  · exact Quiet.trans (by exact .of_same) (quiet_wakeDispatch _)
  · exact .of_same

theorem quiet_onAdvance (s : St) (now : Nat) : Quiet s (onAdvance s now) := by
  unfold onAdvance
  split
  · split
    · exact Quiet.trans (by exact .of_same) (quiet_wakeDispatch _)
    · exact Quiet.refl s
  · exact Quiet.refl s

theorem quiet_dropPre (s : St) (cid : Nat) : Quiet s (dropPre s cid) := by
  unfold dropPre
  split
  · exact Quiet.refl s
  · split
    · simp only
      have h1 : Quiet s (if s.pqAssigned.contains cid = true then
          pqRelease { s with pqAssigned := s.pqAssigned.filter (· != cid), pqWaiters := s.pqWaiters.filter (· != cid) }
          else { s with pqAssigned := s.pqAssigned.filter (· != cid), pqWaiters := s.pqWaiters.filter (· != cid) }) := by
        split
        · exact Quiet.trans (by exact .of_same) (quiet_pqRelease _)
        · exact .of_same
      exact h1.trans (quiet_osDropTx _ _)
    · exact Quiet.refl s

theorem quiet_dropClose (s : St) (cid : Nat) : Quiet s (dropClose s cid) := by
  unfold dropClose
  split
  · exact Quiet.refl s
  · split
    · exact quiet_guardClose s cid
    · exact quiet_guardClose s cid
    · exact Quiet.refl s

theorem quiet_dropCancel (s : St) (cid : Nat) : Quiet s (dropCancel s cid) := by
  unfold dropCancel
  split
  · exact Quiet.refl s
  · split
    · exact quiet_cqPush s _
    · exact quiet_cqPush s _
    · exact Quiet.refl s

/-! ### the invariant -/

/-- The in-flight table and the armed timers agree (`m` = `max_in_flight_requests`). -/
structure TInv (m : Nat) (inf : List Entry) (q : DelayQ) (now : Nat) : Prop where
  bound : inf.length ≤ m
  wf : q.WF
  timely : q.Timely now
  /-- every entry has its timer, armed for its id; the timer and the `remainder` still to be armed reach the deadline
  (follows from `due`; the form the never-early half uses) -/
  e2t : ∀ en ∈ inf, ∃ w, q.Has en.timerKey en.id w ∧ en.ctx.deadline ≤ w * nsPerMs + en.remainder
  /-- every timer belongs to an entry -/
  t2e : ∀ k v w, q.Has k v w → ∃ en ∈ inf, en.timerKey = k ∧ en.id = v
  /-- the entry's exact due time (`timer_due`): with the remainder it reaches the deadline, and no more than
  `max deadline now` (it is `max deadline (time of insertion)`, constant across re-arms); the armed timer is its
  millisecond ceiling -/
  due : ∀ en ∈ inf, ∀ w, q.Has en.timerKey en.id w →
    en.ctx.deadline ≤ en.dueAt + en.remainder ∧ en.dueAt + en.remainder ≤ max en.ctx.deadline now ∧
    en.dueAt ≤ w * nsPerMs ∧ w * nsPerMs < en.dueAt + nsPerMs

/-- Request ids queued or in flight are pairwise distinct and were all handed out already. -/
structure IdInv (pq : List DReq) (inf : List Entry) (nextId : Nat) : Prop where
  nodup : (pq.map (·.id) ++ inf.map (·.id)).Nodup
  pqLt : ∀ r ∈ pq, r.id < nextId
  inLt : ∀ en ∈ inf, en.id < nextId

/-- The call has been given its request id (`x`: a call that is in the middle of its first poll). -/
def Assigned (x : Option Nat) (c : Call) : Prop :=
  c.phase = .reserving ∨ c.phase = .awaiting ∨ c.phase = .resolved ∨ x = some c.cid

/-- The call holds a request id that has not been enqueued yet. -/
def Waiting (x : Option Nat) (c : Call) : Prop := c.phase = .reserving ∨ (c.phase = .notPolled ∧ x = some c.cid)

structure CInv (x : Option Nat) (calls : List Call) (nextId now : Nat) : Prop where
  cidLt : ∀ c ∈ calls, c.cid < calls.length
  cidNodup : (calls.map (·.cid)).Nodup
  idLt : ∀ c ∈ calls, Assigned x c → c.id < nextId
  idInj : ∀ c1 ∈ calls, ∀ c2 ∈ calls, Assigned x c1 → Assigned x c2 → c1.id = c2.id → c1.cid = c2.cid
  osDl : ∀ c ∈ calls, c.os.val = some .deadline → c.ctx.deadline ≤ now
  outDl : ∀ c ∈ calls, c.outcome = some .deadline → c.ctx.deadline ≤ now

structure RInv (x : Option Nat) (calls : List Call) (pq : List DReq) (inf : List Entry) : Prop where
  /-- a call still waiting for its permit has not been enqueued -/
  resv : ∀ c ∈ calls, Waiting x c → (∀ r ∈ pq, r.id ≠ c.id) ∧ (∀ en ∈ inf, en.id ≠ c.id)
  /-- a queued request belongs to a call and carries its deadline -/
  pqCtx : ∀ r ∈ pq, ∃ c ∈ calls, c.cid = r.cid ∧ r.ctx.deadline = c.ctx.deadline
  inCtx : ∀ en ∈ inf, ∃ c ∈ calls, c.cid = en.cid ∧ en.ctx.deadline = c.ctx.deadline

def OInv (m : Nat) (calls : List Call) (now : Nat) (obs : List Obs) : Prop := ∀ o ∈ obs, ObsGood m calls now o

/-- the `(cid, ctx)` pairs of the calls -/
def callSig (l : List Call) : List (Nat × Ctx) := l.map (fun c => (c.cid, c.ctx))

/-- What a poll of a task never changes: which calls exist (with the context their caller gave them),
`max_in_flight_requests`, and the live handles. -/
abbrev SFrame := List (Nat × Ctx) × Nat × List Nat × Nat

def frame (s : St) : SFrame := (callSig s.calls, s.maxInFlight, s.handles, s.nextHandle)

/-- An optional snapshot of the frame, used to relate two states. -/
abbrev Snap := Option SFrame

/-- The client invariant at virtual time `now`; `x` names a call that is in the middle of its first poll
(`none` between polls), `b` is a snapshot of the frame the state still agrees with (`none` = nothing recorded). -/
structure Inv' (x : Option Nat) (b : Snap) (s : St) (now : Nat) : Prop where
  fr : ∀ f, b = some f → frame s = f
  t : TInv s.maxInFlight s.inflight s.timers now
  i : IdInv s.pq s.inflight s.nextId
  c : CInv x s.calls s.nextId now
  r : RInv x s.calls s.pq s.inflight
  o : OInv s.maxInFlight s.calls now s.obs

abbrev StInv (s : St) (now : Nat) : Prop := Inv' none none s now

/-! ### transfer along `Quiet` -/

theorem callSig_of_core {l l' : List Call} (h : l'.map callCore = l.map callCore) : callSig l' = callSig l := by
  have := congrArg (List.map (fun p : Nat × Ctx × Phase × Nat × Option Outcome × Option Outcome => (p.1, p.2.1))) h
  simpa [callSig, List.map_map, Function.comp_def, callCore] using this

theorem Quiet.frame {s s' : St} (hq : Quiet s s') : frame s' = frame s := by
  simp only [Client.frame, callSig_of_core hq.calls, hq.maxInFlight, hq.handles, hq.nextHandle]

theorem callSig_mem {l : List Call} {c : Call} (hc : c ∈ l) : (c.cid, c.ctx) ∈ callSig l :=
  List.mem_map_of_mem (f := fun c : Call => (c.cid, c.ctx)) hc

theorem mem_of_callSig {l l' : List Call} (h : callSig l' = callSig l) {c : Call} (hc : c ∈ l) :
    ∃ c' ∈ l', c'.cid = c.cid ∧ c'.ctx = c.ctx := by
  have := callSig_mem hc
  rw [← h] at this
  obtain ⟨c', hc', he⟩ := List.mem_map.mp this
  simp only [Prod.mk.injEq] at he
  exact ⟨c', hc', he.1, he.2⟩

theorem core_mem {l l' : List Call} (h : l'.map callCore = l.map callCore) {c' : Call} (hc : c' ∈ l') :
    ∃ c ∈ l, c.cid = c'.cid ∧ c.ctx = c'.ctx ∧ c.phase = c'.phase ∧ c.id = c'.id ∧ c.os.val = c'.os.val ∧
      c.outcome = c'.outcome := by
  have : callCore c' ∈ l.map callCore := by rw [← h]; exact List.mem_map_of_mem hc
  obtain ⟨c, hc, he⟩ := List.mem_map.mp this
  simp only [callCore, Prod.mk.injEq] at he
  exact ⟨c, hc, he⟩

/-- An update `c ↦ c'` of a call future that the invariant tolerates at time `now`. -/
structure CallOK (x : Option Nat) (now : Nat) (c c' : Call) : Prop where
  cid : c'.cid = c.cid
  ctx : c'.ctx = c.ctx
  id : c'.id = c.id
  asg : Assigned x c' → Assigned x c
  wait : Waiting x c' → Waiting x c
  os : c'.os.val = some .deadline → c.os.val = some .deadline ∨ c.ctx.deadline ≤ now
  out : c'.outcome = some .deadline → c.outcome = some .deadline ∨ c.ctx.deadline ≤ now

theorem CallOK.refl (x : Option Nat) (now : Nat) (c : Call) : CallOK x now c c :=
  ⟨rfl, rfl, rfl, fun h => h, fun h => h, Or.inl, Or.inl⟩

theorem ObsGood.transfer {m m' now : Nat} {l l' : List Call} {o : Obs} (h : ObsGood m l now o) (hm : m' = m)
    (hc : ∀ c ∈ l, ∃ c' ∈ l', c'.cid = c.cid ∧ c'.ctx = c.ctx) : ObsGood m' l' now o := by
  subst hm
  cases o <;> try exact h
  rename_i cid oc t
  intro hd
  obtain ⟨c, hmem, e1, e2⟩ := h hd
  obtain ⟨c', hm', f1, f2⟩ := hc c hmem
  exact ⟨c', hm', by rw [f1]; exact e1, by rw [f2]; exact e2⟩

theorem CInv.sim {x : Option Nat} {l l' : List Call} {n now : Nat} (h : CInv x l n now) (hsig : callSig l' = callSig l)
    (hfw : ∀ c' ∈ l', ∃ c ∈ l, CallOK x now c c') : CInv x l' n now := by
  have hlen : l'.length = l.length := by simpa [callSig] using congrArg List.length hsig
  have hcid : l'.map (·.cid) = l.map (·.cid) := by
    simpa [callSig, List.map_map, Function.comp_def] using congrArg (List.map (·.1)) hsig
  refine ⟨?_, hcid ▸ h.cidNodup, ?_, ?_, ?_, ?_⟩
  · intro c' hc'
    obtain ⟨c, hc, ok⟩ := hfw c' hc'
    rw [hlen, ok.cid]; exact h.cidLt c hc
  · intro c' hc' ha
    obtain ⟨c, hc, ok⟩ := hfw c' hc'
    rw [ok.id]; exact h.idLt c hc (ok.asg ha)
  · intro c1' h1' c2' h2' a1 a2 hid
    obtain ⟨c1, h1, ok1⟩ := hfw c1' h1'
    obtain ⟨c2, h2, ok2⟩ := hfw c2' h2'
    rw [ok1.cid, ok2.cid]
    exact h.idInj c1 h1 c2 h2 (ok1.asg a1) (ok2.asg a2) (by rw [← ok1.id, ← ok2.id]; exact hid)
  · intro c' hc' hv
    obtain ⟨c, hc, ok⟩ := hfw c' hc'
    rw [ok.ctx]
    exact (ok.os hv).elim (h.osDl c hc) id
  · intro c' hc' hv
    obtain ⟨c, hc, ok⟩ := hfw c' hc'
    rw [ok.ctx]
    exact (ok.out hv).elim (h.outDl c hc) id

theorem RInv.sim {x : Option Nat} {l l' : List Call} {pq : List DReq} {inf : List Entry} {now : Nat}
    (h : RInv x l pq inf) (hsig : callSig l' = callSig l) (hfw : ∀ c' ∈ l', ∃ c ∈ l, CallOK x now c c') :
    RInv x l' pq inf := by
  refine ⟨?_, ?_, ?_⟩
  · intro c' hc' hw
    obtain ⟨c, hc, ok⟩ := hfw c' hc'
    rw [ok.id]; exact h.resv c hc (ok.wait hw)
  · intro r hr
    obtain ⟨c, hm, e1, e2⟩ := h.pqCtx r hr
    obtain ⟨c', hm', f1, f2⟩ := mem_of_callSig hsig hm
    exact ⟨c', hm', f1.trans e1, e2.trans (congrArg Ctx.deadline f2).symm⟩
  · intro en hen
    obtain ⟨c, hm, e1, e2⟩ := h.inCtx en hen
    obtain ⟨c', hm', f1, f2⟩ := mem_of_callSig hsig hm
    exact ⟨c', hm', f1.trans e1, e2.trans (congrArg Ctx.deadline f2).symm⟩

theorem Inv'.sim {x : Option Nat} {b : Snap} {s s' : St} {now : Nat} (h : Inv' x b s now)
    (hm : s'.maxInFlight = s.maxInFlight) (hi : s'.inflight = s.inflight)
    (ht : TInv s.maxInFlight s.inflight s'.timers now) (hn : s'.nextId = s.nextId) (hp : s'.pq = s.pq)
    (ho : ∀ o ∈ s'.obs, o ∈ s.obs ∨ Harmless o) (hh : s'.handles = s.handles) (hnh : s'.nextHandle = s.nextHandle)
    (hsig : callSig s'.calls = callSig s.calls) (hfw : ∀ c' ∈ s'.calls, ∃ c ∈ s.calls, CallOK x now c c') :
    Inv' x b s' now := by
  have hfr : frame s' = frame s := by simp only [Client.frame, hsig, hm, hh, hnh]
  refine ⟨fun f hf => hfr.trans (h.fr f hf), ?_, ?_, ?_, ?_, ?_⟩
  · rw [hm, hi]; exact ht
  · rw [hp, hi, hn]; exact h.i
  · rw [hn]; exact h.c.sim hsig hfw
  · rw [hp, hi]; exact h.r.sim hsig hfw
  · intro o ho'
    rcases ho o ho' with h1 | h1
    · exact (h.o o h1).transfer hm (fun c hc => mem_of_callSig hsig hc)
    · exact h1.good _ _ _

theorem TInv.same {m : Nat} {inf : List Entry} {q q' : DelayQ} {now : Nat} (h : TInv m inf q now)
    (hq : TimersSame q q') : TInv m inf q' now := by
  have hh := has_of_fields hq.entries hq.expired
  refine ⟨h.bound, wf_of_fields h.wf hq.entries hq.expired hq.nextKey hq.wheelElapsed,
    timely_of_fields h.timely hq.expired hq.wheelElapsed hq.wheelNow, ?_, ?_, ?_⟩
  · intro en hen
    obtain ⟨w, h1, h2⟩ := h.e2t en hen
    exact ⟨w, (hh _ _ _).mpr h1, h2⟩
  · intro k v w hk
    exact h.t2e k v w ((hh _ _ _).mp hk)
  · intro en hen w hw
    exact h.due en hen w ((hh _ _ _).mp hw)

theorem Inv'.quiet {x : Option Nat} {b : Snap} {s s' : St} {now : Nat} (h : Inv' x b s now) (hq : Quiet s s') :
    Inv' x b s' now := by
  refine h.sim hq.maxInFlight hq.inflight (h.t.same hq.timers) hq.nextId hq.pq hq.obs hq.handles hq.nextHandle
    (callSig_of_core hq.calls) (fun c' hc' => ?_)
  obtain ⟨c, hm, e1, e2, e3, e4, e5, e6⟩ := core_mem hq.calls hc'
  exact ⟨c, hm, e1.symm, e2.symm, e4.symm, fun ha => by simpa [Assigned, e1, e3] using ha,
    fun hw => by simpa [Waiting, e1, e3] using hw, fun hv => .inl (e5 ▸ hv), fun hv => .inl (e6 ▸ hv)⟩

/-! ### the table / timer invariant under the table operations -/

theorem TInv.mono {m : Nat} {inf : List Entry} {q : DelayQ} {now now' : Nat} (h : TInv m inf q now)
    (hle : now ≤ now') : TInv m inf q now' :=
  ⟨h.bound, h.wf, h.timely.mono hle, h.e2t, h.t2e, fun en hen w hw =>
    have ⟨a, b, c, d⟩ := h.due en hen w hw
    ⟨a, Nat.le_trans b (Nat.max_le.mpr ⟨Nat.le_max_left _ _, Nat.le_trans hle (Nat.le_max_right _ _)⟩), c, d⟩⟩

theorem TInv.remove_ne_none {m : Nat} {inf : List Entry} {q : DelayQ} {now : Nat} (h : TInv m inf q now)
    {e : Entry} (he : e ∈ inf) : q.remove e.timerKey ≠ none := by
  intro hn
  rw [remove_eq_none_iff] at hn
  obtain ⟨w, hw, -⟩ := h.e2t e he
  exact hn ⟨_, _, hw⟩

theorem TInv.drop_key {m : Nat} {inf : List Entry} {q q' : DelayQ} {now : Nat} (h : TInv m inf q now)
    (hn : (inf.map (·.id)).Nodup) {e : Entry} (he : e ∈ inf) (hwf : q'.WF) (ht : q'.Timely now)
    (hh : ∀ k v w, q'.Has k v w ↔ (q.Has k v w ∧ k ≠ e.timerKey)) :
    TInv m (inf.filter (·.id != e.id)) q' now := by
  refine ⟨Nat.le_trans (List.length_filter_le _ _) h.bound, hwf, ht, ?_, ?_, ?_⟩
  · intro en hen
    simp only [List.mem_filter, bne_iff_ne, ne_eq] at hen
    obtain ⟨w, hw, hd⟩ := h.e2t en hen.1
    refine ⟨w, (hh _ _ _).mpr ⟨hw, fun hk => ?_⟩, hd⟩
    obtain ⟨w', hw', -⟩ := h.e2t e he
    rw [hk] at hw
    exact hen.2 (Has.functional h.wf hw hw').1
  · intro k v w hk
    obtain ⟨hk1, hk2⟩ := (hh _ _ _).mp hk
    obtain ⟨en, hen, e1, e2⟩ := h.t2e k v w hk1
    refine ⟨en, List.mem_filter.mpr ⟨hen, ?_⟩, e1, e2⟩
    rw [bne_iff_ne]
    intro hid
    rw [eq_of_map_nodup (f := (·.id)) hn hen he hid] at e1
    exact hk2 e1.symm
  · intro en hen w hw
    exact h.due en (List.mem_filter.mp hen).1 w ((hh _ _ _).mp hw).1

theorem TInv.remove {m : Nat} {inf : List Entry} {q q' : DelayQ} {now : Nat} {b : Bool} (h : TInv m inf q now)
    (hn : (inf.map (·.id)).Nodup) {e : Entry} (he : e ∈ inf) (hr : q.remove e.timerKey = some (q', b)) :
    TInv m (inf.filter (·.id != e.id)) q' now :=
  have hs := remove_spec h.wf hr
  h.drop_key hn he hs.wf (hs.timely now h.timely) hs.has

/-- the deadline `insert` computes is the millisecond ceiling of `now + timeout` (the wheel is not ahead of the clock) -/
theorem whenOf_bounds {q : DelayQ} {now t : Nat} (ht : q.Timely now) :
    now + t ≤ whenOf q now t * nsPerMs ∧ whenOf q now t * nsPerMs < now + t + nsPerMs := by
  have h1 := ht.elapsed
  unfold whenOf ceilMs nsPerMs at *
  omega

/-- A new entry whose timer is armed now with timeout `t` (so it is due at `now + t`), if that and the entry's
`remainder` reach its deadline and not more than `max deadline now`. -/
theorem TInv.insertEntry {m : Nat} {inf : List Entry} {q q' : DelayQ} {now t : Nat} {b : Bool} (h : TInv m inf q now)
    (hlt : inf.length < m) (en' : Entry)
    (hi : q.insert now t en'.id = (q', .ok en'.timerKey, b))
    (hdue : en'.dueAt = now + t)
    (hd : en'.ctx.deadline ≤ now + t + en'.remainder) (hd2 : now + t + en'.remainder ≤ max en'.ctx.deadline now) :
    TInv m (inf ++ [en']) q' now := by
  have hs := insert_spec h.wf hi
  refine ⟨by simp; omega, hs.wf, hs.timely now h.timely, ?_, ?_, ?_⟩
  rotate_left 2
  · intro en hen w hw
    have hb := whenOf_bounds (t := t) h.timely
    simp only [List.mem_append, List.mem_singleton] at hen
    rcases (hs.has _ _ _).mp hw with hw | ⟨hk, -, hwq⟩
    · rcases hen with hen | rfl
      · exact h.due en hen w hw
      · -- the new key is fresh
        exfalso
        obtain ⟨d, hd', hk', -⟩ := hw
        have := h.wf.keyLt d hd'
        rw [hk', hs.key] at this
        exact Nat.lt_irrefl _ this
    · rcases hen with hen | rfl
      · exfalso
        obtain ⟨w0, ⟨d, hd', hk', -⟩, -⟩ := h.e2t en hen
        have := h.wf.keyLt d hd'
        rw [hk', hk, hs.key] at this
        exact Nat.lt_irrefl _ this
      · subst hwq
        rw [hdue]; exact ⟨hd, hd2, hb.1, hb.2⟩
  · intro en hen
    simp only [List.mem_append, List.mem_singleton] at hen
    rcases hen with hen | rfl
    · obtain ⟨w, hw, hd⟩ := h.e2t en hen
      exact ⟨w, (hs.has _ _ _).mpr (Or.inl hw), hd⟩
    · refine ⟨_, (hs.has _ _ _).mpr (Or.inr ⟨rfl, rfl, rfl⟩), ?_⟩
      have := le_whenOf q now t
      omega
  · intro k v w hk
    rcases (hs.has _ _ _).mp hk with hk | ⟨rfl, rfl, rfl⟩
    · obtain ⟨en, hen, e1, e2⟩ := h.t2e k v w hk
      exact ⟨en, List.mem_append_left _ hen, e1, e2⟩
    · exact ⟨_, List.mem_append_right _ (List.mem_singleton.mpr rfl), rfl, rfl⟩

theorem TInv.insert {m : Nat} {inf : List Entry} {q q' : DelayQ} {now : Nat} {b : Bool} (h : TInv m inf q now)
    (hlt : inf.length < m) (id cid key : Nat) (ctx : Ctx)
    (hi : q.insert now (clampTimeout (ctx.deadline - now)) id = (q', .ok key, b)) :
    TInv m (inf ++ [{ id := id, cid := cid, ctx := ctx, timerKey := key,
                      remainder := (ctx.deadline - now) - clampTimeout (ctx.deadline - now),
                      dueAt := now + clampTimeout (ctx.deadline - now) }]) q' now :=
  h.insertEntry hlt _ hi rfl (deadline_le_arm now ctx.deadline) (by
    have := clampTimeout_le_self (ctx.deadline - now); simp only; omega)

/-- The table only matters as a set (of at most `m` entries). -/
theorem TInv.of_mem {m : Nat} {inf inf' : List Entry} {q : DelayQ} {now : Nat} (h : TInv m inf q now)
    (hb : inf'.length ≤ m) (hm : ∀ x, x ∈ inf' ↔ x ∈ inf) : TInv m inf' q now :=
  ⟨hb, h.wf, h.timely, fun en hen => h.e2t en ((hm en).mp hen), fun k v w hk => by
    obtain ⟨en, hen, e1, e2⟩ := h.t2e k v w hk
    exact ⟨en, (hm en).mpr hen, e1, e2⟩, fun en hen w hw => h.due en ((hm en).mp hen) w hw⟩

/-- `poll_expired` on a consistent table: a yielded timer belongs to exactly one entry, whose timer (which is due) and
`remainder` reach its deadline; without the entry the table is consistent with the queue after the poll. -/
theorem TInv.expired {m : Nat} {inf : List Entry} {q : DelayQ} {now : Nat} (h : TInv m inf q now)
    (hn : (inf.map (·.id)).Nodup) :
    (∀ e, (q.pollExpired now).2 = .expired e →
      ∃ en ∈ inf, en.id = e.val ∧ en.ctx.deadline ≤ e.whenMs * nsPerMs + en.remainder ∧ e.whenMs * nsPerMs ≤ now ∧
        TInv m (inf.filter (·.id != e.val)) (q.pollExpired now).1 now ∧
        (en.ctx.deadline ≤ en.dueAt + en.remainder ∧ en.dueAt + en.remainder ≤ max en.ctx.deadline now ∧
          en.dueAt ≤ e.whenMs * nsPerMs ∧ e.whenMs * nsPerMs < en.dueAt + nsPerMs)) ∧
    ((q.pollExpired now).2.entry = none → TInv m inf (q.pollExpired now).1 now) := by
  have hs := pollExpired_spec q now h.wf h.timely
  constructor
  · intro e he
    obtain ⟨h1, h2, h3⟩ := hs.some e he
    obtain ⟨en, hen, e1, e2⟩ := h.t2e _ _ _ h1
    obtain ⟨w, hw, hd⟩ := h.e2t en hen
    have hwe : w = e.whenMs := by
      rw [e1, e2] at hw
      exact (Has.functional h.wf hw h1).2
    refine ⟨en, hen, e2, hwe ▸ hd, h2, ?_, h.due en hen e.whenMs (by rw [e1, e2]; exact h1)⟩
    rw [← e2]
    exact h.drop_key hn hen hs.wf hs.timely (e1 ▸ h3)
  · intro hnone
    have h3 := hs.none hnone
    exact ⟨h.bound, hs.wf, hs.timely, fun en hen => (h.e2t en hen).imp fun w hw => ⟨(h3 _ _ _).mpr hw.1, hw.2⟩,
      fun k v w hk => h.t2e k v w ((h3 _ _ _).mp hk), fun en hen w hw => h.due en hen w ((h3 _ _ _).mp hw)⟩

theorem TInv.clear (m : Nat) {q : DelayQ} {now : Nat} (ht : q.Timely now) : TInv m [] q.clear now :=
  ⟨Nat.zero_le _, clear_wf q, clear_timely ht, fun en hen => (by cases hen), fun k v w hk => absurd hk (clear_has q k v w),
   fun en hen => (by cases hen)⟩

theorem TInv.empty (m now : Nat) : TInv m [] {} now :=
  ⟨Nat.zero_le _, empty_wf, empty_timely now, fun en hen => (by cases hen), fun k v w hk => absurd hk (empty_has k v w),
   fun en hen => (by cases hen)⟩

theorem TInv.keys_nodup {m : Nat} {inf : List Entry} {q : DelayQ} {now : Nat} (h : TInv m inf q now)
    (hn : (inf.map (·.id)).Nodup) : (q.all.map (·.key)).Nodup ∧ (inf.map (·.timerKey)).Nodup := by
  refine ⟨?_, ?_⟩
  · rw [List.Nodup, List.pairwise_map]; exact h.wf.keys
  · rw [List.Nodup, List.pairwise_map] at hn ⊢
    refine hn.imp_of_mem ?_
    intro a b ha hb hab hk
    obtain ⟨wa, hwa, -⟩ := h.e2t a ha
    obtain ⟨wb, hwb, -⟩ := h.e2t b hb
    rw [hk] at hwa
    exact hab (Has.functional h.wf hwa hwb).1

theorem TInv.keys_perm {m : Nat} {inf : List Entry} {q : DelayQ} {now : Nat} (h : TInv m inf q now)
    (hn : (inf.map (·.id)).Nodup) : (inf.map (·.timerKey)).Perm (q.all.map (·.key)) := by
  obtain ⟨h1, h2⟩ := h.keys_nodup hn
  rw [List.perm_ext_iff_of_nodup h2 h1]
  intro k
  simp only [List.mem_map]
  constructor
  · rintro ⟨en, hen, rfl⟩
    obtain ⟨w, ⟨d, hd, e1, -⟩, -⟩ := h.e2t en hen
    exact ⟨d, hd, e1⟩
  · rintro ⟨d, hd, rfl⟩
    obtain ⟨en, hen, e1, -⟩ := h.t2e d.key d.val d.whenMs ⟨d, hd, rfl, rfl, rfl⟩
    exact ⟨en, hen, e1⟩

/-- The armed timers and the table have the same size. -/
theorem TInv.len_eq {m : Nat} {inf : List Entry} {q : DelayQ} {now : Nat} (h : TInv m inf q now)
    (hn : (inf.map (·.id)).Nodup) : q.len = inf.length := by
  rw [len_eq_all]
  simpa using (h.keys_perm hn).length_eq.symm

/-! ### updates of calls -/

/-- `updCall`'s function on the whole list -/
def updFn (cid : Nat) (f : Call → Call) (c : Call) : Call := if c.cid == cid then f c else c

theorem updCall_calls (s : St) (cid : Nat) (f : Call → Call) : (updCall s cid f).calls = s.calls.map (updFn cid f) := rfl

theorem mem_updCall {s : St} {cid : Nat} {f : Call → Call} {c' : Call} (h : c' ∈ (updCall s cid f).calls) :
    ∃ c0 ∈ s.calls, c' = updFn cid f c0 := by
  rw [updCall_calls] at h
  obtain ⟨c0, h0, rfl⟩ := List.mem_map.mp h
  exact ⟨c0, h0, rfl⟩

theorem callOK_updFn {x : Option Nat} {now cid : Nat} {f : Call → Call} {calls : List Call}
    (hf : ∀ c ∈ calls, c.cid = cid → CallOK x now c (f c)) : ∀ c ∈ calls, CallOK x now c (updFn cid f c) := by
  intro c hc
  unfold updFn
  split
  · rename_i h; exact hf c hc (by simpa using h)
  · exact CallOK.refl x now c

/-- A step that only rewrites calls (each in a tolerated way). -/
theorem Inv'.of_calls {x : Option Nat} {b : Snap} {s s' : St} {now : Nat} (h : Inv' x b s now)
    (hm : s'.maxInFlight = s.maxInFlight) (hi : s'.inflight = s.inflight) (ht : s'.timers = s.timers)
    (hn : s'.nextId = s.nextId) (hp : s'.pq = s.pq) (ho : s'.obs = s.obs) (g : Call → Call)
    (hc : s'.calls = s.calls.map g) (hg : ∀ c ∈ s.calls, CallOK x now c (g c))
    (hh : s'.handles = s.handles := by rfl) (hnh : s'.nextHandle = s.nextHandle := by rfl) : Inv' x b s' now := by
  refine h.sim hm hi (ht ▸ h.t) hn hp (fun o h' => .inl (ho ▸ h')) hh hnh ?_ (fun c' hc' => ?_)
  · rw [hc, callSig, callSig, List.map_map]
    exact List.map_congr_left fun c hc' => by simp only [Function.comp, (hg c hc').cid, (hg c hc').ctx]
  · rw [hc] at hc'
    obtain ⟨c, hm', rfl⟩ := List.mem_map.mp hc'
    exact ⟨c, hm', hg c hm'⟩

theorem Inv'.updCall {x : Option Nat} {b : Snap} {s : St} {now : Nat} (h : Inv' x b s now) (cid : Nat) (f : Call → Call)
    (hf : ∀ c ∈ s.calls, c.cid = cid → CallOK x now c (f c)) : Inv' x b (updCall s cid f) now :=
  h.of_calls rfl rfl rfl rfl rfl rfl (updFn cid f) rfl (callOK_updFn hf)

theorem Inv'.emit {x : Option Nat} {b : Snap} {s : St} {now : Nat} (h : Inv' x b s now) {o : Obs}
    (ho : ObsGood s.maxInFlight s.calls now o) : Inv' x b (emit s o) now := by
  refine ⟨h.fr, h.t, h.i, h.c, h.r, ?_⟩
  intro o' ho'
  simp only [Client.emit, List.mem_cons] at ho'
  rcases ho' with rfl | ho'
  · exact ho
  · exact h.o o' ho'

theorem Inv'.mono {x : Option Nat} {b : Snap} {s : St} {now now' : Nat} (h : Inv' x b s now) (hle : now ≤ now') : Inv' x b s now' :=
  ⟨h.fr, h.t.mono hle, h.i, ⟨h.c.cidLt, h.c.cidNodup, h.c.idLt, h.c.idInj,
    fun c hc hv => Nat.le_trans (h.c.osDl c hc hv) hle, fun c hc hv => Nat.le_trans (h.c.outDl c hc hv) hle⟩, h.r,
    fun o ho => (h.o o ho).mono hle⟩

/-! ### `getCall` -/

theorem getCall_some {s : St} {cid : Nat} {c : Call} (h : getCall s cid = some c) : c ∈ s.calls ∧ c.cid = cid := by
  unfold getCall at h
  exact ⟨List.mem_of_find?_eq_some h, by simpa using List.find?_some h⟩

theorem getCall_none {s : St} {cid : Nat} (h : getCall s cid = none) : ∀ c ∈ s.calls, c.cid ≠ cid := by
  unfold getCall at h
  intro c hc
  have := List.find?_eq_none.mp h c hc
  simpa using this

/-- Call ids (`cid`) identify calls. -/
theorem CInv.cid_unique {x : Option Nat} {l : List Call} {n now : Nat} (h : CInv x l n now) {c1 c2 : Call}
    (h1 : c1 ∈ l) (h2 : c2 ∈ l) (he : c1.cid = c2.cid) : c1 = c2 :=
  eq_of_map_nodup (f := (·.cid)) h.cidNodup h1 h2 he

theorem Inv'.call_unique {x : Option Nat} {b : Snap} {s : St} {now cid : Nat} {c : Call} (h : Inv' x b s now)
    (hg : getCall s cid = some c) : ∀ c' ∈ s.calls, c'.cid = cid → c' = c := by
  intro c' hc' he
  obtain ⟨hm, hcid⟩ := getCall_some hg
  exact h.c.cid_unique hc' hm (by rw [he, hcid])

theorem Inv'.weaken {x : Option Nat} {b : Snap} {s : St} {now : Nat} (h : Inv' x b s now) : Inv' none b s now := by
  have ha : ∀ c, Assigned none c → Assigned x c := by
    intro c hc; simp only [Assigned, reduceCtorEq, or_false] at hc
    rcases hc with h1 | h1 | h1
    · exact Or.inl h1
    · exact Or.inr (Or.inl h1)
    · exact Or.inr (Or.inr (Or.inl h1))
  have hw : ∀ c, Waiting none c → Waiting x c := by
    intro c hc; simp only [Waiting, reduceCtorEq, and_false, or_false] at hc
    exact Or.inl hc
  exact ⟨h.fr, h.t, h.i, ⟨h.c.cidLt, h.c.cidNodup, fun c hc a => h.c.idLt c hc (ha c a),
    fun c1 h1 c2 h2 a1 a2 => h.c.idInj c1 h1 c2 h2 (ha c1 a1) (ha c2 a2), h.c.osDl, h.c.outDl⟩,
    ⟨fun c hc w => h.r.resv c hc (hw c w), h.r.pqCtx, h.r.inCtx⟩, h.o⟩

/-! ### oneshot, `resolve` -/

theorem Inv'.osSend {x : Option Nat} {b : Snap} {s : St} {now : Nat} (h : Inv' x b s now) (cid : Nat) (o : Outcome)
    (ho : o = .deadline → ∀ c ∈ s.calls, c.cid = cid → c.ctx.deadline ≤ now) : Inv' x b (osSend s cid o) now := by
  rcases Flow.osSend_out s cid o with ⟨_, e⟩ | ⟨_, _, _, e⟩ <;> rw [e]
  · exact h
  · have h1 : Inv' x b (Client.updCall s cid (fun c => { c with os := { c.os with val := some o, rxWaker := false } })) now :=
      h.updCall cid _ (by
        intro c hc hcid
        exact ⟨rfl, rfl, rfl, fun h => h, fun h => h,
          fun hv => Or.inr (ho (by simpa using hv) c hc hcid), Or.inl⟩)
    split
    · exact h1.quiet (quiet_wakeCall _ _)
    · exact h1

theorem Inv'.resolve {x : Option Nat} {b : Snap} {s : St} {now cid : Nat} {c : Call} (h : Inv' x b s now) (o : Outcome)
    (hg : getCall s cid = some c) (ha : Assigned x c) (ho : o = .deadline → c.ctx.deadline ≤ now) :
    Inv' x b (resolve s cid o now) now := by
  unfold Client.resolve
  simp only
  obtain ⟨hm, hcid⟩ := getCall_some hg
  have hu := h.call_unique hg
  have h1 : Inv' x b (Client.updCall s cid (fun c =>
      { c with phase := .resolved, outcome := some o, woken := false, os := { c.os with rxClosed := true, rxWaker := false } }))
      now :=
    h.updCall cid _ (by
      intro c' hc' hcid'
      have := hu c' hc' hcid'; subst this
      exact ⟨rfl, rfl, rfl, fun _ => ha, fun hw => by simp [Waiting] at hw, Or.inl,
        fun hv => Or.inr (ho (by simpa using hv))⟩)
  refine (h1.emit ?_).quiet (quiet_afterCallGone _)
  intro hd
  refine ⟨_, List.mem_map_of_mem hm, ?_, ?_, Nat.le_refl _⟩
  · simp only [hcid, beq_self_eq_true, ↓reduceIte]
  · simp only [hcid, beq_self_eq_true, ↓reduceIte]; exact ho hd

theorem Inv'.pollOneshot {x : Option Nat} {b : Snap} {s : St} {now : Nat} (h : Inv' x b s now) (cid : Nat)
    (ha : ∀ c, getCall s cid = some c → Assigned x c) : Inv' x b (pollOneshot s cid now) now := by
  unfold Client.pollOneshot
  cases hg : getCall s cid with
  | none => exact h
  | some c =>
    simp only
    obtain ⟨hm, hcid⟩ := getCall_some hg
    cases hv : c.os.val with
    | some o =>
      simp only
      have h1 : Inv' x b (Client.updCall s cid (fun c => { c with os := { c.os with val := none } })) now :=
        h.updCall cid _ (by
          intro c' hc' hcid'
          exact ⟨rfl, rfl, rfl, fun h => h, fun h => h, fun hv => by simp at hv, Or.inl⟩)
      have hg1 := Flow.getCall_updCall s cid (fun c => { c with os := { c.os with val := none } }) (fun c => rfl)
      rw [hg] at hg1
      exact h1.resolve o hg1 (ha c hg) (fun hd => h.c.osDl c hm (by rw [hv, hd]))
    | none =>
      simp only
      split
      · exact h.resolve .shutdown hg (ha c hg) (fun hd => by cases hd)
      · exact (h.quiet (quiet_updCall s cid _ (by intro c; rfl))).quiet (quiet_emit _ (by simp [Harmless]))

/-! ### shrinking the queue / the table -/

theorem IdInv.sublist {pq pq' : List DReq} {inf inf' : List Entry} {n : Nat} (h : IdInv pq inf n)
    (hp : pq'.Sublist pq) (hi : inf'.Sublist inf) : IdInv pq' inf' n :=
  ⟨h.nodup.sublist ((hp.map _).append (hi.map _)), fun r hr => h.pqLt r (hp.subset hr),
   fun en hen => h.inLt en (hi.subset hen)⟩

theorem IdInv.inNodup {pq : List DReq} {inf : List Entry} {n : Nat} (h : IdInv pq inf n) : (inf.map (·.id)).Nodup :=
  (List.nodup_append.mp h.nodup).2.1

theorem RInv.subset {x : Option Nat} {calls : List Call} {pq pq' : List DReq} {inf inf' : List Entry}
    (h : RInv x calls pq inf) (hp : ∀ r ∈ pq', r ∈ pq) (hi : ∀ en ∈ inf', en ∈ inf) : RInv x calls pq' inf' :=
  ⟨fun c hc hw => ⟨fun r hr => (h.resv c hc hw).1 r (hp r hr), fun en hen => (h.resv c hc hw).2 en (hi en hen)⟩,
   fun r hr => h.pqCtx r (hp r hr), fun en hen => h.inCtx en (hi en hen)⟩

/-- Entries leave the queue and/or the table (with the timers following suit). -/
theorem Inv'.shrink {x : Option Nat} {b : Snap} {s s' : St} {now : Nat} (h : Inv' x b s now)
    (hm : s'.maxInFlight = s.maxInFlight) (hp : s'.pq.Sublist s.pq) (hi : s'.inflight.Sublist s.inflight)
    (hn : s'.nextId = s.nextId) (hc : s'.calls = s.calls) (ho : s'.obs = s.obs)
    (ht : TInv s.maxInFlight s'.inflight s'.timers now)
    (hh : s'.handles = s.handles := by rfl) (hnh : s'.nextHandle = s.nextHandle := by rfl) : Inv' x b s' now := by
  have hfr : frame s' = frame s := by simp only [Client.frame, hc, hm, hh, hnh]
  refine ⟨fun f hf => hfr.trans (h.fr f hf), ?_, ?_, ?_, ?_, ?_⟩
  · rw [hm]; exact ht
  · rw [hn]; exact h.i.sublist hp hi
  · rw [hn, hc]; exact h.c
  · rw [hc]; exact h.r.subset (fun r hr => hp.subset hr) (fun en hen => hi.subset hen)
  · rw [hm, hc, ho]; exact h.o

/-- `complete_request` / `cancel_request` up to the point where the entry and its timer are gone. -/
theorem Inv'.removeEntry {x : Option Nat} {b : Snap} {s : St} {now id : Nat} {e : Entry}
    (h : Inv' x b s now) (hf : findEntry s id = some e) :
    Inv' x b (removeTimer { s with inflight := s.inflight.filter (·.id != id) } e.timerKey) now := by
  obtain ⟨he, hid⟩ := findEntry_some hf
  subst hid
  rcases Flow.removeTimer_out { s with inflight := s.inflight.filter (·.id != e.id) } e.timerKey with
    ⟨q', b', hr, e'⟩ | ⟨hr, _⟩
  · rw [e']
    have hS : Inv' x b { s with inflight := s.inflight.filter (·.id != e.id), timers := q' } now :=
      h.shrink rfl (List.Sublist.refl _) List.filter_sublist rfl rfl rfl (h.t.remove h.i.inNodup he hr)
    split
    · exact hS.quiet (quiet_wakeDispatch _)
    · exact hS
  · exact absurd hr (h.t.remove_ne_none he)

theorem Inv'.completeRequest {x : Option Nat} {b : Snap} {s : St} {now : Nat} (h : Inv' x b s now)
    (id : Nat) (o : Outcome) (ho : o ≠ .deadline) : Inv' x b (completeRequest s id o).1 now := by
  rcases Flow.completeRequest_out s id o with ⟨_, e⟩ | ⟨e0, hf, e⟩ <;> rw [e]
  · exact h
  · exact (h.removeEntry hf).osSend e0.cid o (fun hd => absurd hd ho)

theorem Inv'.cancelRequest {x : Option Nat} {b : Snap} {s : St} {now : Nat} (h : Inv' x b s now)
    (id : Nat) : Inv' x b (cancelRequest s id).1 now := by
  rcases Flow.cancelRequest_out s id with ⟨_, e⟩ | ⟨_, hf, e⟩ <;> rw [e]
  · exact h
  · exact h.removeEntry hf

/-! ### `insert_request` -/

theorem clampTimeout_le (hf : Gen.clientTimerClampSecs ≠ 0) (t : Nat) : clampTimeout t ≤ clampNs := by
  unfold clampTimeout clampNs
  have : (Gen.clientTimerClampSecs == 0) = false := by simpa using hf
  rw [this]; exact Nat.min_le_right _ _

/-- The `DelayQueue::insert` range check cannot fail before `panicFreeNs` when the armed timeout is clamped (and the
clamp fits the queue's range): `when - wheelElapsed ≤ ceilMs (now + clampNs) ≤ now_ms + clamp_ms + 1 ≤ 2^36 - 1`. -/
theorem insert_panic_late {q q' : DelayQ} {now t val : Nat} {w : Bool}
    (h : q.insert now (clampTimeout t) val = (q', .panic, w)) (hf : ClampFits) : panicFreeNs ≤ now := by
  unfold panicFreeNs
  exact DelayQ.insert_panic_late h (clampTimeout_le hf.1 t) hf.2

/-- `s` after `r` was taken off the request queue: `r` still counts as queued (the invariant is stated of this state between
`pqRecv` and `insertRequest`; the actions of `Lemmas/ClientSteps.lean` never stop there) -/
abbrev hold (s : St) (r : DReq) : St := { s with pq := r :: s.pq }

theorem quiet_hold {a b : St} (h : Quiet a b) (r : DReq) : Quiet (hold a r) (hold b r) :=
  ⟨h.maxInFlight, h.inflight, h.timers, h.nextId, by simp [h.pq], h.calls, h.obs, h.handles, h.nextHandle⟩

theorem Inv'.unhold {x : Option Nat} {b : Snap} {s : St} {now : Nat} {r : DReq}
    (h : Inv' x b (hold s r) now) : Inv' x b s now :=
  h.shrink rfl (List.sublist_cons_self _ _) (List.Sublist.refl _) rfl rfl rfl h.t

/-- `insert_request` for a request just taken off the queue: the "Request IDs should be unique" panic is unreachable. -/
theorem Inv'.insertRequest {x : Option Nat} {b : Snap} {s : St} {now : Nat} {r : DReq}
    (h : Inv' x b (hold s r) now) (hlt : s.inflight.length < s.maxInFlight) :
    ∀ s', insertRequest s now r = some s' → Inv' x b s' now := by
  intro s' hs'
  have h0 : Inv' x b s now := h.unhold
  rcases insertRequest_some hs' with ⟨hsome, -⟩ | ⟨hf, q, w, hins, rfl⟩ | ⟨hf, q, key, w, hins, rfl⟩
  · exfalso
    obtain ⟨e, hf⟩ := Option.isSome_iff_exists.mp hsome
    obtain ⟨he, hid⟩ := findEntry_some hf
    have := h.i.nodup
    simp only [List.map_cons, List.cons_append, List.nodup_cons, List.mem_append, List.mem_map, not_or,
      not_exists, not_and] at this
    exact this.1.2 e he hid
  · exact Inv'.emit (s := { s with poisoned := true }) ⟨h0.fr, h0.t, h0.i, h0.c, h0.r, h0.o⟩
      ⟨rfl, insert_panic_late hins⟩
  · have hnone := findEntry_none hf
    suffices hS : Inv' x b { s with timers := q, inflight := s.inflight ++ [entryOf r now key] } now by
      split
      · exact hS.quiet (quiet_wakeDispatch _)
      · exact hS
    refine ⟨h0.fr, h0.t.insert hlt r.id r.cid key r.ctx hins, ?_, h0.c, ?_, h0.o⟩
    · refine ⟨?_, h0.i.pqLt, ?_⟩
      · -- the id moves from the head of the queue to the end of the table
        have hn : (r.id :: (s.pq.map (·.id) ++ s.inflight.map (·.id))).Nodup := h.i.nodup
        rw [List.map_append, ← List.append_assoc]
        exact (List.perm_append_singleton _ _).nodup_iff.mpr hn
      · intro en hen
        simp only [List.mem_append, List.mem_singleton] at hen
        rcases hen with hen | rfl
        · exact h0.i.inLt en hen
        · exact h.i.pqLt r List.mem_cons_self
    · refine ⟨?_, h0.r.pqCtx, ?_⟩
      · intro c hc hw
        obtain ⟨h1, h2⟩ := h.r.resv c hc hw
        refine ⟨fun r' hr' => h1 r' (List.mem_cons_of_mem _ hr'), ?_⟩
        intro en hen
        simp only [List.mem_append, List.mem_singleton] at hen
        rcases hen with hen | rfl
        · exact h2 en hen
        · exact h1 r List.mem_cons_self
      · intro en hen
        simp only [List.mem_append, List.mem_singleton] at hen
        rcases hen with hen | rfl
        · exact h0.r.inCtx en hen
        · exact h.r.pqCtx r List.mem_cons_self

/-! ### `poll_expired` -/

theorem rearmEntry_ne {id key t due : Nat} {e : Entry} (h : e.id ≠ id) : rearmEntry id key t due e = e := by
  unfold rearmEntry; rw [if_neg (by simpa using h)]

theorem rearmEntry_eq {id key t due : Nat} {e : Entry} (h : e.id = id) :
    rearmEntry id key t due e = { e with timerKey := key, remainder := e.remainder - t, dueAt := due } := by
  unfold rearmEntry; rw [if_pos (by simpa using h)]

/-- The entries are re-keyed (id, call and context stay) and the timers follow suit. -/
theorem Inv'.rekey {x : Option Nat} {b : Snap} {s s' : St} {now : Nat} (h : Inv' x b s now) (f : Entry → Entry)
    (hf : ∀ e, (f e).id = e.id ∧ (f e).cid = e.cid ∧ (f e).ctx = e.ctx)
    (hm : s'.maxInFlight = s.maxInFlight) (hp : s'.pq = s.pq) (hi : s'.inflight = s.inflight.map f)
    (hn : s'.nextId = s.nextId) (hc : s'.calls = s.calls) (ho : s'.obs = s.obs)
    (ht : TInv s.maxInFlight s'.inflight s'.timers now)
    (hh : s'.handles = s.handles := by rfl) (hnh : s'.nextHandle = s.nextHandle := by rfl) : Inv' x b s' now := by
  have hfr : frame s' = frame s := by simp only [Client.frame, hc, hm, hh, hnh]
  have hids : (s.inflight.map f).map (·.id) = s.inflight.map (·.id) := by
    rw [List.map_map]; apply List.map_congr_left; intro e _; exact (hf e).1
  refine ⟨fun g hg => hfr.trans (h.fr g hg), ?_, ?_, ?_, ?_, ?_⟩
  · rw [hm]; exact ht
  · rw [hn, hp, hi]
    refine ⟨by rw [hids]; exact h.i.nodup, h.i.pqLt, fun en hen => ?_⟩
    obtain ⟨e, he, rfl⟩ := List.mem_map.mp hen
    rw [(hf e).1]; exact h.i.inLt e he
  · rw [hn, hc]; exact h.c
  · rw [hc, hp, hi]
    refine ⟨fun c hc hw => ⟨(h.r.resv c hc hw).1, fun en hen => ?_⟩, h.r.pqCtx, fun en hen => ?_⟩
    · obtain ⟨e, he, rfl⟩ := List.mem_map.mp hen
      rw [(hf e).1]; exact (h.r.resv c hc hw).2 e he
    · obtain ⟨e, he, rfl⟩ := List.mem_map.mp hen
      rw [(hf e).2.1, (hf e).2.2]; exact h.r.inCtx e he
  · rw [hm, hc, ho]; exact h.o

theorem mem_map_rearm {inf : List Entry} (hn : (inf.map (·.id)).Nodup) {en : Entry} (hen : en ∈ inf) (key t due : Nat)
    (x : Entry) :
    x ∈ inf.map (rearmEntry en.id key t due) ↔
      x ∈ inf.filter (·.id != en.id) ++ [{ en with timerKey := key, remainder := en.remainder - t, dueAt := due }] := by
  simp only [List.mem_map, List.mem_append, List.mem_filter, bne_iff_ne, ne_eq, List.mem_singleton]
  constructor
  · rintro ⟨e, he, rfl⟩
    by_cases hid : e.id = en.id
    · have : e = en := eq_of_map_nodup (f := (·.id)) hn he hen hid
      subst this
      exact Or.inr (rearmEntry_eq rfl)
    · rw [rearmEntry_ne hid]; exact Or.inl ⟨he, hid⟩
  · rintro (⟨hx, hid⟩ | rfl)
    · exact ⟨x, hx, rearmEntry_ne hid⟩
    · exact ⟨en, hen, rearmEntry_eq rfl⟩

theorem length_filter_ne_lt {inf : List Entry} {en : Entry} (hen : en ∈ inf) :
    (inf.filter (·.id != en.id)).length < inf.length :=
  List.length_filter_lt_length_iff_exists.mpr ⟨en, hen, by simp⟩

theorem rearm_reaches {now due T rem dl : Nat} (hT : T ≤ rem - (now - due)) (h1 : dl ≤ due + rem)
    (h2 : due + rem ≤ max dl now) (hd : due ≤ now) :
    dl ≤ now + T + (rem - (now - due + T)) ∧ now + T + (rem - (now - due + T)) ≤ max dl now := by
  omega

theorem deadline_passed {now due rem dl : Nat} (hz : rem - (now - due) = 0) (h1 : dl ≤ due + rem) (hd : due ≤ now) :
    dl ≤ now := by
  omega

/-- `poll_expired`, one iteration, on the result `r` of polling the queue. -/
theorem Inv'.expireWith {x : Option Nat} {b : Snap} {s : St} {now : Nat} (h : Inv' x b s now)
    (r : DelayQ × DelayQ.PollRes) (hr : r = s.timers.pollExpired now) :
    Inv' x b (expireWith s now r).st now := by
  obtain ⟨hsome, hnone⟩ := h.t.expired h.i.inNodup
  rw [← hr] at hsome hnone
  have tracked : ∀ {e en}, r.2 = .expired e → findEntry s e.val = some en → en ∈ s.inflight ∧ en.id = e.val ∧
      e.whenMs * nsPerMs ≤ now ∧ TInv s.maxInFlight (s.inflight.filter (·.id != e.val)) r.1 now ∧
      en.ctx.deadline ≤ en.dueAt + en.remainder ∧ en.dueAt + en.remainder ≤ max en.ctx.deadline now ∧
      en.dueAt ≤ e.whenMs * nsPerMs := by
    intro e en he hf
    obtain ⟨en0, hen0, hid0, -, hdue, ht, hd1, hd2, hd3, -⟩ := hsome e he
    obtain ⟨hen, hid⟩ := findEntry_some hf
    obtain rfl : en = en0 := eq_of_map_nodup (f := (·.id)) h.i.inNodup hen hen0 (by rw [hid, hid0])
    exact ⟨hen, hid, hdue, ht, hd1, hd2, hd3⟩
  refine expireWith_cases (motive := fun st => Inv' x b st.st now) s now r ?_ ?_ ?_ ?_ ?_
  · intro hres
    have hn : r.2.entry = none := by
      cases hp : r.2 with
      | expired e => exact absurd hp (hres e)
      | pending => rfl
      | none => rfl
    exact h.shrink rfl (List.Sublist.refl _) (List.Sublist.refl _) rfl rfl rfl (hnone hn)
  · intro e he hf
    obtain ⟨en0, hen0, hid0, -⟩ := hsome e he
    exact absurd hid0 (findEntry_none hf en0 hen0)
  · -- nothing left to arm: the deadline has passed
    intro e en he hf hz
    obtain ⟨hen, hid, hdue, ht, hd1, -, hd3⟩ := tracked he hf
    have h1 : Inv' x b { s with timers := r.1, inflight := s.inflight.filter (·.id != e.val) } now :=
      h.shrink rfl (List.Sublist.refl _) List.filter_sublist rfl rfl rfl ht
    refine h1.osSend en.cid .deadline ?_
    intro _ c hc hcid
    obtain ⟨c0, hc0, e1, e2⟩ := h.r.inCtx en hen
    have : c = c0 := h.c.cid_unique hc hc0 (by rw [hcid, e1])
    rw [this, ← e2]
    exact deadline_passed hz hd1 (Nat.le_trans hd3 hdue)
  · intro e en q' w _ _ _ hins
    exact Inv'.emit (s := { s with poisoned := true }) ⟨h.fr, h.t, h.i, h.c, h.r, h.o⟩ ⟨rfl, insert_panic_late hins⟩
  · -- the timer is re-armed with (part of) what is left of the remainder after the lateness
    intro e en q' key w he hf _ hins
    obtain ⟨hen, hid, hdue, ht, hd1, hd2, hd3⟩ := tracked he hf
    have hle := clampTimeout_le_self (en.remainder - (now - en.dueAt))
    generalize clampTimeout (en.remainder - (now - en.dueAt)) = T at hins hle ⊢
    have hr := rearm_reaches hle hd1 hd2 (Nat.le_trans hd3 hdue)
    generalize now - en.dueAt + T = cut at hr ⊢
    have hT : TInv s.maxInFlight (s.inflight.map (rearmEntry e.val key cut (now + T))) q' now := by
      have h1 : TInv s.maxInFlight
          (s.inflight.filter (·.id != e.val) ++
            [{ en with timerKey := key, remainder := en.remainder - cut, dueAt := now + T }]) q' now := by
        refine ht.insertEntry ?_ { en with timerKey := key, remainder := en.remainder - cut, dueAt := now + T }
          (by rw [← hid] at hins; exact hins) rfl hr.1 hr.2
        have := length_filter_ne_lt hen
        rw [hid] at this
        exact Nat.lt_of_lt_of_le this h.t.bound
      refine h1.of_mem (by rw [List.length_map]; exact h.t.bound) (fun y => ?_)
      rw [← hid]; exact mem_map_rearm h.i.inNodup hen key _ _ y
    have hS : Inv' x b { s with timers := q', inflight := s.inflight.map (rearmEntry e.val key cut (now + T)) } now :=
      h.rekey _ (rearmEntry_same _ _ _ _) rfl rfl rfl rfl rfl rfl hT
    show Inv' x b (if w = true then _ else _) now
    split
    · exact hS.quiet (quiet_wakeDispatch _)
    · exact hS

/-- One iteration of `poll_expired` when the queue yields `e` for the tracked entry `en`. -/
theorem expireStep_of_expired {s : St} {now : Nat} {e : DqEntry} {en : Entry}
    (h : (s.timers.pollExpired now).2 = .expired e) (hf : findEntry s e.val = some en) :
    expireStep s now =
      if en.remainder - (now - en.dueAt) != 0 then
        rearm s (s.timers.pollExpired now).1 now e.val en (now - en.dueAt)
      else .done (osSend { s with timers := (s.timers.pollExpired now).1,
                                  inflight := s.inflight.filter (·.id != e.val) } en.cid .deadline) true := by
  unfold Client.expireStep
  generalize s.timers.pollExpired now = p at h ⊢
  obtain ⟨q, r⟩ := p
  simp only at h
  subst h
  simp only [Client.expireWith, hf]

/-- Re-arming never fails a request. -/
theorem rearm_ne_done_true (s : St) (q : DelayQ) (now id : Nat) (en : Entry) (late : Nat) (s' : St) :
    rearm s q now id en late ≠ .done s' true := by
  unfold Client.rearm
  rcases rearmWith_cases s id (late + clampTimeout (en.remainder - late)) (now + clampTimeout (en.remainder - late))
      (q.insert now (clampTimeout (en.remainder - late)) id) with
    ⟨_, _, _, hrw⟩ | ⟨_, _, _, _, hrw⟩ <;> rw [hrw] <;> simp

/-! ### `failAll`, queues -/

theorem Inv'.foldl {x : Option Nat} {b : Snap} {now : Nat} {α : Type} (f : St → α → St)
    (hf : ∀ s a, Inv' x b s now → Inv' x b (f s a) now) (l : List α) (s : St) (h : Inv' x b s now) :
    Inv' x b (l.foldl f s) now := by
  induction l generalizing s with
  | nil => exact h
  | cons a l ih => exact ih _ (hf s a h)

theorem Inv'.failAll {x : Option Nat} {b : Snap} {s : St} {now : Nat} (h : Inv' x b s now) (a : Activity) :
    Inv' x b (failAll s a) now := by
  unfold Client.failAll
  simp only
  refine Inv'.foldl _ (fun s e hs => hs.osSend e.cid _ (fun hd => by cases hd)) _ _ ?_
  exact h.shrink rfl (List.Sublist.refl _) (List.nil_sublist _) rfl rfl rfl (TInv.clear _ h.t.timely)

/-- `poll_recv` is quiet, except that a request it hands out still counts as queued. -/
theorem pqRecv_quiet (s : St) :
    match (pqRecv s).2 with
    | .item r => Quiet s (hold (pqRecv s).1 r)
    | _ => Quiet s (pqRecv s).1 := by
  rcases Flow.pqRecv_out s with ⟨r, rest, hpq, e⟩ | ⟨_, e, _⟩ | ⟨_, e⟩ <;> rw [e]
  · have q := quiet_pqRelease { s with pq := rest }
    exact ⟨q.maxInFlight, q.inflight, q.timers, q.nextId, by simp [q.pq, hpq], q.calls, q.obs, q.handles, q.nextHandle⟩
  · exact Quiet.refl s
  · exact .of_same

/-! ### the dispatch, action by action -/

theorem pqRecv_quiet_item {s s1 : St} {r : DReq} (e : pqRecv s = (s1, .item r)) : Quiet s (hold s1 r) := by
  have := pqRecv_quiet s; rw [e] at this; exact this

theorem pqRecv_quiet_idle {s : St} (hx : ∀ r, (pqRecv s).2 ≠ .item r) : Quiet s (pqRecv s).1 := by
  have hq := pqRecv_quiet s
  generalize pqRecv s = p at hq hx
  obtain ⟨s1, x⟩ := p
  cases x with
  | item r => exact absurd rfl (hx r)
  | pending => exact hq
  | closed => exact hq

/-- A predicate that survives `Quiet` steps is kept by every action of the rounds of `run` if the operations on the table
keep it; the request an action takes off the queue still counts as queued (`hold`) when the action inserts it. -/
theorem Step.of_quiet {now : Nat} {P : St → Prop} (quiet : ∀ {s s'}, Quiet s s' → P s → P s')
    (unhold : ∀ {s r}, P (hold s r) → P s)
    (insert : ∀ {s r s'}, P (hold s r) → s.inflight.length < s.maxInFlight → insertRequest s now r = some s' → P s')
    (cancel : ∀ {s} (id : Nat), P s → P (Client.cancelRequest s id).1)
    (complete : ∀ {s} (id : Nat) (o : Outcome), o ≠ .deadline → P s → P (Client.completeRequest s id o).1)
    (expire : ∀ {s}, P s → P (Client.expireStep s now).st)
    {a : Act} {s s' : St} (ha : RoundK a) (st : Step now a s s') (h : P s) : P s' := by
  have ins : ∀ {s1 s2 : St} {r : DReq}, Room s → pqRecv s = (s1, .item r) → insertRequest s1 now r = some s2 → P s2 :=
    fun hr e hi => insert (quiet (pqRecv_quiet_item e) h) (Room.pqRecv e hr) hi
  have sent : ∀ {s2 s3 : St} {m : Msg} {ok : Bool}, tSend s2 m = (s3, ok) → P s2 → P s3 :=
    fun ht h2 => of_fst ht (quiet (quiet_tSend _ _) h2)
  cases st with
  | ready => exact quiet (quiet_tReady _) h
  | flush => exact quiet (quiet_tFlush _) h
  | spin => exact quiet (quiet_emit _ (by simp [Harmless])) h
  | close => exact quiet (quiet_tClose _) h
  | pqIdle hx => exact quiet (pqRecv_quiet_idle hx) h
  | pqSkip e _ => exact unhold (quiet (pqRecv_quiet_item e) h)
  | reqPanic hr e _ hi _ => exact ins hr e hi
  | reqSent hr e _ hi _ ht => exact sent ht (ins hr e hi)
  | reqFailed hr e _ hi _ ht => exact complete _ .send (by simp) (sent ht (ins hr e hi))
  | cqIdle _ => exact quiet (quiet_cqRecv _) h
  | cqMiss e _ => exact of_fst e (quiet (quiet_cqRecv _) h)
  | cancel e hc ht => exact sent ht (of_fst hc (cancel _ (of_fst e (quiet (quiet_cqRecv _) h))))
  | expire => exact expire h
  | readIdle _ => exact quiet (quiet_tNext _) h
  | read e =>
    rename_i res
    exact complete _ _ (by cases res <;> simp [outcomeOf]) (of_fst e (quiet (quiet_tNext _) h))
  | _ => exact False.elim ha

/-- … and by `shut_down_with_terminal_error` and the two field writes of `RequestDispatch::poll`, if failing a request
keeps it. -/
theorem Step.of_quiet_core {now : Nat} {P : St → Prop} (quiet : ∀ {s s'}, Quiet s s' → P s → P s')
    (unhold : ∀ {s r}, P (hold s r) → P s)
    (round : ∀ {a s s'}, RoundK a → Step now a s s' → P s → P s')
    (failAll : ∀ {s} (a : Activity), P s → P (Client.failAll s a))
    (fail : ∀ {s} (cid : Nat) (a : Activity), P s → P (osSend s cid (.channel a)))
    {a : Act} {s s' : St} (ha : CoreK a) (st : Step now a s s') (h : P s) : P s' := by
  have st' := st
  cases st with
  | pqClose => exact quiet (quiet_pqClose _) h
  | failAll _ a => exact failAll a h
  | drainFail a e _ => exact fail _ a (unhold (quiet (pqRecv_quiet_item e) h))
  | termErr _ a => exact quiet (by exact .of_same) h
  | poison _ _ => exact quiet (by exact .of_same) h
  | _ => refine round ?_ st' h; exact ha

theorem Inv'.step {x : Option Nat} {b : Snap} {now : Nat} {a : Act} {s s' : St} (ha : CoreK a) (st : Step now a s s')
    (h : Inv' x b s now) : Inv' x b s' now :=
  Step.of_quiet_core (P := fun s => Inv' x b s now) (fun hq h => h.quiet hq) Inv'.unhold
    (Step.of_quiet (P := fun s => Inv' x b s now) (fun hq h => h.quiet hq) Inv'.unhold
      (fun h hlt hi => h.insertRequest hlt _ hi)
      (fun id h => h.cancelRequest id) (fun id o ho h => h.completeRequest id o ho) (fun h => h.expireWith _ rfl))
    (fun a h => h.failAll a) (fun cid a h => h.osSend _ _ (fun hd => by cases hd)) ha st h

theorem Inv'.steps {x : Option Nat} {b : Snap} {now : Nat} {A : Act → Prop} {s s' : St} (h : Inv' x b s now)
    (hA : ∀ a, A a → CoreK a) (hs : Steps now A s s') : Inv' x b s' now :=
  hs.kept (fun ha st => Inv'.step (hA _ ha) st) h

theorem Inv'.pollNextCancellation {x : Option Nat} {b : Snap} {s : St} {now : Nat} (h : Inv' x b s now) :
    Inv' x b (pollNextCancellation s).1 now :=
  (pollNextCancellation_steps now s).lift (R := fun s s' => Inv' x b s now → Inv' x b s' now) (fun _ h => h)
    (fun h1 h2 h => h2 (h1 h)) (fun ha st => Inv'.step (can_le_core _ (canScan_le_can _ ha)) st)
    (fun _ h => h.quiet (quiet_cqRecv _)) (fun _ id h => h.cancelRequest id) h

theorem Inv'.pollExpired {x : Option Nat} {b : Snap} {s : St} {now : Nat} (h : Inv' x b s now) :
    Inv' x b (pollExpired s now).1 now := h.steps write_le_core (pollExpired_steps now s)

theorem Inv'.pumpWrite {x : Option Nat} {b : Snap} {s : St} {now : Nat} (h : Inv' x b s now) :
    Inv' x b (pumpWrite s now).1 now :=
  h.steps (fun a ha => round_le_core a (pump_le_round a ha)) (pumpWrite_steps now s)

theorem Inv'.pumpRead {x : Option Nat} {b : Snap} {s : St} {now : Nat} (h : Inv' x b s now) :
    Inv' x b (pumpRead s).1 now := h.steps round_le_core (pumpRead_steps now s)

theorem Inv'.pollDispatchCore {x : Option Nat} {b : Snap} {s : St} {now : Nat} (h : Inv' x b s now) :
    Inv' x b (pollDispatchCore s now).1 now := h.steps (fun _ ha => ha) (pollDispatchCore_steps s now)

theorem Inv'.reframe {x : Option Nat} {b : Snap} {s : St} {now : Nat} (h : Inv' x b s now) (b' : Snap)
    (hb : ∀ f, b' = some f → frame s = f) : Inv' x b' s now :=
  ⟨hb, h.t, h.i, h.c, h.r, h.o⟩

theorem Inv'.counts_good {x : Option Nat} {b : Snap} {s : St} {now : Nat} (h : Inv' x b s now) (ep : TaskId) :
    ObsGood s.maxInFlight s.calls now (.counts ep s.inflight.length s.timers.len) :=
  ⟨h.t.bound, (h.t.len_eq h.i.inNodup).symm⟩

theorem quiet_keepDone (r : Ret) (s : St) : Quiet s (Flow.keepDone r s) := by
  obtain ⟨d, e⟩ := Flow.keepDone_only r s
  rw [e]; exact .of_same

theorem Inv'.keepFinish {x : Option Nat} {b : Snap} {s0 s : St} {now : Nat} (h0 : Inv' x b s0 now) (h : Inv' x b s now)
    (hf : frame s = frame s0) (r : Ret) : Inv' x b (Flow.keepFinish s0.obs s r) now := by
  unfold Flow.keepFinish
  split
  · refine ⟨h.fr, h.t, h.i, h.c, h.r, ?_⟩
    intro o ho
    rcases List.mem_cons.mp ho with rfl | ho
    · trivial
    · exact (h0.o o ho).transfer (congrArg (fun f : SFrame => f.2.1) hf)
        (fun c hc => mem_of_callSig (congrArg (fun f : SFrame => f.1) hf) hc)
  · split
    · exact h
    · exact Inv'.emit (h.quiet (quiet_emit s (o := .ret (tid s) r) (by simp [Harmless]))) (h.counts_good _)

theorem Inv'.pollDispatchKeep {x : Option Nat} {b : Snap} {s : St} {now : Nat} (h : Inv' x b s now) :
    Inv' x b (pollDispatchKeep s now) now := by
  rw [Flow.pollDispatchKeep_eq]
  split
  · exact h.quiet (quiet_emit s (by simp [Harmless]))
  · have h0 : Inv' x (some (frame s)) { s with dWoken := false } now :=
      (h.reframe (some (frame s)) (fun f hf => by simpa using hf)).quiet (by exact .of_same)
    have h1 := h0.pollDispatchCore
    have hf1 : frame (Client.pollDispatchCore { s with dWoken := false } now).1 = frame s := h1.fr _ rfl
    exact (h.keepFinish (h1.reframe b (fun f hf => hf1.trans (h.fr f hf))) hf1 _).quiet (quiet_keepDone _ _)

/-- Dropping the dispatch. -/
theorem Inv'.dropDispatch {x : Option Nat} {b : Snap} {s : St} {now : Nat} (h : Inv' x b s now) :
    Inv' x b (dropDispatch s) now := by
  have hA : ∀ s1 : St, Inv' x b s1 now → Inv' x b (s1.pq.foldl (fun s r => osDropTx s r.cid)
      { s1 with pq := [], pqAvail := s1.bufCap - s1.pqAssigned.length }) now := fun s1 h1 =>
    Inv'.foldl _ (fun s r hs => hs.quiet (quiet_osDropTx _ _)) _ _
      (h1.shrink rfl (List.nil_sublist _) (List.Sublist.refl _) rfl rfl rfl h1.t)
  have hB : ∀ s2 : St, Inv' x b s2 now → Inv' x b (s2.inflight.foldl (fun s e => osDropTx s e.cid)
      { s2 with inflight := [], timers := {} }) now := fun s2 h2 =>
    Inv'.foldl _ (fun s e hs => hs.quiet (quiet_osDropTx _ _)) _ _
      (h2.shrink rfl (List.Sublist.refl _) (List.nil_sublist _) rfl rfl rfl (TInv.empty _ _))
  have hC : ∀ s3 : St, Inv' x b s3 now → Inv' x b { s3 with cq := [] } now := fun s3 h3 => h3.quiet (by exact .of_same)
  have h0 : Inv' x b (pqClose { s with dDropped := true, dWoken := false }) now :=
    h.quiet (Quiet.trans (by exact .of_same) (quiet_pqClose _))
  unfold Client.dropDispatch
  split
  · exact h.quiet (quiet_emit s (by simp [Harmless]))
  · exact hC _ (hB _ (hA _ h0))

theorem Inv'.pollDispatch {x : Option Nat} {b : Snap} {s : St} {now : Nat} (h : Inv' x b s now) :
    Inv' x b (pollDispatch s now) now := by
  unfold Client.pollDispatch
  simp only
  split
  · exact h.pollDispatchKeep.dropDispatch
  · exact h.pollDispatchKeep

/-! ### the call future -/

theorem getCall_of_mem {x : Option Nat} {b : Snap} {s : St} {now cid : Nat} {c : Call} (h : Inv' x b s now)
    (hc : c ∈ s.calls) (hcid : c.cid = cid) : getCall s cid = some c := by
  cases hg : getCall s cid with
  | none => exact absurd hcid (getCall_none hg c hc)
  | some c0 =>
    obtain ⟨h0, hcid0⟩ := getCall_some hg
    rw [h.c.cid_unique hc h0 (by rw [hcid, hcid0])]

theorem quiet_updCall_congr {a a' : St} (hq : Quiet a a') (cid : Nat) (f : Call → Call)
    (F : Nat × Ctx × Phase × Nat × Option Outcome × Option Outcome → Nat × Ctx × Phase × Nat × Option Outcome × Option Outcome)
    (hF : ∀ c, callCore (f c) = F (callCore c)) :
    Quiet (updCall a cid f) (updCall a' cid f) := by
  refine ⟨hq.maxInFlight, hq.inflight, hq.timers, hq.nextId, hq.pq, ?_, hq.obs, hq.handles, hq.nextHandle⟩
  have key : ∀ l : List Call, (l.map (updFn cid f)).map callCore =
      (l.map callCore).map (fun p => if p.1 == cid then F p else p) := by
    intro l
    rw [List.map_map, List.map_map]
    apply List.map_congr_left
    intro c _
    simp only [Function.comp, updFn]
    have : (callCore c).1 = c.cid := rfl
    rw [this]
    split
    · exact hF c
    · rfl
  rw [updCall_calls, updCall_calls, key, key, hq.calls]

/-- The first poll of a call hands out the next request id: from here on `cid` counts as assigned. -/
theorem Inv'.assign {b : Snap} {s : St} {now cid : Nat} {c : Call} (h : Inv' none b s now) (fresh : Nat) (tr : Trace)
    (hg : getCall s cid = some c) :
    Inv' (some cid) b (Client.updCall { s with nextFresh := fresh, nextId := s.nextId + 1 } cid
      (fun c => { c with id := s.nextId, trace := tr, woken := false })) now := by
  have hu := h.call_unique hg
  obtain ⟨hm, hcid⟩ := getCall_some hg
  generalize hf : (fun c : Call => { c with id := s.nextId, trace := tr, woken := false }) = f
  have hfc : ∀ c0, (f c0).cid = c0.cid ∧ (f c0).ctx = c0.ctx := fun c0 => by subst hf; exact ⟨rfl, rfl⟩
  have hmem : ∀ {P : Call → Prop}, (∀ c0 ∈ s.calls, c0.cid ≠ cid → P c0) → P (f c) →
      ∀ c' ∈ s.calls.map (updFn cid f), P c' := by
    intro P h1 h2 c' hc'
    obtain ⟨c0, h0, rfl⟩ := List.mem_map.mp hc'
    unfold updFn
    split
    · rename_i he
      rw [hu c0 h0 (by simpa using he)]; exact h2
    · rename_i he
      exact h1 c0 h0 (by simpa using he)
  have hasg : ∀ c0 : Call, c0.cid ≠ cid → Assigned (some cid) c0 → Assigned none c0 := by
    intro c0 hne ha
    rcases ha with h1 | h1 | h1 | h1
    · exact Or.inl h1
    · exact Or.inr (Or.inl h1)
    · exact Or.inr (Or.inr (Or.inl h1))
    · exact absurd (Option.some.inj h1).symm hne
  have hcok : ∀ c0, (updFn cid f c0).cid = c0.cid ∧ (updFn cid f c0).ctx = c0.ctx := by
    intro c0; unfold updFn; split
    · exact hfc c0
    · exact ⟨rfl, rfl⟩
  have hsig : callSig (s.calls.map (updFn cid f)) = callSig s.calls := by
    rw [callSig, callSig, List.map_map]
    exact List.map_congr_left fun c0 _ => by simp only [Function.comp, (hcok c0).1, (hcok c0).2]
  have hid : (f c).id = s.nextId := by subst hf; rfl
  have hfo : (f c).os = c.os ∧ (f c).outcome = c.outcome ∧ (f c).phase = c.phase := by subst hf; exact ⟨rfl, rfl, rfl⟩
  have hctx : ∀ c0 ∈ s.calls, ∃ c' ∈ s.calls.map (updFn cid f), c'.cid = c0.cid ∧ c'.ctx = c0.ctx :=
    fun c0 h0 => ⟨_, List.mem_map_of_mem h0, hcok c0⟩
  refine ⟨fun g hg' => (show frame _ = frame s by simp only [Client.frame, updCall_calls, hsig]; rfl).trans (h.fr g hg'),
    h.t, ⟨h.i.nodup, fun r hr => Nat.lt_succ_of_lt (h.i.pqLt r hr),
    fun en hen => Nat.lt_succ_of_lt (h.i.inLt en hen)⟩, ⟨?_, ?_, ?_, ?_, ?_, ?_⟩, ⟨?_, ?_, ?_⟩, ?_⟩
  · rw [updCall_calls, List.length_map]
    exact hmem (fun c0 h0 _ => h.c.cidLt c0 h0) ((hfc c).1 ▸ h.c.cidLt c hm)
  · have : s.calls.map ((·.cid) ∘ updFn cid f) = s.calls.map (·.cid) := List.map_congr_left fun c0 _ => (hcok c0).1
    show ((s.calls.map (updFn cid f)).map (·.cid)).Nodup
    rw [List.map_map, this]
    exact h.c.cidNodup
  · exact hmem (fun c0 h0 hne ha => Nat.lt_succ_of_lt (h.c.idLt c0 h0 (hasg c0 hne ha)))
      (fun _ => hid ▸ Nat.lt_succ_self _)
  · refine hmem (fun c1 m1 ne1 => hmem (fun c2 m2 ne2 a1 a2 => h.c.idInj c1 m1 c2 m2 (hasg c1 ne1 a1) (hasg c2 ne2 a2))
      (fun a1 _ hid' => ?_)) (hmem (fun c2 m2 ne2 _ a2 hid' => ?_) (fun _ _ _ => rfl))
    · exact absurd (hid'.trans hid) (Nat.ne_of_lt (h.c.idLt c1 m1 (hasg c1 ne1 a1)))
    · exact absurd (hid'.symm.trans hid) (Nat.ne_of_lt (h.c.idLt c2 m2 (hasg c2 ne2 a2)))
  · exact hmem (fun c0 h0 _ => h.c.osDl c0 h0) (fun hv => (hfc c).2 ▸ h.c.osDl c hm (hfo.1 ▸ hv))
  · exact hmem (fun c0 h0 _ => h.c.outDl c0 h0) (fun hv => (hfc c).2 ▸ h.c.outDl c hm (hfo.2.1 ▸ hv))
  · refine hmem (fun c0 h0 hne hw => h.r.resv c0 h0 ?_) (fun _ => ?_)
    · rcases hw with h1 | ⟨-, h1⟩
      · exact Or.inl h1
      · exact absurd (Option.some.inj h1).symm hne
    · rw [hid]
      exact ⟨fun r hr => Nat.ne_of_lt (h.i.pqLt r hr), fun en hen => Nat.ne_of_lt (h.i.inLt en hen)⟩
  · intro r hr
    obtain ⟨c0, h0, e1, e2⟩ := h.r.pqCtx r hr
    obtain ⟨c', hc', f1, f2⟩ := hctx c0 h0
    exact ⟨c', hc', f1.trans e1, e2.trans (congrArg Ctx.deadline f2).symm⟩
  · intro en hen
    obtain ⟨c0, h0, e1, e2⟩ := h.r.inCtx en hen
    obtain ⟨c', hc', f1, f2⟩ := hctx c0 h0
    exact ⟨c', hc', f1.trans e1, e2.trans (congrArg Ctx.deadline f2).symm⟩
  · exact fun o ho => (h.o o ho).transfer rfl hctx

/-- there is an assigned call `cid` (stable under `Quiet`) -/
def HasAssigned (x : Option Nat) (s : St) (cid : Nat) : Prop := ∃ c ∈ s.calls, c.cid = cid ∧ Assigned x c

theorem HasAssigned.quiet {x : Option Nat} {s s' : St} {cid : Nat} (h : HasAssigned x s cid) (hq : Quiet s s') :
    HasAssigned x s' cid := by
  obtain ⟨c, hc, hcid, ha⟩ := h
  obtain ⟨c', hc', e1, e2, e3, -⟩ := core_mem (l := s'.calls) (l' := s.calls) hq.calls.symm hc
  exact ⟨c', hc', by rw [e1]; exact hcid, by simpa [Assigned, e1, e3] using ha⟩

theorem Inv'.resolve' {x : Option Nat} {b : Snap} {s : St} {now cid : Nat} (h : Inv' x b s now) (o : Outcome)
    (ha : HasAssigned x s cid) (ho : o ≠ .deadline) : Inv' x b (Client.resolve s cid o now) now := by
  obtain ⟨c, hc, hcid, hasg⟩ := ha
  exact h.resolve o (getCall_of_mem h hc hcid) hasg (fun hd => absurd hd ho)

theorem Inv'.failShutdown {x : Option Nat} {b : Snap} {s : St} {now cid : Nat} (h : Inv' x b s now) (id : Nat)
    (ha : HasAssigned x s cid) : Inv' x b (failShutdown s cid id now) now := by
  unfold Client.failShutdown
  simp only
  have hq : Quiet s (cqPush (guardClose (osDropTx s cid) cid) id) :=
    ((quiet_osDropTx s cid).trans (quiet_guardClose _ cid)).trans (quiet_cqPush _ id)
  exact (h.quiet hq).resolve' .shutdown (ha.quiet hq) (by simp)

theorem Inv'.pushReq {x : Option Nat} {b : Snap} {s : St} {now : Nat} (h : Inv' x b s now) (r : DReq)
    (hpq : ∀ r' ∈ s.pq, r'.id ≠ r.id) (hin : ∀ en ∈ s.inflight, en.id ≠ r.id) (hlt : r.id < s.nextId)
    (hw : ∀ c ∈ s.calls, Waiting x c → c.id ≠ r.id)
    (hc : ∃ c ∈ s.calls, c.cid = r.cid ∧ r.ctx.deadline = c.ctx.deadline) :
    Inv' x b { s with pq := s.pq ++ [r] } now := by
  have hmem : ∀ {P : DReq → Prop}, (∀ r' ∈ s.pq, P r') → P r → ∀ r' ∈ s.pq ++ [r], P r' := by
    intro P h1 h2 r' hr'
    rcases List.mem_append.mp hr' with hr' | hr'
    · exact h1 r' hr'
    · rw [List.mem_singleton.mp hr']; exact h2
  refine ⟨h.fr, h.t, ⟨?_, hmem h.i.pqLt hlt, h.i.inLt⟩, h.c, ⟨?_, hmem h.r.pqCtx hc, h.r.inCtx⟩, h.o⟩
  · show ((s.pq ++ [r]).map (·.id) ++ s.inflight.map (·.id)).Nodup
    rw [List.map_append]
    refine nodup_append_mid h.i.nodup (fun hm => ?_) (fun hm => ?_)
    · obtain ⟨r', hr', e⟩ := List.mem_map.mp hm
      exact hpq r' hr' e
    · obtain ⟨en, hen, e⟩ := List.mem_map.mp hm
      exact hin en hen e
  · intro c hc hwc
    exact ⟨hmem (h.r.resv c hc hwc).1 (hw c hc hwc).symm, (h.r.resv c hc hwc).2⟩

/-- The request of a waiting call is pushed on the queue and the call starts awaiting. -/
theorem Inv'.enqueue_core {x : Option Nat} {b : Snap} {s : St} {now : Nat} (h : Inv' x b s now) (c : Call)
    (hex : ∃ c0 ∈ s.calls, c0.cid = c.cid)
    (hw : ∀ c0 ∈ s.calls, c0.cid = c.cid → Waiting x c0 ∧ c0.id = c.id ∧ c0.ctx.deadline = c.ctx.deadline) :
    Inv' x b (Client.updCall
      { s with pq := s.pq ++ [{ cid := c.cid, id := c.id, ctx := { deadline := c.ctx.deadline, trace := c.trace }, body := c.body }] }
      c.cid (fun c => { c with phase := .awaiting })) now := by
  have hwa : ∀ c0, Waiting x c0 → Assigned x c0 := by
    intro c0 hw0
    rcases hw0 with h1 | ⟨-, h1⟩
    · exact Or.inl h1
    · exact Or.inr (Or.inr (Or.inr h1))
  obtain ⟨c0, hc0, hcid0⟩ := hex
  obtain ⟨hw0, hid0, hdl0⟩ := hw c0 hc0 hcid0
  have hfresh := h.r.resv c0 hc0 hw0
  -- first the call starts awaiting (it no longer waits, so its id may be queued), then the request joins the queue
  have h1 : Inv' x b (Client.updCall s c.cid (fun c => { c with phase := .awaiting })) now :=
    h.updCall c.cid _ (fun c1 h1 hcid1 =>
      ⟨rfl, rfl, rfl, fun _ => hwa c1 (hw c1 h1 hcid1).1, fun hw' => by simp [Waiting] at hw', Or.inl, Or.inl⟩)
  refine h1.pushReq _ (fun r hr => hid0 ▸ hfresh.1 r hr) (fun en hen => hid0 ▸ hfresh.2 en hen)
    (hid0 ▸ h.c.idLt c0 hc0 (hwa c0 hw0)) ?_ ?_
  · intro c' hc' hw'
    obtain ⟨c1, h1', rfl⟩ := mem_updCall hc'
    have hne : c1.cid ≠ c.cid := by
      intro he
      simp [updFn, he, Waiting] at hw'
    have hc1 : updFn c.cid (fun c => { c with phase := .awaiting }) c1 = c1 := by
      simp [updFn, hne]
    rw [hc1] at hw' ⊢
    intro he
    exact hne ((h.c.idInj c1 h1' c0 hc0 (hwa c1 hw') (hwa c0 hw0) (by rw [hid0]; exact he)).trans hcid0)
  · refine ⟨_, List.mem_map_of_mem hc0, ?_, ?_⟩
    · simp only [hcid0, beq_self_eq_true, ↓reduceIte]
    · simp only [hcid0, beq_self_eq_true, ↓reduceIte]; exact hdl0.symm

theorem Inv'.enqueue {x : Option Nat} {b : Snap} {s : St} {now : Nat} (h : Inv' x b s now) (c : Call)
    (hex : ∃ c0 ∈ s.calls, c0.cid = c.cid)
    (hw : ∀ c0 ∈ s.calls, c0.cid = c.cid → Waiting x c0 ∧ c0.id = c.id ∧ c0.ctx.deadline = c.ctx.deadline) :
    Inv' x b (enqueue s c now) now := by
  unfold Client.enqueue
  simp only
  have hcore := h.enqueue_core c hex hw
  have hq : Quiet { s with pq := s.pq ++ [{ cid := c.cid, id := c.id, ctx := { deadline := c.ctx.deadline, trace := c.trace }, body := c.body }] }
      (pqPush s { cid := c.cid, id := c.id, ctx := { deadline := c.ctx.deadline, trace := c.trace }, body := c.body }) := by
    unfold pqPush
    simp only
    split
    · exact Quiet.trans (by exact .of_same) (quiet_wakeDispatch _)
    · exact Quiet.refl _
  have h2 := hcore.quiet (quiet_updCall_congr hq c.cid (fun c => { c with phase := .awaiting })
    (fun p => (p.1, p.2.1, .awaiting, p.2.2.2)) (fun c => rfl))
  refine h2.pollOneshot c.cid ?_
  intro c' hg
  obtain ⟨hm', hcid'⟩ := getCall_some hg
  obtain ⟨c1, h1, rfl⟩ := List.mem_map.mp hm'
  have : c1.cid = c.cid := by
    by_cases he : c1.cid = c.cid
    · exact he
    · simp [he] at hcid'
  simp [this, Assigned]

theorem updCall_named {s : St} {cid : Nat} {c : Call} (hu : ∀ c' ∈ s.calls, c'.cid = cid → c' = c) (f : Call → Call) :
    ∀ c' ∈ (updCall s cid f).calls, c'.cid = cid → c' = f c := by
  intro c' hc' hcid'
  obtain ⟨c0, h0, rfl⟩ := mem_updCall hc'
  unfold updFn at hcid' ⊢
  split at hcid'
  · rename_i he
    rw [if_pos he, hu c0 h0 (by simpa using he)]
  · rename_i he
    exact absurd hcid' (by simpa using he)

theorem Inv'.pollCall {b : Snap} {s : St} {now : Nat} (h : Inv' none b s now) (cid : Nat) :
    Inv' none b (pollCall s cid now) now := by
  refine Flow.pollCall_cases (motive := fun s' => Inv' none b s' now) s cid now
    (fun _ => h.quiet (quiet_emit s (by simp [Harmless]))) ?_ ?_ ?_
  · intro c s1 hg hph ha
    obtain ⟨hm, hcid⟩ := getCall_some hg
    have hu := h.call_unique hg
    have h1 : Inv' (some cid) b s1 now := ha ▸ h.assign _ _ hg
    -- the calls named `cid` after the assignment
    have hcalls : ∀ c' ∈ s1.calls, c'.cid = cid →
        c' = { c with id := s.nextId, trace := { c.ctx.trace with span := .fresh s.nextFresh }, woken := false } :=
      ha ▸ updCall_named (s := { s with nextFresh := s.nextFresh + 1, nextId := s.nextId + 1 }) hu _
    have hex : ∃ c0 ∈ s1.calls, c0.cid = cid := ha ▸ ⟨_, List.mem_map_of_mem hm, by simp [hcid]⟩
    refine ite_ite_cases (motive := fun s' => Inv' none b s' now) (fun _ => ?_) (fun _ _ => ?_) (fun _ _ => ?_)
    · refine (h1.failShutdown s.nextId ?_).weaken
      obtain ⟨c0, h0, hc0⟩ := hex
      exact ⟨c0, h0, hc0, Or.inr (Or.inr (Or.inr (by rw [hc0])))⟩
    · refine (Inv'.enqueue (s := { s1 with pqAvail := s1.pqAvail - 1 }) (h1.quiet (by exact .of_same))
        (assignedCall s c) ?_ ?_).weaken
      · obtain ⟨c0, h0, hc0⟩ := hex
        exact ⟨c0, h0, by rw [hc0]; exact hcid.symm⟩
      · intro c0 h0 hc0
        have := hcalls c0 h0 (by rw [hc0]; exact hcid)
        subst this
        exact ⟨Or.inr ⟨hph, by rw [hcid]⟩, rfl, rfl⟩
    · refine Inv'.weaken (Inv'.quiet (Inv'.updCall (s := { s1 with pqWaiters := s1.pqWaiters ++ [cid] })
        (h1.quiet (by exact .of_same)) cid _ ?_) (quiet_emit _ (by simp [Harmless])))
      intro c0 h0 hc0
      have := hcalls c0 h0 hc0
      subst this
      exact ⟨rfl, rfl, rfl, fun _ => Or.inr (Or.inr (Or.inr (by rw [hcid]))),
        fun _ => Or.inr ⟨hph, by rw [hcid]⟩, Or.inl, Or.inl⟩
  · intro c s1 hg hph ha
    obtain ⟨hm, hcid⟩ := getCall_some hg
    have hu := h.call_unique hg
    have h1 : Inv' none b s1 now := ha ▸ h.quiet (quiet_updCall s cid (fun c => { c with woken := false }) (by intro c; rfl))
    have hcalls : ∀ c' ∈ s1.calls, c'.cid = cid → c' = { c with woken := false } := ha ▸ updCall_named hu _
    have hex : ∃ c0 ∈ s1.calls, c0.cid = cid := ha ▸ ⟨_, List.mem_map_of_mem hm, by simp [hcid]⟩
    refine ite_ite_cases (motive := fun s' => Inv' none b s' now) (fun _ => ?_) (fun _ _ => ?_) (fun _ _ => ?_)
    · refine Inv'.failShutdown (h1.quiet (by exact .of_same)) c.id ?_
      obtain ⟨c0, h0, hc0⟩ := hex
      have := hcalls c0 h0 hc0
      exact ⟨c0, h0, hc0, Or.inl (by rw [this]; exact hph)⟩
    · refine Inv'.enqueue (h1.quiet (by exact .of_same)) c ?_ ?_
      · obtain ⟨c0, h0, hc0⟩ := hex
        exact ⟨c0, h0, by rw [hc0]; exact hcid.symm⟩
      · intro c0 h0 hc0
        have := hcalls c0 h0 (by rw [hc0]; exact hcid)
        subst this
        exact ⟨Or.inl hph, rfl, rfl⟩
    · exact h1.quiet (quiet_emit _ (by simp [Harmless]))
  · intro c hg hph
    have hq := quiet_updCall s cid (fun c => { c with woken := false }) (by intro c; rfl)
    refine (h.quiet hq).pollOneshot cid ?_
    intro c' hg'
    rw [Flow.getCall_updCall s cid (fun c => { c with woken := false }) (fun c => rfl), hg] at hg'
    simp only [Option.map_some, Option.some.injEq] at hg'
    subst hg'
    exact Or.inr (Or.inl hph)

theorem Inv'.dropFinish {x : Option Nat} {b : Snap} {s : St} {now : Nat} (h : Inv' x b s now) (cid : Nat) :
    Inv' x b (dropFinish s cid) now := by
  unfold Client.dropFinish
  have hd : Inv' x b (afterCallGone (Client.updCall s cid (fun c => { c with phase := .dropped, woken := false }))) now := by
    refine (h.updCall cid _ ?_).quiet (quiet_afterCallGone _)
    intro c hc hcid
    refine ⟨rfl, rfl, rfl, ?_, ?_, Or.inl, Or.inl⟩
    · intro ha
      rcases ha with h1 | h1 | h1 | h1
      · cases h1
      · cases h1
      · cases h1
      · exact Or.inr (Or.inr (Or.inr h1))
    · intro hw
      rcases hw with h1 | ⟨h1, -⟩ <;> cases h1
  split
  · exact h.quiet (quiet_emit s (by simp [Harmless]))
  · split
    · exact hd
    · exact hd
    · exact hd
    · exact h.quiet (quiet_emit s (by simp [Harmless]))

theorem Inv'.dropCall {x : Option Nat} {b : Snap} {s : St} {now : Nat} (h : Inv' x b s now) (cid : Nat) (at_ : DropAt) :
    Inv' x b (dropCall s cid at_ now) now :=
  dropCall_kept (P := fun s => Inv' x b s now) (fun h => h.quiet (quiet_dropPre _ cid))
    (fun h => h.quiet (quiet_dropClose _ cid)) (fun h => h.quiet (quiet_dropCancel _ cid)) (fun h => h.dropFinish cid)
    (fun h => h.pollDispatch) h at_

theorem Inv'.addCall {s : St} {now : Nat} (h : Inv' none none s now) (nc : Call) (hcid : nc.cid = s.calls.length)
    (hph : nc.phase = .notPolled) (hos : nc.os.val = none) (hout : nc.outcome = none) :
    Inv' none none { s with calls := s.calls ++ [nc] } now := by
  have hmem : ∀ {P : Call → Prop}, (∀ c ∈ s.calls, P c) → P nc → ∀ c ∈ s.calls ++ [nc], P c := by
    intro P h1 h2 c hc
    rcases List.mem_append.mp hc with hc | hc
    · exact h1 c hc
    · rw [List.mem_singleton.mp hc]; exact h2
  have hna : ¬ Assigned none nc := by simp [Assigned, hph]
  have hnw : ¬ Waiting none nc := by simp [Waiting, hph]
  refine ⟨fun f hf => (by cases hf), h.t, h.i, ⟨?_, ?_, ?_, ?_, ?_, ?_⟩, ⟨?_, ?_, ?_⟩, ?_⟩
  · rw [List.length_append, List.length_singleton]
    exact hmem (fun c hc => Nat.lt_succ_of_lt (h.c.cidLt c hc)) (hcid ▸ Nat.lt_succ_self _)
  · rw [List.map_append, List.map_singleton, List.nodup_append]
    refine ⟨h.c.cidNodup, by simp, fun a ha b' hb' => ?_⟩
    obtain ⟨c, hc, rfl⟩ := List.mem_map.mp ha
    rw [List.mem_singleton.mp hb', hcid]
    exact Nat.ne_of_lt (h.c.cidLt c hc)
  · exact hmem h.c.idLt (fun ha => absurd ha hna)
  · exact hmem (fun c1 h1 => hmem (h.c.idInj c1 h1) (fun _ a2 => absurd a2 hna)) (fun _ _ a1 => absurd a1 hna)
  · exact hmem h.c.osDl (fun hv => by rw [hos] at hv; cases hv)
  · exact hmem h.c.outDl (fun hv => by rw [hout] at hv; cases hv)
  · exact hmem h.r.resv (fun hw => absurd hw hnw)
  · exact fun r hr => (h.r.pqCtx r hr).imp fun c hc => ⟨List.mem_append_left _ hc.1, hc.2⟩
  · exact fun en hen => (h.r.inCtx en hen).imp fun c hc => ⟨List.mem_append_left _ hc.1, hc.2⟩
  · exact fun o ho => (h.o o ho).transfer rfl (fun c hc => ⟨c, List.mem_append_left _ hc, rfl, rfl⟩)

theorem Inv'.newCall {s : St} {now : Nat} (h : Inv' none none s now) (hd : Nat) (ctx : Ctx) (body : Nat) :
    Inv' none none (newCall s hd ctx body) now := by
  unfold Client.newCall
  split
  · exact h.addCall _ rfl rfl rfl rfl
  · exact h.quiet (quiet_emit s (by simp [Harmless]))

/-! ### ops -/

theorem inv_init (k m bc tc : Nat) (coupled : Bool) (now : Nat) : StInv (init k m bc tc coupled) now := by
  refine ⟨fun f hf => (by cases hf), TInv.empty _ _, ?_, ?_, ?_, ?_⟩
  · exact ⟨by simp [init], by simp [init], by simp [init]⟩
  · refine ⟨?_, ?_, ?_, ?_, ?_, ?_⟩ <;> simp [init]
  · refine ⟨?_, ?_, ?_⟩ <;> simp [init]
  · simp [OInv, init]

theorem Inv'.clearObs {x : Option Nat} {b : Snap} {s : St} {now : Nat} (h : Inv' x b s now) :
    Inv' x b { s with obs := [] } now :=
  ⟨h.fr, h.t, h.i, h.c, h.r, fun o ho => by cases ho⟩

theorem quiet_take (s : St) (t : SimT) (ms : List Msg) :
    Quiet s (ms.foldl (fun s m => emit s (.took (tid s) m)) { s with t := t }) :=
  (quiet_t s t).trans (quiet_foldl _ (fun s m => quiet_emit s (by simp [Harmless])) _ _)

theorem Inv'.setHandles {x : Option Nat} {s : St} {now : Nat} (h : Inv' x none s now) (hs : List Nat) (n : Nat) :
    Inv' x none { s with handles := hs, nextHandle := n } now :=
  ⟨fun f hf => (by cases hf), h.t, h.i, h.c, h.r, h.o⟩

theorem Inv'.cloneHandle {x : Option Nat} {s : St} {now : Nat} (h : Inv' x none s now) (hd : Nat) :
    Inv' x none (cloneHandle s hd) now := by
  unfold Client.cloneHandle
  split
  · exact h.setHandles _ _
  · exact h.quiet (quiet_emit s (by simp [Harmless]))

theorem Inv'.dropHandle {x : Option Nat} {s : St} {now : Nat} (h : Inv' x none s now) (hd : Nat) :
    Inv' x none (dropHandle s hd) now := by
  unfold Client.dropHandle
  split
  · exact (h.setHandles (s.handles.filter (· != hd)) s.nextHandle).quiet (quiet_afterCallGone _)
  · exact h.quiet (quiet_emit s (by simp [Harmless]))

theorem Inv'.applyOp {c : Sys} (h : Inv' none none c.s c.now) (op : COp) :
    Inv' none none (applyOp c op).s (applyOp c op).now :=
  Flow.applyOp_cases (P := fun now s' => Inv' none none s' now) c op (fun hd _ body => h.newCall hd _ body) h.pollCall
    h.dropCall h.cloneHandle h.dropHandle h.pollDispatch h.dropDispatch (fun _ => h.quiet (quiet_liftT _ _))
    (fun _ => h.quiet (quiet_t _ _)) (fun _ _ => h.quiet (quiet_take _ _ _))
    (fun _ => (h.mono (Nat.le_add_right _ _)).quiet (quiet_onAdvance _ _))

/-! ### reachable states, one op of a script -/

/-- How one op changes the frame: only `call`, `clone`, `drop-handle` do, in the obvious way. -/
theorem applyOp_frame {c : Sys} (h : StInv c.s c.now) (op : COp) :
    frame (applyOp c op).s = match op with
      | .call hd d tr _ =>
          (if c.s.handles.contains hd then callSig c.s.calls ++ [(c.s.calls.length, { deadline := d, trace := tr })]
            else callSig c.s.calls, c.s.maxInFlight, c.s.handles, c.s.nextHandle)
      | .clone hd =>
          (callSig c.s.calls, c.s.maxInFlight,
            if c.s.handles.contains hd then c.s.handles ++ [c.s.nextHandle] else c.s.handles,
            if c.s.handles.contains hd then c.s.nextHandle + 1 else c.s.nextHandle)
      | .dropHandle hd => (callSig c.s.calls, c.s.maxInFlight, c.s.handles.filter (· != hd), c.s.nextHandle)
      | _ => frame c.s := by
  have h' : Inv' none (some (frame c.s)) c.s c.now := h.reframe _ (fun f hf => by simpa using hf)
  cases op with
  | call hd d tr body =>
    show frame (newCall c.s hd _ body) = (if c.s.handles.contains hd then _ else _, _)
    unfold newCall
    by_cases hh : c.s.handles.contains hd = true
    · rw [if_pos hh, if_pos hh]
      simp only [frame, callSig, List.map_append, List.map_cons, List.map_nil]
    · rw [if_neg hh, if_neg hh]; rfl
  | clone hd =>
    show frame (cloneHandle c.s hd) = (_, _, if c.s.handles.contains hd then _ else _, if c.s.handles.contains hd then _ else _)
    unfold cloneHandle
    by_cases hh : c.s.handles.contains hd = true
    · rw [if_pos hh, if_pos hh, if_pos hh]; rfl
    · rw [if_neg hh, if_neg hh, if_neg hh]; rfl
  | dropHandle hd =>
    show frame (dropHandle c.s hd) = (_, _, c.s.handles.filter (· != hd), _)
    unfold dropHandle
    split
    · exact (quiet_afterCallGone _).frame
    · rename_i hh
      have : c.s.handles.filter (· != hd) = c.s.handles :=
        List.filter_eq_self.2 fun x hx => by
          rw [bne_iff_ne]; rintro rfl; exact hh (List.elem_eq_true_of_mem hx)
      rw [this]; rfl
  | pollCall cid => exact (h'.pollCall cid).fr _ rfl
  | dropCall cid site => exact (h'.dropCall cid site).fr _ rfl
  | pollDispatch => exact h'.pollDispatch.fr _ rfl
  | dropDispatch => exact h'.dropDispatch.fr _ rfl
  | injectResp _ _ | injectErr | eof | setReady _ | setFlush _ => exact (quiet_liftT _ _).frame
  | fault _ | faultSkip _ | selfWake _ => rfl
  | take n => exact (quiet_take _ _ _).frame
  | advance n => exact (quiet_onAdvance _ _).frame

/-- `max_in_flight_requests` is a constant of the configuration. -/
theorem maxInFlight_applyOp (c : Sys) (op : COp) : (applyOp c op).s.maxInFlight = c.s.maxInFlight :=
  -- of every state (`applyOp_frame` needs the invariant): the frame of the function each op runs
  Flow.applyOp_cases (P := fun _ s' => s'.maxInFlight = c.s.maxInFlight) c op
    (call := fun _ _ _ => Flow.newCall_maxInFlight _ _ _ _)
    (pollCall := fun _ => Flow.pollCall_maxInFlight _ _ _)
    (dropCall := fun cid site => dropCall_kept (P := fun s' => s'.maxInFlight = c.s.maxInFlight)
      (pre := fun h => (Flow.dropPre_maxInFlight _ cid).trans h) (close := fun h => (Flow.dropClose_maxInFlight _ cid).trans h)
      (cancel := fun h => (Flow.dropCancel_maxInFlight _ cid).trans h) (finish := fun h => (Flow.dropFinish_maxInFlight _ cid).trans h)
      (poll := fun h => (Flow.pollDispatch_maxInFlight _ _).trans h) rfl site)
    (clone := fun _ => Flow.cloneHandle_maxInFlight _ _)
    (dropHandle := fun _ => Flow.dropHandle_maxInFlight _ _)
    (pollDispatch := Flow.pollDispatch_maxInFlight _ _)
    (dropDispatch := Flow.dropDispatch_maxInFlight _)
    (lift := fun _ => Flow.liftT_maxInFlight _ _)
    (setT := fun _ => rfl)
    (take := fun _ _ => (quiet_take _ _ _).maxInFlight)
    (advance := fun _ => Flow.onAdvance_maxInFlight _ _)

/-- Every state reachable by a script satisfies the invariant (at the script's clock). -/
theorem inv_reach (m bcap tcap : Nat) (coupled : Bool) (ops : List COp) :
    StInv (ops.foldl applyOp (initSys m bcap tcap coupled)).s (ops.foldl applyOp (initSys m bcap tcap coupled)).now :=
  foldl_keeps (P := fun c : Sys => StInv c.s c.now) (fun _ op h => h.applyOp op) ops (inv_init 0 m bcap tcap coupled 0)

theorem maxInFlight_reach (m bcap tcap : Nat) (coupled : Bool) (ops : List COp) :
    (ops.foldl applyOp (initSys m bcap tcap coupled)).s.maxInFlight = m :=
  foldl_field (fun c : Sys => c.s.maxInFlight) applyOp maxInFlight_applyOp ops _

theorem inv_clr {c : Sys} (h : StInv c.s c.now) : StInv (clr c).s (clr c).now := h.clearObs

theorem inv_stepOp {c : Sys} (h : StInv c.s c.now) (op : COp) : StInv (stepOp c op).1.s (stepOp c op).1.now := by
  rw [stepOp_fst]; exact inv_clr ((inv_clr h).applyOp op)

/-- The states a script passes through when run op by op with `stepOp` (observations cleared after each op, as
`trace` does) satisfy the invariant, too. -/
theorem inv_reach_stepOp (m bcap tcap : Nat) (coupled : Bool) (ops : List COp) :
    StInv (ops.foldl (fun c op => (stepOp c op).1) (initSys m bcap tcap coupled)).s
      (ops.foldl (fun c op => (stepOp c op).1) (initSys m bcap tcap coupled)).now := by
  suffices ∀ c : Sys, StInv c.s c.now → StInv (ops.foldl (fun c op => (stepOp c op).1) c).s
      (ops.foldl (fun c op => (stepOp c op).1) c).now from this _ (inv_init 0 m bcap tcap coupled 0)
  induction ops with
  | nil => exact fun c h => h
  | cons op ops ih => exact fun c h => ih _ (inv_stepOp h op)

/-- The observations of one op are all good with respect to the state after the op. -/
theorem obs_stepOp {c : Sys} (h : StInv c.s c.now) (op : COp) :
    ∀ o ∈ (stepOp c op).2, ObsGood (stepOp c op).1.s.maxInFlight (stepOp c op).1.s.calls (stepOp c op).1.now o := by
  intro o ho
  rw [stepOp_snd, List.mem_reverse] at ho
  rw [stepOp_fst, clr_maxInFlight, clr_calls, clr_now]
  exact ((inv_clr h).applyOp op).o o ho

theorem frame_clr (c : Sys) : frame (clr c).s = frame c.s := rfl

theorem stepOp_frame {c : Sys} (h : StInv c.s c.now) (op : COp) :
    frame (stepOp c op).1.s = frame (applyOp c op).s := by
  rw [stepOp_fst, frame_clr, applyOp_frame (inv_clr h) op, applyOp_frame h op]
  rfl

theorem maxInFlight_stepOp (c : Sys) (op : COp) : (stepOp c op).1.s.maxInFlight = c.s.maxInFlight := by
  rw [stepOp_fst, clr_maxInFlight]
  exact maxInFlight_applyOp (clr c) op

/-- the `(cid, deadline)` pairs of the calls -/
def sigD (l : List Call) : List (Nat × Nat) := l.map (fun c => (c.cid, c.ctx.deadline))

theorem sigD_eq (l : List Call) : sigD l = (callSig l).map (fun p => (p.1, p.2.deadline)) := by
  simp only [sigD, callSig, List.map_map, Function.comp_def]

/-! ### the clock of a script -/

/-- The virtual time an op adds to the clock. -/
def opAdv : COp → Nat
  | .advance n => n
  | _ => 0

/-- The total virtual time a script advances the clock by (the sum of its `advance` amounts). -/
def advSum : List COp → Nat
  | [] => 0
  | op :: ops => opAdv op + advSum ops

theorem applyOp_now (c : Sys) (op : COp) : (applyOp c op).now = c.now + opAdv op := by
  cases op <;> rfl

theorem stepOp_now (c : Sys) (op : COp) : (stepOp c op).1.now = c.now + opAdv op := by
  rw [stepOp_fst, clr_now, applyOp_now, clr_now]

theorem foldl_applyOp_now (ops : List COp) (c : Sys) : (ops.foldl applyOp c).now = c.now + advSum ops := by
  induction ops generalizing c with
  | nil => rfl
  | cons op ops ih => rw [List.foldl_cons, ih, applyOp_now, advSum]; omega

theorem advSum_append (a b : List COp) : advSum (a ++ b) = advSum a + advSum b := by
  induction a with
  | nil => simp [advSum]
  | cons op a ih => simp only [List.cons_append, advSum, ih]; omega

theorem advSum_prefix_le {pre ops : List COp} (h : pre <+: ops) : advSum pre ≤ advSum ops := by
  obtain ⟨suf, rfl⟩ := h
  rw [advSum_append]; omega

/-- The clock of a reachable state is the script's total advance. -/
theorem now_reach (m bcap tcap : Nat) (coupled : Bool) (ops : List COp) :
    (ops.foldl applyOp (initSys m bcap tcap coupled)).now = advSum ops := by
  rw [foldl_applyOp_now]; exact Nat.zero_add _

end TarpcModel.Client
