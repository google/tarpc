import TarpcModel.Lemmas.ServerDelayQ
import TarpcModel.Lemmas.ServerFlow
import TarpcModel.Lemmas.ServerExecs
/-!
Invariants of the server model (`Server/Model.lean`) over one channel poll: the part that does not speak of time.  Trace
properties are stated as state invariants through a *ghost* state folded over the observations (`gstep`, `gh`).

The invariant of a poll is `MidG`: entries ↔ executions (`ExecWF`), the ghost coupling, the ghost's checks, the limit.  None
of its clauses reads the timer queue, so no `midG_*` lemma has a hypothesis about it.  The table ↔ timers bijection is the
business of `Flow.TInv` (`Lemmas/ServerTable.lean`); `TableWF` states it once more over the `(key, id)` pairs, the form
`Props/C08`, `Props/C11Server` quote, and is read off `TInv` where it is wanted (`Flow.TInv.tableWF`).  `Mid` is `MidG` with
`TableWF`: a definition no proof carries.

Steps the invariants do not see are `Quiet`.  A relation to be walked through the pumps is stated as a `PreRel` / `BaseRel` /
`WriteRel` / `PollRel` (one field per operation on the table, everything else being `Quiet`), which `BaseRel.has` … turn into
a `Has` over the pump's class (`Lemmas/ServerSteps.lean`); one that must tell the quiet actions apart is a `Has` directly.

Trap: `simp only []`, `rfl` or `decide` on a goal that still contains an *unsplit*
`match s.timers.insert … with` hangs (whnf unfolds `DelayQ.insert`); use `startRequest_out`.
-/
namespace TarpcModel.Server

/-! ## ghost state over observations -/

/-- Ghost bookkeeping folded over observations (oldest first). -/
structure Ghost where
  /-- ids of the request messages read so far -/
  reads : List Nat := []
  /-- ids answered since a request with that id was last read -/
  sent : List Nat := []
  /-- number of `start_send` calls -/
  sends : Nat := 0
  /-- a request was handed out in the current op -/
  yieldedNow : Bool := false
  /-- every response written so far answers an id read before -/
  okOrphan : Bool := true
  /-- no id was answered twice without being read again in between -/
  okOnce : Bool := true
  /-- every `counts` observation showed as many timers as tracked requests -/
  okCounts : Bool := true
  /-- every `counts` observation that followed a `yielded` showed at most the limit -/
  okLimit : Bool := true
deriving Repr, DecidableEq

def gstep (L : Option Nat) (g : Ghost) : Obs → Ghost
  | .tNext _ (.item (.request id _ _ _)) => { g with reads := id :: g.reads, sent := g.sent.filter (· != id) }
  | .tSend _ (.response id _) _ =>
      { g with sends := g.sends + 1, okOrphan := g.okOrphan && g.reads.contains id,
               okOnce := g.okOnce && !g.sent.contains id, sent := id :: g.sent }
  | .tSend _ _ _ => { g with sends := g.sends + 1 }
  | .yielded _ _ _ _ => { g with yieldedNow := true }
  | .counts (.server _) a b =>
      { g with okCounts := g.okCounts && (a == b),
               okLimit := g.okLimit && (match L with | some l => !g.yieldedNow || decide (a ≤ l) | none => true) }
  | _ => g

/-- the ghost after the observations `obs` (newest first, as the model stores them) -/
def gh (L : Option Nat) (g0 : Ghost) (obs : List Obs) : Ghost := obs.foldr (fun o g => gstep L g o) g0

@[simp] theorem gh_nil (L g0) : gh L g0 [] = g0 := rfl
@[simp] theorem gh_cons (L g0 o obs) : gh L g0 (o :: obs) = gstep L (gh L g0 obs) o := rfl
theorem gh_append (L g0 l1 l2) : gh L g0 (l1 ++ l2) = gh L (gh L g0 l2) l1 := by simp [gh, List.foldr_append]

@[simp] theorem gstep_tReady (L g ep r) : gstep L g (.tReady ep r) = g := rfl
@[simp] theorem gstep_tFlush (L g ep r) : gstep L g (.tFlush ep r) = g := rfl
@[simp] theorem gstep_tClose (L g ep r) : gstep L g (.tClose ep r) = g := rfl
@[simp] theorem gstep_tViolation (L g ep w) : gstep L g (.tViolation ep w) = g := rfl
@[simp] theorem gstep_wake (L g t) : gstep L g (.wake t) = g := rfl
@[simp] theorem gstep_ret (L g t r) : gstep L g (.ret t r) = g := rfl
@[simp] theorem gstep_resolved (L g c o t) : gstep L g (.resolved c o t) = g := rfl
@[simp] theorem gstep_handler (L g r e t) : gstep L g (.handler r e t) = g := rfl
@[simp] theorem gstep_spin (L g t) : gstep L g (.spin t) = g := rfl
@[simp] theorem gstep_panic (L g t w) : gstep L g (.panic t w) = g := rfl
@[simp] theorem gstep_took (L g ep m) : gstep L g (.took ep m) = g := rfl
@[simp] theorem gstep_noop (L g) : gstep L g .noop = g := rfl
@[simp] theorem gstep_tNext_pending (L g ep) : gstep L g (.tNext ep .pending) = g := rfl
@[simp] theorem gstep_tNext_err (L g ep) : gstep L g (.tNext ep .err) = g := rfl
@[simp] theorem gstep_tNext_eof (L g ep) : gstep L g (.tNext ep .eof) = g := rfl
@[simp] theorem gstep_tNext_cancel (L g ep id tr) : gstep L g (.tNext ep (.item (.cancel id tr))) = g := rfl
@[simp] theorem gstep_tNext_response (L g ep id r) : gstep L g (.tNext ep (.item (.response id r))) = g := rfl
theorem gstep_counts (L g k a b) : gstep L g (.counts (.server k) a b) =
    { g with okCounts := g.okCounts && (a == b),
             okLimit := g.okLimit && (match L with | some l => !g.yieldedNow || decide (a ≤ l) | none => true) } := rfl

/-! ## the part of an execution the invariants look at -/

/-- `(rid, request id, aborted)` -/
def ekey (x : Exec) : Nat × Nat × Bool := (x.rid, x.id, x.aborted)

/-- what `abortExec rid` does to the keys -/
def abortKeys (rid : Nat) (l : List (Nat × Nat × Bool)) : List (Nat × Nat × Bool) :=
  l.map (fun k => if k.1 == rid then (k.1, k.2.1, true) else k)

/-! ## steps the invariants do not see -/

/-- A step that leaves alone everything the invariants look at (it may emit observations the ghost
ignores, touch wakers, queues, the transport, fields of executions other than `rid`/`id`/`aborted`). -/
structure Quiet (s s' : St) : Prop where
  inflight : s'.inflight = s.inflight
  timers : s'.timers = s.timers
  ekeys : s'.execs.map ekey = s.execs.map ekey
  gh : ∀ L g0, gh L g0 s'.obs = gh L g0 s.obs
  limit : s'.limit = s.limit
  tar : s'.throttleAfterRead = s.throttleAfterRead
  poisoned : s'.poisoned = s.poisoned

theorem Quiet.refl (s : St) : Quiet s s := ⟨rfl, rfl, rfl, fun _ _ => rfl, rfl, rfl, rfl⟩

theorem Quiet.trans {a b c : St} (h1 : Quiet a b) (h2 : Quiet b c) : Quiet a c :=
  ⟨h2.inflight.trans h1.inflight, h2.timers.trans h1.timers, h2.ekeys.trans h1.ekeys,
   fun L g0 => (h2.gh L g0).trans (h1.gh L g0), h2.limit.trans h1.limit, h2.tar.trans h1.tar,
   h2.poisoned.trans h1.poisoned⟩

theorem quiet_emit (s : St) {o : Obs} (ho : ∀ L g, gstep L g o = g) : Quiet s (emit s o) :=
  ⟨rfl, rfl, rfl, fun L _ => ho L _, rfl, rfl, rfl⟩

@[simp] theorem updExec_ekeys (s : St) (rid : Nat) (f : Exec → Exec) (hr : ∀ e, (f e).rid = e.rid)
    (hi : ∀ e, (f e).id = e.id) (ha : ∀ e, (f e).aborted = e.aborted) :
    (updExec s rid f).execs.map ekey = s.execs.map ekey := by
  simp only [updExec, List.map_map]
  apply List.map_congr_left
  intro e _
  simp only [Function.comp]
  split <;> simp [ekey, hr, hi, ha]

theorem quiet_updExec (s : St) (rid : Nat) (f : Exec → Exec) (hf : Flow.Stable f) : Quiet s (updExec s rid f) :=
  ⟨rfl, rfl, updExec_ekeys s rid f (fun e => (hf e).1) (fun e => (hf e).2.1) (fun e => (hf e).2.2.2),
   fun _ _ => rfl, rfl, rfl, rfl⟩

theorem gstep_execObs {o : Obs} (h : Flow.ExecObs o) (L : Option Nat) (g : Ghost) : gstep L g o = g := by
  cases o <;> first | rfl | exact h.elim

theorem gstep_tableObs {o : Obs} (h : Flow.TableObs o ∨ ∃ t, o = .spin t) (L : Option Nat) (g : Ghost) : gstep L g o = g := by
  rcases h with (h | ⟨_, _, rfl⟩) | ⟨_, rfl⟩
  · exact gstep_execObs h L g
  · rfl
  · rfl

theorem _root_.TarpcModel.Server.Flow.Adds.gh {Q : Obs → Prop} {s s' : St} (h : Flow.Adds Q s s')
    (hQ : ∀ o, Q o → ∀ L g, gstep L g o = g) (L : Option Nat) (g0 : Ghost) : gh L g0 s'.obs = gh L g0 s.obs := by
  obtain ⟨l, e, p⟩ := h
  rw [e, gh_append]
  clear e
  generalize Server.gh L g0 s.obs = g
  induction l with
  | nil => rfl
  | cons o l ih =>
    rw [gh_cons, ih fun o ho => p o (List.mem_cons_of_mem _ ho)]
    exact hQ o (p o List.mem_cons_self) L g

theorem quiet_emit_spin (s : St) (t : TaskId) : Quiet s (emit s (.spin t)) := quiet_emit s fun _ _ => rfl

theorem Quiet.same {s s' : St}
    (h : (s'.inflight, s'.timers, s'.execs, s'.obs, s'.limit, s'.throttleAfterRead, s'.poisoned) =
      (s.inflight, s.timers, s.execs, s.obs, s.limit, s.throttleAfterRead, s.poisoned)) : Quiet s s' := by
  simp only [Prod.mk.injEq] at h
  obtain ⟨h1, h2, h3, h4, h5, h6, h7⟩ := h
  exact ⟨h1, h2, by rw [h3], fun _ _ => by rw [h4], h5, h6, h7⟩

section
open Flow

/-- the actions that are quiet steps -/
def QuietK : Act → Prop
  | .emit o => ∀ L g, gstep L g o = g
  | .upd u => u ≠ .abort
  | .spin | .setT _ _ | .fused | .woken | .unwoken | .cancelRx _ | .rqRx _ | .rqGrant | .rqFree | .rqTake | .rqWait | .rqUnassign
  | .rqUnsend | .popResp | .pushResp | .popCancel | .pushCancel | .nextVis | .dropWaiters => True
  | _ => False

theorem quiet_has : Has QuietK Server.Quiet where
  refl := Quiet.refl
  trans := Quiet.trans
  prim := by
    intro k a b hk hp
    cases hp with
    | emit s o => exact quiet_emit _ hk
    | spin s => exact quiet_emit_spin _ _
    | upd s r u => exact quiet_updExec _ _ _ (u.stable hk)
    | setT | fused | woken | unwoken | cancelRx | rqRx | rqGrant | rqFree | rqTake | rqWait | rqUnassign | rqUnsend | popResp | pushResp
    | popCancel | pushCancel | nextVis | dropWaiters => exact .same rfl
    | _ => exact hk.elim

theorem sink_quiet {Q : Obs → Prop} (hQ : ∀ o, Q o → ∀ L g, gstep L g o = g) : ∀ k, SinkK Q k → QuietK k := by
  intro k hk
  cases hk with
  | obs h => exact hQ _ h
  | wake | viol => exact fun _ _ => rfl
  | woken | setT => exact trivial

theorem wake_quiet : ∀ k, WakeK k → QuietK k := by
  intro k hk
  cases hk with
  | wake t => exact fun _ _ => rfl
  | uwoken => exact UKind.noConfusion
  | _ => exact trivial

theorem exec_quiet : ∀ k, ExecK k → QuietK k := by
  intro k hk
  cases hk with
  | noop | handler | ret | wake => exact fun _ _ => rfl
  | polled | aborted | running | handled | gone | finish | done | park | sending | uwoken => exact UKind.noConfusion
  | _ => exact trivial

theorem quiet_wakeServer (s : St) : Server.Quiet s (wakeServer s) :=
  quiet_has.steps (wakeServer_in (fun _ _ _ => rfl) trivial s)
theorem quiet_wakeExec (s : St) (rid : Nat) : Server.Quiet s (wakeExec s rid) :=
  quiet_has.steps ((wakeExec_steps s rid).mono fun k hk => wake_quiet k (execWake_le_wake k hk))
theorem quiet_pollExec (s : St) (vid now : Nat) : Server.Quiet s (pollExec s vid now) :=
  quiet_has.steps ((pollExec_steps s vid now).mono exec_quiet)
theorem quiet_dropExec (s : St) (vid now : Nat) : Server.Quiet s (dropExec s vid now) :=
  quiet_has.steps ((dropExec_steps s vid now).mono exec_quiet)
theorem quiet_finishHandler (s : St) (vid : Nat) (res : Res) : Server.Quiet s (finishHandler s vid res) :=
  quiet_has.steps ((finishHandler_steps s vid res).mono fun k hk => exec_quiet k (finish_le_exec k hk))
theorem quiet_emitViolations (s : St) (n : Nat) : Server.Quiet s (emitViolations s n) :=
  quiet_has.steps ((emitViolations_steps (Q := fun _ => False) s n).mono (sink_quiet fun _ h => h.elim))
end

theorem quiet_tFlush (s : St) : Quiet s (tFlush s).1 :=
  quiet_has.steps ((Flow.tFlush_steps s).mono
    (sink_quiet fun o ho => by cases ho; exact fun _ _ => rfl))

@[simp] theorem markThrottled_eq (s : St) (rid : Nat) :
    limitedPollNextLegacy.markThrottled s rid = updExec s rid (fun e => { e with phase := .gone, woken := false }) := rfl

/-! ## frame lemmas -/


@[simp] theorem wakeServer_dropped (s : St) : (wakeServer s).dropped = s.dropped := Flow.wakeServer_dropped s
@[simp] theorem wakeServer_done (s : St) : (wakeServer s).done = s.done := Flow.wakeServer_done s
@[simp] theorem wakeServer_gh (L : Option Nat) (g0 : Ghost) (s : St) : gh L g0 (wakeServer s).obs = gh L g0 s.obs :=
  (quiet_wakeServer s).gh L g0

@[simp] theorem updExec_dropped (s : St) (rid : Nat) (f : Exec → Exec) : (updExec s rid f).dropped = s.dropped := rfl
@[simp] theorem updExec_done (s : St) (rid : Nat) (f : Exec → Exec) : (updExec s rid f).done = s.done := rfl
@[simp] theorem updExec_cancelQ (s : St) (rid : Nat) (f : Exec → Exec) : (updExec s rid f).cancelQ = s.cancelQ := rfl
@[simp] theorem updExec_obs (s : St) (rid : Nat) (f : Exec → Exec) : (updExec s rid f).obs = s.obs := rfl

@[simp] theorem wakeExec_ekeys (s : St) (rid : Nat) : (wakeExec s rid).execs.map ekey = s.execs.map ekey :=
  (quiet_wakeExec s rid).ekeys

@[simp] theorem emitViolations_gh (L : Option Nat) (g0 : Ghost) (s : St) (n : Nat) :
    gh L g0 (emitViolations s n).obs = gh L g0 s.obs := (quiet_emitViolations s n).gh L g0


@[simp] theorem tNext_sidx (s : St) : (tNext s).1.sidx = s.sidx := Flow.tNext_sidx s
@[simp] theorem tNext_poisoned (s : St) : (tNext s).1.poisoned = s.poisoned := Flow.tNext_poisoned s
@[simp] theorem tNext_done (s : St) : (tNext s).1.done = s.done := Flow.tNext_done s
@[simp] theorem tNext_respQ (s : St) : (tNext s).1.respQ = s.respQ := Flow.tNext_respQ s
@[simp] theorem tNext_cancelQ (s : St) : (tNext s).1.cancelQ = s.cancelQ := Flow.tNext_cancelQ s

theorem ensureWriteable_keeps {α : Type} (π : St → α) (hr : ∀ s, π (tReady s).1 = π s) (hf : ∀ s, π (tFlush s).1 = π s)
    (hs : ∀ s o, π (emit s o) = π s) (s : St) : π (ensureWriteable s).1 = π s :=
  Flow.ensureWriteable_ind (P := fun a => π a = π s) (fun a h => (hr a).trans h) (fun a h => (hf a).trans h)
    (fun a h => (hs a _).trans h) s rfl

@[simp] theorem ensureWriteable_sidx (s : St) : (ensureWriteable s).1.sidx = s.sidx :=
  ensureWriteable_keeps _ Flow.tReady_sidx Flow.tFlush_sidx (fun _ _ => rfl) s
@[simp] theorem ensureWriteable_dropped (s : St) : (ensureWriteable s).1.dropped = s.dropped :=
  ensureWriteable_keeps _ Flow.tReady_dropped Flow.tFlush_dropped (fun _ _ => rfl) s
@[simp] theorem ensureWriteable_done (s : St) : (ensureWriteable s).1.done = s.done :=
  ensureWriteable_keeps _ Flow.tReady_done Flow.tFlush_done (fun _ _ => rfl) s
@[simp] theorem ensureWriteable_respQ (s : St) : (ensureWriteable s).1.respQ = s.respQ :=
  ensureWriteable_keeps _ Flow.tReady_respQ Flow.tFlush_respQ (fun _ _ => rfl) s
@[simp] theorem ensureWriteable_cancelQ (s : St) : (ensureWriteable s).1.cancelQ = s.cancelQ :=
  ensureWriteable_keeps _ Flow.tReady_cancelQ Flow.tFlush_cancelQ (fun _ _ => rfl) s


@[simp] theorem flushArm_sidx (s : St) (rc : Bool) : (flushArm s rc).1.sidx = s.sidx :=
  Flow.flushArm_ind (P := fun a => a.sidx = s.sidx) (fun a h => (Flow.tFlush_sidx a).trans h) s rc rfl
@[simp] theorem flushArm_dropped (s : St) (rc : Bool) : (flushArm s rc).1.dropped = s.dropped :=
  Flow.flushArm_ind (P := fun a => a.dropped = s.dropped) (fun a h => (Flow.tFlush_dropped a).trans h) s rc rfl
@[simp] theorem flushArm_done (s : St) (rc : Bool) : (flushArm s rc).1.done = s.done :=
  Flow.flushArm_ind (P := fun a => a.done = s.done) (fun a h => (Flow.tFlush_done a).trans h) s rc rfl
@[simp] theorem flushArm_respQ (s : St) (rc : Bool) : (flushArm s rc).1.respQ = s.respQ := Flow.flushArm_respQ s rc
@[simp] theorem flushArm_cancelQ (s : St) (rc : Bool) : (flushArm s rc).1.cancelQ = s.cancelQ :=
  Flow.flushArm_ind (P := fun a => a.cancelQ = s.cancelQ) (fun a h => (Flow.tFlush_cancelQ a).trans h) s rc rfl

@[simp] theorem dropOffered_sidx (s : St) (rid id : Nat) : (dropOffered s rid id).sidx = s.sidx := by
  obtain ⟨_, _, _, _, _, h⟩ := Flow.dropOffered_eq s rid id; rw [h]
@[simp] theorem dropOffered_dropped (s : St) (rid id : Nat) : (dropOffered s rid id).dropped = s.dropped := by
  obtain ⟨_, _, _, _, _, h⟩ := Flow.dropOffered_eq s rid id; rw [h]
@[simp] theorem dropOffered_done (s : St) (rid id : Nat) : (dropOffered s rid id).done = s.done := by
  obtain ⟨_, _, _, _, _, h⟩ := Flow.dropOffered_eq s rid id; rw [h]
@[simp] theorem dropOffered_respQ (s : St) (rid id : Nat) : (dropOffered s rid id).respQ = s.respQ := by
  obtain ⟨_, _, _, _, _, h⟩ := Flow.dropOffered_eq s rid id; rw [h]

/- `done`, `dropped` and the configuration are kept by every operation but `pollServer` and `dropServer`
(`Flow.dd_closed`, `Flow.cfg_closed`). -/
@[simp] theorem pollExec_sidx (s : St) (vid now : Nat) : (pollExec s vid now).sidx = s.sidx :=
  ((Flow.cfg_closed s now).pollExec s vid now ⟨rfl, rfl, rfl, rfl⟩).1
@[simp] theorem pollExec_dropped (s : St) (vid now : Nat) : (pollExec s vid now).dropped = s.dropped :=
  ((Flow.dd_closed s.done s.dropped now).pollExec s vid now ⟨rfl, rfl⟩).2
@[simp] theorem pollExec_done (s : St) (vid now : Nat) : (pollExec s vid now).done = s.done :=
  ((Flow.dd_closed s.done s.dropped now).pollExec s vid now ⟨rfl, rfl⟩).1
@[simp] theorem pollExec_inflight (s : St) (vid now : Nat) : (pollExec s vid now).inflight = s.inflight :=
  (quiet_pollExec s vid now).inflight

@[simp] theorem dropExec_sidx (s : St) (vid now : Nat) : (dropExec s vid now).sidx = s.sidx :=
  ((Flow.cfg_closed s now).dropExec s vid now ⟨rfl, rfl, rfl, rfl⟩).1
@[simp] theorem dropExec_dropped (s : St) (vid now : Nat) : (dropExec s vid now).dropped = s.dropped :=
  ((Flow.dd_closed s.done s.dropped now).dropExec s vid now ⟨rfl, rfl⟩).2
@[simp] theorem dropExec_done (s : St) (vid now : Nat) : (dropExec s vid now).done = s.done :=
  ((Flow.dd_closed s.done s.dropped now).dropExec s vid now ⟨rfl, rfl⟩).1
@[simp] theorem dropExec_inflight (s : St) (vid now : Nat) : (dropExec s vid now).inflight = s.inflight :=
  (quiet_dropExec s vid now).inflight

@[simp] theorem finishHandler_sidx (s : St) (vid : Nat) (res : Res) : (finishHandler s vid res).sidx = s.sidx :=
  ((Flow.cfg_closed s 0).finishHandler s vid res ⟨rfl, rfl, rfl, rfl⟩).1
@[simp] theorem finishHandler_inflight (s : St) (vid : Nat) (res : Res) : (finishHandler s vid res).inflight = s.inflight :=
  (quiet_finishHandler s vid res).inflight
@[simp] theorem finishHandler_dropped (s : St) (vid : Nat) (res : Res) : (finishHandler s vid res).dropped = s.dropped :=
  ((Flow.dd_closed s.done s.dropped 0).finishHandler s vid res ⟨rfl, rfl⟩).2
@[simp] theorem finishHandler_done (s : St) (vid : Nat) (res : Res) : (finishHandler s vid res).done = s.done :=
  ((Flow.dd_closed s.done s.dropped 0).finishHandler s vid res ⟨rfl, rfl⟩).1

@[simp] theorem queueAndFinish_cancelQ (s : St) (e : Exec) (res : Res) (now : Nat) : (queueAndFinish s e res now).cancelQ = s.cancelQ := by
  unfold queueAndFinish
  rw [Flow.emit_cancelQ, updExec_cancelQ]
  split
  · rfl
  · dsimp only; split
    · rw [Flow.wakeServer_cancelQ]
    · rfl
@[simp] theorem trySend_cancelQ (s : St) (e : Exec) (res : Res) (now : Nat) : (trySend s e res now).cancelQ = s.cancelQ :=
  (Flow.trySend_calls s e res now).kept (P := fun a => a.cancelQ = s.cancelQ)
    (fun hk hp h => by
      cases hk <;> cases hp
      case queueFinish => exact (queueAndFinish_cancelQ _ _ _ _).trans h
      all_goals exact h) rfl
theorem unsend_cancelQ (s : St) (r : Nat) : (Flow.unsend s r).cancelQ = s.cancelQ := by
  unfold Flow.unsend; split
  · rw [Flow.rqRelease_cancelQ]
  · rfl
theorem unsend_respQ (s : St) (r : Nat) : (Flow.unsend s r).respQ = s.respQ := by
  unfold Flow.unsend; split
  · rw [Flow.rqRelease_respQ]
  · rfl
theorem peStart_cancelQ (s : St) (e : Exec) (vid now : Nat) : (Flow.peStart s e vid now).cancelQ = s.cancelQ := by
  rfl
/-- `poll-exec` queues no cancellation: the guard of an aborted execution is disarmed, not run -/
@[simp] theorem pollExec_cancelQ (s : St) (vid now : Nat) : (pollExec s vid now).cancelQ = s.cancelQ := by
  have ho := Flow.pollExec_out s vid now
  generalize pollExec s vid now = a at ho ⊢
  cases ho with
  | noVis | dead => rfl
  | sendNone e => rw [Flow.emit_cancelQ, updExec_cancelQ]
  | send e res => rw [trySend_cancelQ, updExec_cancelQ]
  | finish e res => rw [trySend_cancelQ, updExec_cancelQ, Flow.emit_cancelQ, peStart_cancelQ, updExec_cancelQ]
  | pending e => rw [Flow.emit_cancelQ, updExec_cancelQ, peStart_cancelQ, updExec_cancelQ]
  | aborted e =>
    unfold Flow.peAborted Flow.peDrop
    rw [Flow.emit_cancelQ, updExec_cancelQ]
    cases e.phase
    case sending => exact unsend_cancelQ _ _
    -- a handler, in any other phase: dropped with at most its `dropped` report
    all_goals (dsimp only; split <;> rfl)
@[simp] theorem guardDrop_respQ (s : St) (e : Exec) : (guardDrop s e).respQ = s.respQ := by
  unfold guardDrop
  split
  · dsimp only; split
    · rw [Flow.wakeServer_respQ]
    · rfl
  · rfl
@[simp] theorem dropExec_respQ (s : St) (vid now : Nat) : (dropExec s vid now).respQ = s.respQ := by
  have ho := Flow.dropExec_out s vid now
  generalize dropExec s vid now = a at ho ⊢
  cases ho with
  | noVis | dead => rfl
  | live e =>
    rw [guardDrop_respQ, Flow.updExec_respQ]
    unfold Flow.deDrop
    cases e.phase
    case sending => exact unsend_respQ _ _
    case running => dsimp only; split <;> rfl
    all_goals rfl
@[simp] theorem finishHandler_respQ (s : St) (vid : Nat) (res : Res) : (finishHandler s vid res).respQ = s.respQ := by
  unfold finishHandler
  split
  · rfl
  · dsimp only; split
    · rfl
    · split
      · rw [Flow.wakeExec_respQ]; rfl
      · rfl
@[simp] theorem finishHandler_cancelQ (s : St) (vid : Nat) (res : Res) : (finishHandler s vid res).cancelQ = s.cancelQ := by
  unfold finishHandler
  split
  · rfl
  · dsimp only; split
    · rfl
    · split
      · rw [Flow.wakeExec_cancelQ]; rfl
      · rfl

@[simp] theorem liftT_sidx (s : St) (r : SimT × Bool) : (liftT s r).sidx = s.sidx := by
  obtain ⟨_, _, h⟩ := Flow.liftT_eq s r; rw [h]
@[simp] theorem liftT_inflight (s : St) (r : SimT × Bool) : (liftT s r).inflight = s.inflight := by
  obtain ⟨_, _, h⟩ := Flow.liftT_eq s r; rw [h]
@[simp] theorem liftT_dropped (s : St) (r : SimT × Bool) : (liftT s r).dropped = s.dropped := by
  obtain ⟨_, _, h⟩ := Flow.liftT_eq s r; rw [h]
@[simp] theorem liftT_done (s : St) (r : SimT × Bool) : (liftT s r).done = s.done := by
  obtain ⟨_, _, h⟩ := Flow.liftT_eq s r; rw [h]
@[simp] theorem liftT_respQ (s : St) (r : SimT × Bool) : (liftT s r).respQ = s.respQ := by
  obtain ⟨_, _, h⟩ := Flow.liftT_eq s r; rw [h]
@[simp] theorem liftT_cancelQ (s : St) (r : SimT × Bool) : (liftT s r).cancelQ = s.cancelQ := by
  obtain ⟨_, _, h⟩ := Flow.liftT_eq s r; rw [h]
@[simp] theorem liftT_execs (s : St) (r : SimT × Bool) : (liftT s r).execs = s.execs := by
  obtain ⟨_, _, h⟩ := Flow.liftT_eq s r; rw [h]

@[simp] theorem onAdvance_sidx (s : St) (now : Nat) : (onAdvance s now).sidx = s.sidx := by
  obtain ⟨_, _, _, h⟩ := Flow.onAdvance_eq s now; rw [h]
@[simp] theorem onAdvance_throttleAfterRead (s : St) (now : Nat) : (onAdvance s now).throttleAfterRead = s.throttleAfterRead := by
  obtain ⟨_, _, _, h⟩ := Flow.onAdvance_eq s now; rw [h]
@[simp] theorem onAdvance_dropped (s : St) (now : Nat) : (onAdvance s now).dropped = s.dropped := by
  obtain ⟨_, _, _, h⟩ := Flow.onAdvance_eq s now; rw [h]
@[simp] theorem onAdvance_done (s : St) (now : Nat) : (onAdvance s now).done = s.done := by
  obtain ⟨_, _, _, h⟩ := Flow.onAdvance_eq s now; rw [h]
@[simp] theorem onAdvance_respQ (s : St) (now : Nat) : (onAdvance s now).respQ = s.respQ := by
  obtain ⟨_, _, _, h⟩ := Flow.onAdvance_eq s now; rw [h]
@[simp] theorem onAdvance_cancelQ (s : St) (now : Nat) : (onAdvance s now).cancelQ = s.cancelQ := by
  obtain ⟨_, _, _, h⟩ := Flow.onAdvance_eq s now; rw [h]
@[simp] theorem onAdvance_inflight (s : St) (now : Nat) : (onAdvance s now).inflight = s.inflight := by
  obtain ⟨_, _, _, h⟩ := Flow.onAdvance_eq s now; rw [h]
@[simp] theorem onAdvance_poisoned (s : St) (now : Nat) : (onAdvance s now).poisoned = s.poisoned := by
  obtain ⟨_, _, _, h⟩ := Flow.onAdvance_eq s now; rw [h]
@[simp] theorem onAdvance_limit (s : St) (now : Nat) : (onAdvance s now).limit = s.limit := by
  obtain ⟨_, _, _, h⟩ := Flow.onAdvance_eq s now; rw [h]
@[simp] theorem onAdvance_execs (s : St) (now : Nat) : (onAdvance s now).execs = s.execs := by
  obtain ⟨_, _, _, h⟩ := Flow.onAdvance_eq s now; rw [h]
@[simp] theorem onAdvance_gh (L : Option Nat) (g0 : Ghost) (s : St) (now : Nat) : gh L g0 (onAdvance s now).obs = gh L g0 s.obs := by
  unfold onAdvance; (repeat' split) <;> simp

/-! ### what `tSend` / `tNext` / `abortExec` do to the ghost and the keys -/

@[simp] theorem tSend_gh (L : Option Nat) (g0 : Ghost) (s : St) (m : Msg) :
    gh L g0 (tSend s m).1.obs = gstep L (gh L g0 s.obs) (.tSend (tid s) m (tSend s m).2) := by
  simp [tSend, tid]

theorem tNext_gh (L : Option Nat) (g0 : Ghost) (s : St) :
    gh L g0 (tNext s).1.obs =
      if s.readFused then gh L g0 s.obs else gstep L (gh L g0 s.obs) (.tNext (tid s) (tNext s).2) := by
  unfold tNext
  split
  · simp
  · simp only []; split <;> simp [tid]

/-- Reading never invents a request: with the read side fused the result is `eof`. -/
theorem tNext_item_not_fused (s : St) (m : Msg) (h : (tNext s).2 = .item m) : s.readFused = false := by
  cases hf : s.readFused with
  | false => rfl
  | true => rw [Flow.tNext_fused_eq s hf] at h; cases h

@[simp] theorem abortExec_ekeys (s : St) (rid : Nat) :
    (abortExec s rid).execs.map ekey = abortKeys rid (s.execs.map ekey) := by
  obtain ⟨b, h⟩ := abortExec_execs s rid
  rw [h]
  simp only [abortKeys, List.map_map]
  apply List.map_congr_left
  intro e _
  simp only [Function.comp, abortOne, ekey]
  split <;> simp_all

@[simp] theorem abortExec_gh (L : Option Nat) (g0 : Ghost) (s : St) (rid : Nat) :
    gh L g0 (abortExec s rid).obs = gh L g0 s.obs :=
  (Flow.adds_abortExec s rid).gh (fun _ h => gstep_execObs h) L g0

@[simp] theorem abortKeys_map_fst (rid : Nat) (l : List (Nat × Nat × Bool)) :
    (abortKeys rid l).map (·.1) = l.map (·.1) := by
  simp only [abortKeys, List.map_map]
  apply List.map_congr_left
  intro k _
  simp only [Function.comp]; split <;> rfl

@[simp] theorem abortKeys_length (rid : Nat) (l : List (Nat × Nat × Bool)) :
    (abortKeys rid l).length = l.length := by simp [abortKeys]

theorem mem_abortKeys_of_ne {rid : Nat} {l : List (Nat × Nat × Bool)} {k : Nat × Nat × Bool}
    (hk : k ∈ l) (hne : k.1 ≠ rid) : k ∈ abortKeys rid l := by
  simp only [abortKeys, List.mem_map]
  exact ⟨k, hk, by simp [hne]⟩

/-- after `abortExec rid` every key with that `rid` is flagged -/
theorem abortKeys_flagged {rid : Nat} {l : List (Nat × Nat × Bool)} {k : Nat × Nat × Bool}
    (hk : k ∈ abortKeys rid l) (hr : k.1 = rid) : k.2.2 = true := by
  simp only [abortKeys, List.mem_map] at hk
  obtain ⟨k0, _, rfl⟩ := hk
  split at hr
  · simp_all
  · rename_i h; simp_all

/-! ## invariants -/

/-- the `(timer key, request id)` pair of a table entry -/
def SEntry.kv (e : SEntry) : Nat × Nat := (e.timerKey, e.id)

/-- **In-flight table well-formed**: ids pairwise distinct; the entries' `(timerKey, id)` pairs are
exactly the `(key, value)` pairs the `DelayQueue` holds; the queue's keys are distinct. -/
structure TableWF (s : St) : Prop where
  idNodup : (s.inflight.map (·.id)).Nodup
  perm : (s.inflight.map SEntry.kv).Perm s.timers.kv
  dq : s.timers.KvWF

/-- **Entries ↔ executions**: execution `i` has `rid = i`; every entry names an execution with the
same request id whose abort flag is clear; no two entries name the same execution. -/
structure ExecWF (s : St) : Prop where
  rids : (s.execs.map ekey).map (·.1) = List.range (s.execs.map ekey).length
  owner : ∀ e ∈ s.inflight, (e.rid, e.id, false) ∈ s.execs.map ekey
  ridNodup : (s.inflight.map (·.rid)).Nodup

/-- all ghost checks passed so far -/
structure GOk (g : Ghost) : Prop where
  orphan : g.okOrphan = true
  once : g.okOnce = true
  counts : g.okCounts = true
  limit : g.okLimit = true

/-- ghost coupling: every tracked id was read as a request and has not been answered since -/
structure Coupled (g : Ghost) (s : St) : Prop where
  read : ∀ e ∈ s.inflight, e.id ∈ g.reads
  unsent : ∀ e ∈ s.inflight, e.id ∉ g.sent

/-- `MidG` (below) together with the table clause -/
structure Mid (L : Option Nat) (g0 : Ghost) (s : St) : Prop where
  table : TableWF s
  execs : ExecWF s
  coupled : Coupled (gh L g0 s.obs) s
  ok : GOk (gh L g0 s.obs)
  lim : s.limit = L

theorem TableWF.congr {s s' : St} (h : TableWF s) (h1 : s'.inflight = s.inflight) (h2 : s'.timers = s.timers) :
    TableWF s' :=
  ⟨by rw [h1]; exact h.idNodup, by rw [h1, h2]; exact h.perm, by rw [h2]; exact h.dq⟩

theorem ExecWF.congr {s s' : St} (h : ExecWF s) (h1 : s'.inflight = s.inflight)
    (h3 : s'.execs.map ekey = s.execs.map ekey) : ExecWF s' :=
  ⟨by rw [h3]; exact h.rids, by rw [h1, h3]; exact h.owner, by rw [h1]; exact h.ridNodup⟩

theorem TableWF.len_eq {s : St} (h : TableWF s) : s.timers.len = s.inflight.length := by
  rw [← DelayQ.kv_length, ← h.perm.length_eq]; simp

theorem TableWF.keyNodup {s : St} (h : TableWF s) : (s.inflight.map (·.timerKey)).Nodup := by
  have := ((h.perm.map (·.1)).nodup_iff).mpr h.dq.nodup
  simpa [List.map_map, Function.comp_def, SEntry.kv] using this

theorem ExecWF.rid_lt {s : St} (h : ExecWF s) {e : SEntry} (he : e ∈ s.inflight) : e.rid < s.execs.length := by
  have h1 := h.owner e he
  have : e.rid ∈ (s.execs.map ekey).map (·.1) := List.mem_map.mpr ⟨_, h1, rfl⟩
  rw [h.rids] at this
  simpa using this

theorem TableWF.bijection {s : St} (h : TableWF s) :
    (∀ e ∈ s.inflight, (e.timerKey, e.id) ∈ s.timers.kv)
    ∧ (∀ p ∈ s.timers.kv, ∃ e ∈ s.inflight, e.timerKey = p.1 ∧ e.id = p.2)
    ∧ (s.inflight.map (·.timerKey)).Nodup ∧ (s.timers.kv.map (·.1)).Nodup := by
  refine ⟨?_, ?_, h.keyNodup, h.dq.nodup⟩
  · intro e he
    exact h.perm.mem_iff.mp (List.mem_map.mpr ⟨e, he, rfl⟩)
  · intro p hp
    obtain ⟨e, he, rfl⟩ := List.mem_map.mp (h.perm.mem_iff.mpr hp)
    exact ⟨e, he, rfl, rfl⟩

theorem ExecWF.entry_owner {s : St} (h : ExecWF s) :
    (∀ e ∈ s.inflight, ∃ x, getExec s e.rid = some x ∧ x.id = e.id ∧ x.aborted = false)
    ∧ (∀ x ∈ s.execs, x.aborted = true → ∀ e ∈ s.inflight, e.rid ≠ x.rid)
    ∧ (s.inflight.map (·.rid)).Nodup := by
  have hnd : (s.execs.map (·.rid)).Nodup := by
    have := h.rids
    simp only [List.map_map] at this
    have h2 : (s.execs.map (·.rid)) = List.range (s.execs.map ekey).length := by
      rw [← this]; rfl
    rw [h2]; exact List.nodup_range
  have key : ∀ e ∈ s.inflight, ∃ x ∈ s.execs, getExec s e.rid = some x ∧ x.id = e.id ∧ x.aborted = false := by
    intro e he
    obtain ⟨x, hx, hk⟩ := List.mem_map.mp (h.owner e he)
    simp only [ekey, Prod.mk.injEq] at hk
    obtain ⟨h1, h2, h3⟩ := hk
    cases hg : getExec s e.rid with
    | none =>
      rw [getExec_none_iff] at hg
      exact absurd h1 (hg x hx)
    | some y =>
      have hy1 : y ∈ s.execs := List.mem_of_find?_eq_some hg
      have hy2 : y.rid = e.rid := by simpa using List.find?_some hg
      have : x = y := eq_of_map_nodup hnd hx hy1 (by rw [h1, hy2])
      subst this
      exact ⟨x, hx, rfl, h2, h3⟩
  refine ⟨fun e he => ?_, ?_, h.ridNodup⟩
  · obtain ⟨x, _, hx⟩ := key e he
    exact ⟨x, hx⟩
  · intro x hx hab e he hr
    obtain ⟨y, hy, hg, _, hya⟩ := key e he
    have hy2 : y.rid = e.rid := by simpa using List.find?_some hg
    have : x = y := eq_of_map_nodup hnd hx hy (by rw [hy2, hr])
    subst this
    rw [hab] at hya; cases hya

/-- The invariant that holds throughout a channel poll (`g0` = ghost at the start of the op).  No clause reads `s.timers`. -/
structure MidG (L : Option Nat) (g0 : Ghost) (s : St) : Prop where
  execs : ExecWF s
  coupled : Coupled (gh L g0 s.obs) s
  ok : GOk (gh L g0 s.obs)
  lim : s.limit = L

theorem MidG.of_frame {L g0} {s s' : St} (h : MidG L g0 s) (h1 : s'.inflight = s.inflight)
    (h3 : s'.execs.map ekey = s.execs.map ekey) (h4 : gh L g0 s'.obs = gh L g0 s.obs)
    (h5 : s'.limit = s.limit) : MidG L g0 s' :=
  ⟨h.execs.congr h1 h3, ⟨by rw [h1, h4]; exact h.coupled.read, by rw [h1, h4]; exact h.coupled.unsent⟩,
    by rw [h4]; exact h.ok, by rw [h5]; exact h.lim⟩

theorem MidG.remove_entry {L g0} {s s' : St} (h : MidG L g0 s) {e : SEntry}
    (he : e ∈ s.inflight) (hin : s'.inflight = s.inflight.filter (·.id != e.id))
    (hek : s'.execs.map ekey = s.execs.map ekey ∨ s'.execs.map ekey = abortKeys e.rid (s.execs.map ekey))
    (hg : gh L g0 s'.obs = gh L g0 s.obs) (hl : s'.limit = s.limit) : MidG L g0 s' := by
  have hsub : ∀ x ∈ s'.inflight, x ∈ s.inflight ∧ x.id ≠ e.id := by
    intro x hx; rw [hin] at hx
    have := List.mem_filter.mp hx
    exact ⟨this.1, by simpa using this.2⟩
  refine ⟨⟨?_, ?_, ?_⟩, ⟨?_, ?_⟩, ?_, ?_⟩
  · rcases hek with hek | hek <;> rw [hek]
    · exact h.execs.rids
    · simpa using h.execs.rids
  · intro x hx
    obtain ⟨hx1, hx2⟩ := hsub x hx
    rcases hek with hek | hek <;> rw [hek]
    · exact h.execs.owner x hx1
    · apply mem_abortKeys_of_ne (h.execs.owner x hx1)
      intro hr
      exact hx2 (congrArg SEntry.id (eq_of_map_nodup h.execs.ridNodup hx1 he hr))
  · rw [hin]; exact h.execs.ridNodup.sublist (List.filter_sublist.map _)
  · intro x hx; rw [hg]; exact h.coupled.read x (hsub x hx).1
  · intro x hx; rw [hg]; exact h.coupled.unsent x (hsub x hx).1
  · rw [hg]; exact h.ok
  · rw [hl]; exact h.lim

theorem MidG.insert_entry {L g0} {s s' : St} (h : MidG L g0 s) {id key rem due : Nat}
    (hin : s'.inflight = s.inflight ++ [{ id := id, timerKey := key, rid := s.execs.length, remainder := rem, dueAt := due }])
    (hek : s'.execs.map ekey = s.execs.map ekey ++ [(s.execs.length, id, false)])
    (hg : gh L g0 s'.obs = gh L g0 s.obs)
    (hr : id ∈ (gh L g0 s.obs).reads) (hs : id ∉ (gh L g0 s.obs).sent)
    (hl : s'.limit = s.limit) : MidG L g0 s' := by
  refine ⟨⟨?_, ?_, ?_⟩, ⟨?_, ?_⟩, ?_, ?_⟩
  · rw [hek, List.map_append, h.execs.rids]
    simp [List.range_succ]
  · intro x hx
    rw [hin] at hx; rw [hek]
    rcases List.mem_append.mp hx with hx | hx
    · exact List.mem_append_left _ (h.execs.owner x hx)
    · simp only [List.mem_singleton] at hx; subst hx
      exact List.mem_append_right _ (by simp)
  · rw [hin, List.map_append, List.nodup_append]
    refine ⟨h.execs.ridNodup, by simp, ?_⟩
    intro a ha b hb
    simp only [List.map_cons, List.map_nil, List.mem_singleton] at hb
    obtain ⟨x, hx, rfl⟩ := List.mem_map.mp ha
    have := h.execs.rid_lt hx
    omega
  · intro x hx; rw [hg]; rw [hin] at hx
    rcases List.mem_append.mp hx with hx | hx
    · exact h.coupled.read x hx
    · simp only [List.mem_singleton] at hx; subst hx; exact hr
  · intro x hx; rw [hg]; rw [hin] at hx
    rcases List.mem_append.mp hx with hx | hx
    · exact h.coupled.unsent x hx
    · simp only [List.mem_singleton] at hx; subst hx; exact hs
  · rw [hg]; exact h.ok
  · rw [hl]; exact h.lim

/-! ### the table operations: `poll_expired`, `start_request`, `start_send` -/
@[simp] theorem cancelRequest_sidx (s : St) (id : Nat) : (cancelRequest s id).1.sidx = s.sidx :=
  Flow.cancelRequest_sidx s id

/-- what `poll_expired` keeps: seven of the fields of `Flow.ExpFrame` (`Lemmas/ServerEqs.lean`, the frame the proofs use) and
the two lengths -/
structure ExpKeep (s s' : St) : Prop where
  sidx : s'.sidx = s.sidx
  limit : s'.limit = s.limit
  throttleAfterRead : s'.throttleAfterRead = s.throttleAfterRead
  dropped : s'.dropped = s.dropped
  done : s'.done = s.done
  respQ : s'.respQ = s.respQ
  cancelQ : s'.cancelQ = s.cancelQ
  execsLen : s'.execs.length = s.execs.length
  inflightLen : s'.inflight.length ≤ s.inflight.length

@[simp] theorem abortExec_execs_length (s : St) (rid : Nat) : (abortExec s rid).execs.length = s.execs.length := by
  have := congrArg List.length (abortExec_ekeys s rid)
  simp only [List.length_map, abortKeys_length] at this
  exact this

theorem pollExpired_lens (s : St) (now : Nat) :
    (pollExpired s now).1.execs.length = s.execs.length ∧ (pollExpired s now).1.inflight.length ≤ s.inflight.length := by
  refine pollExpired_rel (R := fun a b => b.execs.length = a.execs.length ∧ b.inflight.length ≤ a.inflight.length) now
    (fun _ => ⟨rfl, Nat.le_refl _⟩) (fun _ _ _ h1 h2 => ⟨h2.1.trans h1.1, Nat.le_trans h2.2 h1.2⟩)
    (fun _ => ⟨rfl, Nat.le_refl _⟩) (fun a => ?_) s
  have h := expireStep_out a now
  revert h; generalize expireStep a now = p; intro h
  obtain ⟨s', r⟩ := p
  dsimp only at h ⊢
  cases h with
  | abort q e en hp hf h0 => exact ⟨abortExec_execs_length _ _, by simpa using List.length_filter_le _ _⟩
  | rearmed q e en s2 hp hf h0 hr =>
    have hfr := rearm_frame hr
    obtain ⟨q', key, w, _, rfl⟩ := rearm_some hr
    exact ⟨by rw [hfr.execs], by simp⟩
  | _ => exact ⟨rfl, Nat.le_refl _⟩

theorem pollExpired_keep (s : St) (now : Nat) : ExpKeep s (pollExpired s now).1 :=
  ⟨Flow.pollExpired_sidx s now, Flow.pollExpired_limit s now, Flow.pollExpired_throttleAfterRead s now,
   Flow.pollExpired_dropped s now, Flow.pollExpired_done s now, Flow.pollExpired_respQ s now,
   Flow.pollExpired_cancelQ s now, (pollExpired_lens s now).1, (pollExpired_lens s now).2⟩

@[simp] theorem pollExpired_sidx (s : St) (now : Nat) : (pollExpired s now).1.sidx = s.sidx :=
  Flow.pollExpired_sidx s now

@[simp] theorem pollExpired_dropped (s : St) (now : Nat) : (pollExpired s now).1.dropped = s.dropped :=
  Flow.pollExpired_dropped s now

@[simp] theorem pollExpired_done (s : St) (now : Nat) : (pollExpired s now).1.done = s.done :=
  Flow.pollExpired_done s now

@[simp] theorem pollExpired_respQ (s : St) (now : Nat) : (pollExpired s now).1.respQ = s.respQ :=
  Flow.pollExpired_respQ s now

@[simp] theorem pollExpired_cancelQ (s : St) (now : Nat) : (pollExpired s now).1.cancelQ = s.cancelQ :=
  Flow.pollExpired_cancelQ s now

@[simp] theorem startWoke_gh (L : Option Nat) (g0 : Ghost) (s : St) (w : Bool) :
    gh L g0 (startWoke s w).obs = gh L g0 s.obs := by
  unfold startWoke; split <;> simp

@[simp] theorem startRequest_sidx (s : St) (now id d : Nat) (tr : Trace) (b : Nat) : (startRequest s now id d tr b).1.sidx = s.sidx :=
  Flow.startRequest_sidx s now id d tr b

@[simp] theorem startRequest_dropped (s : St) (now id d : Nat) (tr : Trace) (b : Nat) : (startRequest s now id d tr b).1.dropped = s.dropped :=
  Flow.startRequest_dropped s now id d tr b

@[simp] theorem startRequest_done (s : St) (now id d : Nat) (tr : Trace) (b : Nat) : (startRequest s now id d tr b).1.done = s.done :=
  Flow.startRequest_done s now id d tr b

@[simp] theorem startRequest_respQ (s : St) (now id d : Nat) (tr : Trace) (b : Nat) : (startRequest s now id d tr b).1.respQ = s.respQ :=
  Flow.startRequest_respQ s now id d tr b

@[simp] theorem startRequest_cancelQ (s : St) (now id d : Nat) (tr : Trace) (b : Nat) : (startRequest s now id d tr b).1.cancelQ = s.cancelQ :=
  Flow.startRequest_cancelQ s now id d tr b

theorem baseStartSend_cases (s : St) (id : Nat) (res : Res) :
    ((removeRequest s id).2 = false ∧ baseStartSend s id res = ((removeRequest s id).1, none))
    ∨ ((removeRequest s id).2 = true ∧
        baseStartSend s id res =
          ((tSend (removeRequest s id).1 (.response id res)).1, some (tSend (removeRequest s id).1 (.response id res)).2)) := by
  have ho := Flow.baseStartSend_out s id res
  generalize baseStartSend s id res = p at ho ⊢
  cases ho with
  | untracked s1 he => left; rw [he]; exact ⟨rfl, rfl⟩
  | sent s1 he => right; rw [he]; exact ⟨rfl, rfl⟩

theorem baseStartSend_keeps {α : Type} (π : St → α) (h1 : ∀ s id, π (removeRequest s id).1 = π s)
    (h2 : ∀ s m, π (tSend s m).1 = π s) (s : St) (id : Nat) (res : Res) : π (baseStartSend s id res).1 = π s := by
  rcases baseStartSend_cases s id res with ⟨_, h⟩ | ⟨_, h⟩ <;> rw [h]
  · exact h1 s id
  · exact (h2 _ _).trans (h1 s id)

@[simp] theorem baseStartSend_sidx (s : St) (id : Nat) (res : Res) : (baseStartSend s id res).1.sidx = s.sidx :=
  baseStartSend_keeps _ Flow.removeRequest_sidx Flow.tSend_sidx s id res
@[simp] theorem baseStartSend_dropped (s : St) (id : Nat) (res : Res) : (baseStartSend s id res).1.dropped = s.dropped :=
  baseStartSend_keeps _ Flow.removeRequest_dropped Flow.tSend_dropped s id res
@[simp] theorem baseStartSend_done (s : St) (id : Nat) (res : Res) : (baseStartSend s id res).1.done = s.done :=
  baseStartSend_keeps _ Flow.removeRequest_done Flow.tSend_done s id res
@[simp] theorem baseStartSend_respQ (s : St) (id : Nat) (res : Res) : (baseStartSend s id res).1.respQ = s.respQ :=
  Flow.baseStartSend_respQ s id res
@[simp] theorem baseStartSend_cancelQ (s : St) (id : Nat) (res : Res) : (baseStartSend s id res).1.cancelQ = s.cancelQ :=
  baseStartSend_keeps _ Flow.removeRequest_cancelQ Flow.tSend_cancelQ s id res
@[simp] theorem baseStartSend_execs (s : St) (id : Nat) (res : Res) : (baseStartSend s id res).1.execs = s.execs :=
  baseStartSend_keeps _ Flow.removeRequest_execs Flow.tSend_execs s id res

@[simp] theorem removeTimer_gh (L : Option Nat) (g0 : Ghost) (s : St) (key : Nat) : gh L g0 (removeTimer s key).obs = gh L g0 s.obs :=
  (Flow.adds_removeTimer s key).gh (fun _ h => gstep_tableObs (.inl h)) L g0

@[simp] theorem removeRequest_gh (L : Option Nat) (g0 : Ghost) (s : St) (id : Nat) : gh L g0 (removeRequest s id).1.obs = gh L g0 s.obs :=
  (Flow.adds_removeRequest s id).gh (fun _ h => gstep_tableObs (.inl h)) L g0

@[simp] theorem cancelRequest_gh (L : Option Nat) (g0 : Ghost) (s : St) (id : Nat) : gh L g0 (cancelRequest s id).1.obs = gh L g0 s.obs :=
  (Flow.adds_cancelRequest s id).gh (fun _ h => gstep_tableObs (.inl h)) L g0

@[simp] theorem pollExpired_gh (L : Option Nat) (g0 : Ghost) (s : St) (now : Nat) : gh L g0 (pollExpired s now).1.obs = gh L g0 s.obs :=
  (Flow.adds_pollExpired s now).gh (fun _ h => gstep_tableObs h) L g0

@[simp] theorem startRequest_gh (L : Option Nat) (g0 : Ghost) (s : St) (now id d : Nat) (tr : Trace) (b : Nat) : gh L g0 (startRequest s now id d tr b).1.obs = gh L g0 s.obs :=
  (Flow.adds_startRequest s now id d tr b).gh (fun _ h => gstep_tableObs (.inl h)) L g0

/-! ## walking the poll functions once: relations closed under the primitive steps -/

/-- reflexive, transitive, contains the quiet steps -/
structure PreRel (R : St → St → Prop) : Prop where
  refl : ∀ s, R s s
  trans : ∀ {a b c}, R a b → R b c → R a c
  quiet : ∀ {s s'}, Quiet s s' → R s s'

/-- Relations closed under the steps of the write pump. -/
structure WriteRel (R : St → St → Prop) : Prop extends PreRel R where
  baseStartSend : ∀ s id res, R s (baseStartSend s id res).1

/-- Relations closed under the steps of `BaseChannel::poll_next`.  Reading a request and starting it
are one step (`readStart`) because the ghost coupling needs to know that the id was just read. -/
structure BaseRel (R : St → St → Prop) : Prop extends PreRel R where
  removeRequest : ∀ s id, R s (removeRequest s id).1
  cancelRequest : ∀ s id, R s (cancelRequest s id).1
  pollExpired : ∀ s now, R s (pollExpired s now).1
  tNext : ∀ s, R s (tNext s).1
  readStart : ∀ s now id d tr b, (Server.tNext s).2 = .item (.request id d tr b) →
    R s (startRequest (Server.tNext s).1 now id d tr b).1

/-- Relations closed under all steps of a channel poll. -/
structure PollRel (R : St → St → Prop) : Prop extends BaseRel R where
  baseStartSend : ∀ s id res, R s (baseStartSend s id res).1

theorem PollRel.toWriteRel {R} (h : PollRel R) : WriteRel R := ⟨h.toPreRel, h.baseStartSend⟩

section
open Flow

theorem BaseRel.has {R : St → St → Prop} (h : BaseRel R) (now : Nat) : Has (BaseK now) R where
  refl := h.refl
  trans := h.trans
  prim := by
    intro k a b hk hp
    cases hp with
    | removeReq s id => exact h.removeRequest _ _
    | expire s n => exact h.pollExpired _ _
    | tNext s => exact h.tNext _
    | readStart s n id d tr b hq => exact h.readStart _ _ _ _ _ _ hq
    | cancelRead s id tr hq => exact h.trans (h.tNext _) (h.cancelRequest _ _)
    | spin s => exact h.quiet (quiet_emit_spin _ _)
    | popCancel | cancelRx => exact h.quiet (.same rfl)
    | _ => cases hk

theorem WriteRel.has {R : St → St → Prop} (h : WriteRel R) : Has WriteK R where
  refl := h.refl
  trans := h.trans
  prim := by
    rintro k a b ((hk | rfl) | hk | rfl | rfl | rfl) hp
    · exact h.quiet (quiet_has.prim (sink_quiet (fun o ho => by cases ho <;> exact fun _ _ => rfl) k hk) hp)
    · exact h.quiet (quiet_has.prim (k := .spin) trivial hp)
    · exact h.quiet (quiet_has.prim (wake_quiet k hk) hp)
    · exact h.quiet (quiet_has.prim (k := .popResp) trivial hp)
    · exact h.quiet (quiet_has.prim (k := .rqRx true) trivial hp)
    · cases hp; exact h.baseStartSend _ _ _

theorem PollRel.has {R : St → St → Prop} (h : PollRel R) (now : Nat) : Has (PumpK now) R where
  refl := h.refl
  trans := h.trans
  prim := by
    intro k a b hk hp
    cases hp with
    | removeReq s id => exact h.removeRequest _ _
    | expire s n => exact h.pollExpired _ _
    | tNext s => exact h.tNext _
    | readStart s n id d tr b hq => exact h.readStart _ _ _ _ _ _ hq
    | cancelRead s id tr hq => exact h.trans (h.tNext _) (h.cancelRequest _ _)
    | baseSend s id res => exact h.baseStartSend _ _ _
    | emit s o =>
      cases hk with
      | emit hs => exact h.quiet (quiet_emit _ (sink_quiet (fun o ho => by cases ho <;> exact fun _ _ => rfl) _ hs))
    | spin s => exact h.quiet (quiet_emit_spin _ _)
    | upd s r u => exact h.quiet (quiet_updExec _ _ _ (u.stable (by cases hk <;> exact UKind.noConfusion)))
    | setT | woken | rqGrant | rqFree | popResp | rqRx | popCancel | cancelRx | pushCancel => exact h.quiet (.same rfl)
    | _ => cases hk

theorem rel_basePollNext {R} (h : BaseRel R) (fuel : Nat) (s : St) (now : Nat) :
    R s (basePollNext fuel s now).1 :=
  (h.has now).steps (basePollNext_steps fuel s now)

theorem rel_channelPollNext {R} (h : PollRel R) (s : St) (now : Nat) : R s (channelPollNext s now).1 :=
  (h.has now).steps (channelPollNext_pump (.refl s))

theorem rel_pumpWrite {R} (h : WriteRel R) (s : St) (rc : Bool) : R s (pumpWrite s rc).1 :=
  h.has.steps (pumpWrite_steps s rc)

theorem rel_requestsPollNext {R} (h : PollRel R) (fuel : Nat) (s : St) (now : Nat) :
    R s (requestsPollNext fuel s now).1 :=
  (h.has now).steps (requestsPollNext_steps fuel s)

theorem quiet_armRead (s : St) (read : SPoll Exec) : Server.Quiet s (Flow.armRead s read) :=
  quiet_has.steps ((armRead_steps s read).mono (by rintro k rfl; exact UKind.noConfusion))
end

/-! ## the table operations preserve the invariant -/

theorem removeTimer_of_some {s : St} {key : Nat} {q : DelayQ} {w : Bool}
    (h : s.timers.remove key = some (q, w)) :
    removeTimer s key = (if w then wakeServer { s with timers := q } else { s with timers := q }) := by
  unfold removeTimer; rw [h]

theorem midG_removeTimer {L g0} {s : St} (h : MidG L g0 s) (k : Nat) : MidG L g0 (removeTimer s k) :=
  h.of_frame (Flow.removeTimer_inflight _ _) (by rw [Flow.removeTimer_execs]) (removeTimer_gh _ _ _ _) (Flow.removeTimer_limit _ _)

theorem midG_removeRequest {L g0} (s : St) (id : Nat) (h : MidG L g0 s) : MidG L g0 (removeRequest s id).1 := by
  rcases Flow.removeRequest_out s id with ⟨_, h1⟩ | ⟨e, hf, h1⟩
  · rw [h1]; exact h
  · obtain ⟨he, rfl⟩ := Flow.findEntry_some hf
    rw [h1]
    exact midG_removeTimer (h.remove_entry (s' := { s with inflight := s.inflight.filter (·.id != e.id) }) he rfl
      (.inl rfl) rfl rfl) _

theorem midG_cancelRequest {L g0} (s : St) (id : Nat) (h : MidG L g0 s) : MidG L g0 (cancelRequest s id).1 := by
  rcases Flow.cancelRequest_out s id with ⟨_, h1⟩ | ⟨e, hf, h1⟩
  · rw [h1]; exact h
  · obtain ⟨he, rfl⟩ := Flow.findEntry_some hf
    rw [h1]
    exact midG_removeTimer (h.remove_entry he (Flow.abortExec_inflight _ _) (.inr (by simp)) (by simp) (by simp)) _

theorem MidG.rearm_entry {L g0} {s s' : St} (h : MidG L g0 s) {id key now : Nat}
    (hin : s'.inflight = s.inflight.map (rearmUpd id key now)) (hek : s'.execs.map ekey = s.execs.map ekey)
    (hg : gh L g0 s'.obs = gh L g0 s.obs) (hl : s'.limit = s.limit) : MidG L g0 s' := by
  have hmem : ∀ x ∈ s'.inflight, ∃ y ∈ s.inflight, x.id = y.id ∧ x.rid = y.rid := by
    intro x hx; rw [hin] at hx
    obtain ⟨y, hy, rfl⟩ := List.mem_map.mp hx
    exact ⟨y, hy, by simp, by simp⟩
  have hrids : s'.inflight.map (·.rid) = s.inflight.map (·.rid) := by
    rw [hin, List.map_map]; apply List.map_congr_left; intro x _; simp
  refine ⟨⟨by rw [hek]; exact h.execs.rids, ?_, by rw [hrids]; exact h.execs.ridNodup⟩, ⟨?_, ?_⟩,
    by rw [hg]; exact h.ok, by rw [hl]; exact h.lim⟩
  · intro x hx
    obtain ⟨y, hy, hid, hrid⟩ := hmem x hx
    rw [hek, hid, hrid]; exact h.execs.owner y hy
  · intro x hx
    obtain ⟨y, hy, hid, _⟩ := hmem x hx
    rw [hg, hid]; exact h.coupled.read y hy
  · intro x hx
    obtain ⟨y, hy, hid, _⟩ := hmem x hx
    rw [hg, hid]; exact h.coupled.unsent y hy

theorem midG_expireStep {L g0} (s : St) (now : Nat) (h : MidG L g0 s) : MidG L g0 (expireStep s now).1 := by
  have hs := expireStep_out s now
  generalize expireStep s now = p at hs
  obtain ⟨s', r⟩ := p
  dsimp only at hs ⊢
  cases hs with
  | idleNone q hp => exact h.of_frame rfl rfl rfl rfl
  | idlePending q hp => exact h.of_frame rfl rfl rfl rfl
  | orphan q e hp hf => exact h.of_frame rfl rfl rfl rfl
  | abort q e en hp hf h0 =>
    obtain ⟨hen, hid⟩ := Flow.findEntry_some hf
    exact h.remove_entry hen (by rw [Flow.abortExec_inflight, hid]) (.inr (by simp)) (by simp) (by simp)
  | rearmed q e en s2 hp hf h0 hr =>
    obtain ⟨q', key, w, _, rfl⟩ := rearm_some hr
    exact h.rearm_entry (id := en.id) (key := key) (now := now) rfl (by cases w <;> simp) (by cases w <;> simp)
      (by cases w <;> simp)
  | panicked q e en hp hf h0 hr => exact h.of_frame rfl rfl (by simp) rfl

theorem midG_pollExpired {L g0} (s : St) (now : Nat) (h : MidG L g0 s) : MidG L g0 (pollExpired s now).1 :=
  pollExpired_ind (P := MidG L g0) now (fun s1 h1 => h1.of_frame rfl rfl (by simp) rfl)
    (fun s1 h1 => midG_expireStep s1 now h1) s h

/-! ### ghost steps -/

/-- what any read does to the ghost: more ids read, fewer ids marked answered, flags untouched -/
theorem gstep_tNext_spec (L : Option Nat) (g : Ghost) (ep : TaskId) (r : NextRes) :
    (∀ x ∈ g.reads, x ∈ (gstep L g (.tNext ep r)).reads)
    ∧ (∀ x ∈ (gstep L g (.tNext ep r)).sent, x ∈ g.sent)
    ∧ (gstep L g (.tNext ep r)).okOrphan = g.okOrphan
    ∧ (gstep L g (.tNext ep r)).okOnce = g.okOnce
    ∧ (gstep L g (.tNext ep r)).okCounts = g.okCounts
    ∧ (gstep L g (.tNext ep r)).okLimit = g.okLimit
    ∧ (gstep L g (.tNext ep r)).yieldedNow = g.yieldedNow
    ∧ (gstep L g (.tNext ep r)).sends = g.sends := by
  cases r with
  | item m =>
    cases m with
    | request id d tr b =>
      refine ⟨?_, ?_, rfl, rfl, rfl, rfl, rfl, rfl⟩
      · intro x hx; exact List.mem_cons_of_mem _ hx
      · intro x hx; exact (List.mem_filter.mp hx).1
    | _ => simp
  | _ => simp

theorem MidG.of_ghost_mono {L g0} {s s' : St} (h : MidG L g0 s) (h1 : s'.inflight = s.inflight)
    (h3 : s'.execs.map ekey = s.execs.map ekey) (h5 : s'.limit = s.limit)
    (hr : ∀ x ∈ (gh L g0 s.obs).reads, x ∈ (gh L g0 s'.obs).reads)
    (hs : ∀ x ∈ (gh L g0 s'.obs).sent, x ∈ (gh L g0 s.obs).sent)
    (ho : (gh L g0 s'.obs).okOrphan = (gh L g0 s.obs).okOrphan)
    (ho2 : (gh L g0 s'.obs).okOnce = (gh L g0 s.obs).okOnce)
    (hc : (gh L g0 s'.obs).okCounts = (gh L g0 s.obs).okCounts)
    (hl : (gh L g0 s'.obs).okLimit = (gh L g0 s.obs).okLimit) : MidG L g0 s' :=
  ⟨h.execs.congr h1 h3,
    ⟨fun e he => hr _ (h.coupled.read e (h1 ▸ he)), fun e he hc' => h.coupled.unsent e (h1 ▸ he) (hs _ hc')⟩,
    ⟨by rw [ho]; exact h.ok.orphan, by rw [ho2]; exact h.ok.once, by rw [hc]; exact h.ok.counts, by rw [hl]; exact h.ok.limit⟩,
    by rw [h5]; exact h.lim⟩

theorem midG_tNext {L g0} (s : St) (h : MidG L g0 s) : MidG L g0 (tNext s).1 := by
  have hg := tNext_gh L g0 s
  obtain ⟨a1, a2, a3, a4, a5, a6, _, _⟩ := gstep_tNext_spec L (gh L g0 s.obs) (tid s) (tNext s).2
  have key := h.of_ghost_mono (Flow.tNext_inflight s) (by rw [Flow.tNext_execs]) (Flow.tNext_limit s)
  rw [hg] at key
  split at key
  · exact key (fun _ hx => hx) (fun _ hx => hx) rfl rfl rfl rfl
  · exact key a1 a2 a3 a4 a5 a6

/-- after reading a request message its id is recorded as read and not as answered -/
theorem tNext_request_ghost (L : Option Nat) (g0 : Ghost) (s : St) {id d : Nat} {tr : Trace} {b : Nat}
    (h : (tNext s).2 = .item (.request id d tr b)) :
    id ∈ (gh L g0 (tNext s).1.obs).reads ∧ id ∉ (gh L g0 (tNext s).1.obs).sent := by
  rw [tNext_gh, tNext_item_not_fused s _ h, h]
  simp [gstep]

theorem prod_eta3 {α β γ : Type} (p : α × β × γ) : p = (p.1, p.2.1, p.2.2) := rfl

theorem midG_startRequest {L g0} (s : St) (now id d : Nat) (tr : Trace) (b : Nat) (h : MidG L g0 s)
    (hr : id ∈ (gh L g0 s.obs).reads) (hs : id ∉ (gh L g0 s.obs).sent) :
    MidG L g0 (startRequest s now id d tr b).1 := by
  rcases startRequest_out s now id d tr b with ⟨_, h1⟩ | ⟨_, _, h1⟩ | ⟨hf, q', key, w, hq, h1⟩
  · rw [h1]; exact h
  · rw [h1]; exact h.of_frame rfl rfl (by simp) rfl
  · rw [h1]
    have hek : (s.execs ++ [newExec s id d tr b]).map ekey = s.execs.map ekey ++ [(s.execs.length, id, false)] := by
      simp [ekey, newExec]
    exact h.insert_entry rfl hek (startWoke_gh L g0 s w) hr hs (startWoke_limit s w)

theorem midG_baseStartSend {L g0} (s : St) (id : Nat) (res : Res) (h : MidG L g0 s) :
    MidG L g0 (baseStartSend s id res).1 := by
  have hm := midG_removeRequest s id h
  rcases baseStartSend_cases s id res with ⟨_, h1⟩ | ⟨ht, h1⟩
  · rw [h1]; exact hm
  · rw [h1]
    -- the id was tracked, so it was read and not answered; now no entry carries it
    rcases Flow.removeRequest_out s id with ⟨_, h2⟩ | ⟨e, hf, h2⟩
    · rw [h2] at ht; cases ht
    · obtain ⟨he, hid⟩ := Flow.findEntry_some hf
      subst hid
      have hin : (removeRequest s e.id).1.inflight = s.inflight.filter (·.id != e.id) := by
        rw [h2]; exact Flow.removeTimer_inflight _ _
      have hgh : gh L g0 (removeRequest s e.id).1.obs = gh L g0 s.obs := by simp
      have hread := h.coupled.read e he
      have hunsent := h.coupled.unsent e he
      refine ⟨⟨?_, ?_, ?_⟩, ⟨?_, ?_⟩, ⟨?_, ?_, ?_, ?_⟩, ?_⟩
      · simpa using hm.execs.rids
      · simpa using hm.execs.owner
      · simpa using hm.execs.ridNodup
      · intro x hx
        simp only [Flow.tSend_inflight] at hx
        simp only [tSend_gh, gstep]
        exact hgh ▸ hm.coupled.read x hx
      · intro x hx
        simp only [Flow.tSend_inflight] at hx
        simp only [tSend_gh, gstep, List.mem_cons, not_or]
        refine ⟨?_, hm.coupled.unsent x hx⟩
        rw [hin] at hx
        simpa using (List.mem_filter.mp hx).2
      · simp only [tSend_gh, gstep, hgh, Bool.and_eq_true, List.contains_iff_mem]
        exact ⟨h.ok.orphan, by simpa using hread⟩
      · simp only [tSend_gh, gstep, hgh, Bool.and_eq_true, Bool.not_eq_true']
        exact ⟨h.ok.once, by simpa using hunsent⟩
      · simp only [tSend_gh, gstep, hgh]; exact h.ok.counts
      · simp only [tSend_gh, gstep, hgh]; exact h.ok.limit
      · simpa using hm.lim

theorem midGRel (L : Option Nat) (g0 : Ghost) : PollRel (fun s s' => MidG L g0 s → MidG L g0 s') where
  refl := fun _ h => h
  trans := fun h1 h2 h => h2 (h1 h)
  quiet := fun hq h => h.of_frame hq.inflight hq.ekeys (hq.gh L g0) hq.limit
  removeRequest := fun s id h => midG_removeRequest s id h
  cancelRequest := fun s id h => midG_cancelRequest s id h
  pollExpired := fun s now h => midG_pollExpired s now h
  tNext := fun s h => midG_tNext s h
  readStart := fun s now id d tr b hq h => by
    obtain ⟨hr, hs⟩ := tNext_request_ghost L g0 s hq
    exact midG_startRequest _ now id d tr b (midG_tNext s h) hr hs
  baseStartSend := fun s id res h => midG_baseStartSend s id res h

theorem midG_requestsPollNext {L g0} (fuel : Nat) (s : St) (now : Nat) (h : MidG L g0 s) :
    MidG L g0 (requestsPollNext fuel s now).1 :=
  rel_requestsPollNext (midGRel L g0) fuel s now h

/-! ## simple relations closed under the poll steps -/

@[simp] theorem cancelRequest_execs_length (s : St) (id : Nat) :
    (cancelRequest s id).1.execs.length = s.execs.length := by
  rcases Flow.cancelRequest_out s id with ⟨_, h⟩ | ⟨e, _, h⟩ <;> simp [h]

@[simp] theorem pollExpired_execs_length (s : St) (now : Nat) :
    (pollExpired s now).1.execs.length = s.execs.length := by
  exact (pollExpired_keep s now).execsLen

theorem startRequest_execs_length_ge (s : St) (now id d : Nat) (tr : Trace) (b : Nat) :
    s.execs.length ≤ (startRequest s now id d tr b).1.execs.length := by
  rcases startRequest_out s now id d tr b with ⟨_, h⟩ | ⟨_, _, h⟩ | ⟨_, _, _, _, _, h⟩ <;> simp [h]

theorem Quiet.execs_length {s s' : St} (h : Quiet s s') : s'.execs.length = s.execs.length := by
  simpa using congrArg List.length h.ekeys

/-- the limiter configuration never changes during a poll -/
theorem limitRel : PollRel (fun s s' => s'.limit = s.limit ∧ s'.throttleAfterRead = s.throttleAfterRead) where
  refl := fun _ => ⟨rfl, rfl⟩
  trans := fun h1 h2 => ⟨h2.1.trans h1.1, h2.2.trans h1.2⟩
  quiet := fun hq => ⟨hq.limit, hq.tar⟩
  removeRequest := by intros; simp
  cancelRequest := by intros; simp
  pollExpired := by intros; simp
  tNext := by intros; simp
  readStart := by intros; simp
  baseStartSend := fun s id res =>
    have h := (Flow.cfg_closed s 0).baseStartSend s id res ⟨rfl, rfl, rfl, rfl⟩
    ⟨h.2.1, h.2.2.2⟩

/-- executions are only ever appended -/
theorem execsLenRel : PollRel (fun s s' => s.execs.length ≤ s'.execs.length) where
  refl := fun _ => Nat.le_refl _
  trans := fun h1 h2 => Nat.le_trans h1 h2
  quiet := fun hq => Nat.le_of_eq hq.execs_length.symm
  removeRequest := by intros; simp
  cancelRequest := by intros; simp
  pollExpired := by intros; simp
  tNext := by intros; simp
  readStart := by
    intro s now id d tr b _
    have := startRequest_execs_length_ge (tNext s).1 now id d tr b
    simpa using this
  baseStartSend := by intros; simp

theorem baseStartSend_gh (L : Option Nat) (g0 : Ghost) (s : St) (id : Nat) (res : Res) :
    gh L g0 (baseStartSend s id res).1.obs =
      if (removeRequest s id).2 then
        gstep L (gh L g0 s.obs) (.tSend (tid s) (.response id res) (tSend (removeRequest s id).1 (.response id res)).2)
      else gh L g0 s.obs := by
  rcases baseStartSend_cases s id res with ⟨h0, h⟩ | ⟨h0, h⟩ <;> simp [h, h0, tid]

/-- nothing a channel poll does marks a request as handed out (that happens in `pollServerKeep`) -/
theorem yieldedRel : PollRel (fun s s' => ∀ L g0, (gh L g0 s'.obs).yieldedNow = (gh L g0 s.obs).yieldedNow) where
  refl := fun _ _ _ => rfl
  trans := fun h1 h2 L g0 => (h2 L g0).trans (h1 L g0)
  quiet := fun hq L g0 => by rw [hq.gh]
  removeRequest := by intros; simp
  cancelRequest := by intros; simp
  pollExpired := by intros; simp
  tNext := by
    intro s L g0
    rw [tNext_gh]; split
    · rfl
    · exact (gstep_tNext_spec L _ _ _).2.2.2.2.2.2.1
  readStart := by
    intro s now id d tr b _ L g0
    rw [startRequest_gh, tNext_gh]; split
    · rfl
    · exact (gstep_tNext_spec L _ _ _).2.2.2.2.2.2.1
  baseStartSend := by
    intro s id res L g0
    rw [baseStartSend_gh]; split <;> simp [gstep]

/-- `BaseChannel::poll_next` never writes to the transport -/
theorem sendsRel : BaseRel (fun s s' => ∀ L g0, (gh L g0 s'.obs).sends = (gh L g0 s.obs).sends) where
  refl := fun _ _ _ => rfl
  trans := fun h1 h2 L g0 => (h2 L g0).trans (h1 L g0)
  quiet := fun hq L g0 => by rw [hq.gh]
  removeRequest := by intros; simp
  cancelRequest := by intros; simp
  pollExpired := by intros; simp
  tNext := by
    intro s L g0
    rw [tNext_gh]; split
    · rfl
    · exact (gstep_tNext_spec L _ _ _).2.2.2.2.2.2.2
  readStart := by
    intro s now id d tr b _ L g0
    rw [startRequest_gh, tNext_gh]; split
    · rfl
    · exact (gstep_tNext_spec L _ _ _).2.2.2.2.2.2.2

theorem removeRequest_length_le (s : St) (id : Nat) : (removeRequest s id).1.inflight.length ≤ s.inflight.length := by
  rcases Flow.removeRequest_out s id with ⟨_, h⟩ | ⟨e, _, h⟩
  · simp [h]
  · simp only [h, Flow.removeTimer_inflight]; exact List.length_filter_le _ _

theorem cancelRequest_length_le (s : St) (id : Nat) : (cancelRequest s id).1.inflight.length ≤ s.inflight.length := by
  rcases Flow.cancelRequest_out s id with ⟨_, h⟩ | ⟨e, _, h⟩
  · simp [h]
  · simp only [h, Flow.removeTimer_inflight, Flow.abortExec_inflight]; exact List.length_filter_le _ _

theorem pollExpired_length_le (s : St) (now : Nat) : (pollExpired s now).1.inflight.length ≤ s.inflight.length :=
  (pollExpired_keep s now).inflightLen

theorem baseStartSend_length_le (s : St) (id : Nat) (res : Res) :
    (baseStartSend s id res).1.inflight.length ≤ s.inflight.length := by
  rcases baseStartSend_cases s id res with ⟨_, h⟩ | ⟨_, h⟩ <;> simp [h] <;> exact removeRequest_length_le s id

/-! ## what a yielded request tells about the state (no invariant needed) -/

/-- table not larger, executions not fewer -/
def Shrink (s s' : St) : Prop := s'.inflight.length ≤ s.inflight.length ∧ s.execs.length ≤ s'.execs.length

theorem Shrink.refl (s : St) : Shrink s s := ⟨Nat.le_refl _, Nat.le_refl _⟩
theorem Shrink.trans {a b c : St} (h1 : Shrink a b) (h2 : Shrink b c) : Shrink a c :=
  ⟨Nat.le_trans h2.1 h1.1, Nat.le_trans h1.2 h2.2⟩
theorem Shrink.of_quiet {s s' : St} (h : Quiet s s') : Shrink s s' :=
  ⟨Nat.le_of_eq (by rw [h.inflight]), Nat.le_of_eq h.execs_length.symm⟩

theorem shrink_removeRequest (s : St) (id : Nat) : Shrink s (removeRequest s id).1 :=
  ⟨removeRequest_length_le s id, by simp⟩
theorem shrink_cancelRequest (s : St) (id : Nat) : Shrink s (cancelRequest s id).1 :=
  ⟨cancelRequest_length_le s id, by simp⟩
theorem shrink_pollExpired (s : St) (now : Nat) : Shrink s (pollExpired s now).1 :=
  ⟨pollExpired_length_le s now, by simp⟩
theorem shrink_tNext (s : St) : Shrink s (tNext s).1 := ⟨by simp, by simp⟩
theorem shrink_baseStartSend (s : St) (id : Nat) (res : Res) : Shrink s (baseStartSend s id res).1 :=
  ⟨baseStartSend_length_le s id res, by simp⟩
/-- across the write pump only: a request that `BaseChannel::poll_next` starts is one more entry -/
theorem shrinkRel : WriteRel Shrink where
  refl := Shrink.refl
  trans := Shrink.trans
  quiet := Shrink.of_quiet
  baseStartSend := shrink_baseStartSend

theorem shrink_pumpWrite (s : St) (rc : Bool) : Shrink s (pumpWrite s rc).1 := rel_pumpWrite shrinkRel s rc

/-- a refused (`none`) `startRequest` leaves table and executions alone -/
theorem startRequest_none_shrink (s : St) (now id d : Nat) (tr : Trace) (b : Nat)
    (h : (startRequest s now id d tr b).2 = none) : Shrink s (startRequest s now id d tr b).1 := by
  rcases startRequest_out s now id d tr b with ⟨_, h1⟩ | ⟨_, _, h1⟩ | ⟨_, _, _, _, _, h1⟩
  · rw [h1]; exact Shrink.refl s
  · rw [h1]; exact ⟨Nat.le_refl _, Nat.le_refl _⟩
  · rw [h1] at h; cases h

/-- what an accepted `startRequest` produced -/
structure Started (s0 s' : St) (ex : Exec) : Prop where
  rid : ex.rid = s0.execs.length
  phase : ex.phase = .offered
  vis : ex.vis = none
  aborted : ex.aborted = false
  inflight : ∃ key rem due, s'.inflight = s0.inflight ++
    [{ id := ex.id, timerKey := key, rid := ex.rid, remainder := rem, dueAt := due }]
  execs : s'.execs = s0.execs ++ [ex]
  untracked : findEntry s0 ex.id = none

theorem startRequest_some (s : St) (now id d : Nat) (tr : Trace) (b : Nat) (s' : St) (ex : Exec)
    (h : startRequest s now id d tr b = (s', some ex)) : Started s s' ex ∧ ex.id = id := by
  rcases startRequest_out s now id d tr b with ⟨_, h1⟩ | ⟨_, _, h1⟩ | ⟨hf, _, key, _, _, h1⟩
  · rw [h1] at h; cases h
  · rw [h1] at h; cases h
  · rw [h1] at h
    simp only [Prod.mk.injEq, Option.some.injEq] at h
    obtain ⟨rfl, rfl⟩ := h
    exact ⟨⟨rfl, rfl, rfl, rfl, ⟨key, _, _, rfl⟩, rfl, hf⟩, rfl⟩

theorem bpStep_started (s : St) (now : Nat) :
    ((Flow.bpStep s now).2 = none → Shrink s (Flow.bpStep s now).1) ∧
    (∀ ex, (Flow.bpStep s now).2 = some (.some ex) → ∃ s0, Shrink s s0 ∧ Started s0 (Flow.bpStep s now).1 ex) := by
  have h1 : Shrink s (Flow.bpCancel s).1 := by
    unfold Flow.bpCancel; split
    · exact (Shrink.of_quiet (by exact .same rfl)).trans (shrink_removeRequest _ _)
    · exact Shrink.of_quiet (by exact .same rfl)
  have h3 : Shrink s (Flow.bp3 s now) := (h1.trans (shrink_pollExpired _ _)).trans (shrink_tNext _)
  have h5 : Shrink s (Flow.bpOther (Flow.bp3 s now) (Flow.bpNx s now)).1 := by
    unfold Flow.bpOther; split
    · exact h3.trans (shrink_cancelRequest _ _)
    all_goals exact h3
  have ho := Flow.bpStep_out s now
  generalize Flow.bpStep s now = p at ho ⊢
  cases ho with
  | started id d tr b ex' _ _ hs =>
    exact ⟨(fun h => nomatch h), fun ex h => by
      cases h; exact ⟨_, h3, (startRequest_some _ _ _ _ _ _ _ _ (Prod.ext rfl hs)).1⟩⟩
  | duplicate id d tr b _ _ hs _ =>
    exact ⟨fun _ => h3.trans (startRequest_none_shrink _ now id d tr b hs), fun _ h => nomatch h⟩
  | again _ _ _ _ _ => exact ⟨fun _ => h5, fun _ h => nomatch h⟩
  | _ => exact ⟨(fun h => nomatch h), fun _ h => nomatch h⟩

/-- **`BaseChannel::poll_next` yields only what it just started**: some intermediate state `s0`
(reached from `s` by removals only) accepted the request. -/
theorem basePollNext_some (fuel : Nat) (s : St) (now : Nat) (s' : St) (ex : Exec) :
    basePollNext fuel s now = (s', .some ex) → ∃ s0, Shrink s s0 ∧ Started s0 s' ex := by
  intro h
  have := Flow.basePollNext_loop (now := now) (I := Shrink s)
    (Φ := fun s' r => ∀ ex, r = .some ex → ∃ s0, Shrink s s0 ∧ Started s0 s' ex)
    (fun a ha => .of_eq (fun hn => ha.trans ((bpStep_started a now).1 hn))
      (fun r hr ex he => by
        obtain ⟨s0, h1, h2⟩ := (bpStep_started a now).2 ex (by rw [hr, he])
        exact ⟨s0, ha.trans h1, h2⟩))
    (fun _ _ _ h => nomatch h) fuel s (Shrink.refl s)
  rw [h] at this
  exact this ex rfl

theorem Started.length {s0 s' : St} {ex : Exec} (h : Started s0 s' ex) :
    s'.inflight.length = s0.inflight.length + 1 := by
  obtain ⟨key, rem, due, hk⟩ := h.inflight; simp [hk]

theorem Started.rid_lt {s0 s' : St} {ex : Exec} (h : Started s0 s' ex) : ex.rid < s'.execs.length := by
  rw [h.execs, h.rid]; simp

/-- the new entry is the one `findEntry` returns for the id -/
theorem Started.findEntry {s0 s' : St} {ex : Exec} (h : Started s0 s' ex) :
    ∃ key rem due, findEntry s' ex.id =
      some { id := ex.id, timerKey := key, rid := ex.rid, remainder := rem, dueAt := due } := by
  obtain ⟨key, rem, due, hk⟩ := h.inflight
  refine ⟨key, rem, due, ?_⟩
  have hn := h.untracked
  unfold Server.findEntry at hn ⊢
  rw [hk, List.find?_append, hn]
  simp

/-- summary used by the limiter lemmas -/
structure YieldOK (s s' : St) (ex : Exec) : Prop where
  fresh : s.execs.length ≤ ex.rid
  lt : ex.rid < s'.execs.length
  pos : 1 ≤ s'.inflight.length

theorem basePollNext_some_yield (fuel : Nat) (s : St) (now : Nat) (s' : St) (ex : Exec)
    (h : basePollNext fuel s now = (s', .some ex)) :
    YieldOK s s' ex ∧ s'.inflight.length ≤ s.inflight.length + 1 := by
  obtain ⟨s0, h1, h2⟩ := basePollNext_some fuel s now s' ex h
  have := h2.length
  have := h1.1
  have := h1.2
  exact ⟨⟨by rw [h2.rid]; omega, h2.rid_lt, by omega⟩, by omega⟩

theorem YieldOK.mono {a s s' : St} {ex : Exec} (h : YieldOK s s' ex) (ha : a.execs.length ≤ s.execs.length) :
    YieldOK a s' ex := ⟨Nat.le_trans ha h.fresh, h.lt, h.pos⟩

/-- on the limiter's way the executions only grow; what is not a request says nothing -/
theorem yield_spec (s : St) (now limit : Nat) :
    Flow.LimSpec now (fun a => s.execs.length ≤ a.execs.length)
      (fun s' r => ∀ ex, r = .some ex → YieldOK s s' ex ∧ s'.inflight.length ≤ limit) where
  ready := fun a h _ => by simpa using h
  pending := fun _ _ _ _ e => by cases e
  readyErr := fun _ _ _ _ e => by cases e
  req := fun fuel a _ h _ => Nat.le_trans h (rel_basePollNext execsLenRel.toBaseRel fuel a now)
  other := fun _ _ r _ hr _ ex e => absurd e (hr ex)
  sent := fun a id res h _ => by simpa using h
  sendErr := fun _ _ _ _ _ _ e => by cases e
  upd := fun a r h => by simpa [updExec] using h
  spin := fun _ _ _ e => by cases e

/-- **C12 core (the limiter as it is in tarpc, `limitedPollNextLegacy`)**: what `MaxRequests::poll_next` hands out never takes the table above the
limit, and is a freshly created execution. -/
theorem limitedPollNextLegacy_some (limit fuel : Nat) (s : St) (now : Nat) (s' : St) (ex : Exec)
    (h : limitedPollNextLegacy limit fuel s now = (s', .some ex)) : YieldOK s s' ex ∧ s'.inflight.length ≤ limit := by
  -- on the way the executions only grow; a request is handed out only below the limit
  have := Flow.limitedLegacy_post (yield_spec s now limit) limit
    (fun fuel a h hlt ex e => by
      obtain ⟨h1, h2⟩ := basePollNext_some_yield fuel a now _ ex (Prod.ext rfl e)
      exact ⟨h1.mono h, Nat.le_trans h2 (Nat.lt_of_not_ge hlt)⟩)
    fuel s (Nat.le_refl _)
  rw [h] at this
  exact this ex rfl

/-- **C12 core (variant deciding after the read)**. -/
theorem limitedPollNextFixed_some (limit fuel : Nat) (s : St) (now : Nat) (s' : St) (ex : Exec)
    (h : limitedPollNextFixed limit fuel s now = (s', .some ex)) : YieldOK s s' ex ∧ s'.inflight.length ≤ limit := by
  have := Flow.limitedFixed_post (yield_spec s now limit) limit
    (fun fuel a h ex0 e hfit ex e' => by
      cases e'
      exact ⟨(basePollNext_some_yield fuel a now _ ex0 (Prod.ext rfl e)).1.mono h, by omega⟩)
    fuel s (Nat.le_refl _)
  rw [h] at this
  exact this ex rfl

theorem channelPollNext_some (s : St) (now : Nat) (s' : St) (ex : Exec)
    (h : channelPollNext s now = (s', .some ex)) :
    YieldOK s s' ex ∧ ∀ L, s.limit = some L → s'.inflight.length ≤ L := by
  unfold channelPollNext at h
  split at h
  · rename_i hl
    exact ⟨(basePollNext_some_yield _ _ _ _ _ h).1, by simp [hl]⟩
  · rename_i l hl
    split at h
    · obtain ⟨h1, h2⟩ := limitedPollNextFixed_some _ _ _ _ _ _ h
      exact ⟨h1, by intro L hL; rw [hl] at hL; cases hL; exact h2⟩
    · obtain ⟨h1, h2⟩ := limitedPollNextLegacy_some _ _ _ _ _ _ h
      exact ⟨h1, by intro L hL; rw [hl] at hL; cases hL; exact h2⟩

theorem rpStep_item {s : St} {now rid : Nat} (h : (Flow.rpStep s now).2 = some (.item rid)) :
    ∃ ex, (Flow.rpRd s now).2 = .some ex ∧ ex.rid = rid ∧ (Flow.rpStep s now).1 = (Flow.rpWr s now).1 := by
  have ho := Flow.rpStep_out s now
  generalize Flow.rpStep s now = p at ho h
  cases ho with
  | item ex hr _ => cases h; exact ⟨ex, hr, rfl, rfl⟩
  | _ => cases h

/-- **C12 (state form): never over the limit.**  When `Requests::poll_next` hands out a request,
at most `L` requests are tracked (the new one included, unless a queued response already answered
it); the request is a freshly created execution. -/
theorem requestsPollNext_item (fuel : Nat) (s : St) (now : Nat) (s' : St) (rid : Nat)
    (h : requestsPollNext fuel s now = (s', .item rid)) :
    (∀ L, s.limit = some L → s'.inflight.length ≤ L ∧ 1 ≤ L) ∧ s.execs.length ≤ rid ∧ rid < s'.execs.length := by
  -- on the way the limit is kept and the executions only grow
  have := Flow.requestsPollNext_loop (now := now) (I := fun a => a.limit = s.limit ∧ s.execs.length ≤ a.execs.length)
    (Φ := fun s' r => ∀ rid, r = .item rid →
      (∀ L, s.limit = some L → s'.inflight.length ≤ L ∧ 1 ≤ L) ∧ s.execs.length ≤ rid ∧ rid < s'.execs.length)
    (fun a ⟨hl, he⟩ => by
      have hq := quiet_armRead (Flow.rpRd a now).1 (Flow.rpRd a now).2
      have hsh := shrink_pumpWrite (Flow.armRead (Flow.rpRd a now).1 (Flow.rpRd a now).2)
        (Flow.readClosedOf (Flow.rpRd a now).2)
      have hl1 : (Flow.rpRd a now).1.limit = a.limit := (rel_channelPollNext limitRel a now).1
      have he1 : a.execs.length ≤ (Flow.rpRd a now).1.execs.length := rel_channelPollNext execsLenRel a now
      have hl2 : (Flow.rpWr a now).1.limit = a.limit :=
        ((rel_pumpWrite limitRel.toWriteRel _ _).1.trans hq.limit).trans hl1
      have he2 : (Flow.rpRd a now).1.execs.length ≤ (Flow.rpWr a now).1.execs.length := by
        have := hsh.2; rw [hq.execs_length] at this; exact this
      unfold IterSpec
      cases hr : (Flow.rpStep a now).2 with
      | none =>
        show (Flow.rpStep a now).1.limit = s.limit ∧ s.execs.length ≤ (Flow.rpStep a now).1.execs.length
        rw [(Flow.rpStep_idle (Or.inl hr)).2.1]
        exact ⟨hl2.trans hl, by omega⟩
      | some r =>
        intro rid e
        cases e
        obtain ⟨ex, hrd, rfl, hst⟩ := rpStep_item hr
        show _ ∧ _ ∧ _ < (Flow.rpStep a now).1.execs.length
        rw [hst]
        obtain ⟨h1, h2⟩ := channelPollNext_some a now (Flow.rpRd a now).1 ex (Prod.ext rfl hrd)
        have a1 : (Flow.rpWr a now).1.inflight.length ≤ (Flow.rpRd a now).1.inflight.length := by
          have := hsh.1; rw [hq.inflight] at this; exact this
        refine ⟨fun L hL => ?_, by have := h1.fresh; omega, by have := h1.lt; omega⟩
        have := h2 L (hl.trans hL)
        have := h1.pos
        exact ⟨by omega, by omega⟩)
    (fun _ _ _ e => by cases e) fuel s ⟨rfl, Nat.le_refl _⟩
  rw [h] at this
  exact this rid rfl

/-! ## quoted by the property files C04, C08, C12 -/

/-- the handler runs: it is polled, or it returns -/
def handlerRuns : Obs → Bool
  | .handler _ .polled _ => true
  | .handler _ .completed _ => true
  | _ => false

/-- returning a permit adds at most a `wake` to the observations (the actions of `WakeK`; the others leave `obs` alone), which
`handlerRuns` does not count -/
theorem rqRelease_runs (s : St) : (rqRelease s).obs.filter handlerRuns = s.obs.filter handlerRuns :=
  (Flow.rqRelease_steps s).kept (P := fun a => a.obs.filter handlerRuns = s.obs.filter handlerRuns)
    (fun hk hp h => by cases hk <;> cases hp <;> exact h) rfl

theorem mem_updExec {s : St} {rid : Nat} {f : Exec → Exec} {x : Exec} (hx : x ∈ (updExec s rid f).execs) :
    ∃ y ∈ s.execs, x = if y.rid == rid then f y else y := by
  simp only [updExec, List.mem_map] at hx
  obtain ⟨y, hy, rfl⟩ := hx
  exact ⟨y, hy, rfl⟩

/-- what `BaseChannel::start_send` does, by whether the id is tracked -/
theorem baseStartSend_spec (s : St) (id : Nat) (res : Res) :
    (findEntry s id = none ∧ baseStartSend s id res = (s, none))
    ∨ (∃ e ok, findEntry s id = some e
        ∧ (baseStartSend s id res).2 = some ok
        ∧ (baseStartSend s id res).1.obs.head? = some (.tSend (tid s) (.response id res) ok)
        ∧ (baseStartSend s id res).1.inflight = s.inflight.filter (·.id != id)
        ∧ findEntry (baseStartSend s id res).1 id = none
        ∧ (∀ q w, s.timers.remove e.timerKey = some (q, w) → (baseStartSend s id res).1.timers = q)) := by
  rcases Flow.removeRequest_out s id with ⟨hf, h1⟩ | ⟨e, hf, h1⟩
  · left
    refine ⟨hf, ?_⟩
    rcases baseStartSend_cases s id res with ⟨_, h2⟩ | ⟨h0, _⟩
    · rw [h2, h1]
    · rw [h1] at h0; cases h0
  · right
    rcases baseStartSend_cases s id res with ⟨h0, _⟩ | ⟨_, h2⟩
    · rw [h1] at h0; cases h0
    · refine ⟨e, (tSend (removeRequest s id).1 (.response id res)).2, hf, by rw [h2], ?_, ?_, ?_, ?_⟩
      · rw [h2]; simp [tSend, tid]
      · rw [h2, h1]; simp
      · rw [h2, h1]
        simp only [findEntry, Flow.tSend_inflight, Flow.removeTimer_inflight, List.find?_filter]
        simp [List.find?_eq_none]
      · intro q w hq
        rw [h2, h1]
        simp only [Flow.tSend_timers]
        rw [removeTimer_of_some (s := { s with inflight := s.inflight.filter (·.id != id) }) hq]
        cases w <;> simp

end TarpcModel.Server
