import TarpcModel.Monitors.C07
/-!
Lemmas for C07 (`Props/C07.lean`): the deadline a context carries over a hop and over a chain of hops in closed form
(`hop_eq` for one hop and live chains, `hop_eq_max` the form that composes, `chain_closed`), and monitor acceptance.
-/
namespace TarpcModel.Ctx

theorem nsPerSec_eq : nsPerSec = 10 ^ 9 := by decide

theorem hop_eq (d s r : Nat) (h : s ≤ r) : hop d s r = max d s + (r - s) := by
  unfold hop de ser
  omega

theorem hop_eq_max (d s r : Nat) (h : s ≤ r) : hop d s r = max (d + (r - s)) r := by
  unfold hop de ser
  omega

theorem orderedB_iff (p : Nat) (hops : List (Nat × Nat)) : orderedB p hops = true ↔ Ordered p hops := by
  induction hops generalizing p with
  | nil => simp [orderedB, Ordered]
  | cons h t ih =>
    obtain ⟨s, r⟩ := h
    simp [orderedB, Ordered, ih, and_assoc]

instance (p : Nat) (hops : List (Nat × Nat)) : Decidable (Ordered p hops) :=
  decidable_of_iff _ (orderedB_iff p hops)

theorem chain_ge (d p : Nat) (hops : List (Nat × Nat)) (h : Ordered p hops) : d ≤ chain d hops := by
  induction hops generalizing d p with
  | nil => simp [chain]
  | cons hd t ih =>
    obtain ⟨s, r⟩ := hd
    obtain ⟨_, hsr, ht⟩ := h
    have := ih (hop d s r) r ht
    have := hop_eq d s r hsr
    simp only [chain]
    omega

theorem lastRecv_ge (p : Nat) (hops : List (Nat × Nat)) (h : Ordered p hops) :
    p + totalTransit hops ≤ lastRecv p hops := by
  induction hops generalizing p with
  | nil => simp [totalTransit, lastRecv]
  | cons hd t ih =>
    obtain ⟨s, r⟩ := hd
    obtain ⟨hps, hsr, ht⟩ := h
    have := ih r ht
    simp only [totalTransit, lastRecv]
    omega

/-- Closed form of a causally ordered chain (generalised over the time `p` before the first send). -/
theorem chain_closed (d p : Nat) (hops : List (Nat × Nat)) (h : Ordered p hops) :
    max p (chain d hops) = max (d + totalTransit hops) (lastRecv p hops) := by
  induction hops generalizing d p with
  | nil => simp [chain, totalTransit, lastRecv]; omega
  | cons hd t ih =>
    obtain ⟨s, r⟩ := hd
    obtain ⟨hps, hsr, ht⟩ := h
    have h1 := ih (hop d s r) r ht
    have h2 := chain_ge (hop d s r) r t ht
    have h3 := hop_eq_max d s r hsr
    have h4 := lastRecv_ge r t ht
    simp only [chain, totalTransit, lastRecv]
    omega

/-- Every nested send happens while the sending handler's deadline has not passed. -/
def Live (d : Nat) : List (Nat × Nat) → Prop
  | [] => True
  | (s, r) :: rest => s ≤ d ∧ Live (hop d s r) rest

instance instDecidableLive : (d : Nat) → (hops : List (Nat × Nat)) → Decidable (Live d hops)
  | _, [] => isTrue trivial
  | d, (s, r) :: rest =>
      match Nat.decLe s d, instDecidableLive (hop d s r) rest with
      | isTrue h1, isTrue h2 => isTrue ⟨h1, h2⟩
      | isFalse h1, _ => isFalse (fun h => h1 h.1)
      | _, isFalse h2 => isFalse (fun h => h2 h.2)

theorem chain_live (d p : Nat) (hops : List (Nat × Nat)) (h : Ordered p hops) (hl : Live d hops) :
    chain d hops = d + totalTransit hops := by
  induction hops generalizing d p with
  | nil => simp [chain, totalTransit]
  | cons hd t ih =>
    obtain ⟨s, r⟩ := hd
    obtain ⟨hps, hsr, ht⟩ := h
    obtain ⟨hsd, hl'⟩ := hl
    have h1 := ih (hop d s r) r ht hl'
    have h3 := hop_eq d s r hsr
    simp only [chain, totalTransit]
    omega

theorem chainSeen_length (c : Codec) (d : Nat) (hops : List (Nat × Nat)) :
    (chainSeen c d hops).length = hops.length := by
  induction hops generalizing d with
  | nil => rfl
  | cons hd t ih => obtain ⟨s, r⟩ := hd; simp [chainSeen, ih]

/-- The last handler's deadline is the last element of `chainSeen`. -/
theorem chainSeen_getLast (c : Codec) (d : Nat) (hops : List (Nat × Nat)) :
    (chainSeen c d hops).getLast? = if hops = [] then none else some (chainVia c d hops) := by
  induction hops generalizing d with
  | nil => rfl
  | cons hd t ih =>
    obtain ⟨s, r⟩ := hd
    cases t with
    | nil => cases hs : c.serialises <;> simp [chainSeen, chainVia, chain, hopVia, hs]
    | cons hd2 t2 =>
      have := ih (hopVia c d s r)
      obtain ⟨s2, r2⟩ := hd2
      simp only [chainSeen, List.getLast?_cons_cons, reduceCtorEq, ↓reduceIte] at this ⊢
      rw [this]
      cases hs : c.serialises <;> simp [chainVia, chain, hopVia, hs]

/-! ### Monitor acceptance -/

theorem checkHop_model (c : Codec) (d s r : Nat) (h : s ≤ r) : checkHop (hopVia c d s r) c d s r = true := by
  have := hop_eq d s r h
  cases hs : c.serialises <;> simp [checkHop, hopVia, hs, h] <;> omega

theorem checkDefault_model (r : Nat) : checkDefault (defaultDeadline r) r = true := by
  simp [checkDefault, defaultDeadline]

theorem checkChain_model (c : Codec) (d : Nat) (hops : List (Nat × Nat)) (h : orderedB 0 hops = true) :
    checkChain (chainVia c d hops) c d hops = true := by
  have ho := (orderedB_iff 0 hops).1 h
  have h1 := chain_closed d 0 hops ho
  have h2 := chain_ge d 0 hops ho
  cases hs : c.serialises <;> simp [checkChain, chainVia, hs, h] <;> omega

theorem chainObs_check (c : Codec) (d p : Nat) (hops : List (Nat × Nat)) (h : Ordered p hops) :
    ∀ o ∈ chainObs c d hops, check o = true := by
  induction hops generalizing d p with
  | nil => simp [chainObs]
  | cons hd t ih =>
    obtain ⟨s, r⟩ := hd
    obtain ⟨_, hsr, ht⟩ := h
    simp only [chainObs]
    exact List.forall_mem_cons.mpr ⟨checkHop_model c d s r hsr, ih _ r ht⟩

theorem step_check (op : Op) : ∀ o ∈ step op, check o = true := by
  cases op with
  | hop c d s r =>
    simp only [step]
    split
    · next h => exact List.forall_mem_singleton.mpr (checkHop_model c d s r h)
    · exact List.forall_mem_singleton.mpr rfl
  | dflt r => exact List.forall_mem_singleton.mpr (checkDefault_model r)
  | chain c d hops =>
    simp only [step]
    split
    · next h =>
      exact List.forall_mem_append.mpr ⟨chainObs_check c d 0 hops ((orderedB_iff 0 hops).1 h),
        List.forall_mem_singleton.mpr (checkChain_model c d hops h)⟩
    · exact List.forall_mem_singleton.mpr rfl

theorem run_check (ops : List Op) : ∀ o ∈ run ops, check o = true := by
  induction ops with
  | nil => simp [run]
  | cons op ops ih =>
    simp only [run]
    exact List.forall_mem_append.mpr ⟨step_check op, ih⟩

theorem foldl_monStep_ok (obs : List Obs) (m : MonSt) (hm : m.ok = true)
    (h : ∀ o ∈ obs, check o = true) : (obs.foldl monStep m).ok = true := by
  induction obs generalizing m with
  | nil => simpa using hm
  | cons o t ih =>
    have ho : check o = true := h o (by simp)
    simp only [List.foldl_cons, monStep, ho, ↓reduceIte]
    exact ih m hm (fun o' h' => h o' (by simp [h']))

/-- A rejected observation makes the verdict stick. -/
theorem foldl_monStep_bad (obs : List Obs) (m : MonSt) (hm : m.ok = false) :
    (obs.foldl monStep m).ok = false := by
  induction obs generalizing m with
  | nil => simpa using hm
  | cons o t ih =>
    simp only [List.foldl_cons]
    apply ih
    unfold monStep
    split <;> simp [hm]

end TarpcModel.Ctx
