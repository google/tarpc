import TarpcModel.Lemmas.ServerFlow
import TarpcModel.Lemmas.ServerTable
/-!
`Requests::poll_next` for an invariant `R pend` that depends on the request the channel's loop has started and not yet handed
on (`pend`).  `StagedRead` (`ReadSteps` when the invariant is the same at every stage of an iteration), `LimitSteps` and
`WriteSteps` list the steps it must survive; the loops are those of `ServerEqs`, for every configuration of the
`MaxRequests` limiter.  Facts about the state alone (table, timer queue, configuration) travel in a predicate `I` closed under
the loops.  `P` holds where an iteration of a loop starts, `S` after the `spin` of a loop out of fuel, `Q pend` once the read
is armed.  `ensureLoop = false` throughout: with the retry loop of `ensure_writeable` (`Gen.serverEnsureLoop`, `false` for the
source as it stands) the write pump can run out of fuel.
-/
namespace TarpcModel.Server.Tab
open TarpcModel TarpcModel.Server TarpcModel.Server.Flow

def pendOf : SPoll Exec → Option (Nat × Nat)
  | .some ex => some (ex.rid, ex.id)
  | _ => none

def startedOf (p : St × Option Exec) : Option (Nat × Nat) := p.2.map (fun ex => (ex.rid, ex.id))

def PostRd (S : St → Prop) (R : Option (Nat × Nat) → St → Prop) : St × SPoll Exec → Prop
  | (s, .spin) => S s
  | (s, r) => R (pendOf r) s

/-- `P` if the poll goes on, else `PostRd` at the result -/
def PostRdO (P S : St → Prop) (R : Option (Nat × Nat) → St → Prop) : St × Option (SPoll Exec) → Prop
  | (s, none) => P s
  | (s, some r) => PostRd S R (s, r)

/-- after `Requests::poll_next`: `Q` at the request yielded (the item is its `rid`), `S` after a spin, else `Q none` -/
def PostRq (S : St → Prop) (Q : Option (Nat × Nat) → St → Prop) : St × ReqPoll → Prop
  | (s, .item rid) => ∃ id, Q (some (rid, id)) s
  | (s, .spin) => S s
  | (s, _) => Q none s

theorem PostRq.imp {S S' : St → Prop} {Q Q' : Option (Nat × Nat) → St → Prop} {p : St × ReqPoll} (h : PostRq S Q p)
    (hS : ∀ s, S s → S' s) (hQ : ∀ pend s, Q pend s → Q' pend s) : PostRq S' Q' p := by
  obtain ⟨s, r⟩ := p
  cases r with
  | item rid => obtain ⟨id, h⟩ := h; exact ⟨id, hQ _ _ h⟩
  | spin => exact hS _ h
  | _ => exact hQ _ _ h

variable {now : Nat} {I P S : St → Prop} {R Q : Option (Nat × Nat) → St → Prop}

theorem basePollNext_walk (hI : LoopClosed now I) (hspin : ∀ s, P s → S (emit s (.spin (tid s))))
    (hstep : ∀ s, I s → P s → PostRdO P S R (bpStep s now)) (fuel : Nat) (s : St) (hi : I s) (h : P s) :
    PostRd S R (basePollNext fuel s now) := by
  refine basePollNext_loop (I := fun s => I s ∧ P s) (Φ := fun s r => PostRd S R (s, r))
    (fun s h => .of_eq (fun hn => ?_) (fun r hr => ?_)) (fun s h => hspin s h.2) fuel s ⟨hi, h⟩
  · have hb := hstep s h.1 h.2
    have hi' := hI.bpStep s h.1
    revert hn hb hi'
    generalize bpStep s now = p
    obtain ⟨s', r⟩ := p
    intro hn hb hi'
    cases hn
    exact ⟨hi', hb⟩
  · have hb := hstep s h.1 h.2
    revert hr hb
    generalize bpStep s now = p
    obtain ⟨s', r'⟩ := p
    intro hr hb
    cases hr
    exact hb

/-- The steps of one iteration of the channel's loop.  `A`: at the start of an iteration; `B`: after the guard-cancellation
queue; `E`: after the expiries; `D`: after a read that started nothing; `R`: after `startRequest` (`R (some (rid, id))` when a
request is started).  `C s id d tr b` is what the read passes on to `startRequest` about the request it found. -/
structure StagedRead (now : Nat) (I A B E D : St → Prop) (R : Option (Nat × Nat) → St → Prop)
    (C : St → Nat → Nat → Trace → Nat → Prop) : Prop where
  bpCancel : ∀ s, I s → A s → B (bpCancel s).1
  expire : ∀ s, I s → B s → E (pollExpired s now).1
  read : ∀ s, I s → s.poisoned = false → (∀ id tr, (tNext s).2 ≠ .item (.cancel id tr)) → E s →
    D (tNext s).1 ∧ ∀ id d tr b, (tNext s).2 = .item (.request id d tr b) → C (tNext s).1 id d tr b
  cancel : ∀ s id tr, I s → s.poisoned = false → (tNext s).2 = .item (.cancel id tr) → E s →
    D (cancelRequest (tNext s).1 id).1
  start : ∀ s id d tr b, I s → D s → C s id d tr b →
    R (startedOf (startRequest s now id d tr b)) (startRequest s now id d tr b).1

/-- the same invariant `R none` at every stage -/
abbrev ReadSteps (now : Nat) (I : St → Prop) (R : Option (Nat × Nat) → St → Prop) (C : St → Nat → Nat → Trace → Nat → Prop) :
    Prop :=
  StagedRead now I (R none) (R none) (R none) (R none) R C

section
variable {A B E D : St → Prop} {C : St → Nat → Nat → Trace → Nat → Prop}

theorem StagedRead.mono {I' : St → Prop} (hR : StagedRead now I A B E D R C) (hi : ∀ s, I' s → I s) :
    StagedRead now I' A B E D R C :=
  ⟨fun s h => hR.bpCancel s (hi s h), fun s h => hR.expire s (hi s h), fun s h => hR.read s (hi s h),
    fun s id tr h => hR.cancel s id tr (hi s h), fun s id d tr b h => hR.start s id d tr b (hi s h)⟩

theorem StagedRead.bpStep (hI : LoopClosed now I) (hR : StagedRead now I A B E D R C) {P S : St → Prop}
    (hE : ∀ s, E s → S s) (hDP : ∀ s, D s → P s) (hDS : ∀ s, D s → S s) (hDR : ∀ s, D s → R none s)
    (hRS : ∀ s, R none s → S s) (hRP : ∀ s, R none s → P s)
    (s : St) (hi : I s) (h : A s) : PostRdO P S R (bpStep s now) := by
  have hi1 := hI.bpCancel s hi
  have hi2 : I (bp2 s now) := hI.expire _ hi1
  have h2 : E (bp2 s now) := hR.expire _ hi1 (hR.bpCancel s hi h)
  have hnc : (bp2 s now).poisoned = false → (∀ id d tr b, bpNx s now ≠ .item (.request id d tr b)) →
      D (bpOther (bp3 s now) (bpNx s now)).1 := by
    intro hp hn
    show D (bpOther (tNext (bp2 s now)).1 (tNext (bp2 s now)).2).1
    cases hnx : (tNext (bp2 s now)).2 with
    | item m =>
      cases m with
      | cancel id tr => exact hR.cancel _ id tr hi2 hp hnx h2
      | request id d tr b => exact absurd hnx (hn id d tr b)
      | response id res => exact (hR.read _ hi2 hp (by rw [hnx]; intro id tr hc; cases hc) h2).1
    | pending => exact (hR.read _ hi2 hp (by rw [hnx]; intro id tr hc; cases hc) h2).1
    | err => exact (hR.read _ hi2 hp (by rw [hnx]; intro id tr hc; cases hc) h2).1
    | eof => exact (hR.read _ hi2 hp (by rw [hnx]; intro id tr hc; cases hc) h2).1
  have hreq : (bp2 s now).poisoned = false → ∀ id d tr b, bpNx s now = .item (.request id d tr b) →
      R (startedOf (startRequest (bp3 s now) now id d tr b)) (startRequest (bp3 s now) now id d tr b).1 := by
    intro hp id d tr b hn
    obtain ⟨h3, hside⟩ := hR.read (bp2 s now) hi2 hp (by intro id tr hc; unfold bpNx at hn; rw [hn] at hc; cases hc) h2
    exact hR.start _ id d tr b (hI.tNext _ hi2) h3 (hside id d tr b hn)
  have ho := bpStep_out s now
  generalize Flow.bpStep s now = out at ho ⊢
  cases ho with
  | poisoned2 hp => exact hE _ h2
  | readErr hp hn =>
    exact hDR _ (hR.read (bp2 s now) hi2 hp (by intro id tr hc; unfold bpNx at hn; rw [hn] at hc; cases hc) h2).1
  | started id d tr b ex hp hn hs' => have := hreq hp id d tr b hn; rw [startedOf, hs'] at this; exact this
  | startPanic id d tr b hp hn hs' hpo => have := hreq hp id d tr b hn; rw [startedOf, hs'] at this; exact hRS _ this
  | duplicate id d tr b hp hn hs' hpo => have := hreq hp id d tr b hn; rw [startedOf, hs'] at this; exact hRP _ this
  | otherPoisoned hp hn1 hn2 hpo => exact hDS _ (hnc hp hn2)
  | again hp hn1 hn2 hpo hc => exact hDP _ (hnc hp hn2)
  | closed hp hn1 hn2 hpo hc => exact hDR _ (hnc hp hn2)
  | pending hp hn1 hn2 hpo hc => exact hDR _ (hnc hp hn2)

theorem ReadSteps.mono {I' : St → Prop} (hR : ReadSteps now I R C) (hi : ∀ s, I' s → I s) : ReadSteps now I' R C :=
  StagedRead.mono hR hi

theorem ReadSteps.bpStep (hI : LoopClosed now I) (hR : ReadSteps now I R C) (s : St) (hi : I s) (h : R none s) :
    PostRdO (R none) (R none) R (bpStep s now) :=
  StagedRead.bpStep hI hR (fun _ h => h) (fun _ h => h) (fun _ h => h) (fun _ h => h) (fun _ h => h) (fun _ h => h) s hi h

end

/-- What the `MaxRequests` limiter does beyond the channel's loop: it polls the sink, and a request the channel hands it at
the limit is refused (the refusal is sent, the request is marked and is pending no longer). -/
structure LimitSteps (now : Nat) (I : St → Prop) (R : Option (Nat × Nat) → St → Prop) : Prop where
  ready : ∀ s, I s → R none s → R none (tReady s).1
  refuse : ∀ s rid id, I s → R (some (rid, id)) s → R none (baseStartSend s id (.err throttleKindIdx)).1
  mark : ∀ s rid, I s → R none s → R none (limitedPollNextLegacy.markThrottled s rid)

theorem LimitSteps.mono {I' : St → Prop} (hL : LimitSteps now I R) (hi : ∀ s, I' s → I s) : LimitSteps now I' R :=
  ⟨fun s h => hL.ready s (hi s h), fun s rid id h => hL.refuse s rid id (hi s h), fun s rid h => hL.mark s rid (hi s h)⟩

theorem LimitSteps.refused (hI : LoopClosed now I) (hL : LimitSteps now I R) {s2 : St} (ex : Exec) (bi : I s2)
    (b : R (some (ex.rid, ex.id)) s2) :
    R none (baseStartSend s2 ex.id (.err throttleKindIdx)).1 ∧
    I (limitedPollNextLegacy.markThrottled (baseStartSend s2 ex.id (.err throttleKindIdx)).1 ex.rid) ∧
    R none (limitedPollNextLegacy.markThrottled (baseStartSend s2 ex.id (.err throttleKindIdx)).1 ex.rid) :=
  have c := hL.refuse s2 ex.rid ex.id bi b
  have ci := hI.baseStartSend s2 ex.id (.err throttleKindIdx) bi
  ⟨c, hI.upd _ ex.rid _ (fun e => ⟨rfl, rfl, rfl, rfl⟩) ci, hL.mark _ ex.rid ci c⟩

theorem limitedLegacy_walk (hI : LoopClosed now I) (hL : LimitSteps now I R)
    (hspin : ∀ s, R none s → S (emit s (.spin (tid s))))
    (hbase : ∀ fuel s, I s → R none s → PostRd S R (basePollNext fuel s now)) (limit : Nat) (fuel : Nat) (s : St) (hi : I s)
    (h : R none s) : PostRd S R (limitedPollNextLegacy limit fuel s now) := by
  refine limitedLegacy_loop (I := fun _ s => I s ∧ R none s) (Φ := fun s r => PostRd S R (s, r)) (fun _ s ⟨hi, h⟩ => ?_)
    (fun s h => hspin s h.2) fuel s ⟨hi, h⟩
  have a := hL.ready s hi h
  have ai := hI.tReady s hi
  have b := hbase (baseFuel (tReady s).1) _ ai a
  have bi := hI.basePollNext (baseFuel (tReady s).1) _ ai
  have ho := llStep_out limit s now
  generalize llStep limit s now = p at ho ⊢
  cases ho with
  | below hl => exact hbase _ s hi h
  | pending hl he => exact a
  | readyErr hl he => exact a
  | through hl he hne => exact b
  | refuseErr hl he s2 ex hb hs => rw [hb] at b bi; exact (hL.refused hI ex bi b).1
  | refused hl he s2 ex hb hs => rw [hb] at b bi; exact (hL.refused hI ex bi b).2

theorem limitedFixed_walk (hI : LoopClosed now I) (hL : LimitSteps now I R)
    (hspin : ∀ s, R none s → S (emit s (.spin (tid s))))
    (hbase : ∀ fuel s, I s → R none s → PostRd S R (basePollNext fuel s now)) (limit : Nat) (fuel : Nat) (s : St) (hi : I s)
    (h : R none s) : PostRd S R (limitedPollNextFixed limit fuel s now) := by
  refine limitedFixed_loop (I := fun _ s => I s ∧ R none s) (Φ := fun s r => PostRd S R (s, r)) (fun _ s ⟨hi, h⟩ => ?_)
    (fun s h => hspin s h.2) fuel s ⟨hi, h⟩
  have hpre : I (fixedPre limit s).1 ∧ R none (fixedPre limit s).1 ∧
      ((fixedPre limit s).2 = none ∨ (fixedPre limit s).2 = some .pending ∨ (fixedPre limit s).2 = some (.err .ready)) := by
    unfold fixedPre
    refine ite_of (P := fun p : St × Option (SPoll Exec) => I p.1 ∧ R none p.1 ∧
      (p.2 = none ∨ p.2 = some .pending ∨ p.2 = some (.err .ready))) ?_ ⟨hi, h, Or.inl rfl⟩
    have a := hL.ready s hi h
    have ai := hI.tReady s hi
    generalize tReady s = p at a ai ⊢
    obtain ⟨s1, r1⟩ := p
    cases r1 with
    | pending => exact ⟨ai, a, Or.inr (Or.inl rfl)⟩
    | err => exact ⟨ai, a, Or.inr (Or.inr rfl)⟩
    | ready => exact ⟨ai, a, Or.inl rfl⟩
  have b := hbase (baseFuel (fixedPre limit s).1) _ hpre.1 hpre.2.1
  have bi := hI.basePollNext (baseFuel (fixedPre limit s).1) _ hpre.1
  have ho := lfStep_out limit s now
  generalize lfStep limit s now = p at ho ⊢
  cases ho with
  | pre s1 r hp =>
    rw [hp] at hpre
    rcases hpre.2.2 with h0 | h0 | h0
    · cases h0  -- the pre-step let the poll go on: another path
    · cases h0; exact hpre.2.1  -- `poll_ready → Pending`
    · cases h0; exact hpre.2.1  -- `poll_ready → Err`
  | through s1 hp hne => rw [hp] at b; exact b
  | fits s1 hp s2 ex hb hl => rw [hp] at b; rw [hb] at b; exact b
  | refuseErr s1 hp s2 ex hb hl hs => rw [hp] at b bi; rw [hb] at b bi; exact (hL.refused hI ex bi b).1
  | refused s1 hp s2 ex hb hl hs => rw [hp] at b bi; rw [hb] at b bi; exact (hL.refused hI ex bi b).2

theorem channelPollNext_walk (hI : LoopClosed now I) (hL : LimitSteps now I R)
    (hspin : ∀ s, R none s → S (emit s (.spin (tid s))))
    (hbase : ∀ fuel s, I s → R none s → PostRd S R (basePollNext fuel s now)) (s : St) (hi : I s) (h : R none s) :
    PostRd S R (channelPollNext s now) := by
  unfold channelPollNext
  cases s.limit with
  | none => exact hbase _ s hi h
  | some l =>
    dsimp only
    refine ite_of (P := PostRd S R) ?_ ?_
    · exact limitedFixed_walk hI hL hspin hbase l _ s hi h
    · exact limitedLegacy_walk hI hL hspin hbase l _ s hi h

/-- The steps of `Requests::poll_next` after the channel's loop: `R pend` becomes `Q pend` when the guard of the request read
is armed, `Q` is kept by the write pump, and a failed write drops the request read. -/
structure WriteSteps (now : Nat) (I P : St → Prop) (R Q : Option (Nat × Nat) → St → Prop) : Prop where
  arm : ∀ s r, I s → R (pendOf r) s → Q (pendOf r) (armRead s r)
  pump : ∀ s rc pend, I s → Q pend s → Q pend (pumpWrite s rc).1
  drop : ∀ s rc rid id a, I s → Q (some (rid, id)) s → (pumpWrite s rc).2 = .err a →
    Q none (dropOffered (pumpWrite s rc).1 rid id)
  again : ∀ s, Q none s → P s

/-- the write pump keeps what its calls of the sink keep and a send from the head of the response queue keeps -/
theorem pumpWrite_keeps {P : St → Prop} (hew : ∀ s, P s → P (ensureWriteable s).1) (hfl : ∀ s rc, P s → P (flushArm s rc).1)
    (hwk : ∀ s, P s → P { s with rqRxWaker := true })
    (hsend : ∀ (s1 : St) (id : Nat) (res : Res) (l : List (Nat × Res)), s1.respQ = (id, res) :: l → P s1 →
      P (baseStartSend (rqRelease { s1 with respQ := l }) id res).1)
    (s : St) (rc : Bool) (h : P s) : P (pumpWrite s rc).1 := by
  have h1 := hew s h
  have ho := pumpWrite_out s rc
  generalize pumpWrite s rc = q at ho ⊢
  cases ho with
  | blocked s1 he => rw [he] at h1; exact hfl s1 rc h1
  | err s1 a he => rw [he] at h1; exact h1
  | spin s1 he => rw [he] at h1; exact h1
  | sent s1 id res l he hq _ => rw [he] at h1; exact hsend s1 id res l hq h1
  | sendErr s1 id res l he hq _ => rw [he] at h1; exact hsend s1 id res l hq h1
  | idle s1 he hq => rw [he] at h1; exact hfl _ rc (hwk s1 h1)

theorem WriteSteps.mono {I' : St → Prop} (hW : WriteSteps now I P R Q) (hi : ∀ s, I' s → I s) : WriteSteps now I' P R Q :=
  ⟨fun s r h => hW.arm s r (hi s h), fun s rc pend h => hW.pump s rc pend (hi s h),
    fun s rc rid id a h => hW.drop s rc rid id a (hi s h), hW.again⟩

theorem requestsPollNext_walkC (hI : LoopClosed now I) (hcfg : ∀ s, I s → s.ensureLoop = false)
    (hspin : ∀ s, P s → S (emit s (.spin (tid s))))
    (hchan : ∀ s, I s → P s → PostRd S R (channelPollNext s now))
    (hRQ : ∀ s, R none s → Q none s) (hW : WriteSteps now I P R Q) (fuel : Nat) (s : St) (hi : I s) (h : P s) :
    PostRq S Q (requestsPollNext fuel s now) := by
  refine requestsPollNext_loop (I := fun s => I s ∧ P s) (Φ := fun s r => PostRq S Q (s, r)) (fun s h => ?_)
    (fun s h => hspin s h.2) fuel s ⟨hi, h⟩
  obtain ⟨hi, h⟩ := h
  have hch : PostRd S R ((rpRd s now).1, (rpRd s now).2) := hchan s hi h
  have hi1 : I (rpRd s now).1 := hI.channelPollNext s hi
  have hia : I (armRead (rpRd s now).1 (rpRd s now).2) := hI.armRead _ _ hi1
  have hip : I (rpWr s now).1 := hI.pumpWrite _ (Flow.readClosedOf (rpRd s now).2) hia
  have hnsp : (rpWr s now).2 ≠ .spin := pumpWrite_ne_spin _ _ (hcfg _ hia)
  have harm : (rpRd s now).2 ≠ .spin → Q (pendOf (rpRd s now).2) (armRead (rpRd s now).1 (rpRd s now).2) := fun hne =>
    hW.arm _ _ hi1 (by
      revert hch hne
      generalize (rpRd s now).2 = read
      intro hch hne
      cases read with
      | spin => exact absurd rfl hne
      | _ => exact hch)
  have hq : (rpRd s now).2 ≠ .spin → Q (pendOf (rpRd s now).2) (rpWr s now).1 := fun hne =>
    hW.pump _ (Flow.readClosedOf (rpRd s now).2) _ hia (harm hne)
  -- `pendOf` of `pending` and of `none` is `none`
  have idle : (rpRd s now).2 = .pending ∨ (rpRd s now).2 = .none → Q none (rpWr s now).1 := fun hr => by
    rcases hr with hr | hr
    · have := hq (by rw [hr]; nofun); rw [hr] at this; exact this
    · have := hq (by rw [hr]; nofun); rw [hr] at this; exact this
  have ho := rpStep_out s now
  generalize rpStep s now = p at ho ⊢
  cases ho with
  | readErr a hr => rw [hr] at hch; exact hRQ _ hch
  | readSpin hr => rw [hr] at hch; exact hch
  | writeErr a hr hw =>
    cases hrd : (rpRd s now).2 with
    | some ex =>
      have e : pendOf (rpRd s now).2 = some (ex.rid, ex.id) := by rw [hrd]; rfl
      exact hW.drop _ (Flow.readClosedOf (rpRd s now).2) ex.rid ex.id a hia (e ▸ harm hr.2) hw
    | err a' => exact absurd hrd (hr.1 a')
    | spin => exact absurd hrd hr.2
    | pending => exact idle (Or.inl hrd)
    | none => exact idle (Or.inr hrd)
  | writeSpin hr hw => exact absurd hw hnsp
  | closed hr hw => exact idle (Or.inr hr)
  | item ex hr hw => have := hq (by rw [hr]; nofun); rw [hr] at this; exact ⟨ex.id, this⟩
  | again hr hw => exact ⟨hip, hW.again _ (idle hr)⟩
  | idle hr hw => exact idle hr

theorem requestsPollNext_walk (hI : LoopClosed now I) (hcfg : ∀ s, I s → s.limit = none ∧ s.ensureLoop = false)
    (hspin : ∀ s, P s → S (emit s (.spin (tid s))))
    (hbase : ∀ fuel s, I s → P s → PostRd S R (basePollNext fuel s now))
    (hRQ : ∀ s, R none s → Q none s) (hW : WriteSteps now I P R Q) (fuel : Nat) (s : St) (hi : I s) (h : P s) :
    PostRq S Q (requestsPollNext fuel s now) :=
  requestsPollNext_walkC hI (fun s hs => (hcfg s hs).2) hspin (fun s hs hp => by
    unfold channelPollNext; rw [(hcfg s hs).1]; exact hbase _ s hs hp) hRQ hW fuel s hi h

theorem requestsPollNext_carried {C : St → Nat → Nat → Trace → Nat → Prop} (hI : LoopClosed now I) (hR : ReadSteps now I R C)
    (hW : WriteSteps now I (R none) R Q) (hspin : ∀ s, R none s → R none (emit s (.spin (tid s))))
    (hRQ : ∀ s, R none s → Q none s) (fuel : Nat) (s : St) (hi : I s) (hl : s.limit = none) (hel : s.ensureLoop = false)
    (h : R none s) : PostRq (R none) Q (requestsPollNext fuel s now) := by
  have hI' := hI.and (cfg_closed s now).toLoopClosed
  exact requestsPollNext_walk hI' (fun x hx => ⟨hx.2.2.1.trans hl, hx.2.2.2.1.trans hel⟩) hspin
    (basePollNext_walk hI' hspin (fun x hx hp => (hR.mono (fun _ h => h.1)).bpStep hI' x hx hp)) hRQ
    (hW.mono (fun _ h => h.1)) fuel s ⟨hi, rfl, rfl, rfl, rfl⟩ h

theorem requestsPollNext_limited {C : St → Nat → Nat → Trace → Nat → Prop} (hI : LoopClosed now I) (hR : ReadSteps now I R C)
    (hL : LimitSteps now I R) (hW : WriteSteps now I (R none) R Q) (hspin : ∀ s, R none s → R none (emit s (.spin (tid s))))
    (hRQ : ∀ s, R none s → Q none s) (fuel : Nat) (s : St) (hi : I s) (hel : s.ensureLoop = false) (h : R none s) :
    PostRq (R none) Q (requestsPollNext fuel s now) := by
  have hI' := hI.and (cfg_closed s now).toLoopClosed
  have hbase := fun fuel x hx hp => basePollNext_walk hI' hspin
    (fun x hx hp => (hR.mono (fun _ h => h.1)).bpStep hI' x hx hp) fuel x hx hp
  exact requestsPollNext_walkC hI' (fun x hx => hx.2.2.2.1.trans hel) hspin
    (channelPollNext_walk hI' (hL.mono (fun _ h => h.1)) hspin hbase) hRQ (hW.mono (fun _ h => h.1)) fuel s
    ⟨hi, rfl, rfl, rfl, rfl⟩ h

/-- between ops: `R` with nothing pending — or the channel is poisoned (it is never polled again) -/
def Btw (R : Option (Nat × Nat) → St → Prop) (s : St) : Prop := R none s ∨ (s.poisoned = true ∧ ∃ pend, R pend s)

theorem Btw.map {R R' : Option (Nat × Nat) → St → Prop} {s s' : St} (h : Btw R s) (hp : s.poisoned = true → s'.poisoned = true)
    (f : ∀ pend, R pend s → R' pend s') : Btw R' s' :=
  h.imp (f none) (fun ⟨hpo, pend, hR⟩ => ⟨hp hpo, pend, f pend hR⟩)

theorem pollServer_walkR {R : Option (Nat × Nat) → St → Prop} {s : St} {now : Nat}
    (hdd : s.done.isSome = true → s.dropped = true)
    (hnoop : ∀ pend, R pend s → R pend (emit s .noop))
    (hreq : s.poisoned = false → R none s → PostRq (R none) R
      (requestsPollNext (pollFuel { s with woken := false }) { s with woken := false } now))
    (hreset : ∀ (s1 : St) r, requestsPollNext (pollFuel { s with woken := false }) { s with woken := false } now = (s1, r) →
      hasSpin s.obs = false → hasSpin s1.obs = true → R none { s1 with obs := .spin (tid s1) :: s.obs, poisoned := true })
    (hfin : ∀ (s1 : St) r, requestsPollNext (pollFuel { s with woken := false }) { s with woken := false } now = (s1, r) →
      s.dropped = false ∧ s.done.isSome = false ∧ s.poisoned = false → s1.poisoned = false →
      PostRq (R none) R (s1, r) → R none (pskFinish s1 r))
    (hdrop : ∀ (s1 : St) r, requestsPollNext (pollFuel { s with woken := false }) { s with woken := false } now = (s1, r) →
      s.dropped = false ∧ s.done.isSome = false ∧ s.poisoned = false → s1.poisoned = false →
      (r = .none ∨ ∃ a, r = .err a) → PostRq (R none) R (s1, r) → R none (dropServer (pskFinish s1 r)))
    (hwake : ∀ pend (s' : St), R pend s' → R pend { s' with woken := true })
    (h : Btw R s) : Btw R (pollServer s now) := by
  have hq := (dd_closed s.done s.dropped now).requestsPollNext (pollFuel { s with woken := false })
    { s with woken := false } ⟨rfl, rfl⟩
  have key : (((pollServerKeep s now).done.isSome && !(pollServerKeep s now).dropped) = false ∧ Btw R (pollServerKeep s now)) ∨
      (((pollServerKeep s now).done.isSome && !(pollServerKeep s now).dropped) = true ∧
        R none (dropServer (pollServerKeep s now))) := by
    have ho := pollServerKeep_out s now
    generalize pollServerKeep s now = psk at ho ⊢
    cases ho with
    | dead _ =>
      refine Or.inl ⟨?_, h.map id hnoop⟩
      show (s.done.isSome && !s.dropped) = false
      cases hdn : s.done.isSome with
      | false => rfl
      | true => rw [hdd hdn]; rfl
    | reset hl s1 r he h0 h1 =>
      rw [he] at hq
      exact Or.inl ⟨by show (s1.done.isSome && !s1.dropped) = false; rw [hq.1, hl.2.1]; rfl, Or.inl (hreset s1 r he h0 h1)⟩
    | poisoned hl s1 r he hpo =>
      rw [he] at hq
      have hp := hreq hl.2.2 (h.elim id (fun hp => by rw [hl.2.2] at hp; cases hp.1))
      rw [he] at hp
      refine Or.inl ⟨by rw [hq.1, hl.2.1]; rfl, ?_⟩
      cases r with
      | item rid => obtain ⟨id, hp⟩ := hp; exact Or.inr ⟨hpo, _, hp⟩
      | _ => exact Or.inl hp
    | fin hl s1 r he hpo =>
      rw [he] at hq
      have hp := hreq hl.2.2 (h.elim id (fun hp => by rw [hl.2.2] at hp; cases hp.1))
      rw [he] at hp
      have hdr : (pskFinish s1 r).dropped = false := by
        simp only [pskFinish, emit_dropped]; rw [(pskRet_frame s1 r).1, hq.2]; exact hl.1
      by_cases hr : r = .none ∨ ∃ a, r = .err a
      · have hdn : (pskFinish s1 r).done.isSome = true := by
          rw [pskFinish_done, pskRet_done]; rcases hr with rfl | ⟨a, rfl⟩ <;> rfl
        exact Or.inr ⟨by rw [hdn, hdr]; rfl, hdrop s1 r he hl hpo hr hp⟩
      · refine Or.inl ⟨?_, Or.inl (hfin s1 r he hl hpo hp)⟩
        rw [pskFinish_done, pskRet_done]
        cases r with
        | none => exact absurd (Or.inl rfl) hr
        | err a => exact absurd (Or.inr ⟨a, rfl⟩) hr
        | _ => show (s1.done.isSome && _) = false; rw [hq.1, hl.2.1]; rfl
  have ho := pollServer_out s now
  generalize pollServer s now = p at ho ⊢
  cases ho with
  | drop hd hn =>
    rcases key with ⟨hc, _⟩ | ⟨_, hR⟩
    · rw [hd, hn] at hc; cases hc
    · exact Or.inl hR
  | yielded hc hv hn =>
    rcases key with ⟨_, hb⟩ | ⟨hc', _⟩
    · exact hb.map id (fun pend => hwake pend _)
    · rw [hc] at hc'; cases hc'
  | keep hc hv =>
    rcases key with ⟨_, hb⟩ | ⟨hc', _⟩
    · exact hb
    · rw [hc] at hc'; cases hc'

theorem dropped_closed (now : Nat) : PrimClosed now (fun s => s.dropped = true) where
  inert := fun s s' hi h => by rw [hi.dropped]; exact h
  emit := fun s o _ h => h
  upd := fun s r f _ h => h
  setT := fun s t h => h
  setFused := fun s h => h
  removeReq := fun s id h => by simpa using h
  cancel := fun s id tr h _ => by simpa using h
  expire := fun s h => ((dd_closed s.done s.dropped now).expire s ⟨rfl, rfl⟩).2.trans h
  start := fun s id d tr b h => ((dd_closed s.done s.dropped now).start s id d tr b ⟨rfl, rfl⟩).2.trans h
  setDone := fun s r h => h
  drop := fun s h => dropServer_dropped_mono s h
  timerWaker := fun s b h => h
  spin := fun s h => h
  spunReset := fun s0 s _ h => h

theorem applyOp_mono (P : St → Prop) (hc : ∀ now, PrimClosed now P) (c : Sys) (op : SOp) (h : P c.s) :
    P (applyOp c op).s := by
  by_cases hop : ∃ n, op = .advance n
  · obtain ⟨n, rfl⟩ := hop
    exact (hc c.now).toStepClosed.onAdvance _ _ h
  · exact PrimClosed.applyOp c (hc c.now) op h (fun n hn => hop ⟨n, hn⟩)

end TarpcModel.Server.Tab
