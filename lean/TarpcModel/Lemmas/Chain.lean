import TarpcModel.Monitors.Chain
/-!
The service-chain model (`Chain.lean`; theorems in `Props/C04Chain.lean`, `Props/C18Chain.lean`): what the hop-list
functions do to the shape of a call's hop list (`Live`), its trace contexts and spans; the invariants `CallOK`, `Inv`;
one case principle `StepR` for `step`.
-/
namespace TarpcModel.Chain

/-! ### Shapes of a call's hop list -/

def AllBlank (l : List Hop) : Prop := ∀ hp ∈ l, hp = {}

/-- `running^k ++ blank^*`: the handlers that run form a prefix of the chain, each with its request
and observed context recorded and no cancel written. -/
def Live : List Hop → Prop
  | [] => True
  | hp :: rest =>
    (hp.h = .running ∧ (∃ rq, hp.req = some rq) ∧ (∃ sn, hp.seen = some sn) ∧ hp.cancel = none ∧ Live rest) ∨
    (hp = {} ∧ AllBlank rest)

def NoRunning (l : List Hop) : Prop := ∀ hp ∈ l, hp.h ≠ .running

theorem allBlank_live {l : List Hop} (h : AllBlank l) : Live l := by
  cases l with
  | nil => trivial
  | cons hp rest =>
    right
    exact ⟨h hp (by simp), fun x hx => h x (by simp [hx])⟩

theorem Live.of_running {hd : Hop} {rest : List Hop} (h : Live (hd :: rest)) (hr : hd.h = .running) :
    hd.cancel = none ∧ Live rest := by
  rcases h with ⟨_, _, _, h4, h5⟩ | ⟨h1, _⟩
  · exact ⟨h4, h5⟩
  · rw [h1] at hr; cases hr

theorem Live.of_notStarted {hd : Hop} {rest : List Hop} (h : Live (hd :: rest)) (hn : hd.h = .notStarted) :
    hd = {} ∧ AllBlank rest := by
  rcases h with ⟨h1, _⟩ | h2
  · rw [h1] at hn; cases hn
  · exact h2

theorem allBlank_noRunning {l : List Hop} (h : AllBlank l) : NoRunning l := by
  intro hp hm
  rw [h hp hm]
  decide

theorem allBlank_replicate (n : Nat) : AllBlank (blank n) := by
  intro hp hm
  exact (List.mem_replicate.mp hm).2

/-! ### Trace contexts along the chain -/

/-- `t` carries the trace id and sampling decision of `ctx`. -/
def Agrees (ctx t : Trace) : Prop := t.traceId = ctx.traceId ∧ t.sampled = ctx.sampled

theorem agrees_refl (t : Trace) : Agrees t t := ⟨rfl, rfl⟩

theorem agrees_newChild {ctx t : Trace} (h : Agrees ctx t) (k : Nat) : Agrees ctx (newChild t k) := h

/-- What the hop records agree with the call's context, and a cancel repeats the request. -/
structure HopTr (ctx : Trace) (hp : Hop) : Prop where
  req : ∀ t, hp.req = some t → Agrees ctx t
  seen : ∀ t, hp.seen = some t → Agrees ctx t
  cancel : ∀ t, hp.cancel = some t → hp.req = some t

theorem hopTr_blank (ctx : Trace) : HopTr ctx {} := ⟨by simp, by simp, by simp⟩

/-- Spans recorded for a chain, in chain order (request, handler, request, handler, …). -/
def hopSpans (hp : Hop) : List Span :=
  (match hp.req with | some t => [t.span] | none => []) ++
  (match hp.seen with | some t => [t.span] | none => [])

def chainSpans : List Hop → List Span
  | [] => []
  | hp :: rest => hopSpans hp ++ chainSpans rest

theorem chainSpans_blank {l : List Hop} (h : AllBlank l) : chainSpans l = [] := by
  induction l with
  | nil => rfl
  | cons hp rest ih =>
    have h1 : hp = {} := h hp (by simp)
    have h2 : AllBlank rest := fun x hx => h x (by simp [hx])
    simp [chainSpans, ih h2, h1, hopSpans]

/-- Every span is one of the first `k` random ones. -/
def Below (k : Nat) (l : List Span) : Prop := ∀ sp ∈ l, ∃ j, j < k ∧ sp = .fresh j

theorem Below.mono {k k' : Nat} {l : List Span} (h : Below k l) (hk : k ≤ k') : Below k' l := by
  intro sp hm
  obtain ⟨j, hj, e⟩ := h sp hm
  exact ⟨j, by omega, e⟩

/-! ### `extend` -/

theorem extend_next_ge (c dl upto i : Nat) (p : Trace) (k : Nat) (l : List Hop) :
    k ≤ (extend c dl upto i p k l).2.2 := by
  induction l generalizing i p k with
  | nil => simp [extend]
  | cons hp rest ih =>
    simp only [extend]
    split
    · simp
    · split
      · exact ih _ _ _
      · have := ih (i + 1) (newChild (newChild p k) (k + 1)) (k + 2)
        simp only
        omega
      · simp

theorem extend_length (c dl upto i : Nat) (p : Trace) (k : Nat) (l : List Hop) :
    (extend c dl upto i p k l).1.length = l.length := by
  induction l generalizing i p k with
  | nil => simp [extend]
  | cons hp rest ih =>
    simp only [extend]
    split
    · simp
    · split <;> simp [ih]

theorem extend_live (c dl upto i : Nat) (p : Trace) (k : Nat) (l : List Hop) (h : Live l) :
    Live (extend c dl upto i p k l).1 := by
  induction l generalizing i p k with
  | nil => simp [extend, Live]
  | cons hp rest ih =>
    simp only [extend]
    split
    · exact h
    · split
      · next hr hs =>
        rcases h with ⟨h1, h2, h3, h4, h5⟩ | ⟨h1, _⟩
        · exact Or.inl ⟨h1, h2, h3, h4, ih _ _ _ h5⟩
        · rw [h1] at hr; simp at hr
      · next hn =>
        exact Or.inl ⟨rfl, ⟨_, rfl⟩, ⟨_, rfl⟩, rfl, ih _ _ _ (allBlank_live (h.of_notStarted hn).2)⟩
      · exact h

theorem extend_tr (ctx : Trace) (c dl upto i : Nat) (p : Trace) (k : Nat) (l : List Hop)
    (hp : Agrees ctx p) (h : ∀ x ∈ l, HopTr ctx x) :
    ∀ x ∈ (extend c dl upto i p k l).1, HopTr ctx x := by
  induction l generalizing i p k with
  | nil => simp [extend]
  | cons hd rest ih =>
    simp only [extend]
    obtain ⟨hhd, hrest⟩ := List.forall_mem_cons.mp h
    split
    · exact h
    · split
      · next hr hs => exact List.forall_mem_cons.mpr ⟨hhd, ih _ _ _ (hhd.seen _ hs) hrest⟩
      · exact List.forall_mem_cons.mpr
          ⟨⟨fun t ht => by simp at ht; rw [← ht]; exact agrees_newChild hp k,
            fun t ht => by simp at ht; rw [← ht]; exact agrees_newChild (agrees_newChild hp k) (k + 1),
            by simp⟩,
           ih _ _ _ (agrees_newChild (agrees_newChild hp k) (k + 1)) hrest⟩
      · exact h

theorem Below.append_range {k : Nat} {a : List Span} (hb : Below k a) (n : Nat) :
    Below (k + n) (a ++ (List.range' k n).map Span.fresh) := by
  refine List.forall_mem_append.mpr ⟨hb.mono (by omega), fun y hy => ?_⟩
  obtain ⟨j, hj, e⟩ := List.mem_map.mp hy
  exact ⟨j, (List.mem_range'_1.mp hj).2, e.symm⟩

theorem Below.nodup_append_range {k : Nat} {a : List Span} (hb : Below k a) (hn : a.Nodup) (n : Nat) :
    (a ++ (List.range' k n).map Span.fresh).Nodup := by
  refine List.nodup_append.mpr
    ⟨hn, List.Pairwise.map _ (fun _ _ h e => h (Span.fresh.inj e)) List.nodup_range', fun x hx y hy e => ?_⟩
  obtain ⟨j, hj, rfl⟩ := hb x hx
  obtain ⟨j', hj', e'⟩ := List.mem_map.mp hy
  rw [← e'] at e
  have := (List.mem_range'_1.mp hj').1
  injection e with e; omega

theorem extend_spans_eq (c dl upto i : Nat) (p : Trace) (k : Nat) (l : List Hop) (hl : Live l) :
    ∃ m, (extend c dl upto i p k l).2.2 = k + m ∧
      chainSpans (extend c dl upto i p k l).1 = chainSpans l ++ (List.range' k m).map Span.fresh := by
  induction l generalizing i p k with
  | nil => exact ⟨0, rfl, rfl⟩
  | cons hd rest ih =>
    simp only [extend]
    split
    · exact ⟨0, rfl, (List.append_nil _).symm⟩
    · split
      · next hr hs =>
        obtain ⟨m, e1, e2⟩ := ih (i + 1) _ k (hl.of_running hr).2
        exact ⟨m, e1, by simp only [chainSpans, e2, List.append_assoc]⟩
      · next hn =>
        obtain ⟨h0, hb⟩ := hl.of_notStarted hn
        obtain ⟨m, e1, e2⟩ := ih (i + 1) (newChild (newChild p k) (k + 1)) (k + 2) (allBlank_live hb)
        refine ⟨m + 2, by simp only [e1]; omega, ?_⟩
        rw [h0, show m + 2 = m + 1 + 1 from rfl, List.range'_succ, List.range'_succ]
        simp only [newChild] at e2 ⊢
        simp only [chainSpans, e2, chainSpans_blank hb, hopSpans, List.map_cons, List.nil_append,
          List.cons_append]
      · exact ⟨0, rfl, (List.append_nil _).symm⟩

theorem extend_spans_nodup (c dl upto i : Nat) (p : Trace) (k : Nat) (l : List Hop) (hl : Live l)
    (hb : Below k (chainSpans l)) (hn : (chainSpans l).Nodup) :
    (chainSpans (extend c dl upto i p k l).1).Nodup := by
  obtain ⟨m, _, e⟩ := extend_spans_eq c dl upto i p k l hl
  exact e ▸ hb.nodup_append_range hn m

theorem extend_spans_below (c dl upto i : Nat) (p : Trace) (k : Nat) (l : List Hop) (hl : Live l)
    (hb : Below k (chainSpans l)) :
    Below (extend c dl upto i p k l).2.2 (chainSpans (extend c dl upto i p k l).1) := by
  obtain ⟨m, e1, e⟩ := extend_spans_eq c dl upto i p k l hl
  rw [e1, e]
  exact hb.append_range m

/-! ### `cascade`, `complete`, `refuse` -/

theorem cascade_length (c i : Nat) (l : List Hop) : (cascade c i l).1.length = l.length := by
  induction l generalizing i with
  | nil => simp [cascade]
  | cons hp rest ih =>
    simp only [cascade]
    split <;> simp [ih]

/-- The cascade reaches every running handler (induction over the hops): on a live chain, nothing
is left running, and what was not started stays so. -/
theorem cascade_dead (c i : Nat) (l : List Hop) (h : Live l) :
    ∀ hp ∈ (cascade c i l).1, hp.h = .dropped ∨ hp.h = .notStarted := by
  induction l generalizing i with
  | nil => simp [cascade]
  | cons hd rest ih =>
    simp only [cascade]
    split
    · next hr hq =>
      exact List.forall_mem_cons.mpr ⟨Or.inl rfl, ih _ (h.of_running hr).2⟩
    · next hne =>
      rcases h with ⟨h1, ⟨rq, h2⟩, _⟩ | ⟨h1, h2⟩
      · exact (hne rq h1 h2).elim
      · intro hp hm
        rcases List.mem_cons.mp hm with e | hm
        · rw [e, h1]; exact Or.inr rfl
        · rw [h2 hp hm]; exact Or.inr rfl

theorem cascade_tr (ctx : Trace) (c i : Nat) (l : List Hop) (h : ∀ x ∈ l, HopTr ctx x) :
    ∀ x ∈ (cascade c i l).1, HopTr ctx x := by
  induction l generalizing i with
  | nil => simp [cascade]
  | cons hd rest ih =>
    simp only [cascade]
    obtain ⟨hhd, hrest⟩ := List.forall_mem_cons.mp h
    split
    · next hr hq =>
      exact List.forall_mem_cons.mpr
        ⟨⟨hhd.req, hhd.seen, fun t ht => by simp at ht; rw [← ht]; exact hq⟩, ih _ hrest⟩
    · exact h

theorem cascade_spans (c i : Nat) (l : List Hop) : chainSpans (cascade c i l).1 = chainSpans l := by
  induction l generalizing i with
  | nil => simp [cascade]
  | cons hd rest ih =>
    simp only [cascade]
    split
    · simp [chainSpans, hopSpans, ih]
    · rfl

theorem complete_length (c i : Nat) (l : List Hop) : (complete c i l).1.length = l.length := by
  induction l generalizing i with
  | nil => simp [complete]
  | cons hp rest ih =>
    simp only [complete]
    split <;> simp [ih]

theorem complete_noRunning (c i : Nat) (l : List Hop) : NoRunning (complete c i l).1 := by
  induction l generalizing i with
  | nil => simp [complete, NoRunning]
  | cons hd rest ih =>
    simp only [complete]
    split
    · exact List.forall_mem_cons.mpr ⟨by simp, ih _⟩
    · next hne => exact List.forall_mem_cons.mpr ⟨hne, ih _⟩

theorem complete_tr (ctx : Trace) (c i : Nat) (l : List Hop) (h : ∀ x ∈ l, HopTr ctx x) :
    ∀ x ∈ (complete c i l).1, HopTr ctx x := by
  induction l generalizing i with
  | nil => simp [complete]
  | cons hd rest ih =>
    simp only [complete]
    obtain ⟨hhd, hrest⟩ := List.forall_mem_cons.mp h
    split
    · exact List.forall_mem_cons.mpr ⟨⟨hhd.req, hhd.seen, hhd.cancel⟩, ih _ hrest⟩
    · exact List.forall_mem_cons.mpr ⟨hhd, ih _ hrest⟩

theorem complete_spans (c i : Nat) (l : List Hop) : chainSpans (complete c i l).1 = chainSpans l := by
  induction l generalizing i with
  | nil => simp [complete]
  | cons hd rest ih =>
    simp only [complete]
    split <;> simp [chainSpans, hopSpans, ih]

theorem refuse_length (c dl : Nat) (p : Trace) (k : Nat) (l : List Hop) :
    (refuse c dl p k l).1.length = l.length := by
  cases l <;> simp [refuse]

theorem refuse_next_ge (c dl : Nat) (p : Trace) (k : Nat) (l : List Hop) : k ≤ (refuse c dl p k l).2.2 := by
  cases l <;> simp [refuse]

theorem refuse_notStarted (c dl : Nat) (p : Trace) (k : Nat) (l : List Hop) (h : AllBlank l) :
    ∀ hp ∈ (refuse c dl p k l).1, hp.h = .notStarted := by
  cases l with
  | nil => simp [refuse]
  | cons hd rest =>
    intro hp hm
    simp only [refuse] at hm
    rcases List.mem_cons.mp hm with e | hm
    · rw [e, h hd (by simp)]
    · rw [h hp (by simp [hm])]

theorem refuse_tr (ctx : Trace) (c dl : Nat) (p : Trace) (k : Nat) (l : List Hop) (hp : Agrees ctx p)
    (h : AllBlank l) : ∀ x ∈ (refuse c dl p k l).1, HopTr ctx x := by
  cases l with
  | nil => simp [refuse]
  | cons hd rest =>
    intro x hm
    simp only [refuse] at hm
    rcases List.mem_cons.mp hm with e | hm
    · rw [e, h hd (by simp)]
      exact ⟨fun t ht => by simp at ht; rw [← ht]; exact agrees_newChild hp k, by simp, by simp⟩
    · rw [h x (by simp [hm])]; exact hopTr_blank ctx

theorem refuse_spans (c dl : Nat) (p : Trace) (k : Nat) (l : List Hop) (h : AllBlank l) :
    (chainSpans (refuse c dl p k l).1).Nodup ∧
    Below (refuse c dl p k l).2.2 (chainSpans (refuse c dl p k l).1) := by
  cases l with
  | nil => simp [refuse, chainSpans, Below]
  | cons hd rest =>
    have h1 : hd = {} := h hd (by simp)
    have h2 : AllBlank rest := fun x hx => h x (by simp [hx])
    simp only [refuse, chainSpans, chainSpans_blank h2, h1, hopSpans, newChild]
    refine ⟨by simp, ?_⟩
    intro sp hm
    simp at hm
    exact ⟨k, by omega, hm⟩

/-! ### The per-call invariant -/

/-- one call, in a state of depth `depth` whose span counter is `k` -/
structure CallOK (depth k : Nat) (cl : Call) : Prop where
  len : cl.hops.length = depth
  given : givenSpan cl.ctx.span = true
  fresh : cl.phase = .fresh → AllBlank cl.hops
  live : (cl.phase = .waiting ∨ cl.phase = .finishing ∨ cl.phase = .abandoning) → Live cl.hops
  dead : cl.phase = .dead → ∀ hp ∈ cl.hops, hp.h = .dropped ∨ hp.h = .notStarted
  done : cl.phase = .done → NoRunning cl.hops
  refused : cl.phase = .refused → ∀ hp ∈ cl.hops, hp.h = .notStarted
  tr : ∀ hp ∈ cl.hops, HopTr cl.ctx hp
  nodup : (chainSpans cl.hops).Nodup
  below : Below k (chainSpans cl.hops)

theorem CallOK.mono {depth k k' : Nat} {cl : Call} (h : CallOK depth k cl) (hk : k ≤ k') :
    CallOK depth k' cl := { h with below := h.below.mono hk }

/-- A call that has not been polled yet has an all-blank, hence live, hop list. -/
theorem CallOK.live_of_fresh {depth k : Nat} {cl : Call} (h : CallOK depth k cl) (hf : cl.phase = .fresh) :
    Live cl.hops := allBlank_live (h.fresh hf)

theorem runCall_id (depth : Nat) (limit : Option Nat) (cnt k : Nat) (cl : Call) :
    (runCall depth limit cnt k cl).1.id = cl.id ∧ (runCall depth limit cnt k cl).1.ctx = cl.ctx ∧
    (runCall depth limit cnt k cl).1.deadline = cl.deadline ∧ (runCall depth limit cnt k cl).1.stop = cl.stop := by
  unfold runCall
  split
  · split <;> simp
  all_goals simp

theorem runCall_next_ge (depth : Nat) (limit : Option Nat) (cnt k : Nat) (cl : Call) :
    k ≤ (runCall depth limit cnt k cl).2.2.1 := by
  unfold runCall
  split
  · split
    · exact refuse_next_ge ..
    · exact extend_next_ge ..
  · exact extend_next_ge ..
  · exact Nat.le_refl k
  · exact Nat.le_refl k

theorem runCall_ok (depth : Nat) (limit : Option Nat) (cnt k : Nat) (cl : Call) (h : CallOK depth k cl) :
    CallOK depth (runCall depth limit cnt k cl).2.2.1 (runCall depth limit cnt k cl).1 := by
  unfold runCall
  split
  · next hf =>
    have hb := h.fresh hf
    split
    · have hs := refuse_spans cl.id cl.deadline cl.ctx k cl.hops hb
      exact { len := by simp [refuse_length, h.len], given := h.given
              fresh := by simp, live := by simp, dead := by simp, done := by simp
              refused := fun _ => refuse_notStarted _ _ _ _ _ hb
              tr := refuse_tr cl.ctx _ _ _ _ _ (agrees_refl _) hb
              nodup := hs.1, below := hs.2 }
    · have hl := allBlank_live hb
      exact { len := by simp [extend_length, h.len], given := h.given
              fresh := by simp, live := fun _ => extend_live _ _ _ _ _ _ _ hl
              dead := by simp, done := by simp, refused := by simp
              tr := extend_tr cl.ctx _ _ _ _ _ _ _ (agrees_refl _) h.tr
              nodup := extend_spans_nodup _ _ _ _ _ _ _ hl h.below h.nodup
              below := extend_spans_below _ _ _ _ _ _ _ hl h.below }
  · next hf =>
    have hl := h.live (Or.inr (Or.inl hf))
    exact { len := by simp [complete_length, extend_length, h.len], given := h.given
            fresh := by simp, live := by simp, dead := by simp
            done := fun _ => complete_noRunning _ _ _
            refused := by simp
            tr := complete_tr cl.ctx _ _ _ (extend_tr cl.ctx _ _ _ _ _ _ _ (agrees_refl _) h.tr)
            nodup := by
              simp only [complete_spans]
              exact extend_spans_nodup _ _ _ _ _ _ _ hl h.below h.nodup
            below := by
              simp only [complete_spans]
              exact extend_spans_below _ _ _ _ _ _ _ hl h.below }
  · next hf =>
    have hl := h.live (Or.inr (Or.inr hf))
    exact { len := by simp [cascade_length, h.len], given := h.given
            fresh := by simp, live := by simp
            dead := fun _ => cascade_dead _ _ _ hl
            done := by simp, refused := by simp
            tr := cascade_tr cl.ctx _ _ _ h.tr
            nodup := by simp only [cascade_spans]; exact h.nodup
            below := by simp only [cascade_spans]; exact h.below }
  · exact h

theorem runCalls_next_ge (depth : Nat) (limit : Option Nat) (cnt k : Nat) (calls : List Call) :
    k ≤ (runCalls depth limit cnt k calls).2.2 := by
  induction calls generalizing cnt k with
  | nil => simp [runCalls]
  | cons cl rest ih =>
    simp only [runCalls]
    exact Nat.le_trans (runCall_next_ge depth limit cnt k cl) (ih _ _)

theorem runCalls_ids (depth : Nat) (limit : Option Nat) (cnt k : Nat) (calls : List Call) :
    (runCalls depth limit cnt k calls).1.map (·.id) = calls.map (·.id) := by
  induction calls generalizing cnt k with
  | nil => simp [runCalls]
  | cons cl rest ih =>
    simp only [runCalls, List.map_cons, ih, (runCall_id depth limit cnt k cl).1]

theorem runCalls_ok (depth : Nat) (limit : Option Nat) (cnt k : Nat) (calls : List Call)
    (h : ∀ cl ∈ calls, CallOK depth k cl) :
    ∀ cl ∈ (runCalls depth limit cnt k calls).1, CallOK depth (runCalls depth limit cnt k calls).2.2 cl := by
  induction calls generalizing cnt k with
  | nil => simp [runCalls]
  | cons cl rest ih =>
    simp only [runCalls]
    intro x hx
    rcases List.mem_cons.mp hx with e | hx
    · rw [e]
      exact (runCall_ok depth limit cnt k cl (h cl (by simp))).mono (runCalls_next_ge ..)
    · exact ih _ _ (fun y hy => (h y (by simp [hy])).mono (runCall_next_ge ..)) x hx

/-! ### `updCall` / `findCall` -/

theorem updCall_ids (c : Nat) (f : Call → Call) (hf : ∀ cl, (f cl).id = cl.id) (calls : List Call) :
    (updCall c f calls).map (·.id) = calls.map (·.id) := by
  induction calls with
  | nil => rfl
  | cons cl rest ih =>
    simp only [updCall, List.map_cons, ih]
    split <;> simp [hf]

theorem mem_updCall {c : Nat} {f : Call → Call} {calls : List Call} {x : Call}
    (h : x ∈ updCall c f calls) : x ∈ calls ∨ ∃ y ∈ calls, y.id = c ∧ x = f y := by
  induction calls with
  | nil => simp [updCall] at h
  | cons cl rest ih =>
    simp only [updCall] at h
    rcases List.mem_cons.mp h with e | h
    · split at e
      · next hc => exact Or.inr ⟨cl, by simp, hc, e⟩
      · exact Or.inl (by simp [e])
    · rcases ih h with h1 | ⟨y, hy, h2⟩
      · exact Or.inl (by simp [h1])
      · exact Or.inr ⟨y, by simp [hy], h2⟩

theorem findCall_some {c : Nat} {calls : List Call} {cl : Call} (h : findCall c calls = some cl) :
    cl ∈ calls ∧ cl.id = c := by
  induction calls with
  | nil => simp [findCall] at h
  | cons x rest ih =>
    simp only [findCall] at h
    split at h
    · next hc => injection h with h; subst h; exact ⟨by simp, hc⟩
    · exact ⟨by simp [(ih h).1], (ih h).2⟩

theorem findCall_none {c : Nat} {calls : List Call} (h : findCall c calls = none) :
    ∀ cl ∈ calls, cl.id ≠ c := by
  induction calls with
  | nil => simp
  | cons x rest ih =>
    simp only [findCall] at h
    split at h
    · simp at h
    · next hc =>
      intro cl hm
      rcases List.mem_cons.mp hm with e | hm
      · rw [e]; exact hc
      · exact ih h cl hm

theorem findCall_unique {c : Nat} {calls : List Call} {cl y : Call} (hn : (calls.map (·.id)).Nodup)
    (hfind : findCall c calls = some cl) (hy : y ∈ calls) (hyc : y.id = c) : y = cl := by
  induction calls with
  | nil => simp at hy
  | cons z rest ih =>
    simp only [List.map_cons, List.nodup_cons] at hn
    simp only [findCall] at hfind
    split at hfind
    · next hz =>
      injection hfind with hfind
      rcases List.mem_cons.mp hy with e | hy
      · rw [e, hfind]
      · exfalso
        exact hn.1 (List.mem_map.mpr ⟨y, hy, by rw [hyc, hz]⟩)
    · next hz =>
      rcases List.mem_cons.mp hy with e | hy
      · exact absurd (e ▸ hyc) hz
      · exact ih hn.2 hfind hy

theorem hasCall_false {c : Nat} {calls : List Call} (h : hasCall c calls = false) :
    c ∉ calls.map (·.id) := by
  simp only [hasCall, List.any_eq_false, beq_iff_eq] at h
  intro hm
  obtain ⟨cl, hcl, e⟩ := List.mem_map.mp hm
  exact h cl hcl e

/-! ### The state invariant -/

structure Inv (s : St) : Prop where
  calls : ∀ cl ∈ s.calls, CallOK s.depth s.next cl
  ids : (s.calls.map (·.id)).Nodup

theorem init_inv (depth : Nat) (limit : Option Nat) : Inv (init depth limit) :=
  ⟨by simp [init], by simp [init]⟩

theorem callOK_setPhase {depth k : Nat} {cl : Call} (h : CallOK depth k cl) (ph : Phase)
    (hfresh : ph = .fresh → AllBlank cl.hops)
    (hlive : (ph = .waiting ∨ ph = .finishing ∨ ph = .abandoning) → Live cl.hops)
    (hdead : ph = .dead → ∀ hp ∈ cl.hops, hp.h = .dropped ∨ hp.h = .notStarted)
    (hdone : ph = .done → NoRunning cl.hops)
    (hrefused : ph = .refused → ∀ hp ∈ cl.hops, hp.h = .notStarted) :
    CallOK depth k { cl with phase := ph } :=
  { len := h.len, given := h.given, fresh := hfresh, live := hlive, dead := hdead, done := hdone,
    refused := hrefused, tr := h.tr, nodup := h.nodup, below := h.below }

theorem abandonPhase_some {s : St} {cl : Call} {ph : Phase} (h : abandonPhase s cl = some ph) :
    (cl.phase = .fresh ∧ ph = .dead) ∨ (cl.phase = .waiting ∧ ph = .abandoning) := by
  simp only [abandonPhase] at h
  split at h
  · next hf => injection h with h; exact Or.inl ⟨hf, h.symm⟩
  · next hw =>
    split at h
    · simp at h
    · injection h with h; exact Or.inr ⟨hw, h.symm⟩
  · simp at h

theorem Inv.updPhase {s : St} (h : Inv s) {c : Nat} {cl : Call} (hfind : findCall c s.calls = some cl)
    (ph : Phase) (hok : CallOK s.depth s.next cl → CallOK s.depth s.next { cl with phase := ph }) :
    Inv { s with calls := updCall c (fun cl => { cl with phase := ph }) s.calls } := by
  refine ⟨fun x hx => ?_, ?_⟩
  · rcases mem_updCall hx with hx | ⟨y, hy, hyc, e⟩
    · exact h.calls x hx
    · subst e
      have : y = cl := findCall_unique h.ids hfind hy hyc
      subst this
      exact hok (h.calls y hy)
  · show (List.map _ (updCall c _ s.calls)).Nodup
    rw [updCall_ids c (fun cl => { cl with phase := ph }) (fun _ => rfl)]; exact h.ids

/-! ### One case principle for `step` -/

/-- The three phase changes a script op makes directly. -/
inductive PhaseMove : Op → Nat → Phase → Phase → Prop
  | drop (c : Nat) : PhaseMove (.abandon c) c .fresh .dead
  | abandon (c : Nat) : PhaseMove (.abandon c) c .waiting .abandoning
  | finish (c : Nat) : PhaseMove (.finish c) c .waiting .finishing

/-- What `step s op` can be: five shapes, the guards reduced to what proofs use. -/
inductive StepR (s : St) : Op → St → List Obs → Prop
  | noop {op : Op} (h : op ≠ .run) : StepR s op s [.noop]
  | start {c : Nat} {t : Trace} {d stop : Nat} (hnew : hasCall c s.calls = false)
      (hg : givenSpan t.span = true) :
      StepR s (.start c t d stop)
        { s with calls := s.calls ++
            [{ id := c, ctx := t, deadline := d, stop := stop, phase := .fresh, hops := blank s.depth }] } []
  | run : StepR s .run
      { s with calls := (runCalls s.depth s.limit (countInFlight1 s.calls) s.next s.calls).1,
               next := (runCalls s.depth s.limit (countInFlight1 s.calls) s.next s.calls).2.2 }
      (runCalls s.depth s.limit (countInFlight1 s.calls) s.next s.calls).2.1
  | phase {op : Op} {c : Nat} {cl : Call} {p ph : Phase} (hfind : findCall c s.calls = some cl)
      (hp : cl.phase = p) (hmv : PhaseMove op c p ph) :
      StepR s op { s with calls := updCall c (fun cl => { cl with phase := ph }) s.calls } []
  | advance {ns : Nat} : StepR s (.advance ns) { s with now := s.now + ns } [.now (s.now + ns)]

theorem step_rel (s : St) (op : Op) : StepR s op (step s op).1 (step s op).2 := by
  cases op with
  | start c t d stop =>
    simp only [step]
    split
    · next hok =>
      simp only [startOk, Bool.and_eq_true, Bool.not_eq_eq_eq_not, Bool.not_true] at hok
      -- of the seven guards of `startOk` the proofs use two: the id is new, the caller's span is a given one
      obtain ⟨⟨⟨⟨⟨⟨hnew, -⟩, hgiven⟩, -⟩, -⟩, -⟩, -⟩ := hok
      exact .start hnew hgiven
    · exact .noop (by simp)
  | run => exact .run
  | abandon c =>
    simp only [step]
    split
    · exact .noop (by simp)
    · next cl hfind =>
      split
      · next ph hph =>
        rcases abandonPhase_some hph with ⟨hf, rfl⟩ | ⟨hw, rfl⟩
        · exact .phase hfind hf (.drop c)
        · exact .phase hfind hw (.abandon c)
      · exact .noop (by simp)
  | finish c =>
    simp only [step]
    split
    · exact .noop (by simp)
    · next cl hfind =>
      split
      · next hok =>
        simp only [finishOk, Bool.and_eq_true, beq_iff_eq] at hok
        exact .phase hfind hok.1 (.finish c)
      · exact .noop (by simp)
  | advance ns =>
    simp only [step]
    split
    · exact .advance
    · exact .noop (by simp)

theorem StepR.depth {s s' : St} {op : Op} {obs : List Obs} (r : StepR s op s' obs) :
    s'.depth = s.depth ∧ s'.limit = s.limit := by
  cases r <;> exact ⟨rfl, rfl⟩

theorem callOK_blank (depth k c : Nat) (t : Trace) (d stop : Nat) (hg : givenSpan t.span = true) :
    CallOK depth k { id := c, ctx := t, deadline := d, stop := stop, phase := .fresh, hops := blank depth } := by
  have hb := allBlank_replicate depth
  exact { len := by simp [blank], given := hg, fresh := fun _ => hb, live := by simp
          dead := by simp, done := by simp, refused := by simp
          tr := fun hp hm => by rw [hb hp hm]; exact hopTr_blank _
          nodup := by rw [chainSpans_blank hb]; simp
          below := by rw [chainSpans_blank hb]; intro sp hm; simp at hm }

theorem StepR.inv {s s' : St} {op : Op} {obs : List Obs} (r : StepR s op s' obs) (h : Inv s) : Inv s' := by
  cases r with
  | noop => exact h
  | start hnew hg =>
    refine ⟨?_, ?_⟩
    · intro cl hm
      rcases List.mem_append.mp hm with hm | hm
      · exact h.calls cl hm
      · rw [List.mem_singleton.mp hm]; exact callOK_blank _ _ _ _ _ _ hg
    · simp only [List.map_append, List.map_cons, List.map_nil]
      rw [List.nodup_append]
      refine ⟨h.ids, by simp, ?_⟩
      intro a ha b hb e
      rw [List.mem_singleton.mp hb] at e
      exact hasCall_false hnew (e ▸ ha)
  | run => exact ⟨runCalls_ok _ _ _ _ _ h.calls, by simp only [runCalls_ids]; exact h.ids⟩
  | phase hfind hp hmv =>
    refine h.updPhase hfind _ fun hy => ?_
    cases hmv with
    | drop =>
      exact callOK_setPhase hy _ (by simp) (by simp)
        (fun _ x hm => by rw [hy.fresh hp x hm]; exact Or.inr rfl) (by simp) (by simp)
    | abandon =>
      exact callOK_setPhase hy _ (by simp) (fun _ => hy.live (Or.inl hp)) (by simp) (by simp) (by simp)
    | finish =>
      exact callOK_setPhase hy _ (by simp) (fun _ => hy.live (Or.inl hp)) (by simp) (by simp) (by simp)
  | advance => exact ⟨h.calls, h.ids⟩

theorem step_inv (s : St) (op : Op) (h : Inv s) : Inv (step s op).1 := (step_rel s op).inv h

/-! ### Reachable states -/

theorem runTrace_inv (s : St) (ops : List Op) (h : Inv s) : Inv (runTrace s ops).1 := by
  induction ops generalizing s with
  | nil => exact h
  | cons op ops ih => exact ih _ (step_inv s op h)

theorem runTrace_depth (s : St) (ops : List Op) :
    (runTrace s ops).1.depth = s.depth ∧ (runTrace s ops).1.limit = s.limit := by
  induction ops generalizing s with
  | nil => exact ⟨rfl, rfl⟩
  | cons op ops ih =>
    simp only [runTrace]
    rw [(ih _).1, (ih _).2]
    exact (step_rel s op).depth

theorem run_inv (depth : Nat) (limit : Option Nat) (ops : List Op) : Inv (run (init depth limit) ops).1 :=
  runTrace_inv _ ops (init_inv depth limit)

/-! ### Following one call through `updCall` and `runCalls` -/

theorem findCall_updCall (c : Nat) (f : Call → Call) (hf : ∀ cl, (f cl).id = cl.id) (c' : Nat)
    (calls : List Call) :
    findCall c' (updCall c f calls) = if c' = c then (findCall c' calls).map f else findCall c' calls := by
  induction calls with
  | nil => simp [updCall, findCall]
  | cons cl rest ih =>
    simp only [updCall, findCall]
    by_cases h1 : cl.id = c
    · by_cases h2 : c' = c
      · subst h2; simp [h1, hf]
      · have : ¬ c = c' := fun e => h2 e.symm
        simp [h1, h2, hf, this, ih]
    · by_cases h2 : cl.id = c'
      · have : c' ≠ c := fun e => h1 (h2.trans e)
        simp [h2, this]
      · simp [h1, h2, ih]

theorem findCall_updPhase (c c' : Nat) (ph : Phase) (calls : List Call) :
    findCall c' (updCall c (fun cl => { cl with phase := ph }) calls) =
      if c' = c then (findCall c' calls).map (fun cl => { cl with phase := ph }) else findCall c' calls :=
  findCall_updCall c (fun cl => { cl with phase := ph }) (fun _ => rfl) c' calls

theorem findCall_runCalls (depth : Nat) (limit : Option Nat) (cnt k c : Nat) (calls : List Call) (cl : Call)
    (h : findCall c calls = some cl) :
    ∃ cnt' k', findCall c (runCalls depth limit cnt k calls).1 = some (runCall depth limit cnt' k' cl).1 := by
  induction calls generalizing cnt k with
  | nil => simp [findCall] at h
  | cons x rest ih =>
    simp only [findCall] at h
    simp only [runCalls, findCall, (runCall_id depth limit cnt k x).1]
    split at h
    · next hx =>
      injection h with h
      subst h
      exact ⟨cnt, k, by simp [hx]⟩
    · next hx =>
      simp only [hx, ↓reduceIte]
      exact ih _ _ h

/-- What the cascade does to a live chain, hop by hop. -/
def dropRunning (hp : Hop) : Hop :=
  if hp.h = .running then { hp with cancel := hp.req, h := .dropped } else hp

theorem map_dropRunning_blank {l : List Hop} (h : AllBlank l) : l.map dropRunning = l := by
  rw [List.map_congr_left (g := id) fun x hx => by rw [h x hx]; rfl, List.map_id]

theorem cascade_live_eq (c i : Nat) (l : List Hop) (h : Live l) : (cascade c i l).1 = l.map dropRunning := by
  induction l generalizing i with
  | nil => simp [cascade]
  | cons hd rest ih =>
    simp only [cascade]
    split
    · next hr hq =>
      simp [dropRunning, hr, hq, ih _ (h.of_running hr).2]
    · next hne =>
      rcases h with ⟨h1, ⟨rq, h2⟩, _⟩ | ⟨h1, h2⟩
      · exact (hne rq h1 h2).elim
      · subst h1
        simp [dropRunning, map_dropRunning_blank h2]

theorem step_abandon_other (s : St) {c c' : Nat} (hne : c' ≠ c) :
    findCall c' (step s (.abandon c)).1.calls = findCall c' s.calls := by
  simp only [step]
  split
  · rfl
  · split
    · simp only []
      rw [findCall_updPhase]
      simp [hne]
    · rfl

/-! ### A call's context is the one its `start` op supplied -/

/-- What `start` fixes for a call. -/
def Call.sig (cl : Call) : Nat × Trace × Nat × Nat := (cl.id, cl.ctx, cl.deadline, cl.stop)

theorem mem_runCalls {depth : Nat} {limit : Option Nat} {cnt k : Nat} {calls : List Call} {x : Call}
    (h : x ∈ (runCalls depth limit cnt k calls).1) :
    ∃ cl ∈ calls, ∃ cnt' k', x = (runCall depth limit cnt' k' cl).1 := by
  induction calls generalizing cnt k with
  | nil => simp [runCalls] at h
  | cons y rest ih =>
    simp only [runCalls] at h
    rcases List.mem_cons.mp h with e | h
    · exact ⟨y, by simp, cnt, k, e⟩
    · obtain ⟨cl, hcl, r⟩ := ih h
      exact ⟨cl, by simp [hcl], r⟩

theorem StepR.sig {s s' : St} {op : Op} {obs : List Obs} (r : StepR s op s' obs) :
    ∀ cl ∈ s'.calls, (∃ cl0 ∈ s.calls, cl0.sig = cl.sig) ∨ op = .start cl.id cl.ctx cl.deadline cl.stop := by
  intro cl hm
  cases r with
  | noop => exact Or.inl ⟨cl, hm, rfl⟩
  | start =>
    rcases List.mem_append.mp hm with hm | hm
    · exact Or.inl ⟨cl, hm, rfl⟩
    · rw [List.mem_singleton.mp hm]; exact Or.inr rfl
  | run =>
    obtain ⟨cl0, h0, cnt', k', e⟩ := mem_runCalls hm
    have := runCall_id s.depth s.limit cnt' k' cl0
    exact Or.inl ⟨cl0, h0, by simp [Call.sig, e, this.1, this.2.1, this.2.2.1, this.2.2.2]⟩
  | phase =>
    rcases mem_updCall hm with hm | ⟨y, hy, _, e⟩
    · exact Or.inl ⟨cl, hm, rfl⟩
    · exact Or.inl ⟨y, hy, by simp [Call.sig, e]⟩
  | advance => exact Or.inl ⟨cl, hm, rfl⟩

theorem runTrace_sig (s : St) (ops : List Op) :
    ∀ cl ∈ (runTrace s ops).1.calls, (∃ cl0 ∈ s.calls, cl0.sig = cl.sig) ∨
      Op.start cl.id cl.ctx cl.deadline cl.stop ∈ ops := by
  induction ops generalizing s with
  | nil => intro cl hm; exact Or.inl ⟨cl, hm, rfl⟩
  | cons op ops ih =>
    intro cl hm
    simp only [runTrace] at hm
    rcases ih _ cl hm with ⟨cl1, h1, e1⟩ | h
    · rcases (step_rel s op).sig cl1 h1 with ⟨cl0, h0, e0⟩ | h
      · exact Or.inl ⟨cl0, h0, e0.trans e1⟩
      · right
        simp only [Call.sig, Prod.mk.injEq] at e1
        rw [← e1.1, ← e1.2.1, ← e1.2.2.1, ← e1.2.2.2, ← h]
        simp
    · exact Or.inr (by simp [h])

end TarpcModel.Chain
