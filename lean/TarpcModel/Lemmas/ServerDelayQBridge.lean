import TarpcModel.Lemmas.ServerTable
import TarpcModel.Lemmas.DelayQIdle
import TarpcModel.Lemmas.ServerFlow
/-!
Bridge between the server model and the completeness results for the timer wheel
(`Lemmas/DelayQComplete.lean`, `Lemmas/DelayQReach.lean`): the server only ever applies `insert` (with a clamped
timeout, at the current clock), `remove`, `pollExpired` and a reset (`dropServer`) to its `DelayQueue`, so — while
the clock is below `2^35` ms (`panicFreeNs`) and the clamp fits (`ClampFits`, the fact about the generated constant
behind `C16_server_flags`) — every insert is in the strict range (`DelayQ.InRangeStrict`) and the queue of every
reachable state satisfies the two-sided wheel invariant `DelayQ.Complete` (next to `KeysOk` and `Sound`, which are
part of `TInv`); a poll that goes idle leaves the timer queue idle.
-/
namespace TarpcModel.Server.Flow
open TarpcModel

/-- clamped timeouts armed before `panicFreeNs` (2^35 ms) are in the strict range of the wheel, whatever the state of
the queue: `ceilMs (now + clamp) ≤ now_ms + clamp_ms + 1 < 2^36`. -/
theorem clamp_inRangeStrict (hf : ClampFits) (q : DelayQ) (now t : Nat) (hn : now < panicFreeNs) :
    DelayQ.InRangeStrict q now (clampTimeout t) :=
  DelayQ.inRangeStrict_of_clamp q hn (clampTimeout_le hf.1 t) hf.2

/-! A property of the timer queue that `remove`, `pollExpired`, a successful `insert` of a clamped timeout at the current
clock, the reset and the waker flag keep is kept by every primitive of the server. -/

section
variable {now : Nat} {P : DelayQ → Prop}

theorem timers_removeTimer (hrem : ∀ {q q' : DelayQ} {k : Nat} {w : Bool}, q.remove k = some (q', w) → P q → P q')
    {s : St} (h : P s.timers) (k : Nat) : P (removeTimer s k).timers := by
  rcases removeTimer_out s k with ⟨_, e⟩ | ⟨q, w, hr, e⟩ <;> rw [e]
  · exact h
  · split
    · rw [wakeServer_timers]; exact hrem hr h
    · exact hrem hr h

theorem timers_cancelRequest (hrem : ∀ {q q' : DelayQ} {k : Nat} {w : Bool}, q.remove k = some (q', w) → P q → P q')
    {s : St} (h : P s.timers) (id : Nat) : P (cancelRequest s id).1.timers := by
  rcases cancelRequest_out s id with ⟨_, e⟩ | ⟨e, _, he⟩ <;> rw [‹cancelRequest s id = _›]
  · exact h
  · exact timers_removeTimer hrem (s := abortExec { s with inflight := s.inflight.filter (·.id != id) } e.rid)
      (by rw [abortExec_timers]; exact h) _

theorem timers_expireStep (hpoll : ∀ q, P q → P (q.pollExpired now).1)
    (hins : ∀ {q q' : DelayQ} {t id key : Nat} {w : Bool}, q.insert now (clampTimeout t) id = (q', .ok key, w) → P q → P q')
    {s : St} (h : P s.timers) : P (Server.expireStep s now).1.timers := by
  have hq := hpoll s.timers h
  have hs := expireStep_out s now
  revert hs
  generalize Server.expireStep s now = p
  intro hs
  obtain ⟨s', r⟩ := p
  dsimp only at hs ⊢
  cases hs with
  | idleNone q hp => rw [hp] at hq; exact hq
  | idlePending q hp => rw [hp] at hq; exact hq
  | orphan q e hp hf' => rw [hp] at hq; exact hq
  | abort q e en hp hf' h0 => rw [hp] at hq; rw [abortExec_timers]; exact hq
  | rearmed q e en s2 hp hf' h0 hr =>
    rw [hp] at hq
    obtain ⟨q2, key, w, hi, rfl⟩ := rearm_some hr
    exact hins hi hq
  | panicked q e en hp hf' h0 hr => exact h

theorem timers_closed (hrem : ∀ {q q' : DelayQ} {k : Nat} {w : Bool}, q.remove k = some (q', w) → P q → P q')
    (hpoll : ∀ q, P q → P (q.pollExpired now).1)
    (hins : ∀ {q q' : DelayQ} {t id key : Nat} {w : Bool}, q.insert now (clampTimeout t) id = (q', .ok key, w) → P q → P q')
    (hempty : P {}) (hwaker : ∀ q b, P q → P { q with waker := b }) : PrimClosed now (fun s => P s.timers) where
  inert := fun _ _ hi h => by rw [hi.timers]; exact h
  emit := fun _ _ _ h => h
  upd := fun _ _ _ _ h => h
  setT := fun _ _ h => h
  setFused := fun _ h => h
  removeReq := fun s id h => by
    rcases removeRequest_out s id with ⟨_, e⟩ | ⟨en, _, e⟩ <;> rw [e]
    · exact h
    · exact timers_removeTimer hrem (s := { s with inflight := s.inflight.filter (·.id != id) }) h _
  cancel := fun s id _ h _ => timers_cancelRequest hrem (by rw [tNext_timers]; exact h) id
  expire := fun s h =>
    pollExpired_ind (P := fun s => P s.timers) now (fun _ h1 => h1) (fun _ h1 => timers_expireStep hpoll hins h1) s h
  start := fun s id d tr b h => by
    rcases startRequest_out s now id d tr b with ⟨_, e⟩ | ⟨_, _, e⟩ | ⟨_, q, key, w, hi, e⟩ <;> rw [e]
    · exact h
    · exact h
    · exact hins hi h
  timerWaker := fun _ b h => hwaker _ b h
  spin := fun _ h => h
  spunReset := fun _ _ _ h => h
  setDone := fun _ _ h => h
  drop := fun s h => by
    rw [dropServer_eq]
    split
    · exact h
    · exact hempty

end

/-- the timer queue of the state satisfies the two-sided wheel invariant (while the clock is below `2^35` ms) -/
def QC (now : Nat) (s : St) : Prop := now < panicFreeNs → DelayQ.Complete s.timers

theorem QC.of_timers {now : Nat} {s s' : St} (h : QC now s) (ht : s'.timers = s.timers) : QC now s' := by
  intro hn; rw [ht]; exact h hn

theorem QC.mono {now now' : Nat} {s : St} (h : QC now s) (hle : now ≤ now') : QC now' s :=
  fun hn => h (Nat.lt_of_le_of_lt hle hn)

theorem QC.cancelRequest {now : Nat} {s : St} (h : QC now s) (id : Nat) : QC now (cancelRequest s id).1 :=
  timers_cancelRequest (P := fun q => now < panicFreeNs → DelayQ.Complete q)
    (fun hr h hn => DelayQ.remove_complete hr (h hn)) h id

theorem QC.expireStep (hf : ClampFits) {now : Nat} {s : St} (h : QC now s) : QC now (Server.expireStep s now).1 :=
  timers_expireStep (P := fun q => now < panicFreeNs → DelayQ.Complete q)
    (fun _ h hn => (DelayQ.pollExpired_complete now (h hn)).1)
    (fun hi h hn => DelayQ.insert_complete hi (h hn) (clamp_inRangeStrict hf _ now _ hn)) h

theorem qc_closed (hf : ClampFits) (now : Nat) : PrimClosed now (QC now) :=
  timers_closed (P := fun q => now < panicFreeNs → DelayQ.Complete q)
    (fun hr h hn => DelayQ.remove_complete hr (h hn))
    (fun _ h hn => (DelayQ.pollExpired_complete now (h hn)).1)
    (fun hi h hn => DelayQ.insert_complete hi (h hn) (clamp_inRangeStrict hf _ now _ hn))
    (fun _ => DelayQ.Complete_empty) (fun _ b h hn => (h hn).waker b)

/-- **Bridge (server).**  In every reachable state whose clock is below `2^35` ms, the server's `DelayQueue` satisfies
the two-sided wheel invariant. -/
theorem qc_reach (hf : ClampFits) (limit : Option Nat) (respCap tcap : Nat) (coupled : Bool) (ops : List SOp) :
    QC (ops.foldl applyOp (initSys limit respCap tcap coupled)).now
      (ops.foldl applyOp (initSys limit respCap tcap coupled)).s :=
  reach_inv QC (qc_closed hf) (fun _ _ _ hle h => h.mono hle) _ (fun _ => DelayQ.Complete_empty) ops

/-- the three invariants of the timer queue in one statement -/
theorem timers_reach (hf : ClampFits) (limit : Option Nat) (respCap tcap : Nat) (coupled : Bool) (ops : List SOp)
    (hT : advSum ops < panicFreeNs) :
    DelayQ.Complete (ops.foldl applyOp (initSys limit respCap tcap coupled)).s.timers ∧
    DelayQ.KeysOk (ops.foldl applyOp (initSys limit respCap tcap coupled)).s.timers ∧
    DelayQ.Sound (ops.foldl applyOp (initSys limit respCap tcap coupled)).s.timers (advSum ops) := by
  have hq := qc_reach hf limit respCap tcap coupled ops
  have ht := (sinv_reach false limit respCap tcap coupled ops).t
  rw [reach_now] at hq ht
  exact ⟨hq hT, ht.wf, ht.sound⟩

/-! ### going idle: nothing is due, and the `Sleep` is armed no later than the earliest tick -/

open TarpcModel.DelayQ (Idle)

/-- the last iteration of `poll_expired`'s loop: it reports nothing due and did not panic ⇒ the queue is idle -/
theorem expireStep_idle {now : Nat} {s : St} (hq : DelayQ.Complete s.timers)
    (hr : (Server.expireStep s now).2 = some .pending ∨ (Server.expireStep s now).2 = some .closed)
    (hp : (Server.expireStep s now).1.poisoned = false) : Idle now (Server.expireStep s now).1.timers := by
  have hs := expireStep_out s now
  revert hs hr hp
  generalize Server.expireStep s now = p
  intro hr hp hs
  obtain ⟨s', r⟩ := p
  dsimp only at hs hr hp ⊢
  cases hs with
  | idleNone q hpq => exact Idle.of_poll hq hpq (.inr rfl)
  | idlePending q hpq => exact Idle.of_poll hq hpq (.inl rfl)
  | orphan q e hpq hf' => rcases hr with hr | hr <;> cases hr
  | abort q e en hpq hf' h0 => rcases hr with hr | hr <;> cases hr
  | rearmed q e en s2 hpq hf' h0 hr' => rcases hr with hr | hr <;> cases hr
  | panicked q e en hpq hf' h0 hr' => simp at hp

theorem pollExpiredLoop_idle (hf : ClampFits) {now : Nat} (hn : now < panicFreeNs) (fuel : Nat) (s : St)
    (hb : rearmBudget s < fuel) (hq : DelayQ.Complete s.timers) : (pollExpiredLoop fuel s now).2 ≠ .ready →
    (pollExpiredLoop fuel s now).1.poisoned = false → Idle now (pollExpiredLoop fuel s now).1.timers :=
  fuel_loop (loop := fun n s => pollExpiredLoop n s now) (step := fun s => Server.expireStep s now) (pollExpiredLoop_iter now)
    (I := fun n s => rearmBudget s < n ∧ DelayQ.Complete s.timers)
    (Φ := fun a r => r ≠ .ready → a.poisoned = false → Idle now a.timers)
    (fun n s ⟨hb, hq⟩ => .of_eq
      (fun he => ⟨by have := expireStep_budget s now he; omega, QC.expireStep hf (fun _ => hq) hn⟩)
      (fun r he hr hp => by
        cases r with
        | ready => exact absurd rfl hr
        | closed => exact expireStep_idle hq (.inr he) hp
        | pending => exact expireStep_idle hq (.inl he) hp))
    (fun s h => absurd h.1 (Nat.not_lt_zero _)) fuel s ⟨hb, hq⟩

/-- **`poll_expired` going idle.**  If the channel's `poll_expired` at clock `now` reports no expiration (and did not
panic), no timer of the queue it leaves behind is due. -/
theorem pollExpired_idle (hf : ClampFits) {now : Nat} (hn : now < panicFreeNs) {s : St} (hq : DelayQ.Complete s.timers)
    (hr : (pollExpired s now).2 ≠ .ready) (hp : (pollExpired s now).1.poisoned = false) :
    Idle now (pollExpired s now).1.timers := by
  unfold Server.pollExpired at hr hp ⊢
  split
  · next he => exact Idle.of_empty he
  · next he =>
    rw [if_neg he] at hr hp
    exact pollExpiredLoop_idle hf hn _ s (by rw [expireFuel_eq]; omega) hq hr hp

theorem bpStep_idle_timers (hf : ClampFits) {now : Nat} (hn : now < panicFreeNs) {s : St} (hq : QC now s)
    (h : (bpStep s now).2 = some .pending ∨ (bpStep s now).2 = some .none) : Idle now (bpStep s now).1.timers := by
  obtain ⟨h1, h2, -, -⟩ := bpStep_idle s now h
  rw [h2]
  have hq1 : QC now (bpCancel s).1 := (qc_closed hf now).toStepClosed.bpCancel s hq
  refine pollExpired_idle hf hn (hq1 hn) h1 ?_
  have ho := bpStep_out s now
  revert ho h
  generalize bpStep s now = out
  intro h ho
  cases ho with
  | closed hp _ _ _ _ => exact hp
  | pending hp _ _ _ _ => exact hp
  | _ => rcases h with h | h <;> cases h

/-- **The channel's `poll_next` going idle.**  From a state whose timer queue satisfies the wheel invariant, at a clock
below `2^35` ms: if `BaseChannel::poll_next` returns `Pending` or the end of the stream, the timer queue it leaves behind
is idle — no timer is due, the waker is stored and the `Sleep` is armed no later than the earliest tick. -/
theorem basePollNext_idle_timers (hf : ClampFits) {now : Nat} (hn : now < panicFreeNs) (fuel : Nat) (s : St) : QC now s →
    ((basePollNext fuel s now).2 = .pending ∨ (basePollNext fuel s now).2 = .none) →
    Idle now (basePollNext fuel s now).1.timers :=
  basePollNext_loop (Φ := fun s r => (r = .pending ∨ r = .none) → Idle now s.timers)
    (fun s hq => .of_eq (fun _ => (qc_closed hf now).toStepClosed.bpStep s hq)
      (fun r hr h => bpStep_idle_timers hf hn hq (h.imp (fun e => by rw [hr, e]) (fun e => by rw [hr, e]))))
    (fun _ _ => nofun) fuel s

/-! ### the `Requests` stream going idle (no limiter) -/

theorem ensureWriteable_tm (s : St) : (ensureWriteable s).1.timers = s.timers :=
  (ensureWriteable_calls s).kept (P := fun a => a.timers = s.timers) (fun hk hp h => by
    rcases hk with rfl | rfl | rfl <;> cases hp
    · exact (tReady_timers _).trans h
    · exact (tFlush_timers _).trans h
    · exact h) rfl

/-- a write pump that ends `Pending` / `None` (nothing was sent) has not touched the timers -/
theorem pumpWrite_idle_timers (s : St) (rc : Bool)
    (h : (pumpWrite s rc).2 = .pending ∨ (pumpWrite s rc).2 = .none) : (pumpWrite s rc).1.timers = s.timers := by
  have he := ensureWriteable_tm s
  have ho := pumpWrite_out s rc
  generalize pumpWrite s rc = p at ho h
  cases ho with
  | blocked s1 e | idle s1 e _ => rw [e] at he; rw [flushArm_fst, tFlush_timers]; exact he
  | _ => rcases h with h | h <;> cases h

theorem channelPollNext_none {s : St} (h : s.limit = none) (now : Nat) :
    channelPollNext s now = basePollNext (baseFuel s) s now := by
  unfold Server.channelPollNext; rw [h]

/-- **`Requests::poll_next` going idle (no `MaxRequests` limiter).**  From a state whose timer queue satisfies the wheel
invariant, at a clock below `2^35` ms: if the poll of the request stream ends `Pending` or at the end of the stream, the
timer queue it leaves behind is idle. -/
theorem requestsPollNext_idle_timers (hf : ClampFits) {now : Nat} (hn : now < panicFreeNs) (fuel : Nat) (s : St)
    (hl : s.limit = none) (hq : QC now s) :
    ((requestsPollNext fuel s now).2 = .pending ∨ (requestsPollNext fuel s now).2 = .none) →
    Idle now (requestsPollNext fuel s now).1.timers := by
  refine requestsPollNext_loop (I := fun s => s.limit = none ∧ QC now s)
    (Φ := fun s r => (r = .pending ∨ r = .none) → Idle now s.timers) (fun s h => ?_) (fun _ _ => nofun) fuel s ⟨hl, hq⟩
  obtain ⟨hl, hq⟩ := h
  have hrd : rpRd s now = basePollNext (baseFuel s) s now := channelPollNext_none hl now
  unfold IterSpec
  cases hr : (rpStep s now).2 with
  | none =>
    show (rpStep s now).1.limit = none ∧ QC now (rpStep s now).1
    rw [(rpStep_idle (Or.inl hr)).2.1]
    exact ⟨((cfg_closed s now).toLoopClosed.rpWr s ⟨rfl, rfl, rfl, rfl⟩).2.1.trans hl, (qc_closed hf now).toLoopClosed.rpWr s hq⟩
  | some r =>
    intro hi
    have hr' : (rpStep s now).2 = some .pending ∨ (rpStep s now).2 = some .none := by
      rcases hi with rfl | rfl
      · exact Or.inl hr
      · exact Or.inr hr
    obtain ⟨hread, hst, hw⟩ := rpStep_idle (Or.inr hr')
    have ha : armRead (rpRd s now).1 (rpRd s now).2 = (rpRd s now).1 := by rcases hread with e | e <;> rw [e] <;> rfl
    show Idle now (rpStep s now).1.timers
    have hw' := hw (by rw [hr]; nofun)
    rw [hst]
    rw [rpWr, ha] at hw' ⊢
    rw [pumpWrite_idle_timers _ _ hw']
    rw [hrd] at hread ⊢
    exact basePollNext_idle_timers hf hn (baseFuel s) s hq hread

end TarpcModel.Server.Flow
