import TarpcModel.Lemmas.DelayQFacts
/-!
The timer queue in the vocabulary of the client proofs (`Lemmas/ClientInv.lean` is the user):

* `DelayQ.WF`      — keys are pairwise distinct and below `nextKey`; every wheel entry sits at a level whose
                     block (relative to `wheelElapsed`) is not in the future (`SlotUB`), which is what makes
                     "the wheel never yields an entry early" provable without the full wheel correctness.
* `DelayQ.Timely`  — (defined in `Lemmas/DelayQFacts.lean`) relative to a wall clock `now` (ns): `wheelElapsed`,
                     `wheelNow` and everything on the `expired` stack are not in the future.
* `DelayQ.Has q k v w` — a timer with key `k`, value `v`, deadline `w` ms is armed (wheel or expired stack),
                     independent of its wheel position (`level`, `seq`).

`WF` is `KeysOk` plus `SlotUB`, and `Has` is membership in `cores`; the specs below restate the results of
`Lemmas/DelayQFacts.lean` (content: `pollExpired_expired`, `insert_ok`, `remove_some`; timing:
`pollExpired_onTime`) in these terms.

Specs: `insert_spec`, `remove_spec`, `remove_eq_none_iff`, `pollExpired_spec`; `clear_wf`, `clear_timely`, `clear_has`;
`empty_wf`, `empty_timely`, `empty_has`.
-/
namespace TarpcModel
namespace DelayQ

/-- every armed timer: the wheel and the `expired` stack -/
def all (q : DelayQ) : List DqEntry := q.entries ++ q.expired

/-- some entry of `l` has key `k`, value `v`, deadline `w` (ms) -/
def HasL (l : List DqEntry) (k v w : Nat) : Prop := ∃ d ∈ l, d.key = k ∧ d.val = v ∧ d.whenMs = w

/-- a timer with key `k`, value `v`, deadline `w` (ms) is armed -/
def Has (q : DelayQ) (k v w : Nat) : Prop := HasL q.all k v w

def KeysDistinct (l : List DqEntry) : Prop := l.Pairwise (fun a b => a.key ≠ b.key)

structure WF (q : DelayQ) : Prop where
  keys : KeysDistinct q.all
  keyLt : ∀ d ∈ q.all, d.key < q.nextKey
  ub : ∀ d ∈ q.entries, SlotUB q.wheelElapsed d

/-! ### basic facts -/

theorem hasL_append {l1 l2 : List DqEntry} {k v w : Nat} :
    HasL (l1 ++ l2) k v w ↔ HasL l1 k v w ∨ HasL l2 k v w := by
  simp only [HasL, List.mem_append]
  constructor
  · rintro ⟨d, hd | hd, h⟩
    · exact Or.inl ⟨d, hd, h⟩
    · exact Or.inr ⟨d, hd, h⟩
  · rintro (⟨d, hd, h⟩ | ⟨d, hd, h⟩)
    · exact ⟨d, Or.inl hd, h⟩
    · exact ⟨d, Or.inr hd, h⟩

theorem has_iff {q : DelayQ} {k v w : Nat} : Has q k v w ↔ HasL q.entries k v w ∨ HasL q.expired k v w := by
  unfold Has all; exact hasL_append

theorem hasL_nil {k v w : Nat} : ¬ HasL [] k v w := by simp [HasL]

theorem keysDistinct_iff {l : List DqEntry} : KeysDistinct l ↔ (l.map (·.key)).Nodup := by
  rw [KeysDistinct, List.Nodup, List.pairwise_map]

/-- With distinct keys a key determines value and deadline. -/
theorem hasL_fun {l : List DqEntry} (h : KeysDistinct l) {k v w v' w' : Nat}
    (h1 : HasL l k v w) (h2 : HasL l k v' w') : v = v' ∧ w = w' := by
  obtain ⟨d, hd, rfl, rfl, rfl⟩ := h1
  obtain ⟨d', hd', hk, rfl, rfl⟩ := h2
  have := eq_of_map_nodup (keysDistinct_iff.1 h) hd' hd hk
  subst this; exact ⟨rfl, rfl⟩

theorem Has.functional {q : DelayQ} (h : WF q) {k v w v' w' : Nat}
    (h1 : Has q k v w) (h2 : Has q k v' w') : v = v' ∧ w = w' := hasL_fun h.keys h1 h2

/-- `q'` holds the wheel timers of `q` (up to their wheel position) except `r`; only the wheel changed. -/
structure Popped (q q' : DelayQ) (r : Option DqEntry) : Prop where
  expired : q'.expired = q.expired
  nextKey : q'.nextKey = q.nextKey
  has : ∀ k v w, HasL q'.entries k v w ↔ (HasL q.entries k v w ∧ ∀ e, r = some e → k ≠ e.key)
  mem : ∀ e, r = some e → HasL q.entries e.key e.val e.whenMs

/-! ### `WF`, `Has` in terms of `KeysOk`, `cores` (`Lemmas/DelayQFacts.lean`) -/

theorem WF.keysOk {q : DelayQ} (h : WF q) : KeysOk q := ⟨keysDistinct_iff.1 h.keys, h.keyLt⟩

theorem WF.of_keysOk {q : DelayQ} (h : KeysOk q) (hub : ∀ d ∈ q.entries, SlotUB q.wheelElapsed d) : WF q :=
  ⟨keysDistinct_iff.2 h.nodup, h.lt, hub⟩

theorem has_iff_cores {q : DelayQ} {k v w : Nat} : Has q k v w ↔ (k, v, w) ∈ q.cores := by
  simp only [Has, HasL, all, cores, items, core, List.mem_map, Prod.mk.injEq]

/-! ### `poll_expired` -/

/-- What `poll_expired` guarantees: a yielded timer was armed, is due (`whenMs * nsPerMs ≤ now`), and is the only
one removed; otherwise the armed timers are unchanged. -/
structure ExpiredOK (q : DelayQ) (now : Nat) (r : DelayQ × PollRes) : Prop where
  wf : WF r.1
  timely : Timely r.1 now
  nextKey : r.1.nextKey = q.nextKey
  some : ∀ e, r.2 = .expired e → Has q e.key e.val e.whenMs ∧ e.whenMs * nsPerMs ≤ now ∧
    ∀ k v w, Has r.1 k v w ↔ (Has q k v w ∧ k ≠ e.key)
  none : r.2.entry = Option.none → ∀ k v w, Has r.1 k v w ↔ Has q k v w

theorem pollExpired_spec (q : DelayQ) (now : Nat) (h : WF q) (ht : Timely q now) :
    ExpiredOK q now (q.pollExpired now) := by
  have hk := h.keysOk
  have hp := pollExpired_onTime (q := q) ⟨h.ub, ht⟩
  have heta : q.pollExpired now = ((q.pollExpired now).1, (q.pollExpired now).2) := rfl
  refine ⟨WF.of_keysOk (pollExpired_WF heta hk) hp.onTime.ub, hp.onTime.timely, pollExpired_nextKey heta, ?_, ?_⟩
  · intro e he
    obtain ⟨h1, h2⟩ := pollExpired_expired (Prod.ext rfl he) hk
    exact ⟨has_iff_cores.2 h1, hp.due e (by rw [he]; rfl),
      fun k v w => by rw [has_iff_cores, has_iff_cores]; exact h2 (k, v, w)⟩
  · intro hn k v w
    rw [has_iff_cores, has_iff_cores]
    exact pollExpired_other heta hk (fun e he => by rw [he] at hn; cases hn) (k, v, w)

/-! ### `insert`, `remove`, `clear` -/

theorem le_whenOf (q : DelayQ) (now timeout : Nat) : now + timeout ≤ whenOf q now timeout * nsPerMs :=
  Nat.le_trans (le_ceil_tick _) (Nat.mul_le_mul_right _ (Nat.le_max_left _ _))

/-- `WF`, `Timely` and `Has` only depend on these fields. -/
theorem wf_of_fields {q q' : DelayQ} (h : WF q) (he : q'.entries = q.entries) (hx : q'.expired = q.expired)
    (hn : q'.nextKey = q.nextKey) (hE : q'.wheelElapsed = q.wheelElapsed) : WF q' := by
  refine ⟨?_, ?_, ?_⟩
  · have := h.keys; simp only [all, he, hx] at this ⊢; exact this
  · have := h.keyLt; simp only [all, he, hx, hn] at this ⊢; exact this
  · have := h.ub; simp only [he, hE] at this ⊢; exact this

theorem timely_of_fields {q q' : DelayQ} {t : Nat} (h : Timely q t) (hx : q'.expired = q.expired)
    (hE : q'.wheelElapsed = q.wheelElapsed) (hN : q'.wheelNow = q.wheelNow) : Timely q' t :=
  ⟨by rw [hE]; exact h.elapsed, by rw [hN]; exact h.wheelNow, by rw [hx]; exact h.expired⟩

theorem has_of_fields {q q' : DelayQ} (he : q'.entries = q.entries) (hx : q'.expired = q.expired) (k v w : Nat) :
    Has q' k v w ↔ Has q k v w := by
  rw [has_iff, has_iff, he, hx]

/-- What a successful `insert` guarantees. -/
structure InsertOK (q : DelayQ) (now timeout val : Nat) (q' : DelayQ) (k : Nat) : Prop where
  wf : WF q'
  key : k = q.nextKey
  has : ∀ k' v' w', Has q' k' v' w' ↔ (Has q k' v' w' ∨ (k' = k ∧ v' = val ∧ w' = whenOf q now timeout))
  timely : ∀ t, Timely q t → Timely q' t

theorem insert_spec {q q' : DelayQ} {now timeout val k : Nat} {b : Bool} (h : WF q)
    (hi : q.insert now timeout val = (q', .ok k, b)) : InsertOK q now timeout val q' k := by
  obtain ⟨hk, -, hc⟩ := insert_ok hi
  exact ⟨WF.of_keysOk (insert_WF hi h.keysOk) (insert_slotUB hi h.ub), hk,
    fun k' v' w' => by rw [has_iff_cores, has_iff_cores, hc, Prod.mk.injEq, Prod.mk.injEq]; rfl,
    fun _ ht => insert_timely hi ht⟩

theorem remove_eq_none_iff (q : DelayQ) (key : Nat) : q.remove key = none ↔ ¬ ∃ v w, Has q key v w := by
  rw [remove_none_iff]
  simp only [has_iff_cores, cores, core, List.mem_map, Prod.mk.injEq, not_exists, not_and]
  constructor
  · rintro h v w d hd rfl
    exact fun _ _ => h d hd rfl
  · rintro h d hd hk
    exact h d.val d.whenMs d hd hk rfl rfl

/-- What a successful `remove` guarantees. -/
structure RemoveOK (q : DelayQ) (key : Nat) (q' : DelayQ) : Prop where
  wf : WF q'
  nextKey : q'.nextKey = q.nextKey
  has : ∀ k v w, Has q' k v w ↔ (Has q k v w ∧ k ≠ key)
  timely : ∀ t, Timely q t → Timely q' t

theorem remove_spec {q q' : DelayQ} {key : Nat} {b : Bool} (h : WF q) (hr : q.remove key = some (q', b)) :
    RemoveOK q key q' := by
  obtain ⟨-, e1, e2, e3, e4, e5⟩ := remove_cases hr
  refine ⟨WF.of_keysOk (remove_WF hr h.keysOk) ?_, e3,
    fun k v w => by rw [has_iff_cores, has_iff_cores]; exact (remove_some hr).2 (k, v, w), fun t ht => ?_⟩
  · rw [e1, e4]
    exact fun d hd => h.ub d (List.mem_filter.1 hd).1
  · refine ⟨e4 ▸ ht.elapsed, e5 ▸ ht.wheelNow, ?_⟩
    rw [e2]
    exact fun d hd => ht.expired d (List.mem_filter.1 hd).1

theorem clear_wf (q : DelayQ) : WF q.clear :=
  ⟨by simp [clear, all, KeysDistinct], by simp [clear, all], by simp [clear]⟩

theorem clear_timely {q : DelayQ} {t : Nat} (ht : Timely q t) : Timely q.clear t :=
  ⟨by simp [clear], ht.wheelNow, by simp [clear]⟩

theorem clear_has (q : DelayQ) (k v w : Nat) : ¬ Has q.clear k v w := by
  simp [clear, has_iff, HasL]

theorem empty_wf : WF ({} : DelayQ) :=
  ⟨by simp [all, KeysDistinct], by simp [all], by simp⟩

theorem empty_timely (t : Nat) : Timely ({} : DelayQ) t := ⟨by simp, by simp, by simp⟩

theorem empty_has (k v w : Nat) : ¬ Has ({} : DelayQ) k v w := by simp [has_iff, HasL]

/-- Changing only the stored waker flag does not matter. -/
theorem wf_waker {q : DelayQ} (h : WF q) (b : Bool) : WF { q with waker := b } := ⟨h.keys, h.keyLt, h.ub⟩
theorem timely_waker {q : DelayQ} {t : Nat} (h : Timely q t) (b : Bool) : Timely { q with waker := b } t :=
  ⟨h.elapsed, h.wheelNow, h.expired⟩

/-- (`DelayQ.all` is `DelayQ.items`, and this is `len_eq`, in the vocabulary of `WF`/`Has`.) -/
theorem len_eq_all (q : DelayQ) : q.len = q.all.length := len_eq q

end DelayQ
end TarpcModel
