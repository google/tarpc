import TarpcModel.Lemmas.ClientWake
/-!
# Every waiting call is accounted for

`AccI H s`:

* a call future that is `awaiting` its response with its receiver open has its request in the request queue, or an entry
  in the in-flight table, or its oneshot already holds a value, or the oneshot's sender was dropped — unless the
  dispatch has panicked (`poisoned`: it then froze with whatever it held);
* a call future that is `reserving` (waiting for a permit) is in the wait queue or has been handed a permit — or the
  queue is closed (every waiter was woken to fail), or its `Acquire` is being dropped.

`H = some cid` marks the moment inside `poll_write_request` between taking the request of call `cid` off the queue and
inserting it into the table.  The induction carries the first half only (`AccA`, preserved by every function of the
model); outside a drop the second half is a consequence of the wake-up discipline of `Lemmas/ClientWake.lean`
(`WkI.acc_res`).  `reach_acc` is the invariant over all reachable states.
-/
namespace TarpcModel.Client

/-- per call: id of the future, phase, sender dropped, receiver closed, a value is waiting in the oneshot -/
def acore (c : Call) : Nat × Phase × Bool × Bool × Bool :=
  (c.cid, c.phase, c.os.txDropped, c.os.rxClosed, c.os.val.isSome)

def acores (s : St) : List (Nat × Phase × Bool × Bool × Bool) := s.calls.map acore

structure AccI (H : Option Nat) (s : St) : Prop where
  acc : ∀ cid tx v, (cid, Phase.awaiting, tx, false, v) ∈ acores s →
    (∃ r ∈ s.pq, r.cid = cid) ∨ (∃ e ∈ s.inflight, e.cid = cid) ∨ v = true ∨ tx = true ∨ s.poisoned = true ∨ H = some cid
  res : ∀ cid tx rx v, (cid, Phase.reserving, tx, rx, v) ∈ acores s →
    cid ∈ s.pqWaiters ∨ cid ∈ s.pqAssigned ∨ tx = true ∨ s.pqClosed = true

/-- the `awaiting` half of `AccI`: what the induction carries -/
structure AccA (H : Option Nat) (s : St) : Prop where
  acc : ∀ cid tx v, (cid, Phase.awaiting, tx, false, v) ∈ acores s →
    (∃ r ∈ s.pq, r.cid = cid) ∨ (∃ e ∈ s.inflight, e.cid = cid) ∨ v = true ∨ tx = true ∨ s.poisoned = true ∨ H = some cid

theorem WkI.acc_res {k : Nat} {s : St} (h : WkI none k s) : ∀ cid tx rx v, (cid, Phase.reserving, tx, rx, v) ∈ acores s →
    cid ∈ s.pqWaiters ∨ cid ∈ s.pqAssigned ∨ tx = true ∨ s.pqClosed = true := by
  intro cid tx rx v hm
  obtain ⟨c, hc, he⟩ := List.mem_map.mp hm
  simp only [acore, Prod.mk.injEq] at he
  obtain ⟨e1, e2, _⟩ := he
  rcases ((h.calls c hc).2.1 e2 (by simp)).2 with x | ⟨_, x | x⟩
  · exact Or.inl (e1 ▸ x)
  · exact Or.inr (Or.inl (e1 ▸ x))
  · exact Or.inr (Or.inr (Or.inr x))

/-- `s'` agrees with `s` on everything `AccA` reads (the dispatch may have become poisoned) -/
structure QA (s s' : St) : Prop where
  cs : acores s' = acores s
  inflight : s'.inflight = s.inflight
  pq : s'.pq = s.pq
  pqWaiters : s'.pqWaiters = s.pqWaiters
  pqAssigned : s'.pqAssigned = s.pqAssigned
  pqClosed : s'.pqClosed = s.pqClosed
  po : s.poisoned = true → s'.poisoned = true

theorem QA.refl (s : St) : QA s s := ⟨rfl, rfl, rfl, rfl, rfl, rfl, id⟩

theorem QA.trans {a b c : St} (h1 : QA a b) (h2 : QA b c) : QA a c :=
  ⟨h2.cs.trans h1.cs, h2.inflight.trans h1.inflight, h2.pq.trans h1.pq, h2.pqWaiters.trans h1.pqWaiters,
   h2.pqAssigned.trans h1.pqAssigned, h2.pqClosed.trans h1.pqClosed, fun h => h2.po (h1.po h)⟩

theorem QA.after {a b c : St} (h2 : QA b c) (h1 : QA a b) : QA a c := h1.trans h2

theorem QA.of_calls {s s' : St} (hc : s'.calls = s.calls := by rfl) (h1 : s'.inflight = s.inflight := by rfl)
    (h2 : s'.pq = s.pq := by rfl) (h3 : s'.pqWaiters = s.pqWaiters := by rfl) (h4 : s'.pqAssigned = s.pqAssigned := by rfl)
    (h5 : s'.pqClosed = s.pqClosed := by rfl) (h6 : s.poisoned = true → s'.poisoned = true := by exact fun h => h) : QA s s' :=
  ⟨by unfold acores; rw [hc], h1, h2, h3, h4, h5, h6⟩

theorem AccA.qa {H : Option Nat} {s s' : St} (h : AccA H s) (q : QA s s') : AccA H s' := by
  refine ⟨?_⟩
  · intro cid tx v hm
    rw [q.cs] at hm
    rw [q.pq, q.inflight]
    rcases h.acc cid tx v hm with a | a | a | a | a | a
    · exact Or.inl a
    · exact Or.inr (Or.inl a)
    · exact Or.inr (Or.inr (Or.inl a))
    · exact Or.inr (Or.inr (Or.inr (Or.inl a)))
    · exact Or.inr (Or.inr (Or.inr (Or.inr (Or.inl (q.po a)))))
    · exact Or.inr (Or.inr (Or.inr (Or.inr (Or.inr a))))

theorem qa_foldl {α : Type} (f : St → α → St) (hf : ∀ s a, QA s (f s a)) (l : List α) (s : St) : QA s (l.foldl f s) := by
  induction l generalizing s with
  | nil => exact QA.refl _
  | cons a l ih => exact (hf s a).trans (ih _)

theorem qa_emit (s : St) (o : Obs) : QA s (emit s o) := .of_calls

theorem qa_wakeDispatch (s : St) : QA s (wakeDispatch s) := by
  obtain ⟨w, os, e⟩ := Flow.wakeDispatch_only s
  rw [e]; exact .of_calls

theorem acores_updCall (s : St) (cid : Nat) (f : Call → Call) (hf : ∀ c, acore (f c) = acore c) :
    acores (updCall s cid f) = acores s := by
  simp only [acores, updCall, List.map_map]
  apply List.map_congr_left
  intro c _
  simp only [Function.comp]
  split
  · exact hf c
  · rfl

theorem qa_updCall (s : St) (cid : Nat) (f : Call → Call) (hf : ∀ c, acore (f c) = acore c) : QA s (updCall s cid f) :=
  ⟨acores_updCall s cid f hf, rfl, rfl, rfl, rfl, rfl, id⟩

theorem qa_wakeCall (s : St) (cid : Nat) : QA s (wakeCall s cid) := by
  rcases Flow.wakeCall_out s cid with ⟨_, _, _, e⟩ | ⟨_, e⟩ <;> rw [e]
  · exact (qa_emit _ _).after (qa_updCall s cid _ (fun _ => rfl))
  · exact QA.refl _

theorem qa_removeTimer (s : St) (k : Nat) : QA s (removeTimer s k) := by
  rcases Flow.removeTimer_out s k with ⟨_, _, _, e⟩ | ⟨_, e⟩ <;> rw [e]
  · split
    · exact (qa_wakeDispatch _).after .of_calls
    · exact .of_calls
  · exact (qa_emit _ _).after (.of_calls (h6 := fun _ => rfl))

theorem qa_tEmit (s : St) (t' : SimT) (o : Obs) (w : Bool) : QA s (Flow.tEmit s t' o w) := by
  obtain ⟨l, dw, he, _, _⟩ := Flow.tEmit_eq s t' o w
  rw [he]; exact .of_calls
theorem qa_tReady (s : St) : QA s (tReady s).1 := by rw [Flow.tReady_eq]; exact qa_tEmit _ _ _ _
theorem qa_tFlush (s : St) : QA s (tFlush s).1 := by rw [Flow.tFlush_eq]; exact qa_tEmit _ _ _ _
theorem qa_tClose (s : St) : QA s (tClose s).1 := by rw [Flow.tClose_eq]; exact qa_tEmit _ _ _ _
theorem qa_tSend (s : St) (m : Msg) : QA s (tSend s m).1 := by rw [Flow.tSend_eq]; exact qa_tEmit s (s.t.startSend m).1 _ false
theorem qa_tNext (s : St) : QA s (tNext s).1 := by
  rw [Flow.tNext_eq]; split
  · exact QA.refl _
  · exact .of_calls

/-! ### calls and their cores -/

theorem mem_acores_of_mem {s : St} {c : Call} (h : c ∈ s.calls) : acore c ∈ acores s := List.mem_map_of_mem h

theorem mem_acores_of_getCall {s : St} {cid : Nat} {c : Call} (h : getCall s cid = some c) : acore c ∈ acores s :=
  mem_acores_of_mem (List.mem_of_find?_eq_some h)

theorem mem_acores {s : St} {y : Nat × Phase × Bool × Bool × Bool} (h : y ∈ acores s) : ∃ c ∈ s.calls, acore c = y :=
  List.mem_map.mp h

theorem CUniq.aunique {s : St} (hu : CUniq s) {cid : Nat} {c : Call} (hg : getCall s cid = some c)
    {y : Nat × Phase × Bool × Bool × Bool} (hy : y ∈ acores s) (e : y.1 = cid) : y = acore c := by
  obtain ⟨c', hc', rfl⟩ := mem_acores hy
  obtain ⟨hm, hcid⟩ := getCall_some hg
  have : c' = c := eq_of_map_nodup hu hc' hm (by simpa [acore, hcid] using e)
  rw [this]

theorem acores_updCall_mem {s : St} (hu : CUniq s) {cid : Nat} {c : Call} (hg : getCall s cid = some c)
    (f : Call → Call) (hf : ∀ c, (f c).cid = c.cid) {y : Nat × Phase × Bool × Bool × Bool} :
    y ∈ acores (updCall s cid f) ↔ (y ∈ acores s ∧ y.1 ≠ cid) ∨ y = acore (f c) := by
  have hcid := getCall_cid hg
  constructor
  · intro hy
    simp only [acores, updCall, List.map_map, List.mem_map, Function.comp] at hy
    obtain ⟨c', hc', rfl⟩ := hy
    by_cases hx : c'.cid = cid
    · have hb : (c'.cid == cid) = true := by simpa using hx
      simp only [hb, ↓reduceIte]
      right
      have : c' = c := eq_of_map_nodup hu hc' (getCall_some hg).1 (by rw [hx, hcid])
      rw [this]
    · have hb : (c'.cid == cid) = false := by simpa using hx
      simp only [hb, Bool.false_eq_true, ↓reduceIte]
      exact Or.inl ⟨mem_acores_of_mem hc', by simpa [acore] using hx⟩
  · rintro (⟨hy, hne⟩ | rfl)
    · obtain ⟨c', hc', rfl⟩ := mem_acores hy
      have hx : c'.cid ≠ cid := by simpa [acore] using hne
      have hb : (c'.cid == cid) = false := by simpa using hx
      simp only [acores, updCall, List.map_map, List.mem_map, Function.comp]
      exact ⟨c', hc', by simp [hb]⟩
    · exact mem_acores_of_getCall (getCall_updCall_some hg f hf)

/-! ### steps that only raise `val` / `txDropped` of calls -/

/-- the clause `le` of `CoreLe` alone (the dispatch going away changes the queues) -/
def CLe (s s' : St) : Prop :=
  ∀ cid ph tx rx v, (cid, ph, tx, rx, v) ∈ acores s' →
    ∃ tx0 v0, (cid, ph, tx0, rx, v0) ∈ acores s ∧ (tx0 = true → tx = true) ∧ (v0 = true → v = true)

theorem CLe.trans {a b c : St} (h1 : CLe a b) (h2 : CLe b c) : CLe a c := by
  intro cid ph tx rx v hm
  obtain ⟨tx1, v1, hm1, a1, b1⟩ := h2 cid ph tx rx v hm
  obtain ⟨tx0, v0, hm0, a0, b0⟩ := h1 cid ph tx1 rx v1 hm1
  exact ⟨tx0, v0, hm0, fun h => a1 (a0 h), fun h => b1 (b0 h)⟩

theorem CLe.of_acores {s s' : St} (h : acores s' = acores s) : CLe s s' :=
  fun _ _ tx _ v hm => ⟨tx, v, h ▸ hm, id, id⟩

/-- every call of `s'` was there in `s` in the same phase, with the same receiver flag; a value in the oneshot and a
dropped sender stay; the queues, the table and the permit lists are the same -/
structure CoreLe (s s' : St) : Prop where
  le : ∀ cid ph tx rx v, (cid, ph, tx, rx, v) ∈ acores s' →
    ∃ tx0 v0, (cid, ph, tx0, rx, v0) ∈ acores s ∧ (tx0 = true → tx = true) ∧ (v0 = true → v = true)
  inflight : s'.inflight = s.inflight
  pq : s'.pq = s.pq
  pqWaiters : s'.pqWaiters = s.pqWaiters
  pqAssigned : s'.pqAssigned = s.pqAssigned
  pqClosed : s'.pqClosed = s.pqClosed
  po : s.poisoned = true → s'.poisoned = true
  cids : s'.calls.map (·.cid) = s.calls.map (·.cid)

theorem CoreLe.refl (s : St) : CoreLe s s := ⟨CLe.of_acores rfl, rfl, rfl, rfl, rfl, rfl, id, rfl⟩

theorem CoreLe.trans {a b c : St} (h1 : CoreLe a b) (h2 : CoreLe b c) : CoreLe a c :=
  ⟨CLe.trans h1.le h2.le, h2.inflight.trans h1.inflight, h2.pq.trans h1.pq, h2.pqWaiters.trans h1.pqWaiters,
    h2.pqAssigned.trans h1.pqAssigned, h2.pqClosed.trans h1.pqClosed, fun h => h2.po (h1.po h), h2.cids.trans h1.cids⟩

theorem CoreLe.after {a b c : St} (h2 : CoreLe b c) (h1 : CoreLe a b) : CoreLe a c := h1.trans h2

theorem QA.le {s s' : St} (q : QA s s') (hc : s'.calls.map (·.cid) = s.calls.map (·.cid)) : CoreLe s s' :=
  ⟨CLe.of_acores q.cs, q.inflight, q.pq, q.pqWaiters, q.pqAssigned, q.pqClosed, q.po, hc⟩

theorem acids_eq (s : St) : s.calls.map (·.cid) = (acores s).map (·.1) := by
  simp [acores, acore, List.map_map, Function.comp]

theorem QA.le' {s s' : St} (q : QA s s') : CoreLe s s' :=
  q.le (by rw [acids_eq, acids_eq, q.cs])

theorem CoreLe.cuniq {s s' : St} (h : CoreLe s s') (hu : CUniq s) : CUniq s' := by
  unfold CUniq; rw [h.cids]; exact hu

theorem AccI.le {H : Option Nat} {s s' : St} (h : AccI H s) (q : CoreLe s s') : AccI H s' := by
  refine ⟨?_, ?_⟩
  · intro cid tx v hm
    obtain ⟨tx0, v0, hm0, a, b⟩ := q.le _ _ _ _ _ hm
    rw [q.pq, q.inflight]
    rcases h.acc cid tx0 v0 hm0 with x | x | x | x | x | x
    · exact Or.inl x
    · exact Or.inr (Or.inl x)
    · exact Or.inr (Or.inr (Or.inl (b x)))
    · exact Or.inr (Or.inr (Or.inr (Or.inl (a x))))
    · exact Or.inr (Or.inr (Or.inr (Or.inr (Or.inl (q.po x)))))
    · exact Or.inr (Or.inr (Or.inr (Or.inr (Or.inr x))))
  · intro cid tx rx v hm
    obtain ⟨tx0, v0, hm0, a, _⟩ := q.le _ _ _ _ _ hm
    rw [q.pqWaiters, q.pqAssigned, q.pqClosed]
    rcases h.res cid tx0 rx v0 hm0 with x | x | x | x
    · exact Or.inl x
    · exact Or.inr (Or.inl x)
    · exact Or.inr (Or.inr (Or.inl (a x)))
    · exact Or.inr (Or.inr (Or.inr x))

theorem AccA.le {H : Option Nat} {s s' : St} (h : AccA H s) (q : CoreLe s s') : AccA H s' := by
  refine ⟨fun cid tx v hm => ?_⟩
  obtain ⟨tx0, v0, hm0, a, b⟩ := q.le _ _ _ _ _ hm
  rw [q.pq, q.inflight]
  rcases h.acc cid tx0 v0 hm0 with x | x | x | x | x | x
  · exact Or.inl x
  · exact Or.inr (Or.inl x)
  · exact Or.inr (Or.inr (Or.inl (b x)))
  · exact Or.inr (Or.inr (Or.inr (Or.inl (a x))))
  · exact Or.inr (Or.inr (Or.inr (Or.inr (Or.inl (q.po x)))))
  · exact Or.inr (Or.inr (Or.inr (Or.inr (Or.inr x))))

/-- an update of the calls `cid` that raises `val` / `txDropped` only -/
theorem le_updCall (s : St) (cid : Nat) (f : Call → Call)
    (hf : ∀ c, (f c).cid = c.cid ∧ (f c).phase = c.phase ∧ (f c).os.rxClosed = c.os.rxClosed ∧
      (c.os.txDropped = true → (f c).os.txDropped = true) ∧ (c.os.val.isSome = true → (f c).os.val.isSome = true)) :
    CoreLe s (updCall s cid f) := by
  refine ⟨?_, rfl, rfl, rfl, rfl, rfl, id, ?_⟩
  · intro cid' ph tx rx v hm
    simp only [acores, updCall, List.map_map, List.mem_map, Function.comp] at hm
    obtain ⟨c', hc', he⟩ := hm
    by_cases hx : (c'.cid == cid) = true
    · simp only [hx, ↓reduceIte, acore, Prod.mk.injEq] at he
      obtain ⟨e1, e2, e3, e4, e5⟩ := he
      obtain ⟨f1, f2, f3, f4, f5⟩ := hf c'
      refine ⟨c'.os.txDropped, c'.os.val.isSome, ?_, fun h => by rw [← e3]; exact f4 h, fun h => by rw [← e5]; exact f5 h⟩
      have : acore c' = (cid', ph, c'.os.txDropped, rx, c'.os.val.isSome) := by
        simp [acore, ← e1, ← e2, ← e4, f1, f2, f3]
      rw [← this]; exact mem_acores_of_mem hc'
    · have hx' : (c'.cid == cid) = false := by simpa using hx
      simp only [hx', Bool.false_eq_true, ↓reduceIte] at he
      exact ⟨tx, v, by rw [← he]; exact mem_acores_of_mem hc', id, id⟩
  · simp only [updCall, List.map_map]
    apply List.map_congr_left
    intro c' _
    simp only [Function.comp]
    split
    · exact (hf c').1
    · rfl

theorem le_wakeCall (s : St) (cid : Nat) : CoreLe s (wakeCall s cid) := (qa_wakeCall s cid).le'

theorem le_osSend (s : St) (cid : Nat) (o : Outcome) : CoreLe s (osSend s cid o) := by
  rcases Flow.osSend_out s cid o with ⟨_, e⟩ | ⟨_, _, _, e⟩ <;> rw [e]
  · exact CoreLe.refl _
  · have h1 := le_updCall s cid (fun c => { c with os := { c.os with val := some o, rxWaker := false } })
      (fun c => ⟨rfl, rfl, rfl, id, fun _ => rfl⟩)
    split
    · exact (le_wakeCall _ _).after h1
    · exact h1

theorem le_osDropTx (s : St) (cid : Nat) : CoreLe s (osDropTx s cid) := by
  rcases Flow.osDropTx_out s cid with ⟨_, e⟩ | ⟨_, _, _, e⟩ <;> rw [e]
  · exact CoreLe.refl _
  · have h1 := le_updCall s cid (fun c => { c with os := { c.os with txDropped := true, rxWaker := false } })
      (fun c => ⟨rfl, rfl, rfl, fun _ => rfl, id⟩)
    split
    · exact (le_wakeCall _ _).after h1
    · exact h1

/-- after `osSend` every open-receiver core of the call holds a value -/
theorem osSend_val {s : St} (hu : CUniq s) (cid : Nat) (o : Outcome) :
    ∀ ph tx v, (cid, ph, tx, false, v) ∈ acores (osSend s cid o) → v = true := by
  intro ph tx v hm
  rcases Flow.osSend_out s cid o with ⟨hcl, e⟩ | ⟨c, hg, _, e⟩ <;> rw [e] at hm
  · obtain ⟨c', hc', he⟩ := mem_acores hm
    simp only [acore, Prod.mk.injEq] at he
    have hrx := hcl c' (he.1 ▸ hu.getCall_of_mem hc')
    rw [he.2.2.2.1] at hrx; cases hrx
  · have key : ∀ y ∈ acores (updCall s cid (fun c => { c with os := { c.os with val := some o, rxWaker := false } })),
        y.1 = cid → y.2.2.2.2 = true := by
      intro y hy e
      rcases (acores_updCall_mem hu hg (fun c => { c with os := { c.os with val := some o, rxWaker := false } })
        (fun _ => rfl)).mp hy with ⟨_, hne⟩ | rfl
      · exact absurd e hne
      · rfl
    split at hm
    · rw [(qa_wakeCall _ _).cs] at hm; exact key _ hm rfl
    · exact key _ hm rfl

/-- after `osDropTx` every core of the call holds a value or has its sender dropped -/
theorem osDropTx_gain {s : St} (hu : CUniq s) (cid : Nat) :
    ∀ ph tx rx v, (cid, ph, tx, rx, v) ∈ acores (osDropTx s cid) → v = true ∨ tx = true := by
  intro ph tx rx v hm
  rcases Flow.osDropTx_out s cid with ⟨hvt, e⟩ | ⟨c, hg, _, e⟩ <;> rw [e] at hm
  · obtain ⟨c', hc', he⟩ := mem_acores hm
    simp only [acore, Prod.mk.injEq] at he
    have h := hvt c' (he.1 ▸ hu.getCall_of_mem hc')
    simp only [Bool.or_eq_true] at h
    rcases h with h | h
    · left; rw [← he.2.2.2.2, h]
    · right; rw [← he.2.2.1, h]
  · have key : ∀ y ∈ acores (updCall s cid (fun c => { c with os := { c.os with txDropped := true, rxWaker := false } })),
        y.1 = cid → y.2.2.1 = true := by
      intro y hy e
      rcases (acores_updCall_mem hu hg (fun c => { c with os := { c.os with txDropped := true, rxWaker := false } })
        (fun _ => rfl)).mp hy with ⟨_, hne⟩ | rfl
      · exact absurd e hne
      · rfl
    right
    split at hm
    · rw [(qa_wakeCall _ _).cs] at hm; exact key _ hm rfl
    · exact key _ hm rfl

/-! ### the request queue -/

theorem AccA.pqRelease {H : Option Nat} {s : St} (h : AccA H s) : AccA H (pqRelease s) := by
  rcases Flow.pqRelease_out s with ⟨w, rest, _, e⟩ | ⟨_, e⟩ <;> rw [e]
  · exact AccA.qa (s := { s with pqWaiters := rest, pqAssigned := s.pqAssigned ++ [w] }) ⟨h.acc⟩ (qa_wakeCall _ _)
  · exact h.qa .of_calls

/-- a request is taken off the queue: the dispatch holds it -/
theorem AccA.pop {s : St} (h : AccA none s) {r : DReq} {rest : List DReq} (hpq : s.pq = r :: rest) :
    AccA (some r.cid) { s with pq := rest } := by
  refine ⟨?_⟩
  intro cid tx v hm
  rcases h.acc cid tx v hm with ⟨r', hr', e⟩ | x | x | x | x | x
  · rw [hpq] at hr'
    rcases List.mem_cons.mp hr' with rfl | hr'
    · exact Or.inr (Or.inr (Or.inr (Or.inr (Or.inr (by rw [e])))))
    · exact Or.inl ⟨r', hr', e⟩
  · exact Or.inr (Or.inl x)
  · exact Or.inr (Or.inr (Or.inl x))
  · exact Or.inr (Or.inr (Or.inr (Or.inl x)))
  · exact Or.inr (Or.inr (Or.inr (Or.inr (Or.inl x))))
  · cases x

/-- the held request belongs to a call that has closed its receiver: it is not owed anything -/
theorem AccA.unhold {s : St} (hu : CUniq s) {cid : Nat} (h : AccA (some cid) s) (hcl : osIsClosed s cid = true) :
    AccA none s := by
  refine ⟨?_⟩
  intro cid' tx v hm
  rcases h.acc cid' tx v hm with x | x | x | x | x | x
  · exact Or.inl x
  · exact Or.inr (Or.inl x)
  · exact Or.inr (Or.inr (Or.inl x))
  · exact Or.inr (Or.inr (Or.inr (Or.inl x)))
  · exact Or.inr (Or.inr (Or.inr (Or.inr (Or.inl x))))
  · injection x with x; subst x
    exfalso
    unfold osIsClosed at hcl
    cases hg : getCall s cid with
    | none =>
      obtain ⟨c', hc', he⟩ := mem_acores hm
      simp only [acore, Prod.mk.injEq] at he
      exact getCall_none hg c' hc' he.1
    | some c =>
      rw [hg] at hcl
      have := hu.aunique hg hm rfl
      simp only [acore, Prod.mk.injEq] at this
      simp only at hcl
      rw [hcl] at this; exact absurd this.2.2.2.1 (by simp)

theorem qa_pqRecv_idle (s : St) (hne : ∀ r, (pqRecv s).2 ≠ .item r) : QA s (pqRecv s).1 := by
  rcases Flow.pqRecv_out s with ⟨r, _, _, e⟩ | ⟨_, e, _⟩ | ⟨_, e⟩ <;> rw [e] at hne ⊢
  · exact absurd rfl (hne r)
  · exact QA.refl _
  · exact .of_calls

theorem acc_recv {s s1 : St} {r : DReq} (hu : CUniq s) (h : AccA none s) (e : pqRecv s = (s1, .item r)) :
    CUniq s1 ∧ AccA (some r.cid) s1 := by
  obtain ⟨rest, hpq, rfl⟩ := pqRecv_item e
  exact ⟨cuniq_of_cids (pqRelease_cids _) hu, (h.pop hpq).pqRelease⟩

/-! ### the in-flight table -/

/-- `insert_request`, as far as the accounting is concerned -/
theorem insertRequest_acc_shape {s s' : St} {now : Nat} {r : DReq} (h : insertRequest s now r = some s') :
    s'.calls = s.calls ∧ s'.pq = s.pq ∧ s'.pqWaiters = s.pqWaiters ∧ s'.pqAssigned = s.pqAssigned ∧
    s'.pqClosed = s.pqClosed ∧ (s.poisoned = true → s'.poisoned = true) ∧ (∀ e ∈ s.inflight, e ∈ s'.inflight) ∧
    (s'.poisoned = true ∨ ∃ e ∈ s'.inflight, e.cid = r.cid) := by
  obtain ⟨tb, hk, hr⟩ := insertRequest_track h
  have hnew : s'.poisoned = true ∨ ∃ e ∈ s'.inflight, e.cid = r.cid := by
    refine hr.imp_right ?_
    rintro ⟨⟨e, he, hid, _⟩, hf, hnew⟩
    rcases hnew e he with hold | ⟨_, hc⟩
    · exact absurd hid (findEntry_none hf e hold)
    · exact ⟨e, he, hc⟩
  have fields : s'.calls = s.calls ∧ s'.pq = s.pq ∧ s'.pqWaiters = s.pqWaiters ∧ s'.pqAssigned = s.pqAssigned ∧
      s'.pqClosed = s.pqClosed := by
    rcases insertRequest_outcome h with ⟨site, rfl⟩ | ⟨_, q, en, w, _, _, _, rfl⟩
    · exact ⟨rfl, rfl, rfl, rfl, rfl⟩
    · cases w
      · exact ⟨rfl, rfl, rfl, rfl, rfl⟩
      · simp
  exact ⟨fields.1, fields.2.1, fields.2.2.1, fields.2.2.2.1, fields.2.2.2.2, tb.po, hk, hnew⟩

theorem acc_insertRequest {s s' : St} {now : Nat} {r : DReq} (h : AccA (some r.cid) s)
    (hins : insertRequest s now r = some s') : AccA none s' := by
  obtain ⟨hc, hpq, hw, ha, hcl, hpo, hinf, hnew⟩ := insertRequest_acc_shape hins
  have hcs : acores s' = acores s := by unfold acores; rw [hc]
  refine ⟨?_⟩
  · intro cid tx v hm
    rw [hcs] at hm
    rw [hpq]
    rcases h.acc cid tx v hm with x | ⟨e, he, x⟩ | x | x | x | x
    · exact Or.inl x
    · exact Or.inr (Or.inl ⟨e, hinf e he, x⟩)
    · exact Or.inr (Or.inr (Or.inl x))
    · exact Or.inr (Or.inr (Or.inr (Or.inl x)))
    · exact Or.inr (Or.inr (Or.inr (Or.inr (Or.inl (hpo x)))))
    · injection x with x
      rcases hnew with hp | ⟨e, he, hx⟩
      · exact Or.inr (Or.inr (Or.inr (Or.inr (Or.inl hp))))
      · exact Or.inr (Or.inl ⟨e, he, by rw [hx, x]⟩)

/-- entries of call `cid` leave the table (the others stay) and the call's oneshot gets a value -/
theorem acc_send_after {H H' : Option Nat} {s s1 : St} (hu1 : CUniq s1) (h : AccA H s) (cid : Nat)
    (hcs : acores s1 = acores s) (hpq : s1.pq = s.pq) (hpo : s.poisoned = true → s1.poisoned = true)
    (hsurv : ∀ e' ∈ s.inflight, e'.cid ≠ cid → e' ∈ s1.inflight)
    (hH : ∀ c', H = some c' → c' = cid ∨ H' = some c') (o : Outcome) : AccA H' (osSend s1 cid o) := by
  have hle := le_osSend s1 cid o
  refine ⟨?_⟩
  · intro cid' tx v hm
    by_cases hx : cid' = cid
    · subst hx
      exact Or.inr (Or.inr (Or.inl (osSend_val hu1 _ o _ _ _ hm)))
    · obtain ⟨tx0, v0, hm0, a, b⟩ := hle.le _ _ _ _ _ hm
      rw [hcs] at hm0
      rw [hle.pq, hle.inflight, hpq]
      rcases h.acc cid' tx0 v0 hm0 with y | ⟨e', he', y⟩ | y | y | y | y
      · exact Or.inl y
      · exact Or.inr (Or.inl ⟨e', hsurv e' he' (by rw [y]; exact hx), y⟩)
      · exact Or.inr (Or.inr (Or.inl (b y)))
      · exact Or.inr (Or.inr (Or.inr (Or.inl (a y))))
      · exact Or.inr (Or.inr (Or.inr (Or.inr (Or.inl (hle.po (hpo y))))))
      · rcases hH cid' y with y' | y'
        · exact absurd y' hx
        · exact Or.inr (Or.inr (Or.inr (Or.inr (Or.inr y'))))

theorem acc_completeRequest {H : Option Nat} {s : St} (hu : CUniq s) (hn : (s.inflight.map (·.id)).Nodup) (h : AccA H s)
    (id : Nat) (o : Outcome) : AccA H (completeRequest s id o).1 := by
  rcases Flow.completeRequest_out s id o with ⟨_, e⟩ | ⟨e, hf, e'⟩
  · rw [e]; exact h
  · rw [e']
    obtain ⟨he, hid⟩ := findEntry_some hf
    subst hid
    have q := qa_removeTimer { s with inflight := s.inflight.filter (·.id != e.id) } e.timerKey
    have hu0 : CUniq { s with inflight := s.inflight.filter (·.id != e.id) } := hu
    have hu1 : CUniq (removeTimer { s with inflight := s.inflight.filter (·.id != e.id) } e.timerKey) :=
      q.le'.cuniq hu0
    refine acc_send_after hu1 h e.cid q.cs q.pq q.po ?_ (fun c' hc' => Or.inr hc') o
    intro e' he' hne
    rw [(qc_removeTimer _ _).inflight]
    refine List.mem_filter.mpr ⟨he', ?_⟩
    simp only [bne_iff_ne, ne_eq]
    intro hid
    have : e' = e := eq_of_map_nodup (f := fun e : Entry => e.id) hn he' he hid
    rw [this] at hne; exact hne rfl

theorem tSend_cids (s : St) (m : Msg) : (tSend s m).1.calls.map (·.cid) = s.calls.map (·.cid) := by
  rw [Flow.tSend_calls]

/-! ### cancellations -/

theorem acc_cancelRequest {x : Option Nat} {H : Option Nat} {s : St} (hi : Inv x (view s)) (h : AccA H s) (id : Nat)
    (hcl : ∃ j c, (view s).get j = some c ∧ c.polled ∧ c.id = id ∧ c.rxClosed = true) :
    AccA H (cancelRequest s id).1 := by
  rcases Flow.cancelRequest_out s id with ⟨_, e⟩ | ⟨e, hf, e'⟩
  · rw [e]; exact h
  · rw [e']
    obtain ⟨he, hid⟩ := findEntry_some hf
    refine AccA.qa ?_ (qa_removeTimer _ _)
    have hu : CUniq s := cuniq_of_inv hi
    refine ⟨?_⟩
    intro cid tx v hm
    rcases h.acc cid tx v hm with y | ⟨e', he', y⟩ | y | y | y | y
    · exact Or.inl y
    · by_cases hx : e'.id = id
      · -- the entry that is removed belongs to the call that queued the cancellation: its receiver is closed
        exfalso
        obtain ⟨j, cj, hgj, hpj, hidj, hrxj⟩ := hcl
        obtain ⟨cv, hcv, henq, hcvid, _⟩ := hi.inf e' he'
        have hj : j = e'.cid := hi.idInj j e'.cid cj cv hgj hcv hpj henq.polled (by rw [hidj, hcvid, hx])
        subst hj
        rw [hcv] at hgj; injection hgj with hgj; subst hgj
        -- the core in scope has an open receiver
        obtain ⟨c', hc', hcore⟩ := mem_acores hm
        have hg' := getCall_of_mem_inv hi hc'
        simp only [acore, Prod.mk.injEq] at hcore
        rw [hcore.1, ← y] at hg'
        have := view_getCall_some hg'
        rw [hcv] at this; injection this with this
        have hrx : cv.rxClosed = c'.os.rxClosed := by rw [this]; rfl
        rw [hrxj, hcore.2.2.2.1] at hrx; cases hrx
      · exact Or.inr (Or.inl ⟨e', List.mem_filter.mpr ⟨he', by simpa using hx⟩, y⟩)
    · exact Or.inr (Or.inr (Or.inl y))
    · exact Or.inr (Or.inr (Or.inr (Or.inl y)))
    · exact Or.inr (Or.inr (Or.inr (Or.inr (Or.inl y))))
    · exact Or.inr (Or.inr (Or.inr (Or.inr (Or.inr y))))

theorem qa_cqRecv_idle (s : St) (hne : ∀ i, (cqRecv s).2 ≠ .item i) : QA s (cqRecv s).1 := by
  rcases Flow.cqRecv_out s with ⟨i, _, _, e⟩ | ⟨_, e, _⟩ | ⟨_, e⟩ <;> rw [e] at hne ⊢
  · exact absurd rfl (hne i)
  · exact QA.refl _
  · exact .of_calls

theorem acc_cancelStep {x H : Option Nat} {s s1 : St} {i : Nat} (hi : Inv x (view s)) (h : AccA H s)
    (hr : cqRecv s = (s1, .item i)) : AccA H (cancelRequest s1 i).1 := by
  obtain ⟨rest, hcq, rfl⟩ := cqRecv_item hr
  obtain ⟨hi1, hcl⟩ := Inv.cqPop (v := view s) hi (i := i) (rest := rest) hcq
  exact acc_cancelRequest (s := { s with cq := rest }) hi1 (h.qa .of_calls) i hcl

theorem acc_expireWith {x : Option Nat} {H : Option Nat} {s : St} (hi : Inv x (view s)) (h : AccA H s) (now : Nat)
    (r : DelayQ × DelayQ.PollRes) : AccA H (expireWith s now r).st := by
  refine expireWith_outcomes (motive := fun st => AccA H st.st) s now r
    (fun _ _ => h.qa .of_calls) ?_ ?_ ?_
  · exact h.qa ((qa_emit _ _).after (.of_calls (h6 := fun _ => rfl)))
  · intro q e en q' key t due w _ _
    -- a re-keyed entry still belongs to the same call
    have h1 : AccA H { s with timers := q', inflight := s.inflight.map (rearmEntry e.val key t due) } := by
      refine ⟨?_⟩
      intro cid tx v hm
      rcases h.acc cid tx v hm with y | ⟨e', he', y⟩ | y | y | y | y
      · exact Or.inl y
      · exact Or.inr (Or.inl ⟨rearmEntry e.val key t due e', List.mem_map_of_mem he',
          by rw [(rearmEntry_same e.val key t due e').2.1]; exact y⟩)
      · exact Or.inr (Or.inr (Or.inl y))
      · exact Or.inr (Or.inr (Or.inr (Or.inl y)))
      · exact Or.inr (Or.inr (Or.inr (Or.inr (Or.inl y))))
      · exact Or.inr (Or.inr (Or.inr (Or.inr (Or.inr y))))
    cases w
    · exact h1
    · exact h1.qa (qa_wakeDispatch _)
  · intro q e en _ hf _
    obtain ⟨hen, hid⟩ := findEntry_some hf
    have hu0 : CUniq { s with timers := q, inflight := s.inflight.filter (·.id != e.val) } := (cuniq_of_inv hi : CUniq s)
    refine acc_send_after hu0 h en.cid rfl rfl id ?_ (fun c' hc' => Or.inr hc') .deadline
    intro e' he' hne
    refine List.mem_filter.mpr ⟨he', ?_⟩
    simp only [bne_iff_ne, ne_eq]
    intro hid'
    have : e' = en := eq_of_map_nodup (f := fun e : Entry => e.id) hi.infNodup he' hen (by rw [hid', hid])
    rw [this] at hne; exact hne rfl

theorem le_foldl {α : Type} (f : St → α → St) (hf : ∀ s a, CoreLe s (f s a)) (l : List α) (s : St) :
    CoreLe s (l.foldl f s) := by
  induction l generalizing s with
  | nil => exact CoreLe.refl _
  | cons a l ih => exact (hf s a).trans (ih _)

/-- after sending on the oneshots of all these calls, each of them (receiver open) holds a value -/
theorem foldl_osSend_val {s : St} (hu : CUniq s) (es : List Entry) (o : Outcome) :
    ∀ e ∈ es, ∀ ph tx v, (e.cid, ph, tx, false, v) ∈ acores (es.foldl (fun s e => osSend s e.cid o) s) → v = true := by
  induction es generalizing s with
  | nil => intro e he; cases he
  | cons e0 es ih =>
    intro e he ph tx v hm
    simp only [List.foldl_cons] at hm
    have hu1 : CUniq (osSend s e0.cid o) := (le_osSend s e0.cid o).cuniq hu
    rcases List.mem_cons.mp he with rfl | he'
    · obtain ⟨tx0, v0, hm0, _, b⟩ := (le_foldl _ (fun s (e : Entry) => le_osSend s e.cid o) es _).le _ _ _ _ _ hm
      exact b (osSend_val hu _ o _ _ _ hm0)
    · exact ih hu1 e he' ph tx v hm

theorem acc_failAll {H : Option Nat} {s : St} (hu : CUniq s) (h : AccA H s) (a : Activity) : AccA H (failAll s a) := by
  unfold failAll
  simp only
  have hu1 : CUniq { s with inflight := [], timers := s.timers.clear } := hu
  have hle := le_foldl _ (fun s (e : Entry) => le_osSend s e.cid (.channel a)) s.inflight
    { s with inflight := [], timers := s.timers.clear }
  refine ⟨?_⟩
  · intro cid tx v hm
    obtain ⟨tx0, v0, hm0, x, y⟩ := hle.le _ _ _ _ _ hm
    rw [hle.pq]
    rcases h.acc cid tx0 v0 hm0 with z | ⟨e', he', z⟩ | z | z | z | z
    · exact Or.inl z
    · right; right; left
      exact foldl_osSend_val hu1 s.inflight (.channel a) e' he' _ _ _ (z ▸ hm)
    · exact Or.inr (Or.inr (Or.inl (y z)))
    · exact Or.inr (Or.inr (Or.inr (Or.inl (x z))))
    · exact Or.inr (Or.inr (Or.inr (Or.inr (Or.inl (hle.po z)))))
    · exact Or.inr (Or.inr (Or.inr (Or.inr (Or.inr z))))

theorem acc_pqClose {H : Option Nat} {s : St} (h : AccA H s) : AccA H (pqClose s) := by
  unfold pqClose
  simp only
  exact AccA.qa (s := { s with pqClosed := true, pqWaiters := [] }) ⟨h.acc⟩ (qa_foldl _ (fun s w => qa_wakeCall s w) _ _)

theorem Step.acc {now : Nat} {a : Act} {s s' : St} (ha : CoreK a) (st : Step now a s s')
    (h : Inv none (view s) ∧ AccA none s) : Inv none (view s') ∧ AccA none s' := by
  refine ⟨Step.pres Inv.presD ha st h.1, ?_⟩
  obtain ⟨hi, h⟩ := h
  have hu : CUniq s := cuniq_of_inv hi
  have sent : ∀ {H : Option Nat} {s s1 : St} (m : Msg) {ok : Bool}, AccA H s → tSend s m = (s1, ok) → AccA H s1 :=
    fun m _ h e => by have := h.qa (qa_tSend _ m); rwa [e] at this
  cases st with
  | ready => exact h.qa (qa_tReady _)
  | flush => exact h.qa (qa_tFlush _)
  | spin => exact h.qa (qa_emit _ _)
  | close => exact h.qa (qa_tClose _)
  | pqIdle hx => exact h.qa (qa_pqRecv_idle s hx)
  | pqSkip e hc => obtain ⟨u1, h1⟩ := acc_recv hu h e; exact h1.unhold u1 hc
  | reqPanic hr e hc hins hp => exact acc_insertRequest (acc_recv hu h e).2 hins
  | reqSent hr e hc hins hp ht => exact sent _ (acc_insertRequest (acc_recv hu h e).2 hins) ht
  | @reqFailed _ _ s2 _ r hr e hc hins hp ht =>
    -- the entry just inserted is taken out again and the call is told
    obtain ⟨u1, h1⟩ := acc_recv hu h e
    have h3 := sent _ (acc_insertRequest h1 hins) ht
    have hcs := tSend_cids s2 (.request r.id r.ctx.deadline r.ctx.trace r.body)
    have hinf := Flow.tSend_inflight s2 (.request r.id r.ctx.deadline r.ctx.trace r.body)
    rw [ht] at hcs hinf
    rcases req_inserted Inv.presD hi e hc hins with ⟨hp', _⟩ | ⟨i2, _⟩
    · rw [hp] at hp'; cases hp'
    · exact acc_completeRequest (cuniq_of_cids (hcs.trans (by rw [(insertRequest_acc_shape hins).1])) u1)
        (by rw [hinf]; exact i2.infNodup) h3 _ _
  | cqIdle hx => exact h.qa (qa_cqRecv_idle s hx)
  | cqMiss e hc => have := acc_cancelStep hi h e; rwa [hc] at this
  | cancel e hc ht => have := acc_cancelStep hi h e; rw [hc] at this; exact sent _ this ht
  | expire => exact acc_expireWith hi h now _
  | readIdle hx => exact h.qa (qa_tNext _)
  | @read _ s1 id res e =>
    have h1 := h.qa (qa_tNext s)
    have hv := view_tNext s
    rw [e] at h1 hv
    have i1 : Inv none (view s1) := by rw [hv]; exact hi.of_rel _
    exact acc_completeRequest (cuniq_of_inv i1) i1.infNodup h1 _ _
  | pqClose => exact acc_pqClose h
  | failAll _ a => exact acc_failAll hu h a
  | drainFail a e hc =>
    obtain ⟨u1, h1⟩ := acc_recv hu h e
    refine acc_send_after (H' := none) u1 h1 _ rfl rfl id (fun e' he' _ => he') ?_ _
    intro c' hc'
    injection hc' with hc'
    exact Or.inl hc'.symm
  | termErr _ a => exact h.qa .of_calls
  | poison _ hh => exact h.qa (.of_calls (h6 := fun _ => rfl))
  | _ => exact False.elim ha

theorem acc_pollDispatchCore {s : St} (hi : Inv none (view s)) (h : AccA none s) (now : Nat) :
    AccA none (pollDispatchCore s now).1 :=
  ((pollDispatchCore_steps s now).kept Step.acc ⟨hi, h⟩).2

theorem qa_keep (obs0 : List Obs) (s : St) (r : Ret) : QA s (Flow.keepDone r (Flow.keepFinish obs0 s r)) := by
  obtain ⟨os, po, dn, hp, e⟩ := keep_only obs0 s r
  rw [e]; exact .of_calls (h6 := hp)

theorem acc_pollDispatchKeep {s : St} (hi : Inv none (view s)) (h : AccA none s) (now : Nat) :
    AccA none (pollDispatchKeep s now) := by
  rw [Flow.pollDispatchKeep_eq]
  split
  · exact h.qa (qa_emit _ _)
  · have h0 : AccA none { s with dWoken := false } := h.qa .of_calls
    have h1 := acc_pollDispatchCore (s := { s with dWoken := false }) hi h0 now
    exact h1.qa (qa_keep _ _ _)

/-! ### the dispatch goes away -/

/-- after dropping the senders of all these calls, each of them holds a value or has its sender dropped -/
theorem foldl_osDropTx_gain {α : Type} (f : α → Nat) {s : St} (hu : CUniq s) (l : List α) :
    ∀ a ∈ l, ∀ ph tx rx v, (f a, ph, tx, rx, v) ∈ acores (l.foldl (fun s a => osDropTx s (f a)) s) →
      v = true ∨ tx = true := by
  induction l generalizing s with
  | nil => intro a ha; cases ha
  | cons a0 l ih =>
    intro a ha ph tx rx v hm
    simp only [List.foldl_cons] at hm
    have hu1 : CUniq (osDropTx s (f a0)) := (le_osDropTx s (f a0)).cuniq hu
    rcases List.mem_cons.mp ha with rfl | ha'
    · obtain ⟨tx0, v0, hm0, x, y⟩ := (le_foldl _ (fun s (a : α) => le_osDropTx s (f a)) l _).le _ _ _ _ _ hm
      rcases osDropTx_gain hu _ _ _ _ _ hm0 with h | h
      · exact Or.inl (y h)
      · exact Or.inr (x h)
    · exact ih hu1 a ha' ph tx rx v hm

theorem acc_dropDispatch {s : St} (hu : CUniq s) (h : AccA none s) : AccA none (dropDispatch s) := by
  rw [dropDispatch_stages]
  split
  · exact h.qa (qa_emit _ _)
  · -- the queue is closed
    have q2 : QA { s with dDropped := true, dWoken := false, pqClosed := true, pqWaiters := [] }
        (pqClose { s with dDropped := true, dWoken := false }) := by
      unfold pqClose
      exact qa_foldl _ (fun s w => qa_wakeCall s w) _ _
    generalize pqClose { s with dDropped := true, dWoken := false } = s2 at q2
    have c2 : acores s2 = acores s := q2.cs
    have u2 : CUniq s2 := q2.le'.cuniq (hu : CUniq { s with dDropped := true, dWoken := false, pqClosed := true, pqWaiters := [] })
    -- the queued requests are dropped with their senders
    have l3 : CoreLe { s2 with pq := [], pqAvail := s2.bufCap - s2.pqAssigned.length } (dropQ s2) := by
      unfold dropQ; exact le_foldl _ (fun s (r : DReq) => le_osDropTx s r.cid) _ _
    have g3 := foldl_osDropTx_gain (fun r : DReq => r.cid)
      (s := { s2 with pq := [], pqAvail := s2.bufCap - s2.pqAssigned.length }) u2 s2.pq
    have u3 : CUniq (dropQ s2) := l3.cuniq u2
    have hinf3 : (dropQ s2).inflight = s.inflight := by rw [l3.inflight]; exact q2.inflight
    have g3' : ∀ r ∈ s.pq, ∀ ph tx rx v, (r.cid, ph, tx, rx, v) ∈ acores (dropQ s2) → v = true ∨ tx = true := by
      intro r hr
      have : r ∈ s2.pq := by rw [q2.pq]; exact hr
      unfold dropQ
      exact g3 r this
    have cle3 : CLe s (dropQ s2) := (CLe.of_acores c2).trans l3.le
    generalize dropQ s2 = s3 at u3 hinf3 g3' cle3
    -- the table is dropped with its senders
    have l4 : CoreLe { s3 with inflight := [], timers := {} } (dropI s3) := by
      unfold dropI; exact le_foldl _ (fun s (e : Entry) => le_osDropTx s e.cid) _ _
    have g4 := foldl_osDropTx_gain (fun e : Entry => e.cid) (s := { s3 with inflight := [], timers := {} }) u3 s3.inflight
    have cle4 : CLe s (dropI s3) := cle3.trans l4.le
    have g4' : ∀ e ∈ s.inflight, ∀ ph tx rx v, (e.cid, ph, tx, rx, v) ∈ acores (dropI s3) → v = true ∨ tx = true := by
      intro e he
      have : e ∈ s3.inflight := by rw [hinf3]; exact he
      unfold dropI
      exact g4 e this
    have g3'' : ∀ r ∈ s.pq, ∀ ph tx rx v, (r.cid, ph, tx, rx, v) ∈ acores (dropI s3) → v = true ∨ tx = true := by
      intro r hr ph tx rx v hm
      obtain ⟨tx0, v0, hm0, x, y⟩ := l4.le _ _ _ _ _ hm
      rcases g3' r hr _ _ _ _ hm0 with h' | h'
      · exact Or.inl (y h')
      · exact Or.inr (x h')
    generalize dropI s3 = s4 at cle4 g4' g3''
    refine ⟨?_⟩
    intro cid tx v hm
    have hm' : (cid, Phase.awaiting, tx, false, v) ∈ acores s4 := hm
    obtain ⟨tx0, v0, hm0, x, y⟩ := cle4 _ _ _ _ _ hm'
    rcases h.acc cid tx0 v0 hm0 with ⟨r, hr, z⟩ | ⟨e, he, z⟩ | z | z | z | z
    · rcases g3'' r hr _ _ _ _ (z ▸ hm') with w | w
      · exact Or.inr (Or.inr (Or.inl w))
      · exact Or.inr (Or.inr (Or.inr (Or.inl w)))
    · rcases g4' e he _ _ _ _ (z ▸ hm') with w | w
      · exact Or.inr (Or.inr (Or.inl w))
      · exact Or.inr (Or.inr (Or.inr (Or.inl w)))
    · exact Or.inr (Or.inr (Or.inl (y z)))
    · exact Or.inr (Or.inr (Or.inr (Or.inl (x z))))
    · exfalso
      rename_i hg
      simp [z] at hg
    · cases z

theorem acc_pollDispatch {s : St} (hi : Inv none (view s)) (h : AccA none s) (now : Nat) :
    AccA none (pollDispatch s now) := by
  rw [Flow.pollDispatch_eq]
  have h1 := acc_pollDispatchKeep hi h now
  split
  · exact acc_dropDispatch (cuniq_of_inv (pollDispatchKeep_pres Inv.presD hi now)) h1
  · exact h1

/-! ### the call futures: one call changes -/

/-- `s'` differs from `s` in call `cid` at most; requests may have been queued; the permit lists keep the other calls -/
structure AS (cid : Nat) (s s' : St) : Prop where
  oth : ∀ y ∈ acores s', y.1 ≠ cid → y ∈ acores s
  cids : s'.calls.map (·.cid) = s.calls.map (·.cid)
  pq : ∀ r ∈ s.pq, r ∈ s'.pq
  inflight : s'.inflight = s.inflight
  lists : ∀ w, w ≠ cid → (w ∈ s.pqWaiters ∨ w ∈ s.pqAssigned) → (w ∈ s'.pqWaiters ∨ w ∈ s'.pqAssigned)
  cl : s.pqClosed = true → s'.pqClosed = true
  po : s.poisoned = true → s'.poisoned = true

theorem AS.refl (cid : Nat) (s : St) : AS cid s s :=
  ⟨fun _ h _ => h, rfl, fun _ h => h, rfl, fun _ _ h => h, id, id⟩

theorem AS.trans {cid : Nat} {a b c : St} (h1 : AS cid a b) (h2 : AS cid b c) : AS cid a c :=
  ⟨fun y hy hn => h1.oth y (h2.oth y hy hn) hn, h2.cids.trans h1.cids, fun r hr => h2.pq r (h1.pq r hr),
   h2.inflight.trans h1.inflight, fun w hn hw => h2.lists w hn (h1.lists w hn hw),
   fun h => h2.cl (h1.cl h), fun h => h2.po (h1.po h)⟩

theorem QA.as {s s' : St} (q : QA s s') (cid : Nat) : AS cid s s' :=
  ⟨fun y hy _ => q.cs ▸ hy, q.le'.cids, fun r hr => q.pq.symm ▸ hr, q.inflight,
   fun w _ hw => by rw [q.pqWaiters, q.pqAssigned]; exact hw, fun h => by rw [q.pqClosed]; exact h, q.po⟩

theorem qa_cqPush (s : St) (i : Nat) : QA s (cqPush s i) := by
  unfold cqPush
  split
  · exact QA.refl _
  · simp only
    split
    · exact (qa_wakeDispatch _).after .of_calls
    · exact .of_calls

theorem qa_afterCallGone' (s : St) : QA s (afterCallGone s) := by
  obtain ⟨w, os, pw, cw, e⟩ := afterCallGone_only s
  rw [e]; exact .of_calls

/-! ### the call futures -/

/-- every core of call `cid` after an update of call `cid` is an updated one -/
theorem updCall_acidcore (s : St) (cid : Nat) (f : Call → Call) :
    ∀ y ∈ acores (updCall s cid f), y.1 = cid → (∀ c, (f c).cid = c.cid) → ∃ c ∈ s.calls, c.cid = cid ∧ y = acore (f c) := by
  intro y hy e hf
  simp only [acores, updCall, List.map_map, List.mem_map, Function.comp] at hy
  obtain ⟨c', hc', rfl⟩ := hy
  by_cases hx : c'.cid = cid
  · have hb : (c'.cid == cid) = true := by simpa using hx
    simp only [hb, ↓reduceIte]
    exact ⟨c', hc', hx, rfl⟩
  · have hb : (c'.cid == cid) = false := by simpa using hx
    simp only [hb, Bool.false_eq_true, ↓reduceIte] at e
    exact absurd (by simpa [acore] using e) hx

theorem OnlyCall.oth {cid : Nat} {s s' : St} (h : OnlyCall cid s s') : ∀ y ∈ acores s', y.1 ≠ cid → y ∈ acores s := by
  obtain ⟨g, hg, e⟩ := h
  intro y hy hn
  simp only [acores, e, List.map_map, List.mem_map, Function.comp] at hy
  obtain ⟨c, hc, rfl⟩ := hy
  by_cases hx : c.cid = cid
  · exact absurd (by simp [updFn, hx, acore, hg]) hn
  · have : updFn cid g c = c := by unfold updFn; rw [if_neg (by simpa using hx)]
    rw [this]; exact mem_acores_of_mem hc

theorem At.core {cid : Nat} {X : Call} {s : St} (h : At cid X s) {y : Nat × Phase × Bool × Bool × Bool} (hy : y ∈ acores s)
    (e : y.1 = cid) : y = acore X := by
  obtain ⟨c, hc, rfl⟩ := mem_acores hy
  rw [h.2.2 c hc e]

theorem AccA.pollOut {s s' : St} (h : AccA none s) {cid : Nat} {X X' : Call} (hat : At cid X s)
    (fr : CallFr cid s s') (hat' : At cid X' s') (out : PollOut cid X s s' X') : AccA none s' := by
  have hX := mem_acores_of_mem hat.1
  have hcid : X.cid = cid := hat.2.1
  -- the other calls keep their account if `pq` only grows; `hacc` is about `X'`
  have step : (∀ r ∈ s.pq, r ∈ s'.pq) →
      (X'.phase = .awaiting → X'.os.rxClosed = false →
        (∃ r ∈ s'.pq, r.cid = cid) ∨ (∃ e ∈ s'.inflight, e.cid = cid) ∨ X'.os.val.isSome = true ∨ X'.os.txDropped = true ∨
          s'.poisoned = true) → AccA none s' := by
    intro hpq hacc
    refine ⟨fun x tx v hm => ?_⟩
    by_cases hx : x = cid
    · subst hx
      have := hat'.core hm rfl
      simp only [acore, Prod.mk.injEq] at this
      obtain ⟨_, e2, e3, e4, e5⟩ := this
      rw [e3, e5]
      rcases hacc e2.symm e4.symm with y | y | y | y | y
      · exact Or.inl y
      · exact Or.inr (Or.inl y)
      · exact Or.inr (Or.inr (Or.inl y))
      · exact Or.inr (Or.inr (Or.inr (Or.inl y)))
      · exact Or.inr (Or.inr (Or.inr (Or.inr (Or.inl y))))
    · rw [fr.inflight, fr.poisoned]
      rcases h.acc x tx v (fr.only.oth _ hm hx) with ⟨r, hr, y⟩ | y
      · exact Or.inl ⟨r, hpq r hr, y⟩
      · exact Or.inr y
  have dead : X'.phase = .resolved → (∀ r ∈ s.pq, r ∈ s'.pq) → AccA none s' := fun e hpq =>
    step hpq (fun hp => by rw [e] at hp; cases hp)
  have kept : X'.phase = X.phase → X'.os.rxClosed = X.os.rxClosed → X'.os.val = X.os.val → X'.os.txDropped = X.os.txDropped →
      s'.pq = s.pq → AccA none s' := fun e1 e2 e3 e4 pq => by
    refine step (fun r hr => pq ▸ hr) (fun hp hrx => ?_)
    rw [pq, fr.inflight, fr.poisoned, e3, e4]
    rw [e1] at hp; rw [e2] at hrx
    rcases h.acc cid X.os.txDropped X.os.val.isSome (by
      have := hX; simp only [acore, hcid, hp, hrx] at this; exact this) with y | y | y | y | y | y
    · exact Or.inl y
    · exact Or.inr (Or.inl y)
    · exact Or.inr (Or.inr (Or.inl y))
    · exact Or.inr (Or.inr (Or.inr (Or.inl y)))
    · exact Or.inr (Or.inr (Or.inr (Or.inr y)))
    · cases y
  have sent : ∀ (r : DReq), r.cid = cid → s'.pq = s.pq ++ [r] → AccA none s' := fun r hr pq =>
    step (fun x hx => by rw [pq]; exact List.mem_append_left _ hx) (fun _ _ => Or.inl ⟨r, by rw [pq]; simp, hr⟩)
  cases out with
  | dead hp ch e => subst e; exact kept rfl rfl rfl rfl ch.pq
  | failedNew hp hc ch e => exact dead e (fun r hr => ch.pq ▸ hr)
  | failedWait hp hc pq av w a e => exact dead e (fun r hr => pq ▸ hr)
  | took r hr hp op dd hav pq av w a e => exact sent r hr pq
  | used r hr hp op dd has pq av w a e => exact sent r hr pq
  | joined hp op dd hav pq av w a e => subst e; exact step (fun r hr => pq ▸ hr) (fun hp => by cases hp)
  | waits hp op dd has ch e => subst e; exact kept rfl rfl rfl rfl ch.pq
  | polled hp ch e =>
    rcases Polled.weak e with e | ⟨rfl, _, _⟩
    · exact dead e (fun r hr => ch.pq ▸ hr)
    · exact kept rfl rfl rfl rfl ch.pq

theorem acc_pollCall {s : St} (hu : CUniq s) (h : AccA none s) (cid now : Nat) : AccA none (pollCall s cid now) := by
  cases hg : getCall s cid with
  | none => rw [pollCall_gone hg]; exact h.qa (qa_emit _ _)
  | some X =>
    have hat := At.of_getCall hu hg
    obtain ⟨fr, X', hat', out⟩ := pollCall_out hat now
    exact h.pollOut hat fr hat' out

/-! ### dropping a call future -/

theorem AccA.updCall_out {s : St} (h : AccA none s) (cid : Nat) (f : Call → Call) (hf : ∀ c, (f c).cid = c.cid)
    (hout : ∀ c, (f c).phase ≠ .awaiting ∨ (f c).os.rxClosed = true) : AccA none (updCall s cid f) := by
  refine ⟨fun x tx v hm => ?_⟩
  by_cases hx : x = cid
  · subst hx
    obtain ⟨c', _, _, he⟩ := updCall_acidcore s x f _ hm rfl hf
    simp only [acore, Prod.mk.injEq] at he
    rcases hout c' with h' | h'
    · exact absurd he.2.1.symm h'
    · rw [h'] at he; exact absurd he.2.2.2.1 (by simp)
  · exact h.acc x tx v ((OnlyCall.of_upd rfl hf : OnlyCall cid s (updCall s cid f)).oth _ hm hx)

theorem acc_dropPre {s : St} (h : AccA none s) (cid : Nat) : AccA none (dropPre s cid) := by
  unfold dropPre
  cases hg : getCall s cid with
  | none => exact h
  | some c =>
    simp only
    cases hph : c.phase with
    | notPolled => exact h
    | awaiting => exact h
    | resolved => exact h
    | dropped => exact h
    | reserving =>
      simp only
      -- the call leaves the wait queue and a permit it had been handed goes back: nothing the accounting reads moves;
      -- then its sender is dropped
      have h1 : AccA none { s with pqAssigned := s.pqAssigned.filter (fun x => x != cid),
                                    pqWaiters := s.pqWaiters.filter (fun x => x != cid) } := ⟨h.acc⟩
      refine AccA.le ?_ (le_osDropTx _ cid)
      split
      · exact h1.pqRelease
      · exact h1

theorem acc_dropClose {s : St} (h : AccA none s) (cid : Nat) : AccA none (dropClose s cid) := by
  unfold dropClose
  cases hg : getCall s cid with
  | none => exact h
  | some c =>
    have key : AccA none (guardClose s cid) := h.updCall_out cid _ (fun _ => rfl) (fun _ => Or.inr rfl)
    simp only
    cases hph : c.phase with
    | reserving => exact key
    | awaiting => exact key
    | notPolled => exact h
    | resolved => exact h
    | dropped => exact h

theorem acc_dropCancel {s : St} (h : AccA none s) (cid : Nat) : AccA none (dropCancel s cid) := by
  exact Flow.dropCancel_cases s cid (fun _ => h) (fun _ _ _ => h.qa (qa_cqPush _ _))

theorem acc_dropFinish {s : St} (h : AccA none s) (cid : Nat) : AccA none (dropFinish s cid) := by
  have key : AccA none (afterCallGone (updCall s cid (fun c => { c with phase := .dropped, woken := false }))) :=
    (h.updCall_out cid (fun c => { c with phase := .dropped, woken := false }) (fun _ => rfl)
      (fun _ => Or.inl (fun e => by cases e))).qa (qa_afterCallGone' _)
  exact Flow.dropFinish_cases s cid (fun _ => h.qa (qa_emit _ _)) (fun _ _ _ => key)

theorem acc_dropCallG {s : St} (hi : Inv none (view s)) (h : AccA none s) (guarded : Bool) (cid : Nat) (at_ : DropAt)
    (now : Nat) : AccA none (dropCallG guarded s cid at_ now) := by
  have poll : ∀ s', Inv none (view s') ∧ AccA none s' → Inv none (view (pollDispatch s' now)) ∧ AccA none (pollDispatch s' now) :=
    fun s' h => ⟨pollDispatch_pres Inv.presD h.1 now, acc_pollDispatch h.1 h.2 now⟩
  -- once the receiver is closed it stays closed, which is what lets the cancellation through
  refine dropCallG_walk (I₁ := fun s' => Inv none (view s') ∧ AccA none s')
    (I₂ := fun s' => (Inv none (view s') ∧ Closed (view s') cid) ∧ AccA none s')
    (I₃ := fun s' => Inv none (view s') ∧ AccA none s') guarded s cid at_ now ?_ poll ?_ ?_ ?_ poll ?_
  · exact ⟨by rw [view_dropPre]; exact hi, acc_dropPre h cid⟩
  · intro s' h; exact ⟨dropClose_pres Inv.pres h.1 cid, acc_dropClose h.2 cid⟩
  · intro s' h; exact ⟨pollDispatch_closed Inv.pres h.1.1 now cid h.1.2, acc_pollDispatch h.1.1 h.2 now⟩
  · intro s' h; exact ⟨dropCancel_pres Inv.pres h.1.1 cid h.1.2, acc_dropCancel h.2 cid⟩
  · intro s' h; exact acc_dropFinish h.2 cid

theorem acc_dropCall {s : St} (hi : Inv none (view s)) (h : AccA none s) (cid : Nat) (at_ : DropAt) (now : Nat) :
    AccA none (dropCall s cid at_ now) := by
  rw [dropCall_eq]; exact acc_dropCallG hi h _ cid at_ now

/-! ### handles, external events, ops -/

theorem acc_newCall {s : St} (h : AccA none s) (hd : Nat) (ctx : Ctx) (body : Nat) : AccA none (newCall s hd ctx body) := by
  unfold newCall
  split
  · have hc : acores { s with calls := s.calls ++ [{ cid := s.calls.length, ctx := ctx, body := body, trace := ctx.trace }] }
        = acores s ++ [(s.calls.length, Phase.notPolled, false, false, false)] := by
      simp [acores, acore]
    refine ⟨?_⟩
    · intro cid tx v hm
      rw [hc] at hm
      rcases List.mem_append.mp hm with hm | hm
      · exact h.acc cid tx v hm
      · simp at hm
  · exact h.qa (qa_emit _ _)

theorem qa_liftT (s : St) (r : SimT × Bool) : QA s (liftT s r) := by
  unfold liftT
  simp only
  split
  · exact (qa_wakeDispatch _).after .of_calls
  · exact .of_calls

theorem qa_onAdvance (s : St) (now : Nat) : QA s (onAdvance s now) := by
  unfold onAdvance
  split
  · split
    · exact (qa_wakeDispatch _).after .of_calls
    · exact QA.refl _
  · exact QA.refl _

theorem applyOp_acc {c : Sys} (hi : Inv none (view c.s)) (h : AccA none c.s) (op : COp) : AccA none (applyOp c op).s := by
  refine Flow.applyOp_cases (P := fun _ s' => AccA none s') c op ?_ ?_ ?_ ?_ ?_ ?_ ?_ ?_ ?_ ?_ ?_
  · intro hd ctx b; exact acc_newCall h _ _ _
  · intro cid; exact acc_pollCall (cuniq_of_inv hi) h cid c.now
  · intro cid site; exact acc_dropCall hi h cid site c.now
  · intro hd
    unfold cloneHandle; split
    · exact h.qa .of_calls
    · exact h.qa (qa_emit _ _)
  · intro hd
    unfold dropHandle; split
    · exact h.qa ((qa_afterCallGone' _).after .of_calls)
    · exact h.qa (qa_emit _ _)
  · exact acc_pollDispatch hi h c.now
  · exact acc_dropDispatch (cuniq_of_inv hi) h
  · intro r; exact h.qa (qa_liftT _ _)
  · intro t; exact h.qa .of_calls
  · intro t ms; exact h.qa ((qa_foldl _ (fun s m => qa_emit s _) _ _).after .of_calls)
  · intro n; exact h.qa (qa_onAdvance _ _)

theorem init_acc (k m b tc : Nat) (coupled : Bool) : AccA none (init k m b tc coupled) :=
  ⟨fun _ _ _ hm => (by cases hm)⟩

theorem reach_acc (m b tc : Nat) (coupled : Bool) (ops : List COp) :
    AccI none (ops.foldl applyOp (initSys m b tc coupled)).s := by
  refine ⟨AccA.acc ?_, (reach_wk m b tc coupled ops).acc_res⟩
  exact (foldl_keeps (P := fun c : Sys => Inv none (view c.s) ∧ AccA none c.s)
    (fun _ op h => ⟨applyOp_inv h.1 op, applyOp_acc h.1 h.2 op⟩) ops
    ⟨init_inv 0 m b tc coupled, init_acc 0 m b tc coupled⟩).2

end TarpcModel.Client
