import TarpcModel.Lemmas.ClientFlow
import TarpcModel.Lemmas.SimT
/-
How the dispatch's transport calls act on the instrumented transport `SimT` and on the client state:
a case principle and the field effects of each `SimT` operation (`pollReady`, `startSend`, `pollFlush`, `pollClose`,
`pollNext`), `tEmit` (the common shape of `tReady/tFlush/tClose/tSend`) as an explicit record update, and the effect /
frame lemmas of those calls on `St`; `FrameW` / `FrameP`: what the write pump leaves alone.
-/
namespace TarpcModel.Client.Flow

namespace SimT
open TarpcModel.SimT

@[simp] theorem violate_violations (t : SimT) (w : String) : (t.violate w).violations = w :: t.violations := rfl
@[simp] theorem violate_closed (t : SimT) (w : String) : (t.violate w).closed = t.closed := rfl
@[simp] theorem violate_failed (t : SimT) (w : String) : (t.violate w).failed = t.failed := rfl
@[simp] theorem violate_gotReady (t : SimT) (w : String) : (t.violate w).gotReady = t.gotReady := rfl
@[simp] theorem violate_buffered (t : SimT) (w : String) : (t.violate w).buffered = t.buffered := rfl
@[simp] theorem violate_writeWaker (t : SimT) (w : String) : (t.violate w).writeWaker = t.writeWaker := rfl
@[simp] theorem violate_faultReady (t : SimT) (w : String) : (t.violate w).faultReady = t.faultReady := rfl
@[simp] theorem violate_faultSend (t : SimT) (w : String) : (t.violate w).faultSend = t.faultSend := rfl
@[simp] theorem violate_faultFlush (t : SimT) (w : String) : (t.violate w).faultFlush = t.faultFlush := rfl
@[simp] theorem violate_faultClose (t : SimT) (w : String) : (t.violate w).faultClose = t.faultClose := rfl
@[simp] theorem violate_coupled (t : SimT) (w : String) : (t.violate w).coupled = t.coupled := rfl
@[simp] theorem violate_flushOpen (t : SimT) (w : String) : (t.violate w).flushOpen = t.flushOpen := rfl
@[simp] theorem violate_isReadyNow (t : SimT) (w : String) : (t.violate w).isReadyNow = t.isReadyNow := rfl

/-! #### fault countdown: `fires`, `letThrough` (only `faultSkip` changes) -/

@[simp] theorem letThrough_false (t : SimT) : t.letThrough false = t := rfl
@[simp] theorem fires_false (t : SimT) : t.fires false = false := rfl
theorem fires_true (t : SimT) : t.fires true = (t.faultSkip == 0) := by simp [fires]
@[simp] theorem violate_faultSkip (t : SimT) (w : String) : (t.violate w).faultSkip = t.faultSkip := rfl
@[simp] theorem violate_selfWake (t : SimT) (w : String) : (t.violate w).selfWake = t.selfWake := rfl
@[simp] theorem violate_faultNext (t : SimT) (w : String) : (t.violate w).faultNext = t.faultNext := rfl
@[simp] theorem violate_fires (t : SimT) (w : String) (a : Bool) : (t.violate w).fires a = t.fires a := rfl

@[simp] theorem useAfter_fires (t : SimT) (w : String) (a : Bool) : (t.useAfter w).fires a = t.fires a :=
  TarpcModel.SimT.useAfter_fires t w a

theorem useAfter_mem_failed (t : SimT) (what : String) (h : t.failed = true) :
    what ++ "-after-failure" ∈ (t.useAfter what).violations := by
  unfold useAfter; rw [if_pos h]; exact List.mem_cons_self ..

theorem useAfter_mem_closed (t : SimT) (what : String) (hf : t.failed = false) (hc : t.closed = true) :
    what ++ "-after-close" ∈ (t.useAfter what).violations := by
  unfold useAfter; rw [if_neg (by rw [hf]; exact Bool.false_ne_true), if_pos hc]; exact List.mem_cons_self ..

/-- `t'`'s log is `t`'s plus violations that all satisfy `P`. -/
def Adds (t t' : SimT) (P : String → Prop) : Prop :=
  ∃ l, t'.violations = l ++ t.violations ∧ ∀ w ∈ l, P w

theorem Adds.mono {t t' : SimT} (h : Adds t t' P) : ∀ w ∈ t.violations, w ∈ t'.violations := by
  obtain ⟨l, h1, _⟩ := h; intro w hw; rw [h1]; exact List.mem_append_right _ hw

theorem Adds.mem {t t' : SimT} (h : Adds t t' P) {w : String} (hw : w ∈ t'.violations) :
    w ∈ t.violations ∨ P w := by
  obtain ⟨l, h1, h2⟩ := h; rw [h1] at hw
  rcases List.mem_append.mp hw with h | h
  · exact .inr (h2 _ h)
  · exact .inl h

theorem useAfter_adds (t : SimT) (what : String) :
    Adds t (t.useAfter what) (fun w => (w = what ++ "-after-failure" ∧ t.failed = true) ∨
      (w = what ++ "-after-close" ∧ t.closed = true ∧ t.failed = false)) := by
  rcases useAfter_violations t what with h | ⟨h1, h⟩ | ⟨h1, h2, h⟩
  · exact ⟨[], by simp [h], by simp⟩
  · exact ⟨[what ++ "-after-failure"], by simp [h], by simp [h1]⟩
  · exact ⟨[what ++ "-after-close"], by simp [h], by simp [h1, h2]⟩

/-! #### the operations, branch by branch (`…_out` of `Lemmas/SimT.lean` as elimination principles) -/

theorem pollReady_cases {motive : SimT × PollRes × Bool → Prop} (t : SimT)
    (err : motive ({ t.useAfter "ready" with faultReady := false, failed := true }, .err, false))
    (ready : motive ({ (t.useAfter "ready").letThrough (t.useAfter "ready").faultReady with gotReady := true },
      .ready, false))
    (pending : motive ({ (t.useAfter "ready").letThrough (t.useAfter "ready").faultReady with writeWaker := true },
      .pending, false)) :
    motive t.pollReady := by
  obtain ⟨_, _, rfl, rfl, h⟩ := pollReady_out t
  rcases h with ⟨_, he⟩ | ⟨_, _, he⟩ | ⟨_, _, he⟩ <;> rw [he] <;> assumption

theorem startSend_cases {motive : SimT × Bool → Prop} (t : SimT) (m : Msg)
    (err : ∀ u, u = (if (t.useAfter "send").gotReady then t.useAfter "send"
        else (t.useAfter "send").violate "send-without-ready") →
      motive ({ u with faultSend := false, gotReady := false }, false))
    (ok : ∀ u, u = (if (t.useAfter "send").gotReady then t.useAfter "send"
        else (t.useAfter "send").violate "send-without-ready") →
      motive ({ u.letThrough u.faultSend with
        buffered := (u.letThrough u.faultSend).buffered ++ [m], sentLog := (u.letThrough u.faultSend).sentLog ++ [m],
        gotReady := false }, true)) :
    motive (t.startSend m) := by
  obtain ⟨u, hu, h⟩ := startSend_out t m
  rcases h with ⟨_, he⟩ | ⟨_, he⟩ <;> rw [he]
  · exact err u hu
  · exact ok u hu

theorem drain_cases {motive : SimT × Bool → Prop} (t : SimT)
    (woke : motive ({ t with wire := t.wire ++ t.buffered, buffered := [], writeWaker := false }, true))
    (quiet : motive ({ t with wire := t.wire ++ t.buffered, buffered := [] }, false)) :
    motive t.drain := by
  obtain ⟨_, rfl, ⟨_, h⟩ | ⟨_, h⟩⟩ := drain_out t <;> rw [h] <;> assumption

theorem pollFlush_cases {motive : SimT × PollRes × Bool → Prop} (t : SimT)
    (err : motive ({ t.useAfter "flush" with faultFlush := false, failed := true }, .err, false))
    (pending : motive ({ (t.useAfter "flush").letThrough (t.useAfter "flush").faultFlush with writeWaker := true },
      .pending, false))
    (ready : motive (((t.useAfter "flush").letThrough (t.useAfter "flush").faultFlush).drain.1, .ready,
      ((t.useAfter "flush").letThrough (t.useAfter "flush").faultFlush).drain.2)) :
    motive t.pollFlush := by
  obtain ⟨_, _, rfl, rfl, h⟩ := pollFlush_out t
  rcases h with ⟨_, he⟩ | ⟨_, _, he⟩ | ⟨_, _, he⟩ <;> rw [he] <;> assumption

theorem pollClose_cases {motive : SimT × PollRes × Bool → Prop} (t : SimT)
    (err : motive ({ t.useAfter "close" with faultClose := false, failed := true }, .err, false))
    (pending : motive ({ (t.useAfter "close").letThrough (t.useAfter "close").faultClose with writeWaker := true },
      .pending, false))
    (ready : motive ({ ((t.useAfter "close").letThrough (t.useAfter "close").faultClose).drain.1 with closed := true },
      .ready, ((t.useAfter "close").letThrough (t.useAfter "close").faultClose).drain.2)) :
    motive t.pollClose := by
  obtain ⟨_, _, rfl, rfl, h⟩ := pollClose_out t
  rcases h with ⟨_, he⟩ | ⟨_, _, he⟩ | ⟨_, _, he⟩ <;> rw [he] <;> assumption

theorem pollNext_cases {motive : SimT × NextRes → Prop} (t : SimT)
    (fault : motive ({ t with faultNext := false }, .err))
    (msg : ∀ m rest, t.inbound = .msg m :: rest → motive ({ t.letThrough t.faultNext with inbound := rest }, .item m))
    (err : ∀ rest, t.inbound = .err :: rest → motive ({ t.letThrough t.faultNext with inbound := rest }, .err))
    (eof : t.inbound = [] → motive (t.letThrough t.faultNext, .eof))
    (pending : t.inbound = [] → motive ({ t.letThrough t.faultNext with readWaker := true }, .pending)) :
    motive t.pollNext := by
  unfold pollNext; dsimp only; split
  · exact fault
  · split
    · rename_i h; rw [letThrough_inbound] at h; exact msg _ _ h
    · rename_i h; rw [letThrough_inbound] at h; exact err _ h
    · rename_i h; rw [letThrough_inbound] at h; split
      · exact eof h
      · exact pending h

/-! #### `pollReady` -/

theorem pollReady_closed (t : SimT) : t.pollReady.1.closed = t.closed :=
  pollReady_cases (motive := fun p => p.1.closed = t.closed) t (by simp) (by simp) (by simp)

theorem pollReady_failed (t : SimT) : t.pollReady.1.failed = (t.failed || t.pollReady.2.1 == .err) :=
  pollReady_cases (motive := fun p => p.1.failed = (t.failed || p.2.1 == .err)) t (by simp) (by simp) (by simp)

theorem pollReady_gotReady (t : SimT) : t.pollReady.1.gotReady = (t.gotReady || t.pollReady.2.1 == .ready) :=
  pollReady_cases (motive := fun p => p.1.gotReady = (t.gotReady || p.2.1 == .ready)) t (by simp) (by simp) (by simp)

theorem pollReady_pending (t : SimT) (h : t.pollReady.2.1 = .pending) : t.pollReady.1.writeWaker = true := by
  revert h
  exact pollReady_cases (motive := fun p => p.2.1 = .pending → p.1.writeWaker = true) t (by simp) (by simp) (by simp)

theorem pollReady_woke (t : SimT) : t.pollReady.2.2 = false :=
  pollReady_cases (motive := fun p => p.2.2 = false) t rfl rfl rfl

theorem pollReady_violations (t : SimT) : t.pollReady.1.violations = (t.useAfter "ready").violations :=
  pollReady_cases (motive := fun p => p.1.violations = (t.useAfter "ready").violations) t rfl (by simp) (by simp)

theorem pollReady_buffered (t : SimT) : t.pollReady.1.buffered = t.buffered :=
  pollReady_cases (motive := fun p => p.1.buffered = t.buffered) t (by simp) (by simp) (by simp)

/-! #### `startSend` -/

theorem startSend_closed (t : SimT) (m : Msg) : (t.startSend m).1.closed = t.closed := by
  refine startSend_cases (motive := fun p => p.1.closed = t.closed) t m ?_ ?_ <;>
    (rintro u rfl; split <;> simp)

theorem startSend_failed (t : SimT) (m : Msg) : (t.startSend m).1.failed = t.failed := by
  refine startSend_cases (motive := fun p => p.1.failed = t.failed) t m ?_ ?_ <;>
    (rintro u rfl; split <;> simp)

theorem startSend_gotReady (t : SimT) (m : Msg) : (t.startSend m).1.gotReady = false :=
  startSend_cases (motive := fun p => p.1.gotReady = false) t m (fun _ _ => rfl) (fun _ _ => rfl)

theorem startSend_violations (t : SimT) (m : Msg) : (t.startSend m).1.violations =
    if t.gotReady then (t.useAfter "send").violations else "send-without-ready" :: (t.useAfter "send").violations := by
  refine startSend_cases (motive := fun p => p.1.violations = _) t m ?_ ?_ <;>
    (rintro u rfl; rw [useAfter_gotReady]; split <;> simp)

theorem startSend_adds (t : SimT) (m : Msg) :
    Adds t (t.startSend m).1 (fun w => (w = "send-after-failure" ∧ t.failed = true) ∨
      (w = "send-after-close" ∧ t.closed = true ∧ t.failed = false) ∨
      (w = "send-without-ready" ∧ t.gotReady = false)) := by
  obtain ⟨l, h1, h2⟩ := useAfter_adds t "send"
  have hv := startSend_violations t m
  by_cases hg : t.gotReady = true
  · refine ⟨l, ?_, ?_⟩
    · rw [hv]; simp [hg, h1]
    · intro w hw
      rcases h2 w hw with ⟨e, f⟩ | ⟨e, c, f⟩
      · exact .inl ⟨by rw [e]; decide, f⟩
      · exact .inr (.inl ⟨by rw [e]; decide, c, f⟩)
  · refine ⟨"send-without-ready" :: l, ?_, ?_⟩
    · rw [hv]; simp [hg, h1]
    · intro w hw
      rcases List.mem_cons.mp hw with e | hw
      · exact .inr (.inr ⟨e, by simpa using hg⟩)
      · rcases h2 w hw with ⟨e, f⟩ | ⟨e, c, f⟩
        · exact .inl ⟨by rw [e]; decide, f⟩
        · exact .inr (.inl ⟨by rw [e]; decide, c, f⟩)

theorem startSend_buffered (t : SimT) (m : Msg) :
    (t.startSend m).1.buffered = if (t.startSend m).2 then t.buffered ++ [m] else t.buffered := by
  refine startSend_cases (motive := fun p => p.1.buffered = if p.2 then t.buffered ++ [m] else t.buffered) t m ?_ ?_ <;>
    (rintro u rfl; split <;> simp)

/-! #### `drain`, `pollFlush`, `pollClose` -/

theorem drain_closed (t : SimT) : t.drain.1.closed = t.closed := drain_cases (motive := fun p => p.1.closed = _) t rfl rfl
theorem drain_failed (t : SimT) : t.drain.1.failed = t.failed := drain_cases (motive := fun p => p.1.failed = _) t rfl rfl
theorem drain_violations (t : SimT) : t.drain.1.violations = t.violations :=
  drain_cases (motive := fun p => p.1.violations = _) t rfl rfl
theorem drain_buffered (t : SimT) : t.drain.1.buffered = [] := drain_cases (motive := fun p => p.1.buffered = _) t rfl rfl
theorem drain_gotReady (t : SimT) : t.drain.1.gotReady = t.gotReady :=
  drain_cases (motive := fun p => p.1.gotReady = _) t rfl rfl
theorem drain_inbound (t : SimT) : t.drain.1.inbound = t.inbound := (wkeep_drain t).inbound

theorem pollFlush_closed (t : SimT) : t.pollFlush.1.closed = t.closed :=
  pollFlush_cases (motive := fun p => p.1.closed = t.closed) t (by simp) (by simp) (by simp [drain_closed])

theorem pollFlush_failed (t : SimT) : t.pollFlush.1.failed = (t.failed || t.pollFlush.2.1 == .err) :=
  pollFlush_cases (motive := fun p => p.1.failed = (t.failed || p.2.1 == .err)) t (by simp) (by simp)
    (by simp [drain_failed])

theorem pollFlush_gotReady (t : SimT) : t.pollFlush.1.gotReady = t.gotReady :=
  pollFlush_cases (motive := fun p => p.1.gotReady = t.gotReady) t (by simp) (by simp) (by simp [drain_gotReady])

theorem pollFlush_violations (t : SimT) : t.pollFlush.1.violations = (t.useAfter "flush").violations :=
  pollFlush_cases (motive := fun p => p.1.violations = (t.useAfter "flush").violations) t rfl (by simp)
    (by simp [drain_violations])

/-- After a flush that did not fail, nothing is left buffered or the waker is registered. -/
theorem pollFlush_flushed (t : SimT) :
    (t.pollFlush.2.1 = .pending → t.pollFlush.1.writeWaker = true) ∧
    (t.pollFlush.2.1 = .ready → t.pollFlush.1.buffered = []) :=
  pollFlush_cases (motive := fun p => (p.2.1 = .pending → p.1.writeWaker = true) ∧ (p.2.1 = .ready → p.1.buffered = []))
    t (by simp) (by simp) (by simp [drain_buffered])

theorem pollClose_closed (t : SimT) : t.pollClose.1.closed = (t.closed || t.pollClose.2.1 == .ready) :=
  pollClose_cases (motive := fun p => p.1.closed = (t.closed || p.2.1 == .ready)) t (by simp) (by simp) (by simp)

theorem pollClose_failed (t : SimT) : t.pollClose.1.failed = (t.failed || t.pollClose.2.1 == .err) :=
  pollClose_cases (motive := fun p => p.1.failed = (t.failed || p.2.1 == .err)) t (by simp) (by simp)
    (by simp [drain_failed])

theorem pollClose_gotReady (t : SimT) : t.pollClose.1.gotReady = t.gotReady :=
  pollClose_cases (motive := fun p => p.1.gotReady = t.gotReady) t (by simp) (by simp) (by simp [drain_gotReady])

theorem pollClose_violations (t : SimT) : t.pollClose.1.violations = (t.useAfter "close").violations :=
  pollClose_cases (motive := fun p => p.1.violations = (t.useAfter "close").violations) t rfl (by simp)
    (by simp [drain_violations])

theorem pollClose_flushed (t : SimT) :
    (t.pollClose.2.1 = .pending → t.pollClose.1.writeWaker = true) ∧
    (t.pollClose.2.1 = .ready → t.pollClose.1.buffered = []) :=
  pollClose_cases (motive := fun p => (p.2.1 = .pending → p.1.writeWaker = true) ∧ (p.2.1 = .ready → p.1.buffered = []))
    t (by simp) (by simp) (by simp [drain_buffered])

/-! #### `pollNext` -/

theorem pollNext_closed (t : SimT) : t.pollNext.1.closed = t.closed := by
  obtain ⟨i, r, f, k, h⟩ := pollNext_frame t; rw [h]
theorem pollNext_failed (t : SimT) : t.pollNext.1.failed = t.failed := by
  obtain ⟨i, r, f, k, h⟩ := pollNext_frame t; rw [h]
theorem pollNext_violations (t : SimT) : t.pollNext.1.violations = t.violations := by
  obtain ⟨i, r, f, k, h⟩ := pollNext_frame t; rw [h]
theorem pollNext_gotReady (t : SimT) : t.pollNext.1.gotReady = t.gotReady := by
  obtain ⟨i, r, f, k, h⟩ := pollNext_frame t; rw [h]
theorem pollNext_buffered (t : SimT) : t.pollNext.1.buffered = t.buffered := by
  obtain ⟨i, r, f, k, h⟩ := pollNext_frame t; rw [h]
theorem pollNext_writeWaker (t : SimT) : t.pollNext.1.writeWaker = t.writeWaker := by
  obtain ⟨i, r, f, k, h⟩ := pollNext_frame t; rw [h]

/-! #### the write-side calls leave the read side alone -/

theorem pollClose_inbound (t : SimT) : t.pollClose.1.inbound = t.inbound := (wkeep_pollClose t).inbound

end SimT

/-! ### the common shape of `tReady / tFlush / tClose / tSend` -/

theorem emitViolations_foldl (ws : List String) (s : St) :
    ws.foldl (fun s w => emit s (.tViolation (tid s) w)) s =
      { s with obs := (ws.map (fun w => Obs.tViolation (tid s) w)).reverse ++ s.obs } := by
  induction ws generalizing s with
  | nil => rfl
  | cons w ws ih => rw [List.foldl_cons, ih]; simp [emit, tid]

/-- `emitViolations` only extends `obs`, by the violations recorded since the log had length `n`. -/
theorem emitViolations_eq (s : St) (n : Nat) : emitViolations s n =
    { s with obs := (s.t.violations.take (s.t.violations.length - n)).map (fun w => Obs.tViolation (tid s) w) ++ s.obs } := by
  unfold emitViolations; rw [emitViolations_foldl]; simp

/-- The observations for the violations the call just recorded. -/
def newViolObs (s : St) (t' : SimT) : List Obs :=
  (t'.violations.take (t'.violations.length - s.t.violations.length)).map (fun w => Obs.tViolation (tid s) w)

theorem mem_newViolObs {s : St} {t' : SimT} {x : Obs} (h : x ∈ newViolObs s t') :
    ∃ v ∈ t'.violations, x = .tViolation (tid s) v := by
  obtain ⟨v, hv, rfl⟩ := List.mem_map.mp h
  exact ⟨v, List.mem_of_mem_take hv, rfl⟩

/-- `tEmit` as an explicit record update. -/
theorem tEmit_update (s : St) (t' : SimT) (o : Obs) (w : Bool) : tEmit s t' o w =
    if (w && !(s.dDropped || s.done.isSome)) = true then
      { s with t := t', obs := .wake (.dispatch s.k) :: o :: (newViolObs s t' ++ s.obs), dWoken := true }
    else { s with t := t', obs := o :: (newViolObs s t' ++ s.obs) } := by
  unfold tEmit
  simp only [emitViolations_eq]
  cases w
  · simp [emit, newViolObs, tid]
  · by_cases h : (s.dDropped || s.done.isSome) = true
    · simp [emit, newViolObs, tid, wakeDispatch, h]
    · simp [emit, newViolObs, tid, wakeDispatch, h]

theorem tEmit_eq (s : St) (t' : SimT) (o : Obs) (w : Bool) :
    ∃ l dw, tEmit s t' o w = { s with t := t', obs := l ++ s.obs, dWoken := dw } ∧
      (∀ x ∈ l, x = o ∨ x = .wake (.dispatch s.k) ∨ ∃ v ∈ t'.violations, x = .tViolation (tid s) v) ∧
      (isT o = true → (l.filter isT).head? = some o) := by
  rw [tEmit_update]
  split
  · refine ⟨.wake (.dispatch s.k) :: o :: newViolObs s t', true, rfl, ?_, ?_⟩
    · intro x hx
      rcases List.mem_cons.mp hx with h | hx
      · exact .inr (.inl h)
      rcases List.mem_cons.mp hx with h | h
      · exact .inl h
      · exact .inr (.inr (mem_newViolObs h))
    · intro ho; simp [ho]
  · refine ⟨o :: newViolObs s t', s.dWoken, rfl, ?_, ?_⟩
    · intro x hx
      rcases List.mem_cons.mp hx with h | h
      · exact .inl h
      · exact .inr (.inr (mem_newViolObs h))
    · intro ho; simp [ho]

/-! ### field frames of the transport calls -/

@[simp] theorem tEmit_t (s : St) (t' : SimT) (o : Obs) (w : Bool) : (tEmit s t' o w).t = t' := by
  rw [tEmit_update]; split <;> rfl
@[simp] theorem tEmit_k (s : St) (t' : SimT) (o : Obs) (w : Bool) : (tEmit s t' o w).k = s.k := by
  rw [tEmit_update]; split <;> rfl
@[simp] theorem tEmit_maxInFlight (s : St) (t' : SimT) (o : Obs) (w : Bool) : (tEmit s t' o w).maxInFlight = s.maxInFlight := by
  rw [tEmit_update]; split <;> rfl
@[simp] theorem tEmit_bufCap (s : St) (t' : SimT) (o : Obs) (w : Bool) : (tEmit s t' o w).bufCap = s.bufCap := by
  rw [tEmit_update]; split <;> rfl
@[simp] theorem tEmit_ensureLoop (s : St) (t' : SimT) (o : Obs) (w : Bool) : (tEmit s t' o w).ensureLoop = s.ensureLoop := by
  rw [tEmit_update]; split <;> rfl
@[simp] theorem tEmit_handles (s : St) (t' : SimT) (o : Obs) (w : Bool) : (tEmit s t' o w).handles = s.handles := by
  rw [tEmit_update]; split <;> rfl
@[simp] theorem tEmit_nextHandle (s : St) (t' : SimT) (o : Obs) (w : Bool) : (tEmit s t' o w).nextHandle = s.nextHandle := by
  rw [tEmit_update]; split <;> rfl
@[simp] theorem tEmit_nextId (s : St) (t' : SimT) (o : Obs) (w : Bool) : (tEmit s t' o w).nextId = s.nextId := by
  rw [tEmit_update]; split <;> rfl
@[simp] theorem tEmit_nextFresh (s : St) (t' : SimT) (o : Obs) (w : Bool) : (tEmit s t' o w).nextFresh = s.nextFresh := by
  rw [tEmit_update]; split <;> rfl
@[simp] theorem tEmit_calls (s : St) (t' : SimT) (o : Obs) (w : Bool) : (tEmit s t' o w).calls = s.calls := by
  rw [tEmit_update]; split <;> rfl
@[simp] theorem tEmit_pq (s : St) (t' : SimT) (o : Obs) (w : Bool) : (tEmit s t' o w).pq = s.pq := by
  rw [tEmit_update]; split <;> rfl
@[simp] theorem tEmit_pqAvail (s : St) (t' : SimT) (o : Obs) (w : Bool) : (tEmit s t' o w).pqAvail = s.pqAvail := by
  rw [tEmit_update]; split <;> rfl
@[simp] theorem tEmit_pqWaiters (s : St) (t' : SimT) (o : Obs) (w : Bool) : (tEmit s t' o w).pqWaiters = s.pqWaiters := by
  rw [tEmit_update]; split <;> rfl
@[simp] theorem tEmit_pqAssigned (s : St) (t' : SimT) (o : Obs) (w : Bool) : (tEmit s t' o w).pqAssigned = s.pqAssigned := by
  rw [tEmit_update]; split <;> rfl
@[simp] theorem tEmit_pqClosed (s : St) (t' : SimT) (o : Obs) (w : Bool) : (tEmit s t' o w).pqClosed = s.pqClosed := by
  rw [tEmit_update]; split <;> rfl
@[simp] theorem tEmit_pqRxWaker (s : St) (t' : SimT) (o : Obs) (w : Bool) : (tEmit s t' o w).pqRxWaker = s.pqRxWaker := by
  rw [tEmit_update]; split <;> rfl
@[simp] theorem tEmit_cq (s : St) (t' : SimT) (o : Obs) (w : Bool) : (tEmit s t' o w).cq = s.cq := by
  rw [tEmit_update]; split <;> rfl
@[simp] theorem tEmit_cqRxWaker (s : St) (t' : SimT) (o : Obs) (w : Bool) : (tEmit s t' o w).cqRxWaker = s.cqRxWaker := by
  rw [tEmit_update]; split <;> rfl
@[simp] theorem tEmit_inflight (s : St) (t' : SimT) (o : Obs) (w : Bool) : (tEmit s t' o w).inflight = s.inflight := by
  rw [tEmit_update]; split <;> rfl
@[simp] theorem tEmit_timers (s : St) (t' : SimT) (o : Obs) (w : Bool) : (tEmit s t' o w).timers = s.timers := by
  rw [tEmit_update]; split <;> rfl
@[simp] theorem tEmit_termErr (s : St) (t' : SimT) (o : Obs) (w : Bool) : (tEmit s t' o w).termErr = s.termErr := by
  rw [tEmit_update]; split <;> rfl
@[simp] theorem tEmit_readFused (s : St) (t' : SimT) (o : Obs) (w : Bool) : (tEmit s t' o w).readFused = s.readFused := by
  rw [tEmit_update]; split <;> rfl
@[simp] theorem tEmit_done (s : St) (t' : SimT) (o : Obs) (w : Bool) : (tEmit s t' o w).done = s.done := by
  rw [tEmit_update]; split <;> rfl
@[simp] theorem tEmit_dDropped (s : St) (t' : SimT) (o : Obs) (w : Bool) : (tEmit s t' o w).dDropped = s.dDropped := by
  rw [tEmit_update]; split <;> rfl
@[simp] theorem tEmit_poisoned (s : St) (t' : SimT) (o : Obs) (w : Bool) : (tEmit s t' o w).poisoned = s.poisoned := by
  rw [tEmit_update]; split <;> rfl
@[simp] theorem tReady_nextHandle (s : St) : (tReady s).1.nextHandle = s.nextHandle := tEmit_nextHandle _ _ _ _
@[simp] theorem tReady_nextId (s : St) : (tReady s).1.nextId = s.nextId := tEmit_nextId _ _ _ _
@[simp] theorem tReady_nextFresh (s : St) : (tReady s).1.nextFresh = s.nextFresh := tEmit_nextFresh _ _ _ _
@[simp] theorem tReady_calls (s : St) : (tReady s).1.calls = s.calls := tEmit_calls _ _ _ _
@[simp] theorem tReady_pq (s : St) : (tReady s).1.pq = s.pq := tEmit_pq _ _ _ _
@[simp] theorem tReady_pqAvail (s : St) : (tReady s).1.pqAvail = s.pqAvail := tEmit_pqAvail _ _ _ _
@[simp] theorem tReady_pqWaiters (s : St) : (tReady s).1.pqWaiters = s.pqWaiters := tEmit_pqWaiters _ _ _ _
@[simp] theorem tReady_pqAssigned (s : St) : (tReady s).1.pqAssigned = s.pqAssigned := tEmit_pqAssigned _ _ _ _
@[simp] theorem tReady_pqClosed (s : St) : (tReady s).1.pqClosed = s.pqClosed := tEmit_pqClosed _ _ _ _
@[simp] theorem tReady_pqRxWaker (s : St) : (tReady s).1.pqRxWaker = s.pqRxWaker := tEmit_pqRxWaker _ _ _ _
@[simp] theorem tReady_cq (s : St) : (tReady s).1.cq = s.cq := tEmit_cq _ _ _ _
@[simp] theorem tReady_cqRxWaker (s : St) : (tReady s).1.cqRxWaker = s.cqRxWaker := tEmit_cqRxWaker _ _ _ _
@[simp] theorem tReady_inflight (s : St) : (tReady s).1.inflight = s.inflight := tEmit_inflight _ _ _ _
@[simp] theorem tReady_timers (s : St) : (tReady s).1.timers = s.timers := tEmit_timers _ _ _ _
@[simp] theorem tReady_termErr (s : St) : (tReady s).1.termErr = s.termErr := tEmit_termErr _ _ _ _
@[simp] theorem tReady_readFused (s : St) : (tReady s).1.readFused = s.readFused := tEmit_readFused _ _ _ _
@[simp] theorem tReady_done (s : St) : (tReady s).1.done = s.done := tEmit_done _ _ _ _
@[simp] theorem tReady_dDropped (s : St) : (tReady s).1.dDropped = s.dDropped := tEmit_dDropped _ _ _ _
@[simp] theorem tReady_poisoned (s : St) : (tReady s).1.poisoned = s.poisoned := tEmit_poisoned _ _ _ _
@[simp] theorem tFlush_nextHandle (s : St) : (tFlush s).1.nextHandle = s.nextHandle := tEmit_nextHandle _ _ _ _
@[simp] theorem tFlush_nextId (s : St) : (tFlush s).1.nextId = s.nextId := tEmit_nextId _ _ _ _
@[simp] theorem tFlush_nextFresh (s : St) : (tFlush s).1.nextFresh = s.nextFresh := tEmit_nextFresh _ _ _ _
@[simp] theorem tFlush_calls (s : St) : (tFlush s).1.calls = s.calls := tEmit_calls _ _ _ _
@[simp] theorem tFlush_pq (s : St) : (tFlush s).1.pq = s.pq := tEmit_pq _ _ _ _
@[simp] theorem tFlush_pqAvail (s : St) : (tFlush s).1.pqAvail = s.pqAvail := tEmit_pqAvail _ _ _ _
@[simp] theorem tFlush_pqWaiters (s : St) : (tFlush s).1.pqWaiters = s.pqWaiters := tEmit_pqWaiters _ _ _ _
@[simp] theorem tFlush_pqAssigned (s : St) : (tFlush s).1.pqAssigned = s.pqAssigned := tEmit_pqAssigned _ _ _ _
@[simp] theorem tFlush_pqClosed (s : St) : (tFlush s).1.pqClosed = s.pqClosed := tEmit_pqClosed _ _ _ _
@[simp] theorem tFlush_pqRxWaker (s : St) : (tFlush s).1.pqRxWaker = s.pqRxWaker := tEmit_pqRxWaker _ _ _ _
@[simp] theorem tFlush_cq (s : St) : (tFlush s).1.cq = s.cq := tEmit_cq _ _ _ _
@[simp] theorem tFlush_cqRxWaker (s : St) : (tFlush s).1.cqRxWaker = s.cqRxWaker := tEmit_cqRxWaker _ _ _ _
@[simp] theorem tFlush_inflight (s : St) : (tFlush s).1.inflight = s.inflight := tEmit_inflight _ _ _ _
@[simp] theorem tFlush_timers (s : St) : (tFlush s).1.timers = s.timers := tEmit_timers _ _ _ _
@[simp] theorem tFlush_termErr (s : St) : (tFlush s).1.termErr = s.termErr := tEmit_termErr _ _ _ _
@[simp] theorem tFlush_readFused (s : St) : (tFlush s).1.readFused = s.readFused := tEmit_readFused _ _ _ _
@[simp] theorem tFlush_done (s : St) : (tFlush s).1.done = s.done := tEmit_done _ _ _ _
@[simp] theorem tFlush_dDropped (s : St) : (tFlush s).1.dDropped = s.dDropped := tEmit_dDropped _ _ _ _
@[simp] theorem tFlush_poisoned (s : St) : (tFlush s).1.poisoned = s.poisoned := tEmit_poisoned _ _ _ _
@[simp] theorem tClose_nextHandle (s : St) : (tClose s).1.nextHandle = s.nextHandle := tEmit_nextHandle _ _ _ _
@[simp] theorem tClose_nextId (s : St) : (tClose s).1.nextId = s.nextId := tEmit_nextId _ _ _ _
@[simp] theorem tClose_nextFresh (s : St) : (tClose s).1.nextFresh = s.nextFresh := tEmit_nextFresh _ _ _ _
@[simp] theorem tClose_calls (s : St) : (tClose s).1.calls = s.calls := tEmit_calls _ _ _ _
@[simp] theorem tClose_pq (s : St) : (tClose s).1.pq = s.pq := tEmit_pq _ _ _ _
@[simp] theorem tClose_pqAvail (s : St) : (tClose s).1.pqAvail = s.pqAvail := tEmit_pqAvail _ _ _ _
@[simp] theorem tClose_pqWaiters (s : St) : (tClose s).1.pqWaiters = s.pqWaiters := tEmit_pqWaiters _ _ _ _
@[simp] theorem tClose_pqAssigned (s : St) : (tClose s).1.pqAssigned = s.pqAssigned := tEmit_pqAssigned _ _ _ _
@[simp] theorem tClose_pqClosed (s : St) : (tClose s).1.pqClosed = s.pqClosed := tEmit_pqClosed _ _ _ _
@[simp] theorem tClose_pqRxWaker (s : St) : (tClose s).1.pqRxWaker = s.pqRxWaker := tEmit_pqRxWaker _ _ _ _
@[simp] theorem tClose_cq (s : St) : (tClose s).1.cq = s.cq := tEmit_cq _ _ _ _
@[simp] theorem tClose_cqRxWaker (s : St) : (tClose s).1.cqRxWaker = s.cqRxWaker := tEmit_cqRxWaker _ _ _ _
@[simp] theorem tClose_inflight (s : St) : (tClose s).1.inflight = s.inflight := tEmit_inflight _ _ _ _
@[simp] theorem tClose_timers (s : St) : (tClose s).1.timers = s.timers := tEmit_timers _ _ _ _
@[simp] theorem tClose_termErr (s : St) : (tClose s).1.termErr = s.termErr := tEmit_termErr _ _ _ _
@[simp] theorem tClose_readFused (s : St) : (tClose s).1.readFused = s.readFused := tEmit_readFused _ _ _ _
@[simp] theorem tClose_done (s : St) : (tClose s).1.done = s.done := tEmit_done _ _ _ _
@[simp] theorem tClose_dDropped (s : St) : (tClose s).1.dDropped = s.dDropped := tEmit_dDropped _ _ _ _
@[simp] theorem tClose_poisoned (s : St) : (tClose s).1.poisoned = s.poisoned := tEmit_poisoned _ _ _ _
@[simp] theorem tSend_nextHandle (s : St) (m : Msg) : (tSend s m).1.nextHandle = s.nextHandle := by rw [tSend_eq]; exact tEmit_nextHandle _ _ _ _
@[simp] theorem tSend_nextId (s : St) (m : Msg) : (tSend s m).1.nextId = s.nextId := by rw [tSend_eq]; exact tEmit_nextId _ _ _ _
@[simp] theorem tSend_nextFresh (s : St) (m : Msg) : (tSend s m).1.nextFresh = s.nextFresh := by rw [tSend_eq]; exact tEmit_nextFresh _ _ _ _
@[simp] theorem tSend_calls (s : St) (m : Msg) : (tSend s m).1.calls = s.calls := by rw [tSend_eq]; exact tEmit_calls _ _ _ _
@[simp] theorem tSend_pq (s : St) (m : Msg) : (tSend s m).1.pq = s.pq := by rw [tSend_eq]; exact tEmit_pq _ _ _ _
@[simp] theorem tSend_pqAvail (s : St) (m : Msg) : (tSend s m).1.pqAvail = s.pqAvail := by rw [tSend_eq]; exact tEmit_pqAvail _ _ _ _
@[simp] theorem tSend_pqWaiters (s : St) (m : Msg) : (tSend s m).1.pqWaiters = s.pqWaiters := by rw [tSend_eq]; exact tEmit_pqWaiters _ _ _ _
@[simp] theorem tSend_pqAssigned (s : St) (m : Msg) : (tSend s m).1.pqAssigned = s.pqAssigned := by rw [tSend_eq]; exact tEmit_pqAssigned _ _ _ _
@[simp] theorem tSend_pqClosed (s : St) (m : Msg) : (tSend s m).1.pqClosed = s.pqClosed := by rw [tSend_eq]; exact tEmit_pqClosed _ _ _ _
@[simp] theorem tSend_pqRxWaker (s : St) (m : Msg) : (tSend s m).1.pqRxWaker = s.pqRxWaker := by rw [tSend_eq]; exact tEmit_pqRxWaker _ _ _ _
@[simp] theorem tSend_cq (s : St) (m : Msg) : (tSend s m).1.cq = s.cq := by rw [tSend_eq]; exact tEmit_cq _ _ _ _
@[simp] theorem tSend_cqRxWaker (s : St) (m : Msg) : (tSend s m).1.cqRxWaker = s.cqRxWaker := by rw [tSend_eq]; exact tEmit_cqRxWaker _ _ _ _
@[simp] theorem tSend_inflight (s : St) (m : Msg) : (tSend s m).1.inflight = s.inflight := by rw [tSend_eq]; exact tEmit_inflight _ _ _ _
@[simp] theorem tSend_timers (s : St) (m : Msg) : (tSend s m).1.timers = s.timers := by rw [tSend_eq]; exact tEmit_timers _ _ _ _
@[simp] theorem tSend_termErr (s : St) (m : Msg) : (tSend s m).1.termErr = s.termErr := by rw [tSend_eq]; exact tEmit_termErr _ _ _ _
@[simp] theorem tSend_readFused (s : St) (m : Msg) : (tSend s m).1.readFused = s.readFused := by rw [tSend_eq]; exact tEmit_readFused _ _ _ _
@[simp] theorem tSend_done (s : St) (m : Msg) : (tSend s m).1.done = s.done := by rw [tSend_eq]; exact tEmit_done _ _ _ _
@[simp] theorem tSend_dDropped (s : St) (m : Msg) : (tSend s m).1.dDropped = s.dDropped := by rw [tSend_eq]; exact tEmit_dDropped _ _ _ _
@[simp] theorem tSend_poisoned (s : St) (m : Msg) : (tSend s m).1.poisoned = s.poisoned := by rw [tSend_eq]; exact tEmit_poisoned _ _ _ _

@[simp] theorem tReady_t (s : St) : (tReady s).1.t = s.t.pollReady.1 := tEmit_t _ _ _ _
@[simp] theorem tFlush_t (s : St) : (tFlush s).1.t = s.t.pollFlush.1 := tEmit_t _ _ _ _
@[simp] theorem tClose_t (s : St) : (tClose s).1.t = s.t.pollClose.1 := tEmit_t _ _ _ _
@[simp] theorem tSend_t (s : St) (m : Msg) : (tSend s m).1.t = (s.t.startSend m).1 := by rw [tSend_eq]; exact tEmit_t _ _ _ _
@[simp] theorem tReady_res (s : St) : (tReady s).2 = s.t.pollReady.2.1 := rfl
@[simp] theorem tFlush_res (s : St) : (tFlush s).2 = s.t.pollFlush.2.1 := rfl
@[simp] theorem tClose_res (s : St) : (tClose s).2 = s.t.pollClose.2.1 := rfl
@[simp] theorem tSend_res (s : St) (m : Msg) : (tSend s m).2 = (s.t.startSend m).2 := rfl

/-- `tNext` as an explicit record update. -/
theorem tNext_eq (s : St) : tNext s =
    if s.readFused = true then (s, .eof)
    else ({ s with t := s.t.pollNext.1, obs := .tNext (tid s) s.t.pollNext.2 :: s.obs,
                   readFused := (s.t.pollNext.2 == .eof) }, s.t.pollNext.2) := by
  unfold tNext
  by_cases hf : s.readFused = true
  · simp [hf]
  · simp only [hf, Bool.false_eq_true, ↓reduceIte, emit]
    by_cases he : (s.t.pollNext.2 == .eof) = true
    · simp [he]
    · have : s.readFused = false := by simpa using hf
      simp [he]

@[simp] theorem tNext_nextHandle (s : St) : (tNext s).1.nextHandle = s.nextHandle := by rw [tNext_eq]; split <;> rfl
@[simp] theorem tNext_nextId (s : St) : (tNext s).1.nextId = s.nextId := by rw [tNext_eq]; split <;> rfl
@[simp] theorem tNext_nextFresh (s : St) : (tNext s).1.nextFresh = s.nextFresh := by rw [tNext_eq]; split <;> rfl
@[simp] theorem tNext_calls (s : St) : (tNext s).1.calls = s.calls := by rw [tNext_eq]; split <;> rfl
@[simp] theorem tNext_pq (s : St) : (tNext s).1.pq = s.pq := by rw [tNext_eq]; split <;> rfl
@[simp] theorem tNext_pqAvail (s : St) : (tNext s).1.pqAvail = s.pqAvail := by rw [tNext_eq]; split <;> rfl
@[simp] theorem tNext_pqWaiters (s : St) : (tNext s).1.pqWaiters = s.pqWaiters := by rw [tNext_eq]; split <;> rfl
@[simp] theorem tNext_pqAssigned (s : St) : (tNext s).1.pqAssigned = s.pqAssigned := by rw [tNext_eq]; split <;> rfl
@[simp] theorem tNext_pqClosed (s : St) : (tNext s).1.pqClosed = s.pqClosed := by rw [tNext_eq]; split <;> rfl
@[simp] theorem tNext_pqRxWaker (s : St) : (tNext s).1.pqRxWaker = s.pqRxWaker := by rw [tNext_eq]; split <;> rfl
@[simp] theorem tNext_cq (s : St) : (tNext s).1.cq = s.cq := by rw [tNext_eq]; split <;> rfl
@[simp] theorem tNext_cqRxWaker (s : St) : (tNext s).1.cqRxWaker = s.cqRxWaker := by rw [tNext_eq]; split <;> rfl
@[simp] theorem tNext_inflight (s : St) : (tNext s).1.inflight = s.inflight := by rw [tNext_eq]; split <;> rfl
@[simp] theorem tNext_timers (s : St) : (tNext s).1.timers = s.timers := by rw [tNext_eq]; split <;> rfl
@[simp] theorem tNext_termErr (s : St) : (tNext s).1.termErr = s.termErr := by rw [tNext_eq]; split <;> rfl
@[simp] theorem tNext_done (s : St) : (tNext s).1.done = s.done := by rw [tNext_eq]; split <;> rfl
@[simp] theorem tNext_dDropped (s : St) : (tNext s).1.dDropped = s.dDropped := by rw [tNext_eq]; split <;> rfl
@[simp] theorem tNext_dWoken (s : St) : (tNext s).1.dWoken = s.dWoken := by rw [tNext_eq]; split <;> rfl
@[simp] theorem tNext_poisoned (s : St) : (tNext s).1.poisoned = s.poisoned := by rw [tNext_eq]; split <;> rfl

/-! ### FrameW: what the whole write pump leaves alone (here: it needs the `…_inbound` facts above) -/

/-- The write pump does not touch the read fuse, the terminal error or the inbound queue. -/
structure FrameW (s s' : St) : Prop where
  readFused : s'.readFused = s.readFused
  termErr : s'.termErr = s.termErr
  inbound : s'.t.inbound = s.t.inbound

theorem FrameW.refl (s : St) : FrameW s s := ⟨rfl, rfl, rfl⟩

theorem FrameW.trans {s s1 s2 : St} (h1 : FrameW s s1) (h2 : FrameW s1 s2) : FrameW s s2 :=
  ⟨h2.readFused.trans h1.readFused, h2.termErr.trans h1.termErr, h2.inbound.trans h1.inbound⟩

theorem FrameA.toW {s s' : St} (h : FrameA s s') : FrameW s s' := ⟨h.readFused, h.termErr, by rw [h.t]⟩

/-- `poll_close` observations. -/
def isCloseObs : Obs → Bool
  | .tClose _ _ => true
  | _ => false

theorem filter_of_tObs {p : Obs → Bool} (hp : ∀ o, p o = true → isT o = true) {l l' : List Obs}
    (h : l'.filter isT = l.filter isT) : l'.filter p = l.filter p := by
  have key : ∀ l : List Obs, l.filter p = (l.filter isT).filter p := by
    intro l; rw [List.filter_filter]; apply List.filter_congr
    intro o _; cases ho : p o
    · simp
    · simp [hp o ho]
  rw [key l', key l, h]

theorem isT_of_isCloseObs (o : Obs) (h : isCloseObs o = true) : isT o = true := by
  cases o <;> simp_all [isCloseObs]

theorem filter_closeObs_of_tObs {l l' : List Obs} (h : l'.filter isT = l.filter isT) :
    l'.filter isCloseObs = l.filter isCloseObs := filter_of_tObs isT_of_isCloseObs h

/-- The steps of the write pump before `poll_close`: `FrameW`, and no `poll_close` is observed. -/
structure FrameP (s s' : St) : Prop extends FrameW s s' where
  closeObs : s'.obs.filter isCloseObs = s.obs.filter isCloseObs

theorem FrameP.refl (s : St) : FrameP s s := ⟨.refl _, rfl⟩

theorem FrameP.trans {s s1 s2 : St} (h1 : FrameP s s1) (h2 : FrameP s1 s2) : FrameP s s2 :=
  ⟨h1.toFrameW.trans h2.toFrameW, h2.closeObs.trans h1.closeObs⟩

theorem FrameA.toP {s s' : St} (h : FrameA s s') : FrameP s s' := ⟨h.toW, filter_closeObs_of_tObs h.tobs⟩

theorem tEmit_filter {p : Obs → Bool} (hv : ∀ ep v, p (.tViolation ep v) = false) (hk : ∀ t, p (.wake t) = false)
    (s : St) (t' : SimT) (o : Obs) (w : Bool) (ho : p o = false) :
    (tEmit s t' o w).obs.filter p = s.obs.filter p := by
  have hn : (newViolObs s t').filter p = [] := by
    rw [List.filter_eq_nil_iff]
    intro x hx
    obtain ⟨v, _, rfl⟩ := mem_newViolObs hx
    simp [hv]
  rw [tEmit_update]
  split <;> simp [List.filter_append, ho, hk, hn]

theorem tEmit_closeObs (s : St) (t' : SimT) (o : Obs) (w : Bool) (ho : isCloseObs o = false) :
    (tEmit s t' o w).obs.filter isCloseObs = s.obs.filter isCloseObs :=
  tEmit_filter (fun _ _ => rfl) (fun _ => rfl) s t' o w ho

theorem tReady_frameP (s : St) : FrameP s (tReady s).1 :=
  ⟨⟨tReady_readFused s, tReady_termErr s, by rw [tReady_t]; exact SimT.pollReady_inbound _⟩,
   by rw [tReady_eq]; exact tEmit_closeObs _ _ _ _ rfl⟩
theorem tFlush_frameP (s : St) : FrameP s (tFlush s).1 :=
  ⟨⟨tFlush_readFused s, tFlush_termErr s, by rw [tFlush_t]; exact SimT.pollFlush_inbound _⟩,
   by rw [tFlush_eq]; exact tEmit_closeObs _ _ _ _ rfl⟩
theorem tClose_frameW (s : St) : FrameW s (tClose s).1 :=
  ⟨tClose_readFused s, tClose_termErr s, by rw [tClose_t]; exact SimT.pollClose_inbound _⟩
theorem tSend_frameP (s : St) (m : Msg) : FrameP s (tSend s m).1 :=
  ⟨⟨tSend_readFused s m, tSend_termErr s m, by rw [tSend_t]; exact SimT.startSend_inbound _ _⟩,
   by rw [tSend_eq]; exact tEmit_closeObs _ _ _ _ rfl⟩

end TarpcModel.Client.Flow
