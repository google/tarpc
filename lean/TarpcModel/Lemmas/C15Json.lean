import TarpcModel.Lemmas.C15Varint
import TarpcModel.Wire.Json
/-! Helper lemmas for the JSON codec (C15): the text layer reads back what it writes; round trips of the schema layer. -/
namespace TarpcModel.Json
open TarpcModel.Bincode (Bytes strBytes Duration TraceContext Context Request ClientMessage ServerError RespBody
  Response leBytes leVal leVal_leBytes leBytes_length)

/-! ### Digits -/

theorem digitByte_toNat (d : Nat) (h : d < 10) : (digitByte d).toNat = 48 + d := by
  simp only [digitByte, UInt8.toNat_ofNat']
  omega

theorem isDigit_digitByte (d : Nat) (h : d < 10) : isDigit (digitByte d) = true := by
  simp [isDigit, digitByte_toNat d h]
  omega

theorem natDigitsF_all : ∀ (f n : Nat), n < f → ∀ b ∈ natDigitsF f n, isDigit b = true := by
  intro f
  induction f with
  | zero => intro n h; omega
  | succ f ih =>
    intro n h
    simp only [natDigitsF]
    split
    · next hn => exact List.forall_mem_singleton.mpr (isDigit_digitByte n hn)
    · exact List.forall_mem_append.mpr
        ⟨ih (n / 10) (by omega), List.forall_mem_singleton.mpr (isDigit_digitByte _ (by omega))⟩

theorem natDigitsF_ne_nil : ∀ (f n : Nat), n < f → natDigitsF f n ≠ [] := by
  intro f n h
  cases f with
  | zero => omega
  | succ f =>
    simp only [natDigitsF]
    split <;> simp

theorem digitsVal_append (xs ys : Bytes) (a : Nat) :
    digitsVal (xs ++ ys) a = digitsVal ys (digitsVal xs a) := by
  induction xs generalizing a with
  | nil => rfl
  | cons x xs ih => simp [digitsVal, ih]

theorem digitsVal_natDigitsF : ∀ (f n : Nat), n < f → digitsVal (natDigitsF f n) 0 = n := by
  intro f
  induction f with
  | zero => intro n h; omega
  | succ f ih =>
    intro n h
    simp only [natDigitsF]
    split
    · next hn => simp [digitsVal, digitByte_toNat n hn]
    · next hn =>
      rw [digitsVal_append, ih (n / 10) (by omega)]
      simp [digitsVal, digitByte_toNat (n % 10) (by omega)]
      omega

/-- No superfluous leading zero. -/
theorem natDigitsF_head_zero : ∀ (f n : Nat), n < f → ∀ t, natDigitsF f n = 0x30 :: t → n = 0 := by
  intro f
  induction f with
  | zero => intro n h; omega
  | succ f ih =>
    intro n h t ht
    simp only [natDigitsF] at ht
    split at ht
    · next hn =>
      simp at ht
      have := congrArg UInt8.toNat ht.1
      rw [digitByte_toNat n hn] at this
      simp at this
      omega
    · next hn =>
      exfalso
      have hne := natDigitsF_ne_nil f (n / 10) (by omega)
      cases hd : natDigitsF f (n / 10) with
      | nil => exact hne hd
      | cons d ds =>
        rw [hd] at ht
        simp at ht
        have := ih (n / 10) (by omega) ds (by rw [hd, ht.1])
        omega

theorem natDigitsF_zero (f : Nat) : natDigitsF (f + 1) 0 = [0x30] := by
  simp [natDigitsF, digitByte]

theorem spanDigits_append (ds rest : Bytes) (hds : ∀ b ∈ ds, isDigit b = true)
    (hr : ∀ c r, rest = c :: r → isDigit c = false) : spanDigits (ds ++ rest) = (ds, rest) := by
  induction ds with
  | nil =>
    cases rest with
    | nil => rfl
    | cons c r => simp [spanDigits, hr c r rfl]
  | cons d ds ih =>
    have := ih (fun b hb => hds b (by simp [hb]))
    simp [spanDigits, hds d (by simp), this]

theorem numEnd_not_digit {rest : Bytes} (h : numEnd rest = true) :
    ∀ c r, rest = c :: r → isDigit c = false := by
  intro c r hr
  subst hr
  simp [numEnd] at h
  exact h.1.1.1

theorem parseFrac_numEnd {rest : Bytes} (h : numEnd rest = true) : parseFrac rest = some (false, rest) := by
  cases rest with
  | nil => rfl
  | cons c r =>
    simp [numEnd] at h
    obtain ⟨⟨⟨_, h2⟩, h3⟩, h4⟩ := h
    simp [parseFrac, parseExp, h2, h3, h4]

theorem parseNum_natDigits (n : Nat) (rest : Bytes) (h : numEnd rest = true) :
    parseNum false (natDigits n ++ rest) = some (.num n, rest) := by
  have hall := natDigitsF_all (n + 1) n (by omega)
  have hval := digitsVal_natDigitsF (n + 1) n (by omega)
  have hsp := spanDigits_append (natDigits n) rest hall (numEnd_not_digit h)
  unfold parseNum
  rw [hsp]
  unfold natDigits at *
  cases hd : natDigitsF (n + 1) n with
  | nil => exact absurd hd (natDigitsF_ne_nil _ _ (by omega))
  | cons d t =>
    rw [hd] at hval
    cases t with
    | nil => simp [parseFrac_numEnd h, hval]
    | cons e t' =>
      have hz : d ≠ 0x30 := by
        intro hz
        subst hz
        have h0 := natDigitsF_head_zero (n + 1) n (by omega) _ hd
        subst h0
        rw [natDigitsF_zero] at hd
        simp at hd
      simp [parseFrac_numEnd h, hval, hz]

theorem parseNum_opaque (rest : Bytes) (h : numEnd rest = true) :
    parseNum true (0x30 :: rest) = some (.opaque, rest) := by
  have hsp := spanDigits_append [0x30] rest (by simp [isDigit]) (numEnd_not_digit h)
  simp only [List.cons_append, List.nil_append] at hsp
  simp [parseNum, hsp, parseFrac_numEnd h]

theorem natDigits_head (n : Nat) : ∃ d t, natDigits n = d :: t ∧ isDigit d = true := by
  cases hd : natDigits n with
  | nil => exact absurd hd (natDigitsF_ne_nil _ _ (by omega))
  | cons d t => exact ⟨d, t, rfl, natDigitsF_all (n + 1) n (by omega) d (by unfold natDigits at hd; simp [hd])⟩

/-! ### Strings -/

theorem hexVal_hexDigit (k : Nat) (h : k < 16) : hexVal (hexDigit k) = some k := by
  unfold hexDigit
  split
  · next hk =>
    have : (UInt8.ofNat (48 + k)).toNat = 48 + k := by simp only [UInt8.toNat_ofNat']; omega
    simp only [hexVal, this]
    rw [if_pos (by omega)]
    simp
  · next hk =>
    have : (UInt8.ofNat (87 + k)).toNat = 87 + k := by simp only [UInt8.toNat_ofNat']; omega
    simp only [hexVal, this]
    rw [if_neg (by omega), if_pos (by omega)]
    simp

theorem escByte_cases (b : UInt8) :
    (∃ e, escByte b = [0x5c, e] ∧ e ≠ 0x75 ∧ simpleEsc e = some b) ∨
    (b.toNat < 0x20 ∧
      escByte b = [0x5c, 0x75, 0x30, 0x30, hexDigit (b.toNat / 16), hexDigit (b.toNat % 16)]) ∨
    (b ≠ 0x22 ∧ b ≠ 0x5c ∧ ¬ b.toNat < 0x20 ∧ escByte b = [b]) := by
  unfold escByte
  by_cases h22 : b = 0x22
  · exact .inl ⟨0x22, by rw [if_pos h22], by decide, by rw [h22]; rfl⟩
  rw [if_neg h22]
  by_cases h5c : b = 0x5c
  · exact .inl ⟨0x5c, by rw [if_pos h5c], by decide, by rw [h5c]; rfl⟩
  rw [if_neg h5c]
  by_cases h : b = 0x08
  · exact .inl ⟨0x62, by rw [if_pos h], by decide, by rw [h]; rfl⟩
  rw [if_neg h]
  by_cases h : b = 0x0c
  · exact .inl ⟨0x66, by rw [if_pos h], by decide, by rw [h]; rfl⟩
  rw [if_neg h]
  by_cases h : b = 0x0a
  · exact .inl ⟨0x6e, by rw [if_pos h], by decide, by rw [h]; rfl⟩
  rw [if_neg h]
  by_cases h : b = 0x0d
  · exact .inl ⟨0x72, by rw [if_pos h], by decide, by rw [h]; rfl⟩
  rw [if_neg h]
  by_cases h : b = 0x09
  · exact .inl ⟨0x74, by rw [if_pos h], by decide, by rw [h]; rfl⟩
  rw [if_neg h]
  by_cases hlt : b.toNat < 0x20
  · exact .inr (.inl ⟨hlt, by rw [if_pos hlt]⟩)
  · exact .inr (.inr ⟨h22, h5c, hlt, by rw [if_neg hlt]⟩)

theorem strBody_escByte (b : UInt8) (t : Bytes) (f : Nat) :
    strBody (f + 1) (escByte b ++ t) = pre [b] (strBody f t) := by
  rcases escByte_cases b with ⟨e, he, hu, hs⟩ | ⟨hlt, he⟩ | ⟨h22, h5c, hlt, he⟩
  · simp [he, strBody, hu, hs]
  · have e1 := hexVal_hexDigit (b.toNat / 16) (by omega)
    have e2 := hexVal_hexDigit (b.toNat % 16) (by omega)
    have hz : hexVal 0x30 = some 0 := by decide
    have hv : 16 * (b.toNat / 16) + b.toNat % 16 = b.toNat := by omega
    have hu : utf8Of b.toNat = [b] := by
      unfold utf8Of
      rw [if_pos (by omega)]
      simp
    simp [he, strBody, hex4, e1, e2, hz, hv]
    rw [if_neg (by omega), if_neg (by omega), hu]
  · simp [he, strBody, h22, h5c, hlt]

theorem length_le_escBytes : ∀ bs : Bytes, bs.length ≤ (escBytes bs).length
  | [] => Nat.le_refl _
  | b :: t => by
    have ih := length_le_escBytes t
    rcases escByte_cases b with ⟨_, he, _⟩ | ⟨_, he⟩ | ⟨_, _, _, he⟩ <;> simp [escBytes, he] <;> omega

theorem strBody_esc : ∀ (bs rest : Bytes) (f : Nat), bs.length < f →
    strBody f (escBytes bs ++ 0x22 :: rest) = some (bs, false, rest)
  | [], rest, f + 1, _ => by simp [escBytes, strBody]
  | b :: t, rest, f + 1, h => by
    rw [escBytes, List.append_assoc, strBody_escByte, strBody_esc t rest f (by simpa using h)]
    rfl

/-! ### Values -/

theorem parseStrTok_render (s : String) (rest : Bytes) :
    parseStrTok (escBytes (strBytes s) ++ 0x22 :: rest) = some (.str s, rest) := by
  unfold parseStrTok
  rw [strBody_esc (strBytes s) rest _ (by have := length_le_escBytes (strBytes s); simp; omega)]
  simp [strBytes, String.fromUTF8?, String.toUTF8, s.isValidUTF8, String.fromUTF8]

theorem renderStr_eq (s : String) (rest : Bytes) :
    renderStr s ++ rest = 0x22 :: (escBytes (strBytes s) ++ 0x22 :: rest) := by
  simp [renderStr]

theorem skipWs_cons (b : UInt8) (t : Bytes) (h : isWs b = false) : skipWs (b :: t) = b :: t := by
  simp [skipWs, h]

theorem isWs_of_isDigit (b : UInt8) (h : isDigit b = true) : isWs b = false := by
  simp [isDigit] at h
  simp [isWs]
  refine ⟨⟨⟨?_, ?_⟩, ?_⟩, ?_⟩ <;> (intro hb; subst hb; simp at h)

theorem keysOf_map (kvs : List (String × Json)) :
    keysOf (kvs.map fun p => (Json.str p.1, p.2)) = some kvs := by
  induction kvs with
  | nil => rfl
  | cons p t ih => obtain ⟨k, v⟩ := p; simp [keysOf, ih]

theorem parseMember_render (pv : Bytes → Option (Json × Bytes)) (k : String) (v : Json) (tail : Bytes)
    (hv : pv (render v ++ tail) = some (v, tail)) :
    parseMember pv (escBytes (strBytes k) ++ 0x22 :: 0x3a :: (render v ++ tail)) = some ((.str k, v), tail) := by
  simp [parseMember, parseStrTok_render, skipWs, isWs, hv]

theorem render_head : ∀ v : Json, ∃ c t, render v = c :: t ∧ isWs c = false ∧ c ≠ 0x5d ∧ c ≠ 0x7d
  | .null => ⟨_, _, rfl, by decide, by decide, by decide⟩
  | .bool true => ⟨_, _, rfl, by decide, by decide, by decide⟩
  | .bool false => ⟨_, _, rfl, by decide, by decide, by decide⟩
  | .num n => by
    obtain ⟨d, t, hd, hdig⟩ := natDigits_head n
    refine ⟨d, t, by simp [render, hd], isWs_of_isDigit d hdig, ?_, ?_⟩ <;>
      (intro h; subst h; simp [isDigit] at hdig)
  | .str s => ⟨_, _, rfl, by decide, by decide, by decide⟩
  | .arr [] => ⟨_, _, rfl, by decide, by decide, by decide⟩
  | .arr (_ :: _) => ⟨_, _, rfl, by decide, by decide, by decide⟩
  | .obj [] => ⟨_, _, rfl, by decide, by decide, by decide⟩
  | .obj ((_, _) :: _) => ⟨_, _, rfl, by decide, by decide, by decide⟩
  | .opaque => ⟨_, _, rfl, by decide, by decide, by decide⟩

theorem numEnd_renderElems (xs : List Json) (rest : Bytes) : numEnd (renderElems xs ++ rest) = true := by
  cases xs <;> simp [renderElems, numEnd, isDigit]

theorem numEnd_renderFields (kvs : List (String × Json)) (rest : Bytes) :
    numEnd (renderFields kvs ++ rest) = true := by
  cases kvs with
  | nil => simp [renderFields, numEnd, isDigit]
  | cons p t => obtain ⟨k, v⟩ := p; simp [renderFields, numEnd, isDigit]

mutual
theorem parseVal_render : ∀ (v : Json) (rest : Bytes) (f : Nat), (render v ++ rest).length < f →
    (isNumTok v = true → numEnd rest = true) → parseVal f (render v ++ rest) = some (v, rest)
  | _, _, 0, hl, _ => absurd hl (Nat.not_lt_zero _)
  | .null, rest, f + 1, hl, _ => by simp [render, parseVal, skipWs, isWs, expect]
  | .bool true, rest, f + 1, hl, _ => by simp [render, parseVal, skipWs, isWs, expect]
  | .bool false, rest, f + 1, hl, _ => by simp [render, parseVal, skipWs, isWs, expect]
  | .num n, rest, f + 1, hl, hn => by
    obtain ⟨d, t, hd, hdig⟩ := natDigits_head n
    have hp := parseNum_natDigits n rest (hn rfl)
    simp only [render, hd, List.cons_append] at hp ⊢
    have hw := isWs_of_isDigit d hdig
    have ne : ∀ c, isDigit c = false → d ≠ c := fun c hc h => by rw [h, hc] at hdig; cases hdig
    simp [parseVal, skipWs, hw, ne 0x6e rfl, ne 0x74 rfl, ne 0x66 rfl, ne 0x22 rfl, ne 0x2d rfl, hdig, hp]
  | .opaque, rest, f + 1, hl, hn => by simp [render, parseVal, skipWs, isWs, parseNum_opaque rest (hn rfl)]
  | .str s, rest, f + 1, hl, _ => by simp [render, renderStr_eq, parseVal, skipWs, isWs, parseStrTok_render]
  | .arr [], rest, f + 1, hl, _ => by simp [render, parseVal, skipWs, isWs, isDigit]
  | .arr (x :: xs), rest, f + 1, hl, _ => by
    simp only [render, List.cons_append, List.append_assoc, List.length_cons] at hl ⊢
    have ihx := parseVal_render x (renderElems xs ++ rest) f (by omega)
      (fun _ => numEnd_renderElems xs rest)
    have ihxs := parseElems_render xs rest f (by simp at hl ⊢; omega)
    obtain ⟨c, t, hc, hws, h1, h2⟩ := render_head x
    simp only [hc, List.cons_append] at ihx ⊢
    have hb : isWs 0x5b = false := rfl
    simp [parseVal, skipWs, hb, hws, isDigit, h1, ihx, ihxs]
  | .obj [], rest, f + 1, hl, _ => by simp [render, parseVal, skipWs, isWs, isDigit]
  | .obj ((k, v) :: kvs), rest, f + 1, hl, _ => by
    simp only [render, renderStr, List.cons_append, List.append_assoc, List.length_cons, List.nil_append] at hl ⊢
    have ihv := parseVal_render v (renderFields kvs ++ rest) f (by simp at hl ⊢; omega)
      (fun _ => numEnd_renderFields kvs rest)
    have ihk := parseFields_render kvs rest f (by simp at hl ⊢; omega)
    have hm := parseMember_render (parseVal f) k v (renderFields kvs ++ rest) ihv
    simp [parseVal, skipWs, isWs, isDigit, hm, ihk, mkObj, keysOf, keysOf_map]
theorem parseElems_render : ∀ (xs : List Json) (rest : Bytes) (f : Nat), (renderElems xs ++ rest).length < f →
    parseElems f (renderElems xs ++ rest) = some (xs, rest)
  | _, _, 0, hl => absurd hl (Nat.not_lt_zero _)
  | [], rest, f + 1, hl => by simp [renderElems, parseElems, skipWs, isWs]
  | x :: xs, rest, f + 1, hl => by
    simp only [renderElems, List.cons_append, List.append_assoc, List.length_cons] at hl ⊢
    have ihx := parseVal_render x (renderElems xs ++ rest) f (by omega)
      (fun _ => numEnd_renderElems xs rest)
    have ihxs := parseElems_render xs rest f (by simp at hl ⊢; omega)
    simp [parseElems, skipWs, isWs, ihx, ihxs]
theorem parseFields_render : ∀ (kvs : List (String × Json)) (rest : Bytes) (f : Nat),
    (renderFields kvs ++ rest).length < f →
    parseFields f (renderFields kvs ++ rest) = some (kvs.map fun p => (Json.str p.1, p.2), rest)
  | _, _, 0, hl => absurd hl (Nat.not_lt_zero _)
  | [], rest, f + 1, hl => by simp [renderFields, parseFields, skipWs, isWs]
  | (k, v) :: kvs, rest, f + 1, hl => by
    simp only [renderFields, renderStr, List.cons_append, List.append_assoc, List.length_cons, List.nil_append] at hl ⊢
    have ihv := parseVal_render v (renderFields kvs ++ rest) f (by simp at hl ⊢; omega)
      (fun _ => numEnd_renderFields kvs rest)
    have ihk := parseFields_render kvs rest f (by simp at hl ⊢; omega)
    have hm := parseMember_render (parseVal f) k v (renderFields kvs ++ rest) ihv
    simp [parseFields, skipWs, isWs, hm, ihk]
end

/-! ### Schema layer -/

theorem parseDoc_render (v : Json) : parseDoc (render v) = some v := by
  have := parseVal_render v [] ((render v).length + 1) (by simp) (fun _ => rfl)
  simp only [List.append_nil] at this
  simp [parseDoc, parse, this, skipWs]

theorem bytesFromJson_bytesToJson (bs : Bytes) : bytesFromJson (bytesToJson bs) = some bs := by
  induction bs with
  | nil => rfl
  | cons b t ih =>
    have : b.toNat < 256 := b.toNat_lt
    simp [bytesToJson, bytesFromJson, ih, this]

theorem traceId_roundtrip (t : Nat) (h : t < 2 ^ 128) : traceIdFromJson (traceIdToJson t) = some t := by
  simp [traceIdFromJson, traceIdToJson, bytesFromJson_bytesToJson, leBytes_length,
    leVal_leBytes 16 t (by omega)]

theorem duration_roundtrip (d : Duration) (h : d.Valid) : durationFromJson (durationToJson d) = some d := by
  obtain ⟨h1, h2⟩ := h
  have h3 : d.nanos / 1000000000 = 0 := Nat.div_eq_of_lt h2
  have h4 : d.nanos % 1000000000 = d.nanos := Nat.mod_eq_of_lt h2
  have h5 : d.nanos < 2 ^ 32 := by omega
  simp [durationFromJson, durationToJson, durationKeysOk, req, lookupAll, uintFromJson, mkDuration,
    h1, h3, h4, h5]

theorem sampling_roundtrip (b : Bool) : samplingFromJson (samplingToJson b) = some b := by
  cases b <;> simp [samplingFromJson, samplingToJson]

theorem trace_roundtrip (t : TraceContext) (h : t.Valid) : traceFromJson (traceToJson t) = some t := by
  obtain ⟨h1, h2⟩ := h
  simp [traceFromJson, traceToJson, req, lookupAll, mkTrace, traceId_roundtrip _ h1, uintFromJson, h2,
    sampling_roundtrip]

theorem context_roundtrip (c : Context) (h : c.Valid) : contextFromJson (contextToJson c) = some c := by
  simp [contextFromJson, contextToJson, req, opt, lookupAll, mkContext, duration_roundtrip _ h.1,
    trace_roundtrip _ h.2]

section
variable {T : Type} {encT : T → Json} {decT : Json → Option T} {PT : T → Prop}

theorem request_roundtrip (hT : BodyCodec encT decT PT) (r : Request T) (h : r.Valid PT) :
    requestFromJson decT (requestToJson encT r) = some r := by
  obtain ⟨h1, h2, h3⟩ := h
  simp [requestFromJson, requestToJson, req, lookupAll, mkRequest, context_roundtrip _ h1, uintFromJson,
    h2, hT _ h3]

theorem clientMessage_roundtrip (hT : BodyCodec encT decT PT) (m : ClientMessage T) (h : m.Valid PT) :
    clientMessageFromJson decT (clientMessageToJson encT m) = some m := by
  cases m with
  | request r => simp [clientMessageFromJson, clientMessageToJson, request_roundtrip hT r h]
  | cancel t id =>
    simp [clientMessageFromJson, clientMessageToJson, cancelFromJson, req, opt, lookupAll, mkCancel,
      trace_roundtrip _ h.1, uintFromJson, h.2]

theorem serverError_roundtrip (e : ServerError) (k' : String) (hk : kindBack e.kind = some k') :
    serverErrorFromJson (serverErrorToJson e) = some { e with kind := k' } := by
  unfold kindBack at hk
  simp [serverErrorFromJson, serverErrorToJson, req, lookupAll, mkServerError, hk, strFromJson]

theorem response_roundtrip (hT : BodyCodec encT decT PT) (r : Response T) (hr : ValidResponse PT r) (k' : String)
    (hk : ∀ e, r.message = .err e → kindBack e.kind = some k') :
    responseFromJson decT (responseToJson encT r) = some (r.withKind k') := by
  obtain ⟨id, msg⟩ := r
  obtain ⟨h1, h2⟩ := hr
  cases msg with
  | ok t =>
    simp only at h1
    simp [responseFromJson, responseToJson, req, lookupAll, mkResponse, uintFromJson, h1, resultFromJson,
      resultToJson, hT _ (h2 t rfl), Response.withKind]
  | err e =>
    simp only at h1
    simp [responseFromJson, responseToJson, req, lookupAll, mkResponse, uintFromJson, h1, resultFromJson,
      resultToJson, serverError_roundtrip e k' (hk e rfl), Response.withKind]
end

/-! ### Insignificant whitespace around a document -/

theorem skipWs_append_ws (ws bs : Bytes) (h : allWs ws) : skipWs (ws ++ bs) = skipWs bs := by
  induction ws with
  | nil => rfl
  | cons w t ih =>
    have hw := h w (by simp)
    simp [skipWs, hw, ih (fun b hb => h b (by simp [hb]))]

theorem skipWs_allWs (ws : Bytes) (h : allWs ws) : skipWs ws = [] := by
  have := skipWs_append_ws ws [] h
  simpa [skipWs] using this

theorem numEnd_allWs (ws : Bytes) (h : allWs ws) : numEnd ws = true := by
  cases ws with
  | nil => rfl
  | cons w t =>
    have hw := h w (by simp)
    simp [isWs] at hw
    rcases hw with ((hw | hw) | hw) | hw <;> subst hw <;> simp [numEnd, isDigit]

theorem parseVal_ws (f : Nat) (ws bs : Bytes) (h : allWs ws) :
    parseVal (f + 1) (ws ++ bs) = parseVal (f + 1) bs := by
  simp only [parseVal, skipWs_append_ws ws bs h]

theorem parseDoc_ws (v : Json) (ws₁ ws₂ : Bytes) (h₁ : allWs ws₁) (h₂ : allWs ws₂) :
    parseDoc (ws₁ ++ render v ++ ws₂) = some v := by
  have := parseVal_render v ws₂ ((ws₁ ++ (render v ++ ws₂)).length + 1) (by simp; omega)
    (fun _ => numEnd_allWs ws₂ h₂)
  simp only [parseDoc, parse, List.append_assoc, parseVal_ws _ ws₁ _ h₁, this]
  simp [skipWs_allWs ws₂ h₂]

end TarpcModel.Json
