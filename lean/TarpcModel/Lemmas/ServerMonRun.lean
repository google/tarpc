import TarpcModel.Lemmas.ServerMonObs
import TarpcModel.Lemmas.TraceFold
/-!
What the acceptance proofs of the server monitors share.  Two ways lead from an invariant of the model to "`Mon.run check`
accepts every trace"; what the check reads of the book decides which.
* Flags only (`spun`, `eofSeen`, `streamDone`: `step_flags`): the monitor is rewritten as a fold over the observations that does
  not mention the book (`foldObs`, `fold_trace`), and `sim_run` ties the fold to `Mon.run` (ServerMon14, ServerMon11).
* Tables: the book itself is folded along the observation buffer of one op (`bo`), a coupling between that book and the model's
  state is carried through the op, `CK` says that every observation of the op passed the check, `trace_core` is the induction
  over the script (ServerMon06, ServerMon18, ServerTab*).
Clauses of a monitor may be proved apart and joined by `run_orElse`.  What `Book.step` does to a field is read off `step_quiet`
(outside `isBK`) and one equation per constructor inside it (`obs_cases`; `step_flags` shows the pattern), not by unfolding it.
(`bo`, `preRead`, `sweptBook` carry the namespace `Mon06` of C06's coupling `K`, their heaviest user.)
-/
namespace TarpcModel

theorem map_ite_same {α β : Type} (l : List α) (c : α → Prop) [DecidablePred c] (g : α → α) (h : α → β)
    (hg : ∀ e, h (g e) = h e) : (l.map (fun e => if c e then g e else e)).map h = l.map h := by
  rw [List.map_map]
  apply List.map_congr_left
  intro e _
  show h (if c e then g e else e) = h e
  split
  · exact hg e
  · rfl

theorem map_ite_comm {α β : Type} (l : List α) (c : α → Prop) [DecidablePred c] (c' : β → Prop) [DecidablePred c'] (h : α → β)
    (hc : ∀ e, c e ↔ c' (h e)) (g : α → α) (g' : β → β) (hg : ∀ e, h (g e) = g' (h e)) :
    (l.map (fun e => if c e then g e else e)).map h = (l.map h).map (fun x => if c' x then g' x else x) := by
  rw [List.map_map, List.map_map]
  apply List.map_congr_left
  intro e _
  simp only [Function.comp]
  by_cases hce : c e
  · rw [if_pos hce, if_pos ((hc e).mp hce)]; exact hg e
  · rw [if_neg hce, if_neg (fun h' => hce ((hc e).mpr h'))]

end TarpcModel

namespace TarpcModel.Server.FlowMon
open TarpcModel TarpcModel.Server TarpcModel.Server.Flow

/-! ## the book's step, constructor by constructor -/

def isPoison : Obs → Bool
  | .spin _ => true
  | .panic _ _ => true
  | _ => false

def isEof : Obs → Bool
  | .tNext _ .eof => true
  | _ => false

/-- the book a check sees for an event -/
def bookOf (b : Book) : SEv → Book
  | .op _ => b.endOp
  | _ => b

theorem endOp_frame (b : Book) : ∃ ex ao, b.endOp =
    { b with execs := ex, abandonOrder := ao, curDropExec := none, topPoll := false, stalled := false,
             belowLimitStall := false, sawT := false, prevReadyP := false, lastRead := none, justRead := none,
             idleNow := false } := by
  unfold Book.endOp; simp only []; (repeat' split) <;> exact ⟨_, _, rfl⟩
@[simp] theorem endOp_spun (b : Book) : b.endOp.spun = b.spun := by
  obtain ⟨ex, ao, h⟩ := endOp_frame b; rw [h]
@[simp] theorem endOp_eofSeen (b : Book) : b.endOp.eofSeen = b.eofSeen := by
  obtain ⟨ex, ao, h⟩ := endOp_frame b; rw [h]
theorem sweepOne_frame (b : Book) : ∃ t ao, b.sweepOne = { b with table := t, abandonOrder := ao } := by
  unfold Book.sweepOne; simp only []; (repeat' split) <;> exact ⟨_, _, rfl⟩
@[simp] theorem sweepOne_spun (b : Book) : b.sweepOne.spun = b.spun := by
  obtain ⟨t, ao, h⟩ := sweepOne_frame b; rw [h]
@[simp] theorem sweepOne_eofSeen (b : Book) : b.sweepOne.eofSeen = b.eofSeen := by
  obtain ⟨t, ao, h⟩ := sweepOne_frame b; rw [h]
@[simp] theorem updExec_spun (b : Book) (r f) : (b.updExec r f).spun = b.spun := rfl
@[simp] theorem updExec_eofSeen (b : Book) (r f) : (b.updExec r f).eofSeen = b.eofSeen := rfl
@[simp] theorem untrack_spun (b : Book) (id) : (b.untrack id).spun = b.spun := rfl
@[simp] theorem untrack_eofSeen (b : Book) (id) : (b.untrack id).eofSeen = b.eofSeen := rfl
@[simp] theorem sweep_spun (b : Book) : b.sweep.spun = b.spun := rfl
@[simp] theorem sweep_eofSeen (b : Book) : b.sweep.eofSeen = b.eofSeen := rfl
@[simp] theorem noteFinish_spun (b : Book) (e : SEv) : (b.noteFinish e).spun = b.spun := by
  unfold Book.noteFinish; split <;> rfl
@[simp] theorem noteFinish_eofSeen (b : Book) (e : SEv) : (b.noteFinish e).eofSeen = b.eofSeen := by
  unfold Book.noteFinish; split <;> rfl

@[simp] theorem bookOf_spun (b : Book) (e : SEv) : (bookOf b e).spun = b.spun := by
  cases e <;> simp [bookOf]
@[simp] theorem bookOf_eofSeen (b : Book) (e : SEv) : (bookOf b e).eofSeen = b.eofSeen := by
  cases e <;> simp [bookOf]

def poisonEv : SEv → Bool
  | .obs o => isPoison o
  | .op _ => false

def eofEv : SEv → Bool
  | .obs o => isEof o
  | .op _ => false

def noneRetEv : SEv → Bool
  | .obs (.ret (.server _) .readyNone) => true
  | _ => false

@[simp] theorem endOp_streamDone (b : Book) : b.endOp.streamDone = b.streamDone := by
  obtain ⟨ex, ao, h⟩ := endOp_frame b; rw [h]
@[simp] theorem sweepOne_streamDone (b : Book) : b.sweepOne.streamDone = b.streamDone := by
  obtain ⟨t, ao, h⟩ := sweepOne_frame b; rw [h]
@[simp] theorem noteFinish_streamDone (b : Book) (e : SEv) : (b.noteFinish e).streamDone = b.streamDone := by
  unfold Book.noteFinish; split <;> rfl

end TarpcModel.Server.FlowMon

namespace TarpcModel.Server.Mon06
open TarpcModel TarpcModel.Server

/-- the book after the `sweepOne` that precedes the handling of a read -/
def preRead (b : Book) : Book :=
  if b.topPoll then ({ b with justRead := none, sawT := true, prevReadyP := false } : Book).sweepOne
  else { b with justRead := none, sawT := true, prevReadyP := false }

theorem preRead_frame (b : Book) : ∃ t a,
    preRead b = { b with justRead := none, sawT := true, prevReadyP := false, table := t, abandonOrder := a } := by
  unfold preRead
  split
  · exact FlowMon.sweepOne_frame _
  · exact ⟨_, _, rfl⟩

theorem step_tNext_eq (b : Book) (ep : TaskId) (r : NextRes) :
    b.step (.obs (.tNext ep r)) =
      match r with
      | .item (.request id d tr body) =>
          { preRead b with reqReads := (preRead b).reqReads ++ [(id, d, tr, body)], lastRead := some id, justRead := some id }
      | .item (.cancel id _) =>
          (match (preRead b).table.reverse.find? (fun p : Nat × Nat => p.1 == id) with
            | some (_, r) => (preRead b).updExec r (fun e => { e with cancelRead := true })
            | none => preRead b).untrack id
      | .err => { preRead b with failed := true }
      | .eof => { preRead b with eofSeen := true }
      | _ => preRead b := by
  unfold preRead
  cases r with
  | item m =>
    cases m with
    | request id d tr body => (simp only [Book.step]; try (first | rfl | (split <;> rfl)))
    | cancel id tr => (simp only [Book.step]; try (first | rfl | (split <;> rfl)))
    | response id res => (simp only [Book.step]; try (first | rfl | (split <;> rfl)))
  | pending => (simp only [Book.step]; try (first | rfl | (split <;> rfl)))
  | err => (simp only [Book.step]; try (first | rfl | (split <;> rfl)))
  | eof => (simp only [Book.step]; try (first | rfl | (split <;> rfl)))

/-- the swept book (as the idle `ret` makes it), field by field -/
def sweptBook (b1 : Book) (l : Option Nat) : Book :=
  { b1.sweep with lastIdlePoll := l, idleNow := true, abandonOrder := [] }

theorem step_ret_eq (b : Book) (k : Nat) (r : Ret) :
    b.step (.obs (.ret (.server k) r)) =
      (let b1 : Book := match r with
        | .readyNone => { b with justRead := none, streamDone := true, dropped := true }
        | .readyItemErr _ => { b with justRead := none, dropped := true }
        | _ => { b with justRead := none }
       if b1.topPoll && !b1.stalled && !b1.failed && (r == .pending || r == .readyNone) then sweptBook b1 (some b1.now)
       else b1) := by
  cases r <;> rfl

theorem step_resp_eq (b : Book) (ep : TaskId) (id : Nat) (res : Res) (ok : Bool) :
    b.step (.obs (.tSend ep (.response id res) ok)) =
      (fun b1 : Book => if ok then { b1 with respWritten := b1.respWritten ++ [(id, res)] } else { b1 with failed := true })
        { ({ b with sawT := true, prevReadyP := false } : Book).untrack id with
          justRead := none, lastRead := if b.justRead == some id then none else b.lastRead } := by
  cases ok <;> rfl

theorem step_yielded_eq (b : Book) (r id d : Nat) (tr : Trace) :
    b.step (.obs (.yielded r id d tr)) =
      { b with justRead := none, lastRead := none, table := (b.table.filter (·.1 != id)) ++ [(id, r)],
               execs := b.execs ++ [{ rid := r, id := id, deadline := d, trace := tr, yieldedAt := b.now }] } := rfl

theorem step_tFlush (b : Book) (ep : TaskId) (r : PollRes) : b.step (.obs (.tFlush ep r)) =
    { b with justRead := none, failed := r == .err || b.failed, sawT := true, prevReadyP := false } := by
  cases r <;> rfl

theorem step_tReady (b : Book) (ep : TaskId) (r : PollRes) : ∃ st bl, b.step (.obs (.tReady ep r)) =
    { b with justRead := none, failed := r == .err || b.failed, stalled := st, belowLimitStall := bl, sawT := true,
             prevReadyP := r == .pending } := by
  have mark : ∀ (x : Book) (c d : Prop) [Decidable c] [Decidable d], ∃ st bl,
      (if c then (if d then { x with stalled := true } else { x with belowLimitStall := true }) else x) =
        { x with stalled := st, belowLimitStall := bl } := by
    intro x c d _ _
    by_cases hc : c
    · by_cases hd : d
      · exact ⟨_, _, (if_pos hc).trans (if_pos hd)⟩
      · exact ⟨_, _, (if_pos hc).trans (if_neg hd)⟩
    · exact ⟨_, _, if_neg hc⟩
  obtain ⟨st, bl, e⟩ := mark { b with justRead := none, failed := r == .err || b.failed }
    ((b.topPoll && b.prevReadyP && b.limit.isSome) = true) (b.lastCounts ≥ b.limit.getD 0)
  have e' := congrArg (fun x : Book => { x with sawT := true, prevReadyP := r == PollRes.pending }) e
  refine ⟨st, bl, ?_⟩
  cases r <;> exact e'

theorem step_counts (b : Book) (k n t : Nat) :
    b.step (.obs (.counts (.server k) n t)) = { b with justRead := none, lastCounts := n } := rfl

end TarpcModel.Server.Mon06

namespace TarpcModel.Server.FlowMon
open TarpcModel TarpcModel.Server TarpcModel.Server.Flow

/-- the observations that change more of the book than per-op flags and progress marks -/
def isBK : Obs → Bool
  | .tSend _ (.response _ _) _ => true
  | .tNext _ _ => true
  | .yielded _ _ _ _ => true
  | .ret (.server _) _ => true
  | .spin _ => true
  | .panic _ _ => true
  | _ => false

theorem obs_cases {motive : Obs → Prop} (o : Obs) (quiet : ∀ o, isBK o = false → motive o)
    (tNext : ∀ ep r, motive (.tNext ep r)) (resp : ∀ ep id res ok, motive (.tSend ep (.response id res) ok))
    (yielded : ∀ r id d tr, motive (.yielded r id d tr)) (ret : ∀ k r, motive (.ret (.server k) r))
    (spin : ∀ t, motive (.spin t)) (panic : ∀ t w, motive (.panic t w)) : motive o := by
  cases o with
  | tNext ep r => exact tNext ep r
  | tSend ep m ok =>
    cases m with
    | response id res => exact resp ep id res ok
    | _ => exact quiet _ rfl
  | yielded r id d tr => exact yielded r id d tr
  | ret t r =>
    cases t with
    | server k => exact ret k r
    | _ => exact quiet _ rfl
  | spin t => exact spin t
  | panic t w => exact panic t w
  | _ => exact quiet _ rfl

/-- `g` changes the progress marks of an execution (`completed`, `hDropped`, `gone`) only -/
def Marks (g : BExec → BExec) : Prop := ∀ e, ∃ c h d, g e = { e with completed := c, hDropped := h, gone := d }

/-- `b'` differs from `b` in the per-op flags, `lastCounts` and the executions' progress marks (`Marks`) only -/
def Quiet (b b' : Book) : Prop :=
  ∃ g jr fl st bl sw pr lc, Marks g ∧ b' =
    { b with execs := b.execs.map g, justRead := jr, failed := fl, stalled := st, belowLimitStall := bl, sawT := sw,
             prevReadyP := pr, lastCounts := lc }

theorem Quiet.flags (b : Book) (jr fl st bl sw pr lc) :
    Quiet b { b with justRead := jr, failed := fl, stalled := st, belowLimitStall := bl, sawT := sw, prevReadyP := pr,
                     lastCounts := lc } :=
  ⟨id, jr, fl, st, bl, sw, pr, lc, fun e => ⟨_, _, _, rfl⟩, by rw [List.map_id]⟩

theorem Quiet.refl (b : Book) : Quiet b b := Quiet.flags b _ _ _ _ _ _ _

theorem Quiet.trans {a b c : Book} (h1 : Quiet a b) (h2 : Quiet b c) : Quiet a c := by
  obtain ⟨g1, _, _, _, _, _, _, _, hg1, rfl⟩ := h1
  obtain ⟨g2, jr, fl, st, bl, sw, pr, lc, hg2, rfl⟩ := h2
  refine ⟨g2 ∘ g1, jr, fl, st, bl, sw, pr, lc, fun e => ?_, by simp only [List.map_map]⟩
  obtain ⟨c1, h1, d1, e1⟩ := hg1 e
  obtain ⟨c2, h2, d2, e2⟩ := hg2 (g1 e)
  exact ⟨c2, h2, d2, by rw [Function.comp, e2, e1]⟩

theorem Quiet.ite {b x y : Book} (c : Prop) [Decidable c] (hx : Quiet b x) (hy : Quiet b y) :
    Quiet b (if c then x else y) := by
  split
  · exact hx
  · exact hy

theorem Quiet.updExec (b : Book) (r : Nat) (f : BExec → BExec) (hf : Marks f) : Quiet b (b.updExec r f) :=
  ⟨fun e => if e.rid == r then f e else e, _, _, _, _, _, _, _,
    fun e => by
      show ∃ c h d, (if e.rid == r then f e else e) = _
      split
      · exact hf e
      · exact ⟨_, _, _, rfl⟩,
    rfl⟩

/-- (the `let`s of `Book.step` are kept and named: substituting them copies each intermediate book into every field of
the next) -/
theorem step_quiet (b : Book) (o : Obs) (h : isBK o = false) : Quiet b (b.step (.obs o)) := by
  have h0 : Quiet b { b with justRead := none } := Quiet.flags b _ _ _ _ _ _ _
  cases o with
  | tNext ep r => cases h
  | yielded r id d tr => cases h
  | spin t => cases h
  | panic t w => cases h
  | tSend ep m ok =>
    cases m with
    | response id res => cases h
    | _ => exact h0
  | ret t r =>
    cases t with
    | server k => cases h
    | exec v =>
      cases r with
      | readyOk => exact h0.trans (Quiet.updExec _ _ _ (fun e => ⟨_, _, _, rfl⟩))
      | _ => exact h0
    | _ => exact h0
  | handler r ev t =>
    cases ev with
    | completed => exact h0.trans (Quiet.updExec _ _ _ (fun e => ⟨_, _, _, rfl⟩))
    | dropped => exact h0.trans (Quiet.updExec _ _ _ (fun e => ⟨_, _, _, rfl⟩))
    | _ => exact h0
  | tReady ep r =>
    simp -zeta only [Book.step]
    extract_lets b0 b1 b2
    have h1 : Quiet b0 b1 := Quiet.ite _ (Quiet.flags b0 _ _ _ _ _ _ _) (Quiet.refl b0)
    have h2 : Quiet b1 b2 :=
      Quiet.ite _ (Quiet.ite _ (Quiet.flags b1 _ _ _ _ _ _ _) (Quiet.flags b1 _ _ _ _ _ _ _)) (Quiet.refl b1)
    exact ((h0.trans h1).trans h2).trans (Quiet.flags b2 _ _ _ _ _ _ _)
  | tFlush ep r =>
    simp -zeta only [Book.step]
    extract_lets b0
    exact h0.trans ((Quiet.ite _ (Quiet.flags b0 _ _ _ _ _ _ _) (Quiet.refl b0)).trans (Quiet.flags _ _ _ _ _ _ _ _))
  | counts ep a b' => cases ep <;> first | exact h0 | exact Quiet.flags b _ _ _ _ _ _ _
  | wake t => exact Quiet.refl b
  | _ => exact h0

theorem step_flags (b : Book) (e : SEv) :
    (b.step e).spun = (b.spun || poisonEv e) ∧ (b.step e).eofSeen = (b.eofSeen || eofEv e) ∧
    (b.step e).streamDone = (b.streamDone || noneRetEv e) := by
  cases e with
  | op o =>
    have h3 : (b.step (.op o)).spun = b.endOp.spun ∧ (b.step (.op o)).eofSeen = b.endOp.eofSeen ∧
        (b.step (.op o)).streamDone = b.endOp.streamDone := by cases o <;> exact ⟨rfl, rfl, rfl⟩
    rw [h3.1, h3.2.1, h3.2.2, endOp_spun, endOp_eofSeen, endOp_streamDone]
    exact ⟨(Bool.or_false _).symm, (Bool.or_false _).symm, (Bool.or_false _).symm⟩
  | obs o =>
    have hr : ∀ {x : Bool}, x = (x || false) := fun {x} => (Bool.or_false x).symm
    induction o using obs_cases with
    | quiet o h =>
      obtain ⟨g, jr, fl, st, bl, sw, pr, lc, _, he⟩ := step_quiet b o h
      rw [he]
      have hf : poisonEv (.obs o) = false ∧ eofEv (.obs o) = false ∧ noneRetEv (.obs o) = false := by
        cases o with
        | ret t r => cases t <;> first | exact ⟨rfl, rfl, rfl⟩ | cases h
        | _ => first | exact ⟨rfl, rfl, rfl⟩ | cases h
      rw [hf.1, hf.2.1, hf.2.2]
      exact ⟨hr, hr, hr⟩
    | tNext ep r =>
      rw [Mon06.step_tNext_eq]
      obtain ⟨t, a, e⟩ := Mon06.preRead_frame b
      rw [e]
      cases r with
      | item m =>
        cases m with
        | cancel id tr =>
          dsimp only
          generalize List.find? (fun p : Nat × Nat => p.1 == id) t.reverse = o
          cases o <;> exact ⟨hr, hr, hr⟩
        | _ => exact ⟨hr, hr, hr⟩
      | eof => exact ⟨hr, (Bool.or_true _).symm, hr⟩
      | _ => exact ⟨hr, hr, hr⟩
    | resp ep id res ok => cases ok <;> exact ⟨hr, hr, hr⟩
    | yielded r id d tr => exact ⟨hr, hr, hr⟩
    | ret k r =>
      rw [Mon06.step_ret_eq]
      -- the two branches of the `split`: the poll went idle and the book is swept, or not; neither touches the three flags
      cases r with
      | readyNone =>
        -- the end of the stream: `streamDone` is set
        dsimp only
        split
        · exact ⟨hr, hr, (Bool.or_true _).symm⟩
        · exact ⟨hr, hr, (Bool.or_true _).symm⟩
      | _ =>
        dsimp only
        split
        · exact ⟨hr, hr, hr⟩
        · exact ⟨hr, hr, hr⟩
    | spin t => exact ⟨(Bool.or_true _).symm, hr, hr⟩
    | panic t w => exact ⟨(Bool.or_true _).symm, hr, hr⟩

theorem step_spun (b : Book) (e : SEv) : (b.step e).spun = (b.spun || poisonEv e) := (step_flags b e).1
theorem step_eofSeen (b : Book) (e : SEv) : (b.step e).eofSeen = (b.eofSeen || eofEv e) := (step_flags b e).2.1
theorem step_streamDone (b : Book) (e : SEv) : (b.step e).streamDone = (b.streamDone || noneRetEv e) :=
  (step_flags b e).2.2

theorem mon_step_def {σ} (check : Book → σ → SEv → σ × Option String) (m : Mon σ) (e : SEv) :
    Mon.step check m e =
      match (if (bookOf m.book e).spun then (m.st, none) else check (bookOf m.book e) m.st e).2 with
      | some why =>
          Mon.fail { m with st := (if (bookOf m.book e).spun then (m.st, none) else check (bookOf m.book e) m.st e).1,
                            book := (m.book.step e).noteFinish e } why
      | none => { m with st := (if (bookOf m.book e).spun then (m.st, none) else check (bookOf m.book e) m.st e).1,
                         book := (m.book.step e).noteFinish e } := by
  cases e <;> rfl

theorem fail_book {σ : Type} (m : Mon σ) (w : String) : (m.fail w).book = m.book := by
  unfold Mon.fail; split <;> rfl
theorem fail_st {σ : Type} (m : Mon σ) (w : String) : (m.fail w).st = m.st := by
  unfold Mon.fail; split <;> rfl

theorem mon_step_book {σ : Type} (check : Book → σ → SEv → σ × Option String) (m : Mon σ) (e : SEv) :
    (Mon.step check m e).book = (m.book.step e).noteFinish e := by
  rw [mon_step_def]
  split
  · rw [fail_book]
  · rfl

theorem mon_step_bad {σ : Type} (check : Book → σ → SEv → σ × Option String) (m : Mon σ) (e : SEv) (hb : m.bad = none)
    (hc : m.book.spun = true ∨ (check (bookOf m.book e) m.st e).2 = none) : (Mon.step check m e).bad = none := by
  rw [mon_step_def]
  have : (if (bookOf m.book e).spun then (m.st, none) else check (bookOf m.book e) m.st e).2 = none := by
    rcases hc with hs | hc
    · rw [bookOf_spun, hs]; rfl
    · split
      · rfl
      · exact hc
  rw [this]; exact hb

theorem mon_obs_book {σ : Type} (check : Book → σ → SEv → σ × Option String) (l : List Obs) (m : Mon σ) :
    (l.foldl (fun m o => Mon.step check m (.obs o)) m).book = l.foldl (fun b o => b.step (.obs o)) m.book := by
  induction l generalizing m with
  | nil => rfl
  | cons o l ih =>
    simp only [List.foldl_cons]
    rw [ih, mon_step_book]
    rfl

theorem run_congr {σ : Type} (check check' : Book → σ → SEv → σ × Option String) (evs : List SEv)
    (h : ∀ e ∈ evs, ∀ b st, check b st e = check' b st e) (m : Mon σ) :
    evs.foldl (Mon.step check) m = evs.foldl (Mon.step check') m := by
  induction evs generalizing m with
  | nil => rfl
  | cons e evs ih =>
    simp only [List.foldl_cons]
    rw [mon_step_def, h e (List.mem_cons_self ..), ← mon_step_def]
    exact ih (fun e' he' => h e' (List.mem_cons_of_mem _ he')) _

theorem sim_run {σ γ : Type} (check : Book → σ → SEv → σ × Option String) (gev : γ → SEv → γ) (R : Mon σ → γ → Prop)
    (evs : List SEv) (hstep : ∀ e ∈ evs, ∀ m g, R m g → R (Mon.step check m e) (gev g e)) :
    ∀ m g, R m g → R (evs.foldl (Mon.step check) m) (evs.foldl gev g) := by
  induction evs with
  | nil => intro m g h; exact h
  | cons e evs ih =>
    intro m g h
    exact ih (fun e' he' => hstep e' (List.mem_cons_of_mem _ he')) _ _ (hstep e (List.mem_cons_self ..) m g h)

theorem step_bad_none_inv {σ : Type} (check : Book → σ → SEv → σ × Option String) (m : Mon σ) (e : SEv)
    (h : (Mon.step check m e).bad = none) :
    m.bad = none ∧ (m.book.spun = true ∨ (check (bookOf m.book e) m.st e).2 = none) := by
  rw [mon_step_def] at h
  split at h
  · next why hf =>
    exfalso
    unfold Mon.fail at h
    split at h
    · next w hb => simp only at hb; rw [hb] at h; cases h
    · cases h
  · next hf =>
    refine ⟨h, ?_⟩
    cases hs : m.book.spun with
    | true => exact Or.inl rfl
    | false =>
      right
      rw [bookOf_spun, hs] at hf
      exact hf

theorem foldl_bad_none {σ : Type} (check : Book → σ → SEv → σ × Option String) (evs : List SEv) :
    ∀ m : Mon σ, (evs.foldl (Mon.step check) m).bad = none → m.bad = none := by
  induction evs with
  | nil => intro m h; exact h
  | cons e evs ih => intro m h; exact (step_bad_none_inv check m e (ih _ h)).1

theorem run_orElse (ck c1 c2 : Book → Unit → SEv → Unit × Option String)
    (hsp : ∀ b u e, (ck b u e).2 = (c1 b u e).2.orElse fun _ => (c2 b u e).2) (evs : List SEv) :
    ∀ (m m1 m2 : Mon Unit), m.book = m1.book → m.book = m2.book → m.bad = none →
    (evs.foldl (Mon.step c1) m1).bad = none → (evs.foldl (Mon.step c2) m2).bad = none →
    (evs.foldl (Mon.step ck) m).bad = none := by
  induction evs with
  | nil => intro m _ _ _ _ hb _ _; exact hb
  | cons e evs ih =>
    intro m m1 m2 hb1 hb2 hb h1 h2
    simp only [List.foldl_cons] at h1 h2 ⊢
    obtain ⟨_, hc1⟩ := step_bad_none_inv c1 m1 e (foldl_bad_none _ evs _ h1)
    obtain ⟨_, hc2⟩ := step_bad_none_inv c2 m2 e (foldl_bad_none _ evs _ h2)
    refine ih _ _ _ ?_ ?_ ?_ h1 h2
    · rw [mon_step_book, mon_step_book, hb1]
    · rw [mon_step_book, mon_step_book, hb2]
    · refine mon_step_bad ck m e hb ?_
      rcases hc1 with hs | hc1
      · exact Or.inl (by rw [hb1]; exact hs)
      · rcases hc2 with hs | hc2
        · exact Or.inl (by rw [hb2]; exact hs)
        · right
          rw [hsp, hb1, hc1]
          show (c2 (bookOf m1.book e) () e).2 = none
          rw [← hb1, hb2]; exact hc2

end TarpcModel.Server.FlowMon

namespace TarpcModel.Server.Flow
open TarpcModel TarpcModel.Server

/-- the system an op starts from: the observation buffer cleared -/
def clr (c : Sys) : Sys := { c with s := { c.s with obs := [] } }

theorem stepOp_fst (c : Sys) (op : SOp) : (stepOp c op).1 = clr (applyOp (clr c) op) := rfl
theorem stepOp_snd (c : Sys) (op : SOp) : (stepOp c op).2 = (applyOp (clr c) op).s.obs.reverse := rfl

/-! (for rewriting: asked whether `(clr X).now` is `(applyOp …).now`, the unifier tries `clr X =?= applyOp …` and unfolds `applyOp`) -/
theorem clr_now (c : Sys) : (clr c).now = c.now := rfl
theorem clr_s (c : Sys) : (clr c).s = { c.s with obs := [] } := rfl

end TarpcModel.Server.Flow

namespace TarpcModel.Server.Mon06
open TarpcModel TarpcModel.Server TarpcModel.Server.Flow TarpcModel.Server.ObsMon

/-- the fold of the book over the observation buffer (most recent first) -/
def bo (b0 : Book) (obs : List Obs) : Book := obs.foldr (fun o b => b.step (.obs o)) b0

@[simp] theorem bo_nil (b0 : Book) : bo b0 [] = b0 := rfl
@[simp] theorem bo_cons (b0 : Book) (o : Obs) (l : List Obs) : bo b0 (o :: l) = (bo b0 l).step (.obs o) := rfl

theorem bo_eq_foldl (b0 : Book) (obs : List Obs) : bo b0 obs = obs.reverse.foldl (fun b o => b.step (.obs o)) b0 := by
  unfold bo
  rw [List.foldl_reverse]

theorem bo_all {Q : Obs → Prop} {P : Book → Book → Prop} (hr : ∀ b, P b b) (ht : ∀ {a b c}, P a b → P b c → P a c)
    (hstep : ∀ b o, Q o → P b (b.step (.obs o))) (b0 : Book) (l : List Obs) (h : ∀ o ∈ l, Q o) : P b0 (bo b0 l) := by
  induction l with
  | nil => exact hr _
  | cons o l ih =>
    exact ht (ih fun o' ho' => h o' (List.mem_cons_of_mem _ ho')) (hstep _ o (h o (List.mem_cons_self ..)))

theorem bo_adds {Q : Obs → Prop} {P : Book → Book → Prop} (hr : ∀ b, P b b) (ht : ∀ {a b c}, P a b → P b c → P a c)
    (hstep : ∀ b o, Q o → P b (b.step (.obs o))) (b0 : Book) {s s' : St} (h : Adds Q s s') :
    P (bo b0 s.obs) (bo b0 s'.obs) := by
  obtain ⟨l, e, p⟩ := h
  rw [e, show bo b0 (l ++ s.obs) = bo (bo b0 s.obs) l from List.foldr_append ..]
  exact bo_all hr ht hstep _ l p

/-- the book right after the op event -/
def opBook (b : Book) (op : SOp) : Book := (b.step (.op op)).noteFinish (.op op)

theorem step_limit (b : Book) (e : SEv) : (b.step e).limit = b.limit := by
  cases e with
  | op o =>
    obtain ⟨ex, ao, h⟩ := FlowMon.endOp_frame b
    have : (b.step (.op o)).limit = b.endOp.limit := by cases o <;> rfl
    rw [this, h]
  | obs o =>
    induction o using FlowMon.obs_cases with
    | quiet o h => obtain ⟨g, jr, fl, st, bl, sw, pr, lc, _, he⟩ := FlowMon.step_quiet b o h; rw [he]
    | tNext ep r =>
      rw [step_tNext_eq]
      obtain ⟨t, a, e⟩ := preRead_frame b
      rw [e]
      cases r with
      | item m =>
        cases m with
        | cancel id tr =>
          dsimp only
          generalize List.find? (fun p : Nat × Nat => p.1 == id) t.reverse = o
          cases o <;> rfl
        | _ => rfl
      | _ => rfl
    | resp ep id res ok => cases ok <;> rfl
    | yielded r id d tr => rfl
    | ret k r =>
      rw [step_ret_eq]
      cases r <;> dsimp only <;> split <;> rfl
    | spin t => rfl
    | panic t w => rfl

theorem noteFinish_limit (b : Book) (e : SEv) : (b.noteFinish e).limit = b.limit := by
  unfold Book.noteFinish; split <;> rfl

theorem bo_limit (b : Book) (l : List Obs) : (bo b l).limit = b.limit := by
  induction l with
  | nil => rfl
  | cons o l ih => rw [bo_cons, step_limit, ih]

theorem opBook_limit (b : Book) (op : SOp) : (opBook b op).limit = b.limit := by
  unfold opBook; rw [noteFinish_limit, step_limit]

/-! `spun` is never reset, so "past a spin, or `P`" reads "while not past a spin, `P`": `unspun_or` opens a goal of that form,
`bo_cons_unspun` carries "not past a spin" back to every earlier buffer, `of_unspun` opens a hypothesis. -/

theorem step_spun_mono (b : Book) (e : SEv) (h : b.spun = true) : (b.step e).spun = true := by
  rw [FlowMon.step_spun, h]; rfl

theorem bo_spun_mono (b0 : Book) (l l' : List Obs) (h : (bo b0 l).spun = true) : (bo b0 (l' ++ l)).spun = true := by
  induction l' with
  | nil => exact h
  | cons o l' ih => exact step_spun_mono _ _ ih

theorem of_unspun {b : Book} {P : Prop} (h : b.spun = true ∨ P) (hn : b.spun = false) : P :=
  h.resolve_left (by rw [hn]; exact Bool.false_ne_true)

theorem unspun_or {b : Book} {P : Prop} (h : b.spun = false → P) : b.spun = true ∨ P := by
  cases hs : b.spun with
  | true => exact Or.inl rfl
  | false => exact Or.inr (h hs)

theorem step_unspun {b : Book} {e : SEv} (hn : (b.step e).spun = false) : b.spun = false := by
  cases hs : b.spun with
  | false => rfl
  | true => rw [step_spun_mono _ _ hs] at hn; cases hn

theorem bo_cons_unspun {b0 : Book} {o : Obs} {l : List Obs} (hn : (bo b0 (o :: l)).spun = false) :
    (bo b0 l).spun = false := step_unspun hn

end TarpcModel.Server.Mon06

namespace TarpcModel.Server.Tab
open TarpcModel TarpcModel.Server TarpcModel.Server.Flow TarpcModel.Server.ObsMon TarpcModel.Server.Mon06

/-- every observation so far passed the check (or the monitor is past a spin / panic) -/
def CK (chk : Book → Obs → Option String) (b0 : Book) : List Obs → Prop
  | [] => True
  | o :: l => CK chk b0 l ∧ ((bo b0 l).spun = true ∨ chk (bo b0 l) o = none)

theorem CK.append {chk : Book → Obs → Option String} {b0 : Book} {l : List Obs} (h : CK chk b0 l) (l' : List Obs)
    (hl : ∀ o ∈ l', ∀ b, chk b o = none) : CK chk b0 (l' ++ l) := by
  induction l' with
  | nil => exact h
  | cons o l' ih =>
    exact ⟨ih (fun o' ho' => hl o' (List.mem_cons_of_mem _ ho')), Or.inr (hl o (List.mem_cons_self ..) _)⟩

theorem CK.silent {chk : Book → Obs → Option String} (b0 : Book) (l : List Obs) (hl : ∀ o ∈ l, ∀ b, chk b o = none) :
    CK chk b0 l := by
  have := CK.append (chk := chk) (b0 := b0) (l := []) trivial l hl
  rwa [List.append_nil] at this

/-- the ops that poll or drop neither the request stream nor an execution -/
def ExtOp (op : SOp) : Prop :=
  op ≠ .pollServer ∧ op ≠ .dropServer ∧ (∀ v, op ≠ .pollExec v) ∧ (∀ v, op ≠ .dropExec v)

theorem op_cases {motive : SOp → Prop} (op : SOp) (poll : motive .pollServer) (drop : motive .dropServer)
    (pexec : ∀ v, motive (.pollExec v)) (dexec : ∀ v, motive (.dropExec v)) (ext : ∀ op, ExtOp op → motive op) : motive op := by
  cases op with
  | pollServer => exact poll
  | dropServer => exact drop
  | pollExec v => exact pexec v
  | dropExec v => exact dexec v
  | _ => exact ext _ ⟨nofun, nofun, nofun, nofun⟩

section gen
variable (check : Book → Unit → SEv → Unit × Option String)

def chkOf (b : Book) (o : Obs) : Option String := (check b () (.obs o)).2

def mobsG (m : Mon Unit) (l : List Obs) : Mon Unit := l.foldl (fun m o => Mon.step check m (.obs o)) m

theorem mobsG_book (l : List Obs) (m : Mon Unit) : (mobsG check m l).book = l.foldl (fun b o => b.step (.obs o)) m.book :=
  FlowMon.mon_obs_book check l m

theorem mobsG_ok : ∀ (obs : List Obs) (m : Mon Unit), m.bad = none → CK (chkOf check) m.book obs →
    (mobsG check m obs.reverse).bad = none := by
  intro obs
  induction obs with
  | nil => intro m hb _; exact hb
  | cons o l ih =>
    intro m hb hck
    have h1 := ih m hb hck.1
    have hbk : (mobsG check m l.reverse).book = bo m.book l := by rw [mobsG_book, bo_eq_foldl]
    rw [List.reverse_cons]
    show ((l.reverse ++ [o]).foldl (fun m o => Mon.step check m (.obs o)) m).bad = none
    rw [List.foldl_append]
    show (Mon.step check (mobsG check m l.reverse) (.obs o)).bad = none
    refine FlowMon.mon_step_bad check _ _ h1 ?_
    rw [hbk]
    exact hck.2

end gen

/-- (For checks without a state of their own.  `monC06Stall`, the one monitor with a state, has no acceptance theorem: what is
proved is its clause as the stateless `checkLimiterExit`, ServerStallWalk, `Props/C06LimiterExitMon`.) -/
theorem trace_core {check : Book → Unit → SEv → Unit × Option String} {I : Book → Sys → List SOp → Prop}
    (hev : ∀ b op, (check b () (.op op)).2 = none)
    (hop : ∀ {b : Book} {c : Sys} (op : SOp) (ops : List SOp), I b c (op :: ops) →
      I (bo (opBook b op) (applyOp (clr c) op).s.obs) (stepOp c op).1 ops ∧
      CK (chkOf check) (opBook b op) (applyOp (clr c) op).s.obs)
    (ops : List SOp) : ∀ (c : Sys) (m : Mon Unit), m.bad = none → I m.book c ops →
    ((trace c ops).foldl (Mon.step check) m).bad = none := by
  intro c m hb hI
  have := traceOf.fold (f := Mon.step check) (Z := fun _ => False) (fun _ _ h => h)
    (K := fun m c ops => m.bad = none ∧ I m.book c ops) (fun m c op ops ⟨hb, hI⟩ => Or.inr ?_) ops m c (Or.inr ⟨hb, hI⟩)
  · exact this.elim False.elim (fun ⟨_, h⟩ => h.1)
  · obtain ⟨hI', hck⟩ := hop op ops hI
    have hb1 : (Mon.step check m (.op op)).bad = none := FlowMon.mon_step_bad _ m _ hb (Or.inr (hev _ op))
    have hbk1 : (Mon.step check m (.op op)).book = opBook m.book op := FlowMon.mon_step_book _ m _
    rw [List.foldl_map, stepOp_snd]
    show (mobsG check _ _).bad = none ∧ I (mobsG check _ _).book _ _
    generalize (applyOp (clr c) op).s.obs = l at hI' hck ⊢
    refine ⟨mobsG_ok _ _ _ hb1 (by rw [hbk1]; exact hck), ?_⟩
    rw [mobsG_book, hbk1, ← bo_eq_foldl]
    exact hI'

end TarpcModel.Server.Tab

namespace TarpcModel.Server.FlowMon
open TarpcModel TarpcModel.Server TarpcModel.Server.Flow

/-! A monitor rewritten as a fold over observations that does not mention the book (`step`; `opn` at an op event). -/
section fold
variable {γ : Type} (step : γ → Obs → γ) (opn : γ → γ)

/-- the fold over an observation buffer (most recent first) -/
def foldObs (g0 : γ) (obs : List Obs) : γ := obs.foldr (fun o g => step g o) g0

/-- the fold over the events of a trace -/
def foldEv (g : γ) : SEv → γ
  | .op _ => opn g
  | .obs o => step g o

theorem foldEv_obs (g : γ) (obs : List Obs) :
    (obs.reverse.map SEv.obs).foldl (foldEv step opn) g = foldObs step g obs := by
  rw [List.foldl_map, List.foldl_reverse]; rfl

theorem foldObs_filter (p : Obs → Bool) (hp : ∀ g o, p o = false → step g o = g) (g0 : γ) (l : List Obs) :
    foldObs step g0 (l.filter p) = foldObs step g0 l := by
  induction l with
  | nil => rfl
  | cons o l ih =>
    cases h : p o with
    | true => rw [List.filter_cons_of_pos h]; exact congrArg (step · o) ih
    | false => rw [List.filter_cons_of_neg (by rw [h]; exact Bool.false_ne_true), ih]; exact (hp _ o h).symm

/-- an invariant between the fold and the system that every op keeps holds at the end of every trace -/
theorem fold_trace {Inv : γ → Sys → Prop}
    (hop : ∀ g c op, Inv g c → Inv (foldObs step (opn g) (applyOp (clr c) op).s.obs) (stepOp c op).1)
    (ops : List SOp) (c : Sys) (g : γ) (h : Inv g c) : ∃ c', Inv ((trace c ops).foldl (foldEv step opn) g) c' := by
  have := traceOf.fold (f := foldEv step opn) (Z := fun _ => False) (fun _ _ h => h) (K := fun g c _ => Inv g c)
    (fun g c op ops h => .inr (by
      rw [stepOp_snd, foldEv_obs]
      exact hop g c op h))
    ops g c (.inr h)
  exact this.elim False.elim id

end fold

end TarpcModel.Server.FlowMon
