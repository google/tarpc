import TarpcModel.Monitors.C13
/-!
Lemmas for C13 (`Props/C13.lean`), the channel limiter per key (`Limits/ChannelsPerKey.lean`): the invariant `Inv` of the
model and the coupling `Good` of model and monitor, kept by every op.
-/
namespace TarpcModel.CPK

@[simp] theorem lookup_erase_self (k : Nat) (m) : lookup k (erase k m) = none := by
  induction m with
  | nil => simp [lookup, erase]
  | cons e m ih => obtain ⟨k', t⟩ := e; by_cases h : k' = k <;> simp_all [lookup, erase]

theorem lookup_erase_ne (k k' : Nat) (m) (h : k' ≠ k) : lookup k' (erase k m) = lookup k' m := by
  induction m with
  | nil => simp [lookup, erase]
  | cons e m ih =>
    obtain ⟨k'', t⟩ := e
    by_cases h1 : k'' = k <;> by_cases h2 : k'' = k' <;> simp_all [lookup, erase] <;> omega

@[simp] theorem lookup_set_self (k t : Nat) (m) : lookup k (set k t m) = some t := by
  simp [lookup, set]

theorem lookup_set_ne (k k' t : Nat) (m) (h : k' ≠ k) : lookup k' (set k t m) = lookup k' m := by
  have : ¬ (k = k') := by omega
  simp [lookup, set, this, lookup_erase_ne k k' m h]

/-- (`guard`: the invariant is that of the limiter with the stale-entry guard; without the guard it fails) -/
structure Inv (s : St) : Prop where
  limPos : 1 ≤ s.limit
  guard : s.guardStale = true
  tracked : ∀ ch ∈ s.chans, lookup ch.key s.keyCounts = some ch.tid
  inj : ∀ k1 k2 t, lookup k1 s.keyCounts = some t → lookup k2 s.keyCounts = some t → k1 = k2
  fresh : ∀ k t, lookup k s.keyCounts = some t → t < s.nextTid
  bound : ∀ k, aliveForKey k s.chans ≤ s.limit

theorem Inv.of_fields {s s' : St} (h : Inv s) (h1 : s'.limit = s.limit) (h2 : s'.guardStale = s.guardStale)
    (h3 : s'.chans = s.chans) (h4 : s'.keyCounts = s.keyCounts) (h5 : s'.nextTid = s.nextTid) : Inv s' :=
  ⟨h1 ▸ h.limPos, h2 ▸ h.guard, by rw [h3, h4]; exact h.tracked, by rw [h4]; exact h.inj, by rw [h4, h5]; exact h.fresh,
    by rw [h3, h1]; exact h.bound⟩

def Coupled (s : St) (m : MonSt) : Prop :=
  m.alive = s.chans.map (fun c => (c.id, c.key))

theorem countKey_map (k : Nat) (cs : List Chan) :
    countKey k (cs.map (fun c => (c.id, c.key))) = aliveForKey k cs := by
  simp [countKey, aliveForKey, List.filter_map, Function.comp_def]

theorem strongCount_eq_alive {s : St} (hi : Inv s) {k t : Nat} (h : lookup k s.keyCounts = some t) :
    strongCount t s.chans = aliveForKey k s.chans := by
  unfold strongCount aliveForKey
  congr 1
  apply List.filter_congr
  intro ch hch
  have ha := hi.tracked ch hch
  by_cases h1 : ch.tid = t
  · have : ch.key = k := hi.inj _ _ t (by rw [ha, h1]) h
    grind
  · have : ch.key ≠ k := by
      intro hk; rw [hk, h] at ha; injection ha with ha; exact h1 ha.symm
    grind

theorem alive_zero_of_lookup_none {s : St} (hi : Inv s) {k : Nat} (h : lookup k s.keyCounts = none) :
    aliveForKey k s.chans = 0 := by
  unfold aliveForKey
  rw [List.length_eq_zero_iff, List.filter_eq_nil_iff]
  intro ch hch
  have ha := hi.tracked ch hch
  intro hk; simp at hk; rw [hk, h] at ha; simp at ha

theorem aliveForKey_append (k : Nat) (cs : List Chan) (c : Chan) :
    aliveForKey k (cs ++ [c]) = aliveForKey k cs + (if c.key = k then 1 else 0) := by
  unfold aliveForKey
  by_cases h : c.key = k <;> simp [List.filter_append, h]

theorem no_chan_of_alive_zero {cs : List Chan} {k : Nat} (h0 : aliveForKey k cs = 0) :
    ∀ ch ∈ cs, ch.key ≠ k := by
  intro ch hch hk
  have : 0 < aliveForKey k cs := by
    unfold aliveForKey
    exact List.length_pos_of_mem (List.mem_filter.mpr ⟨hch, by simp [hk]⟩)
  omega

/-- Creating a fresh tracker for a key with no live channel and admitting a channel under it. -/
theorem inv_set_fresh {s : St} (hi : Inv s) {k : Nat} (h0 : aliveForKey k s.chans = 0) (cid : Nat) :
    Inv { s with keyCounts := set k s.nextTid s.keyCounts, nextTid := s.nextTid + 1,
                 chans := s.chans ++ [{ id := cid, key := k, tid := s.nextTid }] } := by
  have hnone := no_chan_of_alive_zero h0
  refine ⟨hi.limPos, hi.guard, ?_, ?_, ?_, ?_⟩
  · intro ch hch
    simp only [List.mem_append, List.mem_singleton] at hch
    rcases hch with hch | rfl
    · have := hnone ch hch
      simp [lookup_set_ne _ _ _ _ this, hi.tracked ch hch]
    · simp
  · intro k1 k2 t' h1 h2
    simp only at h1 h2
    by_cases e1 : k1 = k <;> by_cases e2 : k2 = k
    · omega
    · subst e1; rw [lookup_set_self] at h1; rw [lookup_set_ne _ _ _ _ e2] at h2
      have := hi.fresh _ _ h2; simp at h1; omega
    · subst e2; rw [lookup_set_self] at h2; rw [lookup_set_ne _ _ _ _ e1] at h1
      have := hi.fresh _ _ h1; simp at h2; omega
    · rw [lookup_set_ne _ _ _ _ e1] at h1; rw [lookup_set_ne _ _ _ _ e2] at h2
      exact hi.inj _ _ _ h1 h2
  · intro k' t' h
    simp only at h
    by_cases e1 : k' = k
    · subst e1; rw [lookup_set_self] at h; simp at h; simp; omega
    · rw [lookup_set_ne _ _ _ _ e1] at h; have := hi.fresh _ _ h; simp; omega
  · intro k'
    simp only [aliveForKey_append]
    by_cases e1 : k = k'
    · subst e1; simp [h0]; exact hi.limPos
    · simp [e1]; exact hi.bound k'

/-- Admitting a channel under the live tracker already in the map. -/
theorem inv_add_live {s : St} (hi : Inv s) {k t : Nat} (hl : lookup k s.keyCounts = some t)
    (hlt : aliveForKey k s.chans < s.limit) (cid : Nat) :
    Inv { s with chans := s.chans ++ [{ id := cid, key := k, tid := t }] } := by
  refine ⟨hi.limPos, hi.guard, ?_, hi.inj, hi.fresh, ?_⟩
  · intro ch hch
    simp only [List.mem_append, List.mem_singleton] at hch
    rcases hch with hch | rfl
    · exact hi.tracked ch hch
    · exact hl
  · intro k'
    simp only [aliveForKey_append]
    by_cases e1 : k = k'
    · subst e1; simp; omega
    · simp [e1]; exact hi.bound k'

/-- Model state and monitor state agree and nothing has gone wrong so far. -/
structure Good (n : Nat) (s : St) (m : MonSt) : Prop where
  inv : Inv s
  lim : s.limit = n
  cpl : Coupled s m
  ok  : m.ok = true

theorem countKey_append (k : Nat) (l : List (Nat × Nat)) (c k' : Nat) :
    countKey k (l ++ [(c, k')]) = countKey k l + (if k' = k then 1 else 0) := by
  unfold countKey
  by_cases h : k' = k <;> simp [List.filter_append, h]

theorem countKey_coupled {s : St} {m : MonSt} (h : Coupled s m) (k : Nat) :
    countKey k m.alive = aliveForKey k s.chans := by rw [h, countKey_map]

/-- The monitor accepts a `yielded` event and stays coupled when the model admits a channel. -/
theorem good_yield {n : Nat} {s s' : St} {m : MonSt} (g : Good n s m) (cid k t : Nat)
    (hi : Inv s') (hlim : s'.limit = s.limit)
    (hch : s'.chans = s.chans ++ [{ id := cid, key := k, tid := t }]) :
    Good n s' (monStep n m (.yielded cid k)) := by
  have hc : m.alive = _ := g.cpl
  refine ⟨hi, by rw [hlim, g.lim], ?_, ?_⟩
  · simp [Coupled, monStep, hch, hc]
  · have h1 := hi.bound k
    rw [hch, aliveForKey_append] at h1
    simp only [monStep, g.ok, Bool.true_and, decide_eq_true_eq, countKey_append,
      countKey_coupled g.cpl]
    have := g.lim; simp at h1 ⊢; omega

theorem good_shed {n : Nat} {s s' : St} {m : MonSt} (g : Good n s m) (cid k : Nat)
    (hi : Inv s') (hlim : s'.limit = s.limit) (hch : s'.chans = s.chans)
    (hfull : s.limit ≤ aliveForKey k s.chans) :
    Good n s' (monStep n m (.shed cid k)) := by
  have hc : m.alive = _ := g.cpl
  refine ⟨hi, by rw [hlim, g.lim], ?_, ?_⟩
  · simp [Coupled, monStep, hch, hc]
  · simp only [monStep, g.ok, Bool.true_and, decide_eq_true_eq, countKey_coupled g.cpl]
    have := g.lim; omega

theorem pollListener_good {n : Nat} {s : St} {m : MonSt} (g : Good n s m) :
    Good n (pollListener s).1 ((pollListener s).2.2.foldl (monStep n) m) := by
  unfold pollListener
  cases hl : s.listener with
  | nil => by_cases he : s.ended <;> simp [he] <;> exact g
  | cons e rest =>
    obtain ⟨cid, k⟩ := e
    have hi' : Inv { s with listener := rest } :=
      g.inv.of_fields rfl rfl rfl rfl rfl
    simp only
    unfold increment
    cases hlk : lookup k s.keyCounts with
    | none =>
      have h0 := alive_zero_of_lookup_none g.inv hlk
      exact good_yield g cid k s.nextTid (inv_set_fresh hi' (k := k) h0 cid) rfl rfl
    | some t =>
      have hsc := strongCount_eq_alive g.inv hlk
      simp only
      by_cases hfull : strongCount t s.chans ≥ s.limit
      · simp only [hfull, ↓reduceIte, List.foldl]
        exact good_shed g cid k hi' rfl rfl (by omega)
      · simp only [hfull, ↓reduceIte]
        by_cases hpos : strongCount t s.chans > 0
        · simp only [hpos, ↓reduceIte, List.foldl]
          exact good_yield g cid k t (inv_add_live hi' (k := k) (t := t) hlk (by simp; omega) cid) rfl rfl
        · simp only [hpos, ↓reduceIte, List.foldl]
          have h0 : aliveForKey k s.chans = 0 := by omega
          exact good_yield g cid k s.nextTid (inv_set_fresh hi' (k := k) h0 cid) rfl rfl

theorem lookup_erase_some {k k' t : Nat} {m} (h : lookup k' (erase k m) = some t) :
    k' ≠ k ∧ lookup k' m = some t := by
  by_cases e : k' = k
  · subst e; simp at h
  · exact ⟨e, by rwa [lookup_erase_ne _ _ _ e] at h⟩

theorem pollClosed_good {n : Nat} {s : St} {m : MonSt} (g : Good n s m) :
    Good n (pollClosed s).1 m := by
  unfold pollClosed
  cases hd : s.dropped with
  | nil => exact g
  | cons k rest =>
    simp only
    by_cases he : eraseOnNotify s k = true
    · simp only [he, ↓reduceIte]
      -- the entry is erased: its tracker is dead, so no live channel has key `k`
      have hnone : ∀ ch ∈ s.chans, ch.key ≠ k := by
        unfold eraseOnNotify at he
        rw [g.inv.guard] at he
        simp only [↓reduceIte] at he
        cases hlk : lookup k s.keyCounts with
        | none => rw [hlk] at he; simp at he
        | some t =>
          rw [hlk] at he; simp only [beq_iff_eq] at he
          exact no_chan_of_alive_zero (by rw [← strongCount_eq_alive g.inv hlk]; exact he)
      refine ⟨⟨g.inv.limPos, g.inv.guard, ?_, ?_, ?_, g.inv.bound⟩, g.lim, g.cpl, g.ok⟩
      · intro ch hch
        simp only
        rw [lookup_erase_ne _ _ _ (hnone ch hch)]; exact g.inv.tracked ch hch
      · intro k1 k2 t' h1 h2
        exact g.inv.inj _ _ _ (lookup_erase_some h1).2 (lookup_erase_some h2).2
      · intro k' t' h
        exact g.inv.fresh _ _ (lookup_erase_some h).2
    · simp only [he, Bool.false_eq_true, ↓reduceIte]
      exact ⟨g.inv.of_fields rfl rfl rfl rfl rfl, g.lim, g.cpl, g.ok⟩

theorem pollNext_good {n : Nat} (fuel : Nat) {s : St} {m : MonSt} (g : Good n s m) :
    Good n (pollNext fuel s).1 ((pollNext fuel s).2.foldl (monStep n) m) := by
  induction fuel generalizing s m with
  | zero => simpa [pollNext, monStep] using g
  | succ fuel ih =>
    unfold pollNext
    have g1 := pollListener_good g
    rcases hpl : pollListener s with ⟨s1, l, o⟩
    rw [hpl] at g1
    simp only at g1 ⊢
    have g2 := pollClosed_good g1
    rcases hpc : pollClosed s1 with ⟨s2, c⟩
    rw [hpc] at g2
    simp only at g2 ⊢
    cases l <;> cases c <;> (try simp only) <;>
      first
        | exact g2
        | (simp only [List.foldl_append]; exact ih g2)
        | (simp only [List.foldl_append, List.foldl, monStep]; exact g2)

theorem closeChan_good {n : Nat} {s : St} {m : MonSt} (g : Good n s m) (cid : Nat) :
    Good n (closeChan s cid).1 ((closeChan s cid).2.foldl (monStep n) m) := by
  unfold closeChan
  cases hf : s.chans.find? (fun c => c.id == cid) with
  | none => simpa [monStep] using g
  | some c =>
    simp only [List.foldl]
    refine ⟨⟨g.inv.limPos, g.inv.guard, ?_, g.inv.inj, g.inv.fresh, ?_⟩, g.lim, ?_, ?_⟩
    · intro ch hch
      exact g.inv.tracked ch (List.mem_filter.mp hch).1
    · intro k
      refine Nat.le_trans ?_ (g.inv.bound k)
      unfold aliveForKey
      exact ((List.filter_sublist (l := s.chans)).filter _).length_le
    · have hc : m.alive = _ := g.cpl
      simp [Coupled, monStep, hc, List.filter_map, Function.comp_def]
    · simpa [monStep] using g.ok

theorem step_good {n : Nat} {s : St} {m : MonSt} (g : Good n s m) (op : Op) :
    Good n (step s op).1 ((step s op).2.foldl (monStep n) m) := by
  cases op with
  | arrive k =>
    unfold step
    by_cases he : s.ended
    · simpa [he, monStep] using g
    · simp only [he, Bool.false_eq_true, ↓reduceIte, List.foldl, monStep]
      exact ⟨g.inv.of_fields rfl rfl rfl rfl rfl, g.lim, g.cpl, g.ok⟩
  | endListener =>
    exact ⟨g.inv.of_fields rfl rfl rfl rfl rfl, g.lim, g.cpl, g.ok⟩
  | close c => exact closeChan_good g c
  | poll => exact pollNext_good _ g

theorem run_good {n : Nat} (ops : List Op) {s : St} {m : MonSt} (g : Good n s m) :
    Good n (run s ops).1 ((run s ops).2.foldl (monStep n) m) := by
  induction ops generalizing s m with
  | nil => simpa [run] using g
  | cons op ops ih =>
    simp only [run, List.foldl_append]
    exact ih (step_good g op)

theorem init_good {n : Nat} (h : 1 ≤ n) : Good n (init n) {} := by
  refine ⟨⟨h, rfl, ?_, ?_, ?_, ?_⟩, rfl, rfl, rfl⟩ <;> simp [init, lookup, aliveForKey]

/-- The code as translated uses the guarded removal; this is where a regenerated `Gen/Cpk.lean`
saying otherwise breaks the proof obligations. -/
theorem initCurrent_eq (n : Nat) : initCurrent n = init n := by
  simp [initCurrent, Gen.cpkGuardStale]

theorem initCurrent_good {n : Nat} (h : 1 ≤ n) : Good n (initCurrent n) {} := by
  rw [initCurrent_eq]; exact init_good h

end TarpcModel.CPK
