import TarpcModel.Lemmas.C15Varint
import TarpcModel.Wire.Bincode
/-! Helper lemmas for the bincode message codec (C15): parser locality, per-type round trips. -/
namespace TarpcModel.Bincode

/-! ### Locality: a successful parse is not affected by bytes appended behind it -/

def Parser.Local {α : Type} (p : Parser α) : Prop :=
  ∀ bs v r rest, p bs = some (v, r) → p (bs ++ rest) = some (v, r ++ rest)

theorem decLE_local (n : Nat) : (decLE n).Local := by
  intro bs v r rest h
  simp only [decLE] at h ⊢
  split at h
  · next hn =>
    simp at h
    simp [List.take_append_of_le_length hn, List.drop_append_of_le_length hn, h.1, h.2]
    omega
  · simp at h

theorem decVarint_local : decVarint.Local := by
  intro bs v r rest h
  cases bs with
  | nil => simp [decVarint] at h
  | cons b t =>
    simp only [decVarint, List.cons_append] at h ⊢
    split
    · next hb => simp [hb] at h; simp [h.1, h.2]
    · next hb =>
      simp only [hb, ↓reduceIte] at h
      split
      · next h1 => simp only [h1, ↓reduceIte] at h; exact decLE_local 2 _ _ _ _ h
      · next h1 =>
        simp only [h1, ↓reduceIte] at h
        split
        · next h2 => simp only [h2, ↓reduceIte] at h; exact decLE_local 4 _ _ _ _ h
        · next h2 =>
          simp only [h2, ↓reduceIte] at h
          split
          · next h3 => simp only [h3, ↓reduceIte] at h; exact decLE_local 8 _ _ _ _ h
          · next h3 => simp [h3] at h

theorem Parser.Local.post {α β : Type} {p : Parser α} {q : Parser β} (hp : p.Local) (g : α → Option β)
    (hq : ∀ bs, q bs = (p bs).bind fun (v, r) => (g v).map (·, r)) : q.Local := by
  intro bs v r rest h
  rw [hq] at h ⊢
  cases hd : p bs with
  | none => simp [hd] at h
  | some w =>
    rw [hp _ _ _ rest hd]
    rw [hd] at h
    cases hg : g w.1 with
    | none => simp [hg] at h
    | some u => simp [hg] at h ⊢; simp [h.1, h.2]

theorem Parser.Local.ite {α : Type} {c : Prop} [Decidable c] {p q : Parser α} (hp : p.Local)
    (hq : q.Local) : (if c then p else q).Local := by
  split <;> assumption

theorem decVarintBounded_local (b : Nat) : (decVarintBounded b).Local :=
  decVarint_local.post (fun v => if v < b then some v else none) fun bs => by
    unfold decVarintBounded
    cases decVarint bs with
    | none => rfl
    | some w => simp only [Option.bind_some]; split <;> rfl

theorem decSigned_local (bits : Nat) : (decSigned bits).Local :=
  decVarint_local.post
    (fun v => if -(2 ^ (bits - 1) : Int) ≤ unzigzag v ∧ unzigzag v < (2 ^ (bits - 1) : Int)
      then some (unzigzag v) else none) fun bs => by
    unfold decSigned
    cases decVarint bs with
    | none => rfl
    | some w => simp only [Option.bind_some]; split <;> rfl

theorem decU8_local : decU8.Local := by
  intro bs v r rest h
  cases bs with
  | nil => simp [decU8] at h
  | cons b t => simp [decU8] at h ⊢; simp [h.1, h.2]

theorem map_local {α β : Type} {p : Parser α} (hp : p.Local) (g : α → β) :
    Parser.Local fun bs => (p bs).map fun (v, r) => (g v, r) :=
  hp.post (fun v => some (g v)) fun bs => by cases p bs <;> rfl

theorem natP_local {p : Parser Nat} (hp : p.Local) : (natP p).Local := map_local hp _

theorem decKindNum_local (ty : String) : (decKindNum ty).Local :=
  .ite (natP_local decU8_local) <|
  .ite (map_local decU8_local fun v => if v < 128 then (v : Int) else (v : Int) - 256) <|
  .ite (natP_local (decVarintBounded_local _)) <| .ite (natP_local decVarint_local) <|
  .ite (decSigned_local 16) <| .ite (decSigned_local 32) <| .ite (decSigned_local 64) <|
  natP_local (decVarintBounded_local _)

theorem decKindP_local : decKindP.Local := map_local (decKindNum_local _) _

/-- From the value-level kind mapping to the parser inside a message. -/
theorem decKindP_of_decodeKind {bs : Bytes} {k' : String} (h : decodeKind bs = some k')
    (rest : Bytes) : decKindP (bs ++ rest) = some (k', rest) := by
  unfold decodeKind at h
  split at h
  · next k hk =>
    simp at h
    have := decKindP_local _ _ _ rest hk
    simpa [h] using this
  · simp at h

/-- On a literal the kernel evaluates `strBytes` through `List.toByteArray`, which appends byte by byte to the end
of a list (quadratic in the length); the right side is one pass.  `rw [strBytes_ofList]` applies to a literal,
which unifies with `String.ofList _`. -/
theorem strBytes_ofList (cs : List Char) :
    strBytes (String.ofList cs) = cs.flatMap String.utf8EncodeChar :=
  List.toList_data_toByteArray

/-! ### Table lookups -/

theorem lookupSer_of_not_mem (k : String) (tbl : List (String × Nat)) (d : Nat)
    (h : k ∉ tbl.map (·.1)) : lookupSer k tbl d = d := by
  induction tbl with
  | nil => rfl
  | cons p t ih =>
    obtain ⟨n, v⟩ := p
    simp at h
    simp [lookupSer, h.1, ih (by simpa using h.2)]

theorem lookupDe_of_not_mem (v : Nat) (tbl : List (Nat × String)) (d : String)
    (h : v ∉ tbl.map (·.1)) : lookupDe v tbl d = d := by
  induction tbl with
  | nil => rfl
  | cons p t ih =>
    obtain ⟨n, k⟩ := p
    simp at h
    simp [lookupDe, h.1, ih (by simpa using h.2)]

/-! ### Per-type round trips -/

theorem decU64_encU64 (v : Nat) (rest : Bytes) (h : v < 2 ^ 64) :
    decU64 (encU64 v ++ rest) = some (v, rest) := decVarint_encVarint v rest h

theorem decU32_encU32 (v : Nat) (rest : Bytes) (h : v < 2 ^ 32) :
    decU32 (encU32 v ++ rest) = some (v, rest) :=
  decVarintBounded_encVarint _ v rest (by decide) h

theorem decU16_encU16 (v : Nat) (rest : Bytes) (h : v < 2 ^ 16) :
    decU16 (encU16 v ++ rest) = some (v, rest) :=
  decVarintBounded_encVarint _ v rest (by decide) h

theorem decStr_encStr (s : String) (rest : Bytes) (h : strValid s) :
    decStr (encStr s ++ rest) = some (s, rest) := by
  unfold strValid at h
  simp only [decStr, encStr, List.append_assoc, decU64_encU64 _ _ h]
  simp [strBytes, String.fromUTF8?, String.toUTF8, s.isValidUTF8, String.fromUTF8]

theorem decDuration_encDuration (d : Duration) (rest : Bytes) (h : d.Valid) :
    decDuration (encDuration d ++ rest) = some (d, rest) := by
  obtain ⟨h1, h2⟩ := h
  have : d.nanos / 1000000000 = 0 := Nat.div_eq_of_lt h2
  have h3 : d.nanos % 1000000000 = d.nanos := Nat.mod_eq_of_lt h2
  simp [decDuration, encDuration, List.append_assoc, decU64_encU64 _ _ h1,
    decU32_encU32 _ _ (show d.nanos < 2 ^ 32 by omega), this, h1, h3]

theorem decTrace_encTrace (t : TraceContext) (rest : Bytes) (h : t.Valid) :
    decTrace (encTrace t ++ rest) = some (t, rest) := by
  obtain ⟨tid, sid, sampled⟩ := t
  obtain ⟨h1, h2⟩ := h
  simp only at h1 h2
  cases sampled
  · simp [decTrace, encTrace, List.append_assoc,
      decLE_leBytes 16 tid _ (show tid < 256 ^ 16 by omega), decU64_encU64 sid _ h2,
      decU32_encU32 1 rest (by decide)]
  · simp [decTrace, encTrace, List.append_assoc,
      decLE_leBytes 16 tid _ (show tid < 256 ^ 16 by omega), decU64_encU64 sid _ h2,
      decU32_encU32 0 rest (by decide)]

theorem decContext_encContext (c : Context) (rest : Bytes) (h : c.Valid) :
    decContext (encContext c ++ rest) = some (c, rest) := by
  simp [decContext, encContext, List.append_assoc, decDuration_encDuration _ _ h.1,
    decTrace_encTrace _ _ h.2]

section
variable {T : Type} {encT : T → Bytes} {decT : Parser T} {PT : T → Prop}

theorem decRequest_encRequest (hT : BodyCodec encT decT PT) (r : Request T) (rest : Bytes)
    (h : r.Valid PT) : decRequest decT (encRequest encT r ++ rest) = some (r, rest) := by
  obtain ⟨h1, h2, h3⟩ := h
  simp [decRequest, encRequest, List.append_assoc, decContext_encContext _ _ h1,
    decU64_encU64 _ _ h2, hT _ _ h3]

theorem decClientMessage_encClientMessage (hT : BodyCodec encT decT PT) (m : ClientMessage T)
    (rest : Bytes) (h : m.Valid PT) :
    decClientMessage decT (encClientMessage encT m ++ rest) = some (m, rest) := by
  cases m with
  | request r =>
    simp [decClientMessage, encClientMessage, List.append_assoc, decU32_encU32 0 _ (by decide),
      decRequest_encRequest hT r rest h]
  | cancel t id =>
    simp [decClientMessage, encClientMessage, List.append_assoc, decU32_encU32 1 _ (by decide),
      decTrace_encTrace _ _ h.1, decU64_encU64 _ _ h.2]

theorem decServerError_encServerError (e : ServerError) (k' : String) (rest : Bytes)
    (hk : decodeKind (encodeKind e.kind) = some k') (h : strValid e.detail) :
    decServerError (encServerError e ++ rest) = some ({ e with kind := k' }, rest) := by
  simp [decServerError, encServerError, List.append_assoc, decKindP_of_decodeKind hk,
    decStr_encStr _ _ h]

theorem decResponse_encResponse (hT : BodyCodec encT decT PT) (r : Response T) (hr : r.Valid PT) (k' : String)
    (hk : ∀ e, r.message = .err e → decodeKind (encodeKind e.kind) = some k') (rest : Bytes) :
    decResponse decT (encResponse encT r ++ rest) = some (r.withKind k', rest) := by
  obtain ⟨id, msg⟩ := r
  obtain ⟨h1, h2⟩ := hr
  cases msg with
  | ok t =>
    simp only at h1 h2
    simp [decResponse, encResponse, List.append_assoc, decU64_encU64 id _ h1,
      decU32_encU32 0 _ (by decide), hT _ _ h2, Response.withKind]
  | err e =>
    simp only at h1 h2
    have hk' := hk e rfl
    simp [decResponse, encResponse, List.append_assoc, decU64_encU64 id _ h1,
      decU32_encU32 1 _ (by decide), decServerError_encServerError e k' rest hk' h2,
      Response.withKind]

end

/-- evaluated once, for the examples of `Props/C15Codec.lean` and `Props/C15Json.lean` that state it -/
theorem portableKinds_sample :
    portableKinds.length = 18 ∧ "Other" ∈ portableKinds ∧ "OutOfMemory" ∉ portableKinds := by
  decide +kernel

end TarpcModel.Bincode
