import TarpcModel.Lemmas.ClientGeneric
/-! Mechanism lemmas about single functions of the client model (no invariant needed). -/
namespace TarpcModel.Client

/-! ### `completeRequest` touches only the call of the entry -/

/-- the calls with an id other than `cid` are literally unchanged -/
def OtherCallsSame (cid : Nat) (s s' : St) : Prop :=
  s'.calls.length = s.calls.length ∧ ∀ (i : Nat) (c : Call), s.calls[i]? = some c → c.cid ≠ cid → s'.calls[i]? = some c

theorem OtherCallsSame.refl (cid : Nat) (s : St) : OtherCallsSame cid s s := ⟨rfl, fun _ _ h _ => h⟩

theorem OtherCallsSame.of_calls_eq {cid : Nat} {s s' : St} (h : s'.calls = s.calls) : OtherCallsSame cid s s' :=
  ⟨by rw [h], fun _ _ hc _ => by rw [h]; exact hc⟩

theorem OtherCallsSame.trans {cid : Nat} {a b c : St} (h1 : OtherCallsSame cid a b) (h2 : OtherCallsSame cid b c) :
    OtherCallsSame cid a c :=
  ⟨h2.1.trans h1.1, fun i x hx hne => h2.2 i x (h1.2 i x hx hne) hne⟩

theorem updCall_other (s : St) (cid : Nat) (f : Call → Call) : OtherCallsSame cid s (updCall s cid f) := by
  refine ⟨by simp [updCall], fun i c hc hne => ?_⟩
  simp only [updCall, List.getElem?_map, hc, Option.map_some]
  simp [hne]

theorem wakeCall_other (s : St) (cid : Nat) : OtherCallsSame cid s (wakeCall s cid) := by
  rcases Flow.wakeCall_out s cid with ⟨_, _, _, e⟩ | ⟨_, e⟩ <;> rw [e]
  · exact OtherCallsSame.trans (updCall_other s cid _) (OtherCallsSame.of_calls_eq rfl)
  · exact OtherCallsSame.refl _ _

theorem osSend_other (s : St) (cid : Nat) (o : Outcome) : OtherCallsSame cid s (osSend s cid o) := by
  rcases Flow.osSend_out s cid o with ⟨_, e⟩ | ⟨_, _, _, e⟩ <;> rw [e]
  · exact OtherCallsSame.refl _ _
  · split
    · exact (updCall_other s cid _).trans (wakeCall_other _ cid)
    · exact updCall_other s cid _

theorem removeTimer_same (s : St) (k : Nat) :
    (removeTimer s k).calls = s.calls ∧ (removeTimer s k).pq = s.pq ∧ (removeTimer s k).cq = s.cq ∧
    (removeTimer s k).inflight = s.inflight := by
  rcases Flow.removeTimer_out s k with ⟨_, _, _, e⟩ | ⟨_, e⟩ <;> rw [e]
  · split <;> simp
  · exact ⟨rfl, rfl, rfl, rfl⟩

theorem completeRequest_targets {s : St} {id : Nat} {e : Entry} (hf : findEntry s id = some e) (o : Outcome) :
    (completeRequest s id o).2 = true ∧
    (completeRequest s id o).1.inflight = s.inflight.filter (·.id != id) ∧
    (completeRequest s id o).1.pq = s.pq ∧ (completeRequest s id o).1.cq = s.cq ∧
    (completeRequest s id o).1.t = s.t ∧
    OtherCallsSame e.cid s (completeRequest s id o).1 := by
  rcases Flow.completeRequest_out s id o with ⟨hn, _⟩ | ⟨e', he, eq⟩
  · rw [hf] at hn; cases hn
  rw [hf] at he; cases he
  rw [eq]
  obtain ⟨rc, rp, rq, ri⟩ := removeTimer_same { s with inflight := s.inflight.filter (·.id != id) } e.timerKey
  simp only [osSend_inflight, osSend_pq, osSend_cq, Flow.osSend_t, ri, rp, rq, Flow.removeTimer_t, true_and]
  exact OtherCallsSame.trans (b := removeTimer { s with inflight := s.inflight.filter (·.id != id) } e.timerKey)
    (OtherCallsSame.of_calls_eq rc) (osSend_other _ _ _)

/-! ### the dequeue loop skips requests whose receiver is closed -/

theorem nextRequestLoop_skip_closed (fuel : Nat) (s : St) (r : DReq) (h : (nextRequestLoop fuel s).2 = .some r) :
    osIsClosed (nextRequestLoop fuel s).1 r.cid = false := by
  have := nextRequestLoop_steps 0 fuel s
  rcases hr : nextRequestLoop fuel s with ⟨s', x⟩
  rw [hr] at this h
  cases h
  obtain ⟨_, _, _, hc, _⟩ := this
  exact hc

/-! ### a `Cancel` is written only for a tracked request, with the context stored in its entry -/

/-- nothing was written to the sink and the table is as it was -/
def Untouched (s s' : St) : Prop := s'.t.sentLog = s.t.sentLog ∧ s'.inflight = s.inflight

theorem Untouched.trans {a b c : St} (h1 : Untouched a b) (h2 : Untouched b c) : Untouched a c :=
  ⟨h2.1.trans h1.1, h2.2.trans h1.2⟩

theorem Step.untouched {now : Nat} {a : Act} {s s' : St} (ha : CanScanK a) (st : Step now a s s') : Untouched s s' := by
  have of_view : ∀ {s1 : St}, view s1 = view s → Untouched s s1 :=
    fun h => ⟨congrArg View.sentLog h, congrArg View.inflight h⟩
  cases st with
  | ready => exact of_view (view_tReady s)
  | flush => exact of_view (view_tFlush s)
  | spin => exact ⟨rfl, rfl⟩
  | cqIdle hx => exact of_view (view_cqRecv_idle hx)
  | cqMiss e _ => obtain ⟨_, _, rfl⟩ := cqRecv_item e; exact ⟨rfl, rfl⟩
  | _ => exact False.elim ha

/-- `pollWriteCancel` writes `Cancel id` only for an id that was in flight, removes that entry, and uses the trace
context stored in the entry. -/
theorem pollWriteCancel_spec (s : St) :
    ((pollWriteCancel s).1.t.sentLog = s.t.sentLog) ∨
     ∃ e, findEntry s e.id = some e ∧
       (pollWriteCancel s).1.t.sentLog = s.t.sentLog ++ [Msg.cancel e.id e.ctx.trace] ∧
       findEntry (pollWriteCancel s).1 e.id = none := by
  have scan : ∀ {s0 : St}, Steps 0 CanScanK s s0 → Untouched s s0 :=
    fun h => h.lift (fun _ => ⟨rfl, rfl⟩) Untouched.trans Step.untouched
  have h := pollNextCancellation_steps 0 s
  -- the entry a queued cancellation found: taken out of a table that was the one of `s`
  have taken : ∀ {s1 : St} {e : Entry}, pollNextCancellation s = (s1, .some e) →
      s1.t.sentLog = s.t.sentLog ∧ findEntry s e.id = some e ∧ s1.inflight = s.inflight.filter (·.id != e.id) := by
    intro s1 e he
    rw [he] at h
    obtain ⟨s0, s1', i, h0, h1, hc⟩ := h
    obtain ⟨u1, u2⟩ := scan h0
    obtain ⟨rest, _, rfl⟩ := cqRecv_item h1
    obtain ⟨hfe, pn, hv⟩ := view_cancelRequest_found hc
    obtain ⟨_, hid⟩ := findEntry_some hfe
    subst hid
    refine ⟨(congrArg View.sentLog hv).trans u1, ?_, (congrArg View.inflight hv).trans (by rw [← u2]; rfl)⟩
    unfold findEntry at hfe ⊢; rw [← u2]; exact hfe
  refine Flow.pollWriteCancel_cases (motive := fun p => p.1.t.sentLog = s.t.sentLog ∨ ∃ e, findEntry s e.id = some e ∧
    p.1.t.sentLog = s.t.sentLog ++ [Msg.cancel e.id e.ctx.trace] ∧ findEntry p.1 e.id = none) s ?_ ?_ ?_
  · intro s1 r e hr
    rw [e] at h
    cases r with
    | some x => cases hr
    | pending => exact .inl (scan h).1
    | none => exact .inl (scan h).1
    | err a => exact .inl (scan h).1
    | spin => exact .inl (scan h).1
  · intro s1 e s2 he ht
    obtain ⟨t1, t2, t3⟩ := taken he
    have hv := view_tSend s1 (.cancel e.id e.ctx.trace)
    rw [ht] at hv
    refine .inr ⟨e, t2, (congrArg View.sentLog hv).trans (by rw [← t1]; rfl), ?_⟩
    unfold findEntry
    rw [show s2.inflight = s1.inflight from congrArg View.inflight hv, t3, List.find?_filter]
    exact List.find?_eq_none.mpr (fun x _ => by simp)
  · intro s1 e s2 he ht
    obtain ⟨t1, _, _⟩ := taken he
    have hv := view_tSend s1 (.cancel e.id e.ctx.trace)
    rw [ht] at hv
    exact .inl ((congrArg View.sentLog hv).trans t1)

end TarpcModel.Client
