import TarpcModel.Lemmas.ClientFlowInv
import TarpcModel.Lemmas.ClientTRel
import TarpcModel.Lemmas.ClientTop
/-!
The write clauses of the client's C14 monitor (`checkC14Obs`, `.tSend`: no write after a reported failure, after the
close, or without a preceding `poll_ready → Ready`) on traces of the client model.

The monitor's state is a fold over the transport observations; three of its fields *are* fields of the instrumented
transport (`Cpl`: `gotReady`, `closed`, `failed`), because the dispatch does nothing to its transport but the five calls
it observes (`Flow.TRel`, `Lemmas/ClientTRel.lean`).  A write the monitor would object to is one at which the transport
records one of the violations `Flow.sendViols` — and its log only grows, and is free of them in every reachable state
(`Flow.Inv`).
-/
namespace TarpcModel.Client
open Flow

namespace M14

/-! ## the monitor's state as a fold; its write clauses -/

/-- the write clauses of `checkC14Obs` -/
def badSend (st : C14St) : Obs → Bool
  | .tSend _ _ _ => st.failed || st.closed || !st.gotReady
  | _ => false

def wstep (p : C14St × Bool) (o : Obs) : C14St × Bool := ((checkC14Obs p.1 o).1, p.2 || badSend p.1 o)

/-- (chronological order) -/
def wfl (p : C14St × Bool) (os : List Obs) : C14St × Bool := os.foldl wstep p

theorem wstep_nonT (p : C14St × Bool) (o : Obs) (h : isT o = false) : wstep p o = p := by
  obtain ⟨st, bd⟩ := p
  cases o with
  | ret t r =>
    have : (checkC14Obs st (.ret t r)).1 = st := by
      simp only [checkC14Obs, apply_ite Prod.fst, ite_self]
    show ((checkC14Obs st (.ret t r)).1, bd || false) = (st, bd)
    rw [this, Bool.or_false]
  | tReady ep r => cases h
  | tSend ep m ok => cases h
  | tFlush ep r => cases h
  | tClose ep r => cases h
  | tNext ep r => cases h
  | tViolation ep w => cases h
  | spin t => cases h
  | _ => simp [wstep, badSend, checkC14Obs]

theorem wstep_viol (p : C14St × Bool) (ep : TaskId) (w : String) : wstep p (.tViolation ep w) = p := by
  simp [wstep, badSend, checkC14Obs]

theorem wstep_spin (p : C14St × Bool) (t : TaskId) : wstep p (.spin t) = p := by
  simp [wstep, badSend, checkC14Obs]

theorem wfl_id (p : C14St × Bool) : ∀ (l : List Obs), (∀ o ∈ l, wstep p o = p) → wfl p l = p := by
  intro l
  induction l with
  | nil => intro _; rfl
  | cons o l ih =>
    intro h
    show wfl (wstep p o) l = p
    rw [h o (List.mem_cons_self ..)]
    exact ih (fun o' ho' => h o' (List.mem_cons_of_mem _ ho'))

theorem wfl_filter (l : List Obs) : ∀ p, wfl p l = wfl p (l.filter isT) := by
  induction l with
  | nil => intro p; rfl
  | cons o l ih =>
    intro p
    cases h : isT o with
    | false =>
      rw [List.filter_cons_of_neg (by simp [h])]
      show wfl (wstep p o) l = _
      rw [wstep_nonT p o h]; exact ih p
    | true =>
      rw [List.filter_cons_of_pos h]
      exact ih (wstep p o)

theorem wfl_append (p : C14St × Bool) (l1 l2 : List Obs) : wfl p (l1 ++ l2) = wfl (wfl p l1) l2 := by
  unfold wfl; rw [List.foldl_append]

/-- the fold over the observation buffer of a state (stored newest first) -/
def W (f0 : C14St × Bool) (s : St) : C14St × Bool := wfl f0 s.obs.reverse

theorem W_frameA {f0 : C14St × Bool} {s s' : St} (h : FrameA s s') : W f0 s' = W f0 s := by
  unfold W
  rw [wfl_filter, wfl_filter s.obs.reverse, List.filter_reverse, List.filter_reverse, h.tobs]

theorem W_tEmit (f0 : C14St × Bool) (s : St) (t' : SimT) (o : Obs) (w : Bool) :
    W f0 (tEmit s t' o w) = wstep (W f0 s) o := by
  have hv : ∀ p, wfl p (newViolObs s t').reverse = p := by
    intro p
    apply wfl_id
    intro x hx
    obtain ⟨v, _, rfl⟩ := mem_newViolObs (List.mem_reverse.mp hx)
    exact wstep_viol p _ _
  unfold W
  rw [tEmit_update]
  split
  · simp only [List.reverse_cons, List.reverse_append, wfl_append, hv]
    show wstep (wstep (wfl f0 s.obs.reverse) o) (.wake (.dispatch s.k)) = _
    rw [wstep_nonT _ _ rfl]
  · simp only [List.reverse_cons, List.reverse_append, wfl_append, hv]
    rfl

theorem W_cons (f0 : C14St × Bool) (s s' : St) (o : Obs) (h : s'.obs = o :: s.obs) : W f0 s' = wstep (W f0 s) o := by
  unfold W
  rw [h, List.reverse_cons, wfl_append]
  rfl

/-! ## the coupling with the transport -/

/-- the three flags of the monitor state are the transport's own -/
structure Cpl (st : C14St) (t : SimT) : Prop where
  gotReady : st.gotReady = t.gotReady
  closed : st.closed = t.closed
  failed : st.failed = t.failed

/-- the coupling holds and no write clause has fired -/
def Good (f0 : C14St × Bool) (s : St) : Prop := Cpl (W f0 s).1 s.t ∧ (W f0 s).2 = false

/-- the relation walked through the dispatch: the transport's log grows; if it is still free of `sendViols` afterwards,
the coupling is kept and no write clause fired -/
def RW (s s' : St) : Prop :=
  s'.ensureLoop = s.ensureLoop ∧ (∀ w ∈ s.t.violations, w ∈ s'.t.violations) ∧
    ∀ f0, Good f0 s → SV s'.t → Good f0 s'

theorem proj_tReady (st : C14St) (ep : TaskId) (r : PollRes) :
    (checkC14Obs st (.tReady ep r)).1.gotReady = (st.gotReady || r == .ready) ∧
    (checkC14Obs st (.tReady ep r)).1.closed = st.closed ∧
    (checkC14Obs st (.tReady ep r)).1.failed = (st.failed || r == .err) := by
  cases r with
  | ready => simp [checkC14Obs]
  | err => simp [checkC14Obs]
  | pending =>
    simp only [checkC14Obs]
    split <;> simp

theorem proj_tFlush (st : C14St) (ep : TaskId) (r : PollRes) :
    (checkC14Obs st (.tFlush ep r)).1.gotReady = st.gotReady ∧
    (checkC14Obs st (.tFlush ep r)).1.closed = st.closed ∧
    (checkC14Obs st (.tFlush ep r)).1.failed = (st.failed || r == .err) := by
  cases r <;> simp [checkC14Obs]

theorem proj_tClose (st : C14St) (ep : TaskId) (r : PollRes) :
    (checkC14Obs st (.tClose ep r)).1.gotReady = st.gotReady ∧
    (checkC14Obs st (.tClose ep r)).1.closed = (st.closed || r == .ready) ∧
    (checkC14Obs st (.tClose ep r)).1.failed = (st.failed || r == .err) := by
  cases r <;> simp [checkC14Obs]

theorem proj_tSend (st : C14St) (ep : TaskId) (m : Msg) (ok : Bool) :
    (checkC14Obs st (.tSend ep m ok)).1.gotReady = false ∧
    (checkC14Obs st (.tSend ep m ok)).1.closed = st.closed ∧
    (checkC14Obs st (.tSend ep m ok)).1.failed = st.failed := by
  -- every branch of the write clauses returns the same state
  simp only [checkC14Obs, apply_ite Prod.fst, ite_self, and_self]

theorem proj_tNext (st : C14St) (ep : TaskId) (r : NextRes) :
    (checkC14Obs st (.tNext ep r)).1.gotReady = st.gotReady ∧
    (checkC14Obs st (.tNext ep r)).1.closed = st.closed ∧
    (checkC14Obs st (.tNext ep r)).1.failed = st.failed := by
  simp [checkC14Obs]

/-! ## the relation is closed under everything the dispatch does -/

/-- a transport call of the shape `tEmit` -/
theorem RW_call (s : St) (t' : SimT) (o : Obs) (w : Bool)
    (hm : ∀ x ∈ s.t.violations, x ∈ t'.violations)
    (hc : ∀ st, Cpl st s.t → SV t' → Cpl (checkC14Obs st o).1 t' ∧ badSend st o = false) :
    RW s (tEmit s t' o w) := by
  refine ⟨tEmit_ensureLoop _ _ _ _, by rw [tEmit_t]; exact hm, ?_⟩
  intro f0 hg hsv
  rw [tEmit_t] at hsv
  obtain ⟨h1, h2⟩ := hc (W f0 s).1 hg.1 hsv
  unfold Good
  rw [W_tEmit, tEmit_t]
  exact ⟨h1, by show ((W f0 s).2 || badSend (W f0 s).1 o) = false; rw [hg.2, h2]; rfl⟩

theorem useAfter_mono (t : SimT) (what : String) : ∀ x ∈ t.violations, x ∈ (t.useAfter what).violations :=
  (SimT.useAfter_adds t what).mono

/-- a write the monitor objects to is one at which the transport records a violation -/
theorem startSend_bad_viol (t : SimT) (m : Msg) (h : t.failed = true ∨ t.closed = true ∨ t.gotReady = false) :
    ∃ w ∈ (t.startSend m).1.violations, w ∈ sendViols := by
  have hv := SimT.startSend_violations t m
  have hsub : ∀ w ∈ (t.useAfter "send").violations, w ∈ (t.startSend m).1.violations := by
    intro w hw; rw [hv]; split
    · exact hw
    · exact List.mem_cons_of_mem _ hw
  cases hf : t.failed with
  | true => exact ⟨_, hsub _ (SimT.useAfter_mem_failed t "send" hf), by decide⟩
  | false =>
    cases hc : t.closed with
    | true => exact ⟨_, hsub _ (SimT.useAfter_mem_closed t "send" hf hc), by decide⟩
    | false =>
      have hg : t.gotReady = false := by
        rcases h with h | h | h
        · rw [hf] at h; cases h
        · rw [hc] at h; cases h
        · exact h
      exact ⟨"send-without-ready", by rw [hv, hg]; exact List.mem_cons_self .., by decide⟩

theorem RW.refl (s : St) : RW s s := ⟨rfl, fun _ h => h, fun _ h _ => h⟩

theorem RW.trans {a b c : St} (h1 : RW a b) (h2 : RW b c) : RW a c :=
  ⟨h2.1.trans h1.1, fun w hw => h2.2.1 w (h1.2.1 w hw),
    fun f0 hg hsv => h2.2.2 f0 (h1.2.2 f0 hg (sv_mono h2.2.1 hsv)) hsv⟩

theorem RW.of_same {s s' : St} (he : s'.ensureLoop = s.ensureLoop) (ht : s'.t = s.t) (hw : ∀ f0, W f0 s' = W f0 s) :
    RW s s' :=
  ⟨he, by rw [ht]; exact fun _ h => h, fun f0 hg _ => by unfold Good; rw [hw f0, ht]; exact hg⟩

theorem rw_trel : TRel RW where
  refl := RW.refl
  trans := RW.trans
  el := fun h => h.1
  frameA := fun h => RW.of_same h.ensureLoop h.t (fun f0 => W_frameA h)
  ready := fun s => by
    rw [tReady_eq]
    refine RW_call s _ _ _ (by rw [SimT.pollReady_violations]; exact useAfter_mono _ _) ?_
    intro st hc _
    obtain ⟨p1, p2, p3⟩ := proj_tReady st (tid s) s.t.pollReady.2.1
    exact ⟨⟨by rw [p1, Flow.SimT.pollReady_gotReady, hc.gotReady], by rw [p2, SimT.pollReady_closed, hc.closed],
      by rw [p3, SimT.pollReady_failed, hc.failed]⟩, rfl⟩
  flush := fun s => by
    rw [tFlush_eq]
    refine RW_call s _ _ _ (by rw [SimT.pollFlush_violations]; exact useAfter_mono _ _) ?_
    intro st hc _
    obtain ⟨p1, p2, p3⟩ := proj_tFlush st (tid s) s.t.pollFlush.2.1
    exact ⟨⟨by rw [p1, Flow.SimT.pollFlush_gotReady, hc.gotReady], by rw [p2, SimT.pollFlush_closed, hc.closed],
      by rw [p3, SimT.pollFlush_failed, hc.failed]⟩, rfl⟩
  close := fun s => by
    rw [tClose_eq]
    refine RW_call s _ _ _ (by rw [SimT.pollClose_violations]; exact useAfter_mono _ _) ?_
    intro st hc _
    obtain ⟨p1, p2, p3⟩ := proj_tClose st (tid s) s.t.pollClose.2.1
    exact ⟨⟨by rw [p1, SimT.pollClose_gotReady, hc.gotReady], by rw [p2, SimT.pollClose_closed, hc.closed],
      by rw [p3, SimT.pollClose_failed, hc.failed]⟩, rfl⟩
  send := fun s m => by
    rw [tSend_eq]
    refine RW_call s _ _ _ (SimT.startSend_adds s.t m).mono ?_
    intro st hc hsv
    obtain ⟨p1, p2, p3⟩ := proj_tSend st (tid s) m (s.t.startSend m).2
    refine ⟨⟨by rw [p1, SimT.startSend_gotReady], by rw [p2, SimT.startSend_closed, hc.closed],
      by rw [p3, SimT.startSend_failed, hc.failed]⟩, ?_⟩
    show (st.failed || st.closed || !st.gotReady) = false
    cases hb : (st.failed || st.closed || !st.gotReady) with
    | false => rfl
    | true =>
      exfalso
      have hbad : s.t.failed = true ∨ s.t.closed = true ∨ s.t.gotReady = false := by
        rw [← hc.failed, ← hc.closed, ← hc.gotReady]
        simp only [Bool.or_eq_true, Bool.not_eq_true'] at hb
        rcases hb with (h | h) | h
        · exact Or.inl h
        · exact Or.inr (Or.inl h)
        · exact Or.inr (Or.inr h)
      obtain ⟨w, hw1, hw2⟩ := startSend_bad_viol s.t m hbad
      exact hsv w hw1 hw2
  next := fun s => by
    rw [tNext_eq]
    split
    · exact RW.refl s
    · refine ⟨rfl, by show ∀ w ∈ s.t.violations, w ∈ s.t.pollNext.1.violations; rw [SimT.pollNext_violations]; exact fun _ h => h, ?_⟩
      intro f0 hg _
      show Cpl (wfl f0 (.tNext (tid s) s.t.pollNext.2 :: s.obs).reverse).1 s.t.pollNext.1 ∧
        (wfl f0 (.tNext (tid s) s.t.pollNext.2 :: s.obs).reverse).2 = false
      rw [List.reverse_cons, wfl_append]
      show Cpl (wstep (W f0 s) (.tNext (tid s) s.t.pollNext.2)).1 s.t.pollNext.1 ∧
        (wstep (W f0 s) (.tNext (tid s) s.t.pollNext.2)).2 = false
      obtain ⟨p1, p2, p3⟩ := proj_tNext (W f0 s).1 (tid s) s.t.pollNext.2
      exact ⟨⟨by show _ = s.t.pollNext.1.gotReady; rw [SimT.pollNext_gotReady]; exact p1.trans hg.1.gotReady,
        by show _ = s.t.pollNext.1.closed; rw [SimT.pollNext_closed]; exact p2.trans hg.1.closed,
        by show _ = s.t.pollNext.1.failed; rw [SimT.pollNext_failed]; exact p3.trans hg.1.failed⟩,
        by show ((W f0 s).2 || false) = false; rw [hg.2]; rfl⟩
  term := fun s a => RW.of_same rfl rfl (fun _ => rfl)
  spin := fun s => RW.of_same rfl rfl (fun f0 => by
    rw [W_cons f0 s _ (.spin (tid s)) rfl]
    exact wstep_spin _ _)

/-- what the external transport events keep -/
def XT (t t' : SimT) : Prop := ExtT t t' ∧ t'.gotReady = t.gotReady

theorem RW_ext (s : St) (t' : SimT) (hx : XT s.t t') : RW s { s with t := t' } :=
  ⟨rfl, by show ∀ w ∈ s.t.violations, w ∈ t'.violations; rw [hx.1.violations]; exact fun _ h => h,
    fun f0 hg _ => ⟨⟨hg.1.gotReady.trans hx.2.symm, hg.1.closed.trans hx.1.closed.symm,
      hg.1.failed.trans hx.1.failed.symm⟩, hg.2⟩⟩

theorem wakeIfReady_gotReady (t : SimT) : t.wakeIfReady.1.gotReady = t.gotReady := by
  unfold TarpcModel.SimT.wakeIfReady; split <;> rfl

theorem xt_of_extEv {t t' : SimT} (h : ExtEv t t') : XT t t' := by
  refine ⟨h.extT, ?_⟩
  cases h with
  | setReady b => exact wakeIfReady_gotReady _
  | setFlush b => exact wakeIfReady_gotReady _
  | fault k => cases k <;> rfl
  | _ => rfl

/-- **Every op** keeps the relation (fixed `ensure_writeable`). -/
theorem applyOp_RW (c : Sys) (op : COp) (hel : c.s.ensureLoop = false) : RW c.s (applyOp c op).s :=
  applyOp_trel rw_trel (fun s t' hx => RW_ext s t' (xt_of_extEv hx)) c op hel

/-! ## the sub-monitor; every trace -/

/-- the write clauses of `checkC14` alone (the state is `checkC14`'s) -/
def checkC14Write (_ : Book) (s : C14St) : CEv → C14St × Option String
  | .op _ => ({ s with readyP := 0 }, none)
  | .obs o => ((checkC14Obs s o).1,
      if badSend s o then some "write after a reported failure, after the close, or without a preceding poll_ready → Ready"
      else none)

theorem wfl_bad (st : C14St) : ∀ (os : List Obs), (wfl (st, true) os).2 = true := by
  intro os
  induction os generalizing st with
  | nil => rfl
  | cons o os ih => exact ih _

theorem mon_frozen : ∀ (l : List Obs) (m : Mon C14St), m.bad = none → m.book.spun = true →
    ((l.map CEv.obs).foldl (Mon.step checkC14Write) m).bad = none ∧
    ((l.map CEv.obs).foldl (Mon.step checkC14Write) m).book.spun = true := by
  intro l
  induction l with
  | nil => intro m h1 h2; exact ⟨h1, h2⟩
  | cons o l ih =>
    intro m h1 h2
    simp only [List.map_cons, List.foldl_cons]
    refine ih _ ?_ ?_
    · rw [Mon.step_bad, h1]
      simp only [Mon.res, Mon.pre, h2, if_true]
    · rw [Mon.step_book, Book.spun_step, h2]; rfl

/-- the monitor over the observations of one op: it follows the fold until the book is past a spin / panic -/
theorem mon_obs : ∀ (os : List Obs) (m : Mon C14St), m.bad = none → (wfl (m.st, false) os).2 = false →
    ((os.map CEv.obs).foldl (Mon.step checkC14Write) m).bad = none ∧
    (((os.map CEv.obs).foldl (Mon.step checkC14Write) m).book.spun = true ∨
      ((os.map CEv.obs).foldl (Mon.step checkC14Write) m).st = (wfl (m.st, false) os).1) := by
  intro os
  induction os with
  | nil => intro m hb _; exact ⟨hb, Or.inr rfl⟩
  | cons o os ih =>
    intro m hb hw
    simp only [List.map_cons, List.foldl_cons]
    cases hs : m.book.spun with
    | true =>
      -- frozen
      obtain ⟨a1, a2⟩ := mon_frozen (o :: os) m hb hs
      simp only [List.map_cons, List.foldl_cons] at a1 a2
      exact ⟨a1, Or.inl a2⟩
    | false =>
      have hb0 : badSend m.st o = false := by
        cases hbs : badSend m.st o with
        | false => rfl
        | true =>
          have : wfl (m.st, false) (o :: os) = wfl ((checkC14Obs m.st o).1, true) os := by
            show wfl (wstep (m.st, false) o) os = _
            unfold wstep; rw [hbs]; rfl
          rw [this, wfl_bad] at hw; cases hw
      have hst : (Mon.step checkC14Write m (.obs o)).st = (checkC14Obs m.st o).1 := by
        rw [Mon.step_st]; simp only [Mon.res, Mon.pre, hs, Bool.false_eq_true, if_false, checkC14Write]
      have hbd : (Mon.step checkC14Write m (.obs o)).bad = none := by
        rw [Mon.step_bad, hb]
        simp only [Mon.res, Mon.pre, hs, Bool.false_eq_true, if_false, checkC14Write, hb0]
      have hwf : wfl (m.st, false) (o :: os) = wfl ((Mon.step checkC14Write m (.obs o)).st, false) os := by
        show wfl (wstep (m.st, false) o) os = _
        unfold wstep; rw [hb0, hst]; rfl
      rw [hwf] at hw ⊢
      exact ih _ hbd hw

/-- what holds of monitor and system between two ops -/
structure J14 (m : Mon C14St) (c : Sys) : Prop where
  bad : m.bad = none
  inv : Flow.Inv c.s
  el : c.s.ensureLoop = false
  cpl : m.book.spun = true ∨ Cpl m.st c.s.t

/-- one op carries `J14` across its own segment of the trace -/
theorem J14.step {m : Mon C14St} {c : Sys} (h : J14 m c) (op : COp) :
    J14 (((stepOp c op).2.map CEv.obs).foldl (Mon.step checkC14Write) (Mon.step checkC14Write m (.op op))) (stepOp c op).1 := by
  -- the `op` event
  have hb1 : (Mon.step checkC14Write m (.op op)).bad = none := by
    rw [Mon.step_bad, h.bad]
    show (Mon.res checkC14Write m (.op op)).2 = none
    unfold Mon.res
    split <;> rfl
  have hbk1 : (Mon.step checkC14Write m (.op op)).book.spun = m.book.spun := by
    rw [Mon.step_book, Book.spun_step_op]
  have hcpl1 : (Mon.step checkC14Write m (.op op)).book.spun = true ∨
      Cpl (Mon.step checkC14Write m (.op op)).st c.s.t := by
    rcases h.cpl with hs | hc
    · exact Or.inl (hbk1.trans hs)
    · cases hs : m.book.spun with
      | true => exact Or.inl (hbk1.trans hs)
      | false =>
        right
        have : (Mon.step checkC14Write m (.op op)).st = { m.st with readyP := 0 } := by
          rw [Mon.step_st]
          simp only [Mon.res, Mon.pre, Book.endOp_spun, hs, Bool.false_eq_true, if_false, checkC14Write]
        rw [this]
        exact ⟨hc.gotReady, hc.closed, hc.failed⟩
  -- the op itself
  generalize hc0 : clr c = c0
  have hobs0 : c0.s.obs = [] := by rw [← hc0]; rfl
  have ht0 : c0.s.t = c.s.t := by rw [← hc0]; rfl
  have hinv0 : Flow.Inv c0.s := by rw [← hc0]; exact h.inv.clearObs
  have hel0 : c0.s.ensureLoop = false := by rw [← hc0]; exact h.el
  have hrw := applyOp_RW c0 op hel0
  have hinv1 : Flow.Inv (applyOp c0 op).s := Flow.applyOp_inv op hinv0
  have hos : (stepOp c op).2 = (applyOp c0 op).s.obs.reverse := by rw [← hc0]; rfl
  have hnext : (stepOp c op).1 = clr (applyOp c0 op) := by rw [← hc0]; rfl
  generalize hm1 : Mon.step checkC14Write m (.op op) = m1 at hb1 hbk1 hcpl1
  have hinv2 : Flow.Inv (stepOp c op).1.s := by rw [hnext]; exact hinv1.clearObs
  have hel2 : (stepOp c op).1.s.ensureLoop = false := by rw [hnext]; exact hrw.1.trans hel0
  rcases hcpl1 with hs | hc
  · -- frozen
    obtain ⟨a1, a2⟩ := mon_frozen (stepOp c op).2 m1 hb1 hs
    exact ⟨a1, hinv2, hel2, Or.inl a2⟩
  · have hg0 : Good (m1.st, false) c0.s := by
      unfold Good W
      rw [hobs0, ht0]
      exact ⟨hc, rfl⟩
    have hg1 := hrw.2.2 (m1.st, false) hg0 hinv1.base.sv
    unfold Good W at hg1
    rw [← hos] at hg1
    obtain ⟨a1, a2⟩ := mon_obs (stepOp c op).2 m1 hb1 hg1.2
    refine ⟨a1, hinv2, hel2, ?_⟩
    rcases a2 with a2 | a2
    · exact Or.inl a2
    · right
      rw [a2, hnext]
      exact hg1.1

theorem c14w_trace (ops : List COp) (c : Sys) (m : Mon C14St) (h : J14 m c) :
    ((trace c ops).foldl (Mon.step checkC14Write) m).bad = none := by
  have := traceOf.fold (f := Mon.step checkC14Write) (Z := fun _ => False) (fun _ _ h => h)
    (K := fun m c _ => J14 m c) (fun m c op _ h => .inr (h.step op)) ops m c (.inr h)
  rcases this with h | ⟨_, h⟩
  · exact h.elim
  · exact h.bad

/-- **The write clauses of `checkC14` accept every trace** (fixed `ensure_writeable`). -/
theorem c14_write_accepts (m b tc : Nat) (coupled : Bool) (ops : List COp) :
    (Mon.run checkC14Write {} (trace (initSys m b tc coupled) ops)).bad = none :=
  c14w_trace ops _ _ ⟨rfl, Flow.initSys_inv m b tc coupled, (by show Gen.clientEnsureLoop = false; decide), Or.inr ⟨rfl, rfl, rfl⟩⟩

end M14
end TarpcModel.Client
