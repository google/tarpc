import TarpcModel.Lemmas.ClientPres
import TarpcModel.Lemmas.ClientSteps
import TarpcModel.Lemmas.SimT
/-! A predicate closed under the view-level transitions (`PresD`, `Pres`) is kept by every function of the client model;
`Inv` is one instance (`reach_inv`).  The dispatch: by every action of its poll (`Step.pres`, one case per action of
`Lemmas/ClientSteps.lean`), hence by the functions, which are walks over the actions.  The call futures are walked by phase
(`pollCall_pres`, the stages of `dropCall`): the actions of the class `CallK` (`emit`, `updCall`, `permits`, …) are finer than the view-level transitions (drawing an id
and entering the wait queue are several actions and one `View.assign`), and the outcomes `PollOut` of
`Lemmas/ClientCallStep.lean` do not record what a view-level predicate reads (observations, id counters). -/
namespace TarpcModel.Client

@[simp] theorem SimT.violate_sentLog (t : SimT) (w : String) : (t.violate w).sentLog = t.sentLog := rfl

/-- two states with the same view apart from the transport's log -/
theorem view_t (s : St) (t : SimT) (h : t.sentLog = s.t.sentLog) : view { s with t := t } = view s := by
  simp [view, h]

theorem view_emitViolations (s : St) (n : Nat) : view (emitViolations s n) = view s := by
  unfold emitViolations
  exact foldl_field view _ (fun s _ => view_emit_irr s _ rfl) _ s

@[simp] theorem tid_emitViolations (s : St) (n : Nat) : tid (emitViolations s n) = tid s := by
  unfold emitViolations
  exact foldl_field tid (fun s w => emit s (.tViolation (tid s) w)) (fun _ _ => rfl) _ s

theorem view_emit_ev (s : St) (t : SimT) (n : Nat) (o : Obs) (ho : relevant o = false)
    (ht : t.sentLog = s.t.sentLog) : view (emit (emitViolations { s with t := t } n) o) = view s := by
  rw [view_emit_irr _ _ ho, view_emitViolations, view_t _ _ ht]

theorem view_wakeIf (c : Prop) [Decidable c] (s : St) : view (if c then wakeDispatch s else s) = view s :=
  iteInduction (motive := fun S => view S = view s) (fun _ => view_wakeDispatch s) (fun _ => rfl)

@[simp] theorem view_tReady (s : St) : view (tReady s).1 = view s := by
  unfold tReady; simp only
  rw [view_wakeIf]; exact view_emit_ev _ _ _ _ rfl (SimT.pollReady_sentLog _)
@[simp] theorem view_tFlush (s : St) : view (tFlush s).1 = view s := by
  unfold tFlush; simp only
  rw [view_wakeIf]; exact view_emit_ev _ _ _ _ rfl (SimT.pollFlush_sentLog _)
@[simp] theorem view_tClose (s : St) : view (tClose s).1 = view s := by
  unfold tClose; simp only
  rw [view_wakeIf]; exact view_emit_ev _ _ _ _ rfl (SimT.pollClose_sentLog _)

theorem view_tNext (s : St) :
    view (tNext s).1 =
      match (tNext s).2 with
      | .item (.response id res) => { view s with rel := .tNext (tid s) (.item (.response id res)) :: (view s).rel }
      | _ => view s := by
  unfold tNext
  split
  · rfl
  · dsimp only
    rcases hp : s.t.pollNext with ⟨t, r⟩
    have ht : t.sentLog = s.t.sentLog := by have := SimT.pollNext_sentLog s.t; rw [hp] at this; exact this
    -- fusing the stream does not show in the view
    have hb : ∀ (c : Prop) [Decidable c] (S : St), view (if c then { S with readFused := true } else S) = view S :=
      fun c _ S => iteInduction (motive := fun X => view X = view S) (fun _ => rfl) (fun _ => rfl)
    dsimp only
    rw [hb]
    cases r with
    | item m =>
      cases m with
      | response id res => rw [view_emit_rel _ _ rfl, view_t _ _ ht]
      | request _ _ _ _ => rw [view_emit_irr _ _ rfl, view_t _ _ ht]
      | cancel _ _ => rw [view_emit_irr _ _ rfl, view_t _ _ ht]
    | _ => rw [view_emit_irr _ _ rfl, view_t _ _ ht]

theorem view_tSend (s : St) (m : Msg) :
    view (tSend s m).1 =
      { view s with sentLog := if (tSend s m).2 then (view s).sentLog ++ [m] else (view s).sentLog,
                    rel := .tSend (tid s) m (tSend s m).2 :: (view s).rel } := by
  unfold tSend
  simp only
  rw [view_emit_rel _ _ rfl, view_emitViolations]
  have := SimT.startSend_sentLog s.t m
  split <;> simp_all [view]

theorem view_removeTimer (s : St) (k : Nat) :
    ∃ pn, view (removeTimer s k) =
      { view s with poisoned := (view s).poisoned || pn,
                    rel := stopObs pn (tid s) "deadlines.remove: invalid key" ++ (view s).rel } := by
  rcases Flow.removeTimer_out s k with ⟨q, woke, _, e⟩ | ⟨_, e⟩ <;> rw [e]
  · split
    · exact ⟨false, by rw [view_wakeDispatch]; simp [view, stopObs]⟩
    · exact ⟨false, by simp [view, stopObs]⟩
  · exact ⟨true, by rw [view_emit_rel _ _ rfl]; simp [view, stopObs, tid]⟩

/-! ### queues -/

@[simp] theorem view_pqRelease (s : St) : view (pqRelease s) = view s := by
  rcases Flow.pqRelease_out s with ⟨_, _, _, e⟩ | ⟨_, e⟩ <;> rw [e]
  · rw [view_wakeCall]; rfl
  · rfl

theorem view_foldl_wakeCall (ws : List Nat) (s : St) : view (ws.foldl wakeCall s) = view s :=
  foldl_field view wakeCall view_wakeCall ws s

@[simp] theorem view_pqClose (s : St) : view (pqClose s) = view s := by
  unfold pqClose; simp only; rw [view_foldl_wakeCall]; rfl

theorem view_pqPush (s : St) (r : DReq) : view (pqPush s r) = { view s with pq := (view s).pq ++ [r] } := by
  unfold pqPush; simp only
  exact iteInduction (motive := fun S => view S = { view s with pq := (view s).pq ++ [r] })
    (fun _ => by rw [view_wakeDispatch]; rfl) (fun _ => rfl)

theorem view_cqPush (s : St) (id : Nat) :
    view (cqPush s id) = if s.dDropped then view s else { view s with cq := (view s).cq ++ [id] } := by
  unfold cqPush; split
  · rfl
  · simp only; split
    · rw [view_wakeDispatch]; rfl
    · rfl

theorem pqRecv_cases (s : St) :
    (∃ r rest, s.pq = r :: rest ∧ pqRecv s = (pqRelease { s with pq := rest }, .item r)) ∨
    (s.pq = [] ∧ view (pqRecv s).1 = view s ∧ ∀ r, (pqRecv s).2 ≠ .item r) := by
  rcases Flow.pqRecv_out s with h | ⟨h, e, _⟩ | ⟨h, e⟩
  · exact .inl h
  · exact .inr ⟨h, by rw [e], fun _ hr => by rw [e] at hr; cases hr⟩
  · exact .inr ⟨h, by rw [e]; rfl, fun _ hr => by rw [e] at hr; cases hr⟩

theorem cqRecv_cases (s : St) :
    (∃ i rest, s.cq = i :: rest ∧ cqRecv s = ({ s with cq := rest }, .item i)) ∨
    (s.cq = [] ∧ view (cqRecv s).1 = view s ∧ ∀ r, (cqRecv s).2 ≠ .item r) := by
  rcases Flow.cqRecv_out s with h | ⟨h, e, _⟩ | ⟨h, e⟩
  · exact .inl h
  · exact .inr ⟨h, by rw [e], fun _ hr => by rw [e] at hr; cases hr⟩
  · exact .inr ⟨h, by rw [e]; rfl, fun _ hr => by rw [e] at hr; cases hr⟩

theorem pqRecv_item {s s1 : St} {r : DReq} (e : pqRecv s = (s1, .item r)) :
    ∃ rest, s.pq = r :: rest ∧ s1 = pqRelease { s with pq := rest } := by
  rcases pqRecv_cases s with ⟨r', rest, hpq, heq⟩ | ⟨_, _, hne⟩
  · rw [heq] at e; injection e with e1 e2; injection e2 with e2; subst e1 e2; exact ⟨rest, hpq, rfl⟩
  · exact absurd (by rw [e]) (hne r)

theorem cqRecv_item {s s1 : St} {i : Nat} (e : cqRecv s = (s1, .item i)) :
    ∃ rest, s.cq = i :: rest ∧ s1 = { s with cq := rest } := by
  rcases cqRecv_cases s with ⟨i', rest, hcq, heq⟩ | ⟨_, _, hne⟩
  · rw [heq] at e; injection e with e1 e2; injection e2 with e2; subst e1 e2; exact ⟨rest, hcq, rfl⟩
  · exact absurd (by rw [e]) (hne i)

theorem view_pqRecv_idle {s : St} (h : ∀ r, (pqRecv s).2 ≠ .item r) : view (pqRecv s).1 = view s := by
  rcases pqRecv_cases s with ⟨r, _, _, heq⟩ | ⟨_, hv, _⟩
  · exact absurd (by rw [heq]) (h r)
  · exact hv

theorem view_cqRecv_idle {s : St} (h : ∀ i, (cqRecv s).2 ≠ .item i) : view (cqRecv s).1 = view s := by
  rcases cqRecv_cases s with ⟨i, _, _, heq⟩ | ⟨_, hv, _⟩
  · exact absurd (by rw [heq]) (h i)
  · exact hv


/-! ### the actions of the dispatch -/

/-- `Halted` in the view: the premise of `PresD.poison` -/
theorem Halted.stopped {s : St} (h : Halted s) : (view s).rel.any isStop = true ∨ (view s).poisoned = true := by
  refine h.imp (fun ⟨o, ho, hm⟩ => ?_) id
  have hs : isStop o = true := by
    cases o with
    | spin _ => rfl
    | panic _ _ => rfl
    | _ => exact False.elim hm
  exact List.any_eq_true.mpr ⟨o, List.mem_filter.mpr ⟨ho, relevant_of_isStop hs⟩, hs⟩

/-! ### the in-flight table -/

theorem completeRequest_view {s : St} {id : Nat} {e : Entry} (hf : findEntry s id = some e) (o : Outcome) :
    ∃ pn, view (completeRequest s id o).1 =
      View.send { view s with inflight := (view s).inflight.filter (·.id != id), poisoned := (view s).poisoned || pn,
                              rel := stopObs pn (tid s) "deadlines.remove: invalid key" ++ (view s).rel } e.cid o := by
  rcases Flow.completeRequest_out s id o with ⟨hn, _⟩ | ⟨e', he, eq⟩
  · rw [hf] at hn; cases hn
  · rw [hf] at he; cases he
    obtain ⟨pn, hpn⟩ := view_removeTimer { s with inflight := s.inflight.filter (·.id != id) } e.timerKey
    exact ⟨pn, by rw [eq, view_osSend', hpn]; rfl⟩

theorem completeRequest_inflight (s : St) (id : Nat) (o : Outcome) :
    ∀ e ∈ (completeRequest s id o).1.inflight, e.id ≠ id := by
  rcases Flow.completeRequest_out s id o with ⟨hn, e⟩ | ⟨e0, _, e⟩ <;> rw [e]
  · exact findEntry_none hn
  · simp only [osSend_inflight]
    rcases Flow.removeTimer_out { s with inflight := s.inflight.filter (·.id != id) } e0.timerKey with
      ⟨q, woke, _, e⟩ | ⟨_, e⟩ <;> rw [e]
    · split <;> (intro e he; simp at he; exact he.2)
    · intro e he; simp at he; exact he.2

theorem cancelRequest_found {s : St} {id : Nat} {e : Entry} {s' : St} (h : cancelRequest s id = (s', some e)) :
    findEntry s id = some e ∧ s' = removeTimer { s with inflight := s.inflight.filter (·.id != id) } e.timerKey := by
  rcases Flow.cancelRequest_out s id with ⟨_, e⟩ | ⟨e', hf, e⟩ <;> rw [e] at h
  · cases h
  · -- the entry was found
    cases h; exact ⟨hf, rfl⟩

theorem cancelRequest_missed {s : St} {id : Nat} {s' : St} (h : cancelRequest s id = (s', none)) :
    findEntry s id = none ∧ s' = s := by
  rcases Flow.cancelRequest_out s id with ⟨hf, e⟩ | ⟨_, _, e⟩ <;> rw [e] at h
  · -- no entry with this id
    cases h; exact ⟨hf, rfl⟩
  · cases h

theorem view_cancelRequest_found {s : St} {id : Nat} {e : Entry} {s' : St} (h : cancelRequest s id = (s', some e)) :
    findEntry s id = some e ∧ ∃ pn, view s' =
      { view s with inflight := (view s).inflight.filter (·.id != id), poisoned := (view s).poisoned || pn, rel := stopObs pn (tid s) "deadlines.remove: invalid key" ++ (view s).rel } := by
  obtain ⟨hf, rfl⟩ := cancelRequest_found h
  obtain ⟨pn, hpn⟩ := view_removeTimer { s with inflight := s.inflight.filter (·.id != id) } e.timerKey
  exact ⟨hf, pn, by rw [hpn]; rfl⟩

theorem view_insertRequest (s : St) (now : Nat) (r : DReq) :
    ∃ s', insertRequest s now r = some s' ∧
      ((∃ site, s'.poisoned = true ∧ view s' = { view s with poisoned := true, rel := .panic (tid s) site :: (view s).rel }) ∨
       (findEntry s r.id = none ∧ s'.poisoned = s.poisoned ∧ ∃ key rem due, view s' =
          { view s with inflight := (view s).inflight ++ [{ id := r.id, cid := r.cid, ctx := r.ctx, timerKey := key, remainder := rem, dueAt := due }] })) := by
  obtain ⟨s', h⟩ := Flow.insertRequest_isSome s now r
  refine ⟨s', h, ?_⟩
  have panic : ∀ site, s' = emit { s with poisoned := true } (.panic (tid s) site) →
      ∃ site, s'.poisoned = true ∧ view s' = { view s with poisoned := true, rel := .panic (tid s) site :: (view s).rel } :=
    fun site e => ⟨site, by rw [e]; rfl, by rw [e, view_emit_rel _ _ rfl]; rfl⟩
  rcases insertRequest_some h with ⟨_, e⟩ | ⟨_, _, _, _, e⟩ | ⟨hf, q, key, w, _, e⟩
  · exact .inl (panic _ e)
  · exact .inl (panic _ e)
  · refine .inr ⟨hf, ?_, key, (entryOf r now key).remainder, (entryOf r now key).dueAt, ?_⟩
    · rw [e]; cases w
      · rfl
      · exact Flow.wakeDispatch_poisoned _
    · rw [e]; cases w
      · rfl
      · rw [if_pos rfl, view_wakeDispatch]; rfl

theorem osIsClosed_view {s : St} {cid : Nat} (h : osIsClosed s cid = false) :
    ∃ c, (view s).get cid = some c ∧ c.rxClosed = false := by
  unfold osIsClosed at h
  cases hg : getCall s cid with
  | none => simp [hg] at h
  | some c => rw [hg] at h; exact ⟨c.v, view_getCall_some hg, h⟩

section generic
variable {P : Option Nat → View → Prop} (hP : PresD P)
include hP

theorem completeRequest_pres {x : Option Nat} {s : St} (h : P x (view s)) (id : Nat) (o : Outcome)
    (ho : okLike (some o) = false) : P x (view (completeRequest s id o).1) := by
  cases hf : findEntry s id with
  | none => rw [completeRequest_unknown s id o hf]; exact h
  | some e =>
    obtain ⟨he, hid⟩ := findEntry_some hf
    obtain ⟨pn, hv⟩ := completeRequest_view hf o
    rw [hv]
    subst hid
    exact hP.completeN (v := view s) h he o ho pn _ _

theorem expireWith_pres {x : Option Nat} {s : St} (h : P x (view s)) (now : Nat) (r : DelayQ × DelayQ.PollRes) :
    P x (view (expireWith s now r).st) := by
  refine expireWith_cases (motive := fun p => P x (view p.st)) s now r ?_ ?_ ?_ ?_ ?_
  · exact fun _ => h
  · exact fun _ _ _ => h
  · intro e en _ hf _
    obtain ⟨hmem, hid⟩ := findEntry_some hf
    show P x (view (osSend _ _ _))
    rw [view_osSend', ← hid]
    have := hP.completeN (v := view s) h hmem .deadline rfl false (tid s) ""
    have e1 : ({ view s with inflight := (view s).inflight.filter (·.id != en.id), poisoned := (view s).poisoned || false, rel := stopObs false (tid s) "" ++ (view s).rel } : View)
        = view { s with timers := r.1, inflight := s.inflight.filter (·.id != en.id) } := by
      simp [stopObs, view]
    rw [e1] at this
    exact this
  · intro _ _ _ _ _ _ _ _
    show P x (view (emit _ _))
    rw [view_emit_rel _ _ rfl]
    exact hP.panic (v := view s) (tid s) _ h
  · intro e en q' key w _ _ _ _
    show P x (view (if _ then _ else _))
    split
    · rw [view_wakeDispatch]; exact hP.infRearm e.val _ _ _ h
    · exact hP.infRearm e.val _ _ _ h

end generic

theorem view_foldl_osSend (es : List Entry) (o : Outcome) (s : St) :
    view (es.foldl (fun s e => osSend s e.cid o) s) = es.foldl (fun v e => v.send e.cid o) (view s) :=
  (List.foldl_hom view (g₁ := fun s (e : Entry) => osSend s e.cid o) (g₂ := fun v (e : Entry) => v.send e.cid o)
    (fun s e => (view_osSend' s e.cid o).symm)).symm

section generic
variable {P : Option Nat → View → Prop} (hP : PresD P)
include hP

theorem failAll_pres {x : Option Nat} {s : St} (h : P x (view s)) (a : Activity) :
    P x (view (failAll s a)) := by
  unfold failAll
  simp only
  rw [view_foldl_osSend]
  have hi := hP.inv h
  refine hP.sendAll (.channel a) rfl s.inflight (v := view { s with inflight := [], timers := s.timers.clear })
    (hP.infClear (v := view s) h) rfl ?_
  intro e he
  obtain ⟨o1, _, o3, _⟩ := hi.orphan (v := view s) he
  exact ⟨o1, o3⟩

abbrev entOf (r : DReq) (key rem due : Nat) : Entry :=
  { id := r.id, cid := r.cid, ctx := r.ctx, timerKey := key, remainder := rem, dueAt := due }

theorem req_inserted {now : Nat} {s s1 s2 : St} {r : DReq} (h : P none (view s)) (e1 : pqRecv s = (s1, .item r))
    (hc : osIsClosed s1 r.cid = false) (hi : insertRequest s1 now r = some s2) :
    (s2.poisoned = true ∧ P none (view s2)) ∨
    (P (some r.id) (view s2) ∧ ∃ key rem due, entOf r key rem due ∈ (view s2).inflight ∧
      findEntry s1 r.id = none ∧ s2.inflight = s1.inflight ++ [entOf r key rem due] ∧
      ∃ c, (view s2).get r.cid = some c ∧ c.rxClosed = false ∧ r.body = c.body) := by
  obtain ⟨rest, hpq, rfl⟩ := pqRecv_item e1
  have hv1 : view (pqRelease { s with pq := rest }) = { view s with pq := rest } := by rw [view_pqRelease]; rfl
  have hd : Deq (view (pqRelease { s with pq := rest })) r := hv1 ▸ (Inv.pqPop (hP.inv h) hpq).2
  obtain ⟨c, hcg, hrx⟩ := osIsClosed_view hc
  obtain ⟨s2', hins, hcase⟩ := view_insertRequest (pqRelease { s with pq := rest }) now r
  rw [hins] at hi; injection hi with hi; subst hi
  rcases hcase with ⟨site, hpois, hv⟩ | ⟨hfe, _, key, rem, due, hv⟩
  · exact .inl ⟨hpois, hv ▸ hP.panic _ site (hv1 ▸ hP.pqPop h hpq)⟩
  · refine .inr ⟨?_, key, rem, due, by rw [hv]; simp, hfe, congrArg View.inflight hv, c, by rw [hv]; exact hcg, hrx, ?_⟩
    · rw [hv, hv1]
      exact hP.popInsert (v := view s) key rem due h hpq ⟨c, by rw [hv1] at hcg; exact hcg, hrx⟩
    · obtain ⟨c', hc', _, _, hb, _⟩ := hd.call
      rw [hcg] at hc'; injection hc' with hc'; subst hc'; exact hb

theorem req_sent_pres {now : Nat} {s s1 s2 s3 : St} {r : DReq} (h : P none (view s)) (e1 : pqRecv s = (s1, .item r))
    (hc : osIsClosed s1 r.cid = false) (hi : insertRequest s1 now r = some s2) (hp : s2.poisoned = false)
    (ht : tSend s2 (.request r.id r.ctx.deadline r.ctx.trace r.body) = (s3, true)) : P none (view s3) := by
  rcases req_inserted hP h e1 hc hi with ⟨hp', _⟩ | ⟨h2, key, rem, due, hm, _, _, hcall⟩
  · rw [hp] at hp'; cases hp'
  · have hts := view_tSend s2 (.request r.id r.ctx.deadline r.ctx.trace r.body)
    rw [ht] at hts; simp only [↓reduceIte] at hts
    rw [hts]
    exact hP.sendReqOk (e := entOf r key rem due) (tid s2) r.body h2 hp hm rfl hcall

theorem req_failed_pres {now : Nat} {s s1 s2 s3 : St} {r : DReq} (h : P none (view s)) (e1 : pqRecv s = (s1, .item r))
    (hc : osIsClosed s1 r.cid = false) (hi : insertRequest s1 now r = some s2) (hp : s2.poisoned = false)
    (ht : tSend s2 (.request r.id r.ctx.deadline r.ctx.trace r.body) = (s3, false)) :
    P none (view (completeRequest s3 r.id .send).1) := by
  rcases req_inserted hP h e1 hc hi with ⟨hp', _⟩ | ⟨h2, key, rem, due, hm, hfe, hinf, hcall⟩
  · rw [hp] at hp'; cases hp'
  · have hts := view_tSend s2 (.request r.id r.ctx.deadline r.ctx.trace r.body)
    rw [ht] at hts; simp only [Bool.false_eq_true, ↓reduceIte] at hts
    have hf3 : findEntry s3 r.id = some (entOf r key rem due) := by
      have : s3.inflight = s1.inflight ++ [entOf r key rem due] :=
        (show (view s3).inflight = (view s2).inflight by rw [hts]).trans hinf
      unfold findEntry at hfe ⊢
      rw [this, List.find?_append, hfe]; simp
    obtain ⟨pn, hv3⟩ := completeRequest_view hf3 .send
    rw [hv3, hts]
    exact hP.sendReqFail (e := entOf r key rem due) (v := view s2) (tid s2) r.body pn (tid s3) _ h2 hp hm rfl hcall

theorem cancel_pres {s s1 s2 s3 : St} {i : Nat} {e : Entry} {ok : Bool} (h : P none (view s))
    (e1 : cqRecv s = (s1, .item i)) (hc : cancelRequest s1 i = (s2, some e))
    (ht : tSend s2 (.cancel e.id e.ctx.trace) = (s3, ok)) : P none (view s3) := by
  obtain ⟨rest, hcq, rfl⟩ := cqRecv_item e1
  obtain ⟨hfe, pn, hv⟩ := view_cancelRequest_found hc
  obtain ⟨hmem, hid⟩ := findEntry_some hfe
  subst hid
  have hp1 : P none (view { s with cq := rest }) := hP.cqPop (v := view s) h hcq
  have := hP.cancelEntry (v := view { s with cq := rest }) hp1 hmem (Inv.cqPop (v := view s) (hP.inv h) hcq).2 pn
    (tid { s with cq := rest }) "deadlines.remove: invalid key"
  rw [← hv] at this
  have hts := view_tSend s2 (.cancel e.id e.ctx.trace)
  rw [ht] at hts
  rw [hts]
  exact hP.sendCancel (tid s2) ok this.1 this.2

theorem Step.pres {now : Nat} {a : Act} {s s' : St} (ha : CoreK a) (st : Step now a s s') (h : P none (view s)) :
    P none (view s') := by
  cases st with
  | ready => rw [view_tReady]; exact h
  | flush => rw [view_tFlush]; exact h
  | spin => rw [view_emit_rel _ _ rfl]; exact hP.stop _ h rfl
  | pqIdle hne => rw [view_pqRecv_idle hne]; exact h
  | pqSkip e1 _ =>
    obtain ⟨rest, hpq, rfl⟩ := pqRecv_item e1
    rw [view_pqRelease]; exact hP.pqPop (v := view s) h hpq
  | reqPanic _ e1 hc hi hp =>
    rcases req_inserted hP h e1 hc hi with ⟨_, h2⟩ | ⟨h2, _⟩
    · exact h2
    · exact hP.drop_x h2 (.inl hp)
  | reqSent _ e1 hc hi hp ht => exact req_sent_pres hP h e1 hc hi hp ht
  | reqFailed _ e1 hc hi hp ht => exact req_failed_pres hP h e1 hc hi hp ht
  | cqIdle hne => rw [view_cqRecv_idle hne]; exact h
  | cqMiss e1 _ =>
    obtain ⟨rest, hcq, rfl⟩ := cqRecv_item e1
    exact hP.cqPop (v := view s) h hcq
  | cancel e1 hc ht => exact cancel_pres hP h e1 hc ht
  | close => rw [view_tClose]; exact h
  | expire => exact expireWith_pres hP h now _
  | readIdle hne =>
    have hv := view_tNext s
    generalize (tNext s).2 = r at hv hne
    cases r with
    | item m =>
      cases m with
      | response id res => exact absurd rfl (hne id res)
      | request _ _ _ _ => rw [hv]; exact h
      | cancel _ _ => rw [hv]; exact h
    | pending => rw [hv]; exact h
    | eof => rw [hv]; exact h
    | err => rw [hv]; exact h
  | @read _ s1 id res e =>
    have hv := view_tNext s
    rw [e] at hv; simp only at hv
    have hinf : s1.inflight = s.inflight := (show (view s1).inflight = (view s).inflight by rw [hv])
    cases hf : findEntry s1 id with
    | none =>
      rw [completeRequest_unknown _ _ _ hf, hv]
      have hm := findEntry_none hf
      rw [hinf] at hm
      exact hP.readMiss (tid s) id res h hm
    | some e =>
      obtain ⟨he, hid⟩ := findEntry_some hf
      obtain ⟨pn, hv2⟩ := completeRequest_view hf (outcomeOf res)
      rw [hv2, hv]; subst hid
      rw [hinf] at he
      exact hP.readHit (v := view s) (tid s) res pn (tid s1) _ h he
  | pqClose => rw [view_pqClose]; exact h
  | failAll _ a => exact failAll_pres hP h a
  | @drainFail _ _ r a e1 _ =>
    obtain ⟨rest, hpq, rfl⟩ := pqRecv_item e1
    have hp := Inv.pqPop (v := view s) (hP.inv h) hpq
    rw [view_osSend', view_pqRelease]
    obtain ⟨o1, o2, o3⟩ := Deq.orphan hp.1 hp.2
    exact hP.send r.cid _ (hP.pqPop (v := view s) h hpq) o1 o2 o3 rfl
  | termErr _ a => exact h
  | poison _ hh => exact hP.poison (v := view s) h hh.stopped
  | _ => exact False.elim ha

theorem pollDispatchCore_pres {s : St} (h : P none (view s)) (now : Nat) :
    P none (view (pollDispatchCore s now).1) :=
  (pollDispatchCore_steps s now).kept (P := fun s => P none (view s)) (fun ha st => Step.pres hP ha st) h

end generic

/-! ### `RequestDispatch::poll` and the drop of the dispatch -/

theorem view_foldl_osDropTx {α : Type} (f : α → Nat) (l : List α) (s : St) :
    view (l.foldl (fun s e => osDropTx s (f e)) s) = view s :=
  foldl_field view _ (fun s e => view_osDropTx s (f e)) l s

theorem view_dropDispatch (s : St) :
    view (dropDispatch s) = view s ∨
    view (dropDispatch s) = { view s with pq := [], inflight := [], cq := [] } := by
  unfold dropDispatch
  split
  · left; exact view_emit_irr _ _ rfl
  · right
    simp only
    rw [show ∀ s' : St, view { s' with cq := [] } = { view s' with cq := [] } from fun _ => rfl]
    rw [view_foldl_osDropTx (fun e : Entry => e.cid)]
    rw [show ∀ s' : St, view { s' with inflight := [], timers := {} } = { view s' with inflight := [] } from fun _ => rfl]
    rw [view_foldl_osDropTx (fun r : DReq => r.cid)]
    rw [show ∀ (s' : St) (n : Nat), view { s' with pq := [], pqAvail := n } = { view s' with pq := [] } from fun _ _ => rfl]
    rw [view_pqClose]
    rfl

section generic
variable {P : Option Nat → View → Prop} (hP : PresD P)
include hP

theorem dropDispatch_pres {x : Option Nat} {s : St} (h : P x (view s)) : P x (view (dropDispatch s)) := by
  rcases view_dropDispatch s with hv | hv
  · rw [hv]; exact h
  · rw [hv]; exact hP.cqClear (hP.infClear (hP.pqClear h))

omit hP in
theorem view_keepDone (r : Ret) (s : St) : view (Flow.keepDone r s) = view s := by
  unfold Flow.keepDone; split <;> rfl

theorem pollDispatchKeep_pres {s : St} (h : P none (view s)) (now : Nat) :
    P none (view (pollDispatchKeep s now)) := by
  have core : ∀ {s1 r}, pollDispatchCore { s with dWoken := false } now = (s1, r) → P none (view s1) :=
    fun e => of_fst (P := fun S => P none (view S)) e (pollDispatchCore_pres hP (s := { s with dWoken := false }) h now)
  refine Flow.pollDispatchKeep_cases (motive := fun S => P none (view S)) s now ?_ ?_ ?_ ?_
  · intro _; rw [view_emit_irr _ _ rfl]; exact h
  · intro s1 r _ e _; rw [view_keepDone]; exact hP.trunc (tid s1) h (core e)
  · intro s1 r _ e _ _; rw [view_keepDone]; exact core e
  · intro s1 r _ e _ _; rw [view_keepDone, view_emit_irr _ _ rfl, view_emit_irr _ _ rfl]; exact core e

theorem pollDispatch_pres {s : St} (h : P none (view s)) (now : Nat) : P none (view (pollDispatch s now)) :=
  Flow.pollDispatch_cases (motive := fun S => P none (view S)) s now (pollDispatchKeep_pres hP h now)
    (dropDispatch_pres hP (pollDispatchKeep_pres hP h now))

end generic

/-! ### the call future -/

theorem View.upd_upd (v : View) (cid : Nat) (g h : CallV → CallV) :
    (v.upd cid g).upd cid h = v.upd cid (fun c => h { g c with cid := c.cid }) := by
  simp only [View.upd, List.map_map]
  congr 1
  apply List.map_congr_left
  intro c _
  by_cases hc : c.cid = cid <;> simp [hc]

theorem view_guardClose (s : St) (cid : Nat) :
    view (guardClose s cid) = (view s).upd cid (fun c => { c with rxClosed := true }) :=
  view_updCall s cid _ _ (fun _ => rfl) (fun _ => rfl)

theorem view_wakeCq (s : St) : view (if s.cqRxWaker then wakeDispatch { s with cqRxWaker := false } else s) = view s :=
  iteInduction (motive := fun S => view S = view s) (fun _ => by rw [view_wakeDispatch]; rfl) (fun _ => rfl)

theorem view_wakePq (s : St) : view (if s.pqRxWaker then wakeDispatch { s with pqRxWaker := false } else s) = view s :=
  iteInduction (motive := fun S => view S = view s) (fun _ => by rw [view_wakeDispatch]; rfl) (fun _ => rfl)

@[simp] theorem view_afterCallGone (s : St) : view (afterCallGone s) = view s := by
  unfold afterCallGone
  refine iteInduction (motive := fun S => view S = view s) (fun _ => ?_) (fun _ => rfl)
  simp only
  rw [view_wakeCq, view_wakePq]

theorem view_resolve (s : St) (cid : Nat) (o : Outcome) (now : Nat) :
    view (resolve s cid o now) =
      { (view s).upd cid (fun c => { c with phase := .resolved, outcome := some o, rxClosed := true }) with rel := .resolved cid o now :: (view s).rel } := by
  unfold resolve
  simp only
  rw [view_afterCallGone, view_emit_rel _ _ rfl]
  have e : view (updCall s cid (fun c => { c with phase := .resolved, outcome := some o, woken := false, os := { c.os with rxClosed := true, rxWaker := false } }))
      = (view s).upd cid (fun c => { c with phase := .resolved, outcome := some o, rxClosed := true }) :=
    view_updCall _ _ _ _ (fun _ => rfl) (fun _ => rfl)
  rw [e]
  rfl

section generic
variable {P : Option Nat → View → Prop} (hP : Pres P)
include hP

theorem pollOneshot_pres {x : Option Nat} {s : St} (h : P x (view s)) (cid : Nat) (now : Nat)
    (hph : ∀ c, (view s).get cid = some c → c.phase = .awaiting) :
    P x (view (pollOneshot s cid now)) := by
  unfold pollOneshot
  cases hg : getCall s cid with
  | none => exact h
  | some c =>
    have hgv := view_getCall_some hg
    have hpa := hph _ hgv
    simp only
    cases hv : c.os.val with
    | some o =>
      simp only
      have e : view (updCall s cid (fun c => { c with os := { c.os with val := none } }))
          = (view s).upd cid (fun c => { c with val := none }) :=
        view_updCall _ _ _ _ (fun _ => rfl) (fun _ => rfl)
      rw [view_resolve, e, View.upd_upd]
      have := hP.resolveVal (o := o) now h hgv hpa (by simpa [Call.v] using hv)
      exact this
    | none =>
      simp only
      refine iteInduction (motive := fun S => P x (view S)) (fun _ => ?_) (fun _ => ?_)
      · rw [view_resolve]
        exact hP.resolveShut now h hgv (Or.inr hpa)
      · rw [view_emit_irr _ _ rfl]
        have e : view (updCall s cid (fun c => { c with os := { c.os with rxWaker := true } })) = view s :=
          view_updCall_same _ _ _ (fun _ => rfl)
        rw [e]
        exact h

end generic

/-- `failShutdown` at view level: close the receiver, queue the cancellation (unless the dispatch is gone),
resolve with `Shutdown`. -/
def View.failShutdown (v : View) (cid id now : Nat) (dd : Bool) : View :=
  { ((if dd then v.upd cid (fun c => { c with rxClosed := true })
      else { v.upd cid (fun c => { c with rxClosed := true }) with cq := v.cq ++ [id] }).upd cid
        (fun c => { c with phase := .resolved, outcome := some .shutdown, rxClosed := true })) with
    rel := .resolved cid .shutdown now :: v.rel }

theorem view_failShutdown (s : St) (cid id now : Nat) :
    view (failShutdown s cid id now) = (view s).failShutdown cid id now s.dDropped := by
  unfold failShutdown View.failShutdown
  simp only
  rw [view_resolve, view_cqPush]
  have e : (guardClose (osDropTx s cid) cid).dDropped = s.dDropped := by simp [guardClose]
  rw [e, view_guardClose, view_osDropTx]
  cases s.dDropped <;> rfl

/-- closing the receiver first is invisible once the call is resolved -/
theorem View.failShutdown_eq (v : View) (cid id now : Nat) (dd : Bool) :
    v.failShutdown cid id now dd =
      { (if dd then v.upd cid (fun c => { c with phase := .resolved, outcome := some .shutdown, rxClosed := true })
          else { v.upd cid (fun c => { c with phase := .resolved, outcome := some .shutdown, rxClosed := true }) with
            cq := v.cq ++ [id] }) with
        rel := .resolved cid .shutdown now :: v.rel } := by
  have key : (v.upd cid (fun c => { c with rxClosed := true })).upd cid (fun c => { c with phase := .resolved, outcome := some .shutdown, rxClosed := true })
      = v.upd cid (fun c => { c with phase := .resolved, outcome := some .shutdown, rxClosed := true }) := by
    rw [View.upd_upd]
  unfold View.failShutdown
  cases dd
  · simp only [Bool.false_eq_true, ↓reduceIte]
    have := congrArg (fun w : View => ({ w with cq := v.cq ++ [id], rel := Obs.resolved cid Outcome.shutdown now :: v.rel } : View)) key
    exact this
  · simp only [↓reduceIte]
    rw [key]

section generic
variable {P : Option Nat → View → Prop} (hP : Pres P)
include hP

theorem failShutdownV_pres {x : Option Nat} {v : View} (h : P x v) {cid : Nat} {c : CallV}
    (hc : v.get cid = some c) (hph : c.phase = .reserving) (now : Nat) (dd : Bool) :
    P x (v.failShutdown cid c.id now dd) := by
  unfold View.failShutdown
  have hcid := View.get_cid hc
  have h1 := hP.guardClose h hc (Or.inl hph)
  have hc1 : (v.upd cid (fun c => { c with rxClosed := true })).get cid = some { c with rxClosed := true } := by
    rw [View.get_upd_self, hc]; simp
  cases dd
  · simp only [Bool.false_eq_true, ↓reduceIte]
    have h2 := hP.cqPush h1 hc1 (Or.inl hph) rfl
    exact hP.resolveShut now h2 (c := { c with rxClosed := true }) hc1 (Or.inl hph)
  · simp only [↓reduceIte]
    exact hP.resolveShut now h1 hc1 (Or.inl hph)

end generic

/-- first poll of a call, before the phase changes: the ids are drawn -/
def View.assignNP (v : View) (cid : Nat) (tr : Trace) : View :=
  { v.upd cid (fun c => { c with id := v.nextId, trace := tr }) with nextId := v.nextId + 1, nextFresh := v.nextFresh + 1 }

/-- an update that overwrites the phase cannot tell `assignNP` from `assign` -/
theorem View.assign_upd (v : View) (cid : Nat) (tr : Trace) (X : CallV → CallV)
    (hX : ∀ c p, X { c with phase := p } = X c) :
    (v.assignNP cid tr).upd cid X = (v.assign cid tr).upd cid X := by
  simp only [View.assignNP, View.assign, View.upd, List.map_map, View.mk.injEq, and_self, and_true]
  apply List.map_congr_left
  intro c _
  by_cases h : c.cid = cid
  · subst h
    simp only [Function.comp, beq_self_eq_true, ↓reduceIte]
    have := hX { c with id := v.nextId, trace := tr } .reserving
    simp only at this
    rw [this]
  · simp [h]

theorem View.assign_get {v : View} {cid : Nat} {c : CallV} (hc : v.get cid = some c) (tr : Trace) :
    (v.assign cid tr).get cid = some { c with id := v.nextId, trace := tr, phase := .reserving } := by
  have := View.get_upd_self v cid (fun c => { c with id := v.nextId, trace := tr, phase := .reserving })
  have h' : (v.assign cid tr).get cid = (v.upd cid (fun c => { c with id := v.nextId, trace := tr, phase := .reserving })).get cid := rfl
  rw [h', this, hc]
  simp

section generic
variable {P : Option Nat → View → Prop} (hP : Pres P)
include hP

/-- `enqueue`, given that its effect on the view up to the poll of the oneshot is an `enqueue` transition -/
theorem enqueue_pres {x : Option Nat} {s : St} (c : Call) (now : Nat) {v : View} (h : P x v) {cv : CallV}
    (hc : v.get c.cid = some cv) (hph : cv.phase = .reserving)
    (hid : cv.id = c.id) (hdl : cv.ctx.deadline = c.ctx.deadline) (htr : cv.trace = c.trace) (hb : cv.body = c.body)
    (hv : ({ (view s).upd c.cid (fun c => { c with phase := .awaiting }) with
              pq := (view s).pq ++ [{ cid := c.cid, id := c.id, ctx := { deadline := c.ctx.deadline, trace := c.trace }, body := c.body }] } : View)
        = { v.upd c.cid (fun c => { c with phase := .awaiting }) with pq := v.pq ++ [{ cid := c.cid, id := c.id, ctx := { deadline := c.ctx.deadline, trace := c.trace }, body := c.body }] }) :
    P x (view (enqueue s c now)) := by
  unfold enqueue
  simp only
  have e : view (updCall (pqPush s { cid := c.cid, id := c.id, ctx := { deadline := c.ctx.deadline, trace := c.trace }, body := c.body }) c.cid (fun c => { c with phase := .awaiting }))
      = { v.upd c.cid (fun c => { c with phase := .awaiting }) with pq := v.pq ++ [{ cid := c.cid, id := c.id, ctx := { deadline := c.ctx.deadline, trace := c.trace }, body := c.body }] } := by
    rw [← hv]
    have e1 : view (updCall (pqPush s { cid := c.cid, id := c.id, ctx := { deadline := c.ctx.deadline, trace := c.trace }, body := c.body }) c.cid (fun c => { c with phase := .awaiting }))
        = (view (pqPush s { cid := c.cid, id := c.id, ctx := { deadline := c.ctx.deadline, trace := c.trace }, body := c.body })).upd c.cid (fun c => { c with phase := .awaiting }) :=
      view_updCall _ _ _ _ (fun _ => rfl) (fun _ => rfl)
    rw [e1, view_pqPush]
    rfl
  have h2 := hP.enqueue h hc hph
  rw [hid, hdl, htr, hb] at h2
  refine pollOneshot_pres hP (e ▸ h2) c.cid now ?_
  intro c' hc'
  rw [e] at hc'
  have : (v.upd c.cid (fun c => { c with phase := .awaiting })).get c.cid = some c' := hc'
  rw [View.get_upd_self, hc] at this
  simp only [Option.map_some, Option.some.injEq] at this
  rw [← this]

end generic

theorem View.assignNP_reserving (v : View) (cid : Nat) (tr : Trace) :
    (v.assignNP cid tr).upd cid (fun c => { c with phase := .reserving }) = v.assign cid tr := by
  simp only [View.assignNP, View.assign, View.upd, List.map_map, View.mk.injEq, and_self, and_true]
  apply List.map_congr_left
  intro c _
  by_cases h : c.cid = cid
  · subst h; simp
  · simp [h]

theorem View.failShutdown_assign (v : View) (cid : Nat) (tr : Trace) (id now : Nat) (dd : Bool) :
    (v.assignNP cid tr).failShutdown cid id now dd = (v.assign cid tr).failShutdown cid id now dd := by
  rw [View.failShutdown_eq, View.failShutdown_eq, View.assign_upd v cid tr _ (fun _ _ => rfl)]
  rfl

theorem view_assignNP (s : St) (cid : Nat) (tr : Trace) :
    view (updCall { s with nextFresh := s.nextFresh + 1, nextId := s.nextId + 1 } cid (fun c => { c with id := s.nextId, trace := tr, woken := false }))
      = (view s).assignNP cid tr := by
  have e : view (updCall { s with nextFresh := s.nextFresh + 1, nextId := s.nextId + 1 } cid (fun c => { c with id := s.nextId, trace := tr, woken := false }))
      = (view { s with nextFresh := s.nextFresh + 1, nextId := s.nextId + 1 }).upd cid (fun c => { c with id := s.nextId, trace := tr }) :=
    view_updCall _ _ _ _ (fun _ => rfl) (fun _ => rfl)
  rw [e]; rfl

section generic
variable {P : Option Nat → View → Prop} (hP : Pres P)
include hP

theorem pollCall_pres {x : Option Nat} {s : St} (h : P x (view s)) (cid now : Nat) :
    P x (view (pollCall s cid now)) := by
  -- clearing the wake flag does not show in the view
  have e : view (updCall s cid (fun c => { c with woken := false })) = view s :=
    view_updCall_same _ _ _ (fun _ => rfl)
  refine Flow.pollCall_cases (motive := fun S => P x (view S)) s cid now ?_ ?_ ?_ ?_
  · intro _; rw [view_emit_irr _ _ rfl]; exact h
  · intro c a hg hph ha
    subst ha
    have hgv := view_getCall_some hg
    have hcid := getCall_cid hg
    have hv2 : view (assignId s cid c) = (view s).assignNP cid { c.ctx.trace with span := .fresh s.nextFresh } :=
      view_assignNP s cid { c.ctx.trace with span := .fresh s.nextFresh }
    have hva := hP.assign h hgv hph
    have hga := View.assign_get hgv { c.ctx.trace with span := .fresh s.nextFresh }
    refine iteInduction (motive := fun S => P x (view S)) (fun _ => ?_) (fun _ => ?_)
    · rw [view_failShutdown, hv2, View.failShutdown_assign]
      exact failShutdownV_pres hP hva hga rfl now _
    · refine iteInduction (motive := fun S => P x (view S)) (fun _ => ?_) (fun _ => ?_)
      · refine enqueue_pres hP (assignedCall s c) now
          (v := (view s).assign cid { c.ctx.trace with span := .fresh s.nextFresh }) hva
          (cv := { c.v with id := s.nextId, trace := { c.ctx.trace with span := .fresh s.nextFresh }, phase := .reserving })
          (hcid ▸ hga) rfl rfl rfl rfl rfl ?_
        rw [show view { assignId s cid c with pqAvail := (assignId s cid c).pqAvail - 1 } = view (assignId s cid c) from rfl, hv2]
        simp only [assignedCall, hcid]
        rw [View.assign_upd _ _ _ _ (fun _ _ => rfl)]
        rfl
      · rw [view_emit_irr _ _ rfl]
        have e2 : view (updCall { assignId s cid c with pqWaiters := (assignId s cid c).pqWaiters ++ [cid] } cid
            (fun c => { c with phase := .reserving }))
            = (view { assignId s cid c with pqWaiters := (assignId s cid c).pqWaiters ++ [cid] }).upd cid
              (fun c => { c with phase := .reserving }) :=
          view_updCall _ _ _ _ (fun _ => rfl) (fun _ => rfl)
        rw [e2, show view { assignId s cid c with pqWaiters := (assignId s cid c).pqWaiters ++ [cid] }
          = view (assignId s cid c) from rfl, hv2, View.assignNP_reserving]
        exact hva
  · intro c a hg hph ha
    subst ha
    have hgv := view_getCall_some hg
    have hcid := getCall_cid hg
    refine iteInduction (motive := fun S => P x (view S)) (fun _ => ?_) (fun _ => ?_)
    · rw [view_failShutdown, show ∀ (a b : List Nat) (n : Nat),
        view { updCall s cid (fun c => { c with woken := false }) with pqAssigned := a, pqWaiters := b, pqAvail := n } = view s
        from fun _ _ _ => e]
      exact failShutdownV_pres hP h hgv hph now _
    · refine iteInduction (motive := fun S => P x (view S)) (fun _ => ?_) (fun _ => ?_)
      · refine enqueue_pres hP c now (v := view s) h (cv := c.v) (hcid ▸ hgv) hph rfl rfl rfl rfl ?_
        rw [show ∀ a : List Nat, view { updCall s cid (fun c => { c with woken := false }) with pqAssigned := a } = view s
          from fun _ => e]
      · rw [view_emit_irr _ _ rfl, e]; exact h
  · intro c hg hph
    refine pollOneshot_pres hP (e ▸ h) cid now ?_
    intro c' hc'
    rw [e, view_getCall_some hg] at hc'
    injection hc' with hc'; rw [← hc']; exact hph

end generic

/-! ### dropping a call future -/

/-- the guard of call `cid` has closed the receiver -/
def Closed (v : View) (cid : Nat) : Prop :=
  ∀ c, v.get cid = some c → (c.phase = .reserving ∨ c.phase = .awaiting) → c.rxClosed = true

theorem Closed.frame {v0 v : View} {cid : Nat} (hc : Closed v0 cid) (hf : Frame v0 v) : Closed v cid := by
  intro c' hc' hph
  obtain ⟨c, h0, hp, hr⟩ := hf cid c' hc'
  exact hr (hc c h0 (by rw [← hp]; exact hph))

@[simp] theorem view_dropPre (s : St) (cid : Nat) : view (dropPre s cid) = view s := by
  unfold dropPre
  split
  · rfl
  · split
    · simp only
      rw [view_osDropTx]
      split
      · rw [view_pqRelease]; rfl
      · rfl
    · rfl

theorem view_dropCancel (s : St) (cid : Nat) :
    (view (dropCancel s cid)).calls = (view s).calls :=
  Flow.dropCancel_cases (motive := fun S => (view S).calls = (view s).calls) s cid (fun _ => rfl)
    (fun c _ _ => by rw [view_cqPush]; split <;> rfl)

theorem Closed.of_calls {v v' : View} {cid : Nat} (h : Closed v cid) (hc : v'.calls = v.calls) : Closed v' cid := by
  intro c hg; unfold View.get at hg; rw [hc] at hg; exact h c hg

section generic
variable {P : Option Nat → View → Prop} (hP : Pres P)
include hP

theorem dropClose_pres {x : Option Nat} {s : St} (h : P x (view s)) (cid : Nat) :
    P x (view (dropClose s cid)) ∧ Closed (view (dropClose s cid)) cid := by
  refine Flow.dropClose_cases (motive := fun S => P x (view S) ∧ Closed (view S) cid) s cid (fun hn => ⟨h, ?_⟩)
    (fun c hg hph => ?_)
  · intro c' hc' hph
    cases hg : getCall s cid with
    | none => rw [view_getCall_none hg] at hc'; cases hc'
    | some c => rw [view_getCall_some hg] at hc'; cases hc'; exact absurd hph (hn c hg)
  · rw [view_guardClose]
    refine ⟨hP.guardClose h (view_getCall_some hg) hph, fun c' hc' _ => ?_⟩
    rw [View.get_upd_self, view_getCall_some hg] at hc'
    simp only [Option.map_some, Option.some.injEq] at hc'
    rw [← hc']

theorem dropCancel_pres {x : Option Nat} {s : St} (h : P x (view s)) (cid : Nat) (hcl : Closed (view s) cid) :
    P x (view (dropCancel s cid)) := by
  refine Flow.dropCancel_cases (motive := fun S => P x (view S)) s cid (fun _ => h) (fun c hg hph => ?_)
  rw [view_cqPush]; split
  · exact h
  · exact hP.cqPush h (view_getCall_some hg) (CallV.polled_of_guarded hph) (hcl _ (view_getCall_some hg) hph)

theorem dropFinish_pres {x : Option Nat} {s : St} (h : P x (view s)) (cid : Nat) (hcl : Closed (view s) cid) :
    P x (view (dropFinish s cid)) := by
  refine Flow.dropFinish_cases (motive := fun S => P x (view S)) s cid (fun _ => by rw [view_emit_irr _ _ rfl]; exact h)
    (fun c hg hph => ?_)
  have hgv := view_getCall_some hg
  have e : view (updCall s cid (fun c => { c with phase := .dropped, woken := false }))
      = (view s).upd cid (fun c => { c with phase := .dropped }) := view_updCall _ _ _ _ (fun _ => rfl) (fun _ => rfl)
  rw [view_afterCallGone, e]
  rcases hph with hph | hph
  · exact hP.dropGuarded h hgv hph (hcl _ hgv hph)
  · exact hP.dropNP h hgv hph

/-- a dispatch poll in the middle of a drop keeps the receiver closed -/
theorem pollDispatch_closed {s : St} (h : P none (view s)) (now : Nat) (cid : Nat) (hcl : Closed (view s) cid) :
    P none (view (pollDispatch s now)) ∧ Closed (view (pollDispatch s now)) cid := by
  have := pollDispatch_pres (hP.toPresD.withFrame (view s)) (s := s) ⟨h, Frame.refl _⟩ now
  exact ⟨this.1, hcl.frame this.2⟩

theorem dropCallG_pres {s : St} (h : P none (view s)) (guarded : Bool) (cid : Nat) (at_ : DropAt) (now : Nat) :
    P none (view (dropCallG guarded s cid at_ now)) := by
  -- from the guard's close on, the receiver of `cid` stays closed
  have poll : ∀ S, P none (view S) ∧ Closed (view S) cid → P none (view (pollDispatch S now)) ∧
      Closed (view (pollDispatch S now)) cid := fun S h => pollDispatch_closed hP h.1 now cid h.2
  exact dropCallG_walk (I₁ := fun S => P none (view S)) (I₂ := fun S => P none (view S) ∧ Closed (view S) cid)
    (I₃ := fun S => P none (view S) ∧ Closed (view S) cid) (J := fun S => P none (view S)) guarded s cid at_ now
    (by rw [view_dropPre]; exact h) (fun S h => pollDispatch_pres hP.toPresD h now) (fun S h => dropClose_pres hP h cid) poll
    (fun S h => ⟨dropCancel_pres hP h.1 cid h.2, h.2.of_calls (view_dropCancel S cid)⟩) poll
    (fun S h => dropFinish_pres hP h.1 cid h.2)

theorem dropCall_pres {s : St} (h : P none (view s)) (cid : Nat) (at_ : DropAt) (now : Nat) :
    P none (view (dropCall s cid at_ now)) := by
  rw [dropCall_eq]; exact dropCallG_pres hP h _ cid at_ now

end generic

/-! ### handles, external events, ops -/

theorem view_newCall (s : St) (h : Nat) (ctx : Ctx) (body : Nat) :
    view (newCall s h ctx body) = view s ∨
    (s.handles.contains h = true ∧
     view (newCall s h ctx body) = { view s with calls := (view s).calls ++ [CallV.fresh (view s).calls.length ctx body] }) := by
  unfold newCall
  split
  · right
    refine ⟨‹_›, ?_⟩
    simp [view, CallV.fresh, Call.v]
  · left; exact view_emit_irr _ _ rfl

theorem view_cloneHandle (s : St) (h : Nat) :
    view (cloneHandle s h) =
      if s.handles.contains h then { view s with handles := s.handles ++ [s.nextHandle], nextHandle := s.nextHandle + 1 } else view s := by
  unfold cloneHandle; split
  · rfl
  · exact view_emit_irr _ _ rfl

theorem view_dropHandle (s : St) (h : Nat) :
    view (dropHandle s h) = { view s with handles := s.handles.filter (· != h) } := by
  unfold dropHandle; split
  · rw [view_afterCallGone]; rfl
  · rw [view_emit_irr _ _ rfl]
    have : s.handles.filter (· != h) = s.handles := by
      apply List.filter_eq_self.mpr
      intro a ha
      have hn : ¬ s.handles.contains h = true := ‹_›
      simp only [List.contains_iff_mem] at hn
      simp only [bne_iff_ne, ne_eq]
      intro e; subst e; exact hn ha
    rw [this]; rfl

theorem view_liftT (s : St) (r : SimT × Bool) (h : r.1.sentLog = s.t.sentLog) : view (liftT s r) = view s := by
  unfold liftT; simp only
  rw [view_wakeIf]; exact view_t _ _ h

@[simp] theorem view_onAdvance (s : St) (now : Nat) : view (onAdvance s now) = view s := by
  unfold onAdvance; split
  · split
    · rw [view_wakeDispatch]; rfl
    · rfl
  · rfl

theorem view_foldl_took (ms : List Msg) (s : St) :
    view (ms.foldl (fun s m => emit s (.took (tid s) m)) s) = view s :=
  foldl_field view _ (fun s _ => view_emit_irr s _ rfl) ms s

/-- the ops that do not involve the call futures or the dispatch leave the view alone -/
theorem view_applyOp_env (c : Sys) (op : COp)
    (h : match op with
      | .call _ _ _ _ | .pollCall _ | .dropCall _ _ | .pollDispatch | .dropDispatch | .clone _ | .dropHandle _ => False
      | _ => True) :
    view (applyOp c op).s = view c.s := by
  cases op with
  | call _ _ _ _ | pollCall _ | dropCall _ _ | pollDispatch | dropDispatch | clone _ | dropHandle _ => cases h
  | injectResp _ _ | injectErr | eof => exact view_liftT _ _ rfl
  | setReady _ | setFlush _ => exact view_liftT _ _ (SimT.wakeIfReady_sentLog _)
  | fault k => exact view_t _ _ (by cases k <;> rfl)
  | faultSkip _ | selfWake _ => exact view_t _ _ rfl
  | take n => exact (view_foldl_took _ _).trans rfl
  | advance n => exact view_onAdvance _ _

/-- the ops whose effect on the view is not one of the `Pres` transitions -/
def COp.structural : COp → Bool
  | .call _ _ _ _ => true
  | .clone _ => true
  | .dropHandle _ => true
  | _ => false

theorem applyOp_pres {P : Option Nat → View → Prop} (hP : Pres P) {c : Sys} (h : P none (view c.s)) {op : COp}
    (hop : op.structural = false) : P none (view (applyOp c op).s) := by
  cases op with
  | call _ _ _ _ => cases hop
  | clone _ => cases hop
  | dropHandle _ => cases hop
  | pollCall cid => exact pollCall_pres hP h cid c.now
  | dropCall cid site => exact dropCall_pres hP h cid site c.now
  | pollDispatch => exact pollDispatch_pres hP.toPresD h c.now
  | dropDispatch => exact dropDispatch_pres hP.toPresD h
  | _ => rw [view_applyOp_env _ _ trivial]; exact h

/-- `call`, `clone`, `drop-handle` are not `Pres` transitions: they are asked for separately -/
theorem applyOp_keeps {P : Option Nat → View → Prop} (hP : Pres P)
    (handles : ∀ {v : View} (hs : List Nat) (n : Nat), P none v → P none { v with handles := hs, nextHandle := n })
    (newCall : ∀ {v : View} (ctx : Ctx) (body : Nat), P none v →
      P none { v with calls := v.calls ++ [CallV.fresh v.calls.length ctx body] })
    {c : Sys} (h : P none (view c.s)) (op : COp) : P none (view (applyOp c op).s) := by
  cases op with
  | call hd d tr b =>
    rcases view_newCall c.s hd { deadline := d, trace := tr } b with hv | ⟨_, hv⟩
    · exact hv ▸ h
    · show P none (view (Client.newCall c.s hd { deadline := d, trace := tr } b))
      rw [hv]; exact newCall _ _ h
  | clone hd =>
    show P none (view (cloneHandle c.s hd))
    rw [view_cloneHandle]; split
    · exact handles _ _ h
    · exact h
  | dropHandle hd =>
    show P none (view (dropHandle c.s hd))
    rw [view_dropHandle]; exact handles _ _ h
  | _ => exact applyOp_pres hP h rfl

theorem applyOp_inv {c : Sys} (h : Inv none (view c.s)) (op : COp) : Inv none (view (applyOp c op).s) :=
  applyOp_keeps Inv.pres (fun hs n h => h.of_handles hs n) (fun ctx body h => h.newCall ctx body) h op

theorem init_inv (k m b tc : Nat) (coupled : Bool) : Inv none (view (init k m b tc coupled)) where
  cids := rfl
  cidLt := fun _ _ h => nomatch h
  fresh := rfl
  idLt := fun _ _ h => nomatch h
  idInj := fun _ _ _ _ h => nomatch h
  tr := fun _ _ h => nomatch h
  outc := fun _ _ h => nomatch h
  np := fun _ _ h => nomatch h
  early := fun _ _ h => nomatch h
  pq := fun _ h => nomatch h
  pqNodup := List.nodup_nil
  inf := fun _ h => nomatch h
  infNodup := List.nodup_nil
  disj := fun _ h => nomatch h
  cq := fun _ h => nomatch h
  reqNodup := List.nodup_nil
  pqNotSent := fun _ h => nomatch h
  infSent := fun _ _ h => nomatch h
  xNotSent := fun _ _ h => nomatch h
  reqCall := fun _ _ _ _ h => nomatch h
  canNodup := List.nodup_nil
  canCall := fun _ _ h => nomatch h
  canAfter := fun _ l1 _ _ _ h => by cases l1 <;> cases h

theorem reach_inv (m b tc : Nat) (coupled : Bool) (ops : List COp) :
    Inv none (view (ops.foldl applyOp (initSys m b tc coupled)).s) :=
  foldl_keeps (P := fun c : Sys => Inv none (view c.s)) (fun _ op h => applyOp_inv h op) ops (init_inv _ _ _ _ _)

end TarpcModel.Client
