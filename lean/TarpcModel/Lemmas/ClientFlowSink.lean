import TarpcModel.Lemmas.ClientFlowInv
import TarpcModel.Lemmas.ClientFlowErr
import TarpcModel.Lemmas.ClientFlowSpin
import TarpcModel.Lemmas.ClientTRel
import TarpcModel.Monitors.Client
/-
Glue between the client invariants and the property files `Props/C14Client.lean`, `Props/C09Client.lean`,
`Props/C10Client.lean`: scripts and traces, and a few facts about single polls.
-/
namespace TarpcModel.Client.Flow

/-- The start state of a `cli` script with the `ensure_writeable` variant chosen explicitly
(`initSys` uses the generated flag `Gen.clientEnsureLoop`). -/
def initSysWith (ensureLoop : Bool) (m b c : Nat) (coupled : Bool) : Sys :=
  { s := { init 0 m b c coupled with ensureLoop := ensureLoop } }

theorem initSysWith_inv (el : Bool) (m b c : Nat) (coupled : Bool) : Inv (initSysWith el m b c coupled).s :=
  (init_inv 0 m b c coupled).same

/-- Every `tViolation` observation in the event trace of a script started in an invariant state names a
violation other than the three send violations. -/
theorem trace_no_send_violation (ops : List COp) {c : Sys} (h : Inv c.s) (ep : TaskId) (w : String)
    (hm : CEv.obs (.tViolation ep w) ∈ trace c ops) : w ∉ sendViols :=
  traceOf.forall_mem (Q := fun e => ∀ ep w, e = CEv.obs (.tViolation ep w) → w ∉ sendViols)
    (K := fun c _ => Inv c.s)
    (fun c op _ h => by
      have h1 : Inv (applyOp (clr c) op).s := applyOp_inv op h.clearObs
      refine ⟨(fun _ _ e => by cases e), fun o ho ep w e => ?_, h1.clearObs⟩
      cases e
      exact h1.base.sv w (h1.base.obsOK.of_mem (List.mem_reverse.mp ho)))
    ops c h _ hm ep w rfl

theorem pollDispatchCore_pending_flushed (s : St) (now : Nat) (hr : (pollDispatchCore s now).2 = .pending)
    (ht : (pollDispatchCore s now).1.termErr = none) (hp : (pollDispatchCore s now).1.poisoned = false) :
    Flushed (pollDispatchCore s now).1 := by
  revert hr ht hp
  refine pollDispatchCore_cases (motive := fun p => p.2 = .pending → p.1.termErr = none → p.1.poisoned = false →
    Flushed p.1) s now ?_ ?_ ?_ ?_ ?_
  · intro a s1 fin hta h1 _ ht _
    have := shutDown_termErr s a; rw [h1] at this
    rw [this, hta] at ht; cases ht
  · intro s1 _ h1 _ _ _
    have := run_pending_flushed (runFuel s) s now; rw [h1] at this; exact this rfl
  · intro _ _ _ h; cases h
  · intro _ _ _ _ _ hp; cases hp
  · intro s1 a s2 fin _ _ h2 _ ht _
    have := shutDown_termErr { s1 with termErr := some a } a; rw [h2] at this
    rw [this] at ht; cases ht

/-! ### no spin, for whole scripts -/

/-- `MStep` without the measure, which the ops of the call side do not keep (they fill the queues) -/
structure NoSpinStep (s s' : St) : Prop where
  el : s'.ensureLoop = s.ensureLoop
  spin : s'.obs.filter isSpinObs = s.obs.filter isSpinObs

theorem NoSpinStep.refl (s : St) : NoSpinStep s s := ⟨rfl, rfl⟩
theorem NoSpinStep.trans {s s1 s2 : St} (h1 : NoSpinStep s s1) (h2 : NoSpinStep s1 s2) : NoSpinStep s s2 :=
  ⟨h2.el.trans h1.el, h2.spin.trans h1.spin⟩
theorem NoSpinStep.of_frameA {s s' : St} (h : FrameA s s') : NoSpinStep s s' :=
  ⟨h.ensureLoop, filter_spinObs_of_tObs h.tobs⟩

/-- `run`'s fuel `runFuel s` exceeds `runMeasure s`, so it never runs out; nothing else an op does can spin. -/
theorem noSpinStep_orel : ORel NoSpinStep where
  refl := .refl
  trans := .trans
  el := fun h => h.el
  frameA := .of_frameA
  core := fun s now hel => ⟨pollDispatchCore_ensureLoop s now, pollDispatchCore_no_spin s now hel⟩

/-- **One dispatch poll observes no spin** (fixed `ensure_writeable`). -/
theorem pollDispatch_no_spin (s : St) (now : Nat) (hel : s.ensureLoop = false) :
    (pollDispatch s now).obs.filter isSpinObs = s.obs.filter isSpinObs :=
  (pollDispatch_orel noSpinStep_orel s now hel).spin

/-- Every op of a script keeps the variant and, with the fixed `ensure_writeable`, adds no spin. -/
theorem applyOp_noSpinStep (c : Sys) (op : COp) (hel : c.s.ensureLoop = false) :
    NoSpinStep c.s (applyOp c op).s :=
  applyOp_orel noSpinStep_orel (fun _ _ _ => ⟨rfl, rfl⟩) c op hel

/-- No `Obs.spin` in the event trace of a script started with the fixed `ensure_writeable`. -/
theorem trace_no_spin (ops : List COp) {c : Sys} (hel : c.s.ensureLoop = false) (t : TaskId) :
    CEv.obs (.spin t) ∉ trace c ops := fun hm =>
  traceOf.forall_mem (Q := fun e => ∀ t, e ≠ CEv.obs (.spin t)) (K := fun c _ => c.s.ensureLoop = false)
    (fun c op _ hel => by
      have h1 := applyOp_noSpinStep (clr c) op hel
      refine ⟨(fun _ e => by cases e), fun o ho t e => ?_, h1.el.trans hel⟩
      cases e
      have : Obs.spin t ∈ (applyOp (clr c) op).s.obs.filter isSpinObs :=
        List.mem_filter.mpr ⟨List.mem_reverse.mp ho, rfl⟩
      rw [h1.spin, clr_obs] at this
      cases this)
    ops c hel _ hm t rfl

/-- No `Obs.spin` among the observations a script accumulates (state form of `trace_no_spin`). -/
theorem foldl_applyOp_noSpinStep (ops : List COp) (c : Sys) (hel : c.s.ensureLoop = false) :
    NoSpinStep c.s (ops.foldl applyOp c).s :=
  (foldl_keeps (P := fun c' : Sys => NoSpinStep c.s c'.s ∧ c'.s.ensureLoop = false)
    (fun c' op h => have h1 := applyOp_noSpinStep c' op h.2; ⟨h.1.trans h1, h1.el.trans h.2⟩) ops ⟨.refl _, hel⟩).1

theorem tNext_closeObs (s : St) : (tNext s).1.obs.filter isCloseObs = s.obs.filter isCloseObs := by
  rw [tNext_eq]; split
  · rfl
  · simp [isCloseObs]

theorem tNext_fused_iff (s : St) : (tNext s).1.readFused = true ↔ (tNext s).2 = .eof := by
  rw [tNext_eq]
  split
  · rename_i h; simp [h]
  · simp

theorem pumpRead_fused_iff (s : St) : (pumpRead s).1.readFused = true ↔ (pumpRead s).2 = .none := by
  have key := tNext_fused_iff s
  refine pumpRead_cases (motive := fun p => p.1.readFused = true ↔ p.2 = .none) s ?_ ?_ ?_ ?_ ?_
  · intro s1 h1; rw [h1] at key; simpa using key
  · intro s1 h1; rw [h1] at key; simpa using key
  · intro s1 h1; rw [h1] at key; simpa using key
  · intro s1 id res h1; rw [h1] at key; rw [completeRequest_readFused]; simpa using key
  · intro s1 m h1 _; rw [h1] at key; simpa using key

end TarpcModel.Client.Flow
