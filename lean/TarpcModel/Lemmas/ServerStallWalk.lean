import TarpcModel.Lemmas.ServerTab2
import TarpcModel.Lemmas.ServerInv
/-!
The limiter's early exit is taken at the limit only: on every trace of the model the book's flag `belowLimitStall`
(`Monitors/Server.lean`: a top-level poll of the request stream in which `poll_ready → Pending` is followed at once by
the write pump's `poll_ready`, although the poll began below the limit) is never set at a `ret` of the request stream.

An observation-precise walk through one poll (`limitedPollNextLegacy`, `pumpWrite`, `ensureOnce`, `requestsPollNext`):
`LG` — the flag is clear and, if the last transport call was `poll_ready → Pending`, the limit is at most the count the
poll began with — holds between the calls of the pumps; the limiter calls `poll_ready` at its limit only, and the count
does not grow while no request is accepted.  What else a poll calls reports no `poll_ready` and no counts (`ObsRel.steps`).

`throttleAfterRead = false`, `ensureLoop = false`: the state's copies of `Gen.throttleAfterRead`, `Gen.serverEnsureLoop`
(`Gen/Flags.lean`, both `false`); `limitedPollNextFixed` and `ensureLoop` are not covered.
-/
namespace TarpcModel.Server.Tab
open TarpcModel TarpcModel.Server TarpcModel.Server.Flow TarpcModel.Server.ObsMon TarpcModel.Server.Mon06
open TarpcModel.Server.Mon11

/-! ## the book -/

/-- past a spin, or: the flag is clear, the remembered count is `start`, the limit `l`, and a pending `poll_ready` is the last
transport call only if `l ≤ start` -/
def LG (l start : Nat) (b : Book) : Prop :=
  b.spun = true ∨ (b.belowLimitStall = false ∧ b.lastCounts = start ∧ b.limit = some l ∧ (b.prevReadyP = true → l ≤ start))

/-- … without the claim about the last transport call -/
def LW (l start : Nat) (b : Book) : Prop :=
  b.spun = true ∨ (b.belowLimitStall = false ∧ b.lastCounts = start ∧ b.limit = some l)

theorem LG.toLW {l start : Nat} {b : Book} (h : LG l start b) : LW l start b :=
  h.imp (fun h => h) (fun ⟨a, b, c, _⟩ => ⟨a, b, c⟩)

/-- observations other than `poll_ready` calls and the counts of the request stream -/
def noTR : Obs → Bool
  | .tReady _ _ => false
  | .counts (.server _) _ _ => false
  | _ => true

/-- what a step of the book on an observation in `noTR` keeps -/
structure FrameL (b b' : Book) : Prop where
  flag : b'.belowLimitStall = b.belowLimitStall
  cnt : b'.lastCounts = b.lastCounts
  lim : b'.limit = b.limit
  prev : b'.prevReadyP = true → b.prevReadyP = true
  spun : b'.spun = b.spun

theorem FrameL.trans {a b c : Book} (h1 : FrameL a b) (h2 : FrameL b c) : FrameL a c :=
  ⟨h2.flag.trans h1.flag, h2.cnt.trans h1.cnt, h2.lim.trans h1.lim, fun h => h1.prev (h2.prev h), h2.spun.trans h1.spun⟩

theorem FrameL.jr (b : Book) : FrameL b { b with justRead := none } := ⟨rfl, rfl, rfl, id, rfl⟩

theorem step_frameL (b : Book) (o : Obs) (h : noTR o = true) :
    (b.step (.obs o)).spun = true ∨ FrameL b (b.step (.obs o)) := by
  cases o with
  | tReady ep r => cases h
  | tNext ep r =>
    right
    obtain ⟨t, a, e⟩ := preRead_frame b
    rw [step_tNext_eq, e]
    cases r with
    | item m =>
      cases m with
      | cancel id tr =>
        simp only
        split
        · exact ⟨rfl, rfl, rfl, nofun, rfl⟩
        · exact ⟨rfl, rfl, rfl, nofun, rfl⟩
      | _ => exact ⟨rfl, rfl, rfl, nofun, rfl⟩
    | _ => exact ⟨rfl, rfl, rfl, nofun, rfl⟩
  | tFlush ep r =>
    right
    rw [step_tFlush]
    exact ⟨rfl, rfl, rfl, nofun, rfl⟩
  | tSend ep m ok =>
    right
    cases m with
    | response id res => cases ok <;> exact ⟨rfl, rfl, rfl, nofun, rfl⟩
    | _ => exact FrameL.jr b
  | ret t r =>
    right
    cases t with
    | server k =>
      have hs : ∀ (b1 : Book) (c : Prop) [Decidable c], FrameL b1 (if c then sweptBook b1 (some b1.now) else b1) := by
        intro b1 c _
        split
        · exact ⟨rfl, rfl, rfl, id, rfl⟩
        · exact ⟨rfl, rfl, rfl, id, rfl⟩
      rw [step_ret_eq]
      refine FrameL.trans ?_ (hs _ _)
      cases r <;> exact ⟨rfl, rfl, rfl, id, rfl⟩
    | exec v =>
      cases r with
      | readyOk => exact ⟨rfl, rfl, rfl, id, rfl⟩
      | _ => exact FrameL.jr b
    | _ => exact FrameL.jr b
  | handler r ev t =>
    right
    cases ev with
    | completed | dropped => exact ⟨rfl, rfl, rfl, id, rfl⟩
    | _ => exact FrameL.jr b
  | counts ep a c =>
    cases ep with
    | server k => cases h
    | _ => right; exact FrameL.jr b
  | spin | panic => left; rfl
  | wake | yielded => right; exact ⟨rfl, rfl, rfl, id, rfl⟩
  | _ => right; exact FrameL.jr b

variable {l start : Nat}

theorem LG.step {b : Book} (h : LG l start b) (o : Obs) (ho : noTR o = true) : LG l start (b.step (.obs o)) := by
  refine unspun_or fun hn => ?_
  have f := of_unspun (step_frameL b o ho) hn
  obtain ⟨b1, b2, b3, b4⟩ := of_unspun h (step_unspun hn)
  exact ⟨f.flag.trans b1, f.cnt.trans b2, f.lim.trans b3, fun hc => b4 (f.prev hc)⟩

theorem LW.step {b : Book} (h : LW l start b) (o : Obs) (ho : noTR o = true) : LW l start (b.step (.obs o)) := by
  refine unspun_or fun hn => ?_
  have f := of_unspun (step_frameL b o ho) hn
  obtain ⟨b1, b2, b3⟩ := of_unspun h (step_unspun hn)
  exact ⟨f.flag.trans b1, f.cnt.trans b2, f.lim.trans b3⟩

theorem LW.flush {b : Book} (h : LW l start b) (ep : TaskId) (r : PollRes) : LG l start (b.step (.obs (.tFlush ep r))) := by
  refine unspun_or fun hn => ?_
  obtain ⟨a1, a2, a3⟩ := of_unspun (LW.step h (.tFlush ep r) rfl) hn
  refine ⟨a1, a2, a3, fun hc => ?_⟩
  rw [step_tFlush] at hc
  cases hc

theorem step_tReady_flag (b : Book) (ep : TaskId) (r : PollRes)
    (h : (b.step (.obs (.tReady ep r))).belowLimitStall = true) :
    b.belowLimitStall = true ∨ (b.prevReadyP = true ∧ ∃ l, b.limit = some l ∧ ¬ l ≤ b.lastCounts) := by
  -- the `tReady` clause of `Book.step` about any book `x`: `h` is an instance of its hypothesis by unfolding alone
  have key : ∀ (x : Book) (p : Bool),
      ({ (if (x.topPoll && x.prevReadyP && x.limit.isSome) = true then
            (if x.lastCounts ≥ x.limit.getD 0 then { x with stalled := true } else { x with belowLimitStall := true })
          else x) with sawT := true, prevReadyP := p } : Book).belowLimitStall = true →
      x.belowLimitStall = true ∨ (x.prevReadyP = true ∧ ∃ l, x.limit = some l ∧ ¬ l ≤ x.lastCounts) := by
    intro x p hx
    by_cases hc : (x.topPoll && x.prevReadyP && x.limit.isSome) = true
    · by_cases hd : x.lastCounts ≥ x.limit.getD 0
      · rw [if_pos hc, if_pos hd] at hx; exact Or.inl hx
      · simp only [Bool.and_eq_true] at hc
        obtain ⟨l, hl⟩ := Option.isSome_iff_exists.mp hc.2
        rw [hl] at hd
        exact Or.inr ⟨hc.1.2, l, hl, hd⟩
    · rw [if_neg hc] at hx; exact Or.inl hx
  have hx := key (if r == .err then { ({ b with justRead := none } : Book) with failed := true } else { b with justRead := none })
    (r == .pending) h
  cases r with
  | _ => exact hx

theorem LG.ready {b : Book} (h : LG l start b) (ep : TaskId) (r : PollRes) :
    LW l start (b.step (.obs (.tReady ep r))) ∧
    ((r ≠ .pending ∨ l ≤ start) → LG l start (b.step (.obs (.tReady ep r)))) := by
  rcases h with hs | ⟨b1, b2, b3, b4⟩
  · exact ⟨Or.inl (step_spun_mono _ _ hs), fun _ => Or.inl (step_spun_mono _ _ hs)⟩
  · have c1 : (b.step (.obs (.tReady ep r))).belowLimitStall = false := by
      refine Bool.eq_false_iff.mpr fun hf => ?_
      rcases step_tReady_flag b ep r hf with h1 | ⟨hp, l', hl', hn⟩
      · rw [b1] at h1; cases h1
      · rw [b3] at hl'; cases hl'
        rw [b2] at hn
        exact hn (b4 hp)
    obtain ⟨st, bl, e⟩ := step_tReady b ep r
    have c2 : (b.step (.obs (.tReady ep r))).lastCounts = b.lastCounts := by rw [e]
    have c4 : (b.step (.obs (.tReady ep r))).prevReadyP = (r == .pending) := by rw [e]
    have c3 := (step_limit b (.obs (.tReady ep r))).trans b3
    refine ⟨Or.inr ⟨c1, c2.trans b2, c3⟩, fun hr => Or.inr ⟨c1, c2.trans b2, c3, fun hp => ?_⟩⟩
    rcases hr with hr | hr
    · rw [c4] at hp
      exact absurd (eq_of_beq hp) hr
    · exact hr


/-! ## relations on states that every part of a poll emitting no `poll_ready` call respects -/

/-- a relation that contains `Adds` of the observations in `noTR` (`ObsRel.of_adds`) -/
structure ObsRel (R : St → St → Prop) : Prop where
  refl : ∀ s, R s s
  trans : ∀ {a b c}, R a b → R b c → R a c
  of_eq : ∀ {s s'}, s'.obs = s.obs → R s s'
  emit : ∀ s o, noTR o = true → R s (Server.emit s o)

section
variable {R : St → St → Prop} (hR : ObsRel R)
include hR

theorem ObsRel.of_adds {s s' : St} (h : Adds (fun o => noTR o = true) s s') : R s s' := by
  obtain ⟨l, hl, hq⟩ := h
  induction l generalizing s' with
  | nil => exact hR.of_eq hl
  | cons o l ih =>
    exact hR.trans (ih (s' := { s' with obs := l ++ s.obs }) rfl fun o ho => hq o (List.mem_cons_of_mem _ ho))
      (hR.trans (hR.emit _ o (hq o List.mem_cons_self)) (hR.of_eq hl))

theorem ObsRel.steps {A : Act → Prop} (hle : ∀ k, A k → ObsK (fun o => noTR o = true) k) {s s' : St} (h : Steps A s s') :
    R s s' :=
  hR.of_adds ((adds_has _).steps (h.mono hle))

omit hR in
theorem sink_noTR {Q : Obs → Prop} (hQ : ∀ o, Q o → noTR o = true) : ∀ k, SinkK Q k → ObsK (fun o => noTR o = true) k := by
  intro k hk
  cases hk with
  | obs h => exact hQ _ h
  | wake | viol => exact rfl
  | woken | setT => exact trivial

omit hR in
theorem read_noTR : ∀ k, ReadK k → ObsK (fun o => noTR o = true) k := by
  intro k hk
  cases hk with
  | tNext ep r => exact rfl
  | spin => exact fun _ => rfl
  | noise h =>
    cases h with
    | wake t => exact rfl
    | panic w => exact fun _ => rfl
    | _ => exact trivial
  | _ => exact trivial

theorem or_emitViolations (s : St) (n : Nat) : R s (emitViolations s n) :=
  hR.steps (sink_noTR fun _ h => h.elim) (emitViolations_steps (Q := fun _ => False) s n)

theorem or_wakeServer (s : St) : R s (wakeServer s) :=
  hR.steps (sink_noTR fun _ h => h.elim) (wakeServer_in (A := SinkK fun _ => False) .wake .woken s)

theorem or_rqRelease (s : St) : R s (rqRelease s) :=
  hR.steps (fun k hk => by
    cases hk with
    | wake t => exact rfl
    | _ => exact trivial) (rqRelease_steps s)

theorem or_dropOffered (s : St) (rid id : Nat) : R s (dropOffered s rid id) :=
  hR.steps (fun k hk => by
    cases hk with
    | wake t => exact rfl
    | _ => exact trivial) (dropOffered_steps s rid id)

theorem or_basePollNext (fuel : Nat) (s : St) (now : Nat) : R s (basePollNext fuel s now).1 :=
  hR.steps read_noTR (basePollNext_fine fuel s now)

theorem or_baseStartSend (s : St) (id : Nat) (res : Res) : R s (baseStartSend s id res).1 :=
  hR.steps (fun k hk => hk.elim (sink_noTR (fun o ho => by cases ho; exact rfl) k) fun hk => by
    cases hk with
    | wake t => exact rfl
    | panic w => exact fun _ => rfl
    | _ => exact trivial) (baseStartSend_fine s id res)

theorem or_flushArm (s : St) (rc : Bool) : R s (flushArm s rc).1 :=
  hR.steps (sink_noTR fun o ho => by cases ho; exact rfl) (flushArm_steps s rc)

theorem or_pskRet (s : St) (r : ReqPoll) : R s (pskRet s r).1 :=
  hR.steps (fun k hk => by
    rcases hk with rfl | rfl | ⟨v, rfl⟩ | ⟨v, i, d, tr, rfl⟩
    · exact trivial
    · exact trivial
    · exact trivial
    · exact rfl) (pskRet_steps s r)

end


variable {b0 : Book}

theorem obsRel_cons {P : List Obs → Prop} (hP : ∀ l o, noTR o = true → P l → P (o :: l)) :
    ObsRel (fun s s' => P s.obs → P s'.obs) where
  refl := fun _ h => h
  trans := fun h1 h2 h => h2 (h1 h)
  of_eq := fun he h => by rw [he]; exact h
  emit := fun s o ho h => by rw [emit_obs]; exact hP s.obs o ho h

theorem rg_rel (b0 : Book) (l start : Nat) : ObsRel (fun s s' => LG l start (bo b0 s.obs) → LG l start (bo b0 s'.obs)) :=
  obsRel_cons (P := fun x => LG l start (bo b0 x)) fun _ o ho h => by rw [bo_cons]; exact h.step o ho

theorem rw_rel (b0 : Book) (l start : Nat) : ObsRel (fun s s' => LW l start (bo b0 s.obs) → LW l start (bo b0 s'.obs)) :=
  obsRel_cons (P := fun x => LW l start (bo b0 x)) fun _ o ho h => by rw [bo_cons]; exact h.step o ho

/-! ## the transport calls of the write pump -/

theorem LW_tFlush {s : St} (h : LW l start (bo b0 s.obs)) : LG l start (bo b0 (tFlush s).1.obs) := by
  rw [tFlush_call]
  unfold sinkCall
  have h1 := (or_emitViolations (rw_rel b0 l start) { s with t := s.t.pollFlush.1 } s.t.violations.length h).flush
    (tid s) s.t.pollFlush.2.1
  rw [← bo_cons, ← emit_obs] at h1
  split
  · exact or_wakeServer (rg_rel b0 l start) _ h1
  · exact h1

theorem LG_tReady {s : St} (h : LG l start (bo b0 s.obs)) :
    LW l start (bo b0 (tReady s).1.obs) ∧
    (((tReady s).2 ≠ .pending ∨ l ≤ start) → LG l start (bo b0 (tReady s).1.obs)) := by
  rw [tReady_call]
  unfold sinkCall
  have h1 := (or_emitViolations (rg_rel b0 l start) { s with t := s.t.pollReady.1 } s.t.violations.length h).ready
    (tid s) s.t.pollReady.2.1
  rw [← bo_cons, ← emit_obs] at h1
  split
  · exact ⟨or_wakeServer (rw_rel b0 l start) _ h1.1, fun hc => or_wakeServer (rg_rel b0 l start) _ (h1.2 hc)⟩
  · exact h1

theorem LG_ensureOnce {s : St} (h : LG l start (bo b0 s.obs)) :
    LW l start (bo b0 (ensureOnce s).1.obs) ∧
    (((ensureOnce s).2 ≠ .pending ∨ l ≤ start) → LG l start (bo b0 (ensureOnce s).1.obs)) := by
  refine ensureOnce_post (I := fun a => LG l start (bo b0 a.obs)) (J := fun a => LW l start (bo b0 a.obs))
    (Φ := fun a r => LW l start (bo b0 a.obs) ∧ ((r ≠ .pending ∨ l ≤ start) → LG l start (bo b0 a.obs)))
    (fun a ha => ?_) (fun a ha => ?_) s h
  · have h1 := LG_tReady (b0 := b0) ha
    unfold ReadySpec
    cases hr : (tReady a).2 with
    | pending => exact ⟨h1.1, h1.1, fun hc => h1.2 (hc.elim (fun hne => absurd rfl hne) Or.inr)⟩
    | _ => exact ⟨h1.1, fun _ => h1.2 (Or.inl (by rw [hr]; nofun))⟩
  · have h2 := LW_tFlush (b0 := b0) ha
    unfold FlushSpec
    cases (tFlush a).2 with
    | ready => exact h2
    | _ => exact ⟨LG.toLW h2, fun _ => h2⟩

theorem LW_flushArm {s : St} (rc : Bool) (h : LW l start (bo b0 s.obs)) : LG l start (bo b0 (flushArm s rc).1.obs) := by
  rw [flushArm_fst]; exact LW_tFlush h

theorem LG_pumpWrite {s : St} (hel : s.ensureLoop = false) (rc : Bool) (h : LG l start (bo b0 s.obs)) :
    LG l start (bo b0 (pumpWrite s rc).1.obs) := by
  have h1 := LG_ensureOnce (b0 := b0) h
  rw [← show ensureWriteable s = ensureOnce s by unfold ensureWriteable; rw [hel]; rfl] at h1
  have hsend : ∀ (s1 : St) (id : Nat) (res : Res) (rest : List (Nat × Res)), LG l start (bo b0 s1.obs) →
      LG l start (bo b0 (baseStartSend (rqRelease { s1 with respQ := rest }) id res).1.obs) := fun s1 id res rest hg =>
    or_baseStartSend (rg_rel b0 l start) _ id res (or_rqRelease (rg_rel b0 l start) { s1 with respQ := rest } hg)
  have ho := pumpWrite_out s rc
  generalize pumpWrite s rc = q at ho ⊢
  cases ho with
  | blocked s1 he => rw [he] at h1; exact LW_flushArm rc h1.1
  | err s1 a he => rw [he] at h1; exact h1.2 (Or.inl nofun)
  | spin s1 he => rw [he] at h1; exact h1.2 (Or.inl nofun)
  | sent s1 id res rest he | sendErr s1 id res rest he => rw [he] at h1; exact hsend s1 id res rest (h1.2 (Or.inl nofun))
  | idle s1 he => rw [he] at h1; exact LW_flushArm (s := { s1 with rqRxWaker := true }) rc (LG.toLW (h1.2 (Or.inl nofun)))

/-! ## the table does not grow while no request is accepted -/

theorem bpCancel_len (s : St) : (bpCancel s).1.inflight.length ≤ s.inflight.length := by
  rcases bpCancel_out s with ⟨i, l, _, he⟩ | ⟨_, he⟩ <;> rw [he]
  · exact removeRequest_length_le { s with cancelQ := l } i
  · exact Nat.le_refl _

theorem bpStep_len (s : St) (now : Nat) :
    (bpStep s now).1.inflight.length ≤ s.inflight.length ∨ ∃ ex, (bpStep s now).2 = some (.some ex) := by
  have h2 : (bp2 s now).inflight.length ≤ s.inflight.length :=
    Nat.le_trans (pollExpired_length_le (bpCancel s).1 now) (bpCancel_len s)
  have h3 : (bp3 s now).inflight.length ≤ s.inflight.length := by
    have : (bp3 s now).inflight = (bp2 s now).inflight := tNext_inflight _
    rw [this]; exact h2
  have hother : (bpOther (bp3 s now) (bpNx s now)).1.inflight.length ≤ s.inflight.length := by
    refine Nat.le_trans ?_ h3
    unfold bpOther; split
    · exact cancelRequest_length_le _ _
    all_goals exact Nat.le_refl _
  have ho := bpStep_out s now
  generalize bpStep s now = out at ho ⊢
  cases ho with
  | poisoned2 => exact Or.inl h2
  | readErr => exact Or.inl h3
  | started id d tr b ex => exact Or.inr ⟨ex, rfl⟩
  | startPanic id d tr b hp hn hs' hpo | duplicate id d tr b hp hn hs' hpo =>
    exact Or.inl (Nat.le_trans (startRequest_none_shrink _ _ _ _ _ _ hs').1 h3)
  | otherPoisoned | again | closed | pending => exact Or.inl hother

theorem basePollNext_len (now : Nat) : ∀ (fuel : Nat) (s : St),
    (basePollNext fuel s now).1.inflight.length ≤ s.inflight.length ∨ ∃ ex, (basePollNext fuel s now).2 = .some ex := by
  intro fuel
  induction fuel with
  | zero => intro s; exact Or.inl (Nat.le_refl _)
  | succ n ih =>
    intro s
    rw [Flow.basePollNext_succ]
    have hb := bpStep_len s now
    revert hb
    generalize bpStep s now = p
    obtain ⟨s', r⟩ := p
    intro hb
    cases r with
    | none =>
      simp only
      rcases hb with hb | ⟨ex, hb⟩
      · rcases ih s' with h | h
        · exact Or.inl (Nat.le_trans h hb)
        · exact Or.inr h
      · cases hb
    | some r =>
      simp only
      rcases hb with hb | ⟨ex, hb⟩
      · exact Or.inl hb
      · exact Or.inr ⟨ex, by cases hb; rfl⟩

/-! ## the limiter -/

theorem LG_legacy_at (L now : Nat) (hl : l ≤ start) (fuel : Nat) (s : St) (h : LG l start (bo b0 s.obs)) :
    LG l start (bo b0 (limitedPollNextLegacy L fuel s now).1.obs) := by
  refine limitedLegacy_loop (I := fun _ s => LG l start (bo b0 s.obs)) (Φ := fun s _ => LG l start (bo b0 s.obs))
    (fun n s h => ?_) (fun s h => (rg_rel b0 l start).emit s _ rfl h) fuel s h
  have hr := (LG_tReady (b0 := b0) h).2 (Or.inr hl)
  have hb := or_basePollNext (rg_rel b0 l start) (baseFuel (tReady s).1) (tReady s).1 now hr
  have ho := llStep_out L s now
  generalize llStep L s now = p at ho ⊢
  cases ho with
  | below _ => exact or_basePollNext (rg_rel b0 l start) _ s now h
  | pending _ _ | readyErr _ _ => exact hr
  | through _ _ _ => exact hb
  | refuseErr _ _ s2 ex he _ | refused _ _ s2 ex he _ =>
    rw [he] at hb
    exact or_baseStartSend (rg_rel b0 l start) s2 ex.id (.err throttleKindIdx) hb

theorem LG_legacy (now : Nat) (fuel : Nat) (s : St) (hc : l ≤ start ∨ s.inflight.length ≤ start)
    (h : LG l start (bo b0 s.obs)) :
    LG l start (bo b0 (limitedPollNextLegacy l fuel s now).1.obs) ∧
    (l ≤ start ∨ (limitedPollNextLegacy l fuel s now).1.inflight.length ≤ start ∨
      ∃ ex, (limitedPollNextLegacy l fuel s now).2 = .some ex) := by
  by_cases hl : l ≤ start
  · exact ⟨LG_legacy_at l now hl fuel s h, Or.inl hl⟩
  · have hlen : s.inflight.length ≤ start := hc.resolve_left hl
    cases fuel with
    | zero => exact ⟨(rg_rel b0 l start).emit s _ rfl h, Or.inr (Or.inl hlen)⟩
    | succ n =>
      have hlt : ¬ s.inflight.length ≥ l := by omega
      unfold limitedPollNextLegacy
      rw [if_neg hlt]
      refine ⟨or_basePollNext (rg_rel b0 l start) _ s now h, Or.inr ?_⟩
      rcases basePollNext_len now (baseFuel s) s with h1 | h1
      · exact Or.inl (Nat.le_trans h1 hlen)
      · exact Or.inr h1


/-! ## `Requests::poll_next` -/

theorem channelPollNext_legacy {s : St} (hl : s.limit = some l) (ht : s.throttleAfterRead = false) (now : Nat) :
    channelPollNext s now = limitedPollNextLegacy l (s.t.inbound.length + 2) s now := by
  unfold channelPollNext
  rw [hl]
  simp only [ht, Bool.false_eq_true, if_false]

theorem LG_requestsPollNext (now fuel : Nat) (s : St) (hl : s.limit = some l) (ht : s.throttleAfterRead = false)
    (hel : s.ensureLoop = false) (hc : l ≤ start ∨ s.inflight.length ≤ start) (h : LG l start (bo b0 s.obs)) :
    LG l start (bo b0 (requestsPollNext fuel s now).1.obs) := by
  refine requestsPollNext_loop (Φ := fun x _ => LG l start (bo b0 x.obs))
    (I := fun x => Cfg s x ∧ (l ≤ start ∨ x.inflight.length ≤ start) ∧ LG l start (bo b0 x.obs)) (fun x hx => ?_)
    (fun x hx => (rg_rel b0 l start).emit x _ rfl hx.2.2) fuel s ⟨⟨rfl, rfl, rfl, rfl⟩, hc, h⟩
  obtain ⟨hcx, hc, h⟩ := hx
  obtain ⟨h1, hlen1⟩ : LG l start (bo b0 (rpRd x now).1.obs) ∧
      (l ≤ start ∨ (rpRd x now).1.inflight.length ≤ start ∨ ∃ ex, (rpRd x now).2 = .some ex) := by
    rw [rpRd, channelPollNext_legacy (hcx.2.1.trans hl) (hcx.2.2.2.trans ht)]; exact LG_legacy now _ x hc h
  have hc1 : Cfg s (rpRd x now).1 := (cfg_closed s now).toLoopClosed.channelPollNext x hcx
  have hc2 : Cfg s (armRead (rpRd x now).1 (rpRd x now).2) ∧
      (armRead (rpRd x now).1 (rpRd x now).2).obs = (rpRd x now).1.obs :=
    ⟨(cfg_closed s now).toLoopClosed.armRead _ _ hc1, armRead_obs _ _⟩
  have h3 : LG l start (bo b0 (rpWr x now).1.obs) :=
    LG_pumpWrite (b0 := b0) (hc2.1.2.2.1.trans hel) _ (by rw [hc2.2]; exact h1)
  have hc3 : Cfg s (rpWr x now).1 := (cfg_closed s now).toLoopClosed.rpWr x hcx
  have hfin : LG l start (bo b0 (rpStep x now).1.obs) := by
    rcases rpStep_fst x now with e | e | ⟨ex, _, e⟩ <;> rw [e]
    · exact h1
    · exact h3
    · exact or_dropOffered (rg_rel b0 l start) _ _ _ h3
  unfold IterSpec
  cases hr : (rpStep x now).2 with
  | some r => exact hfin
  | none =>
    obtain ⟨hread, hst, _⟩ := rpStep_idle (Or.inl hr)
    refine ⟨by rw [hst]; exact hc3, ?_, hfin⟩
    rcases hlen1 with h4 | h4 | ⟨ex, h4⟩
    · exact Or.inl h4
    · have := (shrink_pumpWrite (armRead (rpRd x now).1 (rpRd x now).2) (Flow.readClosedOf (rpRd x now).2)).1
      rw [armRead_inflight] at this
      rw [hst]
      exact Or.inr (Nat.le_trans this h4)
    · rcases hread with e | e <;> rw [e] at h4 <;> cases h4

/-! ## the checker; one poll by the application -/

/-- the first `if` of the `ret` arm of `checkC06Stall` (a limiter that returned at a limit it had not reached), alone -/
def checkLimiterExit (b : Book) (_ : Unit) : SEv → Unit × Option String
  | .obs (.ret (.server _) _) =>
      if b.topPoll && b.belowLimitStall then
        ((), some s!"limiter returned on poll_ready → Pending without polling the inner channel although only {b.lastCounts} of {b.limit.getD 0} requests were in flight")
      else ((), none)
  | _ => ((), none)

def chkLE (b : Book) (o : Obs) : Option String := (checkLimiterExit b () (.obs o)).2

theorem chkLE_eq : chkLE = chkOf checkLimiterExit := rfl

/-- the flag is clear (or the monitor is past a spin) -/
def LB (b : Book) : Prop := b.spun = true ∨ b.belowLimitStall = false

theorem chkLE_none (b : Book) (o : Obs) (h : isRS o = false ∨ b.topPoll = false ∨ b.belowLimitStall = false) :
    chkLE b o = none := by
  unfold chkLE
  cases o with
  | ret t r =>
    cases t with
    | server k =>
      rcases h with h | h | h
      · cases h
      · simp only [checkLimiterExit, h, Bool.false_and, Bool.false_eq_true, if_false]
      · simp only [checkLimiterExit, h, Bool.and_false, Bool.false_eq_true, if_false]
    | _ => rfl
  | _ => rfl

theorem LB.step {b : Book} (h : LB b) (o : Obs) (ho : noTR o = true) : LB (b.step (.obs o)) := by
  exact unspun_or fun hn => (of_unspun (step_frameL b o ho) hn).flag.trans (of_unspun h (step_unspun hn))

theorem LB.counts {b : Book} (h : LB b) (ep : TaskId) (a t : Nat) : LB (b.step (.obs (.counts ep a t))) := by
  cases ep with
  | server k => exact h
  | _ => exact h.step _ rfl

theorem ck_rel (b0 : Book) :
    ObsRel (fun s s' => CK chkLE b0 s.obs ∧ LB (bo b0 s.obs) → CK chkLE b0 s'.obs ∧ LB (bo b0 s'.obs)) :=
  obsRel_cons (P := fun l => CK chkLE b0 l ∧ LB (bo b0 l)) fun l o ho ⟨h1, h2⟩ => by
    rw [bo_cons]
    exact ⟨⟨h1, h2.imp id fun h => chkLE_none _ o (Or.inr (Or.inr h))⟩, h2.step o ho⟩

/-- without a limiter the flag is never set -/
def LN (b : Book) : Prop := b.spun = true ∨ (b.belowLimitStall = false ∧ b.limit = none)

theorem LN.step {b : Book} (h : LN b) (o : Obs) : LN (b.step (.obs o)) := by
  refine unspun_or fun hn => ?_
  obtain ⟨h1, h2⟩ := of_unspun h (step_unspun hn)
  by_cases ho : noTR o = true
  · have f := of_unspun (step_frameL b o ho) hn
    exact ⟨f.flag.trans h1, f.lim.trans h2⟩
  · cases o with
    | tReady ep r =>
      refine ⟨Bool.eq_false_iff.mpr fun hf => ?_, (step_limit b _).trans h2⟩
      rcases step_tReady_flag b ep r hf with h3 | ⟨_, l, hl, _⟩
      · rw [h1] at h3; cases h3
      · rw [h2] at hl; cases hl
    | counts ep a t =>
      cases ep with
      | server k => exact ⟨h1, h2⟩
      | _ => exact absurd rfl ho
    | _ => exact absurd rfl ho

theorem LN.bo {b0 : Book} (h : LN b0) (l : List Obs) : LN (bo b0 l) :=
  bo_all (Q := fun _ => True) (P := fun b b' => LN b → LN b') (fun _ h => h) (fun h1 h2 h => h2 (h1 h)) (fun _ o _ h => h.step o)
    b0 l (fun _ _ => trivial) h

theorem LN.toLB {b : Book} (h : LN b) : LB b := h.imp (fun h => h) (fun h => h.1)

theorem LG.toLB {b : Book} (h : LG l start b) : LB b := h.imp (fun h => h) (fun h => h.1)

def isTRC (o : Obs) : Bool := !noTR o

theorem isTRC_wakeQuiet : WakeQuiet isTRC := ⟨fun _ => rfl, rfl, fun _ _ => rfl⟩
theorem isTRC_execQuiet : ExecQuiet isTRC := ⟨⟨isTRC_wakeQuiet, fun _ _ => rfl⟩, fun _ _ _ => rfl⟩

theorem step_counts_lastCounts (b : Book) (k n t : Nat) : (b.step (.obs (.counts (.server k) n t))).lastCounts = n := rfl

/-- the count the book remembers is the size of the table, unless the book is past a spin or the stream is dropped or
poisoned -/
def Cnt (b : Book) (s : St) : Prop :=
  b.spun = true ∨ s.dropped = true ∨ s.poisoned = true ∨ b.lastCounts = s.inflight.length

theorem bo_frameL (b : Book) : ∀ (l : List Obs), (∀ o ∈ l, noTR o = true) →
    (bo b l).spun = true ∨ (bo b l).lastCounts = b.lastCounts := by
  intro l
  induction l with
  | nil => intro _; exact Or.inr rfl
  | cons o l ih =>
    intro h
    rw [bo_cons]
    exact unspun_or fun hn => (of_unspun (step_frameL (bo b l) o (h o (List.mem_cons_self ..))) hn).cnt.trans
      (of_unspun (ih (fun o' ho' => h o' (List.mem_cons_of_mem _ ho'))) (step_unspun hn))

theorem Cnt.frame {b : Book} {s s' : St} (h : Cnt b s) {l : List Obs} (hl : ∀ o ∈ l, noTR o = true)
    (hd : s.dropped = true → s'.dropped = true) (hp : s.poisoned = true → s'.poisoned = true)
    (hi : s'.inflight.length = s.inflight.length) : Cnt (bo b l) s' := by
  rcases h with h | h | h | h
  · exact Or.inl (by rw [← List.append_nil l]; exact bo_spun_mono b [] l h)
  · exact Or.inr (Or.inl (hd h))
  · exact Or.inr (Or.inr (Or.inl (hp h)))
  · rcases bo_frameL b l hl with h2 | h2
    · exact Or.inl h2
    · exact Or.inr (Or.inr (Or.inr (by rw [h2, h, hi])))

theorem LE_pollServerKeep {b0 : Book} {s : St} (now : Nat) (h0 : s.obs = []) (hlim : b0.limit = s.limit)
    (htar : s.throttleAfterRead = false) (hel : s.ensureLoop = false) (hb : LB b0) (hp : b0.prevReadyP = false)
    (hfl : Cnt b0 s) :
    CK chkLE b0 (pollServerKeep s now).obs ∧ LB (bo b0 (pollServerKeep s now).obs) ∧
    Cnt (bo b0 (pollServerKeep s now).obs) (pollServerKeep s now) := by
  have hs0 : CK chkLE b0 s.obs ∧ LB (bo b0 s.obs) := by rw [h0]; exact ⟨trivial, hb⟩
  have key : ∀ s1 r, requestsPollNext (pollFuel { s with woken := false }) { s with woken := false } now = (s1, r) →
      s.dropped = false ∧ s.done.isSome = false ∧ s.poisoned = false → CK chkLE b0 s1.obs ∧ LB (bo b0 s1.obs) := by
    intro s1 r he hlive
    have hflt : (s1.obs.filter isRS) = _ :=
      he ▸ flt_requestsPollNext isRS_pollQuiet now (pollFuel { s with woken := false }) { s with woken := false }
    refine ⟨CK.silent b0 s1.obs (fun o ho b => chkLE_none b o (Or.inl (Bool.eq_false_iff.mpr fun hc => ?_))), ?_⟩
    · have : o ∈ s1.obs.filter isRS := List.mem_filter.mpr ⟨ho, hc⟩
      rw [hflt, show ({ s with woken := false } : St).obs = [] from h0] at this
      cases this
    · rcases Option.eq_none_or_eq_some s.limit with hl | ⟨l, hl⟩
      · exact ((show LN b0 from hb.imp id fun h => ⟨h, hlim.trans hl⟩).bo _).toLB
      · have hlg : LG l s.inflight.length b0 := unspun_or fun hn =>
          ⟨of_unspun hb hn, of_esc3 hfl hn hlive.1 hlive.2.2, hlim.trans hl, fun hc => by rw [hp] at hc; cases hc⟩
        have hG := LG_requestsPollNext (b0 := b0) now (pollFuel { s with woken := false }) { s with woken := false } hl htar hel
          (Or.inr (Nat.le_refl _)) (by rw [show ({ s with woken := false } : St).obs = [] from h0]; exact hlg)
        rw [he] at hG
        exact hG.toLB
  have ho := pollServerKeep_out s now
  generalize pollServerKeep s now = k at ho ⊢
  cases ho with
  | dead _ =>
    obtain ⟨h1, h2⟩ := (ck_rel b0).emit s .noop rfl hs0
    refine ⟨h1, h2, ?_⟩
    rw [emit_obs, h0]
    exact hfl.frame (l := [.noop]) (by decide) id id rfl
  | reset _ s1 r _ _ _ =>
    show CK chkLE b0 (.spin (tid s1) :: s.obs) ∧ LB (bo b0 (.spin (tid s1) :: s.obs)) ∧ _
    rw [h0]
    exact ⟨⟨trivial, Or.inr rfl⟩, Or.inl rfl, Or.inr (Or.inr (Or.inl rfl))⟩
  | poisoned hl _ r he hpo => exact ⟨(key _ r he hl).1, (key _ r he hl).2, Or.inr (Or.inr (Or.inl hpo))⟩
  | fin hl s1 r he _ =>
    have h1 := or_pskRet (ck_rel b0) s1 r (key s1 r he hl)
    unfold Flow.pskFinish
    generalize (pskRet s1 r).1 = sr at h1 ⊢
    generalize (pskRet s1 r).2 = rt
    obtain ⟨h2, h3⟩ := (ck_rel b0).emit sr (.ret (tid sr) rt) rfl h1
    rw [emit_obs, bo_cons]
    exact ⟨⟨h2, Or.inr (chkLE_none _ _ (Or.inl rfl))⟩, h3.counts _ _ _, Or.inr (Or.inr (Or.inr rfl))⟩

theorem LE_pollServer {b0 : Book} {s : St} (now : Nat) (h0 : s.obs = []) (hlim : b0.limit = s.limit)
    (htar : s.throttleAfterRead = false) (hel : s.ensureLoop = false) (hb : LB b0) (hp : b0.prevReadyP = false)
    (hfl : Cnt b0 s) :
    CK chkLE b0 (pollServer s now).obs ∧ Cnt (bo b0 (pollServer s now).obs) (pollServer s now) := by
  obtain ⟨h1, _, h3⟩ := LE_pollServerKeep (b0 := b0) now h0 hlim htar hel hb hp hfl
  unfold pollServer
  simp only
  generalize pollServerKeep s now = k at h1 h3 ⊢
  split
  · next hc =>
    simp only [Bool.and_eq_true, Bool.not_eq_true'] at hc
    obtain ⟨lx, hlx, hpx⟩ := extW_dropServer k
    refine ⟨?_, Or.inr ?_⟩
    · rw [hlx]
      refine h1.append lx (fun o ho b => chkLE_none b o (Or.inl ?_))
      have hco := (hpx o ho).1
      cases o with
      | ret t r =>
        cases t with
        | server k => cases hco
        | _ => rfl
      | _ => rfl
    · cases hpo : k.poisoned with
      | false =>
        exact Or.inl (dropServer_dropped _ (by rw [hc.2, hpo]; rfl))
      | true =>
        right; left
        have he : dropServer k = emit k .noop := by rw [dropServer_eq, if_pos (by rw [hpo]; simp)]
        rw [he]; exact hpo
  · split
    · exact ⟨h1, h3⟩
    · exact ⟨h1, h3⟩

/-! ## the invariant between ops; every trace -/

theorem endOp_lastCounts (b : Book) : b.endOp.lastCounts = b.lastCounts := by
  unfold Book.endOp
  cases b.curDropExec with
  | none => rfl
  | some r => simp only [Book.updExec, apply_ite Book.lastCounts, ite_self]

theorem opBook_lastCounts (b : Book) (op : SOp) : (opBook b op).lastCounts = b.lastCounts := by
  unfold opBook Book.noteFinish
  have h0 : (b.step (.op op)).lastCounts = b.lastCounts := by
    have := endOp_lastCounts b
    cases op <;> exact this
  split
  · exact h0
  · exact h0

theorem opBook_poll_flags (b : Book) :
    (opBook b .pollServer).belowLimitStall = false ∧ (opBook b .pollServer).prevReadyP = false := by
  unfold opBook Book.noteFinish Book.step Book.endOp
  exact ⟨rfl, rfl⟩

theorem opBook_topPoll_other (b : Book) (op : SOp) (h : op ≠ .pollServer) : (opBook b op).topPoll = false := by
  unfold opBook Book.noteFinish
  have h0 : (b.step (.op op)).topPoll = false := by
    have : b.endOp.topPoll = false := by unfold Book.endOp; rfl
    cases op with
    | pollServer => exact absurd rfl h
    | _ => exact this
  split
  · exact h0
  · exact h0

theorem CK_notTop (b0 : Book) (h : b0.topPoll = false) (l : List Obs) : CK chkLE b0 l := by
  induction l with
  | nil => trivial
  | cons o l ih => exact ⟨ih, Or.inr (chkLE_none _ o (Or.inr (Or.inl (by rw [bo_topPoll]; exact h))))⟩

theorem applyOp_inflight_len (c : Sys) (op : SOp) (h1 : op ≠ .pollServer) (h2 : op ≠ .dropServer) :
    (applyOp c op).s.inflight.length = c.s.inflight.length := by
  cases op with
  | pollServer => exact absurd rfl h1
  | dropServer => exact absurd rfl h2
  | pollExec v => exact congrArg _ (pollExec_inflight c.s v c.now)
  | dropExec v => exact congrArg _ (dropExec_inflight c.s v c.now)
  | finish v res => exact congrArg _ (finishHandler_inflight c.s v res)
  | advance n => exact congrArg _ (onAdvance_inflight c.s (c.now + n))
  | fault k => rfl
  | faultSkip n => rfl
  | selfWake b => rfl
  | take n =>
    have took : ∀ (ms : List Msg) (s : St), (ms.foldl (fun s m => emit s (.took (tid s) m)) s).inflight = s.inflight := by
      intro ms
      induction ms with
      | nil => exact fun _ => rfl
      | cons m ms ih => exact fun s => ih _
    exact congrArg _ (took (c.s.t.take n).2 { c.s with t := (c.s.t.take n).1 })
  | _ => exact congrArg _ (liftT_inflight c.s _)

/-- the invariant between ops -/
structure OIL (b : Book) (c : Sys) : Prop where
  tar : c.s.throttleAfterRead = false
  el : c.s.ensureLoop = false
  lim : b.limit = c.s.limit
  cnt : Cnt b c.s

theorem op_stepL {b : Book} {c : Sys} (op : SOp) (h : OIL b c) :
    OIL (bo (opBook b op) (applyOp (clr c) op).s.obs) (stepOp c op).1 ∧
    CK chkLE (opBook b op) (applyOp (clr c) op).s.obs := by
  rw [stepOp_fst]
  generalize hc0 : clr c = c0
  have hobs0 : c0.s.obs = [] := by rw [← hc0]; rfl
  have hlim0 : c0.s.limit = c.s.limit := by rw [← hc0]; rfl
  have htar0 : c0.s.throttleAfterRead = false := by rw [← hc0]; exact h.tar
  have hel0 : c0.s.ensureLoop = false := by rw [← hc0]; exact h.el
  obtain ⟨_, hl', he', ht'⟩ := applyOp_mono (Cfg c0.s) (cfg_closed c0.s) c0 op ⟨rfl, rfl, rfl, rfl⟩
  have hfin : Cnt (bo (opBook b op) (applyOp c0 op).s.obs) (applyOp c0 op).s →
      OIL (bo (opBook b op) (applyOp c0 op).s.obs) (clr (applyOp c0 op)) := fun hz =>
    ⟨ht'.trans htar0, he'.trans hel0, by rw [bo_limit, opBook_limit, h.lim, ← hlim0]; exact hl'.symm, hz⟩
  have hstart : Cnt (opBook b op) c0.s := by
    rw [← hc0]
    rcases h.cnt with h1 | h1 | h1 | h1
    · exact Or.inl (by rw [opBook_spun]; exact h1)
    · exact Or.inr (Or.inl h1)
    · exact Or.inr (Or.inr (Or.inl h1))
    · exact Or.inr (Or.inr (Or.inr (by rw [opBook_lastCounts]; exact h1)))
  -- an op that neither polls nor drops the request stream: the count of tracked requests is kept
  have other : op ≠ .pollServer → op ≠ .dropServer →
      OIL (bo (opBook b op) (applyOp c0 op).s.obs) (clr (applyOp c0 op)) ∧ CK chkLE (opBook b op) (applyOp c0 op).s.obs :=
    fun hps hds => by
      refine ⟨hfin (hstart.frame (fun o ho => ?_) (applyOp_mono (fun s => s.dropped = true) dropped_closed c0 op)
        (fun hp => by rw [applyOp_poisoned c0 op hps]; exact hp) (applyOp_inflight_len c0 op hps hds)),
        CK_notTop _ (opBook_topPoll_other b op hps) _⟩
      have hf : (applyOp c0 op).s.obs.filter isTRC = [] := by rw [fx_applyOp isTRC_execQuiet c0 op hps, hobs0]; rfl
      have := List.filter_eq_nil_iff.mp hf o ho
      unfold isTRC at this
      simpa using this
  induction op using op_cases with
  | poll =>
    obtain ⟨f1, f2⟩ := opBook_poll_flags b
    obtain ⟨hck, hfl⟩ := LE_pollServer (b0 := opBook b .pollServer) (s := c0.s) c0.now hobs0
      (by rw [opBook_limit, h.lim, hlim0]) htar0 hel0
      (Or.inr f1) f2 hstart
    exact ⟨hfin hfl, hck⟩
  | drop =>
    refine ⟨hfin ?_, CK_notTop _ (opBook_topPoll_other b .dropServer nofun) _⟩
    cases hlive : (c0.s.dropped || c0.s.poisoned) with
    | false => exact Or.inr (Or.inl (dropServer_dropped c0.s hlive))
    | true =>
      simp only [Bool.or_eq_true] at hlive
      rcases hlive with hd | hp
      · exact Or.inr (Or.inl (dropServer_dropped_mono c0.s hd))
      · exact Or.inr (Or.inr (Or.inl (by rw [applyOp_poisoned c0 .dropServer nofun]; exact hp)))
  | pexec v => exact other nofun nofun
  | dexec v => exact other nofun nofun
  | ext op he => exact other he.1 he.2.1

/-- **The limiter-exit clause never fires**: on every trace of the model. -/
theorem le_trace (ops : List SOp) (c : Sys) (m : Mon Unit) (hb : m.bad = none) (h : OIL m.book c) :
    ((trace c ops).foldl (Mon.step checkLimiterExit) m).bad = none :=
  trace_core (I := fun b c _ => OIL b c) (fun _ _ => rfl) (fun op _ h => op_stepL op h) ops c m hb h

theorem limiter_exit_accepts (limit : Option Nat) (respCap tcap : Nat) (coupled : Bool) (ops : List SOp) :
    (Mon.run limit checkLimiterExit () (trace (initSys limit respCap tcap coupled) ops)).bad = none :=
  le_trace ops _ _ rfl ⟨rfl, rfl, rfl, Or.inr (Or.inr (Or.inr rfl))⟩

end TarpcModel.Server.Tab
