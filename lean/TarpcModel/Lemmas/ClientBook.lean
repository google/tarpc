import TarpcModel.Lemmas.ClientGeneric
import TarpcModel.Lemmas.ClientMonStep
/-!
Coupling between the client model and the bookkeeping of the monitors `monC01`, `monC03` (its first two
clauses) and `monC18`: a combined monitor, the part of the book it depends on, and the invariant `J`
(`Inv` plus the coupling) as an instance of `Pres`.
-/
namespace TarpcModel.Client

/-- `checkC03` without its third clause (cancel owed after a writable poll). -/
def checkC03ab (b : Book) (u : Unit) : CEv → Unit × Option String
  | .obs (.ret (.dispatch _) _) => ((), none)
  | e => checkC03 b u e

def monC03ab (evs : List CEv) : Mon Unit := Mon.run checkC03ab () evs

/-- the three checkers run side by side (the state is that of `checkC01`) -/
def chk (b : Book) (used : C01St) (e : CEv) : C01St × Option String :=
  ((checkC01 b used e).1,
    ((checkC01 b used e).2.orElse fun _ => (checkC18 b () e).2).orElse fun _ => (checkC03ab b () e).2)

theorem chk_none {b : Book} {used : C01St} {e : CEv} (h : (chk b used e).2 = none) :
    (checkC01 b used e).2 = none ∧ (checkC18 b () e).2 = none ∧ (checkC03ab b () e).2 = none := by
  unfold chk at h
  simp only at h
  cases h1 : (checkC01 b used e).2 <;> cases h2 : (checkC18 b () e).2 <;> cases h3 : (checkC03ab b () e).2 <;>
    simp_all [Option.orElse]

theorem chk_of_none {b : Book} {used : C01St} {e : CEv} (h01 : checkC01 b used e = (used, none))
    (h18 : checkC18 b () e = ((), none)) (h03 : checkC03ab b () e = ((), none)) : chk b used e = (used, none) := by
  unfold chk; rw [h01, h18, h03]; rfl

theorem Mon.fail_bad_none {σ} {m : Mon σ} {why : String} (h : (m.fail why).bad = none) : False := by
  unfold Mon.fail at h
  split at h
  · rename_i h'; rw [h'] at h; cases h
  · cases h

/-! ### the combined monitor accepts only if each of the three does -/

/-- the three monitors beside the combined one `mc` -/
structure Comp (mc : Mon C01St) (m18 : Mon Unit) (m01 : Mon C01St) (m03 : Mon Unit) : Prop where
  b18 : m18.book = mc.book
  b01 : m01.book = mc.book
  b03 : m03.book = mc.book
  st : m01.st = mc.st
  ok : mc.bad = none → m18.bad = none ∧ m01.bad = none ∧ m03.bad = none

theorem Comp.step {mc m18 m01 m03} (h : Comp mc m18 m01 m03) (e : CEv) :
    Comp (Mon.step chk mc e) (Mon.step checkC18 m18 e) (Mon.step checkC01 m01 e) (Mon.step checkC03ab m03 e) := by
  have p18 : m18.pre e = mc.pre e := by unfold Mon.pre; rw [h.b18]
  have p01 : m01.pre e = mc.pre e := by unfold Mon.pre; rw [h.b01]
  have p03 : m03.pre e = mc.pre e := by unfold Mon.pre; rw [h.b03]
  refine ⟨by rw [Mon.step_book, Mon.step_book, h.b18], by rw [Mon.step_book, Mon.step_book, h.b01],
    by rw [Mon.step_book, Mon.step_book, h.b03], ?_, ?_⟩
  · rw [Mon.step_st, Mon.step_st]
    unfold Mon.res
    rw [p01, h.st]
    split <;> rfl
  · intro hb
    obtain ⟨hb0, hr⟩ := Mon.step_bad_none.mp hb
    obtain ⟨a, b, c⟩ := h.ok hb0
    unfold Mon.res at hr
    refine ⟨Mon.step_bad_none.mpr ⟨a, ?_⟩, Mon.step_bad_none.mpr ⟨b, ?_⟩, Mon.step_bad_none.mpr ⟨c, ?_⟩⟩
    · unfold Mon.res; rw [p18]
      split
      · rfl
      · rename_i hs; simp only [hs, Bool.false_eq_true, ↓reduceIte] at hr; exact (chk_none hr).2.1
    · unfold Mon.res; rw [p01, h.st]
      split
      · rfl
      · rename_i hs; simp only [hs, Bool.false_eq_true, ↓reduceIte] at hr; exact (chk_none hr).1
    · unfold Mon.res; rw [p03]
      split
      · rfl
      · rename_i hs; simp only [hs, Bool.false_eq_true, ↓reduceIte] at hr; exact (chk_none hr).2.2

theorem Comp.foldl {mc m18 m01 m03} (h : Comp mc m18 m01 m03) (evs : List CEv) :
    Comp (evs.foldl (Mon.step chk) mc) (evs.foldl (Mon.step checkC18) m18) (evs.foldl (Mon.step checkC01) m01)
      (evs.foldl (Mon.step checkC03ab) m03) := by
  induction evs generalizing mc m18 m01 m03 with
  | nil => exact h
  | cons e evs ih => exact ih (h.step e)

theorem combined_ok {evs : List CEv} (h : (Mon.run chk [] evs).bad = none) :
    (monC18 evs).ok = true ∧ (monC01 evs).ok = true ∧ (monC03ab evs).ok = true := by
  have hc : Comp ({ st := [] } : Mon C01St) ({ st := () } : Mon Unit) ({ st := [] } : Mon C01St) ({ st := () } : Mon Unit) :=
    ⟨rfl, rfl, rfl, rfl, fun _ => ⟨rfl, rfl, rfl⟩⟩
  have := (hc.foldl evs).ok h
  simp only [Mon.ok, monC18, monC01, monC03ab, Mon.run]
  simp [this.1, this.2.1, this.2.2]

/-! ### the part of the book the three checkers depend on -/

/-- the book without the fields that these three checkers do not read -/
def Book.norm (b : Book) : Book :=
  { b with topPoll := false, pollReadyP := false, dispatchRet := none, failed := false }

theorem Book.endOp_norm (b : Book) : b.endOp.norm = b.norm.endOp.norm := by
  unfold Book.endOp Book.norm
  simp only
  cases b.curDrop <;> rfl

theorem Book.step_norm (b : Book) (e : CEv) : (b.step e).norm = (b.norm.step e).norm := by
  cases e with
  | op o =>
    have h := Book.endOp_norm b
    unfold Book.step
    simp only
    generalize b.endOp = b1 at h
    generalize b.norm.endOp = b2 at h
    -- `b1` and `b2` agree on every field that `norm` keeps, and an op reads and writes no other
    rcases b1 with ⟨h1, n1, c1, w1, s1, ca1, r1, wr1, tp1, cd1, pr1, dr1, sp1, f1⟩
    rcases b2 with ⟨h2, n2, c2, w2, s2, ca2, r2, wr2, tp2, cd2, pr2, dr2, sp2, f2⟩
    simp only [Book.norm, Book.mk.injEq] at h
    obtain ⟨rfl, rfl, rfl, rfl, rfl, rfl, rfl, rfl, -, rfl, -, -, rfl, -⟩ := h
    split <;> (try split) <;> rfl
  | obs o =>
    -- every branch computes what it writes from fields that `norm` keeps
    unfold Book.step
    dsimp only
    split <;> (try split) <;> rfl

theorem chk_norm (b : Book) (used : C01St) (e : CEv) : chk b.norm used e = chk b used e := by
  cases e with
  | op o => rfl
  | obs o =>
    cases o with
    | tSend ep m ok => cases m <;> rfl
    | ret t r => cases t <;> rfl
    | _ => rfl

theorem chk_op (b : Book) (used : C01St) (o : COp) : chk b used (.op o) = (used, none) := rfl

theorem chk_irrelevant (b : Book) (used : C01St) (o : Obs) (h : relevant o = false) :
    chk b used (.obs o) = (used, none) := by
  cases o with
  | tSend ep m ok => simp [relevant] at h
  | resolved c o t => simp [relevant] at h
  | ret t r => cases t <;> rfl
  | _ => rfl

/-- `poll_ready → Pending` -/
def readyP : Obs → Bool
  | .tReady _ .pending => true
  | _ => false

/-- what sets `Book.failed` -/
def isFail : Obs → Bool
  | .tReady _ .err => true
  | .tFlush _ .err => true
  | .tClose _ .err => true
  | .tNext _ .err => true
  | .tSend _ (.cancel _ _) false => true
  | _ => false

/-- What one observation does to the book, branch by branch of `Book.step`.  `same` is the default branch (and a
dispatch that returns `Pending`), `fail` the four transport errors, `stop` a spin or a panic. -/
theorem Book.step_obs_cases {motive : Obs → Book → Prop} (b : Book) (o : Obs)
    (same : ∀ o, readyP o = false → isFail o = false → isStop o = false → motive o b)
    (req : ∀ ep id d tr body ok, motive (.tSend ep (.request id d tr body) ok)
      { b with sends := b.sends ++ [{ id := id, body := body, deadline := d, trace := tr, ok := ok, at_ := b.writes, time := b.now }],
               writes := b.writes + 1 })
    (canOk : ∀ ep id tr, motive (.tSend ep (.cancel id tr) true)
      { b with cancels := b.cancels ++ [(id, tr, b.writes)], writes := b.writes + 1 })
    (canFail : ∀ ep id tr, motive (.tSend ep (.cancel id tr) false) { b with writes := b.writes + 1, failed := true })
    (read : ∀ ep id res, motive (.tNext ep (.item (.response id res)))
      { b with reads := b.reads ++ [{ id := id, res := res, time := b.now,
                                      sentBefore := (b.sends.any (fun s => s.id == id && s.ok)) }] })
    (ready : ∀ ep, motive (.tReady ep .pending) { b with pollReadyP := true })
    (fail : ∀ o, isFail o = true → readyP o = false → isStop o = false → motive o { b with failed := true })
    (resolved : ∀ c oc t, motive (.resolved c oc t) (b.updCall c (fun x => { x with resolved := some oc })))
    (ret : ∀ k r, r ≠ .pending → motive (.ret (.dispatch k) r) { b with dispatchRet := some r })
    (stop : ∀ o, isStop o = true → readyP o = false → isFail o = false → motive o { b with spun := true }) :
    motive o (b.step (.obs o)) := by
  cases o with
  | tSend ep m ok =>
    cases m with
    | request id d tr body => exact req ep id d tr body ok
    | cancel id tr => cases ok with
      | true => exact canOk ep id tr
      | false => exact canFail ep id tr
    | response id res => exact same _ rfl rfl rfl
  | tNext ep r =>
    cases r with
    | item m => cases m with
      | response id res => exact read ep id res
      | _ => exact same _ rfl rfl rfl
    | err => exact fail _ rfl rfl rfl
    | _ => exact same _ rfl rfl rfl
  | tReady ep r =>
    cases r with
    | pending => exact ready ep
    | err => exact fail _ rfl rfl rfl
    | ready => exact same _ rfl rfl rfl
  | tFlush ep r => cases r <;> first | exact fail _ rfl rfl rfl | exact same _ rfl rfl rfl
  | tClose ep r => cases r <;> first | exact fail _ rfl rfl rfl | exact same _ rfl rfl rfl
  | ret t r =>
    cases t with
    | dispatch k =>
      by_cases hr : r = .pending
      · subst hr; exact same _ rfl rfl rfl
      · have : b.step (.obs (.ret (.dispatch k) r)) = { b with dispatchRet := some r } := by
          unfold Book.step; simp [hr]
        rw [this]; exact ret k r hr
    | _ => exact same _ rfl rfl rfl
  | resolved c oc t => exact resolved c oc t
  | spin t => exact stop _ rfl rfl rfl
  | panic t s => exact stop _ rfl rfl rfl
  | _ => exact same _ rfl rfl rfl

theorem Book.step_irrelevant (b : Book) (o : Obs) (h : relevant o = false) :
    (b.step (.obs o)).norm = b.norm :=
  Book.step_obs_cases (motive := fun o b' => relevant o = false → b'.norm = b.norm) b o
    (same := fun _ _ _ _ _ => rfl) (req := fun _ _ _ _ _ _ h => nomatch h) (canOk := fun _ _ _ h => nomatch h)
    (canFail := fun _ _ _ h => nomatch h) (read := fun _ _ _ h => nomatch h) (ready := fun _ _ => rfl)
    (fail := fun _ _ _ _ _ => rfl) (resolved := fun _ _ _ h => nomatch h) (ret := fun _ _ _ _ => rfl)
    (stop := fun _ hs _ _ h => absurd (relevant_of_isStop hs) (by rw [h]; decide)) h

/-- two monitor states the checkers cannot tell apart -/
structure MEq (m m' : Mon C01St) : Prop where
  book : m.book.norm = m'.book.norm
  st : m.st = m'.st
  bad : m.bad = m'.bad

theorem MEq.refl (m : Mon C01St) : MEq m m := ⟨rfl, rfl, rfl⟩
theorem MEq.symm {m m' : Mon C01St} (h : MEq m m') : MEq m' m := ⟨h.book.symm, h.st.symm, h.bad.symm⟩
theorem MEq.trans {a b c : Mon C01St} (h1 : MEq a b) (h2 : MEq b c) : MEq a c :=
  ⟨h1.book.trans h2.book, h1.st.trans h2.st, h1.bad.trans h2.bad⟩

theorem MEq.pre {m m' : Mon C01St} (h : MEq m m') (e : CEv) : (m.pre e).norm = (m'.pre e).norm := by
  unfold Mon.pre
  cases e with
  | op o => simp only; rw [Book.endOp_norm, h.book, ← Book.endOp_norm]
  | obs o => exact h.book

theorem MEq.res {m m' : Mon C01St} (h : MEq m m') (e : CEv) : Mon.res chk m e = Mon.res chk m' e := by
  unfold Mon.res
  have hp := h.pre e
  have hs : (m.pre e).spun = (m'.pre e).spun := by
    have := congrArg Book.spun hp; exact this
  rw [← chk_norm (m.pre e), ← chk_norm (m'.pre e), hp, hs, h.st]

theorem MEq.step {m m' : Mon C01St} (h : MEq m m') (e : CEv) : MEq (Mon.step chk m e) (Mon.step chk m' e) := by
  refine ⟨?_, ?_, ?_⟩
  · rw [Mon.step_book, Mon.step_book, Book.step_norm, h.book, ← Book.step_norm]
  · rw [Mon.step_st, Mon.step_st, h.res]
  · rw [Mon.step_bad, Mon.step_bad, h.res, h.bad]

theorem MEq.step_irrelevant (m : Mon C01St) (o : Obs) (h : relevant o = false) :
    MEq (Mon.step chk m (.obs o)) m := by
  have hr : Mon.res chk m (.obs o) = (m.st, none) := by
    unfold Mon.res; split
    · rfl
    · exact chk_irrelevant _ _ _ h
  refine ⟨?_, ?_, ?_⟩
  · rw [Mon.step_book]; exact Book.step_irrelevant _ _ h
  · rw [Mon.step_st, hr]
  · rw [Mon.step_bad, hr]; cases m.bad <;> rfl

/-- the monitor state after the observations `rel` (most recent first) -/
def monOf (m0 : Mon C01St) (rel : List Obs) : Mon C01St := rel.foldr (fun o m => Mon.step chk m (.obs o)) m0

@[simp] theorem monOf_nil (m0 : Mon C01St) : monOf m0 [] = m0 := rfl
@[simp] theorem monOf_cons (m0 : Mon C01St) (o : Obs) (l : List Obs) :
    monOf m0 (o :: l) = Mon.step chk (monOf m0 l) (.obs o) := rfl

theorem monOf_congr {m0 m0' : Mon C01St} (h : MEq m0 m0') (l : List Obs) : MEq (monOf m0 l) (monOf m0' l) := by
  induction l with
  | nil => exact h
  | cons o l ih => exact ih.step (.obs o)

theorem monOf_filter (m0 : Mon C01St) (l : List Obs) : MEq (monOf m0 l) (monOf m0 (l.filter relevant)) := by
  induction l with
  | nil => exact MEq.refl _
  | cons o l ih =>
    by_cases h : relevant o = true
    · simp only [List.filter_cons, h, ↓reduceIte, monOf_cons]; exact ih.step _
    · have h' : relevant o = false := by simpa using h
      simp only [List.filter_cons, h', Bool.false_eq_true, ↓reduceIte, monOf_cons]
      exact (MEq.step_irrelevant _ o h').trans ih

/-! ### the book's calls against the model's calls -/

/-- the book's record `bc` of a call against the model's call `c` -/
structure RC (bc : BCall) (c : CallV) : Prop where
  cid : bc.cid = c.cid
  body : bc.body = c.body
  trace : bc.trace = c.ctx.trace
  resolved : bc.resolved = c.outcome
  dropped : bc.dropped = true → c.phase = .dropped

def CallsRel : List BCall → List CallV → Prop
  | [], [] => True
  | bc :: bs, c :: cs => RC bc c ∧ CallsRel bs cs
  | _, _ => False

theorem CallsRel.induction {motive : ∀ bs cs, CallsRel bs cs → Prop} (nil : motive [] [] trivial)
    (cons : ∀ {b bs c cs} (h0 : RC b c) (h1 : CallsRel bs cs), motive bs cs h1 → motive (b :: bs) (c :: cs) ⟨h0, h1⟩) :
    ∀ {bs cs} (h : CallsRel bs cs), motive bs cs h
  | [], [], _ => nil
  | _ :: _, _ :: _, h => cons h.1 h.2 (CallsRel.induction nil cons h.2)
  | [], _ :: _, h => h.elim
  | _ :: _, [], h => h.elim

theorem CallsRel.find_cid_bwd {bs : List BCall} {cs : List CallV} (h : CallsRel bs cs) {k : Nat} {c : CallV}
    (hc : cs.find? (·.cid == k) = some c) : ∃ bc, bs.find? (·.cid == k) = some bc ∧ RC bc c := by
  induction h using CallsRel.induction with
  | nil => cases hc
  | @cons b _ c0 _ h0 _ ih =>
    simp only [List.find?_cons] at hc ⊢
    rw [h0.cid]
    by_cases e : c0.cid == k
    · simp only [e] at hc ⊢; injection hc with hc; subst hc; exact ⟨b, rfl, h0⟩
    · simp only [e] at hc ⊢; exact ih hc

theorem CallsRel.find_cid_fwd {bs : List BCall} {cs : List CallV} (h : CallsRel bs cs) {k : Nat} {bc : BCall}
    (hb : bs.find? (·.cid == k) = some bc) : ∃ c, cs.find? (·.cid == k) = some c ∧ RC bc c := by
  induction h using CallsRel.induction with
  | nil => cases hb
  | @cons _ _ c0 _ h0 _ ih =>
    simp only [List.find?_cons] at hb ⊢
    rw [h0.cid] at hb
    by_cases e : c0.cid == k
    · simp only [e] at hb ⊢; injection hb with hb; subst hb; exact ⟨c0, rfl, h0⟩
    · simp only [e] at hb ⊢; exact ih hb

theorem CallsRel.mem_fwd {bs : List BCall} {cs : List CallV} (h : CallsRel bs cs) {bc : BCall} (hb : bc ∈ bs) :
    ∃ c ∈ cs, RC bc c := by
  induction h using CallsRel.induction with
  | nil => cases hb
  | @cons _ _ c0 _ h0 _ ih =>
    rcases List.mem_cons.mp hb with rfl | hb'
    · exact ⟨c0, List.mem_cons_self, h0⟩
    · obtain ⟨c, hc, hr⟩ := ih hb'
      exact ⟨c, List.mem_cons_of_mem _ hc, hr⟩

theorem CallsRel.mem_bwd {bs : List BCall} {cs : List CallV} (h : CallsRel bs cs) {c : CallV} (hc : c ∈ cs) :
    ∃ bc ∈ bs, RC bc c := by
  induction h using CallsRel.induction with
  | nil => cases hc
  | @cons b _ _ _ h0 _ ih =>
    rcases List.mem_cons.mp hc with rfl | hc'
    · exact ⟨b, List.mem_cons_self, h0⟩
    · obtain ⟨bc, hbc, hr⟩ := ih hc'
      exact ⟨bc, List.mem_cons_of_mem _ hbc, hr⟩

theorem CallsRel.find_body {bs : List BCall} {cs : List CallV} (h : CallsRel bs cs) {body : Nat} {bc : BCall}
    (hb : bs.find? (·.body == body) = some bc) : ∃ c ∈ cs, RC bc c :=
  h.mem_fwd (List.mem_of_find?_eq_some hb)

theorem CallsRel.map₂' {bs : List BCall} {cs : List CallV} (h : CallsRel bs cs) (fb : BCall → BCall) (fc : CallV → CallV)
    (hf : ∀ bc c, c ∈ cs → RC bc c → RC (fb bc) (fc c)) : CallsRel (bs.map fb) (cs.map fc) := by
  induction h using CallsRel.induction with
  | nil => trivial
  | cons h0 _ ih => exact ⟨hf _ _ List.mem_cons_self h0, ih (fun bc c hc => hf bc c (List.mem_cons_of_mem _ hc))⟩

theorem CallsRel.map₂ {bs : List BCall} {cs : List CallV} (h : CallsRel bs cs) (fb : BCall → BCall) (fc : CallV → CallV)
    (hf : ∀ bc c, RC bc c → RC (fb bc) (fc c)) : CallsRel (bs.map fb) (cs.map fc) :=
  h.map₂' fb fc fun bc c _ => hf bc c

theorem CallsRel.append₂ {bs : List BCall} {cs : List CallV} (h : CallsRel bs cs) {b : BCall} {c : CallV}
    (hr : RC b c) : CallsRel (bs ++ [b]) (cs ++ [c]) := by
  induction h using CallsRel.induction with
  | nil => exact ⟨hr, trivial⟩
  | cons h0 _ ih => exact ⟨h0, ih⟩

theorem CallsRel.length {bs : List BCall} {cs : List CallV} (h : CallsRel bs cs) : bs.length = cs.length := by
  induction h using CallsRel.induction with
  | nil => rfl
  | cons _ _ ih => simp [ih]

/-! ### the coupling -/

/-- the book `b` (and the ids `used` that the C01 checker has seen resolve) records the view `v` -/
structure Cpl (x : Option Nat) (v : View) (b : Book) (used : List Nat) : Prop where
  calls : CallsRel b.calls v.calls
  bodies : (v.calls.map (·.body)).Nodup
  spans : ∀ c ∈ v.calls, ∃ n, c.ctx.trace.span = .given n
  handles : b.handles = v.handles
  nextHandle : b.nextHandle = v.nextHandle
  sends : ∀ sd ∈ b.sends, ∃ i c, v.get i = some c ∧ c.enq ∧ c.id = sd.id ∧ sd.body = c.body ∧ sd.trace = c.trace
  sendsNodup : (b.sends.map (·.id)).Nodup
  pqNotSent : ∀ r ∈ v.pq, ∀ sd ∈ b.sends, sd.id ≠ r.id
  xNotSent : ∀ id, x = some id → ∀ sd ∈ b.sends, sd.id ≠ id
  logSent : ∀ id ∈ reqIds v.sentLog, ∃ sd ∈ b.sends, sd.id = id ∧ sd.ok = true
  cancels : ∀ p ∈ b.cancels, p.1 ∈ cancelIds v.sentLog
  reads : ∀ i c o res, v.get i = some c → c.val = some o → expectedRes o = some res →
      (∃ rd ∈ b.reads, rd.id = c.id ∧ rd.res = res ∧ rd.sentBefore = true) ∧ ∃ sd ∈ b.sends, sd.id = c.id
  used : ∀ id ∈ used, ∃ i c, v.get i = some c ∧ c.phase = .resolved ∧ c.id = id

/-- `Inv`, the monitors are content, and (unless a task spun or panicked) the book matches the model. -/
structure J (m0 : Mon C01St) (x : Option Nat) (v : View) : Prop where
  inv : Inv x v
  ok : (monOf m0 v.rel).bad = none
  pois : v.poisoned = true → (monOf m0 v.rel).book.spun = true
  cpl : (monOf m0 v.rel).book.spun = true ∨ Cpl x v (monOf m0 v.rel).book (monOf m0 v.rel).st

theorem Book.spun_step (b : Book) (o : Obs) : (b.step (.obs o)).spun = (b.spun || isStop o) :=
  Book.step_obs_cases (motive := fun o b' => b'.spun = (b.spun || isStop o)) b o
    (same := fun _ _ _ h => by rw [h, Bool.or_false]) (req := fun _ _ _ _ _ _ => (Bool.or_false _).symm)
    (canOk := fun _ _ _ => (Bool.or_false _).symm) (canFail := fun _ _ _ => (Bool.or_false _).symm)
    (read := fun _ _ _ => (Bool.or_false _).symm) (ready := fun _ => (Bool.or_false _).symm)
    (fail := fun _ _ _ h => by rw [h, Bool.or_false]) (resolved := fun _ _ _ => (Bool.or_false _).symm)
    (ret := fun _ _ _ => (Bool.or_false _).symm) (stop := fun _ h _ _ => by rw [h, Bool.or_true])

/-- a transition that emits nothing relevant -/
theorem J.same {m0 : Mon C01St} {x x' : Option Nat} {v v' : View} (h : J m0 x v) (hi : Inv x' v')
    (hrel : v'.rel = v.rel) (hp : v'.poisoned = true → v.poisoned = true)
    (hc : ∀ b used, Cpl x v b used → Cpl x' v' b used) : J m0 x' v' := by
  refine ⟨hi, by rw [hrel]; exact h.ok, fun hp' => by rw [hrel]; exact h.pois (hp hp'), ?_⟩
  rw [hrel]
  rcases h.cpl with hs | hcp
  · exact Or.inl hs
  · exact Or.inr (hc _ _ hcp)

/-- a transition that emits the relevant observation `o` -/
theorem J.push {m0 : Mon C01St} {x x' : Option Nat} {v v' : View} (h : J m0 x v) (o : Obs) (hi : Inv x' v')
    (hrel : v'.rel = o :: v.rel) (hp : v'.poisoned = true → v.poisoned = true ∨ isStop o = true)
    (hc : ∀ b used, b.spun = false → v.poisoned = false → Cpl x v b used →
      (chk b used (.obs o)).2 = none ∧
      ((b.step (.obs o)).spun = true ∨ Cpl x' v' (b.step (.obs o)) (chk b used (.obs o)).1)) :
    J m0 x' v' := by
  have hm : monOf m0 v'.rel = Mon.step chk (monOf m0 v.rel) (.obs o) := by rw [hrel]; rfl
  obtain ⟨_, hok, hpois, hcpl⟩ := h
  generalize monOf m0 v.rel = m at hok hpois hcpl hm
  have hpre : m.pre (.obs o) = m.book := rfl
  by_cases hs : m.book.spun = true
  · have hres : Mon.res chk m (.obs o) = (m.st, none) := by unfold Mon.res; rw [hpre, hs]; rfl
    refine ⟨hi, ?_, ?_, ?_⟩
    · rw [hm]; exact Mon.step_bad_none.mpr ⟨hok, by rw [hres]⟩
    · intro _; rw [hm, Mon.step_book, Book.spun_step, hs]; rfl
    · left; rw [hm, Mon.step_book, Book.spun_step, hs]; rfl
  · have hs' : m.book.spun = false := by simpa using hs
    have hcp : Cpl x v m.book m.st := by
      rcases hcpl with h1 | h1
      · exact absurd h1 hs
      · exact h1
    have hnp : v.poisoned = false := by
      cases hp0 : v.poisoned with
      | false => rfl
      | true => exact absurd (hpois hp0) hs
    obtain ⟨c1, c2⟩ := hc _ _ hs' hnp hcp
    have hres : Mon.res chk m (.obs o) = chk m.book m.st (.obs o) := by
      unfold Mon.res; rw [hpre, hs']; rfl
    refine ⟨hi, ?_, ?_, ?_⟩
    · rw [hm]; exact Mon.step_bad_none.mpr ⟨hok, by rw [hres]; exact c1⟩
    · intro hp'
      rw [hm, Mon.step_book, Book.spun_step]
      rcases hp hp' with h1 | h1
      · rw [hpois h1]; rfl
      · rw [h1]; simp
    · rw [hm, Mon.step_book, Mon.step_st, hres]; exact c2

/-- `Cpl` is preserved when the calls change in ways the book does not see (or sees through `resolved` only). -/
theorem Cpl.call_step {x : Option Nat} {v v' : View} {b b' : Book} {used used' : List Nat} (hc : Cpl x v b used)
    (hcalls : CallsRel b'.calls v'.calls) (hbod : (v'.calls.map (·.body)).Nodup)
    (hsp : ∀ c ∈ v'.calls, ∃ n, c.ctx.trace.span = .given n)
    (hh : v'.handles = v.handles) (hn : v'.nextHandle = v.nextHandle)
    (hbh : b'.handles = b.handles) (hbn : b'.nextHandle = b.nextHandle)
    (hbs : b'.sends = b.sends) (hbr : b'.reads = b.reads) (hbc : b'.cancels = b.cancels)
    (hpq : ∀ r ∈ v'.pq, r ∈ v.pq ∨ (∀ sd ∈ b.sends, sd.id ≠ r.id)) (hlog : v'.sentLog = v.sentLog)
    (fwd : ∀ i c, v.get i = some c → c.enq → ∃ c', v'.get i = some c' ∧ c'.enq ∧ c'.id = c.id ∧ c'.body = c.body ∧
        c'.trace = c.trace ∧ (c.phase = .resolved → c'.phase = .resolved))
    (bwd : ∀ i c' o res, v'.get i = some c' → c'.val = some o → expectedRes o = some res →
        (∃ c, v.get i = some c ∧ c.val = some o ∧ c.id = c'.id) ∨
        ((∃ rd ∈ b.reads, rd.id = c'.id ∧ rd.res = res ∧ rd.sentBefore = true) ∧ ∃ sd ∈ b.sends, sd.id = c'.id))
    (hused : ∀ id ∈ used', id ∈ used ∨ ∃ i c', v'.get i = some c' ∧ c'.phase = .resolved ∧ c'.id = id) :
    Cpl x v' b' used' where
  calls := hcalls
  bodies := hbod
  spans := hsp
  handles := by rw [hh, hbh]; exact hc.handles
  nextHandle := by rw [hn, hbn]; exact hc.nextHandle
  sends := fun sd hsd => by
    rw [hbs] at hsd
    obtain ⟨i, c, hg, a1, a2, a3, a4⟩ := hc.sends sd hsd
    obtain ⟨c', hg', b1, b2, b3, b4, _⟩ := fwd i c hg a1
    exact ⟨i, c', hg', b1, by rw [b2]; exact a2, by rw [b3]; exact a3, by rw [b4]; exact a4⟩
  sendsNodup := by rw [hbs]; exact hc.sendsNodup
  pqNotSent := fun r hr => by
    rw [hbs]
    rcases hpq r hr with h | h
    · exact hc.pqNotSent r h
    · exact h
  xNotSent := by rw [hbs]; exact hc.xNotSent
  logSent := by rw [hlog, hbs]; exact hc.logSent
  cancels := by rw [hlog, hbc]; exact hc.cancels
  reads := fun i c' o res hg' hv he => by
    rw [hbr, hbs]
    rcases bwd i c' o res hg' hv he with ⟨c, hg, hv0, hid⟩ | h
    · have := hc.reads i c o res hg hv0 he
      rw [hid] at this; exact this
    · exact h
  used := fun id hid => by
    rcases hused id hid with h | h
    · obtain ⟨i, c, hg, a1, a2⟩ := hc.used id h
      obtain ⟨c', hg', _, b2, _, _, b5⟩ := fwd i c hg (Or.inr (Or.inl a1))
      exact ⟨i, c', hg', b5 a1, by rw [b2]; exact a2⟩
    · exact h

/-- what an update of call `cid` must respect for the book not to notice -/
structure Keep0 (c c' : CallV) : Prop where
  body : c'.body = c.body
  ctx : c'.ctx = c.ctx
  outcome : c'.outcome = c.outcome
  dropped : c.phase = .dropped → c'.phase = .dropped
  enq : c.enq → c'.enq ∧ c'.id = c.id ∧ c'.trace = c.trace ∧ (c.phase = .resolved → c'.phase = .resolved)

structure Keep (c c' : CallV) : Prop where
  body : c'.body = c.body
  ctx : c'.ctx = c.ctx
  outcome : c'.outcome = c.outcome
  dropped : c.phase = .dropped → c'.phase = .dropped
  enq : c.enq → c'.enq ∧ c'.id = c.id ∧ c'.trace = c.trace ∧ (c.phase = .resolved → c'.phase = .resolved)
  val : ∀ o res, c'.val = some o → expectedRes o = some res → c.val = some o ∧ c.id = c'.id

theorem Keep.toKeep0 {c c' : CallV} (h : Keep c c') : Keep0 c c' := ⟨h.body, h.ctx, h.outcome, h.dropped, h.enq⟩

/-- the general form: the book may change its record of the calls (`hcalls`) and the monitor its `used` list -/
theorem Cpl.upd_gen {x y : Option Nat} {v : View} {b b' : Book} {used used' : List Nat} (hc : Cpl x v b used) (hi : Inv y v)
    (cid : Nat) (g : CallV → CallV)
    (hk : ∀ c, v.get cid = some c → (g c).body = c.body ∧ (g c).ctx = c.ctx ∧
      (c.enq → (g c).enq ∧ (g c).id = c.id ∧ (g c).trace = c.trace ∧ (c.phase = .resolved → (g c).phase = .resolved)))
    (hcalls : CallsRel b'.calls (v.upd cid g).calls)
    (hbh : b'.handles = b.handles) (hbn : b'.nextHandle = b.nextHandle)
    (hbs : b'.sends = b.sends) (hbr : b'.reads = b.reads) (hbc : b'.cancels = b.cancels)
    (hused : ∀ id ∈ used', id ∈ used ∨ ∃ i c', (v.upd cid g).get i = some c' ∧ c'.phase = .resolved ∧ c'.id = id)
    (hval : ∀ c, v.get cid = some c → ∀ o res, (g c).val = some o → expectedRes o = some res →
      (c.val = some o ∧ c.id = (g c).id) ∨
      ((∃ rd ∈ b.reads, rd.id = (g c).id ∧ rd.res = res ∧ rd.sentBefore = true) ∧ ∃ sd ∈ b.sends, sd.id = (g c).id)) :
    Cpl x (v.upd cid g) b' used' := by
  refine hc.call_step hcalls ?_ ?_ rfl rfl hbh hbn hbs hbr hbc (fun r hr => Or.inl hr) rfl ?_ ?_ hused
  · have : (v.upd cid g).calls.map (·.body) = v.calls.map (·.body) := ?_
    · rw [this]; exact hc.bodies
    simp only [View.upd, List.map_map]
    apply List.map_congr_left
    intro c hmem
    by_cases e : c.cid = cid
    · have hg := hi.get_of_mem hmem
      rw [e] at hg
      simp [e, (hk c hg).1]
    · simp [e]
  · intro c' hc'
    simp only [View.upd, List.mem_map] at hc'
    obtain ⟨c, hmem, rfl⟩ := hc'
    by_cases e : c.cid = cid
    · have hg := hi.get_of_mem hmem
      rw [e] at hg
      simp only [e, beq_self_eq_true, ↓reduceIte, (hk c hg).2.1]
      exact hc.spans c hmem
    · simp only [e, beq_iff_eq, ↓reduceIte]; exact hc.spans c hmem
  · intro i c hg he
    by_cases e : i = cid
    · subst e
      have k := (hk c hg).2.2 he
      refine ⟨{ g c with cid := c.cid }, by rw [View.get_upd_self, hg]; rfl, ?_, k.2.1, (hk c hg).1, k.2.2.1, k.2.2.2⟩
      have := k.1
      simpa [CallV.enq] using this
    · exact ⟨c, by rw [View.get_upd_ne _ _ _ e]; exact hg, he, rfl, rfl, rfl, id⟩
  · intro i c' o res hg' hv he
    by_cases e : i = cid
    · subst e
      rw [View.get_upd_self] at hg'
      cases hg : v.get i with
      | none => rw [hg] at hg'; cases hg'
      | some c =>
        rw [hg] at hg'
        simp only [Option.map_some, Option.some.injEq] at hg'
        subst hg'
        rcases hval c hg o res hv he with h | h
        · exact Or.inl ⟨c, rfl, h.1, h.2⟩
        · exact Or.inr h
    · rw [View.get_upd_ne _ _ _ e] at hg'
      exact Or.inl ⟨c', hg', hv, rfl⟩

theorem Cpl.upd' {x y : Option Nat} {v : View} {b : Book} {used : List Nat} (hc : Cpl x v b used) (hi : Inv y v)
    (cid : Nat) (g : CallV → CallV) (hk : ∀ c, v.get cid = some c → Keep0 c (g c))
    (hval : ∀ c, v.get cid = some c → ∀ o res, (g c).val = some o → expectedRes o = some res →
      (c.val = some o ∧ c.id = (g c).id) ∨
      ((∃ rd ∈ b.reads, rd.id = (g c).id ∧ rd.res = res ∧ rd.sentBefore = true) ∧ ∃ sd ∈ b.sends, sd.id = (g c).id)) :
    Cpl x (v.upd cid g) b used := by
  refine hc.upd_gen hi cid g (fun c h => ⟨(hk c h).body, (hk c h).ctx, (hk c h).enq⟩) ?_ rfl rfl rfl rfl rfl (fun _ h => Or.inl h) hval
  have := hc.calls.map₂' id (fun c => if c.cid == cid then { g c with cid := c.cid } else c) ?_
  · simpa [View.upd] using this
  · intro bc c hmem hr
    by_cases e : c.cid = cid
    · have hg := hi.get_of_mem hmem
      rw [e] at hg
      have k := hk c hg
      simp only [e, beq_self_eq_true, ↓reduceIte, id]
      exact ⟨by rw [hr.cid, e], by rw [hr.body, k.body], by rw [hr.trace, k.ctx], by rw [hr.resolved, k.outcome],
        fun h => k.dropped (hr.dropped h)⟩
    · simpa [e] using hr

theorem Cpl.upd {x y : Option Nat} {v : View} {b : Book} {used : List Nat} (hc : Cpl x v b used) (hi : Inv y v)
    {cid : Nat} {c : CallV} (hg : v.get cid = some c) (g : CallV → CallV) (hk : Keep c (g c)) :
    Cpl x (v.upd cid g) b used :=
  hc.upd' hi cid g (fun c' h => by rw [hg] at h; cases h; exact hk.toKeep0)
    (fun c' h o res hv he => by rw [hg] at h; cases h; exact Or.inl (hk.val o res hv he))

/-! ### `J` is closed under the transitions: the ones the monitors do not judge -/

theorem monOf_spun (m0 : Mon C01St) (l : List Obs) (h : l.any isStop = true) : (monOf m0 l).book.spun = true := by
  induction l with
  | nil => simp at h
  | cons o l ih =>
    rw [monOf_cons, Mon.step_book, Book.spun_step]
    simp only [List.any_cons, Bool.or_eq_true] at h
    rcases h with h | h
    · rw [h]; simp
    · rw [ih h]; rfl

theorem chk_stop (b : Book) (used : C01St) (o : Obs) (h : isStop o = true) : chk b used (.obs o) = (used, none) := by
  cases o <;> first | rfl | simp [isStop] at h

theorem J.stop {m0 x v} (o : Obs) (h : J m0 x v) (ho : isStop o = true) : J m0 x { v with rel := o :: v.rel } :=
  h.push o (h.inv.of_rel _) rfl (fun hp => Or.inl hp) (fun b used _ _ _ => by
    rw [chk_stop b used o ho]
    exact ⟨rfl, Or.inl (by rw [Book.spun_step, ho]; simp)⟩)

theorem J.panic {m0 x v} (t : TaskId) (site : String) (h : J m0 x v) :
    J m0 x { v with poisoned := true, rel := .panic t site :: v.rel } :=
  h.push (.panic t site) (h.inv.poison.of_rel _) rfl (fun _ => Or.inr rfl) (fun b used _ _ _ =>
    ⟨rfl, Or.inl (by rw [Book.spun_step]; simp [isStop])⟩)

theorem J.poison {m0 x v} (h : J m0 x v) (hs : v.rel.any isStop = true ∨ v.poisoned = true) :
    J m0 x { v with poisoned := true } := by
  have hsp : (monOf m0 v.rel).book.spun = true := by
    rcases hs with hs | hs
    · exact monOf_spun _ _ hs
    · exact h.pois hs
  exact ⟨h.inv.poison, h.ok, fun _ => hsp, Or.inl hsp⟩

theorem J.trunc {m0 x y v0 v} (t : TaskId) (h0 : J m0 x v0) (h : J m0 y v) :
    J m0 y { v with rel := .spin t :: v0.rel, poisoned := true } := by
  have hsp : (monOf m0 (.spin t :: v0.rel)).book.spun = true := monOf_spun _ _ (by simp [isStop])
  refine ⟨(h.inv.of_rel (.spin t :: v0.rel)).poison, ?_, fun _ => hsp, Or.inl hsp⟩
  show (monOf m0 (.spin t :: v0.rel)).bad = none
  rw [monOf_cons]
  refine Mon.step_bad_none.mpr ⟨h0.ok, ?_⟩
  unfold Mon.res
  split
  · rfl
  · rfl

theorem J.pqPop {m0 x v r rest} (h : J m0 x v) (hpq : v.pq = r :: rest) : J m0 x { v with pq := rest } :=
  h.same (h.inv.pqPop hpq).1 rfl (fun hp => hp) (fun _ _ hc =>
    { hc with pqNotSent := fun r' hr' => hc.pqNotSent r' (by rw [hpq]; exact List.mem_cons_of_mem _ hr') })

theorem J.cqPop {m0 x v i rest} (h : J m0 x v) (hcq : v.cq = i :: rest) : J m0 x { v with cq := rest } :=
  h.same (h.inv.cqPop hcq).1 rfl (fun hp => hp) (fun _ _ hc => { hc with })

theorem J.infRemove {m0 x v} (id : Nat) (h : J m0 x v) : J m0 x { v with inflight := v.inflight.filter (·.id != id) } :=
  h.same (h.inv.infRemove id) rfl (fun hp => hp) (fun _ _ hc => { hc with })

theorem J.drop_x {m0 v id} (h : J m0 (some id) v) (hx : v.poisoned = true ∨ ∀ e ∈ v.inflight, e.id ≠ id) : J m0 none v :=
  h.same (h.inv.drop_x hx) rfl (fun hp => hp) (fun _ _ hc => { hc with xNotSent := fun _ h => by cases h })

theorem J.infRearm {m0 x v} (id key t due : Nat) (h : J m0 x v) :
    J m0 x { v with inflight := v.inflight.map (rearmEntry id key t due) } :=
  h.same (Inv.presD.infRearm id key t due h.inv) rfl (fun hp => hp) (fun _ _ hc => { hc with })

theorem J.popInsert {m0 v r rest} (key rem due : Nat) (h : J m0 none v) (hpq : v.pq = r :: rest)
    (hnc : ∃ c, v.get r.cid = some c ∧ c.rxClosed = false) :
    J m0 (some r.id) { v with pq := rest, inflight := v.inflight ++ [{ id := r.id, cid := r.cid, ctx := r.ctx, timerKey := key, remainder := rem, dueAt := due }] } :=
  h.same (Inv.presD.popInsert key rem due h.inv hpq hnc) rfl (fun hp => hp) (fun _ _ hc =>
    { hc with
      pqNotSent := fun r' hr' => hc.pqNotSent r' (by rw [hpq]; exact List.mem_cons_of_mem _ hr')
      xNotSent := fun id hid => by
        injection hid with hid; subst hid
        exact hc.pqNotSent r (by rw [hpq]; exact List.mem_cons_self) })

theorem J.infClear {m0 x v} (h : J m0 x v) : J m0 x { v with inflight := [] } :=
  h.same h.inv.infClear rfl (fun hp => hp) (fun _ _ hc => { hc with })

theorem J.pqClear {m0 x v} (h : J m0 x v) : J m0 x { v with pq := [] } :=
  h.same h.inv.pqClear rfl (fun hp => hp) (fun _ _ hc => { hc with pqNotSent := fun _ h => by cases h })

theorem J.cqClear {m0 x v} (h : J m0 x v) : J m0 x { v with cq := [] } :=
  h.same h.inv.cqClear rfl (fun hp => hp) (fun _ _ hc => { hc with })

theorem J.cqPush {m0 x v cid c} (h : J m0 x v) (hc : v.get cid = some c) (hp : c.polled) (hr : c.rxClosed = true) :
    J m0 x { v with cq := v.cq ++ [c.id] } :=
  h.same (h.inv.cqPush hc hp hr) rfl (fun hp => hp) (fun _ _ hc => { hc with })

theorem okLike_of_expectedRes {o : Outcome} {res : Res} (h : expectedRes o = some res) : okLike (some o) = true := by
  cases o <;> simp_all [expectedRes, okLike]

theorem J.guardClose {m0 x v cid c} (h : J m0 x v) (hc : v.get cid = some c)
    (hph : c.phase = .reserving ∨ c.phase = .awaiting) : J m0 x (v.upd cid (fun c => { c with rxClosed := true })) :=
  h.same (h.inv.guardClose hc hph) rfl (fun hp => hp) (fun _ _ hcp => hcp.upd h.inv hc _ (by
    refine ⟨rfl, rfl, rfl, fun h => h, fun he => ⟨?_, rfl, rfl, fun h => h⟩, fun o res hv _ => ⟨hv, rfl⟩⟩
    simp only [CallV.enq] at he ⊢; grind))

theorem J.dropGuarded {m0 x v cid c} (h : J m0 x v) (hc : v.get cid = some c)
    (hph : c.phase = .reserving ∨ c.phase = .awaiting) (hrx : c.rxClosed = true) :
    J m0 x (v.upd cid (fun c => { c with phase := .dropped })) :=
  h.same (h.inv.dropGuarded hc hph hrx) rfl (fun hp => hp) (fun _ _ hcp => hcp.upd h.inv hc _ (by
    refine ⟨rfl, rfl, rfl, fun _ => rfl, fun he => ⟨Or.inr (Or.inr ⟨rfl, hrx⟩), rfl, rfl, fun h => ?_⟩, fun o res hv _ => ⟨hv, rfl⟩⟩
    grind))

theorem J.dropNP {m0 x v cid c} (h : J m0 x v) (hc : v.get cid = some c) (hph : c.phase = .notPolled) :
    J m0 x (v.upd cid (fun c => { c with phase := .dropped })) :=
  h.same (h.inv.dropNP hc hph) rfl (fun hp => hp) (fun _ _ hcp => hcp.upd h.inv hc _ (by
    refine ⟨rfl, rfl, rfl, fun _ => rfl, fun he => ?_, fun o res hv _ => ⟨hv, rfl⟩⟩
    simp only [CallV.enq] at he; grind))

theorem J.assign {m0 x v cid c} (h : J m0 x v) (hc : v.get cid = some c) (hph : c.phase = .notPolled) :
    J m0 x (v.assign cid { c.ctx.trace with span := .fresh v.nextFresh }) :=
  h.same (h.inv.assign hc hph _ rfl) rfl (fun hp => hp) (fun b used hcp => by
    have := hcp.upd h.inv hc (fun c' => { c' with id := v.nextId, trace := { c.ctx.trace with span := .fresh v.nextFresh }, phase := .reserving })
      (by
        refine ⟨rfl, rfl, rfl, fun h => (by rw [hph] at h; cases h), fun he => ?_, fun o res hv _ => ?_⟩
        · simp only [CallV.enq] at he; grind
        · have := h.inv.early cid c hc (Or.inl hph)
          simp only at hv; rw [this] at hv; cases hv)
    exact { this with })

theorem J.enqueue {m0 x v cid c} (h : J m0 x v) (hc : v.get cid = some c) (hph : c.phase = .reserving) :
    J m0 x { v.upd cid (fun c => { c with phase := .awaiting }) with pq := v.pq ++ [{ cid := cid, id := c.id, ctx := { deadline := c.ctx.deadline, trace := c.trace }, body := c.body }] } :=
  h.same (h.inv.enqueue hc hph) rfl (fun hp => hp) (fun b used hcp => by
    have h1 := hcp.upd h.inv hc (fun c' => { c' with phase := .awaiting })
      (by
        refine ⟨rfl, rfl, rfl, fun h => (by rw [hph] at h; cases h), fun he => ?_, fun o res hv _ => ⟨hv, rfl⟩⟩
        simp only [CallV.enq] at he; grind)
    exact { h1 with
      pqNotSent := fun r hr sd hsd => by
        simp only [List.mem_append, List.mem_singleton] at hr
        rcases hr with hr | rfl
        · exact hcp.pqNotSent r hr sd hsd
        · intro e
          obtain ⟨i, c2, hg2, en2, id2, _⟩ := hcp.sends sd hsd
          have hpol : c.polled := Or.inl hph
          have : i = cid := h.inv.idInj i cid c2 c hg2 hc en2.polled hpol (id2.trans e)
          subst this
          rw [hc] at hg2; injection hg2 with hg2; subst hg2
          simp only [CallV.enq] at en2; grind })

theorem Cpl.send {x y v b used} (hc : Cpl x v b used) (hi : Inv y v) (cid : Nat) (o : Outcome)
    (ho : okLike (some o) = false) : Cpl x (v.send cid o) b used := by
  unfold View.send
  split
  · exact hc
  · rename_i c hg
    split
    · exact hc
    · exact hc.upd hi hg _ (by
        refine ⟨rfl, rfl, rfl, fun h => h, fun he => ⟨he, rfl, rfl, fun h => h⟩, fun o' res hv he => ?_⟩
        simp only [Option.some.injEq] at hv
        subst hv
        rw [okLike_of_expectedRes he] at ho; cases ho)

theorem J.send {m0 x v} (cid : Nat) (o : Outcome) (h : J m0 x v) (h1 : ∀ r ∈ v.pq, r.cid ≠ cid)
    (h2 : ∀ e ∈ v.inflight, e.cid ≠ cid) (h3 : ∀ c, v.get cid = some c → c.enq) (h4 : okLike (some o) = false) :
    J m0 x (v.send cid o) :=
  h.same (Inv.presD.send cid o h.inv h1 h2 h3 h4) (by simp) (fun hp => by simpa using hp)
    (fun _ _ hcp => hcp.send h.inv cid o h4)

/-! ### lookups in the book -/

theorem Cpl.sendOfId {x v b used} (hc : Cpl x v b used) {sd : BSend} (hsd : sd ∈ b.sends) :
    b.sendOfId sd.id = some sd := by
  unfold Book.sendOfId
  cases hf : b.sends.find? (·.id == sd.id) with
  | none =>
    have := List.find?_eq_none.mp hf sd hsd
    simp at this
  | some sd' =>
    have h1 := List.mem_of_find?_eq_some hf
    have h2 : sd'.id = sd.id := by simpa using List.find?_some hf
    rw [eq_of_map_nodup hc.sendsNodup h1 hsd h2]

theorem Cpl.sendOfId_none {x v b used} (_hc : Cpl x v b used) {id : Nat} (h : b.sendOfId id = none) :
    ∀ sd ∈ b.sends, sd.id ≠ id := by
  intro sd hsd
  have := List.find?_eq_none.mp h sd hsd
  simpa using this

/-- the call the book finds for the body of a model call is that call's record -/
theorem Cpl.callOfBody {x v b used} (hc : Cpl x v b used) {c : CallV} (hmem : c ∈ v.calls) {ci : BCall}
    (h : b.callOfBody c.body = some ci) : RC ci c := by
  unfold Book.callOfBody at h
  obtain ⟨c4, hm4, hr⟩ := hc.calls.find_body h
  have hb : ci.body = c.body := by simpa using List.find?_some h
  have : c4 = c := eq_of_map_nodup hc.bodies hm4 hmem (by rw [← hr.body, hb])
  rw [← this]; exact hr

/-- a request written for the body of a model call carries that call's id -/
theorem Cpl.sendOfBody {x v b used} (hc : Cpl x v b used) (_hi : Inv x v) {c : CallV} (hmem : c ∈ v.calls) {sd : BSend}
    (h : b.sendOfBody c.body = some sd) : sd.id = c.id ∧ sd ∈ b.sends := by
  unfold Book.sendOfBody at h
  have hsd := List.mem_of_find?_eq_some h
  have hb : sd.body = c.body := by simpa using List.find?_some h
  obtain ⟨i, c5, hg5, _, id5, b5, _⟩ := hc.sends sd hsd
  have : c5 = c := eq_of_map_nodup hc.bodies (View.get_mem hg5) hmem (by rw [← b5, hb])
  subst this
  exact ⟨id5.symm, hsd⟩

theorem Cpl.sendOfBody_some {x v b used} (hc : Cpl x v b used) (hi : Inv x v) {i : Nat} {c : CallV}
    (hg : v.get i = some c) (hp : c.polled) {sd : BSend} (hsd : sd ∈ b.sends) (hid : sd.id = c.id) :
    ∃ sd', b.sendOfBody c.body = some sd' := by
  obtain ⟨j, c6, hg6, en6, id6, b6, _⟩ := hc.sends sd hsd
  have : j = i := hi.idInj j i c6 c hg6 hg en6.polled hp (id6.trans hid)
  subst this
  rw [hg] at hg6; injection hg6 with hg6; subst hg6
  unfold Book.sendOfBody
  cases hf : b.sends.find? (·.body == c.body) with
  | some sd' => exact ⟨sd', rfl⟩
  | none =>
    have := List.find?_eq_none.mp hf sd hsd
    simp [b6] at this

theorem Cpl.afterRead {x v b used} (hc : Cpl x v b used) (t : TaskId) (id : Nat) (res : Res) :
    Cpl x v (b.step (.obs (.tNext t (.item (.response id res))))) used :=
  { hc with
    reads := fun i c o r hg hv he => by
      obtain ⟨⟨rd, hrd, a⟩, sd⟩ := hc.reads i c o r hg hv he
      exact ⟨⟨rd, List.mem_append_left _ hrd, a⟩, sd⟩ }

theorem J.readMiss {m0 v} (t : TaskId) (id : Nat) (res : Res) (h : J m0 none v) (_hm : ∀ e ∈ v.inflight, e.id ≠ id) :
    J m0 none { v with rel := .tNext t (.item (.response id res)) :: v.rel } :=
  h.push _ (h.inv.of_rel _) rfl (fun hp => Or.inl hp) (fun _ _ _ _ hc =>
    ⟨rfl, Or.inr { hc.afterRead t id res with }⟩)

/-! ### the judged transitions: `Cancel` -/

theorem chk_cancel {b : Book} {used : C01St} {t : TaskId} {id : Nat} {tr : Trace} {ok : Bool} {sd : BSend}
    (hso : b.sendOfId id = some sd) (htr : sd.trace = tr) (hok : sd.ok = true)
    (hcan : b.cancels.any (·.1 == id) = false)
    (hres : ∀ ci, b.callOfBody sd.body = some ci → okLike ci.resolved = false) :
    chk b used (.obs (.tSend t (.cancel id tr) ok)) = (used, none) := by
  refine chk_of_none rfl ?_ ?_
  · simp only [checkC18, hso, htr, beq_self_eq_true, ↓reduceIte]
  · simp only [checkC03ab, checkC03, hso, hok, hcan, Bool.not_true, Bool.false_eq_true, ↓reduceIte]
    cases hcb : b.callOfBody sd.body with
    | none => rfl
    | some ci =>
      have := hres ci hcb
      dsimp only
      generalize ci.resolved = r at this
      rcases r with _ | o
      · rfl
      · cases o <;> first | rfl | cases this

theorem J.sendCancel {m0 v e} (t : TaskId) (ok : Bool) (h : J m0 none v) (hco : CanOk v e) :
    J m0 none { v with sentLog := if ok then v.sentLog ++ [Msg.cancel e.id e.ctx.trace] else v.sentLog, rel := .tSend t (Msg.cancel e.id e.ctx.trace) ok :: v.rel } := by
  refine h.push _ (Inv.presD.sendCancel t ok h.inv hco) rfl (fun hp => Or.inl hp) ?_
  intro b used _ hnp hc
  obtain ⟨sd, hsd, hid, hok⟩ := hc.logSent e.id (hco.sent hnp)
  have hso : b.sendOfId e.id = some sd := hid ▸ hc.sendOfId hsd
  obtain ⟨j, c3, hg3, p3, id3, tr3, rx3, out3, _⟩ := hco.call
  obtain ⟨i, c2, hg2, en2, id2, b2, tr2⟩ := hc.sends sd hsd
  have hij : i = j := h.inv.idInj i j c2 c3 hg2 hg3 en2.polled p3 (id2.trans (hid.trans id3.symm))
  subst hij
  rw [hg3] at hg2; injection hg2 with hg2; subst hg2
  have hchk := chk_cancel (b := b) (used := used) (t := t) (ok := ok) hso (by rw [tr2, ← tr3]) hok
    (by
      rw [Bool.eq_false_iff]
      intro hany
      rw [List.any_eq_true] at hany
      obtain ⟨p, hp, hpe⟩ := hany
      have := hc.cancels p hp
      simp only [beq_iff_eq] at hpe
      rw [hpe] at this
      exact hco.notCancelled this)
    (by
      intro ci hci
      rw [b2] at hci
      have := hc.callOfBody (View.get_mem hg3) hci
      rw [this.resolved]; exact out3)
  rw [hchk]
  refine ⟨rfl, Or.inr ?_⟩
  cases ok with
  | true =>
    exact { hc with
      logSent := fun id hid => by
        simp only [↓reduceIte, reqIds_append, reqIds_cancel, List.append_nil] at hid
        exact hc.logSent id hid
      cancels := fun p hp => by
        have hp' : p ∈ b.cancels ++ [(e.id, e.ctx.trace, b.writes)] := hp
        simp only [List.mem_append, List.mem_singleton] at hp'
        simp only [↓reduceIte, cancelIds_append, cancelIds_cancel, List.mem_append, List.mem_singleton]
        rcases hp' with hp' | rfl
        · exact Or.inl (hc.cancels p hp')
        · exact Or.inr rfl }
  | false =>
    exact { hc with }

/-! ### the judged transitions: `Request` -/

theorem chk_request {b : Book} {used : C01St} {t : TaskId} {id dl : Nat} {tr : Trace} {body : Nat} {ok : Bool}
    (hci : ∀ ci, b.callOfBody body = some ci →
      tr.traceId = ci.trace.traceId ∧ tr.sampled = ci.trace.sampled ∧ tr.span ≠ ci.trace.span ∧ ci.dropped = false)
    (hsp : ∀ sd ∈ b.sends, sd.trace.span = tr.span → sd.id = id) :
    chk b used (.obs (.tSend t (.request id dl tr body) ok)) = (used, none) := by
  have hany : b.sends.any (fun s => s.trace.span == tr.span && s.id != id) = false := by
    rw [Bool.eq_false_iff]
    intro h
    rw [List.any_eq_true] at h
    obtain ⟨sd, hsd, hp⟩ := h
    simp only [Bool.and_eq_true, beq_iff_eq, bne_iff_ne, ne_eq] at hp
    exact hp.2 (hsp sd hsd hp.1)
  have h18 : checkC18 b () (.obs (.tSend t (.request id dl tr body) ok)) = ((), none) := by
    simp only [checkC18]
    cases hcb : b.callOfBody body with
    | none => rfl
    | some ci =>
      obtain ⟨a1, a2, a3, _⟩ := hci ci hcb
      simp [a1, a2, a3, hany]
  have h03 : checkC03ab b () (.obs (.tSend t (.request id dl tr body) ok)) = ((), none) := by
    simp only [checkC03ab, checkC03]
    cases hcb : b.callOfBody body with
    | none => rfl
    | some ci =>
      obtain ⟨_, _, _, a4⟩ := hci ci hcb
      simp [a4]
  exact chk_of_none rfl h18 h03

theorem Cpl.request_facts {x v b used} (hc : Cpl x v b used) (hi : Inv x v) {e : Entry} (he : e ∈ v.inflight)
    {body : Nat} (hb : ∃ c, v.get e.cid = some c ∧ c.rxClosed = false ∧ body = c.body) :
    (∀ ci, b.callOfBody body = some ci →
      e.ctx.trace.traceId = ci.trace.traceId ∧ e.ctx.trace.sampled = ci.trace.sampled ∧
      e.ctx.trace.span ≠ ci.trace.span ∧ ci.dropped = false) ∧
    (∀ sd ∈ b.sends, sd.trace.span = e.ctx.trace.span → sd.id = e.id) := by
  obtain ⟨c0, hg0, hrx0, hb0⟩ := hb
  obtain ⟨c0', hg0', en0, id0, ctx0, _, _⟩ := hi.inf e he
  rw [hg0] at hg0'; injection hg0' with hg0'; subst hg0'
  have htr0 := hi.tr e.cid c0 hg0 en0.polled
  have hetr : e.ctx.trace = { c0.ctx.trace with span := .fresh c0.id } := by rw [ctx0]; exact htr0
  constructor
  · intro ci hci
    subst hb0
    have hr := hc.callOfBody (View.get_mem hg0) hci
    obtain ⟨n, hn⟩ := hc.spans c0 (View.get_mem hg0)
    refine ⟨by rw [hetr, hr.trace], by rw [hetr, hr.trace], by rw [hetr, hr.trace, hn]; simp, ?_⟩
    cases hd : ci.dropped with
    | false => rfl
    | true =>
      have := hr.dropped hd
      simp only [CallV.enq] at en0
      grind
  · intro sd hsd hspan
    obtain ⟨i, c2, hg2, en2, id2, _, tr2⟩ := hc.sends sd hsd
    have htr2 := hi.tr i c2 hg2 en2.polled
    rw [tr2, htr2, hetr] at hspan
    simp only [Span.fresh.injEq] at hspan
    omega

/-- the book after a `Request` write -/
theorem Cpl.afterRequest {x v b used} (hc : Cpl (some x) v b used) (hi : Inv (some x) v) {e : Entry} (he : e ∈ v.inflight)
    (hid : e.id = x) {body : Nat} (hb : ∃ c, v.get e.cid = some c ∧ c.rxClosed = false ∧ body = c.body) (ok : Bool)
    (at_ time : Nat) (log : List Msg)
    (hlog : ∀ id ∈ reqIds log, id ∈ reqIds v.sentLog ∨ (id = x ∧ ok = true))
    (hcan : cancelIds log = cancelIds v.sentLog) :
    Cpl none { v with sentLog := log }
      { b with sends := b.sends ++ [{ id := x, body := body, deadline := e.ctx.deadline, trace := e.ctx.trace, ok := ok, at_ := at_, time := time }] }
      used := by
  obtain ⟨c0, hg0, hrx0, hb0⟩ := hb
  obtain ⟨c0', hg0', en0, id0, ctx0, _, _⟩ := hi.inf e he
  rw [hg0] at hg0'; injection hg0' with hg0'; subst hg0'
  exact { hc with
    sends := forall_mem_snoc hc.sends ⟨e.cid, c0, hg0, en0, by rw [id0, hid], hb0, by rw [ctx0]⟩
    sendsNodup := by
      rw [List.map_append]
      refine nodup_snoc hc.sendsNodup fun h => ?_
      obtain ⟨sd, hsd, hid'⟩ := List.mem_map.mp h
      exact hc.xNotSent x rfl sd hsd hid'
    pqNotSent := fun r hr => forall_mem_snoc (hc.pqNotSent r hr) fun h => hi.disj r hr e he (h.symm.trans hid.symm)
    xNotSent := fun _ h => by cases h
    logSent := fun id hid' => by
      rcases hlog id hid' with h | ⟨h1, h2⟩
      · obtain ⟨sd, hsd, a⟩ := hc.logSent id h
        exact ⟨sd, List.mem_append_left _ hsd, a⟩
      · exact ⟨_, List.mem_append_right _ (List.mem_singleton.mpr rfl), h1.symm, h2⟩
    cancels := fun p hp => by rw [hcan]; exact hc.cancels p hp
    reads := fun i c o r hg hv he' => by
      obtain ⟨rd, sd, hsd, a⟩ := hc.reads i c o r hg hv he'
      exact ⟨rd, sd, List.mem_append_left _ hsd, a⟩ }

theorem J.sendReqOk {m0 v id e} (t : TaskId) (body : Nat) (h : J m0 (some id) v) (hp : v.poisoned = false)
    (he : e ∈ v.inflight) (hid : e.id = id) (hb : ∃ c, v.get e.cid = some c ∧ c.rxClosed = false ∧ body = c.body) :
    J m0 none { v with sentLog := v.sentLog ++ [Msg.request id e.ctx.deadline e.ctx.trace body], rel := .tSend t (Msg.request id e.ctx.deadline e.ctx.trace body) true :: v.rel } := by
  refine h.push _ (Inv.presD.sendReqOk t body h.inv hp he hid hb) rfl (fun hp => Or.inl hp) ?_
  intro b used _ _ hc
  obtain ⟨f1, f2⟩ := hc.request_facts h.inv he hb
  rw [chk_request f1 (by rw [← hid]; exact f2)]
  refine ⟨rfl, Or.inr ?_⟩
  have := hc.afterRequest h.inv he hid hb true b.writes b.now (v.sentLog ++ [Msg.request id e.ctx.deadline e.ctx.trace body])
    (by
      intro id' hid'
      simp only [reqIds_append, reqIds_request, List.mem_append, List.mem_singleton] at hid'
      rcases hid' with h | h
      · exact Or.inl h
      · exact Or.inr ⟨h, rfl⟩)
    (by simp)
  exact { this with }

theorem View.send_with (w : View) (p : Bool) (l : List Obs) (cid : Nat) (o : Outcome) :
    View.send { w with poisoned := p, rel := l } cid o = { View.send w cid o with poisoned := p, rel := l } := by
  unfold View.send
  show (match w.get cid with | none => _ | some c => _) = _
  cases w.get cid with
  | none => rfl
  | some c => simp only; split <;> rfl

/-- removing the entry may panic on its timer (`pn`) -/
theorem J.sendStop {m0 x} {w : View} {cid : Nat} {o : Outcome} (h : J m0 x (View.send w cid o)) (pn : Bool)
    (t' : TaskId) (site : String) :
    J m0 x (View.send { w with poisoned := w.poisoned || pn, rel := stopObs pn t' site ++ w.rel } cid o) := by
  cases pn with
  | false => simpa [stopObs] using h
  | true =>
    have := h.panic t' site
    rw [← View.send_with] at this
    simpa [stopObs] using this

theorem J.sendReqFail {m0 v id e} (t : TaskId) (body : Nat) (pn : Bool) (t' : TaskId) (site : String)
    (h : J m0 (some id) v) (hp : v.poisoned = false) (he : e ∈ v.inflight) (hid : e.id = id)
    (hb : ∃ c, v.get e.cid = some c ∧ c.rxClosed = false ∧ body = c.body) :
    J m0 none (View.send { v with inflight := v.inflight.filter (·.id != id), poisoned := v.poisoned || pn, rel := stopObs pn t' site ++ .tSend t (Msg.request id e.ctx.deadline e.ctx.trace body) false :: v.rel } e.cid .send) := by
  -- the failed write and the completion of the entry
  have step1 : J m0 none (View.send { v with inflight := v.inflight.filter (·.id != id), rel := .tSend t (Msg.request id e.ctx.deadline e.ctx.trace body) false :: v.rel } e.cid .send) := by
    have hinv := Inv.presD.sendReqFail t body false t' site h.inv hp he hid hb
    simp only [stopObs, Bool.or_false, Bool.false_eq_true, ↓reduceIte, List.nil_append] at hinv
    refine h.push (.tSend t (Msg.request id e.ctx.deadline e.ctx.trace body) false) hinv (by simp) (fun hp' => Or.inl (by simpa using hp')) ?_
    intro b used _ _ hc
    obtain ⟨f1, f2⟩ := hc.request_facts h.inv he hb
    rw [chk_request f1 (by rw [← hid]; exact f2)]
    refine ⟨rfl, Or.inr ?_⟩
    have h1 := hc.afterRequest h.inv he hid hb false b.writes b.now v.sentLog (fun _ h => Or.inl h) rfl
    have h2 : Cpl none { v with inflight := v.inflight.filter (·.id != id), rel := .tSend t (Msg.request id e.ctx.deadline e.ctx.trace body) false :: v.rel }
        (b.step (.obs (.tSend t (Msg.request id e.ctx.deadline e.ctx.trace body) false))) used := { h1 with }
    exact h2.send ((h.inv.infRemove id).of_rel _) e.cid .send rfl
  exact step1.sendStop pn t' site

/-! ### the judged transitions: a `Response` for a tracked request -/

theorem expectedRes_outcomeOf (res : Res) : expectedRes (outcomeOf res) = some res := by
  cases res <;> rfl

theorem J.readHit {m0 v e} (t : TaskId) (res : Res) (pn : Bool) (t' : TaskId) (site : String)
    (h : J m0 none v) (he : e ∈ v.inflight) :
    J m0 none (View.send { v with inflight := v.inflight.filter (·.id != e.id), poisoned := v.poisoned || pn, rel := stopObs pn t' site ++ .tNext t (.item (.response e.id res)) :: v.rel } e.cid (outcomeOf res)) := by
  have step1 : J m0 none (View.send { v with inflight := v.inflight.filter (·.id != e.id), rel := .tNext t (.item (.response e.id res)) :: v.rel } e.cid (outcomeOf res)) := by
    have hinv := Inv.presD.readHit t res false t' site h.inv he
    simp only [stopObs, Bool.or_false, Bool.false_eq_true, ↓reduceIte, List.nil_append] at hinv
    refine h.push (.tNext t (.item (.response e.id res))) hinv (by simp) (fun hp' => Or.inl (by simpa using hp')) ?_
    intro b used _ hnp hc
    refine ⟨rfl, Or.inr ?_⟩
    -- the request of `e` was written successfully
    obtain ⟨sd, hsd, hsid, hsok⟩ := hc.logSent e.id (h.inv.infSent hnp e he (by simp))
    obtain ⟨c0, hg0, en0, id0, _, _, _⟩ := h.inv.inf e he
    -- the book after the read
    have hb' := hc.afterRead t e.id res
    have hrd : ∃ rd ∈ (b.step (.obs (.tNext t (.item (.response e.id res))))).reads,
        rd.id = e.id ∧ rd.res = res ∧ rd.sentBefore = true := by
      refine ⟨_, List.mem_append_right _ (List.mem_singleton.mpr rfl), rfl, rfl, ?_⟩
      simp only [List.any_eq_true, Bool.and_eq_true, beq_iff_eq]
      exact ⟨sd, hsd, hsid, hsok⟩
    have h2 : Cpl none { v with inflight := v.inflight.filter (·.id != e.id), rel := .tNext t (.item (.response e.id res)) :: v.rel }
        (b.step (.obs (.tNext t (.item (.response e.id res))))) used := { hb' with }
    have hi2 : Inv none { v with inflight := v.inflight.filter (·.id != e.id), rel := .tNext t (.item (.response e.id res)) :: v.rel } :=
      (h.inv.infRemove e.id).of_rel _
    unfold View.send
    split
    · exact h2
    · split
      · exact h2
      · refine h2.upd' hi2 e.cid _ (fun c' _ => ⟨rfl, rfl, rfl, fun h => h, fun he => ⟨he, rfl, rfl, fun h => h⟩⟩) ?_
        intro c' hc' o r hv her
        right
        have hc0 : c' = c0 := by
          have : v.get e.cid = some c' := hc'
          rw [hg0] at this; injection this with this; exact this.symm
        subst hc0
        simp only [Option.some.injEq] at hv
        subst hv
        rw [expectedRes_outcomeOf] at her
        injection her with her
        subst her
        simp only [id0]
        exact ⟨hrd, sd, hsd, hsid⟩
  exact step1.sendStop pn t' site

/-! ### the judged transitions: a call resolves -/

theorem Cpl.resolved {x y v b used} (hc : Cpl x v b used) (hi : Inv y v) {cid : Nat} {c : CallV}
    (hg : v.get cid = some c) (hph : c.phase = .reserving ∨ c.phase = .awaiting) (o : Outcome) (now : Nat)
    (g : CallV → CallV)
    (hgd : ∀ c, (g c).body = c.body ∧ (g c).ctx = c.ctx ∧ (g c).id = c.id ∧ (g c).trace = c.trace ∧
      (g c).phase = .resolved ∧ (g c).outcome = some o ∧ ((g c).val = c.val ∨ (g c).val = none))
    (used' : List Nat) (hused : ∀ id ∈ used', id ∈ used ∨ id = c.id) :
    Cpl x (v.upd cid g) (b.step (.obs (.resolved cid o now))) used' := by
  have hcid := View.get_cid hg
  refine hc.upd_gen hi cid g ?_ ?_ rfl rfl rfl rfl rfl ?_ ?_
  · intro c' _
    obtain ⟨a1, a2, a3, a4, a5, _, _⟩ := hgd c'
    exact ⟨a1, a2, fun _ => ⟨Or.inr (Or.inl a5), a3, a4, fun _ => a5⟩⟩
  · have := hc.calls.map₂' (fun x => if x.cid == cid then { x with resolved := some o } else x)
      (fun c => if c.cid == cid then { g c with cid := c.cid } else c) ?_
    · exact this
    · intro bc c1 hmem hr
      by_cases e : c1.cid = cid
      · have hg1 := hi.get_of_mem hmem
        rw [e, hg] at hg1; injection hg1 with hg1; subst hg1
        obtain ⟨a1, a2, _, _, _, a6, _⟩ := hgd c
        have eb : bc.cid = cid := by rw [hr.cid, e]
        simp only [e, eb, beq_self_eq_true, ↓reduceIte]
        refine ⟨rfl, by rw [a1]; exact hr.body, by rw [a2]; exact hr.trace, by rw [a6], ?_⟩
        intro hd
        have := hr.dropped hd
        rcases hph with h | h <;> rw [h] at this <;> cases this
      · have eb : ¬ bc.cid = cid := by rw [hr.cid]; exact e
        simpa [e, eb] using hr
  · intro id hid
    rcases hused id hid with h | h
    · exact Or.inl h
    · right
      obtain ⟨_, _, a3, _, a5, _, _⟩ := hgd c
      exact ⟨cid, { g c with cid := c.cid }, by rw [View.get_upd_self, hg]; rfl, a5, by rw [h]; exact a3⟩
  · intro c' hc' o' res hv _
    rw [hg] at hc'; injection hc' with hc'; subst hc'
    obtain ⟨_, _, a3, _, _, _, a7⟩ := hgd c
    rcases a7 with h | h
    · exact Or.inl ⟨by rw [← h]; exact hv, a3.symm⟩
    · rw [h] at hv; cases hv

theorem J.resolveShut {m0 x v cid c} (now : Nat) (h : J m0 x v) (hc : v.get cid = some c)
    (hph : c.phase = .reserving ∨ c.phase = .awaiting) :
    J m0 x { v.upd cid (fun c => { c with phase := .resolved, outcome := some .shutdown, rxClosed := true }) with rel := .resolved cid .shutdown now :: v.rel } := by
  refine h.push (.resolved cid .shutdown now) ((h.inv.resolveShut hc hph).of_rel _) rfl (fun hp => Or.inl hp) ?_
  intro b used _ _ hcp
  refine ⟨rfl, Or.inr ?_⟩
  have := hcp.resolved h.inv hc hph .shutdown now (fun c => { c with phase := .resolved, outcome := some .shutdown, rxClosed := true })
    (fun c => ⟨rfl, rfl, rfl, rfl, rfl, rfl, Or.inl rfl⟩) used (fun _ h => Or.inl h)
  exact { this with }

theorem chk_resolved_other (b : Book) (used : C01St) (cid : Nat) (o : Outcome) (now : Nat)
    (h : expectedRes o = none) : chk b used (.obs (.resolved cid o now)) = (used, none) := by
  simp [chk, checkC01, checkC18, checkC03ab, checkC03, h, Option.orElse]

theorem chk_resolved_ok {b : Book} {used : C01St} {cid : Nat} {o : Outcome} {now : Nat} {res : Res} {ci : BCall} {sd : BSend}
    (h : expectedRes o = some res) (hci : b.calls.find? (·.cid == cid) = some ci)
    (hsd : b.sendOfBody ci.body = some sd) (hu : used.contains sd.id = false)
    (hrd : b.reads.any (fun r => r.id == sd.id && r.res == res && r.sentBefore) = true) :
    chk b used (.obs (.resolved cid o now)) = (sd.id :: used, none) := by
  have hu' : sd.id ∉ used := by simpa using hu
  simp [chk, checkC01, checkC18, checkC03ab, checkC03, h, hci, hsd, hu', hrd, Option.orElse]

theorem J.resolveVal {m0 x v cid c o} (now : Nat) (h : J m0 x v) (hc : v.get cid = some c)
    (hph : c.phase = .awaiting) (hv : c.val = some o) :
    J m0 x { v.upd cid (fun c => { c with val := none, phase := .resolved, outcome := some o, rxClosed := true }) with rel := .resolved cid o now :: v.rel } := by
  refine h.push (.resolved cid o now) ((h.inv.resolveVal hc hph hv).of_rel _) rfl (fun hp => Or.inl hp) ?_
  intro b used _ _ hcp
  have hpol : c.polled := Or.inr (Or.inl hph)
  cases he : expectedRes o with
  | none =>
    rw [chk_resolved_other b used cid o now he]
    refine ⟨rfl, Or.inr ?_⟩
    have := hcp.resolved h.inv hc (Or.inr hph) o now (fun c => { c with val := none, phase := .resolved, outcome := some o, rxClosed := true })
      (fun c => ⟨rfl, rfl, rfl, rfl, rfl, rfl, Or.inr rfl⟩) used (fun _ h => Or.inl h)
    exact { this with }
  | some res =>
    obtain ⟨⟨rd, hrd, rid, rres, rsb⟩, sd0, hsd0, hsid0⟩ := hcp.reads cid c o res hc hv he
    obtain ⟨ci, hci, hrc⟩ := hcp.calls.find_cid_bwd (k := cid) (c := c) hc
    obtain ⟨sd', hsd'⟩ := hcp.sendOfBody_some h.inv hc hpol hsd0 hsid0
    have hsb := hcp.sendOfBody h.inv (View.get_mem hc) hsd'
    have hu : used.contains sd'.id = false := by
      rw [Bool.eq_false_iff]
      intro hcon
      simp only [List.contains_iff_mem] at hcon
      obtain ⟨i, c2, hg2, ph2, id2⟩ := hcp.used _ hcon
      have : i = cid := h.inv.idInj i cid c2 c hg2 hc (Or.inr (Or.inr (Or.inl ph2))) hpol (by rw [id2, hsb.1])
      subst this
      rw [hc] at hg2; injection hg2 with hg2; subst hg2
      rw [hph] at ph2; cases ph2
    have hchk := chk_resolved_ok (b := b) (used := used) (cid := cid) (o := o) (now := now) he hci
      (by rw [hrc.body]; exact hsd') hu
      (by
        rw [List.any_eq_true]
        exact ⟨rd, hrd, by simp [rid, rres, rsb, hsb.1]⟩)
    rw [hchk]
    refine ⟨rfl, Or.inr ?_⟩
    have := hcp.resolved h.inv hc (Or.inr hph) o now (fun c => { c with val := none, phase := .resolved, outcome := some o, rxClosed := true })
      (fun c => ⟨rfl, rfl, rfl, rfl, rfl, rfl, Or.inr rfl⟩) (sd'.id :: used)
      (fun id hid => by
        simp only [List.mem_cons] at hid
        rcases hid with rfl | hid
        · exact Or.inr hsb.1
        · exact Or.inl hid)
    exact { this with }

/-! ### `J` is an instance of the interface -/

theorem J.presD (m0 : Mon C01St) : PresD (J m0) where
  inv := fun h => h.inv
  stop := fun o h ho => h.stop o ho
  panic := fun t site h => h.panic t site
  poison := fun h hs => h.poison hs
  trunc := fun t h0 h => J.trunc t h0 h
  pqPop := fun h hpq => h.pqPop hpq
  cqPop := fun h hcq => h.cqPop hcq
  infRemove := fun id h => h.infRemove id
  drop_x := fun h hx => h.drop_x hx
  popInsert := fun key rem due h hpq hnc => h.popInsert key rem due hpq hnc
  infRearm := fun id key t due h => h.infRearm id key t due
  sendReqOk := fun t body h hp he hid hb => h.sendReqOk t body hp he hid hb
  sendReqFail := fun t body pn t' site h hp he hid hb => h.sendReqFail t body pn t' site hp he hid hb
  sendCancel := fun t ok h hc => h.sendCancel t ok hc
  send := fun cid o h h1 h2 h3 h4 => h.send cid o h1 h2 h3 h4
  readMiss := fun t id res h hm => h.readMiss t id res hm
  readHit := fun t res pn t' site h he => h.readHit t res pn t' site he
  infClear := fun h => h.infClear
  pqClear := fun h => h.pqClear
  cqClear := fun h => h.cqClear

theorem J.pres (m0 : Mon C01St) : Pres (J m0) where
  toPresD := J.presD m0
  assign := fun h hc hp => h.assign hc hp
  enqueue := fun h hc hp => h.enqueue hc hp
  resolveVal := fun now h hc hp hv => h.resolveVal now hc hp hv
  resolveShut := fun now h hc hp => h.resolveShut now hc hp
  guardClose := fun h hc hp => h.guardClose hc hp
  cqPush := fun h hc hp hr => h.cqPush hc hp hr
  dropGuarded := fun h hc hp hr => h.dropGuarded hc hp hr
  dropNP := fun h hc hp => h.dropNP hc hp

end TarpcModel.Client
