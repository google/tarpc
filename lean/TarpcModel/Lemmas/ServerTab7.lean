import TarpcModel.Lemmas.ServerTab6
/-!
The bound clause of the C11 monitor (`checkC11Bound`), part 2: the fourth coupling (`Tab.Z`) walked through one poll of
the request stream (`NZ`), next to the second and third (`NN`, `NY`).
-/
namespace TarpcModel.Server.Tab
open TarpcModel TarpcModel.Server TarpcModel.Server.Flow TarpcModel.Server.ObsMon TarpcModel.Server.Mon06
open TarpcModel.Server.Mon11

def chk11b (b : Book) (o : Obs) : Option String := (checkC11Bound b () (.obs o)).2

theorem chk11b_other (b : Book) (o : Obs) (h : ∀ k a t, o ≠ .counts (.server k) a t) : chk11b b o = none := by
  unfold chk11b
  cases o with
  | counts ep a t =>
    cases ep with
    | server k => exact absurd rfl (h k a t)
    | _ => rfl
  | _ => rfl

theorem chk11b_mild (o : Obs) (h2 : isOut o = false) (b : Book) : chk11b b o = none :=
  chk11b_other b o (fun k a t hc => by rw [hc] at h2; cases h2)

theorem CK11b.extW {b0 : Book} {s s' : St} (hx : ExtW s s') (h : CK chk11b b0 s.obs) : CK chk11b b0 s'.obs :=
  CK.adds (fun o ho => chk11b_mild o ho.2) hx h

/-- the walked invariant, next to `NY` (`m`: see `Z`); quantified over the mode where the walk's stages need it: `NZr`, `NZs`,
`NZe`, `NZa`, `NZp` below -/
structure NZ (b0 : Book) (now : Nat) (pend : Option (Nat × Nat)) (m : Option Bool) (rest : List Nat) (s : St) : Prop where
  ny : NY b0 now pend rest s
  ck : CK chk11b b0 s.obs
  fu : m = none → s.readFused = true
  z : (bo b0 s.obs).spun = true ∨ (bo b0 s.obs).failed = true ∨ s.dropped = true ∨
    Z pend m (bw (bo b0 s.obs)) (bo b0 s.obs).abandonOrder (mv s)

variable {b0 : Book} {now : Nat} {rest : List Nat}

theorem NZ.unesc {pend : Option (Nat × Nat)} {m : Option Bool} {s : St} (h : NZ b0 now pend m rest s)
    (hs : (bo b0 s.obs).spun = false) (hf : (bo b0 s.obs).failed = false) (hd : s.dropped = false) :
    K now pend (bview (bo b0 s.obs)) (sview s) ∧ X rest (bw (bo b0 s.obs)) (mv s) ∧ Y now pend (bw (bo b0 s.obs)) (mv s) ∧
      Z pend m (bw (bo b0 s.obs)) (bo b0 s.obs).abandonOrder (mv s) :=
  ⟨(h.ny.unspun hs).1, (h.ny.unspun hs).2.1, (h.ny.unspun hs).2.2, of_esc3 h.z hs hf hd⟩

theorem NZ_model {pend pend' : Option (Nat × Nat)} {m m' : Option Bool} {s s' : St} (hx : ExtW s s')
    (hny : NY b0 now pend' rest s') (hfu : m' = none → s'.readFused = true) (hdr : s.dropped = true → s'.dropped = true)
    (hZ : K now pend (bview (bo b0 s.obs)) (sview s) → X rest (bw (bo b0 s.obs)) (mv s) →
      Y now pend (bw (bo b0 s.obs)) (mv s) → Z pend m (bw (bo b0 s.obs)) (bo b0 s.obs).abandonOrder (mv s) →
      Z pend' m' (bw (bo b0 s.obs)) (bo b0 s.obs).abandonOrder (mv s'))
    (h : NZ b0 now pend m rest s) : NZ b0 now pend' m' rest s' := by
  refine ⟨hny, CK11b.extW hx h.ck, hfu, esc3 fun hs hfl hd => ?_⟩
  obtain ⟨hs0, hv, hle⟩ := bo_extW_unspun b0 hx hs
  obtain ⟨hK, hX, hY, hZ0⟩ := h.unesc hs0 (hle.unfailed hfl) (eq_false_of_imp hdr hd)
  have hao : (bo b0 s'.obs).abandonOrder = (bo b0 s.obs).abandonOrder := congrArg BV.ao hv
  have htb : (bo b0 s'.obs).table = (bo b0 s.obs).table := congrArg BV.table hv
  rw [hao]
  exact (hZ hK hX hY hZ0).book hle.execs htb

theorem NZ_qm {pend : Option (Nat × Nat)} {m : Option Bool} {s s' : St} (hq : QM s s')
    (hf : s.readFused = true → s'.readFused = true) (h : NZ b0 now pend m rest s) : NZ b0 now pend m rest s' :=
  NZ_model hq.1 (NY_qm hq h.ny) (fun hm => hf (h.fu hm))
    (fun hd => by
      have : (mv s').dropped = (mv s).dropped := by rw [hq.2]
      exact this.trans hd)
    (fun _ _ _ hZ => by rw [hq.2]; exact hZ) h

theorem NZ.forget {pend : Option (Nat × Nat)} {m : Option Bool} {s : St} (h : NZ b0 now pend m rest s)
    (hf : s.readFused = true) : NZ b0 now pend none rest s :=
  ⟨h.ny, h.ck, fun _ => hf, h.z.imp (fun h => h) (Or.imp (fun h => h) (Or.imp (fun h => h) Z.forget))⟩

/-! ### one iteration of the channel's loop -/

theorem bpCancel_fused (s : St) : (bpCancel s).1.readFused = s.readFused := by
  rcases bpCancel_out s with ⟨i, l, _, he⟩ | ⟨_, he⟩ <;> rw [he] <;> simp

theorem bpCancel_dropped (s : St) : (bpCancel s).1.dropped = s.dropped := by
  rcases bpCancel_out s with ⟨i, l, _, he⟩ | ⟨_, he⟩ <;> rw [he] <;> simp

/-- the mode after the head of the guard-cancellation queue is taken -/
def popM : Option Bool → Option Bool
  | some _ => some true
  | none => none

theorem NZ_bpCancel {m : Option Bool} {s : St} (hm : m ≠ some true) (h : NZ b0 now none m rest s) :
    NZ b0 now none (popM m) rest (bpCancel s).1 := by
  refine NZ_model (extW_bpCancel s) (NY_bpCancel h.ny) (fun hp => ?_) (fun hd => by rw [bpCancel_dropped]; exact hd)
    (fun hK hX _ hZ => ?_) h
  · rw [bpCancel_fused]
    cases m with
    | none => exact h.fu rfl
    | some b => cases hp
  · rw [mv_bpCancel]
    cases m with
    | none => exact hZ.popCq_none
    | some b =>
      cases b with
      | true => exact absurd rfl hm
      | false => exact hZ.popCq hX (K_eid_mv hK)

theorem ME.book {B B' : BW} {ao : List Nat} {S : MV} (h : ME now B ao S) (hBe : B'.execs = B.execs)
    (hBt : B'.table = B.table) : ME now B' ao S := by
  rcases h with h | ⟨eb, h1, h2, h3⟩
  · exact Or.inl h
  · exact Or.inr ⟨eb, by rw [hBe]; exact h1, by rw [hBt]; exact h2, h3⟩

theorem NZ_pollExpired (hf : ClampFits) (hn : now < panicFreeNs) {m : Option Bool} {s : St} (ht : TInv now s)
    (ht' : TInv now (pollExpired s now).1) (hc : QC now s) (hq : SQ s) (h : NZ b0 now none m rest s) :
    NZ b0 now none m rest (pollExpired s now).1 ∧
    (m = some true → (pollExpired s now).1.poisoned = false →
      (bo b0 (pollExpired s now).1.obs).spun = true ∨ (bo b0 (pollExpired s now).1.obs).failed = true ∨
      (pollExpired s now).1.dropped = true ∨
      ME now (bw (bo b0 (pollExpired s now).1.obs)) (bo b0 (pollExpired s now).1.obs).abandonOrder
        (mv (pollExpired s now).1)) := by
  have hx := extW_pollExpired s now
  have hdd := (dd_closed s.done s.dropped now).expire s ⟨rfl, rfl⟩
  have hfu : s.readFused = true → (pollExpired s now).1.readFused = true := (fused_closed now).expire s
  refine ⟨NZ_model hx (NY_pollExpired ht h.ny) (fun hm => hfu (h.fu hm)) (fun hd => by rw [hdd.2]; exact hd)
    (fun _ _ hY hZ => Z_my (my_pollExpired (rem0_st hY)) hZ) h, ?_⟩
  intro hm hpo
  subst hm
  refine esc3 fun hs hfl hd' => ?_
  obtain ⟨hs0, hv, hle⟩ := bo_extW_unspun b0 hx hs
  have hd : s.dropped = false := hdd.2 ▸ hd'
  obtain ⟨hK, hX, hY, hZ0⟩ := h.unesc hs0 (hle.unfailed hfl) hd
  have hao : (bo b0 (pollExpired s now).1.obs).abandonOrder = (bo b0 s.obs).abandonOrder := congrArg BV.ao hv
  have htb : (bo b0 (pollExpired s now).1.obs).table = (bo b0 s.obs).table := congrArg BV.table hv
  rw [hao]
  refine ME.book ?_ hle.execs htb
  by_cases hr : (pollExpired s now).2 = .ready
  · obtain ⟨en0, hen0, hgone, hdue, hmin⟩ := pollExpired_minS hf hn ht (hc hn) hq (rem0_st hY) hr
    refine ME.of_min (S := mv s) hZ0 hX hY hd (en0 := ze en0) (List.mem_map_of_mem hen0) ?_ hdue ?_
    · intro en hen
      obtain ⟨e1, he1, rfl⟩ := List.mem_map.mp hen
      exact ⟨List.mem_map_of_mem (hgone e1 he1).1, (hgone e1 he1).2⟩
    · intro en hen
      obtain ⟨e1, he1, rfl⟩ := List.mem_map.mp hen
      exact hmin e1 he1
  · exact Or.inl (idle_mv ht' (pollExpired_idle hf hn (hc hn) hr hpo))

/-! ### the transport read -/

theorem Z_preRead {b : Book} {S : MV} (htp : b.topPoll = true) (h : Z none (some true) (bw b) b.abandonOrder S)
    (hme : ME now (bw b) b.abandonOrder S) (hX : X rest (bw b) S) (hY : Y now none (bw b) S)
    (heid : ∀ en ∈ S.ents, ∀ x ∈ S.execs, x.rid = en.rid → x.id = en.id) (hnow : b.now = now)
    (hbnd : (b.execs.map (·.rid)).Nodup) :
    Z none (some false) (bw (preRead b)) (preRead b).abandonOrder S := by
  unfold preRead
  rw [if_pos htp]
  generalize hb1 : ({ b with justRead := none, sawT := true, prevReadyP := false } : Book) = b1
  have e1 : b1.table = b.table := by rw [← hb1]
  have e2 : b1.execs = b.execs := by rw [← hb1]
  have e3 : b1.abandonOrder = b.abandonOrder := by rw [← hb1]
  have e4 : b1.now = b.now := by rw [← hb1]
  have hex : ∀ r, b1.exec r = b.exec r := by intro r; unfold Book.exec; rw [e2]
  obtain ⟨_, h2, _⟩ := sweepOne_spec b1
  rw [sweepOne_ao, e3]
  refine h.sweep1 hme hX hY heid (by show b1.sweepOne.execs.map wb = b.execs.map wb; rw [h2, e2]) hnow ?_
  intro p hp
  have hp1 : p ∈ b1.table := by rw [e1]; exact hp
  rcases sweepOne_min b1 p hp1 with hk | ⟨r, l, hao, hr⟩ | ⟨e, he, hle, hlt⟩
  · exact Or.inl hk
  · exact Or.inr (Or.inl ⟨r, l, by rw [← e3]; exact hao, hr⟩)
  · right; right
    rw [hex] at he
    have hem : e ∈ b.execs := List.mem_of_find?_eq_some he
    have her : e.rid = p.2 := by simpa using List.find?_some he
    refine ⟨wb e, List.mem_map_of_mem hem, her, by rw [e4] at hle; exact hle, ?_⟩
    intro p' hp' hnh hne eb' heb' hr' hd'
    obtain ⟨e', he', rfl⟩ := List.mem_map.mp heb'
    have hr'' : e'.rid = p'.2 := hr'
    have hfe : b.exec p'.2 = some e' := by
      have := find?_of_map_nodup (·.rid) hbnd he'
      unfold Book.exec
      rw [← hr'']
      exact this
    have hp1' : p' ∈ (so1 b1).table :=
      (so1_table_mem b1 p').mpr ⟨by rw [e1]; exact hp', fun r l hao => hnh r l (by rw [← e3]; exact hao)⟩
    exact hlt p' hp1' hne e' (by rw [hex]; exact hfe) (by rw [e4]; exact hd')

/-- the mode after the read of an iteration -/
def rdM (s : St) : Option Bool := if s.readFused then none else some false

theorem rdM_ne (s : St) : rdM s ≠ some true := by
  unfold rdM; split <;> intro h <;> cases h

theorem NZ_preRead {m : Option Bool} {s : St} (htp : b0.topPoll = true) (hm : m ≠ some false) (hf : s.readFused = false)
    (h : NZ b0 now none m rest s)
    (hme : m = some true → (bo b0 s.obs).spun = true ∨ (bo b0 s.obs).failed = true ∨ s.dropped = true ∨
      ME now (bw (bo b0 s.obs)) (bo b0 s.obs).abandonOrder (mv s))
    (hs : (bo b0 s.obs).spun = false) (hfl : (bo b0 s.obs).failed = false) (hd : s.dropped = false) :
    Z none (some false) (bw (preRead (bo b0 s.obs))) (preRead (bo b0 s.obs)).abandonOrder (mv (tNext s).1) := by
  have hmt : m = some true := by
    cases m with
    | none => have := h.fu rfl; rw [hf] at this; cases this
    | some b => cases b with
      | true => rfl
      | false => exact absurd rfl hm
  subst hmt
  obtain ⟨hK, hX, hY, hZ0⟩ := h.unesc hs hfl hd
  have hZ1 := Z_preRead (by rw [bo_topPoll]; exact htp) hZ0 (of_esc3 (hme rfl) hs hfl hd) hX hY (K_eid_mv hK) hK.clk (K_bnd hK)
  rw [mv_tNext]; exact hZ1.congr rfl rfl rfl

theorem NZ_tNext_other {m : Option Bool} {s : St} (htp : b0.topPoll = true) (hm : m ≠ some false)
    (hr : ∀ id tr, (tNext s).2 ≠ .item (.cancel id tr)) (h : NZ b0 now none m rest s)
    (hme : m = some true → (bo b0 s.obs).spun = true ∨ (bo b0 s.obs).failed = true ∨ s.dropped = true ∨
      ME now (bw (bo b0 s.obs)) (bo b0 s.obs).abandonOrder (mv s)) :
    NZ b0 now none (rdM s) rest (tNext s).1 := by
  have hny := (NY_tNext_other hr h.ny).1
  cases hf : s.readFused with
  | true =>
    have hrd : rdM s = none := by unfold rdM; rw [hf]; rfl
    rw [hrd, tNext_fused_eq s hf]
    exact h.forget hf
  | false =>
    have hrd : rdM s = some false := by unfold rdM; rw [hf]; rfl
    rw [hrd]
    have hobs := tNext_obs s hf
    refine ⟨hny, ?_, fun hc => (by cases hc), ?_⟩
    · rw [hobs]
      exact ⟨h.ck, Or.inr (chk11b_other _ _ (fun _ _ _ hc => by cases hc))⟩
    · rw [hobs, bo_cons, tNext_dropped]
      have hle := bw_step_tNext (bo b0 s.obs) (tid s) (tNext s).2
      refine esc3 fun hs hfl hd => ?_
      have hZ2 := NZ_preRead htp hm hf h hme (step_unspun hs) (hle.unfailed hfl) hd
      clear hs
      revert hfl
      rw [step_tNext_eq]
      cases hres : (tNext s).2 with
      | item msg =>
        cases msg with
        | cancel id tr => exact absurd hres (hr id tr)
        | request id d tr body => exact fun _ => hZ2.book rfl rfl
        | response id res => exact fun _ => hZ2
      | pending => exact fun _ => hZ2
      | err => exact (nofun : true = false → _)
      | eof => exact fun _ => hZ2.book rfl rfl


theorem Z_myB {pend : Option (Nat × Nat)} {m : Option Bool} {B B' : BW} {ao : List Nat} {s s' : St} (hm : MY s s')
    (h : Z pend m B ao (mv s)) (hBe : B'.execs = B.execs)
    (hBt : ∀ p ∈ B.table, (∃ en' ∈ s'.inflight, en'.id = p.1) → p ∈ B'.table) : Z pend m B' ao (mv s') := by
  obtain ⟨g, hg, hid⟩ := hm.ex
  refine h.model (fun r i ⟨eb, h1, h2⟩ => ⟨eb, by rw [hBe]; exact h1, h2⟩) ?_ s.execs ye (ye ∘ g) rfl
    (by show s'.execs.map ye = _; rw [hg, List.map_map]) (fun a _ => ⟨(hid a).1, (hid a).2.2.1⟩) ?_ (fun _ => hm.cq)
  · intro p hp ⟨en', hen', hi⟩
    obtain ⟨e0, he0, rfl⟩ := List.mem_map.mp hen'
    exact hBt p hp ⟨e0, he0, hi⟩
  · intro en' hen'
    obtain ⟨e0, he0, rfl⟩ := List.mem_map.mp hen'
    exact List.mem_map_of_mem (hm.ents e0 he0)

theorem cancelRequest_ents (s : St) (id : Nat) : ∀ en ∈ (cancelRequest s id).1.inflight, en.id ≠ id := by
  intro en hen
  rcases cancelRequest_eff s id with ⟨hf, h2⟩ | ⟨en', _, _, h3⟩
  · rw [h2] at hen; exact findEntry_none hf en hen
  · rw [h3] at hen; simpa using (List.mem_filter.mp hen).2

theorem NZ_cancel {m : Option Bool} {s : St} (htp : b0.topPoll = true) (hm : m ≠ some false)
    (ht : TInv now (tNext s).1) (id : Nat) (tr : Trace)
    (hr : (tNext s).2 = .item (.cancel id tr)) (h : NZ b0 now none m rest s)
    (hme : m = some true → (bo b0 s.obs).spun = true ∨ (bo b0 s.obs).failed = true ∨ s.dropped = true ∨
      ME now (bw (bo b0 s.obs)) (bo b0 s.obs).abandonOrder (mv s)) :
    NZ b0 now none (rdM s) rest (cancelRequest (tNext s).1 id).1 := by
  have hf : s.readFused = false := by
    cases hf : s.readFused with
    | false => rfl
    | true => rw [tNext_fused_eq s hf] at hr; cases hr
  have hrd : rdM s = some false := by unfold rdM; rw [hf]; rfl
  rw [hrd]
  have hobs := tNext_obs s hf
  have hck3 : CK chk11b b0 (tNext s).1.obs := by
    rw [hobs]
    exact ⟨h.ck, Or.inr (chk11b_other _ _ (fun _ _ _ hc => by cases hc))⟩
  have hx := extW_cancelRequest (tNext s).1 id
  refine ⟨NY_cancel ht id tr hr h.ny, CK11b.extW hx hck3, fun hc => (by cases hc), ?_⟩
  have hdr : (cancelRequest (tNext s).1 id).1.dropped = s.dropped := by
    have : (cancelRequest (tNext s).1 id).1.dropped = (tNext s).1.dropped := by
      rcases cancelRequest_out (tNext s).1 id with ⟨_, he⟩ | ⟨e, _, he⟩ <;> rw [he]
      simp
    rw [this, tNext_dropped]
  rw [hdr]
  refine esc3 fun hs hfl hd => ?_
  obtain ⟨hs3, hv5, hle5⟩ := bo_extW_unspun b0 hx hs
  have hfl3 := hle5.unfailed hfl
  rw [hobs] at hs3 hfl3
  have hZ2 := NZ_preRead htp hm hf h hme (bo_cons_unspun hs3)
    ((bw_step_tNext (bo b0 s.obs) (tid s) (tNext s).2).unfailed hfl3) hd
  have hao : (bo b0 (cancelRequest (tNext s).1 id).1.obs).abandonOrder = (bo b0 (tNext s).1.obs).abandonOrder :=
    congrArg BV.ao hv5
  have htb : (bo b0 (cancelRequest (tNext s).1 id).1.obs).table = (bo b0 (tNext s).1.obs).table :=
    congrArg BV.table hv5
  rw [hao]
  refine Z.book ?_ hle5.execs htb
  obtain ⟨e1, e2⟩ := bw_step_tNext_cancel (bo b0 s.obs) (tid s) id tr
  rw [hobs, bo_cons, hr, e1, e2]
  refine Z_myB (my_cancelRequest (tNext s).1 id) hZ2 rfl (fun p hp ⟨en', hen', hi⟩ => ?_)
  refine List.mem_filter.mpr ⟨hp, ?_⟩
  have := cancelRequest_ents (tNext s).1 id en' hen'
  rw [hi] at this
  simpa using this

/-! ### a request is started -/

theorem NZ_startRequest {m : Option Bool} {s : St} (hm : m ≠ some true) (id d : Nat) (tr : Trace) (b : Nat)
    (h : NZ b0 now none m rest s)
    (hnd : (bo b0 s.obs).spun = true ∨
      (((mv s).execs.map (·.id) ++ id :: (inbIds (mv s).inb ++ rest)).Nodup ∧ d ≤ clampNs)) :
    NZ b0 now (startedOf (startRequest s now id d tr b)) m rest (startRequest s now id d tr b).1 := by
  have hny := NY_startRequest id d tr b h.ny hnd
  have hfu : s.readFused = true → (startRequest s now id d tr b).1.readFused = true :=
    (fused_closed now).start s id d tr b
  have hdd := (dd_closed s.done s.dropped now).start s id d tr b ⟨rfl, rfl⟩
  rcases startRequest_effT s now id d tr b with ⟨h1, h2⟩ | ⟨ex, h1, hr, hi, z, hz1, hz2, _, _, hmv⟩
  · rw [startedOf, h1]
    exact NZ_qm h2 hfu h
  · rw [startedOf, h1] at hny ⊢
    show NZ b0 now (some (ex.rid, ex.id)) m rest _
    have hny' : NY b0 now (some (ex.rid, ex.id)) rest (startRequest s now id d tr b).1 := hny
    refine NZ_model (extW_startRequest s now id d tr b) hny' (fun hc => hfu (h.fu hc))
      (fun hd => by rw [hdd.2]; exact hd) (fun hK hX hY hZ => ?_) h
    obtain ⟨hfx, hfe⟩ := K_fresh hK
    rw [hr, hi, hmv]
    exact hZ.start hm ⟨s.execs.length, id, d, none, true, false, false⟩ z hz2 hfx hfe


/-! ### one iteration of the channel's loop, the loop -/

theorem popM_ne (m : Option Bool) : popM m ≠ some false := by
  cases m <;> intro h <;> cases h

/-- `NZ` in a mode that lets the next read start -/
def NZr (b0 : Book) (now : Nat) (rest : List Nat) (pend : Option (Nat × Nat)) (s : St) : Prop :=
  ∃ m, m ≠ some true ∧ NZ b0 now pend m rest s

/-- `NZ` in any mode (what is left when the channel is poisoned) -/
def NZs (b0 : Book) (now : Nat) (rest : List Nat) (s : St) : Prop := ∃ m, NZ b0 now none m rest s

/-- after the expiries: `NZ` in a mode that lets the read go on, and `ME` if the queue's head was taken -/
def NZe (b0 : Book) (now : Nat) (rest : List Nat) (s : St) : Prop :=
  ∃ m, m ≠ some false ∧ NZ b0 now none m rest s ∧
    (m = some true → s.poisoned = false → (bo b0 s.obs).spun = true ∨ (bo b0 s.obs).failed = true ∨ s.dropped = true ∨
      ME now (bw (bo b0 s.obs)) (bo b0 s.obs).abandonOrder (mv s))

theorem NZ_stagedRead (hf : ClampFits) (hn : now < panicFreeNs) (htp : b0.topPoll = true) :
    StagedRead now (fun s => SInv false now s ∧ QC now s ∧ SQ s) (NZr b0 now rest none)
      (fun s => ∃ m, m ≠ some false ∧ NZ b0 now none m rest s) (NZe b0 now rest) (NZr b0 now rest none) (NZr b0 now rest)
      (fun s i d _ _ => (bo b0 s.obs).spun = true ∨
        (((mv s).execs.map (·.id) ++ i :: (inbIds (mv s).inb ++ rest)).Nodup ∧ d ≤ clampNs)) where
  bpCancel := fun _ _ ⟨m, hm, h⟩ => ⟨popM m, popM_ne m, NZ_bpCancel hm h⟩
  expire := fun s hi ⟨m, hm, h⟩ =>
    have h2 := NZ_pollExpired hf hn hi.1.t ((sinv_closed false now).expire s hi.1).t hi.2.1 hi.2.2 h
    ⟨m, hm, h2.1, h2.2⟩
  read := fun s _ hp hr ⟨_, hm, h, hme⟩ =>
    ⟨⟨rdM s, rdM_ne s, NZ_tNext_other htp hm hr h (fun hmm => hme hmm hp)⟩, (NY_tNext_other hr h.ny).2⟩
  cancel := fun s id tr hi hp hr ⟨_, hm, h, hme⟩ =>
    ⟨rdM s, rdM_ne s, NZ_cancel htp hm ((sinv_closed false now).tNext s hi.1).t id tr hr h (fun hmm => hme hmm hp)⟩
  start := fun _ id d tr b _ ⟨m, hm, h⟩ hside => ⟨m, hm, NZ_startRequest hm id d tr b h hside⟩

theorem NZ_bpStep (hf : ClampFits) (hn : now < panicFreeNs) {m : Option Bool} {s : St} (htp : b0.topPoll = true)
    (hm : m ≠ some true) (hs : SInv false now s) (hq : QC now s) (hsq : SQ s) (h : NZ b0 now none m rest s) :
    PostRdO (NZr b0 now rest none) (NZs b0 now rest) (NZr b0 now rest) (bpStep s now) :=
  (NZ_stagedRead hf hn htp).bpStep
    ((sinv_closed false now).toLoopClosed.and ((qc_closed hf now).toLoopClosed.and (sq_closed now).toLoopClosed))
    (fun _ ⟨m, _, h, _⟩ => ⟨m, h⟩) (fun _ h => h) (fun _ ⟨m, _, h⟩ => ⟨m, h⟩) (fun _ h => h) (fun _ ⟨m, _, h⟩ => ⟨m, h⟩)
    (fun _ h => h) s ⟨hs, hq, hsq⟩ ⟨m, hm, h⟩


/-! ## the write side: a transport failure is recorded by the book -/

theorem step_failed_extW (b : Book) (o : Obs) (hc : isCore o = false) (ho : isOut o = false)
    (h : b.spun = true ∨ b.failed = true) : (b.step (.obs o)).spun = true ∨ (b.step (.obs o)).failed = true := by
  rcases h with h | h
  · exact Or.inl (step_spun_mono _ _ h)
  · exact Or.inr ((stepW b o hc ho).failed h)

theorem bo_failed_mem (b0 : Book) (base : List Obs) : ∀ (l : List Obs), (∀ o ∈ l, isCore o = false ∧ isOut o = false) →
    ∀ o ∈ l, ((∃ ep, o = .tReady ep .err) ∨ (∃ ep, o = .tFlush ep .err)) →
    (bo b0 (l ++ base)).spun = true ∨ (bo b0 (l ++ base)).failed = true := by
  intro l
  induction l with
  | nil => intro _ o ho; cases ho
  | cons o' l ih =>
    intro hl o ho hk
    rw [List.cons_append, bo_cons]
    rcases List.mem_cons.mp ho with rfl | ho'
    · rcases hk with ⟨ep, rfl⟩ | ⟨ep, rfl⟩
      · obtain ⟨st, bl, e⟩ := step_tReady (bo b0 (l ++ base)) ep .err
        exact Or.inr (by rw [e]; rfl)
      · exact Or.inr (by rw [step_tFlush]; rfl)
    · exact step_failed_extW _ o' (hl o' (List.mem_cons_self ..)).1 (hl o' (List.mem_cons_self ..)).2
        (ih (fun o1 h1 => hl o1 (List.mem_cons_of_mem _ h1)) o ho' hk)

theorem failed_of_shape (b0 : Book) {s s' : St} (hx : ExtW s s') (a : Activity) (hsh : fails s' = a :: fails s)
    (ha : a = .ready ∨ a = .flush) : (bo b0 s'.obs).spun = true ∨ (bo b0 s'.obs).failed = true := by
  obtain ⟨l, e, p⟩ := hx
  have h1 : l.filterMap failOf = [a] := by
    unfold fails at hsh
    rw [e, List.filterMap_append] at hsh
    exact List.append_cancel_right (hsh.trans (List.singleton_append).symm)
  have h2 : a ∈ l.filterMap failOf := by rw [h1]; exact List.mem_singleton.mpr rfl
  obtain ⟨o, ho, hfo⟩ := List.mem_filterMap.mp h2
  rw [e]
  refine bo_failed_mem b0 s.obs l p o ho ?_
  cases o with
  | tReady ep r =>
    cases r with
    | err => exact Or.inl ⟨ep, rfl⟩
    | _ => cases hfo
  | tFlush ep r =>
    cases r with
    | err => exact Or.inr ⟨ep, rfl⟩
    | _ => cases hfo
  | tNext ep r =>
    exfalso
    have := (p _ ho).1
    cases this
  | tSend ep msg ok =>
    exfalso
    cases ok with
    | true => cases hfo
    | false =>
      have : a = .write := by
        have : failOf (.tSend ep msg false) = some .write := rfl
        rw [this] at hfo
        exact (Option.some.inj hfo).symm
      rcases ha with h | h <;> rw [h] at this <;> cases this
  | _ => cases hfo

theorem ensureOnce_err (s : St) (a : Activity) (h : (ensureOnce s).2 = .err a) : a = .ready ∨ a = .flush := by
  have ho := ensureOnce_out s
  generalize ensureOnce s = p at ho h
  cases ho <;> first | (cases h; exact Or.inl rfl) | (cases h; exact Or.inr rfl) | cases h

theorem flushArm_err (s : St) (rc : Bool) (a : Activity) (h : (flushArm s rc).2 = .err a) : a = .flush := by
  rw [flushArm_eq] at h
  dsimp only at h
  split at h
  · cases h
  · cases h; rfl
  · split at h <;> cases h

theorem NZ_armRead {pend : Option (Nat × Nat)} {m : Option Bool} {s : St} (r : SPoll Exec) (h : NZ b0 now pend m rest s) :
    NZ b0 now pend m rest (armRead s r) := by
  have hx := extW_armRead s r
  exact NZ_model hx (NY_armRead r h.ny) (fun hc => by rw [armRead_readFused]; exact h.fu hc)
    (fun hd => by rw [armRead_dropped]; exact hd) (fun _ _ _ hZ => Z_my (my_armRead s r) hZ) h

theorem step_tSend_bw (b : Book) (ep : TaskId) (id : Nat) (res : Res) (ok : Bool) :
    (bw (b.step (.obs (.tSend ep (.response id res) ok)))).execs = (bw b).execs ∧
    (b.step (.obs (.tSend ep (.response id res) ok))).table = b.table.filter (·.1 != id) ∧
    (b.step (.obs (.tSend ep (.response id res) ok))).abandonOrder = b.abandonOrder ∧
    (ok = false → (b.step (.obs (.tSend ep (.response id res) ok))).failed = true) := by
  cases ok
  · exact ⟨rfl, rfl, rfl, fun _ => rfl⟩
  · exact ⟨rfl, rfl, rfl, fun h => by cases h⟩

theorem NZ_baseStartSend {pend : Option (Nat × Nat)} {m : Option Bool} {s : St} (id : Nat) (res : Res)
    (h : NZ b0 now pend m rest s)
    (hd : (bo b0 s.obs).spun = true ∨ ∀ x ∈ (mv s).execs, x.id = id → x.live = false) :
    NZ b0 now pend m rest (baseStartSend s id res).1 ∧
    ((baseStartSend s id res).2 = some false →
      (bo b0 (baseStartSend s id res).1.obs).spun = true ∨ (bo b0 (baseStartSend s id res).1.obs).failed = true) := by
  have hny := NY_baseStartSend id res h.ny hd
  have hfu : s.readFused = true → (baseStartSend s id res).1.readFused = true :=
    (fused_closed now).toStepClosed.baseStartSend s id res
  have hdd := ((dd_closed s.done s.dropped now).toStepClosed.baseStartSend s id res ⟨rfl, rfl⟩).2
  refine baseStartSend_walk (C := fun p => NZ b0 now pend m rest p.1 ∧
      (p.2 = some false → (bo b0 p.1.obs).spun = true ∨ (bo b0 p.1.obs).failed = true)) s id res
    ⟨h, fun hc => by cases hc⟩ (fun sA s0 hA htrue hx0 hmvA hobs hv heq => ?_)
  rw [heq] at hny hfu hdd
  simp only at hny hfu hdd ⊢
  obtain ⟨t1, t2, t3, t4⟩ := step_tSend_bw (bo b0 s0.obs) (tid sA) id res (tSend sA (.response id res)).2
  have hleS := bw_step_tSend (bo b0 s0.obs) (tid sA) id res (tSend sA (.response id res)).2
  refine ⟨⟨hny, ?_, fun hc => hfu (h.fu hc), ?_⟩, ?_⟩
  · rw [hobs]
    exact ⟨CK11b.extW hx0 h.ck, Or.inr (chk11b_other _ _ (fun _ _ _ hc => by cases hc))⟩
  · rw [hdd, hobs, bo_cons]
    refine esc3 fun hs hfl hd' => ?_
    obtain ⟨hs0, hv0, hle0⟩ := bo_extW_unspun b0 hx0 (step_unspun hs)
    obtain ⟨_, _, _, hZ0⟩ := h.unesc hs0 (hle0.unfailed (hleS.unfailed hfl)) hd'
    have hao : (bo b0 s0.obs).abandonOrder = (bo b0 s.obs).abandonOrder := congrArg BV.ao hv0
    have htb : (bo b0 s0.obs).table = (bo b0 s.obs).table := congrArg BV.table hv0
    rw [t3, hv, hmvA, show mv sA = (mv s).forget id from hA ▸ mv_removeRequest s id, hao]
    refine hZ0.forgetId id (t1.trans hle0.execs) (fun p hp hne => ?_)
    show p ∈ ((bo b0 s0.obs).step _).table
    rw [t2, htb]
    exact List.mem_filter.mpr ⟨hp, by simpa using hne⟩
  · intro hok
    have hok' : (tSend sA (.response id res)).2 = false := by
      have := Option.some.inj hok
      exact this
    right
    rw [hobs, bo_cons]
    exact t4 hok'

theorem NZ_pumpWrite {pend : Option (Nat × Nat)} {m : Option Bool} {s : St} (hel : s.ensureLoop = false) (rc : Bool)
    (h : NZ b0 now pend m rest s) :
    NZ b0 now pend m rest (pumpWrite s rc).1 ∧
    (∀ a, (pumpWrite s rc).2 = .err a →
      (bo b0 (pumpWrite s rc).1.obs).spun = true ∨ (bo b0 (pumpWrite s rc).1.obs).failed = true) := by
  have hfuW : s.readFused = true → (ensureWriteable s).1.readFused = true :=
    (fused_closed now).toLoopClosed.ensureWriteable s
  have hfuF : ∀ s1 : St, s1.readFused = true → (flushArm s1 rc).1.readFused = true :=
    fun s1 => (fused_closed now).toStepClosed.flushArm s1 rc
  have hew : ensureWriteable s = ensureOnce s := by unfold ensureWriteable; rw [hel]; rfl
  have h1 := NZ_qm (qm_ensureWriteable s) hfuW h
  have hsh := ensureWriteable_shape s
  have hxw : ExtW s (ensureWriteable s).1 := (qm_ensureWriteable s).1
  have hek : ∀ a, (ensureWriteable s).2 = .err a → a = .ready ∨ a = .flush := by
    intro a ha; rw [hew] at ha; exact ensureOnce_err s a ha
  -- a flush after the queue was found blocked or empty: a failure is one of `poll_flush`
  have hflush : ∀ (s1 : St) (w : Bool), NZ b0 now pend m rest s1 →
      NZ b0 now pend m rest (flushArm { s1 with rqRxWaker := w } rc).1 ∧ ∀ a, (flushArm { s1 with rqRxWaker := w } rc).2 = .err a →
        (bo b0 (flushArm { s1 with rqRxWaker := w } rc).1.obs).spun = true ∨
          (bo b0 (flushArm { s1 with rqRxWaker := w } rc).1.obs).failed = true := by
    intro s1 w h1
    have hq' : QM s1 (flushArm { s1 with rqRxWaker := w } rc).1 := (qm_flushArm _ _).pre rfl rfl
    refine ⟨NZ_qm (s := s1) hq' (fun hf => hfuF { s1 with rqRxWaker := w } hf) h1, fun a ha => ?_⟩
    have hs2 := flushArm_shape { s1 with rqRxWaker := w } rc
    rw [ha] at hs2
    exact failed_of_shape b0 (s := s1) hq'.1 a hs2 (Or.inr (flushArm_err _ rc a ha))
  have hsend : ∀ (s1 : St) (id : Nat) (res : Res) (l : List (Nat × Res)), s1.respQ = (id, res) :: l → NZ b0 now pend m rest s1 →
      NZ b0 now pend m rest (baseStartSend (rqRelease { s1 with respQ := l }) id res).1 ∧
      ((baseStartSend (rqRelease { s1 with respQ := l }) id res).2 = some false →
        (bo b0 (baseStartSend (rqRelease { s1 with respQ := l }) id res).1.obs).spun = true ∨
          (bo b0 (baseStartSend (rqRelease { s1 with respQ := l }) id res).1.obs).failed = true) := by
    intro s1 id res l hq h1
    have hrel := qm_rqRelease { s1 with respQ := l }
    have h2 : NZ b0 now pend m rest (rqRelease { s1 with respQ := l }) :=
      NZ_model (s := s1) (Adds.after hrel.1 rfl) (NY_popRq (fun p hp => hq ▸ List.mem_cons_of_mem _ hp) h1.ny)
        (fun hm => (fused_closed now).toExecClosed.rqRelease _ (h1.fu hm))
        (fun hd => (congrArg MV.dropped hrel.2).trans hd) (fun _ _ _ hZ => hrel.2 ▸ hZ.congr rfl rfl rfl) h1
    exact NZ_baseStartSend id res h2 (rq_head_dead h1.ny.nn hq)
  have ho := pumpWrite_out s rc
  generalize pumpWrite s rc = q at ho ⊢
  cases ho with
  | blocked s1 he => rw [he] at h1; exact hflush s1 s1.rqRxWaker h1
  | err s1 a he =>
    rw [he] at h1 hsh hxw hek
    exact ⟨h1, fun a' ha' => by cases ha'; exact failed_of_shape b0 hxw a hsh (hek a rfl)⟩
  | spin s1 he => rw [he] at h1; exact ⟨h1, fun a ha => by cases ha⟩
  | idle s1 he hq => rw [he] at h1; exact hflush s1 true h1
  | sent s1 id res l he hq hs => rw [he] at h1; exact ⟨(hsend s1 id res l hq h1).1, fun a ha => by cases ha⟩
  | sendErr s1 id res l he hq hs => rw [he] at h1; exact ⟨(hsend s1 id res l hq h1).1, fun a _ => (hsend s1 id res l hq h1).2 hs⟩

theorem NZ_dropOffered {m : Option Bool} {s : St} (rid id : Nat) (h : NZ b0 now (some (rid, id)) m rest s)
    (hfail : (bo b0 s.obs).spun = true ∨ (bo b0 s.obs).failed = true) :
    NZ b0 now none m rest (dropOffered s rid id) := by
  have hx := (dropOffered_eff s rid id).1
  refine ⟨NY_dropOffered rid id h.ny, CK11b.extW hx h.ck,
    fun hc => (fused_closed now).toStepClosed.dropOffered s rid id (h.fu hc), unspun_or fun hs => ?_⟩
  obtain ⟨hs0, _, hle⟩ := bo_extW_unspun b0 hx hs
  exact Or.inl (hle.failed (of_unspun hfail hs0))

/-! ## `Requests::poll_next` (no limiter) -/

/-- `NZ` in a mode that lets a read start, the pending request's guard armed -/
def NZa (b0 : Book) (now : Nat) (rest : List Nat) (pend : Option (Nat × Nat)) (s : St) : Prop :=
  ∃ m, m ≠ some true ∧ NZ b0 now pend m rest s ∧ ArmedP pend (mv s)

abbrev PostRqZ (b0 : Book) (now : Nat) (rest : List Nat) : St × ReqPoll → Prop := PostRq (NZs b0 now rest) (NZa b0 now rest)

theorem NZ_requestsPollNext (hf : ClampFits) (hn : now < panicFreeNs) (htp : b0.topPoll = true) (fuel : Nat) (s : St)
    (m : Option Bool) (hm : m ≠ some true) (hs : SInv false now s) (hq : QC now s) (hsq : SQ s)
    (h : NZ b0 now none m rest s) (hl : s.limit = none) (hel : s.ensureLoop = false) :
    PostRqZ b0 now rest (requestsPollNext fuel s now) := by
  have hI := (((sinv_closed false now).toLoopClosed.and (qc_closed hf now).toLoopClosed).and
    (sq_closed now).toLoopClosed).and (cfg_closed s now).toLoopClosed
  have hspin : ∀ x, NZr b0 now rest none x → NZs b0 now rest (emit x (.spin (tid x))) :=
    fun x ⟨m, _, h⟩ => ⟨m, NZ_qm (QM.emit x _ rfl rfl) (fun h => h) h⟩
  exact requestsPollNext_walk (Q := NZa b0 now rest)
    hI (fun x hx => ⟨hx.2.2.1.trans hl, hx.2.2.2.1.trans hel⟩) hspin
    (basePollNext_walk hI hspin (fun x hx ⟨m, hm, h⟩ => NZ_bpStep hf hn htp hm hx.1.1.1 hx.1.1.2 hx.1.2 h))
    (fun x ⟨m, hm, h⟩ => ⟨m, hm, h, trivial⟩)
    ⟨fun x r _ ⟨m, hm, h⟩ => ⟨m, hm, NZ_armRead r h, armedP_armRead x r⟩,
     fun x rc pend hx ⟨m, hm, h, ha⟩ => ⟨m, hm, (NZ_pumpWrite (hx.2.2.2.1.trans hel) rc h).1, armedP_pumpWrite rc ha⟩,
     fun x rc rid id a hx ⟨m, hm, h, _⟩ he =>
      have hp := NZ_pumpWrite (b0 := b0) (now := now) (rest := rest) (hx.2.2.2.1.trans hel) rc h
      ⟨m, hm, NZ_dropOffered rid id hp.1 (hp.2 a he), trivial⟩,
     fun x ⟨m, hm, h, _⟩ => ⟨m, hm, h⟩⟩
    fuel s ⟨⟨⟨hs, hq⟩, hsq⟩, rfl, rfl, rfl, rfl⟩ ⟨m, hm, h⟩

/-! ## the end of a poll: the request is handed out; `ret`, `counts` -/

theorem NZ_yield {m : Option Bool} {s : St} {rid id : Nat} {e : Exec} (hm : m ≠ some true) (hg : getExec s rid = some e)
    (ht : TInv now s) (h : NZ b0 now (some (rid, id)) m rest s) (harm : ArmedV rid (mv s)) :
    NZ b0 now none m rest (emit (updExec { s with nextVis := s.nextVis + 1 } rid (fun x => { x with vis := some s.nextVis }))
      (.yielded s.nextVis e.id e.deadline e.trace)) := by
  obtain ⟨hem, her⟩ := getExec_mem hg
  refine ⟨NY_yield hg ht h.ny harm, ⟨h.ck, Or.inr (chk11b_other _ _ (fun _ _ _ hc => by cases hc))⟩, h.fu, ?_⟩
  show ((bo b0 s.obs).step (.obs (.yielded s.nextVis e.id e.deadline e.trace))).spun = true ∨
    ((bo b0 s.obs).step (.obs (.yielded s.nextVis e.id e.deadline e.trace))).failed = true ∨ s.dropped = true ∨ _
  refine esc3 fun hs hfl hd => ?_
  obtain ⟨hK, _, hY, hZ⟩ := h.unesc (step_unspun hs) hfl hd
  obtain ⟨hid, _, _, _⟩ := yield_eff hg hK
  show Z none m (bw ((bo b0 s.obs).step (.obs (.yielded s.nextVis e.id e.deadline e.trace))))
    (bo b0 s.obs).abandonOrder _
  rw [mv_yield, bw_step_yielded, hid]
  refine hZ.yield hm e.deadline ?_ ?_
  · intro en hen hr
    obtain ⟨en0, hen0, rfl⟩ := List.mem_map.mp hen
    have := K_eid_st hK en0 hen0 e hem (her.trans hr.symm)
    exact this.symm.trans hid
  · intro en hen hr hi
    obtain ⟨en0, hen0, rfl⟩ := List.mem_map.mp hen
    obtain ⟨⟨en1, hen1, hen1i, hen1r, _⟩, _⟩ := hY.pnd rid id rfl
    obtain ⟨en1', hen1', rfl⟩ := List.mem_map.mp hen1
    have : en0 = en1' := eq_of_map_nodup (f := (·.id)) ht.ids hen0 hen1' (hi.trans hen1i.symm)
    rw [this] at hr
    exact hr hen1r

theorem Z_ret_aux {pend : Option (Nat × Nat)} {m : Option Bool} {b1 : Book} {S : MV} (c : Bool) (hm : m ≠ some true)
    (h : Z pend m (bw b1) b1.abandonOrder S)
    (hk : c = true → S.cq = [] ∧ ∀ p ∈ b1.table, (∃ en ∈ S.ents, en.id = p.1) → p ∈ (sweptBook b1 (some b1.now)).table) :
    Z pend m (bw (if c then sweptBook b1 (some b1.now) else b1))
      (if c then sweptBook b1 (some b1.now) else b1).abandonOrder S := by
  cases c
  · exact h
  · obtain ⟨hcq, hkeep⟩ := hk rfl
    refine ⟨?_, ?_⟩
    · intro en hen x hx hr
      rcases h.sub en hen x hx hr with hp | ⟨v, hv, ht⟩
      · exact Or.inl hp
      · exact Or.inr ⟨v, hv, hkeep _ ht ⟨en, hen, rfl⟩⟩
    · intro pop hp
      cases pop with
      | true => exact absurd hp hm
      | false =>
        show All2 _ [] S.cq
        rw [hcq]; exact .nil

theorem Z_step_ret {pend : Option (Nat × Nat)} {m : Option Bool} {b : Book} {S : MV} (k : Nat) (r : Ret) (hm : m ≠ some true)
    (h : Z pend m (bw b) b.abandonOrder S)
    (hk : (r = .pending ∨ r = .readyNone) → S.cq = [] ∧ ∀ b1' : Book, b1'.execs = b.execs → b1'.table = b.table →
      b1'.now = b.now → ∀ p ∈ b1'.table, (∃ en ∈ S.ents, en.id = p.1) → p ∈ (sweptBook b1' (some b1'.now)).table) :
    Z pend m (bw (b.step (.obs (.ret (.server k) r)))) (b.step (.obs (.ret (.server k) r))).abandonOrder S := by
  rw [step_ret_eq]
  have hle : ∀ b1 : Book, b1.execs = b.execs → b1.table = b.table → b1.abandonOrder = b.abandonOrder →
      Z pend m (bw b1) b1.abandonOrder S := by
    intro b1 h2 h3 h4
    rw [h4]
    exact h.book (congrArg (List.map wb) h2) h3
  cases r with
  | pending =>
    exact Z_ret_aux _ hm (hle _ rfl rfl rfl) (fun _ => ⟨(hk (Or.inl rfl)).1, (hk (Or.inl rfl)).2 _ rfl rfl rfl⟩)
  | readyNone =>
    exact Z_ret_aux _ hm (hle _ rfl rfl rfl) (fun _ => ⟨(hk (Or.inr rfl)).1, (hk (Or.inr rfl)).2 _ rfl rfl rfl⟩)
  | readyItem => exact Z_ret_aux _ hm (hle _ rfl rfl rfl) (fun hc => by simp at hc)
  | readyItemErr a => exact Z_ret_aux _ hm (hle _ rfl rfl rfl) (fun hc => by simp at hc)
  | readyOk => exact Z_ret_aux _ hm (hle _ rfl rfl rfl) (fun hc => by simp at hc)
  | readyErr a => exact Z_ret_aux _ hm (hle _ rfl rfl rfl) (fun hc => by simp at hc)

theorem chk11b_counts (b' : Book) (k a t : Nat) (h : b'.failed = true ∨ a ≤ b'.table.length) :
    chk11b b' (.counts (.server k) a t) = none := by
  unfold chk11b
  simp only [checkC11Bound]
  rw [if_neg]
  rcases h with h | h
  · simp [h]
  · simp only [Bool.and_eq_true, Bool.not_eq_true', decide_eq_true_eq, not_and]
    intro _; omega

theorem step_ret_failed (b : Book) (k : Nat) (r : Ret) (h : b.failed = true) :
    (b.step (.obs (.ret (.server k) r))).failed = true := by
  rw [step_ret_eq]
  cases r <;> (simp only; split <;> exact h)

theorem NZ_fin {m : Option Bool} {s1 : St} (rt : Ret) (hm : m ≠ some true) (h1 : NZ b0 now none m rest s1)
    (ht1 : TInv now s1) (hdr : s1.dropped = false)
    (hny : NY b0 now none rest (emit (emit s1 (.ret (tid s1) rt)) (.counts (tid s1) s1.inflight.length s1.timers.len)))
    (hidle : (rt = .pending ∨ rt = .readyNone) → DelayQ.Idle now s1.timers ∧ s1.cancelQ = []) :
    NZ b0 now none m rest (emit (emit s1 (.ret (tid s1) rt)) (.counts (tid s1) s1.inflight.length s1.timers.len)) := by
  have hz : ((bo b0 s1.obs).step (.obs (.ret (tid s1) rt))).spun = false →
      ((bo b0 s1.obs).step (.obs (.ret (tid s1) rt))).failed = false →
      X rest (bw (bo b0 s1.obs)) (mv s1) ∧
      Z none m (bw ((bo b0 s1.obs).step (.obs (.ret (tid s1) rt))))
        ((bo b0 s1.obs).step (.obs (.ret (tid s1) rt))).abandonOrder (mv s1) := by
    intro hs hfl
    obtain ⟨hK, hX, hY, hZ⟩ := h1.unesc (step_unspun hs) (eq_false_of_imp (step_ret_failed _ s1.sidx rt) hfl) hdr
    refine ⟨hX, Z_step_ret s1.sidx rt hm hZ (fun hr => ?_)⟩
    obtain ⟨hi, hcq⟩ := hidle hr
    exact ⟨hcq, fun b1' he htb hnw => idle_keep (some b1'.now) hK hX hY he htb hnw (idle_mv ht1 hi) hcq hdr⟩
  refine ⟨hny, ?_, h1.fu, ?_⟩
  · rw [emit_obs, emit_obs]
    refine ⟨⟨h1.ck, Or.inr (chk11b_other _ _ (fun _ _ _ hc => by cases hc))⟩, ?_⟩
    rw [bo_cons]
    refine unspun_or fun hs => ?_
    cases hfl : ((bo b0 s1.obs).step (.obs (.ret (tid s1) rt))).failed with
    | true => exact chk11b_counts _ s1.sidx _ _ (Or.inl hfl)
    | false =>
      · obtain ⟨hX, hZ⟩ := hz hs hfl
        refine chk11b_counts _ s1.sidx _ _ (Or.inr ?_)
        have hnd : ((mv s1).ents.map (·.id)).Nodup := by
          have := ht1.ids
          have heq : (mv s1).ents.map (·.id) = s1.inflight.map (·.id) := by simp only [mv, List.map_map]; rfl
          rw [heq]; exact this
        have hcnt : (mv s1).ents.length ≤ (bw ((bo b0 s1.obs).step (.obs (.ret (tid s1) rt)))).table.length := by
          have h1' : ∀ a ∈ (mv s1).ents.map (·.id),
              a ∈ (bw ((bo b0 s1.obs).step (.obs (.ret (tid s1) rt)))).table.map (·.1) := by
            intro a ha
            obtain ⟨en, hen, rfl⟩ := List.mem_map.mp ha
            obtain ⟨x, hx, hr⟩ := hX.esrc en hen
            rcases hZ.sub en hen x hx hr with ⟨i, hp⟩ | ⟨v, _, ht⟩
            · cases hp
            · exact List.mem_map.mpr ⟨_, ht, rfl⟩
          have := hnd.length_le_of_subset h1'
          simpa using this
        have hl : (mv s1).ents.length = s1.inflight.length := by simp [mv]
        rw [← hl]; exact hcnt
  · rw [bo_fin]
    exact esc3 fun hs hfl _ => (hz hs hfl).2


theorem PostRqZ.toY {s : St} {r : ReqPoll} (h : PostRqZ b0 now rest (s, r)) : PostRqY b0 now rest (s, r) :=
  h.imp (fun _ ⟨_, h⟩ => h.ny) (fun _ _ ⟨_, _, h, ha⟩ => ⟨h.ny, ha⟩)

theorem NZ_pskFinish {s : St} {r : ReqPoll} (ht : TInv now s) (h : PostRqZ b0 now rest (s, r)) (hsp : r ≠ .spin)
    (hbl : BL b0) (hnr : ∀ o ∈ s.obs, ∀ k r, o ≠ .ret (.server k) r) (hdr : s.dropped = false)
    (hidle : (r = .pending ∨ r = .none) → DelayQ.Idle now s.timers ∧ s.cancelQ = []) :
    ∃ m, m ≠ some true ∧ NZ b0 now none m rest (pskFinish s r) := by
  have hny := NY_pskFinish ht h.toY hsp hbl hnr (fun hr => ⟨(hidle hr).1, (hidle hr).2, hdr⟩)
  cases r with
  | pending =>
    obtain ⟨m, hm, h1, _⟩ := h
    exact ⟨m, hm, NZ_fin .pending hm h1 ht hdr hny (fun _ => hidle (Or.inl rfl))⟩
  | spin => exact absurd rfl hsp
  | none =>
    obtain ⟨m, hm, h0, _⟩ := h
    have h1 : NZ b0 now none m rest { s with done := some .readyNone } :=
      NZ_qm (s := s) (s' := { s with done := some .readyNone }) (QM.of_eq rfl rfl) (fun hf => hf) h0
    exact ⟨m, hm, NZ_fin (s1 := { s with done := some .readyNone }) .readyNone hm h1
      (ht.of_sim rfl rfl (ExecsSim.refl _)) hdr hny (fun _ => hidle (Or.inr rfl))⟩
  | err a =>
    obtain ⟨m, hm, h0, _⟩ := h
    have h1 : NZ b0 now none m rest { s with done := some (.readyItemErr a) } :=
      NZ_qm (s := s) (s' := { s with done := some (.readyItemErr a) }) (QM.of_eq rfl rfl) (fun hf => hf) h0
    exact ⟨m, hm, NZ_fin (s1 := { s with done := some (.readyItemErr a) }) (.readyItemErr a) hm h1
      (ht.of_sim rfl rfl (ExecsSim.refl _)) hdr hny nofun⟩
  | item rid =>
    obtain ⟨id, m, hm, hN, harm⟩ := h
    refine ⟨m, hm, ?_⟩
    simp only [pskFinish, pskRet] at hny ⊢
    split
    · next e he =>
      rw [he] at hny
      have hty : TInv now (emit (updExec { s with nextVis := s.nextVis + 1 } rid (fun x => { x with vis := some s.nextVis }))
          (.yielded s.nextVis e.id e.deadline e.trace)) :=
        ht.of_sim rfl rfl (updExec_sim { s with nextVis := s.nextVis + 1 } rid _ (fun e => ⟨rfl, rfl, rfl⟩))
      exact NZ_fin .readyItem hm (NZ_yield hm he ht hN harm) hty hdr hny
        nofun
    · next he =>
      rw [he] at hny
      have hs := pnd_spun hN.ny.nn he
      have h1 : NZ b0 now none m rest s :=
        ⟨⟨⟨Or.inl hs, hN.ny.nn.ck⟩, hN.ny.ck, Or.inl hs⟩, hN.ck, hN.fu, Or.inl hs⟩
      exact NZ_fin .readyItem hm h1 ht hdr hny nofun


/-! ## the request stream is dropped; one poll by the application -/

theorem NZ_dropServer {m : Option Bool} {s : St} (h : NZ b0 now none m rest s)
    (hd : (bo b0 s.obs).spun = true ∨ (bo b0 s.obs).dropped = true) : NZ b0 now none m rest (dropServer s) := by
  have hx := extW_dropServer s
  refine ⟨NY_dropServer h.ny hd, CK11b.extW hx h.ck, fun hc => (fused_closed now).drop s (h.fu hc), ?_⟩
  cases hlive : (s.dropped || s.poisoned) with
  | false => exact Or.inr (Or.inr (Or.inl (dropServer_dropped s hlive)))
  | true =>
    have hdead : (s.dropped || s.poisoned) = true := hlive
    have he : dropServer s = emit s .noop := by rw [dropServer_eq, if_pos hdead]
    rw [he]
    exact (NZ_qm (QM.emit s _ rfl rfl) (fun hf => hf) h).z

/-- `NZa` — or the channel is poisoned and only `NN` and the verdicts so far are kept -/
def NZp (b0 : Book) (now : Nat) (rest : List Nat) (pend : Option (Nat × Nat)) (s : St) : Prop :=
  NZa b0 now rest pend s ∨
    (s.poisoned = true ∧ CK chk11 b0 s.obs ∧ CK chk11b b0 s.obs ∧ NN b0 now pend rest s)

theorem NZp.nyp {pend : Option (Nat × Nat)} {s : St} (h : NZp b0 now rest pend s) : NYp b0 now rest pend s :=
  h.imp (fun ⟨_, _, h, ha⟩ => ⟨h.ny, ha⟩) (fun h => ⟨h.1, h.2.1, h.2.2.2⟩)

theorem NZp.qm {pend : Option (Nat × Nat)} {s s' : St} (hq : QM s s') (hp : s'.poisoned = s.poisoned)
    (hf : s.readFused = true → s'.readFused = true) (h : NZp b0 now rest pend s) : NZp b0 now rest pend s' :=
  h.imp (fun ⟨m, hm, h, ha⟩ => ⟨m, hm, NZ_qm hq hf h, hq.2 ▸ ha⟩)
    (fun h => ⟨hp.trans h.1, CK11.extW hq.1 h.2.1, CK11b.extW hq.1 h.2.2.1, NN_qm hq h.2.2.2⟩)

theorem PostRqZ.of_p {s1 : St} {r : ReqPoll} (hpo : s1.poisoned = false)
    (h : PostRq (NZp b0 now rest none) (NZp b0 now rest) (s1, r)) : PostRqZ b0 now rest (s1, r) :=
  have key : ∀ {pend}, NZp b0 now rest pend s1 → NZa b0 now rest pend s1 :=
    fun h => h.resolve_right (fun h => by rw [hpo] at h; cases h.1)
  h.at (fun _ h => (key h).imp fun _ h => h.2.1) (fun _ => key)

theorem NZ_pskEnd {s s1 : St} {r : ReqPoll} (hf : ClampFits) (hn : now < panicFreeNs) (h0 : s.obs = [])
    (hs : SInv false now s) (hq : QC now s) (hbl : BL b0) (hl : s.limit = none) (hcfg : s.throttleAfterRead = false)
    (hel : s.ensureLoop = false)
    (he : requestsPollNext (pollFuel { s with woken := false }) { s with woken := false } now = (s1, r))
    (hdr : s.dropped = false) (hpo : s1.poisoned = false)
    (hp : PostRq (NZp b0 now rest none) (NZp b0 now rest) (s1, r)) :
    ∃ m, m ≠ some true ∧ NZ b0 now none m rest (pskFinish s1 r) := by
  obtain ⟨_, ht1, hnr, hd1, hsp, hidle⟩ := requestsPollNext_ends hf hn h0 hs hq hl hcfg hel he
  exact NZ_pskFinish ht1 (.of_p hpo hp) (hsp hpo) hbl hnr (hd1.trans hdr) hidle

theorem NZ_pollServer {s : St} (hf : ClampFits) (hn : now < panicFreeNs) (h0 : s.obs = []) (hs : SInv false now s)
    (hq : QC now s) (hsq : SQ s) (hdd : DoneDropped s) (h : Btw (NZp b0 now rest) s) (hbl : BL b0) (htp : b0.topPoll = true)
    (hl : s.limit = none) (hcfg : s.throttleAfterRead = false) (hel : s.ensureLoop = false) :
    Btw (NZp b0 now rest) (pollServer s now) := by
  have hdrop : ∀ {s1 : St} {r}, PostRq (NZp b0 now rest none) (NZp b0 now rest) (s1, r) → (r = .none ∨ ∃ a, r = .err a) →
      (bo b0 (pskFinish s1 r).obs).spun = true ∨ (bo b0 (pskFinish s1 r).obs).dropped = true :=
    fun hp => (J_pskFinish (hp.imp (fun _ h => h.nyp.nn.n.toJ) (fun _ _ h => h.nyp.nn.n.toJ))).2
  refine pollServer_walkR (R := NZp b0 now rest) hdd (fun _ h => h.qm (QM.emit s _ rfl rfl) rfl (fun hf => hf))
    (fun hpo h => ?_) (fun s1 r he _ h1 => ?_)
    (fun s1 r he hlv hpo hp => ?_) (fun s1 r he hlv hpo hr hp => ?_)
    (fun _ s' h => h.qm (s := s') (QM.of_eq rfl rfl) rfl (fun hf => hf)) h
  · obtain ⟨m0, hm0, hN0, _⟩ := h.resolve_right (fun h => by rw [hpo] at h; cases h.1)
    have hp := NZ_requestsPollNext (b0 := b0) (rest := rest) hf hn htp (pollFuel { s with woken := false })
      { s with woken := false } m0 hm0 ((sinv_closed false now).inert s _ (by constructor <;> rfl) hs) (hq.of_timers rfl)
      (hsq.of_timers rfl) (NZ_qm (s := s) (s' := { s with woken := false }) (QM.of_eq rfl rfl) (fun hf => hf) hN0) hl hel
    generalize he : requestsPollNext (pollFuel { s with woken := false }) { s with woken := false } now = p at hp
    refine hp.at (fun hr ⟨m, h⟩ => ?_) (fun _ => Or.inl)
    -- a poll that ends `spin` has poisoned the channel
    cases hpo1 : p.1.poisoned with
    | true => exact Or.inr ⟨hpo1, h.ny.ck, h.ck, h.ny.nn⟩
    | false => exact absurd hr ((requestsPollNext_ends (s1 := p.1) (r := p.2) hf hn h0 hs hq hl hcfg hel he).2.2.2.2.1 hpo1)
  · rw [(requestsPollNext_ends hf hn h0 hs hq hl hcfg hel he).1] at h1; cases h1
  · obtain ⟨m, hm, h⟩ := NZ_pskEnd hf hn h0 hs hq hbl hl hcfg hel he hlv.1 hpo hp
    exact Or.inl ⟨m, hm, h, trivial⟩
  · obtain ⟨m, hm, h⟩ := NZ_pskEnd hf hn h0 hs hq hbl hl hcfg hel he hlv.1 hpo hp
    exact Or.inl ⟨m, hm, NZ_dropServer h (hdrop hp hr), trivial⟩

end TarpcModel.Server.Tab
