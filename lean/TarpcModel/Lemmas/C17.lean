import TarpcModel.Monitors.C17
/-
Helper lemmas for C17: ASCII case mapping, `snakeToCamel`, first-match lookup, and the glue tables.
-/
namespace TarpcModel.Macro

/-! ## `Char.toUpper` / `Char.toLower` -/

theorem toUpper_toNat (c : Char) :
    c.toUpper.toNat = if 97 ≤ c.toNat ∧ c.toNat ≤ 122 then c.toNat - 32 else c.toNat := by
  have e : ∀ d : Char, d.toNat = d.val.toNat := fun _ => rfl
  rw [e c, e c.toUpper]
  unfold Char.toUpper
  split
  · rename_i h
    have h1 := h.1
    have h2 := h.2
    simp [UInt32.le_iff_toNat_le] at h1 h2
    simp [UInt32.toNat_add, h1, h2]
    have := e c
    omega
  · rename_i h
    simp [UInt32.le_iff_toNat_le] at h
    have := e c
    split
    · rename_i h'
      omega
    · rfl

theorem toLower_toNat (c : Char) :
    c.toLower.toNat = if 65 ≤ c.toNat ∧ c.toNat ≤ 90 then c.toNat + 32 else c.toNat := by
  have e : ∀ d : Char, d.toNat = d.val.toNat := fun _ => rfl
  rw [e c, e c.toLower]
  unfold Char.toLower
  split
  · rename_i h
    have h1 := h.1
    have h2 := h.2
    simp [UInt32.le_iff_toNat_le] at h1 h2
    simp [UInt32.toNat_add, h1, h2]
    have := e c
    omega
  · rename_i h
    simp [UInt32.le_iff_toNat_le] at h
    have := e c
    split
    · rename_i h'
      omega
    · rfl

theorem us_toNat : '_'.toNat = 95 := by decide

theorem toUpper_eq_us {c : Char} : c.toUpper = '_' ↔ c = '_' := by
  rw [← Char.toNat_inj, ← Char.toNat_inj (c := c), toUpper_toNat, us_toNat]
  split <;> omega

theorem toLower_eq_us {c : Char} : c.toLower = '_' ↔ c = '_' := by
  rw [← Char.toNat_inj, ← Char.toNat_inj (c := c), toLower_toNat, us_toNat]
  split <;> omega

theorem toUpper_toUpper (c : Char) : c.toUpper.toUpper = c.toUpper := by
  rw [← Char.toNat_inj, toUpper_toNat c.toUpper, toUpper_toNat c]
  repeat' split
  all_goals omega

theorem toLower_toLower (c : Char) : c.toLower.toLower = c.toLower := by
  rw [← Char.toNat_inj, toLower_toNat c.toLower, toLower_toNat c]
  repeat' split
  all_goals omega

theorem toUpper_toLower (c : Char) : c.toLower.toUpper = c.toUpper := by
  rw [← Char.toNat_inj, toUpper_toNat c.toLower, toLower_toNat c, toUpper_toNat c]
  repeat' split
  all_goals omega

theorem toLower_toUpper (c : Char) : c.toUpper.toLower = c.toLower := by
  rw [← Char.toNat_inj, toLower_toNat c.toUpper, toUpper_toNat c, toLower_toNat c]
  repeat' split
  all_goals omega

/-! ## `snakeToCamel` -/

theorem camelAux_nil (b : Bool) : camelAux b [] = [] := by cases b <;> rfl

theorem camelAux_cons (b : Bool) (c : Char) (cs : Name) :
    camelAux b (c :: cs) =
      if c = '_' then camelAux true cs
      else if b then c.toUpper :: camelAux false cs
      else c.toLower :: camelAux false cs := by
  cases b <;> rfl

theorem camelAux_no_underscore (b : Bool) (s : Name) : '_' ∉ camelAux b s := by
  induction s generalizing b with
  | nil => simp [camelAux]
  | cons c cs ih =>
    simp only [camelAux_cons]
    split
    · exact ih true
    · rename_i hc
      split
      · simp only [List.mem_cons, not_or]
        exact ⟨fun h => hc (toUpper_eq_us.mp h.symm), ih false⟩
      · simp only [List.mem_cons, not_or]
        exact ⟨fun h => hc (toLower_eq_us.mp h.symm), ih false⟩

/-- The output is exactly as long as the input minus its underscores. -/
theorem camelAux_length (b : Bool) (s : Name) :
    (camelAux b s).length = (s.filter (· ≠ '_')).length := by
  induction s generalizing b with
  | nil => simp [camelAux]
  | cons c cs ih =>
    simp only [camelAux_cons]
    split
    · rename_i h
      simp [h, ih true]
    · rename_i h
      split <;> simp [h, ih false]

theorem camelAux_length_le (b : Bool) (s : Name) : (camelAux b s).length ≤ s.length := by
  rw [camelAux_length]
  exact List.length_filter_le _ _

/-- On underscore-free input the flag is only consulted for the first character. -/
theorem camelAux_false_clean (s : Name) (h : '_' ∉ s) : camelAux false s = s.map Char.toLower := by
  induction s with
  | nil => simp [camelAux]
  | cons c cs ih =>
    simp only [List.mem_cons, not_or] at h
    simp only [camelAux_cons]
    have hc : c ≠ '_' := fun e => h.1 e.symm
    simp [hc, ih h.2]

theorem camelAux_true_clean (c : Char) (cs : Name) (h : '_' ∉ c :: cs) :
    camelAux true (c :: cs) = c.toUpper :: cs.map Char.toLower := by
  simp only [List.mem_cons, not_or] at h
  simp only [camelAux_cons]
  have hc : c ≠ '_' := fun e => h.1 e.symm
  simp [hc, camelAux_false_clean cs h.2]

/-- Splitting at an underscore: what follows starts a new word. -/
theorem camelAux_append_us (b : Bool) (a rest : Name) :
    camelAux b (a ++ '_' :: rest) = camelAux b a ++ camelAux true rest := by
  induction a generalizing b with
  | nil => simp [camelAux]
  | cons c cs ih =>
    simp only [List.cons_append]
    simp only [camelAux_cons]
    split
    · exact ih true
    · split <;> simp [ih false]

/-- Case of the input only matters through `toUpper`/`toLower`. -/
theorem camelAux_map (f : Char → Char) (hus : ∀ c, f c = '_' ↔ c = '_')
    (hu : ∀ c, (f c).toUpper = c.toUpper) (hl : ∀ c, (f c).toLower = c.toLower) (b : Bool) (s : Name) :
    camelAux b (s.map f) = camelAux b s := by
  induction s generalizing b with
  | nil => rfl
  | cons c cs ih => simp only [List.map_cons, camelAux_cons, hus, hu, hl, ih]

theorem camelAux_map_toLower (b : Bool) (s : Name) : camelAux b (s.map Char.toLower) = camelAux b s :=
  camelAux_map _ (fun _ => toLower_eq_us) toUpper_toLower toLower_toLower b s

theorem camelAux_map_toUpper (b : Bool) (s : Name) : camelAux b (s.map Char.toUpper) = camelAux b s :=
  camelAux_map _ (fun _ => toUpper_eq_us) toUpper_toUpper toLower_toUpper b s

/-! ### Word decomposition -/

/-- Capitalise one word. -/
def cap : Name → Name
  | [] => []
  | c :: cs => c.toUpper :: cs.map Char.toLower

/-- Split at underscores, dropping empty pieces (`cur` is the word being read). -/
def wordsAux : Name → Name → List Name
  | cur, [] => if cur = [] then [] else [cur]
  | cur, c :: cs =>
    if c = '_' then (if cur = [] then wordsAux [] cs else cur :: wordsAux [] cs)
    else wordsAux (cur ++ [c]) cs

def words (s : Name) : List Name := wordsAux [] s

theorem cap_snoc (cur : Name) (c : Char) (h : cur ≠ []) : cap (cur ++ [c]) = cap cur ++ [c.toLower] := by
  cases cur with
  | nil => exact absurd rfl h
  | cons d ds => simp [cap]

theorem wordsAux_flatMap_cap (cur s : Name) :
    (wordsAux cur s).flatMap cap =
      if cur = [] then camelAux true s else cap cur ++ camelAux false s := by
  induction s generalizing cur with
  | nil =>
    unfold wordsAux
    by_cases h : cur = [] <;> simp [h, camelAux]
  | cons c cs ih =>
    unfold wordsAux
    simp only [camelAux_cons]
    by_cases hc : c = '_'
    · by_cases h : cur = []
      · simp [hc, h, ih []]
      · simp [hc, h, ih []]
    · by_cases h : cur = []
      · subst h
        simp [hc, ih [c], cap]
      · simp [hc, h, ih (cur ++ [c]), cap_snoc cur c h]

/-! ## First-match lookup -/

theorem firstIdx_eq {α : Type} (p : α → Bool) (l : List α) (i : Nat) (a : α)
    (hi : l[i]? = some a) (hp : p a = true)
    (hbefore : ∀ j b, j < i → l[j]? = some b → p b = false) : firstIdx p l = some i := by
  induction l generalizing i with
  | nil => simp at hi
  | cons x xs ih =>
    cases i with
    | zero =>
      simp at hi
      subst hi
      simp [firstIdx, hp]
    | succ k =>
      have hx : p x = false := hbefore 0 x (by omega) (by simp)
      simp only [List.getElem?_cons_succ] at hi
      have := ih k hi (fun j b hj hb => hbefore (j + 1) b (by omega) (by simpa using hb))
      simp [firstIdx, hx, this]

/-- Distinct keys: equal keys at two positions means the same position. -/
theorem idx_eq_of_nodup_map {α β : Type} (f : α → β) (l : List α) (h : (l.map f).Nodup)
    (i j : Nat) (a b : α) (hi : l[i]? = some a) (hj : l[j]? = some b) (e : f a = f b) : i = j := by
  have hlt : i < (l.map f).length := by
    rw [List.length_map]; exact (List.getElem?_eq_some_iff.mp hi).1
  exact (List.getElem?_inj hlt h).mp (by simp [hi, hj, e])

theorem lookup_append_hit {V : Type} (n : Name) (v : V) (pre rest : List (Name × V))
    (h : n ∉ pre.map (·.1)) : lookup n (pre ++ (n, v) :: rest) = some v := by
  induction pre with
  | nil => simp [lookup]
  | cons x xs ih =>
    obtain ⟨k, w⟩ := x
    simp only [List.map_cons, List.mem_cons, not_or] at h
    have hk : ¬ k = n := fun e => h.1 e.symm
    simp [lookup, hk, ih h.2]

theorem lookupAll_zip_aux {V : Type} (names : List Name) (vals : List V) (pre : List (Name × V))
    (hlen : names.length = vals.length) (hnd : names.Nodup)
    (hpre : ∀ n ∈ names, n ∉ pre.map (·.1)) :
    lookupAll (pre ++ names.zip vals) names = some vals := by
  induction names generalizing vals pre with
  | nil =>
    cases vals with
    | nil => simp [lookupAll]
    | cons _ _ => simp at hlen
  | cons n ns ih =>
    cases vals with
    | nil => simp at hlen
    | cons v vs =>
      simp only [List.length_cons, Nat.add_right_cancel_iff] at hlen
      simp only [List.nodup_cons] at hnd
      have h1 : lookup n (pre ++ (n, v) :: ns.zip vs) = some v :=
        lookup_append_hit n v pre _ (hpre n (by simp))
      have h2 : lookupAll ((pre ++ [(n, v)]) ++ ns.zip vs) ns = some vs := by
        apply ih vs (pre ++ [(n, v)]) hlen hnd.2
        intro m hm
        simp only [List.map_append, List.map_cons, List.map_nil, List.mem_append, List.mem_cons,
          List.not_mem_nil, or_false, not_or]
        exact ⟨hpre m (by simp [hm]), fun e => hnd.1 (e ▸ hm)⟩
      simp only [List.append_assoc, List.cons_append, List.nil_append] at h2
      simp [lookupAll, List.zip_cons_cons, h1, h2]

/-- Distinct names bound positionally and read back by name give the same values in the same order. -/
theorem lookupAll_zip {V : Type} (names : List Name) (vals : List V)
    (hlen : names.length = vals.length) (hnd : names.Nodup) :
    lookupAll (names.zip vals) names = some vals := by
  simpa using lookupAll_zip_aux names vals [] hlen hnd (by simp)

theorem map_snd_zip {V : Type} (names : List Name) (vals : List V) (hlen : names.length = vals.length) :
    (names.zip vals).map (·.2) = vals :=
  List.map_snd_zip (Nat.le_of_eq hlen.symm)

/-! ## The generated tables -/

theorem variant_ne_of_ne (s : Service) (h : (s.methods.map (·.variant)).Nodup) (i j : Nat) (a b : Method)
    (hi : s.methods[i]? = some a) (hj : s.methods[j]? = some b) (hne : j ≠ i) : b.variant ≠ a.variant :=
  fun e => hne (idx_eq_of_nodup_map (·.variant) s.methods h j i b a hj hi e)

theorem name_ne_of_ne (s : Service) (h : (s.methods.map (·.variant)).Nodup) (i j : Nat) (a b : Method)
    (hi : s.methods[i]? = some a) (hj : s.methods[j]? = some b) (hne : j ≠ i) :
    b.ident.name ≠ a.ident.name :=
  fun e => variant_ne_of_ne s h i j a b hi hj hne (by simp [Method.variant, e])

theorem argNames_length (m : Method) : m.argNames.length = m.args.length := by simp [Method.argNames]

/-! ### the clauses of `accepted`, by name -/

section
variable {s : Service} {m : Method}

theorem accepted.argsParsed (h : accepted s) (hm : m ∈ s.methods) {a : Arg} (ha : a ∈ m.args) :
    a.kind ≠ .pattern ∧ a.kind ≠ .receiver := h.1.1 m hm a ha
theorem accepted.printedNotReserved (h : accepted s) (hm : m ∈ s.methods) : m.ident.printed ∉ reservedNames := h.1.2 m hm
theorem accepted.variantValid (h : accepted s) (hm : m ∈ s.methods) : validIdent m.variant = true := h.2.1 m hm
theorem accepted.someActive (h : accepted s) : ∃ m ∈ s.methods, m.active = true := h.2.2.1
theorem accepted.variantsNodup (h : accepted s) : (s.methods.map (·.variant)).Nodup := h.2.2.2.1
theorem accepted.variantNotSelf (h : accepted s) (hm : m ∈ s.methods) : m.variant ≠ selfVariant := h.2.2.2.2.1 m hm
theorem accepted.argsPlain (h : accepted s) (hm : m ∈ s.methods) {a : Arg} (ha : a ∈ m.args) : a.kind ≠ .decorated :=
  h.2.2.2.2.2.1 m hm a ha
theorem accepted.nameNotReserved (h : accepted s) (hm : m ∈ s.methods) (hact : m.active = true) :
    m.ident.name ∉ reservedNames := (h.2.2.2.2.2.2 m hm hact).1
theorem accepted.argNamesNodup (h : accepted s) (hm : m ∈ s.methods) (hact : m.active = true) : m.argNames.Nodup :=
  (h.2.2.2.2.2.2 m hm hact).2.1
theorem accepted.noCtxArg (h : accepted s) (hm : m ∈ s.methods) (hact : m.active = true) : ctxName ∉ m.argNames :=
  (h.2.2.2.2.2.2 m hm hact).2.2

end

section Tables
variable {V : Type} {s : Service} {i : Nat} {m : Method}

theorem clientBuild_generate (hacc : accepted s) (hm : s.methods[i]? = some m) (hact : m.active = true)
    (args : List V) (hlen : args.length = m.args.length) :
    clientBuild (generate s) i args = some ⟨m.variant, m.argNames.zip args⟩ := by
  have hnd := hacc.argNamesNodup (List.mem_of_getElem? hm) hact
  have hl : m.argNames.length = args.length := by rw [argNames_length, hlen]
  simp only [clientBuild, generate, List.getElem?_map, hm, Option.map_some, hact, hl, and_self,
    if_true, lookupAll_zip m.argNames args hl hnd]

theorem firstIdx_map_methods {β : Type} (g : Method → β) (p : β → Bool) (hm : s.methods[i]? = some m)
    (hp : p (g m) = true) (hne : ∀ j mb, j ≠ i → s.methods[j]? = some mb → p (g mb) = false) :
    firstIdx p (s.methods.map g) = some i := by
  apply firstIdx_eq _ _ i (g m) (by simp [hm]) hp
  intro j b hj hb
  simp only [List.getElem?_map, Option.map_eq_some_iff] at hb
  obtain ⟨mb, hmb, rfl⟩ := hb
  exact hne j mb (by omega) hmb

theorem firstArm_generate (hacc : accepted s) (hm : s.methods[i]? = some m) (hact : m.active = true) :
    firstIdx (fun a : ServerArm => a.active && decide (a.variant = m.variant)) (generate s).serverArms
      = some i :=
  firstIdx_map_methods _ _ hm (by simp [hact]) fun j mb hj hmb => by
    simp [variant_ne_of_ne s hacc.variantsNodup i j m mb hm hmb hj]

theorem firstName_generate (hacc : accepted s) (hm : s.methods[i]? = some m) (hact : m.active = true) :
    firstIdx (fun a : NameArm => a.active && decide (a.variant = m.variant)) (generate s).nameArms
      = some i :=
  firstIdx_map_methods _ _ hm (by simp [hact]) fun j mb hj hmb => by
    simp [variant_ne_of_ne s hacc.variantsNodup i j m mb hm hmb hj]

theorem firstTrait_generate (hacc : accepted s) (hm : s.methods[i]? = some m) (hact : m.active = true) :
    firstIdx (fun t : Name × Bool => t.2 && decide (t.1 = m.ident.name)) (generate s).traitMethods
      = some i :=
  firstIdx_map_methods _ _ hm (by simp [hact]) fun j mb hj hmb => by
    simp [name_ne_of_ne s hacc.variantsNodup i j m mb hm hmb hj]

theorem serverDispatch_generate (hacc : accepted s) (hm : s.methods[i]? = some m) (hact : m.active = true)
    (args : List V) (hlen : args.length = m.args.length) :
    serverDispatch (generate s) ⟨m.variant, m.argNames.zip args⟩ = some (i, args, m.variant) := by
  have hnd := hacc.argNamesNodup (List.mem_of_getElem? hm) hact
  have hl : m.argNames.length = args.length := by rw [argNames_length, hlen]
  have harm : (generate s).serverArms[i]? =
      some ⟨m.variant, m.argNames, m.ident.name, m.argNames, m.variant, m.active⟩ := by
    simp [generate, hm]
  simp only [serverDispatch, firstArm_generate hacc hm hact, harm, lookupAll_zip m.argNames args hl hnd,
    firstTrait_generate hacc hm hact]

theorem requestName_generate (hacc : accepted s) (hm : s.methods[i]? = some m) (hact : m.active = true)
    (fields : List (Name × V)) :
    requestName (generate s) ⟨m.variant, fields⟩ = some (requestNameStr s m) := by
  have harm : (generate s).nameArms[i]? = some ⟨m.variant, requestNameStr s m, m.active⟩ := by
    simp [generate, hm]
  simp only [requestName, firstName_generate hacc hm hact, harm, Option.map_some]

theorem clientUnwrap_generate (hm : s.methods[i]? = some m) (v : V) :
    clientUnwrap (generate s) i ⟨m.variant, v⟩ = some v := by
  have hmem : m.variant ∈ (generate s).responseVariants := by
    simp only [generate, List.mem_map]
    exact ⟨m, List.mem_of_getElem? hm, rfl⟩
  simp [clientUnwrap, generate, hm]
  simpa [generate] using hmem

theorem call_generate {C : Type} (hacc : accepted s) (hm : s.methods[i]? = some m)
    (hact : m.active = true) (impl : Impl V C) (ctx : C) (args : List V)
    (hlen : args.length = m.args.length) :
    call (generate s) impl i ctx args =
      some ⟨⟨m.variant, m.argNames.zip args⟩, requestNameStr s m, i, ctx, args,
            impl i ctx args, impl i ctx args⟩ := by
  simp only [call, clientBuild_generate hacc hm hact args hlen, requestName_generate hacc hm hact,
    serverDispatch_generate hacc hm hact args hlen, clientUnwrap_generate hm]

end Tables

end TarpcModel.Macro
