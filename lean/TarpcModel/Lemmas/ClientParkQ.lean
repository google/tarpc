import TarpcModel.Lemmas.ClientTrack
import TarpcModel.Lemmas.ClientDrain
/-!
# A parked dispatch does not sit on a queued request

`PkOK s`: the request queue is empty and the dispatch is registered on it (or no sender is left, or the queue is
closed) — or the in-flight table is full — or the sink is not ready and the dispatch's waker is registered with it.
`PkI s`: an alive dispatch without terminal error that has not been woken since its last poll satisfies `PkOK`.

* the sink: `Blocked t` (not ready, waker registered, and the owner's own flushes do not change that) is what
  `ensure_writeable → Pending` leaves behind, and it is stable under the rest of the poll;
* `pumpWrite_parks`, `pollDispatch_parks`: a pump that goes idle leaves `PkW` (= `PkOK` with `Blocked`) — what such a
  pump and poll went through is `pumpWrite_idle`, `pollDispatch_idle` of `Lemmas/ClientDrain.lean`;
* every other op preserves `PkI` (a request pushed while the dispatch is parked on the queue wakes it, readiness
  restored while it is parked on the sink wakes it);
* `reach_pk`: `PkI` holds in every reachable state.

(The timer side of the parking discipline is `Lemmas/ClientParked.lean`.)
-/
namespace TarpcModel.Client
open Flow.SimT
open TarpcModel.SimT (Blocked pollReady_of_blocked pollFlush_of_blocked pollClose_of_blocked pollReady_pending_spec
  pollFlush_pending_spec wakeIfReady_spec)

/-! ### what the tail of the write pump leaves alone -/

/-- `s'` differs from `s` in nothing that `PkW` reads, and a blocked sink stays blocked -/
structure PF (s s' : St) : Prop where
  pq : s'.pq = s.pq
  rx : s'.pqRxWaker = s.pqRxWaker
  cl : s'.pqClosed = s.pqClosed
  snd : senders s' = senders s
  mx : s'.maxInFlight = s.maxInFlight
  inf : s'.inflight.length = s.inflight.length
  bl : Blocked s.t → Blocked s'.t

theorem PF.refl (s : St) : PF s s := ⟨rfl, rfl, rfl, rfl, rfl, rfl, id⟩

theorem PF.trans {a b c : St} (h1 : PF a b) (h2 : PF b c) : PF a c :=
  ⟨h2.pq.trans h1.pq, h2.rx.trans h1.rx, h2.cl.trans h1.cl, h2.snd.trans h1.snd, h2.mx.trans h1.mx,
   h2.inf.trans h1.inf, fun h => h2.bl (h1.bl h)⟩

/-- where an idle write pump leaves the dispatch: registered on the empty request queue (or the queue has no sender
left / is closed), or the table is full, or the sink is blocked with the waker registered -/
def PkW (s : St) : Prop :=
  (s.pq = [] ∧ (s.pqRxWaker = true ∨ senders s = 0 ∨ s.pqClosed = true)) ∨ s.inflight.length ≥ s.maxInFlight ∨ Blocked s.t

theorem PkW.pf {s s' : St} (h : PkW s) (f : PF s s') : PkW s' := by
  rcases h with ⟨h1, h2⟩ | h | h
  · exact Or.inl ⟨by rw [f.pq]; exact h1, by rw [f.rx, f.snd, f.cl]; exact h2⟩
  · exact Or.inr (Or.inl (by rw [f.inf, f.mx]; exact h))
  · exact Or.inr (Or.inr (f.bl h))

theorem pf_emit (s : St) (o : Obs) : PF s (emit s o) := ⟨rfl, rfl, rfl, rfl, rfl, rfl, id⟩

theorem pf_wakeDispatch (s : St) : PF s (wakeDispatch s) :=
  ⟨by simp, by simp, by simp, Flow.wakeDispatch_senders s, by simp, by simp, by simp⟩

theorem pf_tEmit (s : St) (t' : SimT) (o : Obs) (w : Bool) (hb : Blocked s.t → Blocked t') : PF s (Flow.tEmit s t' o w) := by
  obtain ⟨l, dw, he, _, _⟩ := Flow.tEmit_eq s t' o w
  rw [he]
  exact ⟨rfl, rfl, rfl, rfl, rfl, rfl, hb⟩

theorem pf_tReady (s : St) : PF s (tReady s).1 := by
  rw [Flow.tReady_eq]; exact pf_tEmit _ _ _ _ (fun hb => (pollReady_of_blocked hb).2)
theorem pf_tFlush (s : St) : PF s (tFlush s).1 := by
  rw [Flow.tFlush_eq]; exact pf_tEmit _ _ _ _ (fun hb => (pollFlush_of_blocked hb).1)
theorem pf_tClose (s : St) : PF s (tClose s).1 := by
  rw [Flow.tClose_eq]; exact pf_tEmit _ _ _ _ (fun hb => (pollClose_of_blocked hb).1)

/-! ### `ensure_writeable → Pending` leaves a blocked sink -/

theorem tReady_pending_t {s s1 : St} (h : tReady s = (s1, .pending)) :
    s1.t.isReadyNow = false ∧ s1.t.writeWaker = true ∧ s1.t.coupled = s.t.coupled ∧ s1.t.flushOpen = s.t.flushOpen ∧
    s1.t.buffered = s.t.buffered := by
  have e : s1.t = s.t.pollReady.1 := by have := Flow.tReady_t s; rw [h] at this; exact this
  have r : s.t.pollReady.2.1 = .pending := by have := Flow.tReady_res s; rw [h] at this; exact this.symm
  rw [e]; exact pollReady_pending_spec _ r

theorem tFlush_pending_t {s s1 : St} (h : tFlush s = (s1, .pending)) :
    s1.t.writeWaker = true ∧ s1.t.coupled = true ∧ s1.t.flushOpen = false ∧ s1.t.buffered ≠ [] ∧
    s1.t.isReadyNow = s.t.isReadyNow := by
  have e : s1.t = s.t.pollFlush.1 := by have := Flow.tFlush_t s; rw [h] at this; exact this
  have r : s.t.pollFlush.2.1 = .pending := by have := Flow.tFlush_res s; rw [h] at this; exact this.symm
  rw [e]; exact pollFlush_pending_spec _ r

theorem tFlush_ready_t {s s1 : St} (h : tFlush s = (s1, .ready)) : s1.t.buffered = [] := by
  have e : s1.t = s.t.pollFlush.1 := by have := Flow.tFlush_t s; rw [h] at this; exact this
  have r : s.t.pollFlush.2.1 = .ready := by have := Flow.tFlush_res s; rw [h] at this; exact this.symm
  rw [e]; exact (Flow.SimT.pollFlush_flushed _).2 r

theorem ensureWriteable_pending_blocked {s s1 : St} (h : ensureWriteable s = (s1, .pending)) : Blocked s1.t := by
  obtain ⟨_, _, h1, h2 | ⟨_, h2, h3⟩⟩ := ensureWriteable_pending h
  · obtain ⟨a1, _, _, _, _⟩ := tReady_pending_t h1
    obtain ⟨b1, b2, b3, b4, b5⟩ := tFlush_pending_t h2
    exact ⟨by rw [b5]; exact a1, b1, Or.inl ⟨b2, b3, b4⟩⟩
  · obtain ⟨c1, c2, _, _, c5⟩ := tReady_pending_t h3
    exact ⟨c1, c2, Or.inr (by rw [c5]; exact tFlush_ready_t h2)⟩

/-! ### the request queue is drained -/

/-- the dequeue loop of `poll_next_request`, with enough fuel, stops `Pending` / `None` only on an empty queue — with the
waker registered, or with no sender left / the queue closed -/
theorem nextRequestLoop_idle (fuel : Nat) {s s' : St} {r : PW DReq} (h : nextRequestLoop fuel s = (s', r))
    (hr : r = .pending ∨ r = .none) (hf : s.pq.length < fuel) :
    s'.pq = [] ∧ (s'.pqRxWaker = true ∨ senders s' = 0 ∨ s'.pqClosed = true) := by
  have o := nextRequestLoop_out 0 fuel s
  rw [h] at o
  rcases hr with rfl | rfl
  · obtain ⟨s0, -, e | ⟨-, hle⟩⟩ := o
    · -- the last `pqRecv` answered `pending`: the queue was empty and the waker is registered
      rcases Flow.pqRecv_out s0 with ⟨_, _, _, h1⟩ | ⟨_, h1, _⟩ | ⟨hq, h1⟩
      · rw [h1] at e; cases e
      · rw [h1] at e; cases e
      · rw [h1] at e; cases e
        exact ⟨hq, Or.inl rfl⟩
    · omega
  · obtain ⟨s0, -, e⟩ := o
    -- the last `pqRecv` answered `closed`: the queue was empty, with no sender left or closed
    rcases Flow.pqRecv_out s0 with ⟨_, _, _, h1⟩ | ⟨hq, h1, hx⟩ | ⟨_, h1⟩
    · rw [h1] at e; cases e
    · rw [h1] at e; cases e
      exact ⟨hq, Or.inr hx⟩
    · rw [h1] at e; cases e

theorem pollNextRequest_parks {s s1 : St} {r : PW DReq} (h : pollNextRequest s = (s1, r))
    (hr : r = .pending ∨ r = .none) : PkW s1 := by
  revert h
  refine Flow.pollNextRequest_cases (motive := fun q => q = (s1, r) → PkW s1) s ?_ ?_ ?_
  · intro hfull hh
    injection hh with e1 _; subst e1
    exact Or.inr (Or.inl hfull)
  · intro s0 e _ he hne hh
    injection hh with e1 e2; subst e1
    cases e with
    | ready => exact absurd rfl hne
    | pending => exact Or.inr (Or.inr (ensureWriteable_pending_blocked he))
    | err a => rcases hr with rfl | rfl <;> simp [EW.toPW] at e2
    | spin => rcases hr with rfl | rfl <;> simp [EW.toPW] at e2
  · intro s0 _ he hh
    exact Or.inl (nextRequestLoop_idle _ hh hr (Nat.lt_succ_self _))

theorem pollWriteRequest_parks {s s1 : St} {r : PW Unit} {now : Nat} (h : pollWriteRequest s now = (s1, r))
    (hr : r.isStop = false) : PkW s1 := by
  revert h
  refine Flow.pollWriteRequest_cases (motive := fun q => q = (s1, r) → PkW s1) s now ?_ ?_ ?_ ?_
  · intro s0 r0 h0 hs hh
    injection hh with e1 e2; subst e1; subst e2
    refine pollNextRequest_parks h0 ?_
    cases r0 <;> simp_all [PW.pass, PW.isSome, PW.isStop]
  · intro _ _ _ _ _ _ hh; injection hh with _ e2; subst e2; simp [PW.isStop] at hr
  · intro _ _ _ _ _ _ _ _ hh; injection hh with _ e2; subst e2; simp [PW.isStop] at hr
  · intro _ _ _ _ _ _ _ _ hh; injection hh with _ e2; subst e2; simp [PW.isStop] at hr

/-! ### the rest of the pump keeps it that way -/

theorem pf_cqRecv (s : St) (h : ∀ r, (cqRecv s).2 ≠ .item r) : PF s (cqRecv s).1 := by
  unfold cqRecv at h ⊢
  cases hq : s.cq with
  | cons r rest => rw [hq] at h; exact absurd rfl (h r)
  | nil =>
    simp only
    split
    · exact PF.refl _
    · exact ⟨rfl, rfl, rfl, rfl, rfl, rfl, id⟩

theorem pf_canScan {now : Nat} {a : Act} {s s' : St} (ha : CanScanK a) (st : Step now a s s') : PF s s' := by
  cases st with
  | ready => exact pf_tReady _
  | flush => exact pf_tFlush _
  | spin => exact pf_emit _ _
  | cqIdle hx => exact pf_cqRecv _ hx
  | cqMiss e _ =>
    rcases cqRecv_cases s with ⟨i, rest, _, heq⟩ | ⟨_, _, hne⟩
    · rw [heq] at e; cases e; exact ⟨rfl, rfl, rfl, rfl, rfl, rfl, id⟩
    · exact absurd (congrArg Prod.snd e) (hne _)
  | _ => exact False.elim ha

theorem pf_pollNextCancellation (s : St) (h : (pollNextCancellation s).2.isSome = false) :
    PF s (pollNextCancellation s).1 := by
  have hc := pollNextCancellation_steps 0 s
  rcases hp : pollNextCancellation s with ⟨s1, r⟩
  rw [hp] at h hc
  cases r with
  | some e => cases h
  | _ => exact Steps.lift PF.refl PF.trans pf_canScan hc

theorem pf_pollWriteCancel {s s1 : St} {r : PW Unit} (h : pollWriteCancel s = (s1, r)) (hr : r.isStop = false) :
    PF s s1 := by
  revert h
  refine Flow.pollWriteCancel_cases (motive := fun q => q = (s1, r) → PF s s1) s ?_ ?_ ?_
  · intro s0 r0 h0 hs hh
    injection hh with e1 _; subst e1
    have := pf_pollNextCancellation s (by rw [h0]; exact hs)
    rw [h0] at this; exact this
  · intro _ _ _ _ _ hh; injection hh with _ e2; subst e2; simp [PW.isStop] at hr
  · intro _ _ _ _ _ hh; injection hh with _ e2; subst e2; simp [PW.isStop] at hr

theorem expireWith_pf {s : St} {now : Nat} {r : DelayQ × DelayQ.PollRes} :
    (∀ s', expireWith s now r = .again s' → PF s s') ∧ (∀ s', expireWith s now r = .done s' false → PF s s') := by
  refine expireWith_outcomes (motive := fun st => (∀ s', st = .again s' → PF s s') ∧ (∀ s', st = .done s' false → PF s s'))
    s now r ?_ ?_ ?_ ?_
  · intro q y
    refine ⟨(fun s' h => by cases h), fun s' h => ?_⟩
    cases h
    exact ⟨rfl, rfl, rfl, rfl, rfl, rfl, id⟩
  · refine ⟨(fun s' h => by cases h), fun s' h => ?_⟩
    cases h
    exact (⟨rfl, rfl, rfl, rfl, rfl, rfl, id⟩ : PF s { s with poisoned := true }).trans (pf_emit _ _)
  · intro q e en q' key t due w _ _
    refine ⟨fun s' h => ?_, (fun s' h => by cases h)⟩
    cases h
    have h0 : PF s { s with timers := q', inflight := s.inflight.map (rearmEntry e.val key t due) } :=
      ⟨rfl, rfl, rfl, rfl, rfl, by simp, id⟩
    cases w
    · exact h0
    · exact h0.trans (pf_wakeDispatch _)
  · intro q e en _ _ _
    exact ⟨(fun s' h => by cases h), (fun s' h => by cases h)⟩

theorem pf_pollExpiredLoop (fuel : Nat) (s : St) (now : Nat) (h : (pollExpiredLoop fuel s now).2 = false) :
    PF s (pollExpiredLoop fuel s now).1 := by
  induction fuel generalizing s with
  | zero => exact PF.refl _
  | succ fuel ih =>
    unfold pollExpiredLoop at h ⊢
    split at h
    · rename_i s1 heq
      exact (expireWith_pf.1 s1 heq).trans (ih s1 h)
    · rename_i s1 b heq
      simp only at h ⊢
      subst h
      exact expireWith_pf.2 s1 heq

theorem pf_pollExpired {s s' : St} {now : Nat} (h : pollExpired s now = (s', false)) : PF s s' := by
  have := pf_pollExpiredLoop (expiredFuel s) s now (by show (pollExpired s now).2 = false; rw [h])
  change PF s (pollExpired s now).1 at this
  rw [h] at this; exact this

/-- **an idle write pump is parked**: `pump_write → Pending / None` leaves the dispatch registered on the empty request
queue, or with a full table, or on a blocked sink -/
theorem pumpWrite_parks {s s' : St} {r : PW Unit} {now : Nat} (h : pumpWrite s now = (s', r))
    (hr : r = .pending ∨ r = .none) : PkW s' := by
  obtain ⟨_, _, _, _, s3, h1, hs1, h2, hs2, h3, hl⟩ := pumpWrite_idle h hr
  have f := (pf_pollWriteCancel h2 hs2).trans (pf_pollExpired h3)
  rcases hl with rfl | rfl
  · exact (pollWriteRequest_parks h1 hs1).pf (f.trans (pf_tClose s3))
  · exact (pollWriteRequest_parks h1 hs1).pf (f.trans (pf_tFlush s3))

/-- **A dispatch poll that returns `Pending`** (the dispatch was alive, is not done afterwards, has no terminal error
and did not panic) **leaves it parked.** -/
theorem pollDispatch_parks {s : St} {now : Nat} (ha : (s.dDropped || s.done.isSome || s.poisoned) = false)
    (h1 : (pollDispatch s now).poisoned = false) (h2 : (pollDispatch s now).done = none)
    (h3 : (pollDispatch s now).termErr = none) : PkW (pollDispatch s now) := by
  obtain ⟨_, _, _, h, hr, e⟩ := pollDispatch_idle ha h1 h2 h3
  rw [e]
  exact (pumpWrite_parks h hr).pf ((pf_emit _ _).trans (pf_emit _ _))

/-! ### the invariant -/

/-- a parked dispatch is registered on the empty request queue (or the queue has no sender left / is closed), or its
table is full, or the sink is not ready and holds its waker -/
def PkOK (s : St) : Prop :=
  (s.pq = [] ∧ (s.pqRxWaker = true ∨ senders s = 0 ∨ s.pqClosed = true)) ∨ s.inflight.length ≥ s.maxInFlight ∨
    (s.t.isReadyNow = false ∧ s.t.writeWaker = true)

theorem PkW.ok {s : St} (h : PkW s) : PkOK s := by
  rcases h with h | h | h
  · exact Or.inl h
  · exact Or.inr (Or.inl h)
  · exact Or.inr (Or.inr ⟨h.1, h.2.1⟩)

/-- an alive dispatch without terminal error that has not been woken since its last poll is parked -/
def PkI (s : St) : Prop :=
  s.dDropped = false → s.done = none → s.poisoned = false → s.termErr = none → s.dWoken = false → PkOK s

/-- the invariant survives a step outside the dispatch -/
theorem PkI.step {s s' : St} (h : PkI s) (r : PQS s s') (hs : senders s = 0 → senders s' = 0 ∧ s'.pq = s.pq) : PkI s' := by
  intro dd dn po te wk
  have dd0 : s.dDropped = false := by rw [← r.dd]; exact dd
  have dn0 : s.done = none := by rw [← r.dn]; exact dn
  have po0 : s.poisoned = false := by rw [← r.po]; exact po
  have te0 : s.termErr = none := by rw [← r.te]; exact te
  have wk0 : s.dWoken = false := by
    cases hb : s.dWoken with
    | false => rfl
    | true => have := r.wok hb; rw [wk] at this; cases this
  rcases h dd0 dn0 po0 te0 wk0 with ⟨e, x⟩ | f | b
  · by_cases hz : senders s = 0
    · obtain ⟨z1, z2⟩ := hs hz
      exact Or.inl ⟨by rw [z2]; exact e, Or.inr (Or.inl z1)⟩
    · rcases r.pq wk dd0 dn0 with ⟨a1, a2⟩ | ⟨b1, b2⟩
      · refine Or.inl ⟨by rw [a1]; exact e, ?_⟩
        rcases x with x | x | x
        · exact Or.inl (by rw [a2]; exact x)
        · exact absurd x hz
        · exact Or.inr (Or.inr (by rw [r.cl]; exact x))
      · rcases x with x | x | x
        · rw [b1] at x; cases x
        · exact absurd x hz
        · rw [b2] at x; cases x
  · exact Or.inr (Or.inl (by rw [r.inf, r.mx]; exact f))
  · exact Or.inr (Or.inr (by rw [r.t]; exact b))

/-- a step that changes none of the fields the invariant reads -/
theorem PkI.same {s s' : St} (h : PkI s) (r : PQS s s') (hs : senders s' = senders s) (hq : s'.pq = s.pq) : PkI s' :=
  h.step r (fun hz => ⟨by rw [hs]; exact hz, hq⟩)

theorem pqs_osSend (s : St) (cid : Nat) (o : Outcome) : PQS s (osSend s cid o) :=
  .of_same (by simp) (by simp) (by simp) (by simp) (by simp) (by simp) (by simp) (by simp) (by simp) (by simp) (by simp)

/-! ### with no sender left every call operation is a no-op -/

theorem dead_getCall {s : St} {cid : Nat} {c : Call} (hz : senders s = 0) (hg : getCall s cid = some c) :
    callLive c = false := (Flow.dead_of_senders hz).2 c (getCall_some hg).1

theorem dead_pollCall {s : St} (hz : senders s = 0) (cid now : Nat) : pollCall s cid now = emit s .noop := by
  cases hg : getCall s cid with
  | none => unfold pollCall; rw [hg]
  | some c =>
    have hl := dead_getCall hz hg
    cases hph : c.phase with
    | resolved => unfold pollCall; simp only [hg, hph]
    | dropped => unfold pollCall; simp only [hg, hph]
    | awaiting => simp [callLive, hph] at hl
    | notPolled => simp [callLive, hph] at hl
    | reserving => simp [callLive, hph] at hl

theorem dead_of_eq {s s' : St} (h : s' = s) (hz : senders s = 0) : senders s' = 0 ∧ s'.pq = s.pq := by
  subst h; exact ⟨hz, rfl⟩

theorem dead_of_noop {s s' : St} (h : s' = emit s .noop) (hz : senders s = 0) : senders s' = 0 ∧ s'.pq = s.pq := by
  subst h; exact ⟨by rw [Flow.emit_senders]; exact hz, rfl⟩

/-! ### the ops -/

theorem pki_pollCall {s : St} (h : PkI s) (cid now : Nat) : PkI (pollCall s cid now) :=
  h.step (pqs_pollCall s cid now) (fun hz => dead_of_noop (dead_pollCall hz cid now) hz)

/-- a dispatch poll establishes the invariant (an alive dispatch) or changes nothing it reads (a dead one) -/
theorem pki_pollDispatch {s : St} (h : PkI s) (now : Nat) : PkI (pollDispatch s now) := by
  by_cases ha : (s.dDropped || s.done.isSome || s.poisoned) = false
  · intro _ dn po te _
    exact (pollDispatch_parks ha po dn te).ok
  · have hk : pollDispatchKeep s now = emit s .noop := by
      rw [Flow.pollDispatchKeep_eq, if_pos (by cases hx : (s.dDropped || s.done.isSome || s.poisoned) <;> simp_all)]
    rw [Flow.pollDispatch_eq, hk]
    split
    · rename_i hc
      intro _ dn
      rw [dropDispatch_done] at dn
      rw [dn] at hc; simp at hc
    · exact h.same (pqs_emit _ _) (Flow.emit_senders _ _) rfl

theorem pki_dropDispatch {s : St} (h : PkI s) : PkI (dropDispatch s) := by
  rw [dropDispatch_stages]
  split
  · exact h.same (pqs_emit _ _) (Flow.emit_senders _ _) rfl
  · intro dd
    have hdd : ({ dropI (dropQ (pqClose { s with dDropped := true, dWoken := false })) with cq := [] } : St).dDropped = true := by
      show (dropI (dropQ (pqClose { s with dDropped := true, dWoken := false }))).dDropped = true
      rw [dropStages_dDropped]
    rw [hdd] at dd; cases dd

theorem pki_dropCallG {s : St} (h : PkI s) (guarded : Bool) (cid : Nat) (at_ : DropAt) (now : Nat) :
    PkI (dropCallG guarded s cid at_ now) := by
  have poll : ∀ s, PkI s → PkI (pollDispatch s now) := fun s hs => pki_pollDispatch hs now
  refine dropCallG_walk (I₁ := PkI) (I₂ := PkI) (I₃ := PkI) guarded s cid at_ now ?_ poll ?_ poll ?_ poll ?_
  · exact h.step (pqs_dropPre s cid) (fun hz => dead_of_eq (Flow.dropPre_dead hz cid) hz)
  · intro s hs; exact hs.step (pqs_dropClose s cid) (fun hz => dead_of_eq (Flow.dropClose_dead hz cid) hz)
  · intro s hs; exact hs.step (pqs_dropCancel s cid) (fun hz => dead_of_eq (Flow.dropCancel_dead hz cid) hz)
  · intro s hs; exact hs.step (pqs_dropFinish s cid) (fun hz => dead_of_noop (Flow.dropFinish_dead hz cid) hz)

theorem pki_dropCall {s : St} (h : PkI s) (cid : Nat) (at_ : DropAt) (now : Nat) : PkI (dropCall s cid at_ now) := by
  rw [dropCall_eq]; exact pki_dropCallG h _ cid at_ now

theorem no_handle_of_dead {s : St} (hz : senders s = 0) (hd : Nat) : s.handles.contains hd = false := by
  rw [(Flow.dead_of_senders hz).1]; rfl

theorem pki_newCall {s : St} (h : PkI s) (hd : Nat) (ctx : Ctx) (body : Nat) : PkI (newCall s hd ctx body) := by
  unfold newCall
  split
  · rename_i hc
    refine h.step (.of_same rfl rfl rfl rfl rfl rfl rfl rfl rfl rfl rfl) (fun hz => ?_)
    rw [no_handle_of_dead hz hd] at hc; cases hc
  · exact h.same (pqs_emit _ _) (Flow.emit_senders _ _) rfl

theorem pki_cloneHandle {s : St} (h : PkI s) (hd : Nat) : PkI (cloneHandle s hd) := by
  unfold cloneHandle
  split
  · rename_i hc
    refine h.step (.of_same rfl rfl rfl rfl rfl rfl rfl rfl rfl rfl rfl) (fun hz => ?_)
    rw [no_handle_of_dead hz hd] at hc; cases hc
  · exact h.same (pqs_emit _ _) (Flow.emit_senders _ _) rfl

theorem pki_dropHandle {s : St} (h : PkI s) (hd : Nat) : PkI (dropHandle s hd) := by
  unfold dropHandle
  split
  · rename_i hc
    refine h.step ((pqs_afterCallGone _).after (.of_same rfl rfl rfl rfl rfl rfl rfl rfl rfl rfl rfl)) (fun hz => ?_)
    rw [no_handle_of_dead hz hd] at hc; cases hc
  · exact h.same (pqs_emit _ _) (Flow.emit_senders _ _) rfl

/-- an external event on the transport: a sink the dispatch is parked on either stays not ready with the waker
registered, or the dispatch is woken -/
theorem pki_liftT {s : St} (h : PkI s) (r : SimT × Bool)
    (hk : r.2 = false → s.t.isReadyNow = false → s.t.writeWaker = true → r.1.isReadyNow = false ∧ r.1.writeWaker = true) :
    PkI (liftT s r) := by
  unfold liftT
  simp only
  have base : r.2 = false → PkI { s with t := r.1 } := by
    intro hr dd dn po te wk
    rcases h dd dn po te wk with a | a | a
    · exact Or.inl a
    · exact Or.inr (Or.inl a)
    · exact Or.inr (Or.inr (hk hr a.1 a.2))
  split
  · intro dd dn po te wk
    have := Flow.wakeDispatch_woken { s with t := r.1 } (by simpa using dd) (by simpa using dn)
    rw [wk] at this; cases this
  · rename_i hr
    exact base (by simpa using hr)

theorem pki_foldl_took (ms : List Msg) {s : St} (h : PkI s) : PkI (ms.foldl (fun s m => emit s (.took (tid s) m)) s) := by
  induction ms generalizing s with
  | nil => exact h
  | cons m ms ih => exact ih (h.same (pqs_emit _ _) (Flow.emit_senders _ _) rfl)

theorem pki_setT {s : St} (h : PkI s) (t' : SimT) (hr : t'.isReadyNow = s.t.isReadyNow) (hw : t'.writeWaker = s.t.writeWaker) :
    PkI { s with t := t' } := by
  have := pki_liftT h (t', false) (fun _ a b => ⟨by rw [hr]; exact a, by rw [hw]; exact b⟩)
  exact this

/-- **One op of a script** preserves the parking invariant. -/
theorem pki_applyOp {c : Sys} (h : PkI c.s) (op : COp) : PkI (applyOp c op).s := by
  cases op with
  | call hd d tr b => exact pki_newCall h hd _ b
  | pollCall cid => exact pki_pollCall h cid c.now
  | dropCall cid site => exact pki_dropCall h cid site c.now
  | clone hd => exact pki_cloneHandle h hd
  | dropHandle hd => exact pki_dropHandle h hd
  | pollDispatch => exact pki_pollDispatch h c.now
  | dropDispatch => exact pki_dropDispatch h
  | injectResp id res => exact pki_liftT h _ (fun _ a b => ⟨a, b⟩)
  | injectErr => exact pki_liftT h _ (fun _ a b => ⟨a, b⟩)
  | eof => exact pki_liftT h _ (fun _ a b => ⟨a, b⟩)
  | setReady b =>
    refine pki_liftT h _ (fun hw a k => ?_)
    by_cases hr : ({ c.s.t with readyOpen := b } : SimT).isReadyNow = false
    · exact wakeIfReady_spec _ hw hr k
    · exfalso
      have hr' : ({ c.s.t with readyOpen := b } : SimT).isReadyNow = true := by simpa using hr
      have : ({ c.s.t with readyOpen := b } : SimT).wakeIfReady.2 = true := by
        unfold SimT.wakeIfReady
        rw [if_pos (by rw [hr']; simp; exact k)]
      rw [SimT.setReady] at hw
      rw [this] at hw; cases hw
  | setFlush b => exact pki_liftT h _ (fun hw a k => wakeIfReady_spec _ hw a k)
  | fault k => exact pki_setT h _ (by cases k <;> rfl) (by cases k <;> rfl)
  | faultSkip n => exact pki_setT h _ rfl rfl
  | selfWake b => exact pki_setT h _ rfl rfl
  | take n => exact pki_foldl_took _ (pki_setT h _ rfl rfl)
  | advance n =>
    show PkI (onAdvance c.s (c.now + n))
    unfold onAdvance
    split
    · split
      · exact h.same ((pqs_wakeDispatch _).after (.of_same rfl rfl rfl rfl rfl rfl rfl rfl rfl rfl rfl))
          (by rw [Flow.wakeDispatch_senders]; rfl) (by simp)
      · exact h
    · exact h

theorem init_pk (k m b tc : Nat) (coupled : Bool) : PkI (init k m b tc coupled) := by
  intro _ _ _ _ wk; cases wk

/-- **The parking invariant holds in every reachable state**: an alive dispatch that has not been woken since its last
poll is registered on the empty request queue (or the queue has no sender left / is closed), or its in-flight table is
full, or its sink is not ready and holds its waker. -/
theorem reach_pk (m b tc : Nat) (coupled : Bool) (ops : List COp) :
    PkI (ops.foldl applyOp (initSys m b tc coupled)).s :=
  foldl_keeps (P := fun c : Sys => PkI c.s) (fun _ op h => pki_applyOp h op) ops (init_pk 0 m b tc coupled)

end TarpcModel.Client
