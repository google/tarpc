import TarpcModel.Lemmas.ServerMonRun
/-!
The counting clauses of the server's C11 monitor (`checkC11`, `Monitors/Server.lean`): "as many tracked requests as armed
timers" and "the request stream ended ⇒ no request in flight".  `checkC11Counts` / `checkC11Rest` are `checkC11` cut in two
(`checkC11_split`); the driver never runs them; `c11_accepts` (ServerTab8) is the theorem about `monC11` itself.  The one bit of
the `Book` the second clause reads (`streamDone`) is a fold over observations (`G`, `gstep`); on every trace a `counts`
observation after the end of the stream reports 0 (`inv11_trace`); `mon11_accepts_of` ties the fold to `Mon.run` by `sim_run`
(ServerMonRun).  The first clause is a hypothesis there, discharged by `C11_counts_always_equal` in `Props/C11ServerMon`.
-/
namespace TarpcModel.Server.Mon11
open TarpcModel TarpcModel.Server TarpcModel.Server.Flow TarpcModel.Server.ObsMon

/-- the first two clauses of `checkC11` -/
def checkC11Counts (b : Book) (_ : Unit) : SEv → Unit × Option String
  | .obs (.counts (.server _) inflight timers) =>
      if inflight != timers then ((), some s!"{inflight} tracked requests but {timers} armed timers")
      else if b.streamDone && inflight != 0 then ((), some s!"request stream ended with {inflight} requests in flight")
      else ((), none)
  | _ => ((), none)

/-- the remaining clauses of `checkC11` (count against the monitor's table of yielded, unfinished requests) -/
def checkC11Rest (b : Book) (_ : Unit) : SEv → Unit × Option String
  | .obs (.counts (.server _) inflight _) =>
      if !b.failed && inflight > b.table.length then
        ((), some s!"{inflight} requests reported in flight, only {b.table.length} yielded requests can still be tracked")
      else if b.stalled && !b.failed && inflight > b.sweep.table.length then
        ((), some s!"limiter at its limit and sink not ready: {inflight} reported in flight, only {b.sweep.table.length} yielded request(s) unfinished (cancellations / expirations are not processed until the sink is ready)")
      else if b.idleNow && inflight != b.table.length && !b.reuseTainted then
        ((), some s!"channel idle: {inflight} reported in flight, {b.table.length} yielded requests unanswered, uncancelled, unexpired and not abandoned")
      else ((), none)
  | _ => ((), none)

theorem checkC11_split (b : Book) (u : Unit) (e : SEv) :
    (checkC11 b u e).2 = (checkC11Counts b u e).2.orElse fun _ => (checkC11Rest b u e).2 := by
  cases e with
  | op o => rfl
  | obs o =>
    cases o <;> try rfl
    rename_i ep a t
    cases ep <;> try rfl
    simp only [checkC11, checkC11Counts, checkC11Rest]
    by_cases h1 : (a != t) = true
    · rw [if_pos h1, if_pos h1]; rfl
    · rw [if_neg h1, if_neg h1]
      by_cases h2 : (b.streamDone && a != 0) = true
      · rw [if_pos h2, if_pos h2]; rfl
      · rw [if_neg h2, if_neg h2]; rfl

def monC11Counts (limit : Option Nat) (evs : List SEv) : Mon Unit := Mon.run limit checkC11Counts () evs

/-- `ret` of the request stream and `counts`: the two kinds of observation the clause looks at -/
def isRC : Obs → Bool
  | .ret (.server _) _ => true
  | .counts _ _ _ => true
  | _ => false

theorem isRC_pollQuiet : PollQuiet isRC :=
  ⟨fun _ _ => rfl, fun _ _ _ => rfl, fun _ _ => rfl, fun _ _ => rfl, fun _ _ => rfl, fun _ => rfl, fun _ => rfl, fun _ _ => rfl⟩

theorem isRC_execQuiet : ExecQuiet isRC :=
  ⟨⟨⟨fun _ => rfl, rfl, fun _ _ => rfl⟩, fun _ _ => rfl⟩, fun _ _ _ => rfl⟩

structure G where
  sd : Bool := false      -- `Book.streamDone`
  bad : Bool := false     -- the clause fired

def gstep (g : G) : Obs → G
  | .ret (.server _) .readyNone => { g with sd := true }
  | .counts (.server _) a _ => { g with bad := g.bad || (g.sd && a != 0) }
  | _ => g

def go (g0 : G) (obs : List Obs) : G := obs.foldr (fun o g => gstep g o) g0

theorem gstep_not_rc (g : G) (o : Obs) (h : isRC o = false) : gstep g o = g := by
  cases o <;> simp [isRC] at h <;> try rfl
  rename_i t r
  cases t <;> simp at h <;> rfl

theorem go_filter (g0 : G) (l : List Obs) : go g0 (l.filter isRC) = go g0 l :=
  FlowMon.foldObs_filter gstep isRC gstep_not_rc g0 l

/-- between ops: the clause has not fired; if the monitor has seen the end of the stream, the model has recorded it -/
def Inv11 (g : G) (s : St) : Prop := g.bad = false ∧ (g.sd = true → s.done.isSome = true)

theorem gpoll (g : G) (k : Nat) (r : Ret) (a b : Nat) (hb : g.bad = false) (hs : g.sd = false)
    (h : r = .readyNone → a = 0) :
    (gstep (gstep g (.ret (.server k) r)) (.counts (.server k) a b)).bad = false ∧
    ((gstep (gstep g (.ret (.server k) r)) (.counts (.server k) a b)).sd = true → r = .readyNone) := by
  cases r <;> simp [gstep, hb, hs]
  exact h rfl

theorem pskRet_rc (s : St) (r : ReqPoll) : (pskRet s r).1.obs.filter isRC = s.obs.filter isRC := by
  unfold pskRet
  split <;> try rfl
  split <;> simp [Server.emit, Server.updExec, isRC]

theorem pskRet_none (s : St) (r : ReqPoll) (h : (pskRet s r).2 = .readyNone) : r = .none := by
  unfold pskRet at h
  split at h <;> first | rfl | cases h | skip
  split at h <;> cases h

theorem inv11_pollServerKeep (g : G) (s : St) (now : Nat) (h : Inv11 g s) (h0 : s.obs = []) :
    Inv11 (go g (pollServerKeep s now).obs) (pollServerKeep s now) := by
  have hflt := flt_requestsPollNext isRC_pollQuiet now (pollFuel { s with woken := false }) { s with woken := false }
  have hspec := (requestsPollNext_spec now (pollFuel { s with woken := false }) { s with woken := false }).2
  have ho := pollServerKeep_out s now
  generalize pollServerKeep s now = s' at ho ⊢
  have hsd : s.done.isSome = false → g.sd = false := fun hd => by
    cases hg : g.sd with
    | false => rfl
    | true => have := h.2 hg; rw [hd] at this; cases this
  cases ho with
  | dead _ =>
    show Inv11 (gstep (go g s.obs) .noop) _
    rw [h0]; exact h
  | reset hl s1 r he _ _ =>
    show Inv11 (go g (Obs.spin (tid s1) :: s.obs)) _
    rw [h0]
    refine ⟨h.1, fun hg => ?_⟩
    rw [show go g [Obs.spin (tid s1)] = g from rfl, hsd hl.2.1] at hg; cases hg
  | poisoned hl s1 r he _ =>
    rw [he] at hflt
    unfold Flt at hflt
    simp only [h0, List.filter_nil] at hflt
    rw [← go_filter, hflt]
    refine ⟨h.1, fun hg => ?_⟩
    rw [show go g [] = g from rfl, hsd hl.2.1] at hg; cases hg
  | fin hl s1 r he _ =>
    rw [he] at hflt hspec
    unfold Flt at hflt
    simp only [h0, List.filter_nil] at hflt hspec
    rw [← go_filter]
    have hobs : (pskFinish s1 r).obs.filter isRC =
        [.counts (tid (pskRet s1 r).1) (pskRet s1 r).1.inflight.length (pskRet s1 r).1.timers.len,
         .ret (tid (pskRet s1 r).1) (pskRet s1 r).2] := by
      unfold pskFinish
      simp only [Server.emit, tid]
      rw [List.filter_cons_of_pos (by rfl), List.filter_cons_of_pos (by rfl), pskRet_rc, hflt]
    rw [hobs]
    have hfr := pskRet_frame s1 r
    have hg := gpoll g (pskRet s1 r).1.sidx (pskRet s1 r).2 (pskRet s1 r).1.inflight.length (pskRet s1 r).1.timers.len
      h.1 (hsd hl.2.1) (fun hr => by
        have := pskRet_none s1 r hr
        subst this
        rw [hfr.2.2.2.1, (hspec rfl).2.1]; rfl)
    refine ⟨hg.1, fun hs => ?_⟩
    have hr := pskRet_none s1 r (hg.2 hs)
    subst hr
    show (pskFinish s1 .none).done.isSome = true
    rw [pskFinish_done, pskRet_done]; rfl

theorem inv11_pollServer (g : G) (s : St) (now : Nat) (h : Inv11 g s) (h0 : s.obs = []) :
    Inv11 (go g (pollServer s now).obs) (pollServer s now) := by
  have hk := inv11_pollServerKeep g s now h h0
  refine pollServer_ind (P := fun s' => Inv11 (go g s'.obs) s') s now hk ?_ hk
  rw [← go_filter, fx_dropServer isRC_execQuiet.toWakeQuiet, go_filter]
  exact ⟨hk.1, fun hs => by rw [dropServer_done]; exact hk.2 hs⟩

theorem applyOp_done (c : Sys) (op : SOp) (hop : op ≠ .pollServer) : (applyOp c op).s.done = c.s.done := by
  by_cases hd : op = .dropServer
  · subst hd; exact dropServer_done _
  · exact applyOp_closed (P := fun s => s.done = c.s.done)
      ⟨fun s s' hi h => by rw [hi.done]; exact h, fun s o _ h => h, fun s r f _ h => h⟩ (fun _ _ h => h) (fun _ _ h => h)
      c op hop hd rfl

theorem inv11_applyOp (g : G) (c : Sys) (op : SOp) (h : Inv11 g c.s) (h0 : c.s.obs = []) :
    Inv11 (go g (applyOp c op).s.obs) (applyOp c op).s := by
  by_cases hop : op = .pollServer
  · subst hop; exact inv11_pollServer g c.s c.now h h0
  · rw [← go_filter, fx_applyOp isRC_execQuiet c op hop, h0]
    exact ⟨h.1, fun hs => by rw [applyOp_done c op hop]; exact h.2 hs⟩

def gev (g : G) : SEv → G := FlowMon.foldEv gstep id g

def gtrace (g : G) (evs : List SEv) : G := evs.foldl gev g

theorem inv11_trace (ops : List SOp) (c : Sys) (g : G) (h : Inv11 g c.s) : (gtrace g (trace c ops)).bad = false :=
  have ⟨_, h⟩ := FlowMon.fold_trace gstep id (Inv := fun g c => Inv11 g c.s)
    (fun g c op h => inv11_applyOp g (clr c) op h rfl) ops c g h
  h.1

@[simp] theorem updExec_streamDone (b : Book) (r f) : (b.updExec r f).streamDone = b.streamDone := rfl
@[simp] theorem untrack_streamDone (b : Book) (id) : (b.untrack id).streamDone = b.streamDone := rfl
@[simp] theorem sweep_streamDone (b : Book) : b.sweep.streamDone = b.streamDone := rfl
theorem gev_sd (g : G) (e : SEv) : (gev g e).sd = (g.sd || FlowMon.noneRetEv e) := by
  cases e with
  | op o => exact (Bool.or_false _).symm
  | obs o =>
    cases o <;> try exact (Bool.or_false _).symm
    case ret t r =>
      cases t <;> try exact (Bool.or_false _).symm
      cases r <;> first | exact (Bool.or_false _).symm | exact (Bool.or_true _).symm
    case counts ep a b => cases ep <;> exact (Bool.or_false _).symm

theorem mon11_accepts_of (evs : List SEv) (m : Mon Unit) (g : G) (hb : m.bad = none) (hsd : m.book.streamDone = g.sd)
    (hg : (gtrace g evs).bad = false) (heq : ∀ k a b, SEv.obs (.counts (.server k) a b) ∈ evs → a = b) :
    (evs.foldl (Mon.step checkC11Counts) m).bad = none := by
  refine (FlowMon.sim_run checkC11Counts gev (fun m g => m.book.streamDone = g.sd ∧ (g.bad = false → m.bad = none)) evs
    (fun e he m g h => ⟨?_, fun hge => ?_⟩) m g ⟨hsd, fun _ => hb⟩).2 hg
  · rw [FlowMon.mon_step_book, FlowMon.noteFinish_streamDone, FlowMon.step_streamDone, gev_sd, h.1]
  · have quiet : g.bad = false → (checkC11Counts (FlowMon.bookOf m.book e) m.st e).2 = none →
        (Mon.step checkC11Counts m e).bad = none :=
      fun hgb hc => FlowMon.mon_step_bad checkC11Counts m e (h.2 hgb) (Or.inr hc)
    cases e with
    | op o => exact quiet hge rfl
    | obs o =>
      cases o <;> try exact quiet hge rfl
      case ret t r =>
        cases t <;> try exact quiet hge rfl
        cases r <;> exact quiet hge rfl
      case counts ep a b =>
        cases ep <;> try exact quiet hge rfl
        rename_i k
        have hab := heq k a b he
        subst hab
        simp only [gev, FlowMon.foldEv, gstep, Bool.or_eq_false_iff, Bool.and_eq_false_iff] at hge
        refine quiet hge.1 ?_
        simp only [checkC11Counts, FlowMon.bookOf, bne_self_eq_false, Bool.false_eq_true, if_false, h.1]
        rcases hge.2 with h1 | h1 <;> simp [h1]

end TarpcModel.Server.Mon11
