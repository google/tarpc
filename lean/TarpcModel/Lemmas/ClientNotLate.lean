import TarpcModel.Lemmas.ClientDelayQBridge
import TarpcModel.Lemmas.ClientExpire
import TarpcModel.Lemmas.DelayQIdle
/-!
The client dispatch going idle leaves no due timer behind: `in_flight_requests.poll_expired` loops until the
`DelayQueue` reports nothing (its fuel never runs out: every `continue` re-arms a timer and takes at least 1 ns off what
is still to be armed), `pump_write` only ends `Pending` / `None` after such a `poll_expired`, and `run` only ends
`Pending` after such a `pump_write`; on a queue satisfying the two-sided wheel invariant "reports nothing" means
"nothing is due" (`DelayQ.Idle.of_poll`; `DelayQ.Idle` also says that every entry is armed: waker stored, `Sleep` registered).
-/
namespace TarpcModel.Client
open TarpcModel

/-- An iteration of `poll_expired` that ends the loop without yielding and without a panic: the queue reported
nothing. -/
theorem expireWith_done_false {s s' : St} {now : Nat} {r : DelayQ × DelayQ.PollRes}
    (h : expireWith s now r = .done s' false) (hp : s'.poisoned = false) :
    (r.2 = .pending ∨ r.2 = .none) ∧ s'.timers = r.1 := by
  revert h
  refine expireWith_cases (motive := fun st => st = .done s' false → (r.2 = .pending ∨ r.2 = .none) ∧ s'.timers = r.1)
    s now r ?_ ?_ ?_ ?_ ?_
  · intro hres h
    simp only [ExpStep.done.injEq, and_true] at h
    subst h
    refine ⟨?_, rfl⟩
    cases hp : r.2 with
    | expired e => exact absurd hp (hres e)
    | pending => exact .inl rfl
    | none => exact .inr rfl
  · exact fun _ _ _ h => by simp at h
  · exact fun _ _ _ _ _ h => by simp at h
  · intro e en q' w _ _ _ _ h
    simp only [ExpStep.done.injEq, and_true] at h
    subst h
    simp [emit] at hp
  · exact fun _ _ _ _ _ _ _ _ _ h => nomatch h

variable {now : Nat}

/-- **`poll_expired` going idle.**  On a queue satisfying the wheel invariant, with enough fuel: if the loop of
`in_flight_requests.poll_expired` ends without yielding (`Pending` / `None`) and without a panic, no timer of the queue
it leaves behind is due. -/
theorem pollExpiredLoop_timers_idle (hc : QClosed now DelayQ.Complete) : ∀ (fuel : Nat) (s : St), remSum s < fuel →
    DelayQ.Complete s.timers → (pollExpiredLoop fuel s now).2 = false →
    (pollExpiredLoop fuel s now).1.poisoned = false → DelayQ.Idle now (pollExpiredLoop fuel s now).1.timers := by
  intro fuel
  induction fuel with
  | zero => intro s hb; omega
  | succ n ih =>
    intro s hb hq
    cases hstep : expireStep s now with
    | again s1 =>
      have hlt := expireWith_again (r := s.timers.pollExpired now) hstep
      have hq1 : DelayQ.Complete s1.timers := by
        have := hc.expireStep hq
        rw [hstep] at this; exact this
      simp only [pollExpiredLoop, hstep]
      exact ih s1 (by omega) hq1
    | done s1 b =>
      simp only [pollExpiredLoop, hstep]
      intro hb' hp
      subst hb'
      obtain ⟨hr, ht⟩ := expireWith_done_false (r := s.timers.pollExpired now) hstep hp
      rw [ht]
      exact DelayQ.Idle.of_poll hq (DelayQ.pair_eta _) hr

theorem pollExpired_timers_idle (hc : QClosed now DelayQ.Complete) {s : St} (hq : DelayQ.Complete s.timers)
    (hr : (pollExpired s now).2 = false) (hp : (pollExpired s now).1.poisoned = false) :
    DelayQ.Idle now (pollExpired s now).1.timers :=
  pollExpiredLoop_timers_idle hc _ s (by rw [expiredFuel_eq]; omega) hq hr hp

/-- **`pump_write` going idle.**  If the write pump ends `Pending` or `None` (nothing written, nothing expired) and
the dispatch is not poisoned, no timer is due in the state it leaves behind: the pump always calls `poll_expired`
before it gives up, whatever the transport's readiness. -/
theorem pumpWrite_timers_idle (hc : QClosed now DelayQ.Complete) {s : St} (hq : DelayQ.Complete s.timers)
    (hr : (pumpWrite s now).2 = .pending ∨ (pumpWrite s now).2 = .none)
    (hp : (pumpWrite s now).1.poisoned = false) : DelayQ.Idle now (pumpWrite s now).1.timers := by
  obtain ⟨s1, r1, s2, r2, s3, e1, _, e2, _, e3, hl⟩ :=
    pumpWrite_idle (s' := (pumpWrite s now).1) (r := (pumpWrite s now).2) rfl hr
  have h2 : DelayQ.Complete s2.timers :=
    of_fst (P := fun s => DelayQ.Complete s.timers) e2
      (hc.pollWriteCancel (of_fst (P := fun s => DelayQ.Complete s.timers) e1 (hc.pollWriteRequest hq)))
  have idle := pollExpired_timers_idle hc h2
  rw [e3] at idle
  rcases hl with hl | hl <;> rw [hl] at hp ⊢
  · rw [Flow.tClose_timers]; exact idle rfl (by rwa [Flow.tClose_poisoned] at hp)
  · rw [Flow.tFlush_timers]; exact idle rfl (by rwa [Flow.tFlush_poisoned] at hp)

/-- **`run` going idle.**  If the dispatch's `run` loop ends `Pending` and the dispatch is not poisoned, no timer is
due in the state it leaves behind: the loop goes round again as long as either pump makes progress (an expiry is
progress), so its last iteration's `pump_write` ended `Pending` / `None`. -/
theorem run_timers_idle (hc : QClosed now DelayQ.Complete) (fuel : Nat) (s : St) (hq : DelayQ.Complete s.timers)
    (hr : (run fuel s now).2 = .pending) (hp : (run fuel s now).1.poisoned = false) :
    DelayQ.Idle now (run fuel s now).1.timers := by
  obtain ⟨s0, s1, r, st, e0, e, hr'⟩ := run_idle fuel (s := s) (s' := (run fuel s now).1) (now := now) (Prod.ext rfl hr)
  have h := pumpWrite_timers_idle hc (hc.steps hq round_le_core (st.trans (of_fst e0 (pumpRead_steps now s0))))
  rw [e] at h
  exact h hr' hp


/-- **`RequestDispatch::poll` going idle.**  If the poll returns `Pending` without the dispatch being poisoned (by a
panic or a spin), no timer is due in the state it leaves behind (after a terminal error the queue has been cleared). -/
theorem pollDispatchCore_timers_idle (hc : QClosed now DelayQ.Complete) {s : St} (hq : DelayQ.Complete s.timers)
    (hr : (pollDispatchCore s now).2 = .pending) (hp : (pollDispatchCore s now).1.poisoned = false) :
    DelayQ.Idle now (pollDispatchCore s now).1.timers := by
  have shut : ∀ {s0 a s1 fin}, shutDown s0 a = (s1, fin) → DelayQ.Idle now s1.timers := by
    intro s0 a s1 fin e
    obtain rfl : (shutDown s0 a).1 = s1 := by rw [e]
    exact DelayQ.Idle.of_items_nil (by rw [shutDown_timers]; exact DelayQ.items_clear _)
  revert hr hp
  refine Flow.pollDispatchCore_cases
    (motive := fun p => p.2 = .pending → p.1.poisoned = false → DelayQ.Idle now p.1.timers) s now ?_ ?_ ?_ ?_ ?_
  · exact fun a s1 fin _ e _ _ => shut e
  · intro s1 _ e hr hp
    have := run_timers_idle hc (runFuel s) s hq
    rw [e] at this
    exact this rfl hp
  · exact fun s1 _ _ hr => nomatch hr
  · exact fun s1 _ _ _ hp => nomatch hp
  · exact fun s1 a s2 fin _ _ e _ _ => shut e

/-- **A dispatch poll going back to waiting.**  When a poll of a live dispatch leaves it not done (it returned
`Pending`) and not poisoned, no timer is due in the state it leaves behind, the dispatch's waker is stored in the queue
and the queue's `Sleep` is armed no later than the earliest remaining tick. -/
theorem pollDispatchKeep_timers_idle (hc : QClosed now DelayQ.Complete) {s : St} (hq : DelayQ.Complete s.timers)
    (hrun : (s.dDropped || s.done.isSome || s.poisoned) = false)
    (hd : (pollDispatchKeep s now).done = none) (hp : (pollDispatchKeep s now).poisoned = false) :
    DelayQ.Idle now (pollDispatchKeep s now).timers := by
  obtain ⟨s1, hc1, hpo, e⟩ := Flow.pollDispatchKeep_pending hrun hd hp
  have h := pollDispatchCore_timers_idle hc (s := { s with dWoken := false }) hq
  rw [hc1] at h
  rw [e]; exact h rfl hpo

theorem pollDispatch_timers_idle (hc : QClosed now DelayQ.Complete) {s : St} (hq : DelayQ.Complete s.timers)
    (hrun : (s.dDropped || s.done.isSome || s.poisoned) = false)
    (hd : (pollDispatchKeep s now).done = none) (hp : (pollDispatchKeep s now).poisoned = false) :
    pollDispatch s now = pollDispatchKeep s now ∧ DelayQ.Idle now (pollDispatch s now).timers := by
  exact ⟨Flow.pollDispatch_of_keep hd, by rw [Flow.pollDispatch_of_keep hd]; exact pollDispatchKeep_timers_idle hc hq hrun hd hp⟩

end TarpcModel.Client
