import TarpcModel.Lemmas.ClientFrames
import TarpcModel.Lemmas.DelayQFacts
/-
No spin (C14, client): with the fixed `ensure_writeable` a dispatch poll emits `Obs.spin` only if `run`'s
fuel runs out, and every iteration of `run` that loops consumes an inbound item, a queued request, a queued
cancellation or an armed timer — so fuel above `runMeasure s` suffices, and the model's `runFuel s = runMeasure s + 4`
(`Client/Model.lean`) never runs out (`runMeasure_lt_runFuel`).
-/
namespace TarpcModel.Client.Flow

/-! ### `DelayQueue`: sizes, as inequalities whatever the result -/
namespace DelayQ
open TarpcModel.DelayQ

theorem insert_len_le {q q' : DelayQ} {now timeout val : Nat} {r : InsertRes} {w : Bool}
    (h : q.insert now timeout val = (q', r, w)) : q'.len ≤ q.len + 1 := by
  cases r with
  | panic => exact TarpcModel.DelayQ.insert_panic h ▸ Nat.le_succ _
  | ok k => exact Nat.le_of_eq (TarpcModel.DelayQ.insert_len h)

/-- projection form (no `rfl` between `q.insert …` and its components: the kernel would evaluate the insert) -/
theorem insert_len_le' (q : DelayQ) (now timeout val : Nat) : (q.insert now timeout val).1.len ≤ q.len + 1 := by
  rcases h : q.insert now timeout val with ⟨q', r, w⟩
  exact insert_len_le h

theorem remove_len_le {q q' : DelayQ} {key : Nat} {w : Bool} (h : q.remove key = some (q', w)) : q'.len ≤ q.len :=
  Nat.le_of_lt (TarpcModel.DelayQ.remove_len h)

theorem pollExpired_len (q : DelayQ) (now : Nat) :
    (q.pollExpired now).1.len ≤ q.len ∧
    (∀ e, (q.pollExpired now).2 = .expired e → (q.pollExpired now).1.len + 1 ≤ q.len) := by
  cases hp : q.pollExpired now with
  | mk q' r =>
    exact ⟨pollExpired_len_le hp, fun e he => pollExpired_len_lt (show q.pollExpired now = (q', .expired e) from he ▸ hp)⟩

end DelayQ

/-- What `run` consumes: every iteration that loops takes an inbound item, a queued request (which may arm one
timer), a queued cancellation or an armed timer. -/
def runMeasure (s : St) : Nat := s.t.inbound.length + 2 * s.pq.length + s.cq.length + s.timers.len

theorem isT_of_isSpinObs (o : Obs) (h : isSpinObs o = true) : isT o = true := by
  cases o <;> simp_all [isSpinObs]

theorem filter_spinObs_of_tObs {l l' : List Obs} (h : l'.filter isT = l.filter isT) :
    l'.filter isSpinObs = l.filter isSpinObs := filter_of_tObs isT_of_isSpinObs h

/-- A step of `run` that emits no spin, keeps the `ensure_writeable` variant and consumes at least `d` units of
`runMeasure`. -/
structure MStep (s s' : St) (d : Nat) : Prop where
  spin : s'.obs.filter isSpinObs = s.obs.filter isSpinObs
  el : s'.ensureLoop = s.ensureLoop
  mu : runMeasure s' + d ≤ runMeasure s

theorem MStep.refl (s : St) : MStep s s 0 := ⟨rfl, rfl, Nat.le_refl _⟩

theorem MStep.trans {s s1 s2 : St} {d1 d2 : Nat} (h1 : MStep s s1 d1) (h2 : MStep s1 s2 d2) :
    MStep s s2 (d1 + d2) :=
  ⟨h2.spin.trans h1.spin, h2.el.trans h1.el, by have := h1.mu; have := h2.mu; omega⟩

theorem MStep.weaken {s s' : St} {d d' : Nat} (h : MStep s s' d) (hd : d' ≤ d) : MStep s s' d' :=
  ⟨h.spin, h.el, by have := h.mu; omega⟩

/-- Transport-free steps: only the sizes matter. -/
theorem MStep.of_frameA {s s' : St} {d : Nat} (hA : FrameA s s')
    (hm : 2 * s'.pq.length + s'.cq.length + s'.timers.len + d ≤ 2 * s.pq.length + s.cq.length + s.timers.len) :
    MStep s s' d :=
  ⟨filter_spinObs_of_tObs hA.tobs, hA.ensureLoop, by unfold runMeasure; rw [hA.t]; omega⟩

theorem MStep.of_frames {s s' : St} {d : Nat} (h : Frames s s')
    (hm : 2 * s'.pq.length + s'.cq.length + s'.timers.len + d ≤ 2 * s.pq.length + s.cq.length + s.timers.len) :
    MStep s s' d := .of_frameA h.a hm

theorem MStep.of_timers {s s' : St} (h : Frames s s') (ht : s'.timers.len ≤ s.timers.len) : MStep s s' 0 :=
  .of_frameA h.a (by have := h.d.pq; have := h.d.cq; omega)

/-! #### the transport-free primitives -/

/-- `pq`, `cq` and `timers` are untouched. -/
structure FrameQ (s s' : St) : Prop where
  pq : s'.pq = s.pq
  cq : s'.cq = s.cq
  timers : s'.timers = s.timers

theorem FrameQ.trans {s s1 s2 : St} (h1 : FrameQ s s1) (h2 : FrameQ s1 s2) : FrameQ s s2 :=
  ⟨h2.pq.trans h1.pq, h2.cq.trans h1.cq, h2.timers.trans h1.timers⟩

theorem wakeCall_frameQ (s : St) (cid : Nat) : FrameQ s (wakeCall s cid) := by
  obtain ⟨cs, os, h⟩ := wakeCall_only s cid; rw [h]; exact ⟨rfl, rfl, rfl⟩

theorem osSend_frameQ (s : St) (cid : Nat) (o : Outcome) : FrameQ s (osSend s cid o) := by
  obtain ⟨cs, os, h⟩ := osSend_only s cid o; rw [h]; exact ⟨rfl, rfl, rfl⟩

theorem pqRelease_frameQ (s : St) : FrameQ s (pqRelease s) := by
  rcases pqRelease_out s with ⟨_, _, _, e⟩ | ⟨_, e⟩ <;> rw [e]
  · exact FrameQ.trans (by exact ⟨rfl, rfl, rfl⟩) (wakeCall_frameQ _ _)
  · exact ⟨rfl, rfl, rfl⟩

theorem removeTimer_timers (s : St) (key : Nat) : (removeTimer s key).timers.len ≤ s.timers.len := by
  rcases removeTimer_out s key with ⟨q, w, h, e⟩ | ⟨_, e⟩ <;> rw [e]
  · split
    · rw [wakeDispatch_timers]; exact DelayQ.remove_len_le h
    · exact DelayQ.remove_len_le h
  · exact Nat.le_refl _

theorem completeRequest_timers (s : St) (id : Nat) (o : Outcome) :
    (completeRequest s id o).1.timers.len ≤ s.timers.len := by
  rcases completeRequest_out s id o with ⟨_, h⟩ | ⟨e, _, h⟩ <;> rw [h]
  · exact Nat.le_refl _
  · rw [(osSend_frameQ (removeTimer { s with inflight := s.inflight.filter (·.id != id) } e.timerKey) e.cid o).timers]
    exact removeTimer_timers { s with inflight := s.inflight.filter (·.id != id) } e.timerKey

theorem cancelRequest_timers (s : St) (id : Nat) : (cancelRequest s id).1.timers.len ≤ s.timers.len := by
  rcases cancelRequest_out s id with ⟨_, h⟩ | ⟨e, _, h⟩ <;> rw [h]
  · exact Nat.le_refl _
  · exact removeTimer_timers { s with inflight := s.inflight.filter (·.id != id) } e.timerKey

theorem pqRecv_sizes (s : St) :
    (pqRecv s).1.timers = s.timers ∧ (∀ r, (pqRecv s).2 = .item r → (pqRecv s).1.pq.length + 1 = s.pq.length) := by
  rcases pqRecv_out s with ⟨r, rest, heq, e⟩ | ⟨_, e, _⟩ | ⟨_, e⟩ <;> rw [e]
  · have h := pqRelease_frameQ { s with pq := rest }
    exact ⟨h.timers, fun _ _ => by rw [h.pq, heq]; simp⟩
  · exact ⟨rfl, by simp⟩
  · exact ⟨rfl, by simp⟩

theorem nextRequestLoop_sizes (fuel : Nat) (s : St) :
    (nextRequestLoop fuel s).1.timers = s.timers ∧
    (∀ r, (nextRequestLoop fuel s).2 = .some r → (nextRequestLoop fuel s).1.pq.length + 1 ≤ s.pq.length) := by
  induction fuel generalizing s with
  | zero => exact ⟨rfl, by simp [nextRequestLoop]⟩
  | succ fuel ih =>
    have h := pqRecv_sizes s
    unfold nextRequestLoop
    split <;> rename_i heq <;> rw [heq] at h
    · exact ⟨h.1, by simp⟩
    · exact ⟨h.1, by simp⟩
    · rename_i s1 r
      have hr := h.2 r rfl
      simp only at hr
      split
      · obtain ⟨i1, i2⟩ := ih s1
        exact ⟨i1.trans h.1, fun r' hr' => by have := i2 r' hr'; omega⟩
      · exact ⟨h.1, fun _ _ => by simp only; omega⟩

theorem cqRecv_sizes (s : St) :
    (cqRecv s).1.timers = s.timers ∧ (∀ i, (cqRecv s).2 = .item i → (cqRecv s).1.cq.length + 1 = s.cq.length) := by
  rcases cqRecv_out s with ⟨i, rest, heq, e⟩ | ⟨_, e, _⟩ | ⟨_, e⟩ <;> rw [e]
  · exact ⟨rfl, fun _ _ => by simp [heq]⟩
  · exact ⟨rfl, by simp⟩
  · exact ⟨rfl, by simp⟩

theorem nextCancelLoop_sizes (fuel : Nat) (s : St) :
    (nextCancelLoop fuel s).1.timers.len ≤ s.timers.len ∧
    (∀ e, (nextCancelLoop fuel s).2 = .some e → (nextCancelLoop fuel s).1.cq.length + 1 ≤ s.cq.length) := by
  induction fuel generalizing s with
  | zero => exact ⟨Nat.le_refl _, by simp [nextCancelLoop]⟩
  | succ fuel ih =>
    have h := cqRecv_sizes s
    unfold nextCancelLoop
    split <;> rename_i heq <;> rw [heq] at h
    · exact ⟨by rw [h.1]; exact Nat.le_refl _, by simp⟩
    · exact ⟨by rw [h.1]; exact Nat.le_refl _, by simp⟩
    · rename_i s1 id
      have hr := h.2 id rfl
      have ht := cancelRequest_timers s1 id
      have hq := (cancelRequest_frameD s1 id).cq
      simp only at hr h
      split <;> rename_i heq2 <;> rw [heq2] at ht hq <;> simp only at ht hq
      · exact ⟨by rw [← h.1]; exact ht, fun _ _ => by simp only; omega⟩
      · rename_i s2
        obtain ⟨i1, i2⟩ := ih s2
        exact ⟨by rw [← h.1]; exact Nat.le_trans i1 ht, fun e he => by have := i2 e he; omega⟩

theorem insertRequest_timers {s s' : St} {now : Nat} {r : DReq} (h : insertRequest s now r = some s') :
    s'.timers.len ≤ s.timers.len + 1 := by
  unfold insertRequest at h; split at h
  · cases h; exact Nat.le_succ _
  · split at h
    · cases h; exact Nat.le_succ _
    · rename_i hq; cases h
      split
      · rw [wakeDispatch_timers]; exact DelayQ.insert_len_le hq
      · exact DelayQ.insert_len_le hq

theorem rearmWith_timers (s : St) (q : DelayQ) (id t due : Nat) (r : DelayQ × DelayQ.InsertRes × Bool)
    (hr : r.1.len ≤ q.len + 1) (hq : q.len + 1 ≤ s.timers.len) :
    (rearmWith s id t due r).st.timers.len ≤ s.timers.len ∧ (∀ s', rearmWith s id t due r ≠ .done s' true) := by
  unfold rearmWith; split
  · exact ⟨Nat.le_refl _, by simp⟩
  · refine ⟨?_, by simp⟩
    show (if _ then _ else _ : St).timers.len ≤ _; split
    · rw [wakeDispatch_timers]; exact Nat.le_trans hr hq
    · exact Nat.le_trans hr hq

theorem expireWith_timers (s : St) (now : Nat) (r : DelayQ × DelayQ.PollRes)
    (h1 : r.1.len ≤ s.timers.len) (h2 : ∀ e, r.2 = .expired e → r.1.len + 1 ≤ s.timers.len) :
    (expireWith s now r).st.timers.len ≤ s.timers.len ∧
    (∀ s', expireWith s now r = .done s' true → s'.timers.len + 1 ≤ s.timers.len) := by
  unfold expireWith; split
  · rename_i q e
    have hq := h2 e rfl
    simp only at hq
    split
    · rename_i en _
      split
      · have hi : (q.insert now (clampTimeout (en.remainder - (now - en.dueAt))) e.val).1.len ≤ q.len + 1 :=
          DelayQ.insert_len_le' _ _ _ _
        obtain ⟨a3, a4⟩ := rearmWith_timers s q e.val
          (now - en.dueAt + clampTimeout (en.remainder - (now - en.dueAt)))
          (now + clampTimeout (en.remainder - (now - en.dueAt))) _ hi hq
        exact ⟨a3, fun s' h => absurd h (a4 s')⟩
      · have f := osSend_frameQ { s with timers := q, inflight := s.inflight.filter (·.id != e.val) } en.cid .deadline
        refine ⟨?_, ?_⟩
        · show (osSend _ _ _).timers.len ≤ _; rw [f.timers]; show q.len ≤ _; omega
        · intro s' h; cases h; rw [f.timers]; exact hq
    · refine ⟨?_, ?_⟩
      · show q.len ≤ _; omega
      · intro s' h; cases h; exact hq
  · exact ⟨h1, by simp⟩

theorem expireStep_timers (s : St) (now : Nat) :
    (expireStep s now).st.timers.len ≤ s.timers.len ∧
    (∀ s', expireStep s now = .done s' true → s'.timers.len + 1 ≤ s.timers.len) :=
  expireWith_timers s now _ (DelayQ.pollExpired_len s.timers now).1 (DelayQ.pollExpired_len s.timers now).2

theorem pollExpiredLoop_timers (fuel : Nat) (s : St) (now : Nat) :
    (pollExpiredLoop fuel s now).1.timers.len ≤ s.timers.len ∧
    ((pollExpiredLoop fuel s now).2 = true → (pollExpiredLoop fuel s now).1.timers.len + 1 ≤ s.timers.len) := by
  induction fuel generalizing s with
  | zero => exact ⟨Nat.le_refl _, by simp [pollExpiredLoop]⟩
  | succ fuel ih =>
    obtain ⟨a3, a4⟩ := expireStep_timers s now
    unfold pollExpiredLoop; split <;> rename_i heq <;> rw [heq] at a3
    · rename_i s1
      obtain ⟨i3, i4⟩ := ih s1
      simp only [ExpStep.st] at a3
      exact ⟨Nat.le_trans i3 a3, fun h => Nat.le_trans (i4 h) a3⟩
    · rename_i s1 b
      simp only [ExpStep.st] at a3
      refine ⟨a3, fun h => ?_⟩
      simp only at h; subst h
      exact a4 s1 heq

theorem pollExpired_timers (s : St) (now : Nat) :
    (pollExpired s now).1.timers.len ≤ s.timers.len ∧
    ((pollExpired s now).2 = true → (pollExpired s now).1.timers.len + 1 ≤ s.timers.len) :=
  pollExpiredLoop_timers _ s now

/-! #### the transport calls -/

theorem tEmit_spinObs (s : St) (t' : SimT) (o : Obs) (w : Bool) (ho : isSpinObs o = false) :
    (tEmit s t' o w).obs.filter isSpinObs = s.obs.filter isSpinObs :=
  tEmit_filter (fun _ _ => rfl) (fun _ => rfl) s t' o w ho

theorem tEmit_mstep (s : St) (t' : SimT) (o : Obs) (w : Bool) (ho : isSpinObs o = false)
    (hi : t'.inbound = s.t.inbound) : MStep s (tEmit s t' o w) 0 :=
  ⟨tEmit_spinObs s t' o w ho, tEmit_ensureLoop _ _ _ _, by
    unfold runMeasure; rw [tEmit_t, tEmit_pq, tEmit_cq, tEmit_timers, hi]; exact Nat.le_refl _⟩

theorem tReady_mstep (s : St) : MStep s (tReady s).1 0 := by
  rw [tReady_eq]; exact tEmit_mstep _ _ _ _ rfl (SimT.pollReady_inbound _)
theorem tFlush_mstep (s : St) : MStep s (tFlush s).1 0 := by
  rw [tFlush_eq]; exact tEmit_mstep _ _ _ _ rfl (SimT.pollFlush_inbound _)
theorem tClose_mstep (s : St) : MStep s (tClose s).1 0 := by
  rw [tClose_eq]; exact tEmit_mstep _ _ _ _ rfl (SimT.pollClose_inbound _)
theorem tSend_mstep (s : St) (m : Msg) : MStep s (tSend s m).1 0 := by
  have := tEmit_mstep s (s.t.startSend m).1 (.tSend (tid s) m (s.t.startSend m).2) false rfl
    (SimT.startSend_inbound _ _)
  rw [tSend_eq]; exact this

theorem pollNext_inbound (t : SimT) : t.pollNext.1.inbound.length ≤ t.inbound.length ∧
    (∀ m, t.pollNext.2 = .item m → t.pollNext.1.inbound.length + 1 = t.inbound.length) := by
  unfold SimT.pollNext; split
  · exact ⟨Nat.le_refl _, by simp⟩
  · simp only; split
    · rename_i m rest heq; simp at heq; simp [heq]
    · rename_i rest heq; simp at heq; simp [heq]
    · split <;> exact ⟨by simp, by simp⟩

theorem tNext_mstep (s : St) : MStep s (tNext s).1 0 ∧ (∀ m, (tNext s).2 = .item m → MStep s (tNext s).1 1) := by
  have hi := pollNext_inbound s.t
  rw [tNext_eq]; split
  · exact ⟨.refl _, by simp⟩
  · refine ⟨⟨by simp [isSpinObs], rfl, ?_⟩, fun m hm => ⟨by simp [isSpinObs], rfl, ?_⟩⟩
    · unfold runMeasure; simp only; have := hi.1; omega
    · unfold runMeasure; simp only; have := hi.2 m hm; omega

theorem ensureOnce_mstep (s : St) : MStep s (ensureOnce s).1 0 :=
  (ensureOnce_steps 0 s).lift (R := fun s s' => MStep s s' 0) .refl .trans (fun {a _ _} ha st => by
    cases st with
    | ready => exact tReady_mstep _
    | flush => exact tFlush_mstep _
    | _ => exact False.elim ha)

theorem ensureWriteable_mstep (s : St) (hel : s.ensureLoop = false) : MStep s (ensureWriteable s).1 0 := by
  unfold ensureWriteable; rw [hel]; exact ensureOnce_mstep s

/-! #### the pumps -/

theorem pollNextRequest_mstep (s : St) (hel : s.ensureLoop = false) :
    MStep s (pollNextRequest s).1 0 ∧ (∀ r, (pollNextRequest s).2 = .some r → MStep s (pollNextRequest s).1 2) := by
  refine pollNextRequest_cases
    (motive := fun p => MStep s p.1 0 ∧ (∀ r, p.2 = .some r → MStep s p.1 2)) s ?_ ?_ ?_
  · intro _; exact ⟨.refl _, by simp⟩
  · intro s1 e _ h1 hne
    have f1 := ensureWriteable_mstep s hel; rw [h1] at f1
    exact ⟨f1, by cases e <;> simp [EW.toPW] at hne ⊢⟩
  · intro s1 _ h1
    have f1 : MStep s s1 0 := of_fst (P := fun x => MStep s x 0) h1 (ensureWriteable_mstep s hel)
    obtain ⟨q2, q4⟩ := nextRequestLoop_sizes (s1.pq.length + 1) s1
    have hF := nextRequestLoop_frames (s1.pq.length + 1) s1
    refine ⟨f1.trans (.of_timers hF (by rw [q2]; exact Nat.le_refl _)), fun r hr => ?_⟩
    have := q4 r hr; have := hF.d.cq
    exact (f1.trans (MStep.of_frames (d := 2) hF (by rw [q2]; omega))).weaken (by omega)

/-- Arming the timer of a request just dequeued: of the two units the dequeue paid, one is left. -/
theorem insertRequest_mstep {s s1 s2 : St} {now : Nat} {r : DReq} (f : MStep s s1 2)
    (h2 : insertRequest s1 now r = some s2) : MStep s s2 1 := by
  have hF := insertRequest_frames h2
  refine ⟨(filter_spinObs_of_tObs hF.a.tobs).trans f.spin, hF.a.ensureLoop.trans f.el, ?_⟩
  have hmu := f.mu; have := insertRequest_timers h2; have := hF.d.pq; have := hF.d.cq
  unfold runMeasure at hmu ⊢
  rw [hF.a.t]; omega

theorem pollWriteRequest_mstep (s : St) (now : Nat) (hel : s.ensureLoop = false) :
    MStep s (pollWriteRequest s now).1 0 ∧
    ((pollWriteRequest s now).2 = .some () → MStep s (pollWriteRequest s now).1 1) := by
  have hp := pollNextRequest_mstep s hel
  refine pollWriteRequest_cases (motive := fun p => MStep s p.1 0 ∧ (p.2 = .some () → MStep s p.1 1)) s now
    ?_ ?_ ?_ ?_
  · intro s1 r h1 hns
    rw [h1] at hp
    exact ⟨hp.1, by cases r <;> simp [PW.pass, PW.isSome] at hns ⊢⟩
  · intro s1 r s2 h1 h2 _
    rw [h1] at hp
    have g := insertRequest_mstep (hp.2 r rfl) h2
    exact ⟨g.weaken (by omega), fun _ => g⟩
  · intro s1 r s2 s3 h1 h2 _ h3
    rw [h1] at hp
    have g := insertRequest_mstep (hp.2 r rfl) h2
    have f3 := tSend_mstep s2 (.request r.id r.ctx.deadline r.ctx.trace r.body); rw [h3] at f3
    exact ⟨(g.trans f3).weaken (by omega), fun _ => g.trans f3⟩
  · intro s1 r s2 s3 h1 h2 _ h3
    rw [h1] at hp
    have g := insertRequest_mstep (hp.2 r rfl) h2
    have f3 := tSend_mstep s2 (.request r.id r.ctx.deadline r.ctx.trace r.body); rw [h3] at f3
    have f4 : MStep s3 (completeRequest s3 r.id .send).1 0 :=
      .of_timers (completeRequest_frames _ _ _) (completeRequest_timers _ _ _)
    exact ⟨((g.trans f3).trans f4).weaken (by omega), fun _ => (g.trans f3).trans f4⟩

theorem pollNextCancellation_mstep (s : St) (hel : s.ensureLoop = false) :
    MStep s (pollNextCancellation s).1 0 ∧
    (∀ e, (pollNextCancellation s).2 = .some e → MStep s (pollNextCancellation s).1 1) := by
  refine pollNextCancellation_cases
    (motive := fun p => MStep s p.1 0 ∧ (∀ e, p.2 = .some e → MStep s p.1 1)) s ?_ ?_
  · intro s1 e h1 hne
    have f1 := ensureWriteable_mstep s hel; rw [h1] at f1
    exact ⟨f1, by cases e <;> simp [EW.toPW] at hne ⊢⟩
  · intro s1 h1
    have f1 : MStep s s1 0 := of_fst (P := fun x => MStep s x 0) h1 (ensureWriteable_mstep s hel)
    obtain ⟨q2, q4⟩ := nextCancelLoop_sizes (s1.cq.length + 1) s1
    have hF := nextCancelLoop_frames (s1.cq.length + 1) s1
    refine ⟨f1.trans (.of_timers hF q2), fun e he => ?_⟩
    have := q4 e he; have := hF.d.pq
    exact (f1.trans (MStep.of_frames (d := 1) hF (by omega))).weaken (by omega)

theorem pollWriteCancel_mstep (s : St) (hel : s.ensureLoop = false) :
    MStep s (pollWriteCancel s).1 0 ∧ ((pollWriteCancel s).2 = .some () → MStep s (pollWriteCancel s).1 1) := by
  have hp := pollNextCancellation_mstep s hel
  refine pollWriteCancel_cases (motive := fun p => MStep s p.1 0 ∧ (p.2 = .some () → MStep s p.1 1)) s ?_ ?_ ?_
  · intro s1 r h1 hns
    rw [h1] at hp
    exact ⟨hp.1, by cases r <;> simp [PW.pass, PW.isSome] at hns ⊢⟩
  · intro s1 e s2 h1 h3
    rw [h1] at hp
    have f3 := tSend_mstep s1 (.cancel e.id e.ctx.trace); rw [h3] at f3
    exact ⟨hp.1.trans f3, fun _ => (hp.2 e rfl).trans f3⟩
  · intro s1 e s2 h1 h3
    rw [h1] at hp
    have f3 := tSend_mstep s1 (.cancel e.id e.ctx.trace); rw [h3] at f3
    exact ⟨hp.1.trans f3, by simp⟩

theorem pollExpired_mstep (s : St) (now : Nat) :
    MStep s (pollExpired s now).1 0 ∧ ((pollExpired s now).2 = true → MStep s (pollExpired s now).1 1) := by
  obtain ⟨c3, c4⟩ := pollExpired_timers s now
  have hD := pollExpired_frameD s now
  have hp := hD.pq; have hc := hD.cq
  exact ⟨MStep.of_frameA (pollExpired_frameA _ _) (by omega),
    fun h => MStep.of_frameA (pollExpired_frameA _ _) (by have := c4 h; omega)⟩

theorem pumpWrite_mstep (s : St) (now : Nat) (hel : s.ensureLoop = false) :
    MStep s (pumpWrite s now).1 0 ∧ ((pumpWrite s now).2 = .some () → MStep s (pumpWrite s now).1 1) := by
  have req : ∀ s1 r1, pollWriteRequest s now = (s1, r1) → MStep s s1 0 ∧ (r1 = .some () → MStep s s1 1) := by
    intro s1 r1 h1; have f1 := pollWriteRequest_mstep s now hel; rw [h1] at f1; exact f1
  have can : ∀ s1 r1 s2 r2, pollWriteRequest s now = (s1, r1) → pollWriteCancel s1 = (s2, r2) →
      MStep s s2 0 ∧ (r2 = .some () → MStep s s2 1) := by
    intro s1 r1 s2 r2 h1 h2
    have f1 := (req _ _ h1).1
    have f2 := pollWriteCancel_mstep s1 (f1.el.trans hel); rw [h2] at f2
    exact ⟨f1.trans f2.1, fun h => (f1.trans (f2.2 h)).weaken (by omega)⟩
  have exp : ∀ s1 r1 s2 r2 s3 b, pollWriteRequest s now = (s1, r1) → pollWriteCancel s1 = (s2, r2) →
      pollExpired s2 now = (s3, b) → MStep s s3 0 ∧ (b = true → MStep s s3 1) := by
    intro s1 r1 s2 r2 s3 b h1 h2 h3
    have f2 := (can _ _ _ _ h1 h2).1
    have f3 := pollExpired_mstep s2 now; rw [h3] at f3
    exact ⟨f2.trans f3.1, fun h => (f2.trans (f3.2 h)).weaken (by omega)⟩
  refine pumpWrite_cases (motive := fun p => MStep s p.1 0 ∧ (p.2 = .some () → MStep s p.1 1)) s now ?_ ?_ ?_ ?_ ?_ ?_
  · intro s1 r1 h1 _; exact req _ _ h1
  · intro s1 r1 s2 r2 h1 _ h2 _; exact can _ _ _ _ h1 h2
  · intro s1 r1 s2 r2 s3 h1 _ h2 _ h3
    have := (exp _ _ _ _ _ _ h1 h2 h3).2 rfl
    exact ⟨this.weaken (by omega), fun _ => this⟩
  · intro s1 r1 s2 r2 s3 h1 _ h2 _ h3 _; exact ⟨(exp _ _ _ _ _ _ h1 h2 h3).1, by simp⟩
  · intro s1 s2 s3 s4 r4 h1 h2 h3 h4
    have f4 := tClose_mstep s3; rw [h4] at f4
    exact ⟨(exp _ _ _ _ _ _ h1 h2 h3).1.trans f4, by cases r4 <;> simp [closePW]⟩
  · intro s1 r1 s2 r2 s3 s4 r4 h1 _ h2 _ _ h3 h4
    have f4 := tFlush_mstep s3; rw [h4] at f4
    exact ⟨(exp _ _ _ _ _ _ h1 h2 h3).1.trans f4, by cases r4 <;> simp [flushPW]⟩

theorem pumpRead_mstep (s : St) :
    MStep s (pumpRead s).1 0 ∧ ((pumpRead s).2 = .some () → MStep s (pumpRead s).1 1) := by
  have key := tNext_mstep s
  refine pumpRead_cases (motive := fun p => MStep s p.1 0 ∧ (p.2 = .some () → MStep s p.1 1)) s ?_ ?_ ?_ ?_ ?_
  · intro s1 h1; rw [h1] at key; exact ⟨key.1, by simp⟩
  · intro s1 h1; rw [h1] at key; exact ⟨key.1, by simp⟩
  · intro s1 h1; rw [h1] at key; exact ⟨key.1, by simp⟩
  · intro s1 id res h1
    rw [h1] at key
    have f4 : MStep s1 (completeRequest s1 id (outcomeOf res)).1 0 :=
      .of_timers (completeRequest_frames _ _ _) (completeRequest_timers _ _ _)
    exact ⟨key.1.trans f4, fun _ => (key.2 _ rfl).trans f4⟩
  · intro s1 m h1 _; rw [h1] at key; exact ⟨key.1, fun _ => key.2 _ rfl⟩

/-- **No spin, given fuel.**  With the fixed `ensure_writeable`, `run` emits no `Obs.spin` whenever its fuel exceeds
`runMeasure s`: every iteration that loops consumes at least one unit. -/
theorem run_no_spin (fuel : Nat) (s : St) (now : Nat) (hel : s.ensureLoop = false) (hf : runMeasure s < fuel) :
    (run fuel s now).1.obs.filter isSpinObs = s.obs.filter isSpinObs := by
  induction fuel generalizing s with
  | zero => omega
  | succ fuel ih =>
    have pr := pumpRead_mstep s
    -- an iteration pays one unit if either pump made progress
    have step : ∀ s1 rd s2 wr, pumpRead s = (s1, rd) → pumpWrite s1 now = (s2, wr) →
        MStep s s2 0 ∧ (rd = .some () ∨ wr = .some () → MStep s s2 1) := by
      intro s1 rd s2 wr h1 h2
      rw [h1] at pr
      have pw := pumpWrite_mstep s1 now (pr.1.el.trans hel); rw [h2] at pw
      refine ⟨pr.1.trans pw.1, ?_⟩
      rintro (h | h)
      · exact ((pr.2 h).trans pw.1).weaken (by omega)
      · exact (pr.1.trans (pw.2 h)).weaken (by omega)
    refine run_cases (motive := fun p => p.1.obs.filter isSpinObs = s.obs.filter isSpinObs) fuel s now
      ?_ ?_ ?_ ?_ ?_ ?_ ?_ ?_ ?_
    · intro s1 a h1; rw [h1] at pr; exact pr.1.spin
    · intro s1 h1; rw [h1] at pr; exact pr.1.spin
    · intro s1 rd s2 a h1 h2; exact (step _ _ _ _ h1 h2).1.spin
    · intro s1 rd s2 h1 h2; exact (step _ _ _ _ h1 h2).1.spin
    · intro s1 s2 wr h1 h2 _; exact (step _ _ _ _ h1 h2).1.spin
    · intro s1 rd s2 h1 _ h2 _; exact (step _ _ _ _ h1 h2).1.spin
    · intro s1 s2 h1 h2 _; exact (step _ _ _ _ h1 h2).1.spin
    · intro s1 rd s2 wr h1 h2 hw
      have st := (step _ _ _ _ h1 h2).2 (by rcases hw with ⟨h, _⟩ | ⟨_, h⟩ <;> simp [h])
      have := st.mu
      rw [ih s2 (st.el.trans hel) (by omega)]
      exact st.spin
    · intro s1 s2 h1 h2; exact (step _ _ _ _ h1 h2).1.spin

/-- The fuel `pollDispatchCore` gives `run` exceeds the measure: `runFuel s = runMeasure s + 4`. -/
theorem runMeasure_lt_runFuel (s : St) : runMeasure s < runFuel s := by
  unfold runMeasure runFuel; omega

theorem pollDispatchCore_no_spin (s : St) (now : Nat) (hel : s.ensureLoop = false) :
    (pollDispatchCore s now).1.obs.filter isSpinObs = s.obs.filter isSpinObs := by
  have hf : runMeasure s < runFuel s := runMeasure_lt_runFuel _
  have run := run_no_spin (runFuel s) s now hel hf
  refine pollDispatchCore_cases (motive := fun p => p.1.obs.filter isSpinObs = s.obs.filter isSpinObs) s now ?_ ?_ ?_ ?_ ?_
  · intro a s1 fin _ h1
    exact of_fst (P := fun x => x.obs.filter isSpinObs = _) h1 (filter_spinObs_of_tObs (shutDown_frameA s a).tobs)
  · intro s1 _ h1; rw [h1] at run; exact run
  · intro s1 _ h1; rw [h1] at run; exact run
  · intro s1 _ h1; rw [h1] at run; exact run
  · intro s1 a s2 fin _ h1 h2
    rw [h1] at run
    exact (of_fst (P := fun x => x.obs.filter isSpinObs = _) h2
      (filter_spinObs_of_tObs (shutDown_frameA { s1 with termErr := some a } a).tobs)).trans run

theorem any_spinObs (l : List Obs) : l.any isSpinObs = !(l.filter isSpinObs).isEmpty := by
  induction l with
  | nil => rfl
  | cons o l ih =>
    simp only [List.any_cons, List.filter_cons]
    cases h : isSpinObs o <;> simp [ih]

/-- so the poll wrapper never takes its `spun` arm -/
theorem pollDispatchCore_not_spun (s : St) (now : Nat) (hel : s.ensureLoop = false) :
    ((pollDispatchCore s now).1.obs.any isSpinObs && !(s.obs.any isSpinObs)) = false := by
  rw [any_spinObs, any_spinObs, pollDispatchCore_no_spin s now hel]; simp

end TarpcModel.Client.Flow
