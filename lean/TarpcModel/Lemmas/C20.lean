import TarpcModel.Monitors.C20
/-
Helper lemmas for C20 (`Props/C20.lean`): the counting identity behind round robin, the ticket sequence of
`AtomicCycle`, the coupling invariant between the op-level load-balancer model and its monitor, and the
structure of the retry loop's log.  Core Lean only.
-/
namespace TarpcModel.Stubs

/-! ## Counting `t % n` over `t = 0 .. N-1` -/

theorem ite_lt_succ (j r : Nat) :
    (if j < r + 1 then 1 else 0) = (if j < r then 1 else 0) + (if r = j then 1 else 0) := by
  split <;> split <;> split <;> omega

theorem succ_div_mod_step (n N j : Nat) (hn : 1 ≤ n) (hj : j < n) :
    (N + 1) / n + (if j < (N + 1) % n then 1 else 0)
      = N / n + (if j < N % n then 1 else 0) + (if N % n = j then 1 else 0) := by
  have h := Nat.div_add_mod N n
  have hr := Nat.mod_lt N (show n > 0 by omega)
  generalize N / n = q at *
  generalize N % n = r at *
  have hN : N + 1 = n * q + (r + 1) := by omega
  rw [hN, Nat.add_assoc, ← ite_lt_succ]
  by_cases hlt : r + 1 < n
  · rw [Nat.mul_add_div (by omega), Nat.mul_add_mod, Nat.div_eq_of_lt hlt, Nat.mod_eq_of_lt hlt]
    rfl
  · have : r + 1 = n := by omega
    rw [this, ← Nat.mul_succ, Nat.mul_div_cancel_left _ (by omega), Nat.mul_mod_right,
      if_neg (Nat.not_lt_zero _), if_pos hj]

theorem count_range_mod (n N j : Nat) (hn : 1 ≤ n) (hj : j < n) :
    ((List.range N).map (· % n)).count j = N / n + (if j < N % n then 1 else 0) := by
  induction N with
  | zero => simp
  | succ N ih =>
    rw [List.range_succ, List.map_append, List.count_append, ih, succ_div_mod_step n N j hn hj]
    simp [List.count_singleton]

theorem count_map_some (l : List Nat) (j : Nat) : (l.map some).count (some j) = l.count j := by
  induction l with
  | nil => rfl
  | cons a l ih => simp [List.count_cons, ih]

/-! ## Tickets of `AtomicCycle` -/

theorem rrCalls_spec (n : Nat) (hn : 1 ≤ n) : ∀ (N t : Nat), t + N < W →
    (rrCalls { n := n, next := t } N).2 = ((List.range' t N).map (· % n)).map some ∧
    (rrCalls { n := n, next := t } N).1 = { n := n, next := t + N } := by
  intro N
  induction N with
  | zero => intro t _; simp [rrCalls]
  | succ N ih =>
    intro t ht
    have h1 : (t + 1) % W = t + 1 := Nat.mod_eq_of_lt (by omega)
    have hn0 : ¬ n = 0 := by omega
    have := ih (t + 1) (by omega)
    simp only [rrCalls, RR.pick, RR.fetchAdd, h1, hn0, ↓reduceIte, List.range'_succ, List.map_cons]
    rw [this.1, this.2]
    simp; omega

theorem rrDispatch_backends (s : RR) (order : List Nat) :
    (rrDispatch s order).2.map (·.2) = (rrCalls s order.length).2 ∧
    (rrDispatch s order).2.map (·.1) = order ∧
    (rrDispatch s order).1 = (rrCalls s order.length).1 := by
  induction order generalizing s with
  | nil => simp [rrDispatch, rrCalls]
  | cons c cs ih =>
    have := ih s.pick.1
    simp only [rrDispatch, rrCalls, List.length_cons, List.map_cons]
    simp [this]

/-! ## Op-level load balancer: model/monitor coupling -/

theorem spreadOk_range (n N : Nat) (hn : 1 ≤ n) (bs : List Nat)
    (hbs : bs = ((List.range N).map (· % n)).reverse) : spreadOk n bs = true := by
  subst hbs
  simp only [spreadOk, List.all_eq_true, List.mem_map, List.mem_range, decide_eq_true_eq]
  rintro a ⟨j1, hj1, rfl⟩ b ⟨j2, hj2, rfl⟩
  rw [List.count_reverse, List.count_reverse, count_range_mod n N j1 hn hj1, count_range_mod n N j2 hn hj2]
  split <;> split <;> omega

/-- model and monitor of the load balancers agree, and what the picks so far are, per kind -/
structure LbGood (kind : Kind) (n : Nat) (s : LbSt) (m : LbMon) : Prop where
  ok : m.ok = true
  kind_eq : s.kind = kind
  n_eq : s.rr.n = n
  created : m.created = s.pending
  results : m.results = s.results
  rrPicks : kind = .rr → m.picks.map (·.2) = ((List.range s.rr.next).map (· % n)).reverse
  hashPicks : kind = .hash → ∀ p ∈ m.picks, p.2 = verifHash s.hseed p.1 % n

theorem lbInit_good (kind : Kind) (n seed : Nat) : LbGood kind n (lbInit kind n seed) {} := by
  constructor <;> simp [lbInit, RR.init]

theorem lbStep_good {kind : Kind} {n : Nat} (hn : 1 ≤ n) {s : LbSt} {m : LbMon} (g : LbGood kind n s m)
    (hw : s.rr.next + 1 < W) (op : LbOp) :
    LbGood kind n (lbStep s op).1 ((lbStep s op).2.foldl (monLbStep kind n) m) ∧
    (lbStep s op).1.rr.next ≤ s.rr.next + 1 := by
  have hn0 : ¬ n = 0 := by omega
  cases op with
  | call req =>
    simp only [lbStep, List.foldl_cons, List.foldl_nil, monLbStep]
    exact ⟨⟨g.ok, g.kind_eq, g.n_eq, congrArg (· ++ _) g.created, g.results, g.rrPicks, g.hashPicks⟩,
      by omega⟩
  | setResult b k =>
    simp only [lbStep]
    split
    · rename_i hb
      simp only [List.foldl_cons, List.foldl_nil, monLbStep]
      refine ⟨⟨?_, g.kind_eq, g.n_eq, g.created, ?_, g.rrPicks, g.hashPicks⟩, by simp⟩
      · simp only [g.n_eq] at hb
        simp [LbMon.flag, g.ok, hb]
      · exact congrArg (fun r => (b, k) :: erase b r) g.results
    · exact ⟨by simpa [monLbStep] using g, by simp⟩
  | drop id =>
    simp only [lbStep]
    cases hl : lookup id s.pending with
    | none => exact ⟨by simpa [monLbStep] using g, by simp⟩
    | some r =>
      simp only [List.foldl_cons, List.foldl_nil, monLbStep]
      exact ⟨⟨g.ok, g.kind_eq, g.n_eq, congrArg (erase id) g.created, g.results, g.rrPicks, g.hashPicks⟩,
        by omega⟩
  | poll id =>
    simp only [lbStep]
    cases hl : lookup id s.pending with
    | none => exact ⟨by simpa [monLbStep] using g, by simp⟩
    | some req =>
      have hk := g.kind_eq
      have hne := g.n_eq
      cases kind with
      | rr =>
        have h1 : (s.rr.next + 1) % W = s.rr.next + 1 := Nat.mod_eq_of_lt hw
        have hsn : ¬ s.rr.n = 0 := by omega
        simp only [pickBackend, hk, RR.pick, RR.fetchAdd, hsn, ↓reduceIte, h1, List.foldl_cons,
          List.foldl_nil, monLbStep]
        have hp := g.rrPicks rfl
        have hnew : (s.rr.next % s.rr.n) :: m.picks.map (·.2)
            = ((List.range (s.rr.next + 1)).map (· % n)).reverse := by
          rw [List.range_succ, List.map_append, List.reverse_append, hp, hne]; rfl
        have hlt : s.rr.next % s.rr.n < n := by rw [hne]; exact Nat.mod_lt _ (by omega)
        have hspread := spreadOk_range n (s.rr.next + 1) hn _ hnew
        refine ⟨⟨?_, rfl, hne, ?_, ?_, ?_, ?_⟩, by simp⟩
        · simp [LbMon.flag, g.ok, hlt, g.created, hl, kindOk, hspread, g.results]
        · exact congrArg (erase id) g.created
        · exact g.results
        · exact fun _ => hnew
        · intro h; cases h
      | hash =>
        have hsn : ¬ s.rr.n = 0 := by omega
        simp only [pickBackend, hk, chIndex, hsn, ↓reduceIte, List.foldl_cons, List.foldl_nil, monLbStep]
        have hp := g.hashPicks rfl
        have hlt : verifHash s.hseed req % s.rr.n < n := by rw [hne]; exact Nat.mod_lt _ (by omega)
        have hst : stableOk req (verifHash s.hseed req % s.rr.n) m.picks = true := by
          simp only [stableOk, List.all_eq_true]
          intro p hpm
          have := hp p hpm
          by_cases hpr : p.1 = req
          · simp [this, hpr, hne]
          · simp [hpr]
        refine ⟨⟨?_, rfl, hne, ?_, ?_, ?_, ?_⟩, by simp⟩
        · simp [LbMon.flag, g.ok, hlt, g.created, hl, kindOk, hst, g.results]
        · exact congrArg (erase id) g.created
        · exact g.results
        · intro h; cases h
        · intro _ p hpm
          simp only [LbMon.flag, List.mem_cons] at hpm
          rcases hpm with rfl | hpm
          · simp [hne]
          · exact hp p hpm


theorem lbRun_good {kind : Kind} {n : Nat} (hn : 1 ≤ n) (ops : List LbOp) :
    ∀ {s : LbSt} {m : LbMon}, LbGood kind n s m → s.rr.next + ops.length < W →
      LbGood kind n (lbRun s ops).1 ((lbRun s ops).2.foldl (monLbStep kind n) m) := by
  induction ops with
  | nil => intro s m g _; simpa [lbRun] using g
  | cons op ops ih =>
    intro s m g hw
    simp only [List.length_cons] at hw
    have h := lbStep_good hn g (by omega) op
    simp only [lbRun, List.foldl_append]
    exact ih h.1 (by omega)

/-- Backends of the `picked` observations, in order. -/
def pickedBackends : List LbObs → List Nat
  | [] => []
  | .picked _ b _ :: l => b :: pickedBackends l
  | _ :: l => pickedBackends l

theorem pickedBackends_append (a b : List LbObs) :
    pickedBackends (a ++ b) = pickedBackends a ++ pickedBackends b := by
  induction a with
  | nil => rfl
  | cons o a ih => cases o <;> simp [pickedBackends, ih]

theorem lbStep_rr_picked {s : LbSt} (hk : s.kind = .rr) (hn : 1 ≤ s.rr.n) (hw : s.rr.next + 1 < W) (op : LbOp) :
    (lbStep s op).1.kind = .rr ∧ (lbStep s op).1.rr.n = s.rr.n ∧
    ((pickedBackends (lbStep s op).2 = [] ∧ (lbStep s op).1.rr.next = s.rr.next) ∨
     (pickedBackends (lbStep s op).2 = [s.rr.next % s.rr.n] ∧ (lbStep s op).1.rr.next = s.rr.next + 1)) := by
  have hsn : ¬ s.rr.n = 0 := by omega
  cases op with
  | call req => simp [lbStep, hk, pickedBackends]
  | setResult b k =>
    simp only [lbStep]
    split <;> simp [hk, pickedBackends]
  | drop id =>
    simp only [lbStep]
    cases hl : lookup id s.pending <;> simp [hk, pickedBackends]
  | poll id =>
    simp only [lbStep]
    cases hl : lookup id s.pending with
    | none => simp [hk, pickedBackends]
    | some req =>
      have h1 : (s.rr.next + 1) % W = s.rr.next + 1 := Nat.mod_eq_of_lt hw
      simp [pickBackend, hk, RR.pick, RR.fetchAdd, hsn, h1, pickedBackends]

theorem lbRun_rr_picked (ops : List LbOp) : ∀ (s : LbSt), s.kind = .rr → 1 ≤ s.rr.n →
    s.rr.next + ops.length < W →
    ∃ K, K ≤ ops.length ∧ (lbRun s ops).1.rr.next = s.rr.next + K ∧
      pickedBackends (lbRun s ops).2 = (List.range' s.rr.next K).map (· % s.rr.n) := by
  induction ops with
  | nil => intro s _ _ _; exact ⟨0, by simp [lbRun, pickedBackends]⟩
  | cons op ops ih =>
    intro s hk hn hw
    simp only [List.length_cons] at hw
    obtain ⟨hk', hn', h⟩ := lbStep_rr_picked hk hn (by omega) op
    simp only [lbRun, pickedBackends_append]
    rcases h with ⟨hp, hnx⟩ | ⟨hp, hnx⟩
    · obtain ⟨K, hK, hnext, hpk⟩ := ih (lbStep s op).1 hk' (by omega) (by omega)
      refine ⟨K, by simp; omega, by omega, ?_⟩
      rw [hp, hpk, hn', hnx]; rfl
    · obtain ⟨K, hK, hnext, hpk⟩ := ih (lbStep s op).1 hk' (by omega) (by omega)
      refine ⟨K + 1, by simp; omega, by omega, ?_⟩
      rw [hp, hpk, hn', hnx, List.range'_succ]; rfl

theorem lbStep_hash_picked {s : LbSt} (hk : s.kind = .hash) (op : LbOp) :
    (lbStep s op).1.kind = .hash ∧ (lbStep s op).1.rr.n = s.rr.n ∧ (lbStep s op).1.hseed = s.hseed ∧
    ∀ id b req, LbObs.picked id b req ∈ (lbStep s op).2 →
      b = verifHash s.hseed req % s.rr.n ∧ b < s.rr.n ∧ lookup id s.pending = some req := by
  cases op with
  | call req => simp [lbStep, hk]
  | setResult b k =>
    simp only [lbStep]
    split <;> simp [hk]
  | drop id =>
    simp only [lbStep]
    cases hl : lookup id s.pending <;> simp [hk]
  | poll id =>
    simp only [lbStep]
    cases hl : lookup id s.pending with
    | none => simp [hk]
    | some req =>
      by_cases hsn : s.rr.n = 0
      · simp [pickBackend, hk, chIndex, hsn]
      · have : verifHash s.hseed req % s.rr.n < s.rr.n := Nat.mod_lt _ (by omega)
        simp only [pickBackend, hk, chIndex, hsn, ↓reduceIte, List.mem_cons, LbObs.picked.injEq,
          List.mem_nil_iff, or_false, reduceCtorEq]
        refine ⟨trivial, trivial, trivial, ?_⟩
        rintro id' b req' ⟨rfl, rfl, rfl⟩
        exact ⟨rfl, this, hl⟩

theorem lbRun_hash_picked (ops : List LbOp) : ∀ (s : LbSt), s.kind = .hash →
    ∀ id b req, LbObs.picked id b req ∈ (lbRun s ops).2 → b = verifHash s.hseed req % s.rr.n ∧ b < s.rr.n := by
  induction ops with
  | nil => intro s _ id b req h; simp [lbRun] at h
  | cons op ops ih =>
    intro s hk id b req h
    obtain ⟨hk', hn', hs', hp⟩ := lbStep_hash_picked hk op
    simp only [lbRun, List.mem_append] at h
    rcases h with h | h
    · exact ⟨(hp id b req h).1, (hp id b req h).2.1⟩
    · have := ih _ hk' id b req h
      rw [hn', hs'] at this
      exact this

/-! ## Retry -/

theorem retryLoop_spec {Ctx Req Res : Type} (policy : Res → Nat → Bool) (ctx : Ctx) (req : Req) :
    ∀ (rs : List Res) (i k : Nat) (r : Res), rs[k]? = some r →
      (∀ j rj, j < k → rs[j]? = some rj → policy rj (i + j) = true) → policy r (i + k) = false →
      (retryLoop policy ctx req i rs).2 = some r ∧
      (retryLoop policy ctx req i rs).1.map (·.attempt) = List.range' i (k + 1) ∧
      (retryLoop policy ctx req i rs).1.map (·.result) = rs.take (k + 1) ∧
      (retryLoop policy ctx req i rs).1.map (·.retried) = List.replicate k true ++ [false] ∧
      (∀ a ∈ (retryLoop policy ctx req i rs).1, a.req = req) := by
  intro rs
  induction rs with
  | nil => intro i k r h; simp at h
  | cons r0 rs ih =>
    intro i k r hk hre hst
    cases k with
    | zero =>
      simp only [List.getElem?_cons_zero, Option.some.injEq] at hk
      subst hk
      simp only [Nat.add_zero] at hst
      simp [retryLoop, hst]
    | succ k =>
      have h0 : policy r0 i = true := by simpa using hre 0 r0 (by omega) (by simp)
      simp only [List.getElem?_cons_succ] at hk
      have := ih (i + 1) k r hk
        (fun j rj hj hrj => by
          have := hre (j + 1) rj (by omega) (by simpa using hrj)
          rwa [show i + (j + 1) = i + 1 + j by omega] at this)
        (by rwa [show i + (k + 1) = i + 1 + k by omega] at hst)
      obtain ⟨h1, h2, h3, h4, h5⟩ := this
      simp only [retryLoop, h0, ↓reduceIte, List.map_cons, List.take_succ_cons, List.mem_cons]
      refine ⟨h1, ?_, ?_, ?_, ?_⟩
      · simp [h2, List.range'_succ]
      · rw [h3]
      · rw [h4]; rfl
      · rintro a (rfl | ha)
        · rfl
        · exact h5 a ha

theorem retryLoop_never {Ctx Req Res : Type} (policy : Res → Nat → Bool) (ctx : Ctx) (req : Req) :
    ∀ (rs : List Res) (i : Nat), (∀ j rj, rs[j]? = some rj → policy rj (i + j) = true) →
      (retryLoop policy ctx req i rs).2 = none ∧
      (retryLoop policy ctx req i rs).1.map (·.attempt) = List.range' i rs.length ∧
      (retryLoop policy ctx req i rs).1.map (·.result) = rs := by
  intro rs
  induction rs with
  | nil => intro i _; simp [retryLoop]
  | cons r0 rs ih =>
    intro i h
    have h0 : policy r0 i = true := by simpa using h 0 r0 (by simp)
    have := ih (i + 1) (fun j rj hrj => by
      have := h (j + 1) rj (by simpa using hrj)
      rwa [show i + (j + 1) = i + 1 + j by omega] at this)
    simp only [retryLoop, h0, ↓reduceIte, List.map_cons, List.length_cons, List.range'_succ]
    simp [this]

theorem retryLoop_length_le {Ctx Req Res : Type} (policy : Res → Nat → Bool) (ctx : Ctx) (req : Req) :
    ∀ (rs : List Res) (i : Nat), (retryLoop policy ctx req i rs).1.length ≤ rs.length := by
  intro rs
  induction rs with
  | nil => intro i; simp [retryLoop]
  | cons r0 rs ih =>
    intro i
    simp only [retryLoop]
    split
    · have := ih (i + 1); simp; omega
    · simp

/-- Every attempt of the loop is made with the caller's context and request, unconditionally (any policy,
any results, also when the call never returns), and attempts are numbered consecutively. -/
theorem retryLoop_same {Ctx Req Res : Type} (policy : Res → Nat → Bool) (ctx : Ctx) (req : Req) :
    ∀ (rs : List Res) (i : Nat),
      (∀ a ∈ (retryLoop policy ctx req i rs).1, a.ctx = ctx ∧ a.req = req) ∧
      (retryLoop policy ctx req i rs).1.map (·.attempt) = List.range' i (retryLoop policy ctx req i rs).1.length := by
  intro rs
  induction rs with
  | nil => intro i; simp [retryLoop]
  | cons r0 rs ih =>
    intro i
    by_cases h0 : policy r0 i = true
    · obtain ⟨h1, h2⟩ := ih (i + 1)
      simp only [retryLoop, h0, ↓reduceIte, List.mem_cons, List.map_cons, List.length_cons, List.range'_succ]
      refine ⟨?_, by rw [h2]⟩
      rintro a (rfl | ha)
      · exact ⟨rfl, rfl⟩
      · exact h1 a ha
    · simp [retryLoop, h0]

/-- The attempts as the mock backend records them: `(attempt number, time, context)`. -/
def attemptRecords : List RtObs → List (Nat × Nat × RtCtx)
  | [] => []
  | .attempt i now c :: l => (i, now, c) :: attemptRecords l
  | _ :: l => attemptRecords l

theorem attemptRecords_append (a b : List RtObs) :
    attemptRecords (a ++ b) = attemptRecords a ++ attemptRecords b := by
  induction a with
  | nil => rfl
  | cons o a ih => cases o <;> simp [attemptRecords, ih]

theorem flatObs_records (ctx : RtCtx) : ∀ (l : List (Attempt RtCtx Nat Res)) (now : Nat) (ds : List Nat),
    (∀ a ∈ l, a.ctx = ctx) → ∀ rec ∈ attemptRecords (flatObs now ds l), rec.2.2 = ctx := by
  intro l
  induction l with
  | nil => intro now ds _ rec h; simp [flatObs, attemptRecords] at h
  | cons a l ih =>
    intro now ds hl rec h
    simp only [flatObs, attemptObs, List.cons_append, List.nil_append, attemptRecords, List.mem_cons] at h
    rcases h with rfl | h
    · exact hl a (by simp)
    · exact ih _ _ (fun b hb => hl b (by simp [hb])) rec h

theorem monRt_loop (policy : Res → Nat → Bool) (q : Nat) (ctx : RtCtx) :
    ∀ (rs : List Res) (i now t : Nat) (ds : List Nat) (m : RtMon), m.ok = true → m.phase = .wantBackend q i ctx →
      ((flatObs now ds (retryLoop policy ctx q i rs).1 ++
          callTail q (i + (retryLoop policy ctx q i rs).1.length) t ctx (retryLoop policy ctx q i rs).2).foldl monRtStep m).ok = true ∧
      ((flatObs now ds (retryLoop policy ctx q i rs).1 ++
          callTail q (i + (retryLoop policy ctx q i rs).1.length) t ctx (retryLoop policy ctx q i rs).2).foldl monRtStep m).phase = .idle := by
  intro rs
  induction rs with
  | nil =>
    intro i now t ds m hok hph
    simp [retryLoop, flatObs, callTail, monRtStep, RtMon.checkCtx, hph, hok]
  | cons r rs ih =>
    intro i now t ds m hok hph
    by_cases hp : policy r i = true
    · simp only [retryLoop, hp, ↓reduceIte, flatObs, attemptObs, List.cons_append, List.nil_append,
        List.foldl_cons, List.length_cons]
      rw [show i + ((retryLoop policy ctx q (i + 1) rs).1.length + 1)
            = (i + 1) + (retryLoop policy ctx q (i + 1) rs).1.length by omega]
      apply ih
      · simp [monRtStep, RtMon.checkCtx, hph, hok]
      · simp [monRtStep, RtMon.checkCtx, hph]
    · simp [retryLoop, hp, flatObs, attemptObs, callTail, monRtStep, RtMon.checkCtx, hph, hok]

def RtGood (m : RtMon) : Prop := m.ok = true ∧ m.phase = .idle

theorem rtStep_good {m : RtMon} (g : RtGood m) (s : RtSt) (op : RtOp) :
    RtGood ((rtStep s op).2.foldl monRtStep m) := by
  cases op with
  | result r d => simpa [rtStep] using g
  | decide b => simpa [rtStep] using g
  | call q d tid span smp =>
    simp only [rtStep, retryCall, List.cons_append, List.nil_append, List.foldl_cons]
    generalize hctx : ({ deadline := s.now + d, traceId := tid, spanId := span, sampled := smp } : RtCtx) = ctx
    have hs : monRtStep m (.start q s.now ctx) = { m with phase := .wantBackend q 1 ctx } := by
      simp [monRtStep, g.2]
    rw [hs]
    have h := monRt_loop s.policy.eval q ctx (s.results.map (·.1)) 1 s.now
      (s.now + sumTake (retryLoop s.policy.eval ctx q 1 (s.results.map (·.1))).1.length (s.results.map (·.2)))
      (s.results.map (·.2)) { m with phase := .wantBackend q 1 ctx } g.1 rfl
    rw [show 1 + (retryLoop s.policy.eval ctx q 1 (s.results.map (·.1))).1.length
          = (retryLoop s.policy.eval ctx q 1 (s.results.map (·.1))).1.length + 1 by omega] at h
    exact h

theorem rtRun_good (ops : List RtOp) : ∀ (s : RtSt) {m : RtMon}, RtGood m →
    RtGood ((rtRun s ops).2.foldl monRtStep m) := by
  induction ops with
  | nil => intro s m g; simpa [rtRun] using g
  | cons op ops ih =>
    intro s m g
    simp only [rtRun, List.foldl_append]
    exact ih _ (rtStep_good g s op)

end TarpcModel.Stubs
