import TarpcModel.Lemmas.ClientIds
/-!
`Pres P` lists the view-level transitions the dispatch task and the call futures are made of; a predicate closed under them
(and implying `Inv`) is kept by every function of the dispatch and of the futures (`Lemmas/ClientGeneric.lean`).  The ops on
handles (`call`, `clone`, `drop-handle`) are not among them.  `Inv` is one instance, the coupling with the monitors' book
another (`Lemmas/ClientBook.lean`).
-/
namespace TarpcModel.Client

/-- a spin or a panic -/
def isStop : Obs → Bool
  | .spin _ => true
  | .panic _ _ => true
  | _ => false

theorem relevant_of_isStop {o : Obs} (h : isStop o = true) : relevant o = true := by
  cases o <;> simp_all [isStop, relevant]

/-- What is known about an entry taken out of the in-flight table by a queued cancellation. -/
structure CanOk (v : View) (e : Entry) : Prop where
  sent : v.poisoned = false → e.id ∈ reqIds v.sentLog
  notCancelled : e.id ∉ cancelIds v.sentLog
  notInf : ∀ e' ∈ v.inflight, e'.id ≠ e.id
  call : ∃ i c, v.get i = some c ∧ c.polled ∧ c.id = e.id ∧ e.ctx.trace = c.trace ∧ c.rxClosed = true ∧
          okLike c.outcome = false ∧ okLike c.val = false

def stopObs (pn : Bool) (t : TaskId) (site : String) : List Obs := if pn then [.panic t site] else []

/-- the transitions of the dispatch task -/
structure PresD (P : Option Nat → View → Prop) : Prop where
  inv : ∀ {x v}, P x v → Inv x v
  /-- a spin or a panic is observed (`ensure_writeable` out of fuel, `run` out of fuel) -/
  stop : ∀ {x v} (o : Obs), P x v → isStop o = true → P x { v with rel := o :: v.rel }
  /-- the dispatch panics at `site` (`insert_request`, re-arming a timer): observed and poisoned -/
  panic : ∀ {x v} (t : TaskId) (site : String), P x v → P x { v with poisoned := true, rel := .panic t site :: v.rel }
  /-- `RequestDispatch::poll` poisons the dispatch after a poll that spun or panicked -/
  poison : ∀ {x v}, P x v → (v.rel.any isStop = true ∨ v.poisoned = true) → P x { v with poisoned := true }
  /-- a poll that spun: its observations are cut back to those before the poll (`v0`) plus the spin -/
  trunc : ∀ {x y v0 v} (t : TaskId), P x v0 → P y v → P y { v with rel := .spin t :: v0.rel, poisoned := true }
  pqPop : ∀ {x v r rest}, P x v → v.pq = r :: rest → P x { v with pq := rest }
  cqPop : ∀ {x v i rest}, P x v → v.cq = i :: rest → P x { v with cq := rest }
  /-- the entries with request id `id` leave the in-flight table (`complete_request`, `cancel_request`) -/
  infRemove : ∀ {x v} (id : Nat), P x v → P x { v with inflight := v.inflight.filter (·.id != id) }
  /-- the pending write of `id` is no longer owed: the dispatch is poisoned, or the entry is gone -/
  drop_x : ∀ {v id}, P (some id) v → (v.poisoned = true ∨ ∀ e ∈ v.inflight, e.id ≠ id) → P none v
  /-- `poll_write_request`: the dequeued request, whose receiver is open, is inserted into the table; its write is pending -/
  popInsert : ∀ {v r rest} (key rem due : Nat), P none v → v.pq = r :: rest → (∃ c, v.get r.cid = some c ∧ c.rxClosed = false) →
      P (some r.id) { v with pq := rest, inflight := v.inflight ++ [{ id := r.id, cid := r.cid, ctx := r.ctx, timerKey := key, remainder := rem, dueAt := due }] }
  /-- a deadline timer is re-armed: the entry gets a new timer key and a smaller remainder -/
  infRearm : ∀ {x v} (id key t due : Nat), P x v → P x { v with inflight := v.inflight.map (rearmEntry id key t due) }
  sendReqOk : ∀ {v id e} (t : TaskId) (body : Nat), P (some id) v → v.poisoned = false → e ∈ v.inflight → e.id = id →
      (∃ c, v.get e.cid = some c ∧ c.rxClosed = false ∧ body = c.body) →
      P none { v with sentLog := v.sentLog ++ [Msg.request id e.ctx.deadline e.ctx.trace body], rel := .tSend t (Msg.request id e.ctx.deadline e.ctx.trace body) true :: v.rel }
  /-- `poll_write_request`: the transport refuses the `Request`; the entry is completed with a send error -/
  sendReqFail : ∀ {v id e} (t : TaskId) (body : Nat) (pn : Bool) (t' : TaskId) (site : String),
      P (some id) v → v.poisoned = false → e ∈ v.inflight → e.id = id →
      (∃ c, v.get e.cid = some c ∧ c.rxClosed = false ∧ body = c.body) →
      P none (View.send { v with inflight := v.inflight.filter (·.id != id), poisoned := v.poisoned || pn, rel := stopObs pn t' site ++ .tSend t (Msg.request id e.ctx.deadline e.ctx.trace body) false :: v.rel } e.cid .send)
  sendCancel : ∀ {v e} (t : TaskId) (ok : Bool), P none v → CanOk v e →
      P none { v with sentLog := if ok then v.sentLog ++ [Msg.cancel e.id e.ctx.trace] else v.sentLog, rel := .tSend t (Msg.cancel e.id e.ctx.trace) ok :: v.rel }
  /-- a non-reply (`send` error, deadline, shutdown) is sent on the oneshot of a call nothing tracked refers to -/
  send : ∀ {x v} (cid : Nat) (o : Outcome), P x v → (∀ r ∈ v.pq, r.cid ≠ cid) → (∀ e ∈ v.inflight, e.cid ≠ cid) →
      (∀ c, v.get cid = some c → c.enq) → okLike (some o) = false → P x (v.send cid o)
  readMiss : ∀ {v} (t : TaskId) (id : Nat) (res : Res), P none v → (∀ e ∈ v.inflight, e.id ≠ id) →
      P none { v with rel := .tNext t (.item (.response id res)) :: v.rel }
  readHit : ∀ {v e} (t : TaskId) (res : Res) (pn : Bool) (t' : TaskId) (site : String), P none v → e ∈ v.inflight →
      P none (View.send { v with inflight := v.inflight.filter (·.id != e.id), poisoned := v.poisoned || pn, rel := stopObs pn t' site ++ .tNext t (.item (.response e.id res)) :: v.rel } e.cid (outcomeOf res))
  /-- the in-flight table is emptied (`fail_all` at shutdown, drop of the dispatch) -/
  infClear : ∀ {x v}, P x v → P x { v with inflight := [] }
  pqClear : ∀ {x v}, P x v → P x { v with pq := [] }
  cqClear : ∀ {x v}, P x v → P x { v with cq := [] }

/-- … and those of the call futures -/
structure Pres (P : Option Nat → View → Prop) : Prop extends PresD P where
  assign : ∀ {x v cid c}, P x v → v.get cid = some c → c.phase = .notPolled →
      P x (v.assign cid { c.ctx.trace with span := .fresh v.nextFresh })
  enqueue : ∀ {x v cid c}, P x v → v.get cid = some c → c.phase = .reserving →
      P x { v.upd cid (fun c => { c with phase := .awaiting }) with pq := v.pq ++ [{ cid := cid, id := c.id, ctx := { deadline := c.ctx.deadline, trace := c.trace }, body := c.body }] }
  resolveVal : ∀ {x v cid c o} (now : Nat), P x v → v.get cid = some c → c.phase = .awaiting → c.val = some o →
      P x { v.upd cid (fun c => { c with val := none, phase := .resolved, outcome := some o, rxClosed := true }) with rel := .resolved cid o now :: v.rel }
  /-- the call resolves with `Shutdown` (queue closed or dispatch gone) -/
  resolveShut : ∀ {x v cid c} (now : Nat), P x v → v.get cid = some c → (c.phase = .reserving ∨ c.phase = .awaiting) →
      P x { v.upd cid (fun c => { c with phase := .resolved, outcome := some .shutdown, rxClosed := true }) with rel := .resolved cid .shutdown now :: v.rel }
  guardClose : ∀ {x v cid c}, P x v → v.get cid = some c → (c.phase = .reserving ∨ c.phase = .awaiting) →
      P x (v.upd cid (fun c => { c with rxClosed := true }))
  /-- the cancellation of a polled call whose receiver is closed is queued (the drop guard, `failShutdown`) -/
  cqPush : ∀ {x v cid c}, P x v → v.get cid = some c → c.polled → c.rxClosed = true → P x { v with cq := v.cq ++ [c.id] }
  dropGuarded : ∀ {x v cid c}, P x v → v.get cid = some c → (c.phase = .reserving ∨ c.phase = .awaiting) → c.rxClosed = true →
      P x (v.upd cid (fun c => { c with phase := .dropped }))
  dropNP : ∀ {x v cid c}, P x v → v.get cid = some c → c.phase = .notPolled → P x (v.upd cid (fun c => { c with phase := .dropped }))

/-- after an entry is removed its call is an orphan: nothing tracked refers to it -/
theorem Inv.orphan {x : Option Nat} {v : View} (hi : Inv x v) {e : Entry} (he : e ∈ v.inflight) :
    (∀ r ∈ v.pq, r.cid ≠ e.cid) ∧ (∀ e' ∈ v.inflight.filter (·.id != e.id), e'.cid ≠ e.cid) ∧
    (∀ c, v.get e.cid = some c → c.enq) ∧
    (∀ c tr, v.get e.cid = some c → Msg.cancel c.id tr ∉ v.sentLog) := by
  obtain ⟨c, hc, a1, a2, a4, a5, a6⟩ := hi.inf e he
  refine ⟨?_, ?_, ?_, ?_⟩
  · intro r hr h
    obtain ⟨c1, hc1, _, b2, _⟩ := hi.pq r hr
    have hc1' : v.get e.cid = some c1 := h ▸ hc1
    rw [hc] at hc1'; injection hc1' with hc1'; subst hc1'
    exact hi.disj r hr e he (by omega)
  · intro e' he' h
    have hm := List.mem_filter.mp he'
    obtain ⟨c1, hc1, _, b2, _⟩ := hi.inf e' hm.1
    have hc1' : v.get e.cid = some c1 := h ▸ hc1
    rw [hc] at hc1'; injection hc1' with hc1'; subst hc1'
    have := hm.2
    simp only [bne_iff_ne, ne_eq] at this
    omega
  · intro c' hc'
    rw [hc] at hc'; injection hc' with hc'; subst hc'; exact a1
  · intro c' tr hc' hm
    rw [hc] at hc'; injection hc' with hc'; subst hc'
    obtain ⟨_, b, _⟩ := hi.canCall c.id tr hm
    exact b e he a2.symm

theorem Inv.maybePoison {x : Option Nat} {v : View} (hi : Inv x v) (pn : Bool) (l : List Obs) :
    Inv x { v with poisoned := v.poisoned || pn, rel := l } := by
  cases pn with
  | false => simpa using hi.of_rel l
  | true => simpa using (hi.of_rel l).poison

/-- `Inv` is closed under the transitions. -/
theorem Inv.presD : PresD Inv where
  inv := id
  stop := fun _ hi _ => hi.of_rel _
  panic := fun _ _ hi => hi.poison.of_rel _
  poison := fun hi _ => hi.poison
  trunc := fun {_ _ v0 _} t _ hi => (hi.of_rel (.spin t :: v0.rel)).poison
  pqPop := fun hi h => (hi.pqPop h).1
  cqPop := fun hi h => (hi.cqPop h).1
  infRemove := fun id hi => hi.infRemove id
  drop_x := fun hi h => hi.drop_x h
  popInsert := fun key rem due hi hpq hnc => (hi.pqPop hpq).1.infInsert (hi.pqPop hpq).2 hnc key rem due
  infRearm := fun id key t due hi => hi.infMap _ (rearmEntry_same id key t due)
  sendReqOk := fun _ body hi hp he hid hb =>
    (hi.sendReq hp he hid body (fun c hc => by
      obtain ⟨c', hc', _, h⟩ := hb; rw [hc] at hc'; injection hc' with hc'; subst hc'; exact h)).of_rel _
  sendReqFail := fun {v id e} t body pn t' site hi _ he hid _ => by
    subst hid
    obtain ⟨o1, o2, o3, _⟩ := hi.orphan he
    have h2 := ((hi.infRemove e.id).maybePoison pn
      (stopObs pn t' site ++ .tSend t (Msg.request e.id e.ctx.deadline e.ctx.trace body) false :: v.rel)).send
      e.cid .send o1 o2 o3 (fun h => by cases h)
    refine h2.drop_x (Or.inr ?_)
    intro e' he'
    rw [View.send_inflight] at he'
    have := (List.mem_filter.mp he').2
    simpa using this
  sendCancel := fun _ ok hi hc => by
    cases ok with
    | true => exact (hi.sendCancel _ _ hc.sent hc.notCancelled hc.notInf hc.call).of_rel _
    | false => exact hi.of_rel _
  send := fun cid o hi h1 h2 h3 h4 => hi.send cid o h1 h2 h3 (fun h => by rw [h4] at h; cases h)
  readMiss := fun _ _ _ hi _ => hi.of_rel _
  readHit := fun {v e} t res pn t' site hi he => by
    obtain ⟨o1, o2, o3, o4⟩ := hi.orphan he
    exact ((hi.infRemove e.id).maybePoison pn _).send e.cid _ o1 o2 o3 (fun _ c tr hc => o4 c tr hc)
  infClear := fun hi => hi.infClear
  pqClear := fun hi => hi.pqClear
  cqClear := fun hi => hi.cqClear

theorem Inv.pres : Pres Inv where
  toPresD := Inv.presD
  assign := fun hi hc hp => hi.assign hc hp _ rfl
  enqueue := fun hi hc hp => hi.enqueue hc hp
  resolveVal := fun _ hi hc hp hv => (hi.resolveVal hc hp hv).of_rel _
  resolveShut := fun _ hi hc hp => (hi.resolveShut hc hp).of_rel _
  guardClose := fun hi hc hp => hi.guardClose hc hp
  cqPush := fun hi hc hp hr => hi.cqPush hc hp hr
  dropGuarded := fun hi hc hp hr => hi.dropGuarded hc hp hr
  dropNP := fun hi hc hp => hi.dropNP hc hp

theorem PresD.stopped {P : Option Nat → View → Prop} (hP : PresD P) {x : Option Nat} {v : View} (h : P x v)
    (pn : Bool) (t : TaskId) (site : String) :
    P x { v with poisoned := v.poisoned || pn, rel := stopObs pn t site ++ v.rel } := by
  cases pn with
  | false => simpa [stopObs] using h
  | true => simpa [stopObs] using hP.panic t site h

/-- removing an entry (possibly panicking on its timer) and sending a non-reply on its call's oneshot -/
theorem PresD.completeN {P : Option Nat → View → Prop} (hP : PresD P) {x : Option Nat} {v : View} {e : Entry}
    (h : P x v) (he : e ∈ v.inflight) (o : Outcome) (ho : okLike (some o) = false)
    (pn : Bool) (t : TaskId) (site : String) :
    P x (View.send { v with inflight := v.inflight.filter (·.id != e.id), poisoned := v.poisoned || pn, rel := stopObs pn t site ++ v.rel } e.cid o) := by
  obtain ⟨o1, o2, o3, _⟩ := (hP.inv h).orphan he
  exact hP.send e.cid o (hP.stopped (hP.infRemove e.id h) pn t site) o1 o2 o3 ho

/-- a queued cancellation finds its entry: the entry is removed (possibly panicking on its timer) -/
theorem PresD.cancelEntry {P : Option Nat → View → Prop} (hP : PresD P) {v : View} {e : Entry}
    (h : P none v) (he : e ∈ v.inflight)
    (hcl : ∃ j c, v.get j = some c ∧ c.polled ∧ c.id = e.id ∧ c.rxClosed = true)
    (pn : Bool) (t : TaskId) (site : String) :
    P none { v with inflight := v.inflight.filter (·.id != e.id), poisoned := v.poisoned || pn, rel := stopObs pn t site ++ v.rel } ∧
    CanOk { v with inflight := v.inflight.filter (·.id != e.id), poisoned := v.poisoned || pn, rel := stopObs pn t site ++ v.rel } e := by
  have hi := hP.inv h
  constructor
  · exact hP.stopped (hP.infRemove e.id h) pn t site
  · refine ⟨fun hp => hi.infSent (by simp only [Bool.or_eq_false_iff] at hp; exact hp.1) e he (by simp), ?_, ?_, ?_⟩
    · intro h
      obtain ⟨tr, hm⟩ := mem_cancelIds.mp h
      exact (hi.canCall e.id tr hm).2.1 e he rfl
    · intro e' he'
      have := (List.mem_filter.mp he').2
      simpa using this
    · obtain ⟨c, hc, a1, a2, a4, a5, a6⟩ := hi.inf e he
      obtain ⟨j, c0, hc0, p0, id0, rx0⟩ := hcl
      have : j = e.cid := hi.idInj j e.cid c0 c hc0 hc p0 a1.polled (by omega)
      subst this
      rw [hc] at hc0; injection hc0 with hc0; subst hc0
      exact ⟨e.cid, c, hc, p0, a2, by rw [a4], rx0, a6, by rw [a5]; rfl⟩

/-! ### sending on the oneshots of orphaned calls -/

theorem View.get_send {v : View} {cid : Nat} {o : Outcome} {i : Nat} {c' : CallV}
    (h : (v.send cid o).get i = some c') : ∃ c, v.get i = some c ∧ c'.phase = c.phase ∧ c'.rxClosed = c.rxClosed := by
  unfold View.send at h
  split at h
  · exact ⟨c', h, rfl, rfl⟩
  · split at h
    · exact ⟨c', h, rfl, rfl⟩
    · rw [View.get_upd] at h
      split at h
      · cases hg : v.get i with
        | none => rw [hg] at h; simp at h
        | some c => rw [hg] at h; simp at h; exact ⟨c, rfl, by rw [← h], by rw [← h]⟩
      · exact ⟨c', h, rfl, rfl⟩

theorem View.get_send_fwd {v : View} {cid : Nat} {o : Outcome} {i : Nat} {c : CallV} (h : v.get i = some c) :
    ∃ c', (v.send cid o).get i = some c' ∧ c'.phase = c.phase ∧ c'.id = c.id ∧ c'.rxClosed = c.rxClosed := by
  unfold View.send
  split
  · exact ⟨c, h, rfl, rfl, rfl⟩
  · split
    · exact ⟨c, h, rfl, rfl, rfl⟩
    · rw [View.get_upd]
      split
      · rw [h]; exact ⟨_, rfl, rfl, rfl, rfl⟩
      · exact ⟨c, h, rfl, rfl, rfl⟩

theorem PresD.sendAll {P : Option Nat → View → Prop} (hP : PresD P) {x : Option Nat} (o : Outcome)
    (ho : okLike (some o) = false) (es : List Entry) {v : View} (h : P x v) (hinf : v.inflight = [])
    (hes : ∀ e ∈ es, (∀ r ∈ v.pq, r.cid ≠ e.cid) ∧ ∀ c, v.get e.cid = some c → c.enq) :
    P x (es.foldl (fun v e => v.send e.cid o) v) := by
  induction es generalizing v with
  | nil => exact h
  | cons e es ih =>
    simp only [List.foldl_cons]
    obtain ⟨h1, h2⟩ := hes e List.mem_cons_self
    refine ih (hP.send e.cid o h h1 (by rw [hinf]; intro _ h; cases h) h2 ho) (by simp [hinf]) ?_
    intro e' he'
    obtain ⟨h3, h4⟩ := hes e' (List.mem_cons_of_mem _ he')
    refine ⟨by simpa using h3, fun c' hc' => ?_⟩
    obtain ⟨c, hc, hp, hr⟩ := View.get_send hc'
    have := h4 c hc
    simp only [CallV.enq] at this ⊢
    rw [hp, hr]; exact this

theorem Deq.orphan {x : Option Nat} {v : View} (hi : Inv x v) {r : DReq} (hd : Deq v r) :
    (∀ r' ∈ v.pq, r'.cid ≠ r.cid) ∧ (∀ e ∈ v.inflight, e.cid ≠ r.cid) ∧ (∀ c, v.get r.cid = some c → c.enq) := by
  obtain ⟨c, hc, a1, a2, _⟩ := hd.call
  refine ⟨fun r' hr' h => ?_, fun e he h => ?_, fun c' hc' => ?_⟩
  · obtain ⟨c1, hc1, _, b2, _⟩ := hi.pq r' hr'
    rw [h, hc] at hc1; injection hc1 with hc1; subst hc1
    exact hd.notPq r' hr' (by omega)
  · obtain ⟨c1, hc1, _, b2, _⟩ := hi.inf e he
    rw [h, hc] at hc1; injection hc1 with hc1; subst hc1
    exact hd.notInf e he (by omega)
  · rw [hc] at hc'; injection hc' with hc'; subst hc'; exact a1

/-! ### the dispatch does not touch the phases of the calls and never re-opens a receiver -/

def Frame (v0 v : View) : Prop :=
  ∀ i c', v.get i = some c' → ∃ c, v0.get i = some c ∧ c'.phase = c.phase ∧ (c.rxClosed = true → c'.rxClosed = true)

theorem Frame.refl (v : View) : Frame v v := fun _ c' h => ⟨c', h, rfl, id⟩

theorem Frame.send {v0 v : View} (h : Frame v0 v) (cid : Nat) (o : Outcome) : Frame v0 (v.send cid o) := by
  intro i c' hc'
  obtain ⟨c1, hc1, hp, hr⟩ := View.get_send hc'
  obtain ⟨c, hc, hp2, hr2⟩ := h i c1 hc1
  exact ⟨c, hc, by rw [hp, hp2], fun hx => by rw [hr]; exact hr2 hx⟩

/-- the dispatch-side half of a `P ∧ F` instance, for `F` that looks at the calls and at the ids in flight only -/
theorem PresD.and {P : Option Nat → View → Prop} (hP : PresD P) {F : View → Prop}
    (mono : ∀ {v v' : View}, F v → v'.calls = v.calls → (∀ e' ∈ v'.inflight, ∃ e ∈ v.inflight, e'.id = e.id) → F v')
    (send : ∀ {v : View} (cid : Nat) (o : Outcome), F v → F (v.send cid o))
    (ins : ∀ {v : View} {r : DReq} {rest : List DReq} (key rem due : Nat), P none v → F v → v.pq = r :: rest →
      (∃ c, v.get r.cid = some c ∧ c.rxClosed = false) →
      F { v with pq := rest, inflight := v.inflight ++ [{ id := r.id, cid := r.cid, ctx := r.ctx, timerKey := key, remainder := rem, dueAt := due }] }) :
    PresD (fun x v => P x v ∧ F v) := by
  have keep : ∀ {v v' : View}, F v → v'.calls = v.calls → v'.inflight = v.inflight → F v' :=
    fun h hc hi => mono h hc (fun e he => ⟨e, hi ▸ he, rfl⟩)
  have drop : ∀ {v v' : View} (p : Entry → Bool), F v → v'.calls = v.calls → v'.inflight = v.inflight.filter p → F v' :=
    fun p h hc hi => mono h hc (fun e he => ⟨e, (List.mem_filter.mp (hi ▸ he)).1, rfl⟩)
  exact {
    inv := fun h => hP.inv h.1
    stop := fun o h ho => ⟨hP.stop o h.1 ho, keep h.2 rfl rfl⟩
    panic := fun t site h => ⟨hP.panic t site h.1, keep h.2 rfl rfl⟩
    poison := fun h hs => ⟨hP.poison h.1 hs, keep h.2 rfl rfl⟩
    trunc := fun t h0 h => ⟨hP.trunc t h0.1 h.1, keep h.2 rfl rfl⟩
    pqPop := fun h hpq => ⟨hP.pqPop h.1 hpq, keep h.2 rfl rfl⟩
    cqPop := fun h hcq => ⟨hP.cqPop h.1 hcq, keep h.2 rfl rfl⟩
    infRemove := fun id h => ⟨hP.infRemove id h.1, drop _ h.2 rfl rfl⟩
    drop_x := fun h hx => ⟨hP.drop_x h.1 hx, h.2⟩
    popInsert := fun key rem due h hpq hnc => ⟨hP.popInsert key rem due h.1 hpq hnc, ins key rem due h.1 h.2 hpq hnc⟩
    infRearm := fun id key t due h => ⟨hP.infRearm id key t due h.1, mono h.2 rfl (fun e' he' => by
      obtain ⟨e, he, rfl⟩ := List.mem_map.mp he'
      exact ⟨e, he, (rearmEntry_same id key t due e).1⟩)⟩
    sendReqOk := fun t body h hp he hid hb => ⟨hP.sendReqOk t body h.1 hp he hid hb, keep h.2 rfl rfl⟩
    sendReqFail := fun {v id e} t body pn t' site h hp he hid hb => ⟨hP.sendReqFail t body pn t' site h.1 hp he hid hb,
      send (v := { v with inflight := v.inflight.filter (·.id != id), poisoned := v.poisoned || pn, rel := stopObs pn t' site ++ .tSend t (Msg.request id e.ctx.deadline e.ctx.trace body) false :: v.rel })
        e.cid _ (drop _ h.2 rfl rfl)⟩
    sendCancel := fun t ok h hc => ⟨hP.sendCancel t ok h.1 hc, keep h.2 rfl rfl⟩
    send := fun cid o h h1 h2 h3 h4 => ⟨hP.send cid o h.1 h1 h2 h3 h4, send cid o h.2⟩
    readMiss := fun t id res h hm => ⟨hP.readMiss t id res h.1 hm, keep h.2 rfl rfl⟩
    readHit := fun {v e} t res pn t' site h he => ⟨hP.readHit t res pn t' site h.1 he,
      send (v := { v with inflight := v.inflight.filter (·.id != e.id), poisoned := v.poisoned || pn, rel := stopObs pn t' site ++ .tNext t (.item (.response e.id res)) :: v.rel })
        e.cid _ (drop _ h.2 rfl rfl)⟩
    infClear := fun h => ⟨hP.infClear h.1, mono h.2 rfl (fun _ h => by cases h)⟩
    pqClear := fun h => ⟨hP.pqClear h.1, keep h.2 rfl rfl⟩
    cqClear := fun h => ⟨hP.cqClear h.1, keep h.2 rfl rfl⟩ }

/-- the call-side half of an `Inv ∧ F` instance of `Pres` (`PresD.and` is the other) -/
theorem Inv.pres_and {F : View → Prop} (hD : PresD (fun x v => Inv x v ∧ F v))
    (same : ∀ {v v' : View}, F v → v'.calls = v.calls → v'.inflight = v.inflight → F v')
    (upd : ∀ {v : View} {cid : Nat} {c : CallV} (g : CallV → CallV), F v → v.get cid = some c →
      (∀ c', (g c').body = c'.body) → (c.polled → (g c).polled ∧ (g c).id = c.id) →
      (c.rxClosed = true → (g c).rxClosed = true) → F (v.upd cid g)) :
    Pres (fun x v => Inv x v ∧ F v) where
  toPresD := hD
  assign := fun {_ v _ c} h hc hp => ⟨Inv.pres.assign h.1 hc hp,
    same (upd (fun c' => { c' with id := v.nextId, trace := { c.ctx.trace with span := .fresh v.nextFresh }, phase := .reserving })
      h.2 hc (fun _ => rfl) (fun hpol => by simp [CallV.polled, hp] at hpol)
      (fun hrx => by rw [h.1.np _ _ hc hp] at hrx; cases hrx)) rfl rfl⟩
  enqueue := fun h hc hp => ⟨Inv.pres.enqueue h.1 hc hp,
    same (upd (fun c => { c with phase := .awaiting }) h.2 hc (fun _ => rfl) (fun _ => ⟨Or.inr (Or.inl rfl), rfl⟩) id) rfl rfl⟩
  resolveVal := fun {_ _ _ _ o} now h hc hp hv => ⟨Inv.pres.resolveVal now h.1 hc hp hv,
    same (upd (fun c => { c with val := none, phase := .resolved, outcome := some o, rxClosed := true }) h.2 hc (fun _ => rfl)
      (fun _ => ⟨Or.inr (Or.inr (Or.inl rfl)), rfl⟩) (fun _ => rfl)) rfl rfl⟩
  resolveShut := fun now h hc hp => ⟨Inv.pres.resolveShut now h.1 hc hp,
    same (upd (fun c => { c with phase := .resolved, outcome := some .shutdown, rxClosed := true }) h.2 hc (fun _ => rfl)
      (fun _ => ⟨Or.inr (Or.inr (Or.inl rfl)), rfl⟩) (fun _ => rfl)) rfl rfl⟩
  guardClose := fun h hc hp => ⟨Inv.pres.guardClose h.1 hc hp,
    upd _ h.2 hc (fun _ => rfl) (fun hpol => ⟨by simp only [CallV.polled] at hpol ⊢; grind, rfl⟩) (fun _ => rfl)⟩
  cqPush := fun h hc hp hr => ⟨Inv.pres.cqPush h.1 hc hp hr, same h.2 rfl rfl⟩
  dropGuarded := fun h hc hp hr => ⟨Inv.pres.dropGuarded h.1 hc hp hr,
    upd _ h.2 hc (fun _ => rfl) (fun _ => ⟨Or.inr (Or.inr (Or.inr ⟨rfl, hr⟩)), rfl⟩) id⟩
  dropNP := fun h hc hp => ⟨Inv.pres.dropNP h.1 hc hp,
    upd _ h.2 hc (fun _ => rfl) (fun hpol => by simp [CallV.polled, hp] at hpol)
      (fun hrx => by rw [h.1.np _ _ hc hp] at hrx; cases hrx)⟩

theorem Frame.of_calls {v0 v v' : View} (h : Frame v0 v) (hc : v'.calls = v.calls) : Frame v0 v' := by
  intro i c' hg
  refine h i c' ?_
  unfold View.get at hg ⊢
  rw [← hc]; exact hg

theorem PresD.withFrame {P : Option Nat → View → Prop} (hP : PresD P) (v0 : View) :
    PresD (fun x v => P x v ∧ Frame v0 v) :=
  hP.and (fun h hc _ => h.of_calls hc) (fun cid o h => h.send cid o) (fun _ _ _ _ h _ _ => h.of_calls rfl)

/-! ### a new call future -/

def CallV.fresh (cid : Nat) (ctx : Ctx) (body : Nat) : CallV :=
  { cid := cid, ctx := ctx, body := body, phase := .notPolled, id := 0, trace := ctx.trace, rxClosed := false,
    val := none, outcome := none }

theorem View.get_append (v : View) (c : CallV) (i : Nat) :
    View.get { v with calls := v.calls ++ [c] } i = (v.get i).or (if c.cid = i then some c else none) := by
  simp only [View.get, List.find?_append, List.find?_cons, List.find?_nil]
  by_cases h : c.cid = i
  · simp [h]
  · have : (c.cid == i) = false := by simpa using h
    simp [h, this]

theorem Inv.get_newCall {x : Option Nat} {v : View} (hi : Inv x v) (ctx : Ctx) (body : Nat) (i : Nat) :
    View.get { v with calls := v.calls ++ [CallV.fresh v.calls.length ctx body] } i =
      if i = v.calls.length then some (CallV.fresh v.calls.length ctx body) else v.get i := by
  rw [View.get_append]
  by_cases h : i = v.calls.length
  · subst h
    cases hg : v.get v.calls.length with
    | none => simp [CallV.fresh]
    | some c => exact absurd (hi.cidLt _ c hg) (Nat.lt_irrefl _)
  · have : ¬ (CallV.fresh v.calls.length ctx body).cid = i := fun h' => h h'.symm
    simp [this, h]

theorem Inv.newCall {x : Option Nat} {v : View} (hi : Inv x v) (ctx : Ctx) (body : Nat) :
    Inv x { v with calls := v.calls ++ [CallV.fresh v.calls.length ctx body] } := by
  have hg := hi.get_newCall ctx body
  have old : ∀ i c, v.get i = some c → View.get { v with calls := v.calls ++ [CallV.fresh v.calls.length ctx body] } i = some c := by
    intro i c hc
    rw [hg, if_neg (Nat.ne_of_lt (hi.cidLt i c hc))]; exact hc
  -- a clause about every call holds of the old calls as before and is checked for the new one
  have per : ∀ {Φ : Nat → CallV → Prop}, (∀ i c, v.get i = some c → Φ i c) →
      Φ v.calls.length (CallV.fresh v.calls.length ctx body) →
      ∀ i c, View.get { v with calls := v.calls ++ [CallV.fresh v.calls.length ctx body] } i = some c → Φ i c := by
    intro Φ h1 h2 i c hc
    rw [hg] at hc
    by_cases e : i = v.calls.length
    · rw [if_pos e] at hc; cases hc; exact e ▸ h2
    · rw [if_neg e] at hc; exact h1 i c hc
  have hnp : ¬ (CallV.fresh v.calls.length ctx body).polled := by simp [CallV.polled, CallV.fresh]
  have oldP := per (Φ := fun i c => c.polled → v.get i = some c) (fun _ _ h _ => h) (fun hp => absurd hp hnp)
  exact { hi with
    cids := by
      simp only [List.map_append, List.map_cons, List.map_nil, List.length_append, List.length_cons, List.length_nil]
      rw [List.range_succ, hi.cids]; rfl
    cidLt := per (fun i c h => by have := hi.cidLt i c h; simp only [List.length_append, List.length_cons, List.length_nil]; omega)
      (by simp)
    idLt := per hi.idLt (fun hp => absurd hp hnp)
    idInj := fun i j c d hc hd pc pd => hi.idInj i j c d (oldP i c hc pc) (oldP j d hd pd) pc pd
    tr := per hi.tr (fun hp => absurd hp hnp)
    outc := per hi.outc (by simp [CallV.fresh])
    np := per hi.np (by simp [CallV.fresh])
    early := per hi.early (by simp [CallV.fresh])
    pq := fun r hr => let ⟨c, hc, a⟩ := hi.pq r hr; ⟨c, old _ c hc, a⟩
    inf := fun e he => let ⟨c, hc, a⟩ := hi.inf e he; ⟨c, old _ c hc, a⟩
    cq := fun id hid => let ⟨i, c, hc, a⟩ := hi.cq id hid; ⟨i, c, old _ c hc, a⟩
    reqCall := fun id dl tr b hm => let ⟨i, c, hc, a⟩ := hi.reqCall id dl tr b hm; ⟨i, c, old _ c hc, a⟩
    canCall := fun id tr hm => let ⟨b1, b2, i, c, hc, a⟩ := hi.canCall id tr hm; ⟨b1, b2, i, c, old _ c hc, a⟩ }

end TarpcModel.Client
