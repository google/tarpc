import TarpcModel.Lemmas.ClientSteps
/-
The frames of the functions of the call future (`FrameA`) and of the pumps (`FrameD`, `FrameW`, `FrameP`), read off the
walks of `ClientSteps`, each re-exported as `@[simp]` field equalities like the frames of the primitives in `ClientFlow`.
-/
namespace TarpcModel.Client.Flow

attribute [local refl] Nat.le_refl

/-! ### the call side -/

theorem frameA_crel : CRel FrameA where
  refl := .refl
  trans := .trans
  same _ _ h := ⟨h.k, h.maxInFlight, h.bufCap, h.ensureLoop, h.t, h.termErr, h.readFused, by rw [h.obs]⟩
  emit := emit_frameA
  updCall := updCall_frameA
  wakeDispatch := wakeDispatch_frameA
  osDropTx := osDropTx_frameA
  pqRelease := pqRelease_frameA
  pqPush := pqPush_frameA
  cqPush := cqPush_frameA

theorem guardClose_frameA (s : St) (cid : Nat) : FrameA s (guardClose s cid) := frameA_crel.updCall _ _ _
@[simp] theorem guardClose_k (s : St) (cid : Nat) : (guardClose s cid).k = s.k := (guardClose_frameA s cid).k
@[simp] theorem guardClose_maxInFlight (s : St) (cid : Nat) : (guardClose s cid).maxInFlight = s.maxInFlight := (guardClose_frameA s cid).maxInFlight
@[simp] theorem guardClose_bufCap (s : St) (cid : Nat) : (guardClose s cid).bufCap = s.bufCap := (guardClose_frameA s cid).bufCap
@[simp] theorem guardClose_ensureLoop (s : St) (cid : Nat) : (guardClose s cid).ensureLoop = s.ensureLoop := (guardClose_frameA s cid).ensureLoop
@[simp] theorem guardClose_t (s : St) (cid : Nat) : (guardClose s cid).t = s.t := (guardClose_frameA s cid).t
@[simp] theorem guardClose_termErr (s : St) (cid : Nat) : (guardClose s cid).termErr = s.termErr := (guardClose_frameA s cid).termErr
@[simp] theorem guardClose_readFused (s : St) (cid : Nat) : (guardClose s cid).readFused = s.readFused := (guardClose_frameA s cid).readFused
@[simp] theorem guardClose_tObs (s : St) (cid : Nat) : (guardClose s cid).obs.filter isT = s.obs.filter isT := (guardClose_frameA s cid).tobs

theorem afterCallGone_frameA (s : St) : FrameA s (afterCallGone s) := frameA_crel.call ((afterCallGone_steps 0 s).mono gone_le_call)
@[simp] theorem afterCallGone_k (s : St) : (afterCallGone s).k = s.k := (afterCallGone_frameA s).k
@[simp] theorem afterCallGone_maxInFlight (s : St) : (afterCallGone s).maxInFlight = s.maxInFlight := (afterCallGone_frameA s).maxInFlight
@[simp] theorem afterCallGone_bufCap (s : St) : (afterCallGone s).bufCap = s.bufCap := (afterCallGone_frameA s).bufCap
@[simp] theorem afterCallGone_ensureLoop (s : St) : (afterCallGone s).ensureLoop = s.ensureLoop := (afterCallGone_frameA s).ensureLoop
@[simp] theorem afterCallGone_t (s : St) : (afterCallGone s).t = s.t := (afterCallGone_frameA s).t
@[simp] theorem afterCallGone_termErr (s : St) : (afterCallGone s).termErr = s.termErr := (afterCallGone_frameA s).termErr
@[simp] theorem afterCallGone_readFused (s : St) : (afterCallGone s).readFused = s.readFused := (afterCallGone_frameA s).readFused
@[simp] theorem afterCallGone_tObs (s : St) : (afterCallGone s).obs.filter isT = s.obs.filter isT := (afterCallGone_frameA s).tobs

theorem resolve_frameA (s : St) (cid : Nat) (o : Outcome) (now : Nat) : FrameA s (resolve s cid o now) :=
  frameA_crel.call (resolve_steps s cid o now)
@[simp] theorem resolve_k (s : St) (cid : Nat) (o : Outcome) (now : Nat) : (resolve s cid o now).k = s.k := (resolve_frameA s cid o now).k
@[simp] theorem resolve_maxInFlight (s : St) (cid : Nat) (o : Outcome) (now : Nat) : (resolve s cid o now).maxInFlight = s.maxInFlight := (resolve_frameA s cid o now).maxInFlight
@[simp] theorem resolve_bufCap (s : St) (cid : Nat) (o : Outcome) (now : Nat) : (resolve s cid o now).bufCap = s.bufCap := (resolve_frameA s cid o now).bufCap
@[simp] theorem resolve_ensureLoop (s : St) (cid : Nat) (o : Outcome) (now : Nat) : (resolve s cid o now).ensureLoop = s.ensureLoop := (resolve_frameA s cid o now).ensureLoop
@[simp] theorem resolve_t (s : St) (cid : Nat) (o : Outcome) (now : Nat) : (resolve s cid o now).t = s.t := (resolve_frameA s cid o now).t
@[simp] theorem resolve_termErr (s : St) (cid : Nat) (o : Outcome) (now : Nat) : (resolve s cid o now).termErr = s.termErr := (resolve_frameA s cid o now).termErr
@[simp] theorem resolve_readFused (s : St) (cid : Nat) (o : Outcome) (now : Nat) : (resolve s cid o now).readFused = s.readFused := (resolve_frameA s cid o now).readFused
@[simp] theorem resolve_tObs (s : St) (cid : Nat) (o : Outcome) (now : Nat) : (resolve s cid o now).obs.filter isT = s.obs.filter isT := (resolve_frameA s cid o now).tobs

theorem pollOneshot_frameA (s : St) (cid now : Nat) : FrameA s (pollOneshot s cid now) :=
  frameA_crel.call (pollOneshot_steps s cid now)
@[simp] theorem pollOneshot_k (s : St) (cid now : Nat) : (pollOneshot s cid now).k = s.k := (pollOneshot_frameA s cid now).k
@[simp] theorem pollOneshot_maxInFlight (s : St) (cid now : Nat) : (pollOneshot s cid now).maxInFlight = s.maxInFlight := (pollOneshot_frameA s cid now).maxInFlight
@[simp] theorem pollOneshot_bufCap (s : St) (cid now : Nat) : (pollOneshot s cid now).bufCap = s.bufCap := (pollOneshot_frameA s cid now).bufCap
@[simp] theorem pollOneshot_ensureLoop (s : St) (cid now : Nat) : (pollOneshot s cid now).ensureLoop = s.ensureLoop := (pollOneshot_frameA s cid now).ensureLoop
@[simp] theorem pollOneshot_t (s : St) (cid now : Nat) : (pollOneshot s cid now).t = s.t := (pollOneshot_frameA s cid now).t
@[simp] theorem pollOneshot_termErr (s : St) (cid now : Nat) : (pollOneshot s cid now).termErr = s.termErr := (pollOneshot_frameA s cid now).termErr
@[simp] theorem pollOneshot_readFused (s : St) (cid now : Nat) : (pollOneshot s cid now).readFused = s.readFused := (pollOneshot_frameA s cid now).readFused
@[simp] theorem pollOneshot_tObs (s : St) (cid now : Nat) : (pollOneshot s cid now).obs.filter isT = s.obs.filter isT := (pollOneshot_frameA s cid now).tobs

theorem pollCall_frameA (s : St) (cid now : Nat) : FrameA s (pollCall s cid now) := frameA_crel.call (pollCall_steps s cid now)
@[simp] theorem pollCall_k (s : St) (cid now : Nat) : (pollCall s cid now).k = s.k := (pollCall_frameA s cid now).k
@[simp] theorem pollCall_maxInFlight (s : St) (cid now : Nat) : (pollCall s cid now).maxInFlight = s.maxInFlight := (pollCall_frameA s cid now).maxInFlight
@[simp] theorem pollCall_bufCap (s : St) (cid now : Nat) : (pollCall s cid now).bufCap = s.bufCap := (pollCall_frameA s cid now).bufCap
@[simp] theorem pollCall_ensureLoop (s : St) (cid now : Nat) : (pollCall s cid now).ensureLoop = s.ensureLoop := (pollCall_frameA s cid now).ensureLoop
@[simp] theorem pollCall_t (s : St) (cid now : Nat) : (pollCall s cid now).t = s.t := (pollCall_frameA s cid now).t
@[simp] theorem pollCall_termErr (s : St) (cid now : Nat) : (pollCall s cid now).termErr = s.termErr := (pollCall_frameA s cid now).termErr
@[simp] theorem pollCall_readFused (s : St) (cid now : Nat) : (pollCall s cid now).readFused = s.readFused := (pollCall_frameA s cid now).readFused
@[simp] theorem pollCall_tObs (s : St) (cid now : Nat) : (pollCall s cid now).obs.filter isT = s.obs.filter isT := (pollCall_frameA s cid now).tobs

theorem dropPre_frameA (s : St) (cid : Nat) : FrameA s (dropPre s cid) := frameA_crel.call (dropPre_steps 0 s cid)
@[simp] theorem dropPre_k (s : St) (cid : Nat) : (dropPre s cid).k = s.k := (dropPre_frameA s cid).k
@[simp] theorem dropPre_maxInFlight (s : St) (cid : Nat) : (dropPre s cid).maxInFlight = s.maxInFlight := (dropPre_frameA s cid).maxInFlight
@[simp] theorem dropPre_bufCap (s : St) (cid : Nat) : (dropPre s cid).bufCap = s.bufCap := (dropPre_frameA s cid).bufCap
@[simp] theorem dropPre_ensureLoop (s : St) (cid : Nat) : (dropPre s cid).ensureLoop = s.ensureLoop := (dropPre_frameA s cid).ensureLoop
@[simp] theorem dropPre_t (s : St) (cid : Nat) : (dropPre s cid).t = s.t := (dropPre_frameA s cid).t
@[simp] theorem dropPre_termErr (s : St) (cid : Nat) : (dropPre s cid).termErr = s.termErr := (dropPre_frameA s cid).termErr
@[simp] theorem dropPre_readFused (s : St) (cid : Nat) : (dropPre s cid).readFused = s.readFused := (dropPre_frameA s cid).readFused
@[simp] theorem dropPre_tObs (s : St) (cid : Nat) : (dropPre s cid).obs.filter isT = s.obs.filter isT := (dropPre_frameA s cid).tobs

theorem dropClose_frameA (s : St) (cid : Nat) : FrameA s (dropClose s cid) := frameA_crel.call (dropClose_steps 0 s cid)
@[simp] theorem dropClose_k (s : St) (cid : Nat) : (dropClose s cid).k = s.k := (dropClose_frameA s cid).k
@[simp] theorem dropClose_maxInFlight (s : St) (cid : Nat) : (dropClose s cid).maxInFlight = s.maxInFlight := (dropClose_frameA s cid).maxInFlight
@[simp] theorem dropClose_bufCap (s : St) (cid : Nat) : (dropClose s cid).bufCap = s.bufCap := (dropClose_frameA s cid).bufCap
@[simp] theorem dropClose_ensureLoop (s : St) (cid : Nat) : (dropClose s cid).ensureLoop = s.ensureLoop := (dropClose_frameA s cid).ensureLoop
@[simp] theorem dropClose_t (s : St) (cid : Nat) : (dropClose s cid).t = s.t := (dropClose_frameA s cid).t
@[simp] theorem dropClose_termErr (s : St) (cid : Nat) : (dropClose s cid).termErr = s.termErr := (dropClose_frameA s cid).termErr
@[simp] theorem dropClose_readFused (s : St) (cid : Nat) : (dropClose s cid).readFused = s.readFused := (dropClose_frameA s cid).readFused
@[simp] theorem dropClose_tObs (s : St) (cid : Nat) : (dropClose s cid).obs.filter isT = s.obs.filter isT := (dropClose_frameA s cid).tobs

theorem dropCancel_frameA (s : St) (cid : Nat) : FrameA s (dropCancel s cid) := frameA_crel.call (dropCancel_steps 0 s cid)
@[simp] theorem dropCancel_k (s : St) (cid : Nat) : (dropCancel s cid).k = s.k := (dropCancel_frameA s cid).k
@[simp] theorem dropCancel_maxInFlight (s : St) (cid : Nat) : (dropCancel s cid).maxInFlight = s.maxInFlight := (dropCancel_frameA s cid).maxInFlight
@[simp] theorem dropCancel_bufCap (s : St) (cid : Nat) : (dropCancel s cid).bufCap = s.bufCap := (dropCancel_frameA s cid).bufCap
@[simp] theorem dropCancel_ensureLoop (s : St) (cid : Nat) : (dropCancel s cid).ensureLoop = s.ensureLoop := (dropCancel_frameA s cid).ensureLoop
@[simp] theorem dropCancel_t (s : St) (cid : Nat) : (dropCancel s cid).t = s.t := (dropCancel_frameA s cid).t
@[simp] theorem dropCancel_termErr (s : St) (cid : Nat) : (dropCancel s cid).termErr = s.termErr := (dropCancel_frameA s cid).termErr
@[simp] theorem dropCancel_readFused (s : St) (cid : Nat) : (dropCancel s cid).readFused = s.readFused := (dropCancel_frameA s cid).readFused
@[simp] theorem dropCancel_tObs (s : St) (cid : Nat) : (dropCancel s cid).obs.filter isT = s.obs.filter isT := (dropCancel_frameA s cid).tobs

theorem dropFinish_frameA (s : St) (cid : Nat) : FrameA s (dropFinish s cid) := frameA_crel.call (dropFinish_steps 0 s cid)
@[simp] theorem dropFinish_k (s : St) (cid : Nat) : (dropFinish s cid).k = s.k := (dropFinish_frameA s cid).k
@[simp] theorem dropFinish_maxInFlight (s : St) (cid : Nat) : (dropFinish s cid).maxInFlight = s.maxInFlight := (dropFinish_frameA s cid).maxInFlight
@[simp] theorem dropFinish_bufCap (s : St) (cid : Nat) : (dropFinish s cid).bufCap = s.bufCap := (dropFinish_frameA s cid).bufCap
@[simp] theorem dropFinish_ensureLoop (s : St) (cid : Nat) : (dropFinish s cid).ensureLoop = s.ensureLoop := (dropFinish_frameA s cid).ensureLoop
@[simp] theorem dropFinish_t (s : St) (cid : Nat) : (dropFinish s cid).t = s.t := (dropFinish_frameA s cid).t
@[simp] theorem dropFinish_termErr (s : St) (cid : Nat) : (dropFinish s cid).termErr = s.termErr := (dropFinish_frameA s cid).termErr
@[simp] theorem dropFinish_readFused (s : St) (cid : Nat) : (dropFinish s cid).readFused = s.readFused := (dropFinish_frameA s cid).readFused
@[simp] theorem dropFinish_tObs (s : St) (cid : Nat) : (dropFinish s cid).obs.filter isT = s.obs.filter isT := (dropFinish_frameA s cid).tobs

theorem newCall_frameA (s : St) (h : Nat) (ctx : Ctx) (body : Nat) : FrameA s (newCall s h ctx body) :=
  frameA_crel.steps (newCall_steps 0 s h ctx body)
@[simp] theorem newCall_k (s : St) (h : Nat) (ctx : Ctx) (body : Nat) : (newCall s h ctx body).k = s.k := (newCall_frameA s h ctx body).k
@[simp] theorem newCall_maxInFlight (s : St) (h : Nat) (ctx : Ctx) (body : Nat) : (newCall s h ctx body).maxInFlight = s.maxInFlight := (newCall_frameA s h ctx body).maxInFlight
@[simp] theorem newCall_bufCap (s : St) (h : Nat) (ctx : Ctx) (body : Nat) : (newCall s h ctx body).bufCap = s.bufCap := (newCall_frameA s h ctx body).bufCap
@[simp] theorem newCall_ensureLoop (s : St) (h : Nat) (ctx : Ctx) (body : Nat) : (newCall s h ctx body).ensureLoop = s.ensureLoop := (newCall_frameA s h ctx body).ensureLoop
@[simp] theorem newCall_t (s : St) (h : Nat) (ctx : Ctx) (body : Nat) : (newCall s h ctx body).t = s.t := (newCall_frameA s h ctx body).t
@[simp] theorem newCall_termErr (s : St) (h : Nat) (ctx : Ctx) (body : Nat) : (newCall s h ctx body).termErr = s.termErr := (newCall_frameA s h ctx body).termErr
@[simp] theorem newCall_readFused (s : St) (h : Nat) (ctx : Ctx) (body : Nat) : (newCall s h ctx body).readFused = s.readFused := (newCall_frameA s h ctx body).readFused
@[simp] theorem newCall_tObs (s : St) (h : Nat) (ctx : Ctx) (body : Nat) : (newCall s h ctx body).obs.filter isT = s.obs.filter isT := (newCall_frameA s h ctx body).tobs

theorem cloneHandle_frameA (s : St) (h : Nat) : FrameA s (cloneHandle s h) := frameA_crel.steps (cloneHandle_steps 0 s h)
@[simp] theorem cloneHandle_k (s : St) (h : Nat) : (cloneHandle s h).k = s.k := (cloneHandle_frameA s h).k
@[simp] theorem cloneHandle_maxInFlight (s : St) (h : Nat) : (cloneHandle s h).maxInFlight = s.maxInFlight := (cloneHandle_frameA s h).maxInFlight
@[simp] theorem cloneHandle_bufCap (s : St) (h : Nat) : (cloneHandle s h).bufCap = s.bufCap := (cloneHandle_frameA s h).bufCap
@[simp] theorem cloneHandle_ensureLoop (s : St) (h : Nat) : (cloneHandle s h).ensureLoop = s.ensureLoop := (cloneHandle_frameA s h).ensureLoop
@[simp] theorem cloneHandle_t (s : St) (h : Nat) : (cloneHandle s h).t = s.t := (cloneHandle_frameA s h).t
@[simp] theorem cloneHandle_termErr (s : St) (h : Nat) : (cloneHandle s h).termErr = s.termErr := (cloneHandle_frameA s h).termErr
@[simp] theorem cloneHandle_readFused (s : St) (h : Nat) : (cloneHandle s h).readFused = s.readFused := (cloneHandle_frameA s h).readFused
@[simp] theorem cloneHandle_tObs (s : St) (h : Nat) : (cloneHandle s h).obs.filter isT = s.obs.filter isT := (cloneHandle_frameA s h).tobs

theorem dropHandle_frameA (s : St) (h : Nat) : FrameA s (dropHandle s h) := frameA_crel.steps (dropHandle_steps 0 s h)
@[simp] theorem dropHandle_k (s : St) (h : Nat) : (dropHandle s h).k = s.k := (dropHandle_frameA s h).k
@[simp] theorem dropHandle_maxInFlight (s : St) (h : Nat) : (dropHandle s h).maxInFlight = s.maxInFlight := (dropHandle_frameA s h).maxInFlight
@[simp] theorem dropHandle_bufCap (s : St) (h : Nat) : (dropHandle s h).bufCap = s.bufCap := (dropHandle_frameA s h).bufCap
@[simp] theorem dropHandle_ensureLoop (s : St) (h : Nat) : (dropHandle s h).ensureLoop = s.ensureLoop := (dropHandle_frameA s h).ensureLoop
@[simp] theorem dropHandle_t (s : St) (h : Nat) : (dropHandle s h).t = s.t := (dropHandle_frameA s h).t
@[simp] theorem dropHandle_termErr (s : St) (h : Nat) : (dropHandle s h).termErr = s.termErr := (dropHandle_frameA s h).termErr
@[simp] theorem dropHandle_readFused (s : St) (h : Nat) : (dropHandle s h).readFused = s.readFused := (dropHandle_frameA s h).readFused
@[simp] theorem dropHandle_tObs (s : St) (h : Nat) : (dropHandle s h).obs.filter isT = s.obs.filter isT := (dropHandle_frameA s h).tobs

/-! ### the pumps -/

/-- The write pump either makes no `poll_close`, or it is `tClose` applied to a state `s3` reached by the steps before:
both queue sides reported "closed" and no timer fired. -/
theorem pumpWrite_rel_or_close {R : St → St → Prop} (hR : WRel R) (s : St) (now : Nat) : R s (pumpWrite s now).1 ∨
    ∃ s1 s2 s3, pollWriteRequest s now = (s1, .none) ∧ pollWriteCancel s1 = (s2, .none) ∧
      pollExpired s2 now = (s3, false) ∧ R s s3 ∧ pumpWrite s now = ((tClose s3).1, closePW (tClose s3).2) := by
  have rq : ∀ {s1 r1}, pollWriteRequest s now = (s1, r1) → R s s1 := fun h1 =>
    of_fst h1 (hR.steps ((pollWriteRequest_steps s now).mono req_le_write))
  have cn : ∀ {s1 s2 r2}, pollWriteCancel s1 = (s2, r2) → R s1 s2 := fun h2 =>
    of_fst h2 (hR.steps ((pollWriteCancel_steps now _).mono can_le_write))
  have ex : ∀ {s2 s3 b}, pollExpired s2 now = (s3, b) → R s2 s3 := fun h3 =>
    of_fst h3 (hR.prim ⟨pollExpired_frameA _ _, pollExpired_frameD _ _⟩)
  refine pumpWrite_cases (motive := fun p => R s p.1 ∨ ∃ s1 s2 s3, pollWriteRequest s now = (s1, .none) ∧
    pollWriteCancel s1 = (s2, .none) ∧ pollExpired s2 now = (s3, false) ∧ R s s3 ∧
      p = ((tClose s3).1, closePW (tClose s3).2)) s now ?_ ?_ ?_ ?_ ?_ ?_
  · exact fun s1 r1 h1 _ => .inl (rq h1)
  · exact fun s1 r1 s2 r2 h1 _ h2 _ => .inl (hR.trans (rq h1) (cn h2))
  · exact fun s1 r1 s2 r2 s3 h1 _ h2 _ h3 => .inl (hR.trans (hR.trans (rq h1) (cn h2)) (ex h3))
  · exact fun s1 r1 s2 r2 s3 h1 _ h2 _ h3 _ => .inl (hR.trans (hR.trans (rq h1) (cn h2)) (ex h3))
  · exact fun s1 s2 s3 s4 r4 h1 h2 h3 h4 =>
      .inr ⟨s1, s2, s3, h1, h2, h3, hR.trans (hR.trans (rq h1) (cn h2)) (ex h3), by rw [h4]⟩
  · exact fun s1 r1 s2 r2 s3 s4 r4 h1 _ h2 _ _ h3 h4 =>
      .inl (hR.trans (hR.trans (hR.trans (rq h1) (cn h2)) (ex h3)) (of_fst h4 (hR.flush s3)))

theorem frameD_drel : DRel FrameD where
  refl := .refl
  trans := .trans
  prim := fun h => h.d
  ready := tReady_frameD
  flush := tFlush_frameD
  send := tSend_frameD
  spin := fun _ => emit_frameD _ _
  close := tClose_frameD
  next := tNext_frameD

theorem ensureLoop_frameD (fuel : Nat) (s : St) : FrameD s (ensureLoop fuel s).1 :=
  frameD_drel.toWRel.steps ((ensureLoop_steps 0 fuel s).mono ensure_le_write)
@[simp] theorem ensureLoop_k (fuel : Nat) (s : St) : ((ensureLoop fuel s).1).k = s.k := (ensureLoop_frameD fuel s).k
@[simp] theorem ensureLoop_maxInFlight (fuel : Nat) (s : St) : ((ensureLoop fuel s).1).maxInFlight = s.maxInFlight := (ensureLoop_frameD fuel s).maxInFlight
@[simp] theorem ensureLoop_bufCap (fuel : Nat) (s : St) : ((ensureLoop fuel s).1).bufCap = s.bufCap := (ensureLoop_frameD fuel s).bufCap
@[simp] theorem ensureLoop_ensureLoop (fuel : Nat) (s : St) : ((ensureLoop fuel s).1).ensureLoop = s.ensureLoop := (ensureLoop_frameD fuel s).ensureLoop
@[simp] theorem ensureLoop_handles (fuel : Nat) (s : St) : ((ensureLoop fuel s).1).handles = s.handles := (ensureLoop_frameD fuel s).handles
@[simp] theorem ensureLoop_sigs (fuel : Nat) (s : St) : ((ensureLoop fuel s).1).calls.map callSig = s.calls.map callSig := (ensureLoop_frameD fuel s).sigs
@[simp] theorem ensureLoop_senders (fuel : Nat) (s : St) : senders ((ensureLoop fuel s).1) = senders s := (ensureLoop_frameD fuel s).senders
theorem ensureLoop_pq_le (fuel : Nat) (s : St) : ((ensureLoop fuel s).1).pq.length ≤ s.pq.length := (ensureLoop_frameD fuel s).pq
theorem ensureLoop_cq_le (fuel : Nat) (s : St) : ((ensureLoop fuel s).1).cq.length ≤ s.cq.length := (ensureLoop_frameD fuel s).cq

theorem ensureOnce_frameD (s : St) : FrameD s (ensureOnce s).1 :=
  frameD_drel.toWRel.steps ((ensureOnce_steps 0 s).mono (fun a h => ensure_le_write a (once_le_ensure a h)))
@[simp] theorem ensureOnce_k (s : St) : ((ensureOnce s).1).k = s.k := (ensureOnce_frameD s).k
@[simp] theorem ensureOnce_maxInFlight (s : St) : ((ensureOnce s).1).maxInFlight = s.maxInFlight := (ensureOnce_frameD s).maxInFlight
@[simp] theorem ensureOnce_bufCap (s : St) : ((ensureOnce s).1).bufCap = s.bufCap := (ensureOnce_frameD s).bufCap
@[simp] theorem ensureOnce_ensureLoop (s : St) : ((ensureOnce s).1).ensureLoop = s.ensureLoop := (ensureOnce_frameD s).ensureLoop
@[simp] theorem ensureOnce_handles (s : St) : ((ensureOnce s).1).handles = s.handles := (ensureOnce_frameD s).handles
@[simp] theorem ensureOnce_sigs (s : St) : ((ensureOnce s).1).calls.map callSig = s.calls.map callSig := (ensureOnce_frameD s).sigs
@[simp] theorem ensureOnce_senders (s : St) : senders ((ensureOnce s).1) = senders s := (ensureOnce_frameD s).senders
theorem ensureOnce_pq_le (s : St) : ((ensureOnce s).1).pq.length ≤ s.pq.length := (ensureOnce_frameD s).pq
theorem ensureOnce_cq_le (s : St) : ((ensureOnce s).1).cq.length ≤ s.cq.length := (ensureOnce_frameD s).cq

theorem ensureWriteable_frameD (s : St) : FrameD s (ensureWriteable s).1 := frameD_drel.toWRel.steps ((ensureWriteable_steps 0 s).mono ensure_le_write)
@[simp] theorem ensureWriteable_k (s : St) : ((ensureWriteable s).1).k = s.k := (ensureWriteable_frameD s).k
@[simp] theorem ensureWriteable_maxInFlight (s : St) : ((ensureWriteable s).1).maxInFlight = s.maxInFlight := (ensureWriteable_frameD s).maxInFlight
@[simp] theorem ensureWriteable_bufCap (s : St) : ((ensureWriteable s).1).bufCap = s.bufCap := (ensureWriteable_frameD s).bufCap
@[simp] theorem ensureWriteable_ensureLoop (s : St) : ((ensureWriteable s).1).ensureLoop = s.ensureLoop := (ensureWriteable_frameD s).ensureLoop
@[simp] theorem ensureWriteable_handles (s : St) : ((ensureWriteable s).1).handles = s.handles := (ensureWriteable_frameD s).handles
@[simp] theorem ensureWriteable_sigs (s : St) : ((ensureWriteable s).1).calls.map callSig = s.calls.map callSig := (ensureWriteable_frameD s).sigs
@[simp] theorem ensureWriteable_senders (s : St) : senders ((ensureWriteable s).1) = senders s := (ensureWriteable_frameD s).senders
theorem ensureWriteable_pq_le (s : St) : ((ensureWriteable s).1).pq.length ≤ s.pq.length := (ensureWriteable_frameD s).pq
theorem ensureWriteable_cq_le (s : St) : ((ensureWriteable s).1).cq.length ≤ s.cq.length := (ensureWriteable_frameD s).cq

theorem pollNextRequest_frameD (s : St) : FrameD s (pollNextRequest s).1 := (pollNextRequest_steps 0 s).lift .refl .trans (fun ha st => frameD_drel.toWRel.act (req_le_write _ (reqScan_le_req _ ha)) st) pqRecv_frameD
@[simp] theorem pollNextRequest_k (s : St) : ((pollNextRequest s).1).k = s.k := (pollNextRequest_frameD s).k
@[simp] theorem pollNextRequest_maxInFlight (s : St) : ((pollNextRequest s).1).maxInFlight = s.maxInFlight := (pollNextRequest_frameD s).maxInFlight
@[simp] theorem pollNextRequest_bufCap (s : St) : ((pollNextRequest s).1).bufCap = s.bufCap := (pollNextRequest_frameD s).bufCap
@[simp] theorem pollNextRequest_ensureLoop (s : St) : ((pollNextRequest s).1).ensureLoop = s.ensureLoop := (pollNextRequest_frameD s).ensureLoop
@[simp] theorem pollNextRequest_handles (s : St) : ((pollNextRequest s).1).handles = s.handles := (pollNextRequest_frameD s).handles
@[simp] theorem pollNextRequest_sigs (s : St) : ((pollNextRequest s).1).calls.map callSig = s.calls.map callSig := (pollNextRequest_frameD s).sigs
@[simp] theorem pollNextRequest_senders (s : St) : senders ((pollNextRequest s).1) = senders s := (pollNextRequest_frameD s).senders
theorem pollNextRequest_pq_le (s : St) : ((pollNextRequest s).1).pq.length ≤ s.pq.length := (pollNextRequest_frameD s).pq
theorem pollNextRequest_cq_le (s : St) : ((pollNextRequest s).1).cq.length ≤ s.cq.length := (pollNextRequest_frameD s).cq

theorem pollWriteRequest_frameD (s : St) (now : Nat) : FrameD s (pollWriteRequest s now).1 :=
  frameD_drel.toWRel.steps ((pollWriteRequest_steps s now).mono req_le_write)
@[simp] theorem pollWriteRequest_k (s : St) (now : Nat) : ((pollWriteRequest s now).1).k = s.k := (pollWriteRequest_frameD s now).k
@[simp] theorem pollWriteRequest_maxInFlight (s : St) (now : Nat) : ((pollWriteRequest s now).1).maxInFlight = s.maxInFlight := (pollWriteRequest_frameD s now).maxInFlight
@[simp] theorem pollWriteRequest_bufCap (s : St) (now : Nat) : ((pollWriteRequest s now).1).bufCap = s.bufCap := (pollWriteRequest_frameD s now).bufCap
@[simp] theorem pollWriteRequest_ensureLoop (s : St) (now : Nat) : ((pollWriteRequest s now).1).ensureLoop = s.ensureLoop := (pollWriteRequest_frameD s now).ensureLoop
@[simp] theorem pollWriteRequest_handles (s : St) (now : Nat) : ((pollWriteRequest s now).1).handles = s.handles := (pollWriteRequest_frameD s now).handles
@[simp] theorem pollWriteRequest_sigs (s : St) (now : Nat) : ((pollWriteRequest s now).1).calls.map callSig = s.calls.map callSig := (pollWriteRequest_frameD s now).sigs
@[simp] theorem pollWriteRequest_senders (s : St) (now : Nat) : senders ((pollWriteRequest s now).1) = senders s := (pollWriteRequest_frameD s now).senders
theorem pollWriteRequest_pq_le (s : St) (now : Nat) : ((pollWriteRequest s now).1).pq.length ≤ s.pq.length := (pollWriteRequest_frameD s now).pq
theorem pollWriteRequest_cq_le (s : St) (now : Nat) : ((pollWriteRequest s now).1).cq.length ≤ s.cq.length := (pollWriteRequest_frameD s now).cq

theorem pollNextCancellation_frameD (s : St) : FrameD s (pollNextCancellation s).1 :=
  (pollNextCancellation_steps 0 s).lift .refl .trans (fun ha st => frameD_drel.toWRel.act (can_le_write _ (canScan_le_can _ ha)) st) cqRecv_frameD
    cancelRequest_frameD
@[simp] theorem pollNextCancellation_k (s : St) : ((pollNextCancellation s).1).k = s.k := (pollNextCancellation_frameD s).k
@[simp] theorem pollNextCancellation_maxInFlight (s : St) : ((pollNextCancellation s).1).maxInFlight = s.maxInFlight := (pollNextCancellation_frameD s).maxInFlight
@[simp] theorem pollNextCancellation_bufCap (s : St) : ((pollNextCancellation s).1).bufCap = s.bufCap := (pollNextCancellation_frameD s).bufCap
@[simp] theorem pollNextCancellation_ensureLoop (s : St) : ((pollNextCancellation s).1).ensureLoop = s.ensureLoop := (pollNextCancellation_frameD s).ensureLoop
@[simp] theorem pollNextCancellation_handles (s : St) : ((pollNextCancellation s).1).handles = s.handles := (pollNextCancellation_frameD s).handles
@[simp] theorem pollNextCancellation_sigs (s : St) : ((pollNextCancellation s).1).calls.map callSig = s.calls.map callSig := (pollNextCancellation_frameD s).sigs
@[simp] theorem pollNextCancellation_senders (s : St) : senders ((pollNextCancellation s).1) = senders s := (pollNextCancellation_frameD s).senders
theorem pollNextCancellation_pq_le (s : St) : ((pollNextCancellation s).1).pq.length ≤ s.pq.length := (pollNextCancellation_frameD s).pq
theorem pollNextCancellation_cq_le (s : St) : ((pollNextCancellation s).1).cq.length ≤ s.cq.length := (pollNextCancellation_frameD s).cq

theorem pollWriteCancel_frameD (s : St) : FrameD s (pollWriteCancel s).1 := frameD_drel.toWRel.steps ((pollWriteCancel_steps 0 s).mono can_le_write)
@[simp] theorem pollWriteCancel_k (s : St) : ((pollWriteCancel s).1).k = s.k := (pollWriteCancel_frameD s).k
@[simp] theorem pollWriteCancel_maxInFlight (s : St) : ((pollWriteCancel s).1).maxInFlight = s.maxInFlight := (pollWriteCancel_frameD s).maxInFlight
@[simp] theorem pollWriteCancel_bufCap (s : St) : ((pollWriteCancel s).1).bufCap = s.bufCap := (pollWriteCancel_frameD s).bufCap
@[simp] theorem pollWriteCancel_ensureLoop (s : St) : ((pollWriteCancel s).1).ensureLoop = s.ensureLoop := (pollWriteCancel_frameD s).ensureLoop
@[simp] theorem pollWriteCancel_handles (s : St) : ((pollWriteCancel s).1).handles = s.handles := (pollWriteCancel_frameD s).handles
@[simp] theorem pollWriteCancel_sigs (s : St) : ((pollWriteCancel s).1).calls.map callSig = s.calls.map callSig := (pollWriteCancel_frameD s).sigs
@[simp] theorem pollWriteCancel_senders (s : St) : senders ((pollWriteCancel s).1) = senders s := (pollWriteCancel_frameD s).senders
theorem pollWriteCancel_pq_le (s : St) : ((pollWriteCancel s).1).pq.length ≤ s.pq.length := (pollWriteCancel_frameD s).pq
theorem pollWriteCancel_cq_le (s : St) : ((pollWriteCancel s).1).cq.length ≤ s.cq.length := (pollWriteCancel_frameD s).cq

theorem pumpWrite_frameD (s : St) (now : Nat) : FrameD s (pumpWrite s now).1 :=
  frameD_drel.toWRel.pump tClose_frameD (pumpWrite_steps now s)
@[simp] theorem pumpWrite_k (s : St) (now : Nat) : ((pumpWrite s now).1).k = s.k := (pumpWrite_frameD s now).k
@[simp] theorem pumpWrite_maxInFlight (s : St) (now : Nat) : ((pumpWrite s now).1).maxInFlight = s.maxInFlight := (pumpWrite_frameD s now).maxInFlight
@[simp] theorem pumpWrite_bufCap (s : St) (now : Nat) : ((pumpWrite s now).1).bufCap = s.bufCap := (pumpWrite_frameD s now).bufCap
@[simp] theorem pumpWrite_ensureLoop (s : St) (now : Nat) : ((pumpWrite s now).1).ensureLoop = s.ensureLoop := (pumpWrite_frameD s now).ensureLoop
@[simp] theorem pumpWrite_handles (s : St) (now : Nat) : ((pumpWrite s now).1).handles = s.handles := (pumpWrite_frameD s now).handles
@[simp] theorem pumpWrite_sigs (s : St) (now : Nat) : ((pumpWrite s now).1).calls.map callSig = s.calls.map callSig := (pumpWrite_frameD s now).sigs
@[simp] theorem pumpWrite_senders (s : St) (now : Nat) : senders ((pumpWrite s now).1) = senders s := (pumpWrite_frameD s now).senders
theorem pumpWrite_pq_le (s : St) (now : Nat) : ((pumpWrite s now).1).pq.length ≤ s.pq.length := (pumpWrite_frameD s now).pq
theorem pumpWrite_cq_le (s : St) (now : Nat) : ((pumpWrite s now).1).cq.length ≤ s.cq.length := (pumpWrite_frameD s now).cq

theorem pumpRead_frameD (s : St) : FrameD s (pumpRead s).1 := frameD_drel.steps (pumpRead_steps 0 s)
@[simp] theorem pumpRead_k (s : St) : ((pumpRead s).1).k = s.k := (pumpRead_frameD s).k
@[simp] theorem pumpRead_maxInFlight (s : St) : ((pumpRead s).1).maxInFlight = s.maxInFlight := (pumpRead_frameD s).maxInFlight
@[simp] theorem pumpRead_bufCap (s : St) : ((pumpRead s).1).bufCap = s.bufCap := (pumpRead_frameD s).bufCap
@[simp] theorem pumpRead_ensureLoop (s : St) : ((pumpRead s).1).ensureLoop = s.ensureLoop := (pumpRead_frameD s).ensureLoop
@[simp] theorem pumpRead_handles (s : St) : ((pumpRead s).1).handles = s.handles := (pumpRead_frameD s).handles
@[simp] theorem pumpRead_sigs (s : St) : ((pumpRead s).1).calls.map callSig = s.calls.map callSig := (pumpRead_frameD s).sigs
@[simp] theorem pumpRead_senders (s : St) : senders ((pumpRead s).1) = senders s := (pumpRead_frameD s).senders
theorem pumpRead_pq_le (s : St) : ((pumpRead s).1).pq.length ≤ s.pq.length := (pumpRead_frameD s).pq
theorem pumpRead_cq_le (s : St) : ((pumpRead s).1).cq.length ≤ s.cq.length := (pumpRead_frameD s).cq

theorem run_frameD (fuel : Nat) (s : St) (now : Nat) : FrameD s (run fuel s now).1 := frameD_drel.steps (run_steps now fuel s)
@[simp] theorem run_k (fuel : Nat) (s : St) (now : Nat) : ((run fuel s now).1).k = s.k := (run_frameD fuel s now).k
@[simp] theorem run_maxInFlight (fuel : Nat) (s : St) (now : Nat) : ((run fuel s now).1).maxInFlight = s.maxInFlight := (run_frameD fuel s now).maxInFlight
@[simp] theorem run_bufCap (fuel : Nat) (s : St) (now : Nat) : ((run fuel s now).1).bufCap = s.bufCap := (run_frameD fuel s now).bufCap
@[simp] theorem run_ensureLoop (fuel : Nat) (s : St) (now : Nat) : ((run fuel s now).1).ensureLoop = s.ensureLoop := (run_frameD fuel s now).ensureLoop
@[simp] theorem run_handles (fuel : Nat) (s : St) (now : Nat) : ((run fuel s now).1).handles = s.handles := (run_frameD fuel s now).handles
@[simp] theorem run_sigs (fuel : Nat) (s : St) (now : Nat) : ((run fuel s now).1).calls.map callSig = s.calls.map callSig := (run_frameD fuel s now).sigs
@[simp] theorem run_senders (fuel : Nat) (s : St) (now : Nat) : senders ((run fuel s now).1) = senders s := (run_frameD fuel s now).senders
theorem run_pq_le (fuel : Nat) (s : St) (now : Nat) : ((run fuel s now).1).pq.length ≤ s.pq.length := (run_frameD fuel s now).pq
theorem run_cq_le (fuel : Nat) (s : St) (now : Nat) : ((run fuel s now).1).cq.length ≤ s.cq.length := (run_frameD fuel s now).cq

theorem pollDispatchCore_frameD (s : St) (now : Nat) : FrameD s (pollDispatchCore s now).1 :=
  frameD_drel.coreSteps (fun _ _ => by constructor <;> rfl) (pollDispatchCore_steps s now)
@[simp] theorem pollDispatchCore_k (s : St) (now : Nat) : ((pollDispatchCore s now).1).k = s.k := (pollDispatchCore_frameD s now).k
@[simp] theorem pollDispatchCore_maxInFlight (s : St) (now : Nat) : ((pollDispatchCore s now).1).maxInFlight = s.maxInFlight := (pollDispatchCore_frameD s now).maxInFlight
@[simp] theorem pollDispatchCore_bufCap (s : St) (now : Nat) : ((pollDispatchCore s now).1).bufCap = s.bufCap := (pollDispatchCore_frameD s now).bufCap
@[simp] theorem pollDispatchCore_ensureLoop (s : St) (now : Nat) : ((pollDispatchCore s now).1).ensureLoop = s.ensureLoop := (pollDispatchCore_frameD s now).ensureLoop
@[simp] theorem pollDispatchCore_handles (s : St) (now : Nat) : ((pollDispatchCore s now).1).handles = s.handles := (pollDispatchCore_frameD s now).handles
@[simp] theorem pollDispatchCore_sigs (s : St) (now : Nat) : ((pollDispatchCore s now).1).calls.map callSig = s.calls.map callSig := (pollDispatchCore_frameD s now).sigs
@[simp] theorem pollDispatchCore_senders (s : St) (now : Nat) : senders ((pollDispatchCore s now).1) = senders s := (pollDispatchCore_frameD s now).senders
theorem pollDispatchCore_pq_le (s : St) (now : Nat) : ((pollDispatchCore s now).1).pq.length ≤ s.pq.length := (pollDispatchCore_frameD s now).pq
theorem pollDispatchCore_cq_le (s : St) (now : Nat) : ((pollDispatchCore s now).1).cq.length ≤ s.cq.length := (pollDispatchCore_frameD s now).cq

@[simp] theorem dropDispatch_handles (s : St) : (dropDispatch s).handles = s.handles := (dropDispatch_frameD s).handles
@[simp] theorem dropDispatch_sigs (s : St) : (dropDispatch s).calls.map callSig = s.calls.map callSig := (dropDispatch_frameD s).sigs
@[simp] theorem dropDispatch_senders (s : St) : senders (dropDispatch s) = senders s := (dropDispatch_frameD s).senders
theorem dropDispatch_pq_le (s : St) : (dropDispatch s).pq.length ≤ s.pq.length := (dropDispatch_frameD s).pq
theorem dropDispatch_cq_le (s : St) : (dropDispatch s).cq.length ≤ s.cq.length := (dropDispatch_frameD s).cq

theorem pollDispatchKeep_frameD (s : St) (now : Nat) : FrameD s (pollDispatchKeep s now) := by
  have core : ∀ {s1 r}, pollDispatchCore { s with dWoken := false } now = (s1, r) → FrameD s s1 := fun e =>
    .trans (by constructor <;> rfl) (of_fst e (pollDispatchCore_frameD _ _))
  have done : ∀ {s1 : St} (r : Ret), FrameD s s1 → FrameD s (keepDone r s1) := fun r h => by
    obtain ⟨d, e⟩ := keepDone_only r _
    rw [e]; exact h.upd rfl rfl rfl rfl rfl rfl rfl rfl
  refine pollDispatchKeep_cases s now (fun _ => emit_frameD _ _) ?_ ?_ ?_
  · exact fun s1 r _ e _ => done r ((core e).upd rfl rfl rfl rfl rfl rfl rfl rfl)
  · exact fun s1 r _ e _ _ => done r (core e)
  · exact fun s1 r _ e _ _ => done r (((core e).trans (emit_frameD _ _)).trans (emit_frameD _ _))
@[simp] theorem pollDispatchKeep_k (s : St) (now : Nat) : (pollDispatchKeep s now).k = s.k := (pollDispatchKeep_frameD s now).k
@[simp] theorem pollDispatchKeep_maxInFlight (s : St) (now : Nat) : (pollDispatchKeep s now).maxInFlight = s.maxInFlight := (pollDispatchKeep_frameD s now).maxInFlight
@[simp] theorem pollDispatchKeep_bufCap (s : St) (now : Nat) : (pollDispatchKeep s now).bufCap = s.bufCap := (pollDispatchKeep_frameD s now).bufCap
@[simp] theorem pollDispatchKeep_ensureLoop (s : St) (now : Nat) : (pollDispatchKeep s now).ensureLoop = s.ensureLoop := (pollDispatchKeep_frameD s now).ensureLoop
@[simp] theorem pollDispatchKeep_handles (s : St) (now : Nat) : (pollDispatchKeep s now).handles = s.handles := (pollDispatchKeep_frameD s now).handles
@[simp] theorem pollDispatchKeep_sigs (s : St) (now : Nat) : (pollDispatchKeep s now).calls.map callSig = s.calls.map callSig := (pollDispatchKeep_frameD s now).sigs
@[simp] theorem pollDispatchKeep_senders (s : St) (now : Nat) : senders (pollDispatchKeep s now) = senders s := (pollDispatchKeep_frameD s now).senders
theorem pollDispatchKeep_pq_le (s : St) (now : Nat) : (pollDispatchKeep s now).pq.length ≤ s.pq.length := (pollDispatchKeep_frameD s now).pq
theorem pollDispatchKeep_cq_le (s : St) (now : Nat) : (pollDispatchKeep s now).cq.length ≤ s.cq.length := (pollDispatchKeep_frameD s now).cq

theorem pollDispatch_frameD (s : St) (now : Nat) : FrameD s (pollDispatch s now) :=
  pollDispatch_cases s now (pollDispatchKeep_frameD _ _) ((pollDispatchKeep_frameD _ _).trans (dropDispatch_frameD _))
@[simp] theorem pollDispatch_k (s : St) (now : Nat) : (pollDispatch s now).k = s.k := (pollDispatch_frameD s now).k
@[simp] theorem pollDispatch_maxInFlight (s : St) (now : Nat) : (pollDispatch s now).maxInFlight = s.maxInFlight := (pollDispatch_frameD s now).maxInFlight
@[simp] theorem pollDispatch_bufCap (s : St) (now : Nat) : (pollDispatch s now).bufCap = s.bufCap := (pollDispatch_frameD s now).bufCap
@[simp] theorem pollDispatch_ensureLoop (s : St) (now : Nat) : (pollDispatch s now).ensureLoop = s.ensureLoop := (pollDispatch_frameD s now).ensureLoop
@[simp] theorem pollDispatch_handles (s : St) (now : Nat) : (pollDispatch s now).handles = s.handles := (pollDispatch_frameD s now).handles
@[simp] theorem pollDispatch_sigs (s : St) (now : Nat) : (pollDispatch s now).calls.map callSig = s.calls.map callSig := (pollDispatch_frameD s now).sigs
@[simp] theorem pollDispatch_senders (s : St) (now : Nat) : senders (pollDispatch s now) = senders s := (pollDispatch_frameD s now).senders
theorem pollDispatch_pq_le (s : St) (now : Nat) : (pollDispatch s now).pq.length ≤ s.pq.length := (pollDispatch_frameD s now).pq
theorem pollDispatch_cq_le (s : St) (now : Nat) : (pollDispatch s now).cq.length ≤ s.cq.length := (pollDispatch_frameD s now).cq

@[simp] theorem onAdvance_handles (s : St) (now : Nat) : (onAdvance s now).handles = s.handles := (onAdvance_frameD s now).handles
@[simp] theorem onAdvance_sigs (s : St) (now : Nat) : (onAdvance s now).calls.map callSig = s.calls.map callSig := (onAdvance_frameD s now).sigs
@[simp] theorem onAdvance_senders (s : St) (now : Nat) : senders (onAdvance s now) = senders s := (onAdvance_frameD s now).senders
theorem onAdvance_pq_le (s : St) (now : Nat) : (onAdvance s now).pq.length ≤ s.pq.length := (onAdvance_frameD s now).pq
theorem onAdvance_cq_le (s : St) (now : Nat) : (onAdvance s now).cq.length ≤ s.cq.length := (onAdvance_frameD s now).cq

theorem liftT_frameD (s : St) (r : SimT × Bool) : FrameD s (liftT s r) := by
  unfold liftT; dsimp only; split
  · exact .trans (by constructor <;> rfl) (wakeDispatch_frameD _)
  · constructor <;> rfl
@[simp] theorem liftT_k (s : St) (r : SimT × Bool) : (liftT s r).k = s.k := (liftT_frameD s r).k
@[simp] theorem liftT_maxInFlight (s : St) (r : SimT × Bool) : (liftT s r).maxInFlight = s.maxInFlight := (liftT_frameD s r).maxInFlight
@[simp] theorem liftT_bufCap (s : St) (r : SimT × Bool) : (liftT s r).bufCap = s.bufCap := (liftT_frameD s r).bufCap
@[simp] theorem liftT_ensureLoop (s : St) (r : SimT × Bool) : (liftT s r).ensureLoop = s.ensureLoop := (liftT_frameD s r).ensureLoop
@[simp] theorem liftT_handles (s : St) (r : SimT × Bool) : (liftT s r).handles = s.handles := (liftT_frameD s r).handles
@[simp] theorem liftT_sigs (s : St) (r : SimT × Bool) : (liftT s r).calls.map callSig = s.calls.map callSig := (liftT_frameD s r).sigs
@[simp] theorem liftT_senders (s : St) (r : SimT × Bool) : senders (liftT s r) = senders s := (liftT_frameD s r).senders
theorem liftT_pq_le (s : St) (r : SimT × Bool) : (liftT s r).pq.length ≤ s.pq.length := (liftT_frameD s r).pq
theorem liftT_cq_le (s : St) (r : SimT × Bool) : (liftT s r).cq.length ≤ s.cq.length := (liftT_frameD s r).cq

/-! ### what the write pump leaves alone -/

theorem frameP_wrel : WRel FrameP where
  refl := .refl
  trans := .trans
  prim := fun h => h.a.toP
  ready := tReady_frameP
  flush := tFlush_frameP
  send := tSend_frameP
  spin := fun s => ⟨⟨rfl, rfl, rfl⟩, by simp [isCloseObs]⟩

theorem pollNextRequest_frameP (s : St) : FrameP s (pollNextRequest s).1 :=
  (pollNextRequest_steps 0 s).lift .refl .trans (fun ha st => frameP_wrel.act (req_le_write _ (reqScan_le_req _ ha)) st)
    (fun s => (pqRecv_frameA s).toP)

theorem frameW_wrel : WRel FrameW where
  refl := .refl
  trans := .trans
  prim := fun h => h.a.toW
  ready := fun s => (tReady_frameP s).toFrameW
  flush := fun s => (tFlush_frameP s).toFrameW
  send := fun s m => (tSend_frameP s m).toFrameW
  spin := fun _ => ⟨rfl, rfl, rfl⟩

theorem pumpWrite_frameW (s : St) (now : Nat) : FrameW s (pumpWrite s now).1 :=
  frameW_wrel.pump tClose_frameW (pumpWrite_steps now s)

theorem termErr_drel : DRel fun s s' => s'.termErr = s.termErr where
  refl := fun _ => rfl
  trans := fun h1 h2 => h2.trans h1
  prim := fun h => h.a.termErr
  ready := tReady_termErr
  flush := tFlush_termErr
  send := tSend_termErr
  spin := fun _ => rfl
  close := tClose_termErr
  next := tNext_termErr

theorem run_termErr (fuel : Nat) (s : St) (now : Nat) : (run fuel s now).1.termErr = s.termErr :=
  termErr_drel.steps (run_steps now fuel s)

end TarpcModel.Client.Flow
