import TarpcModel.Lemmas.ClientGeneric
/-!
A stable predicate: once the call that owns a request id has closed its receiver while the id is not in flight,
the id never enters the in-flight table (again).  Another instance of the `Pres` interface.
-/
namespace TarpcModel.Client

/-- the call owning `id` has closed its receiver and `id` is not in flight -/
def ClosedOut (id : Nat) (v : View) : Prop :=
  (∃ i c, v.get i = some c ∧ c.polled ∧ c.id = id ∧ c.rxClosed = true) ∧ ∀ e ∈ v.inflight, e.id ≠ id

theorem ClosedOut.send {id : Nat} {v : View} (h : ClosedOut id v) (cid : Nat) (o : Outcome) :
    ClosedOut id (v.send cid o) := by
  obtain ⟨⟨i, c, hg, hp, hid, hrx⟩, hn⟩ := h
  obtain ⟨c', hg', h1, h2, h3⟩ := View.get_send_fwd (cid := cid) (o := o) hg
  refine ⟨⟨i, c', hg', ?_, by rw [h2]; exact hid, by rw [h3]; exact hrx⟩, by simpa using hn⟩
  simp only [CallV.polled] at hp ⊢
  rw [h1, h3]; exact hp

theorem ClosedOut.upd {id : Nat} {v : View} (h : ClosedOut id v) (cid : Nat) (g : CallV → CallV)
    (hg : ∀ c, v.get cid = some c → c.polled → c.rxClosed = true →
      (g c).polled ∧ (g c).id = c.id ∧ (g c).rxClosed = true) :
    ClosedOut id (v.upd cid g) := by
  obtain ⟨⟨i, c, hgc, hp, hid, hrx⟩, hn⟩ := h
  refine ⟨?_, hn⟩
  by_cases e : i = cid
  · subst e
    obtain ⟨a1, a2, a3⟩ := hg c hgc hp hrx
    refine ⟨i, { g c with cid := c.cid }, by rw [View.get_upd_self, hgc]; rfl, ?_, by rw [← hid]; exact a2, a3⟩
    simpa [CallV.polled] using a1
  · exact ⟨i, c, by rw [View.get_upd_ne _ _ _ e]; exact hgc, hp, hid, hrx⟩

def Stable (id : Nat) (x : Option Nat) (v : View) : Prop := Inv x v ∧ ClosedOut id v

theorem ClosedOut.mono {id : Nat} {v v' : View} (h : ClosedOut id v) (hc : v'.calls = v.calls)
    (hi : ∀ e' ∈ v'.inflight, ∃ e ∈ v.inflight, e'.id = e.id) : ClosedOut id v' := by
  obtain ⟨⟨i, c, hg, a⟩, hn⟩ := h
  refine ⟨⟨i, c, ?_, a⟩, fun e' he' => ?_⟩
  · unfold View.get at hg ⊢; rw [hc]; exact hg
  · obtain ⟨e, he, hid⟩ := hi e' he'
    rw [hid]; exact hn e he

theorem ClosedOut.of_same {id : Nat} {v v' : View} (h : ClosedOut id v) (hc : v'.calls = v.calls)
    (hi : ∀ e ∈ v'.inflight, e ∈ v.inflight) : ClosedOut id v' :=
  h.mono hc (fun e he => ⟨e, hi e he, rfl⟩)

theorem Stable.presD (id : Nat) : PresD (Stable id) := by
  refine Inv.presD.and (F := ClosedOut id) ClosedOut.mono (fun cid o h => h.send cid o) ?_
  -- the request taken from the queue belongs to a call whose receiver is open, hence not to the owner of `id`
  intro v r rest key rem due hi h hpq hnc
  obtain ⟨⟨i, c0, hg0, hp0, hid0, hrx0⟩, hn⟩ := h
  refine ⟨⟨i, c0, hg0, hp0, hid0, hrx0⟩, fun e he => ?_⟩
  simp only [List.mem_append, List.mem_singleton] at he
  rcases he with he | rfl
  · exact hn e he
  · intro hr
    simp only at hr
    obtain ⟨c, hc, hrx⟩ := hnc
    obtain ⟨c', hc', en', id', _⟩ := (hi.pqPop hpq).2.call
    have hc'' : v.get r.cid = some c' := hc'
    rw [hc] at hc''; injection hc'' with hc''; subst hc''
    have : i = r.cid := hi.idInj i r.cid c0 c hg0 hc hp0 en'.polled (by omega)
    subst this
    rw [hc] at hg0; injection hg0 with hg0; subst hg0
    rw [hrx] at hrx0; cases hrx0

theorem Stable.pres (id : Nat) : Pres (Stable id) :=
  Inv.pres_and (Stable.presD id) (fun h hc hi => h.of_same hc (fun _ he => hi ▸ he))
    (fun g h hc _ hp hr => h.upd _ g (fun c' hc' hp' hrx' => by
      rw [hc] at hc'; injection hc' with hc'; subst hc'
      exact ⟨(hp hp').1, (hp hp').2, hr hrx'⟩))

theorem applyOp_stable {id : Nat} {c : Sys} (h : Stable id none (view c.s)) (op : COp) :
    Stable id none (view (applyOp c op).s) := by
  refine applyOp_keeps (Stable.pres id) (fun _ _ h => ⟨h.1.of_handles _ _, h.2.of_same rfl (fun _ h => h)⟩) ?_ h op
  intro v ctx body h
  obtain ⟨⟨i, c0, hg0, a⟩, hn⟩ := h.2
  refine ⟨h.1.newCall _ _, ⟨i, c0, ?_, a⟩, hn⟩
  rw [h.1.get_newCall, if_neg (Nat.ne_of_lt (h.1.cidLt i c0 hg0))]; exact hg0

theorem foldl_stable {id : Nat} (ops : List COp) {c : Sys} (h : Stable id none (view c.s)) :
    Stable id none (view (ops.foldl applyOp c).s) :=
  foldl_keeps (P := fun c : Sys => Stable id none (view c.s)) (fun _ op h => applyOp_stable h op) ops h

end TarpcModel.Client
