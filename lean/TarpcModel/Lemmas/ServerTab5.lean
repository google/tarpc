import TarpcModel.Lemmas.ServerTab3
import TarpcModel.Lemmas.ServerTab4
/-!
The third coupling (`Tab.Y`) over whole scripts: what `poll-exec` and `drop-exec` do to the executions, their guards and
the observations; the invariant between ops; the acceptance of `checkC11Idle` (the stalled-limiter and idle-channel
clauses of the C11 monitor).
-/
namespace TarpcModel.Server.Tab
open TarpcModel TarpcModel.Server TarpcModel.Server.Flow TarpcModel.Server.ObsMon TarpcModel.Server.Mon06
open TarpcModel.Server.Mon11

/-- the `ret … readyOk` of an execution -/
def retOk (v : Nat) : Obs := .ret (.exec v) .readyOk

theorem retOk_inj {v w : Nat} (h : retOk v = retOk w) : v = w := by
  unfold retOk at h
  cases h; rfl

/-- `g` keeps identities, numbers and guards, and touches only the executions with rid `r` -/
def Gn (r : Nat) (g : Exec → Exec) : Prop :=
  ∀ x, (g x).rid = x.rid ∧ (g x).id = x.id ∧ (g x).vis = x.vis ∧ (x.rid ≠ r → ye (g x) = ye x) ∧
    (g x).guardArmed = x.guardArmed

/-- … or disarms the guard of an execution it finishes -/
def Ga (r : Nat) (g : Exec → Exec) : Prop :=
  ∀ x, (g x).rid = x.rid ∧ (g x).id = x.id ∧ (g x).vis = x.vis ∧ (x.rid ≠ r → ye (g x) = ye x) ∧
    (execLive (g x) = true → (g x).guardArmed = x.guardArmed)

theorem Gn.id (r : Nat) : Gn r id := fun _ => ⟨rfl, rfl, rfl, fun _ => rfl, rfl⟩

theorem Gn.toGa {r : Nat} {g : Exec → Exec} (h : Gn r g) : Ga r g :=
  fun x => ⟨(h x).1, (h x).2.1, (h x).2.2.1, (h x).2.2.2.1, fun _ => (h x).2.2.2.2⟩

theorem Gn.upd (r w : Nat) (f : Exec → Exec)
    (hf : ∀ x, (f x).rid = x.rid ∧ (f x).id = x.id ∧ (f x).vis = x.vis ∧ (f x).guardArmed = x.guardArmed)
    (hw : w = r ∨ ∀ x, ye (f x) = ye x) : Gn r (fun x => if x.rid == w then f x else x) := by
  intro x
  dsimp only
  by_cases hc : (x.rid == w) = true
  · obtain ⟨a1, a2, a3, a4⟩ := hf x
    rw [if_pos hc]
    refine ⟨a1, a2, a3, fun hne => ?_, a4⟩
    rcases hw with rfl | hw
    · exact absurd (eq_of_beq hc) hne
    · exact hw x
  · rw [if_neg hc]
    exact ⟨rfl, rfl, rfl, fun _ => rfl, rfl⟩

theorem Ga.kill (r : Nat) (f : Exec → Exec)
    (hf : ∀ x, (f x).rid = x.rid ∧ (f x).id = x.id ∧ (f x).vis = x.vis ∧ execLive (f x) = false) :
    Ga r (fun x => if x.rid == r then f x else x) := by
  intro x
  dsimp only
  by_cases hc : (x.rid == r) = true
  · obtain ⟨a1, a2, a3, a4⟩ := hf x
    rw [if_pos hc]
    exact ⟨a1, a2, a3, fun hne => absurd (eq_of_beq hc) hne, fun hl => by rw [a4] at hl; cases hl⟩
  · rw [if_neg hc]
    exact ⟨rfl, rfl, rfl, fun _ => rfl, fun _ => rfl⟩

theorem Gn.comp {r : Nat} {g1 g2 : Exec → Exec} (h1 : Gn r g1) (h2 : Gn r g2) : Gn r (g2 ∘ g1) := by
  intro x
  obtain ⟨a1, a2, a3, a4, a5⟩ := h1 x
  obtain ⟨b1, b2, b3, b4, b5⟩ := h2 (g1 x)
  exact ⟨b1.trans a1, b2.trans a2, b3.trans a3, fun hne => (b4 (by rw [a1]; exact hne)).trans (a4 hne), b5.trans a5⟩

theorem Ga.after {r : Nat} {g1 g2 : Exec → Exec} (h1 : Gn r g1) (h2 : Ga r g2) : Ga r (g2 ∘ g1) := by
  intro x
  obtain ⟨a1, a2, a3, a4, a5⟩ := h1 x
  obtain ⟨b1, b2, b3, b4, b5⟩ := h2 (g1 x)
  exact ⟨b1.trans a1, b2.trans a2, b3.trans a3, fun hne => (b4 (by rw [a1]; exact hne)).trans (a4 hne),
    fun hl => (b5 hl).trans a5⟩

/-- a step inside an op on the executions with rid `r`: no `ret … readyOk`; they stay live -/
structure NEU (r : Nat) (s s' : St) : Prop where
  ex : ∃ g, s'.execs = s.execs.map g ∧ Gn r g
  obs : ∃ l, s'.obs = l ++ s.obs ∧ ∀ v, retOk v ∉ l
  live : (∀ x ∈ s.execs, x.rid = r → execLive x = true) → ∀ x ∈ s'.execs, x.rid = r → execLive x = true
  cq : s'.cancelQ = s.cancelQ
  dr : s'.dropped = s.dropped

theorem NEU.of_frame {r : Nat} {s s' : St} (h1 : s'.execs = s.execs) (h2 : s'.obs = s.obs) (h3 : s'.cancelQ = s.cancelQ)
    (h4 : s'.dropped = s.dropped) : NEU r s s' :=
  ⟨⟨id, by rw [h1, List.map_id], Gn.id r⟩, ⟨[], h2, fun v h => by cases h⟩, fun h => by rw [h1]; exact h, h3, h4⟩

theorem NEU.refl (r : Nat) (s : St) : NEU r s s := NEU.of_frame rfl rfl rfl rfl

theorem NEU.trans {r : Nat} {a b c : St} (h1 : NEU r a b) (h2 : NEU r b c) : NEU r a c := by
  obtain ⟨g1, e1, i1⟩ := h1.ex
  obtain ⟨g2, e2, i2⟩ := h2.ex
  obtain ⟨l1, o1, n1⟩ := h1.obs
  obtain ⟨l2, o2, n2⟩ := h2.obs
  exact ⟨⟨g2 ∘ g1, by rw [e2, e1, List.map_map], i1.comp i2⟩,
    ⟨l2 ++ l1, by rw [o2, o1, List.append_assoc], fun v hv => (List.mem_append.mp hv).elim (n2 v) (n1 v)⟩,
    fun h => h2.live (h1.live h), h2.cq.trans h1.cq, h2.dr.trans h1.dr⟩

theorem NEU.pre {r : Nat} {s s0 s' : St} (h : NEU r s0 s') (h1 : s0.execs = s.execs) (h2 : s0.obs = s.obs)
    (h3 : s0.cancelQ = s.cancelQ) (h4 : s0.dropped = s.dropped) : NEU r s s' :=
  (NEU.of_frame h1 h2 h3 h4).trans h

theorem neu_emit (r : Nat) (s : St) (o : Obs) (ho : ∀ v, o ≠ retOk v) : NEU r s (emit s o) :=
  ⟨⟨id, by rw [emit_execs, List.map_id], Gn.id r⟩, ⟨[o], rfl, fun v h => ho v (List.mem_singleton.mp h).symm⟩, fun h => h,
    rfl, rfl⟩

theorem neu_upd (r w : Nat) (s : St) (f : Exec → Exec)
    (hf : ∀ x, (f x).rid = x.rid ∧ (f x).id = x.id ∧ (f x).vis = x.vis ∧ (f x).guardArmed = x.guardArmed)
    (hw : w = r ∨ ∀ x, ye (f x) = ye x) (hl : ∀ x, execLive x = true → execLive (f x) = true) :
    NEU r s (updExec s w f) := by
  refine ⟨⟨_, rfl, Gn.upd r w f hf hw⟩, ⟨[], rfl, fun v h => by cases h⟩, fun h x hx hr => ?_, rfl, rfl⟩
  obtain ⟨x0, hx0, rfl⟩ := List.mem_map.mp hx
  have h0 : x0.rid = r := by
    rw [← hr]
    exact (ite_of (P := fun y : Exec => y.rid = x0.rid) (hf x0).1 rfl).symm
  exact ite_of (P := fun y => execLive y = true) (hl x0 (h x0 hx0 h0)) (h x0 hx0 h0)

theorem neu_updExec (r : Nat) (s : St) (f : Exec → Exec)
    (hf : ∀ x, (f x).rid = x.rid ∧ (f x).id = x.id ∧ (f x).vis = x.vis ∧ (f x).guardArmed = x.guardArmed)
    (hl : ∀ x, execLive x = true → execLive (f x) = true) : NEU r s (updExec s r f) :=
  neu_upd r r s f hf (Or.inl rfl) hl

theorem neu_wakeServer (r : Nat) (s : St) : NEU r s (wakeServer s) := by
  unfold wakeServer
  exact ite_of (NEU.refl r s) ((neu_emit r _ _ (fun v h => by cases h)).pre rfl rfl rfl rfl)

theorem neu_wakeExec (r : Nat) (s : St) (w : Nat) : NEU r s (wakeExec s w) := by
  unfold wakeExec
  cases getExec s w with
  | none => exact NEU.refl r s
  | some e =>
    dsimp only
    cases e.vis with
    | none => exact NEU.refl r s
    | some v =>
      exact ite_of ((neu_upd r w s (fun e => { e with woken := true }) (fun x => ⟨rfl, rfl, rfl, rfl⟩) (Or.inr fun x => rfl)
        (fun x h => h)).trans (neu_emit r _ _ (fun v h => by cases h))) (NEU.refl r s)

theorem neu_rqRelease (r : Nat) (s : St) : NEU r s (rqRelease s) := by
  unfold rqRelease
  cases s.rqWaiters with
  | nil => exact NEU.of_frame rfl rfl rfl rfl
  | cons w rest => exact (neu_wakeExec r _ _).pre rfl rfl rfl rfl

/-- the outcome of an op on the executions with rid `r`, numbered `vid`: they are finished and `ret … readyOk` was
observed for `vid`, or they stay live and it was not -/
structure PEOut (r vid : Nat) (s s' : St) : Prop where
  ex : ∃ g, s'.execs = s.execs.map g ∧ Ga r g
  obs : ∃ l, s'.obs = l ++ s.obs ∧ (∀ v, retOk v ∈ l → v = vid) ∧
    ((retOk vid ∈ l ∧ ∀ x ∈ s'.execs, x.rid = r → execLive x = false) ∨
     (retOk vid ∉ l ∧ ((∀ x ∈ s.execs, x.rid = r → execLive x = true) → ∀ x ∈ s'.execs, x.rid = r → execLive x = true)))
  cq : s'.cancelQ = s.cancelQ
  dr : s'.dropped = s.dropped

theorem NEU.toOut {r : Nat} {s s' : St} (vid : Nat) (h : NEU r s s') : PEOut r vid s s' := by
  obtain ⟨g, e, i⟩ := h.ex
  obtain ⟨l, o, n⟩ := h.obs
  exact ⟨⟨g, e, i.toGa⟩, ⟨l, o, fun v hv => absurd hv (n v), Or.inr ⟨n vid, h.live⟩⟩, h.cq, h.dr⟩

theorem PEOut.after {r vid : Nat} {a b c : St} (h1 : NEU r a b) (h2 : PEOut r vid b c) : PEOut r vid a c := by
  obtain ⟨g1, e1, i1⟩ := h1.ex
  obtain ⟨g2, e2, i2⟩ := h2.ex
  obtain ⟨l1, o1, n1⟩ := h1.obs
  obtain ⟨l2, o2, n2, n3⟩ := h2.obs
  refine ⟨⟨g2 ∘ g1, by rw [e2, e1, List.map_map], Ga.after i1 i2⟩, ⟨l2 ++ l1, by rw [o2, o1, List.append_assoc],
    fun v hv => (List.mem_append.mp hv).elim (n2 v) (fun h => absurd h (n1 v)), ?_⟩, h2.cq.trans h1.cq, h2.dr.trans h1.dr⟩
  rcases n3 with ⟨h3, h4⟩ | ⟨h3, h4⟩
  · exact Or.inl ⟨List.mem_append_left _ h3, h4⟩
  · exact Or.inr ⟨fun hv => (List.mem_append.mp hv).elim h3 (n1 vid), fun h => h4 (h1.live h)⟩

theorem out_finish (r vid : Nat) (s : St) (f : Exec → Exec)
    (hf : ∀ x, (f x).rid = x.rid ∧ (f x).id = x.id ∧ (f x).vis = x.vis ∧ execLive (f x) = false) :
    PEOut r vid s (emit (updExec s r f) (retOk vid)) := by
  refine ⟨⟨_, rfl, Ga.kill r f hf⟩, ⟨[retOk vid], rfl, fun v hv => retOk_inj (List.mem_singleton.mp hv),
    Or.inl ⟨List.mem_singleton.mpr rfl, fun x hx => ?_⟩⟩, rfl, rfl⟩
  rw [emit_execs] at hx
  exact dead_of_updExec_done s r f (fun e' => ⟨(hf e').1, (hf e').2.2.2⟩) x hx

theorem out_queueAndFinish (s : St) (e : Exec) (res : Res) (n : Nat) : PEOut e.rid (visOf e) s (queueAndFinish s e res n) := by
  unfold queueAndFinish
  refine PEOut.after ?_ (out_finish e.rid (visOf e) _ _ (fun x => ⟨rfl, rfl, rfl, rfl⟩))
  exact ite_of (NEU.refl _ s)
    (ite_of ((neu_wakeServer _ _).pre rfl rfl rfl rfl) (NEU.of_frame rfl rfl rfl rfl))

theorem out_trySend (s : St) (e : Exec) (res : Res) (n : Nat) : PEOut e.rid (visOf e) s (trySend s e res n) := by
  have hq : ∀ s0 : St, s0.execs = s.execs → s0.obs = s.obs → s0.cancelQ = s.cancelQ → s0.dropped = s.dropped →
      PEOut e.rid (visOf e) s (queueAndFinish s0 e res n) :=
    fun s0 h1 h2 h3 h4 => PEOut.after (NEU.of_frame h1 h2 h3 h4) (out_queueAndFinish s0 e res n)
  have hpend : ∀ s1 : St, NEU e.rid s s1 → PEOut e.rid (visOf e) s (emit s1 (.ret (.exec (visOf e)) .pending)) :=
    fun s1 h => (h.trans (neu_emit _ _ _ (fun v h => by cases h))).toOut _
  unfold trySend
  refine ite_of (hq s rfl rfl rfl rfl) (ite_of (hq _ rfl rfl rfl rfl) (ite_of ?_ (ite_of (hq _ rfl rfl rfl rfl) ?_)))
  · exact hpend _ (neu_updExec e.rid s (fun x => { x with abortWaker := true }) (fun x => ⟨rfl, rfl, rfl, rfl⟩) (fun x h => h))
  · refine hpend _ (NEU.pre (s0 := { s with rqWaiters := s.rqWaiters ++ [e.rid] }) ?_ rfl rfl rfl rfl)
    exact neu_updExec e.rid _ (fun x => { x with phase := .sending, resp := some res, abortWaker := true })
      (fun x => ⟨rfl, rfl, rfl, rfl⟩) (fun x _ => rfl)

theorem neu_dropHandler (r : Nat) (s : St) (c : Bool) (vid now : Nat) :
    NEU r s (if c then s else emit s (.handler vid .dropped now)) :=
  ite_of (NEU.refl r s) (neu_emit r s _ (fun v h => by cases h))

theorem neu_dropSend (r w : Nat) (s : St) :
    NEU r s (if s.rqAssigned.contains w then
        rqRelease { s with rqAssigned := s.rqAssigned.filter (· != w), rqWaiters := s.rqWaiters.filter (· != w) }
      else { s with rqAssigned := s.rqAssigned.filter (· != w), rqWaiters := s.rqWaiters.filter (· != w) }) :=
  ite_of ((neu_rqRelease r _).pre rfl rfl rfl rfl) (NEU.of_frame rfl rfl rfl rfl)

theorem neu_peDrop (s0 : St) (e : Exec) (vid now : Nat) : NEU e.rid s0 (peDrop s0 e vid now) := by
  unfold peDrop unsend
  cases e.phase with
  | sending => exact neu_dropSend e.rid e.rid s0
  | _ => exact neu_dropHandler e.rid s0 e.hDone vid now

theorem out_peAborted (s0 : St) (e : Exec) (vid now : Nat) : PEOut e.rid vid s0 (peAborted s0 e vid now) :=
  PEOut.after (neu_peDrop s0 e vid now) (out_finish e.rid vid _ _ (fun _ => ⟨rfl, rfl, rfl, rfl⟩))

theorem pollExec_outcome (s : St) (vid n : Nat) :
    (∃ e, getExecVis s vid = some e ∧ execLive e = true ∧ PEOut e.rid vid s (pollExec s vid n)) ∨
    ((∀ e, getExecVis s vid = some e → execLive e = false) ∧ pollExec s vid n = emit s .noop) := by
  have h0 : ∀ e : Exec, NEU e.rid s (updExec s e.rid (fun x => { x with woken := false })) := fun e =>
    neu_updExec e.rid s _ (fun x => ⟨rfl, rfl, rfl, rfl⟩) (fun x h => h)
  have hv : ∀ e, getExecVis s vid = some e → visOf e = vid := fun e hg => by
    unfold visOf; rw [(getExecVis_mem hg).2]; rfl
  have hstart : ∀ e : Exec, NEU e.rid s (peStart (updExec s e.rid (fun x => { x with woken := false })) e vid n) := fun e =>
    ((h0 e).trans (neu_updExec e.rid _ (fun x => { x with phase := .running }) (fun x => ⟨rfl, rfl, rfl, rfl⟩)
      (fun x _ => rfl))).trans (neu_emit _ _ _ (fun v h => by cases h))
  have ho := Flow.pollExec_out s vid n
  generalize pollExec s vid n = q at ho ⊢
  cases ho with
  | noVis h => exact Or.inr ⟨fun e he => (by rw [h] at he; cases he), rfl⟩
  | dead e h hl => exact Or.inr ⟨fun e' he' => (by rw [h] at he'; cases he'; exact hl), rfl⟩
  | aborted e h hl ha => exact Or.inl ⟨e, h, hl, PEOut.after (h0 e) (out_peAborted _ e vid n)⟩
  | sendNone e h hl ha hp hr =>
    exact Or.inl ⟨e, h, hl, NEU.toOut _ ((h0 e).trans (neu_emit _ _ _ (fun v h => by cases h)))⟩
  | send e res h hl ha hp hr =>
    have h2 := out_trySend (updExec s e.rid (fun x => { x with woken := false })) e res n
    rw [hv e h] at h2
    exact Or.inl ⟨e, h, hl, PEOut.after (h0 e) h2⟩
  | finish e res h hl ha hp hf =>
    have h1 := ((hstart e).trans (neu_emit _ _ (.handler vid .completed n) (fun v h => by cases h))).trans
      (neu_updExec e.rid _ (fun x => { x with hDone := true, finishCmd := none }) (fun x => ⟨rfl, rfl, rfl, rfl⟩) (fun x h => h))
    have h2 := out_trySend (updExec (emit (peStart (updExec s e.rid (fun x => { x with woken := false })) e vid n)
      (.handler vid .completed n)) e.rid (fun x => { x with hDone := true, finishCmd := none }))
      { e with hDone := true, phase := .running } res n
    rw [show visOf { e with hDone := true, phase := .running } = vid from hv e h] at h2
    exact Or.inl ⟨e, h, hl, PEOut.after h1 h2⟩
  | pending e h hl ha hp hf =>
    exact Or.inl ⟨e, h, hl, NEU.toOut _ ((hstart e).trans ((neu_updExec e.rid _ (fun x => { x with abortWaker := true })
      (fun x => ⟨rfl, rfl, rfl, rfl⟩) (fun x h => h)).trans (neu_emit _ _ _ (fun v h => by cases h))))⟩

/-- the outcome of `drop-exec` on the live execution `e` -/
structure DEOut (e : Exec) (s s' : St) : Prop where
  ex : ∃ g, s'.execs = s.execs.map g ∧ Ga e.rid g
  obs : ∃ l, s'.obs = l ++ s.obs ∧ ∀ v, retOk v ∉ l
  dead : ∀ x ∈ s'.execs, x.rid = e.rid → execLive x = false
  cq : (e.guardArmed = true ∧ s.dropped = false ∧ s'.cancelQ = s.cancelQ ++ [e.id]) ∨
    ((e.guardArmed = false ∨ s.dropped = true) ∧ s'.cancelQ = s.cancelQ)
  dr : s'.dropped = s.dropped

theorem DEOut.after {e : Exec} {a b c : St} (h1 : NEU e.rid a b) (h2 : DEOut e b c) : DEOut e a c := by
  obtain ⟨g1, e1, i1⟩ := h1.ex
  obtain ⟨g2, e2, i2⟩ := h2.ex
  obtain ⟨l1, o1, n1⟩ := h1.obs
  obtain ⟨l2, o2, n2⟩ := h2.obs
  exact ⟨⟨g2 ∘ g1, by rw [e2, e1, List.map_map], Ga.after i1 i2⟩,
    ⟨l2 ++ l1, by rw [o2, o1, List.append_assoc], fun v hv => (List.mem_append.mp hv).elim (n2 v) (n1 v)⟩,
    h2.dead, by rw [← h1.cq, ← h1.dr]; exact h2.cq, h2.dr.trans h1.dr⟩

theorem neu_deDrop (s : St) (e : Exec) (vid now : Nat) : NEU e.rid s (deDrop s e vid now) := by
  unfold deDrop unsend
  cases e.phase with
  | running => exact neu_dropHandler e.rid s e.hDone vid now
  | sending => exact neu_dropSend e.rid e.rid s
  | _ => exact NEU.refl _ s

theorem out_guardDrop (s : St) (e : Exec) :
    DEOut e s (guardDrop (updExec s e.rid (fun x => { x with phase := .gone, woken := false })) e) := by
  have hga := Ga.kill e.rid (fun x => { x with phase := .gone, woken := false }) (fun x => ⟨rfl, rfl, rfl, rfl⟩)
  have hdead := dead_of_updExec_done s e.rid (fun x => { x with phase := .gone, woken := false }) (fun e' => ⟨rfl, rfl⟩)
  have hfin : ∀ s3 : St, s3.execs = (updExec s e.rid (fun x => { x with phase := .gone, woken := false })).execs →
      (∃ l, s3.obs = l ++ s.obs ∧ ∀ v, retOk v ∉ l) → s3.dropped = s.dropped →
      ((e.guardArmed = true ∧ s.dropped = false ∧ s3.cancelQ = s.cancelQ ++ [e.id]) ∨
        ((e.guardArmed = false ∨ s.dropped = true) ∧ s3.cancelQ = s.cancelQ)) → DEOut e s s3 :=
    fun s3 a1 a2 a3 a4 => ⟨⟨_, a1, hga⟩, a2, by rw [a1]; exact hdead, a4, a3⟩
  unfold guardDrop
  rw [updExec_dropped]
  by_cases hc : (e.guardArmed && !s.dropped) = true
  · rw [if_pos hc]
    simp only [Bool.and_eq_true, Bool.not_eq_true'] at hc
    refine ite_of (P := DEOut e s) (hfin _ ?_ ?_ ?_ (Or.inl ⟨hc.1, hc.2, ?_⟩))
      (hfin _ rfl ⟨[], rfl, fun v h => by cases h⟩ rfl (Or.inl ⟨hc.1, hc.2, rfl⟩))
    · rw [wakeServer_execs]
    · exact (neu_wakeServer e.rid _).obs
    · rw [wakeServer_dropped]
    · exact (wakeServer_cancelQ _).trans rfl
  · rw [if_neg hc]
    refine hfin _ rfl ⟨[], rfl, fun v h => by cases h⟩ rfl (Or.inr ⟨?_, rfl⟩)
    cases ha : e.guardArmed with
    | false => exact Or.inl rfl
    | true =>
      rw [ha, Bool.true_and, Bool.not_eq_true', Bool.not_eq_false] at hc
      exact Or.inr hc

theorem dropExec_outcome (s : St) (vid n : Nat) :
    (∃ e, getExecVis s vid = some e ∧ execLive e = true ∧ DEOut e s (dropExec s vid n)) ∨
    ((∀ e, getExecVis s vid = some e → execLive e = false) ∧ dropExec s vid n = emit s .noop) := by
  have ho := Flow.dropExec_out s vid n
  generalize dropExec s vid n = q at ho ⊢
  cases ho with
  | noVis h => exact Or.inr ⟨fun e he => (by rw [h] at he; cases he), rfl⟩
  | dead e h hl => exact Or.inr ⟨fun e' he' => (by rw [h] at he'; cases he'; exact hl), rfl⟩
  | live e h hl => exact Or.inl ⟨e, h, hl, DEOut.after (neu_deDrop s e vid n) (out_guardDrop _ e)⟩

/-- what the book's executions (wide view) may undergo: only `gone` marks are set -/
def Fg (P : WB → Prop) (f : WB → WB) : Prop :=
  ∀ x, (f x).rid = x.rid ∧ (f x).id = x.id ∧ (f x).deadline = x.deadline ∧ (f x).yieldedAt = x.yieldedAt ∧
    (f x).abandoned = x.abandoned ∧ (f x).expiredSeen = x.expiredSeen ∧ ((f x).gone = true ↔ x.gone = true ∨ P x)

theorem step_wb_same (b : Book) (o : Obs) (h : isCore o = false) (hr : ∀ v, o ≠ retOk v) :
    (bw (b.step (.obs o))).execs = (bw b).execs ∧ (bw (b.step (.obs o))).table = (bw b).table ∧
    (bw (b.step (.obs o))).now = (bw b).now := by
  have hupd : ∀ (r : Nat) (f : BExec → BExec), (∀ e, wb (f e) = wb e) →
      (bw (b.updExec r f)).execs = (bw b).execs ∧ (bw (b.updExec r f)).table = (bw b).table ∧
      (bw (b.updExec r f)).now = (bw b).now := by
    intro r f hf
    rw [updExec_wb b r f hf]; exact ⟨rfl, rfl, rfl⟩
  have hjr : ∀ b' : Book, b' = { b with justRead := none } →
      (bw b').execs = (bw b).execs ∧ (bw b').table = (bw b).table ∧ (bw b').now = (bw b).now := by
    intro b' hb'
    rw [hb']; exact ⟨rfl, rfl, rfl⟩
  cases o with
  | tNext ep r => cases h
  | yielded r id d tr => cases h
  | tSend ep m ok =>
    cases m with
    | response id res => cases h
    | _ => exact hjr _ rfl
  | ret t r =>
    cases t with
    | server k => cases h
    | exec v =>
      cases r with
      | readyOk => exact absurd rfl (hr v)
      | _ => exact hjr _ rfl
    | _ => exact hjr _ rfl
  | handler r ev t =>
    cases ev with
    | completed => exact hupd _ _ (fun e => rfl)
    | dropped => exact hupd _ _ (fun e => rfl)
    | _ => exact hjr _ rfl
  | tReady ep r =>
    obtain ⟨st, bl, e⟩ := step_tReady b ep r
    rw [e]; exact ⟨rfl, rfl, rfl⟩
  | tFlush ep r => rw [step_tFlush]; exact ⟨rfl, rfl, rfl⟩
  | counts ep a b' => cases ep <;> exact ⟨rfl, rfl, rfl⟩
  | wake t => exact ⟨rfl, rfl, rfl⟩
  | spin t => exact ⟨rfl, rfl, rfl⟩
  | panic t w => exact ⟨rfl, rfl, rfl⟩
  | _ => exact hjr _ rfl

theorem step_wb_retOk (b : Book) (v : Nat) :
    (bw (b.step (.obs (retOk v)))).execs = (bw b).execs.map (fun x => if x.rid == v then { x with gone := true } else x) ∧
    (bw (b.step (.obs (retOk v)))).table = (bw b).table ∧ (bw (b.step (.obs (retOk v)))).now = (bw b).now := by
  refine ⟨?_, rfl, rfl⟩
  show (b.execs.map (fun e => if e.rid == v then { e with gone := true } else e)).map wb = _
  exact map_ite_comm b.execs (fun e => (e.rid == v) = true) (fun x => (x.rid == v) = true) wb (fun e => Iff.rfl)
    (fun e => { e with gone := true }) (fun x => { x with gone := true }) (fun e => rfl)

theorem Fg.congr {P Q : WB → Prop} {f : WB → WB} (h : Fg P f) (hpq : ∀ x, P x ↔ Q x) : Fg Q f := fun x =>
  ⟨(h x).1, (h x).2.1, (h x).2.2.1, (h x).2.2.2.1, (h x).2.2.2.2.1, (h x).2.2.2.2.2.1,
    (h x).2.2.2.2.2.2.trans (or_congr Iff.rfl (hpq x))⟩

theorem gone_fold (b : Book) (vid : Nat) : ∀ (l : List Obs), (∀ o ∈ l, isCore o = false) → (∀ v, retOk v ∈ l → v = vid) →
    ∃ f, (bw (bo b l)).execs = (bw b).execs.map f ∧ Fg (fun x => x.rid = vid ∧ retOk vid ∈ l) f ∧
      (bw (bo b l)).table = (bw b).table ∧ (bw (bo b l)).now = (bw b).now := by
  intro l
  induction l with
  | nil =>
    intro _ _
    exact ⟨id, by simp, fun x => ⟨rfl, rfl, rfl, rfl, rfl, rfl, by simp⟩, rfl, rfl⟩
  | cons o l ih =>
    intro hc hv
    rw [bo_cons]
    obtain ⟨f, hf1, hf2, hf3, hf4⟩ := ih (fun o' ho' => hc o' (List.mem_cons_of_mem _ ho'))
      (fun v h => hv v (List.mem_cons_of_mem _ h))
    by_cases hro : ∃ v, o = retOk v
    · obtain ⟨v, rfl⟩ := hro
      have hvv : v = vid := hv v (List.mem_cons_self ..)
      subst hvv
      obtain ⟨a1, a2, a3⟩ := step_wb_retOk (bo b l) v
      refine ⟨(fun x => if x.rid == v then { x with gone := true } else x) ∘ f, by rw [a1, hf1, List.map_map], fun x => ?_,
        a2.trans hf3, a3.trans hf4⟩
      obtain ⟨b1, b2, b3, b4, b5, b6, b7⟩ := hf2 x
      dsimp only [Function.comp]
      by_cases hx : (f x).rid = v
      · rw [if_pos (by rw [hx]; exact beq_self_eq_true v)]
        exact ⟨b1, b2, b3, b4, b5, b6, fun _ => Or.inr ⟨b1.symm.trans hx, List.mem_cons_self ..⟩, fun _ => rfl⟩
      · rw [if_neg (fun h => hx (eq_of_beq h))]
        refine ⟨b1, b2, b3, b4, b5, b6, b7.trans (or_congr Iff.rfl ⟨fun h => ⟨h.1, List.mem_cons_of_mem _ h.2⟩, fun h => ?_⟩)⟩
        exact absurd (b1.trans h.1) hx
    · have hne : ∀ v, o ≠ retOk v := fun v h => hro ⟨v, h⟩
      obtain ⟨a1, a2, a3⟩ := step_wb_same (bo b l) o (hc o (List.mem_cons_self ..)) hne
      refine ⟨f, a1.trans hf1, hf2.congr (fun x => and_congr Iff.rfl ⟨List.mem_cons_of_mem _, fun h => ?_⟩), a2.trans hf3,
        a3.trans hf4⟩
      exact (List.mem_cons.mp h).resolve_left (fun h3 => hne vid h3.symm)

theorem endOp_failed (b : Book) : b.endOp.failed = b.failed := by
  obtain ⟨ex, ao, h⟩ := FlowMon.endOp_frame b; rw [h]

theorem bw_endOp_none (b : Book) (hc : b.curDropExec = none) : bw b.endOp = bw b := by
  unfold bw
  rw [endOp_now, endOp_execs_none b hc, endOp_table, endOp_failed]

theorem noncore_of_filter {l : List Obs} (h : l.filter isCore = []) : ∀ o ∈ l, isCore o = false :=
  fun o ho => Bool.eq_false_iff.mpr (List.filter_eq_nil_iff.mp h o ho)

theorem vis_rid {now : Nat} {pend : Option (Nat × Nat)} {Bv : BV} {s : St} (hK : K now pend Bv (sview s))
    {a e : Exec} (ha : a ∈ s.execs) (he : e ∈ s.execs) {v : Nat} (hav : a.vis = some v) (hev : e.vis = some v) :
    a.rid = e.rid :=
  congrArg XE.rid (hK.visInj (xe a) (List.mem_map_of_mem ha) (xe e) (List.mem_map_of_mem he) v hav hev)

theorem rid_ne_of_vis {now : Nat} {pend : Option (Nat × Nat)} {Bv : BV} {s : St} (hK : K now pend Bv (sview s))
    {a e : Exec} (ha : a ∈ s.execs) (he : e ∈ s.execs) {v w : Nat} (hav : a.vis = some w) (hev : e.vis = some v)
    (hne : w ≠ v) : a.rid ≠ e.rid := by
  intro hr
  have : a.vis = e.vis :=
    congrArg XE.vis (eq_of_rid_nodup hK.ridNodup (List.mem_map_of_mem ha) (List.mem_map_of_mem he) hr)
  rw [hav, hev] at this
  exact hne (Option.some.inj this)

theorem dead_of_vis {now : Nat} {pend : Option (Nat × Nat)} {Bv : BV} {s : St} (hK : K now pend Bv (sview s)) {vid : Nat}
    (hnl : ∀ e, getExecVis s vid = some e → execLive e = false) {a : Exec} (ha : a ∈ s.execs)
    (hav : a.vis = some vid) : execLive a = false := by
  cases hfe : getExecVis s vid with
  | none =>
    have := List.find?_eq_none.mp hfe a ha
    rw [hav] at this
    exact absurd (beq_self_eq_true _) this
  | some ef =>
    obtain ⟨hfm, hfv⟩ := getExecVis_mem hfe
    have hl : execLive a = execLive ef :=
      congrArg XE.live (hK.visInj (xe a) (List.mem_map_of_mem ha) (xe ef) (List.mem_map_of_mem hfm) vid hav hfv)
    rw [hl]; exact hnl ef hfe

theorem Ga.views {r : Nat} {g : Exec → Exec} (hga : Ga r g) {l : List Exec}
    (hlive : ∀ a ∈ l, a.rid = r → execLive a = true) :
    ∀ a ∈ l, ((ye ∘ g) a).rid = (ye a).rid ∧ ((ye ∘ g) a).id = (ye a).id ∧ ((ye ∘ g) a).vis = (ye a).vis ∧
      (((ye ∘ g) a).live = true → (ye a).live = true) ∧
      (((ye ∘ g) a).live = true → (ye a).armed = true → ((ye ∘ g) a).armed = true) := by
  intro a ha
  obtain ⟨a1, a2, a3, a4, a5⟩ := hga a
  refine ⟨a1, a2, a3, fun hq => ?_, fun hq hp => (a5 hq).trans hp⟩
  by_cases hr : a.rid = r
  · exact hlive a ha hr
  · rw [← a4 hr]; exact hq

theorem Y_pollExec {now : Nat} {pend : Option (Nat × Nat)} {b : Book} {s : St} (vid n : Nat)
    (h0 : s.obs = []) (hcd : b.curDropExec = none)
    (hK : K now pend (bview b) (sview s)) (hY : Y now none (bw b) (mv s)) :
    Y now none (bw (bo b (pollExec s vid n).obs).endOp) (mv (pollExec s vid n)) := by
  have hcd' : (bo b (pollExec s vid n).obs).curDropExec = none := by rw [bo_curDropExec]; exact hcd
  rw [bw_endOp_none _ hcd']
  have hcoreF : (pollExec s vid n).obs.filter isCore = [] := by
    rw [fx_pollExec isCore_execQuiet, h0]; rfl
  have hcore := noncore_of_filter hcoreF
  rcases pollExec_outcome s vid n with ⟨e, hg, hl, hout⟩ | ⟨hnl, heq⟩
  · obtain ⟨hem, hev⟩ := getExecVis_mem hg
    obtain ⟨g, hge, hga⟩ := hout.ex
    obtain ⟨l, hlo, hlv, hfin⟩ := hout.obs
    rw [h0, List.append_nil] at hlo
    rw [hlo] at hcore ⊢
    obtain ⟨f, hf1, hf2, hf3, hf4⟩ := gone_fold b vid l hcore hlv
    have hlive_r : ∀ a ∈ s.execs, a.rid = e.rid → execLive a = true :=
      liveRid_of_K hK (Or.inr ⟨e, hem, rfl, hl⟩)
    refine hY.execOp s.execs ye (ye ∘ g) rfl (by show (pollExec s vid n).execs.map ye = _; rw [hge, List.map_map])
      (hga.views hlive_r) f hf1
      (fun x => ⟨(hf2 x).1, (hf2 x).2.1, (hf2 x).2.2.1, (hf2 x).2.2.2.1, fun h => by rw [(hf2 x).2.2.2.2.1]; exact h⟩)
      ?_ (congrArg (List.map ze) (pollExec_inflight s vid n))
      (by show (pollExec s vid n).t.inbound = s.t.inbound; rw [pollExec_t]) hout.dr hf3 hf4
      (fun i hi => by show i ∈ (pollExec s vid n).cancelQ; rw [hout.cq]; exact hi)
      (fun i hi => Or.inl (by show i ∈ s.cancelQ; rw [← hout.cq]; exact hi))
      (fun _ a _ eb _ _ hab => Or.inl (by rw [(hf2 eb).2.2.2.2.1] at hab; exact hab)) (K_eid_mv hK)
    intro a ha eb heb hv
    have hv' : a.vis = some eb.rid := hv
    rw [(hf2 eb).2.2.2.2.2.2]
    have hgl := hY.gl (ye a) (List.mem_map_of_mem ha) eb heb hv
    by_cases hbr : eb.rid = vid
    · have har : a.rid = e.rid := vis_rid hK ha hem (hv'.trans (by rw [hbr])) hev
      have hmem : g a ∈ (pollExec s vid n).execs := by rw [hge]; exact List.mem_map_of_mem ha
      have hgr : (g a).rid = e.rid := (hga a).1.trans har
      rcases hfin with ⟨h1, h2⟩ | ⟨h1, h2⟩
      · exact ⟨fun _ => h2 (g a) hmem hgr, fun _ => Or.inr ⟨hbr, h1⟩⟩
      · have hla : execLive a = true := hlive_r a ha har
        have hlg : execLive (g a) = true := h2 hlive_r (g a) hmem hgr
        constructor
        · rintro (h3 | ⟨_, h3⟩)
          · have h4 : execLive a = false := hgl.mp h3
            rw [hla] at h4; cases h4
          · exact absurd h3 h1
        · intro h3
          have h4 : execLive (g a) = false := h3
          rw [hlg] at h4; cases h4
    · have hye : ye (g a) = ye a := (hga a).2.2.2.1 (rid_ne_of_vis hK ha hem hv' hev hbr)
      show _ ↔ (ye (g a)).live = false
      rw [hye, ← hgl]
      exact ⟨fun h => h.elim id (fun h => absurd h.1 hbr), Or.inl⟩
  · rw [heq, emit_obs, h0]
    exact hY

/-- what `endOp` does to the book's execution numbered `r` after `drop-exec r` -/
def endF (r : Nat) (x : WB) : WB :=
  if x.rid == r then (if x.gone then x else { x with gone := true, abandoned := true }) else x

theorem bw_endOp_some (b : Book) (r : Nat) (hc : b.curDropExec = some r) :
    (bw b.endOp).execs = (bw b).execs.map (endF r) ∧ (bw b.endOp).table = (bw b).table ∧ (bw b.endOp).now = (bw b).now := by
  refine ⟨?_, endOp_table b, endOp_now b⟩
  show b.endOp.execs.map wb = _
  rw [endOp_execs_some b r hc]
  show (b.execs.map (fun e => if e.rid == r then (if e.gone then e else { e with gone := true, abandoned := true }) else e)).map wb = _
  exact map_ite_comm b.execs (fun e => (e.rid == r) = true) (fun x => (x.rid == r) = true) wb (fun e => Iff.rfl)
    (fun e => if e.gone then e else { e with gone := true, abandoned := true })
    (fun x => if x.gone then x else { x with gone := true, abandoned := true })
    (fun e => by cases hg : e.gone <;> simp [wb, hg])

theorem endF_spec (r : Nat) (x : WB) :
    (endF r x).rid = x.rid ∧ (endF r x).id = x.id ∧ (endF r x).deadline = x.deadline ∧ (endF r x).yieldedAt = x.yieldedAt ∧
    (x.abandoned = true → (endF r x).abandoned = true) ∧
    (x.rid = r → (endF r x).gone = true) ∧ (x.rid ≠ r → endF r x = x) ∧
    ((endF r x).abandoned = true → x.abandoned = true ∨ (x.rid = r ∧ x.gone = false)) := by
  unfold endF
  by_cases h1 : x.rid = r
  · rw [if_pos (by simpa using h1)]
    cases hg : x.gone
    · simp [h1]
    · simp [h1, hg]
  · rw [if_neg (by simpa using h1)]
    exact ⟨rfl, rfl, rfl, rfl, fun h => h, fun h => absurd h h1, fun _ => rfl, fun h => Or.inl h⟩

theorem bo_wb_noRet (b : Book) : ∀ (l : List Obs), (∀ o ∈ l, isCore o = false) → (∀ v, retOk v ∉ l) →
    (bw (bo b l)).execs = (bw b).execs ∧ (bw (bo b l)).table = (bw b).table ∧ (bw (bo b l)).now = (bw b).now := by
  intro l
  induction l with
  | nil => intro _ _; exact ⟨rfl, rfl, rfl⟩
  | cons o l ih =>
    intro hc hno
    rw [bo_cons]
    obtain ⟨h1, h2, h3⟩ := ih (fun o' ho' => hc o' (List.mem_cons_of_mem _ ho')) (fun v h => hno v (List.mem_cons_of_mem _ h))
    obtain ⟨a1, a2, a3⟩ := step_wb_same (bo b l) o (hc o (List.mem_cons_self ..))
      (fun v hv => hno v (by rw [← hv]; exact List.mem_cons_self ..))
    exact ⟨a1.trans h1, a2.trans h2, a3.trans h3⟩

theorem dropExec_noRet (s : St) (vid n : Nat) (h0 : s.obs = []) : ∀ v, retOk v ∉ (dropExec s vid n).obs := by
  rcases dropExec_outcome s vid n with ⟨e, _, _, hout⟩ | ⟨_, heq⟩
  · obtain ⟨l, hlo, hno⟩ := hout.obs
    rw [hlo, h0, List.append_nil]; exact hno
  · rw [heq, emit_obs, h0]
    intro v h
    cases List.mem_singleton.mp h

/-- (the book marks `v` gone and abandoned and appends it to its order of abandonment; the model's guard puts the id on the
cancellation queue unless the stream is dropped: `Y`'s clauses about that queue and that order come from these two facts) -/
theorem Y_dropExec {rest : List Nat} {now : Nat} {pend : Option (Nat × Nat)} {b : Book} {s : St} (vid n : Nat)
    (h0 : s.obs = []) (hcd : b.curDropExec = some vid)
    (hK : K now pend (bview b) (sview s)) (hX : X rest (bw b) (mv s)) (hY : Y now none (bw b) (mv s)) :
    Y now none (bw (bo b (dropExec s vid n).obs).endOp) (mv (dropExec s vid n)) := by
  have hcd' : (bo b (dropExec s vid n).obs).curDropExec = some vid := by rw [bo_curDropExec]; exact hcd
  obtain ⟨he1, he2, he3⟩ := bw_endOp_some _ vid hcd'
  have hcoreF : (dropExec s vid n).obs.filter isCore = [] := by
    rw [fx_dropExec isCore_execQuiet, h0]; rfl
  obtain ⟨hx1, hx2, hx3⟩ := bo_wb_noRet b _ (noncore_of_filter hcoreF) (dropExec_noRet s vid n h0)
  rw [hx1] at he1
  rw [hx2] at he2
  rw [hx3] at he3
  rcases dropExec_outcome s vid n with ⟨e, hg, hl, hout⟩ | ⟨hnl, heq⟩
  · obtain ⟨hem, hev⟩ := getExecVis_mem hg
    obtain ⟨g, hge, hga⟩ := hout.ex
    have hlive_r : ∀ a ∈ s.execs, a.rid = e.rid → execLive a = true :=
      liveRid_of_K hK (Or.inr ⟨e, hem, rfl, hl⟩)
    have harmed : e.guardArmed = true :=
      hY.arm (ye e) (List.mem_map_of_mem hem) (by show e.vis ≠ none; rw [hev]; exact Option.some_ne_none _) hl
    have hcq : (dropExec s vid n).cancelQ = s.cancelQ ++ [e.id] ∨
        (s.dropped = true ∧ (dropExec s vid n).cancelQ = s.cancelQ) := by
      rcases hout.cq with ⟨_, _, h3⟩ | ⟨h4 | h4, h3⟩
      · exact Or.inl h3
      · rw [harmed] at h4; cases h4
      · exact Or.inr ⟨h4, h3⟩
    have hcqsub : ∀ i ∈ s.cancelQ, i ∈ (dropExec s vid n).cancelQ := by
      intro i hi
      rcases hcq with h3 | ⟨_, h3⟩
      · rw [h3]; exact List.mem_append_left _ hi
      · rw [h3]; exact hi
    -- the book's execution of `e`
    have hebv : ∀ eb ∈ (bw b).execs, eb.id = e.id → eb.rid = vid ∧ eb.gone = false := by
      intro eb heb hei
      obtain ⟨x0, hx0, hv0⟩ := hX.bsrc eb heb
      have h1 := hX.bid eb heb x0 hx0 hv0
      have : x0 = ye e := hX.id_inj hx0 (List.mem_map_of_mem hem) (h1.trans hei)
      rw [this] at hv0
      have hv0' : e.vis = some eb.rid := hv0
      refine ⟨(Option.some.inj (hev.symm.trans hv0')).symm, ?_⟩
      cases hgo : eb.gone with
      | false => rfl
      | true =>
        have h4 : execLive e = false := (hY.gl (ye e) (List.mem_map_of_mem hem) eb heb hv0).mp hgo
        rw [hl] at h4; cases h4
    refine hY.execOp s.execs ye (ye ∘ g) rfl (by show (dropExec s vid n).execs.map ye = _; rw [hge, List.map_map])
      (hga.views hlive_r) (endF vid) he1 (fun x => ?_) ?_ (congrArg (List.map ze) (dropExec_inflight s vid n))
      (by show (dropExec s vid n).t.inbound = s.t.inbound; rw [dropExec_t]) hout.dr he2 he3 hcqsub ?_ ?_ (K_eid_mv hK)
    · obtain ⟨c1, c2, c3, c4, c5, _⟩ := endF_spec vid x
      exact ⟨c1, c2, c3, c4, c5⟩
    · intro a ha eb heb hv
      have hv' : a.vis = some eb.rid := hv
      obtain ⟨_, _, _, _, _, c6, c7, _⟩ := endF_spec vid eb
      by_cases hbr : eb.rid = vid
      · have har : a.rid = e.rid := vis_rid hK ha hem (hv'.trans (by rw [hbr])) hev
        have hmem : g a ∈ (dropExec s vid n).execs := by rw [hge]; exact List.mem_map_of_mem ha
        exact ⟨fun _ => hout.dead (g a) hmem ((hga a).1.trans har), fun _ => c6 hbr⟩
      · have hye : ye (g a) = ye a := (hga a).2.2.2.1 (rid_ne_of_vis hK ha hem hv' hev hbr)
        show (endF vid eb).gone = true ↔ (ye (g a)).live = false
        rw [c7 hbr, hye]
        exact hY.gl (ye a) (List.mem_map_of_mem ha) eb heb hv
    · intro i hi0
      have hi : i ∈ (dropExec s vid n).cancelQ := hi0
      rcases hcq with h3 | ⟨_, h3⟩
      · rw [h3] at hi
        rcases List.mem_append.mp hi with h4 | h4
        · exact Or.inl h4
        · right
          intro eb heb hei
          rw [List.mem_singleton.mp h4] at hei
          obtain ⟨hr, hgo⟩ := hebv eb heb hei
          show (endF vid eb).abandoned = true
          unfold endF
          rw [if_pos (by rw [hr]; exact beq_self_eq_true vid), hgo]; rfl
      · rw [h3] at hi; exact Or.inl hi
    · intro hd a ha eb heb hv hab
      have hv' : a.vis = some eb.rid := hv
      rcases (endF_spec vid eb).2.2.2.2.2.2.2 hab with h1 | ⟨h1, h2⟩
      · exact Or.inl h1
      · right
        have har : a.rid = e.rid := vis_rid hK ha hem (hv'.trans (by rw [h1])) hev
        have haid : a.id = e.id :=
          congrArg XE.id (eq_of_rid_nodup hK.ridNodup (List.mem_map_of_mem ha) (List.mem_map_of_mem hem) har)
        show a.id ∈ (dropExec s vid n).cancelQ
        rcases hcq with h3 | ⟨h4, _⟩
        · rw [h3, haid]; exact List.mem_append_right _ (List.mem_singleton.mpr rfl)
        · have hd' : (dropExec s vid n).dropped = false := hd
          rw [hout.dr, h4] at hd'; cases hd'
  · 
    rw [heq] at he1 he2 he3 ⊢
    show Y now none _ (mv s)
    refine hY.execOp s.execs ye ye rfl rfl (fun a _ => ⟨rfl, rfl, rfl, fun h => h, fun _ h => h⟩) (endF vid)
      he1 (fun x => ?_) ?_ rfl rfl rfl he2 he3 (fun i hi => hi) (fun i hi => Or.inl hi) ?_ (K_eid_mv hK)
    · obtain ⟨c1, c2, c3, c4, c5, _⟩ := endF_spec vid x
      exact ⟨c1, c2, c3, c4, c5⟩
    · intro a ha eb heb hv
      have hv' : a.vis = some eb.rid := hv
      obtain ⟨_, _, _, _, _, c6, c7, _⟩ := endF_spec vid eb
      by_cases hbr : eb.rid = vid
      · exact ⟨fun _ => dead_of_vis hK hnl ha (hv'.trans (by rw [hbr])), fun _ => c6 hbr⟩
      · rw [c7 hbr]; exact hY.gl (ye a) (List.mem_map_of_mem ha) eb heb hv
    · intro hd a ha eb heb hv hab
      have hv' : a.vis = some eb.rid := hv
      rcases (endF_spec vid eb).2.2.2.2.2.2.2 hab with h1 | ⟨h1, h2⟩
      · exact Or.inl h1
      · -- `eb` is not gone, so its execution is live; but the one numbered `vid` is not
        have hla : execLive a = false := dead_of_vis hK hnl ha (hv'.trans (by rw [h1]))
        rw [(hY.gl (ye a) (List.mem_map_of_mem ha) eb heb hv).mpr hla] at h2; cases h2

/-- the deadline of an injected request lies within the clamp horizon -/
def NearOp : SOp → Prop
  | .injectReq _ d _ _ => d ≤ clampNs
  | _ => True

theorem mv_finishHandler (s : St) (v : Nat) (res : Res) : mv (finishHandler s v res) = mv s := by
  unfold finishHandler
  cases getExecVis s v with
  | none => rfl
  | some e =>
    have h0 : mv (updExec s e.rid (fun x => { x with finishCmd := some res })) = mv s :=
      (qm_updExec s e.rid (fun x => { x with finishCmd := some res }) (fun e => rfl)).2
    dsimp only
    split
    · rfl
    · split
      · exact (qm_wakeExec _ _).2.trans h0
      · exact h0

theorem Y_applyOp_ext {now : Nat} {B : BW} (c0 : Sys) (op : SOp) (h1 : op ≠ .pollServer) (h2 : op ≠ .dropServer)
    (h3 : ∀ v, op ≠ .pollExec v) (h4 : ∀ v, op ≠ .dropExec v) (hnear : NearOp op)
    (hY : Y now none B (mv c0.s)) : Y now none B (mv (applyOp c0 op).s) := by
  by_cases h5 : ∃ v res, op = .finish v res
  · obtain ⟨v, res, rfl⟩ := h5
    show Y now none B (mv (finishHandler c0.s v res))
    rw [mv_finishHandler]; exact hY
  · rcases mv_applyOp_quiet c0 op h1 h2 h3 h4 (fun v res hc => h5 ⟨v, res, hc⟩) with ⟨h, _⟩ | ⟨m, h, _, hop⟩
    · rw [h]; exact hY
    · rw [h]
      refine hY.inject m (fun i d tr b hm => ?_)
      have := hop i d tr b hm
      subst this
      exact hnear

/-- a `counts` observation -/
def isCnt : Obs → Bool
  | .counts _ _ _ => true
  | _ => false

theorem isCnt_execQuiet : ExecQuiet isCnt := ⟨⟨⟨fun _ => rfl, rfl, fun _ _ => rfl⟩, fun _ _ => rfl⟩, fun _ _ _ => rfl⟩

theorem CK11_nocounts (b0 : Book) (l : List Obs) (h : l.filter isCnt = []) : CK chk11 b0 l := by
  have : CK chk11 b0 (l ++ []) := CK.append (l := []) trivial l (fun o ho b => by
    refine chk11_other b o (fun k a t hc => ?_)
    have : o ∈ l.filter isCnt := List.mem_filter.mpr ⟨ho, by rw [hc]; rfl⟩
    rw [h] at this; cases this)
  simpa using this

theorem BL_opBook_poll (b : Book) (h : b.limit = none) : BL (opBook b .pollServer) := by
  refine ⟨by rw [opBook_limit]; exact h, ?_, ?_⟩
  · show b.endOp.stalled = false
    unfold Book.endOp; rfl
  · show b.endOp.idleNow = false
    unfold Book.endOp; rfl

theorem opBook_bw_execs (b : Book) (op : SOp) : (bw (opBook b op)).execs = (bw b.endOp).execs := by
  unfold opBook Book.noteFinish
  have h0 : (bw (b.step (.op op))).execs = (bw b.endOp).execs := by
    show (b.step (.op op)).execs.map wb = _
    rw [step_op_execs]; rfl
  split
  · rw [updExec_wb _ _ _ (fun e => by split <;> rfl)]; exact h0
  · exact h0

theorem opBook_table (b : Book) (op : SOp) : (opBook b op).table = b.endOp.table := by
  unfold opBook Book.noteFinish
  have h0 : (b.step (.op op)).table = b.endOp.table := by cases op <;> rfl
  split
  · exact h0
  · exact h0

theorem opBook_now_ge (b : Book) (op : SOp) : b.endOp.now ≤ (opBook b op).now := by
  unfold opBook Book.noteFinish
  have h0 : b.endOp.now ≤ (b.step (.op op)).now := by
    cases op <;> first | exact Nat.le_refl _ | exact Nat.le_add_right _ _
  split
  · exact h0
  · exact h0

structure OInvY (b : Book) (c : Sys) (rest : List Nat) : Prop where
  t : OInvT b c rest
  blim : b.limit = none
  y : b.spun = true ∨ c.s.poisoned = true ∨ Y c.now none (bw b.endOp) (mv c.s)

theorem OInvY.of_clr {b : Book} {c : Sys} {rest : List Nat} (ht : OInvT b (clr c) rest) (hbl : b.limit = none)
    (hy : b.spun = true ∨ c.s.poisoned = true ∨ Y c.now none (bw b.endOp) (mv c.s)) : OInvY b (clr c) rest := ⟨ht, hbl, hy⟩

theorem op_stepY (hf : ClampFits) {b : Book} {c : Sys} {rest : List Nat} (op : SOp) (h : OInvY b c (opReq op ++ rest))
    (hn : c.now + opAdv op < panicFreeNs) (hnear : NearOp op) :
    OInvY (bo (opBook b op) (applyOp (clr c) op).s.obs) (stepOp c op).1 rest ∧
    CK chk11 (opBook b op) (applyOp (clr c) op).s.obs := by
  have ht' := (op_stepT hf op h.t hn).1
  have hbl' : (bo (opBook b op) (applyOp (clr c) op).s.obs).limit = none := by
    rw [bo_limit, opBook_limit]; exact h.blim
  rw [stepOp_fst] at ht' ⊢
  generalize hc0 : clr c = c0 at ht' hbl' ⊢
  obtain ⟨hobs0, hnow0, -, hmv0, hpo0, hs0, hdd0, hcfg0, hl0, hq0⟩ := h.t.cleared c0 hc0
  have hnow := applyOp_now c0 op
  rw [hnow0] at hnow
  have hfin : ((bo (opBook b op) (applyOp c0 op).s.obs).spun = true ∨ (applyOp c0 op).s.poisoned = true ∨
      Y (c.now + opAdv op) none (bw (bo (opBook b op) (applyOp c0 op).s.obs).endOp) (mv (applyOp c0 op).s)) →
      OInvY (bo (opBook b op) (applyOp c0 op).s.obs) (clr (applyOp c0 op)) rest := fun hy =>
    OInvY.of_clr ht' hbl' (by rw [hnow]; exact hy)
  cases hb : b.spun with
  | true => exact ⟨hfin (Or.inl (bo_opBook_spun hb op _)), CK.of_spun (by rw [opBook_spun]; exact hb) _⟩
  | false =>
  obtain ⟨pend, hpp, hK, hX, hNN⟩ := h.t.begin op hb c0 hc0
  have hy : c0.s.poisoned = true ∨ Y (c.now + opAdv op) none (bw (opBook b op)) (mv c0.s) := by
    rw [hpo0, hmv0]
    exact (of_unspun h.y hb).imp id
      (fun hY => hY.advance (opBook_bw_execs b op) (opBook_table b op) (opBook_now_ge b op))
  -- an op that does not poll the request stream: no `counts` is observed, a poisoned channel stays poisoned
  have other : op ≠ .pollServer → (Y (c.now + opAdv op) none (bw (opBook b op)) (mv c0.s) →
      (bo (opBook b op) (applyOp c0 op).s.obs).spun = false → (applyOp c0 op).s.poisoned = true ∨
        Y (c.now + opAdv op) none (bw (bo (opBook b op) (applyOp c0 op).s.obs).endOp) (mv (applyOp c0 op).s)) →
      OInvY (bo (opBook b op) (applyOp c0 op).s.obs) (clr (applyOp c0 op)) rest ∧
        CK chk11 (opBook b op) (applyOp c0 op).s.obs := fun hps hend =>
    ⟨hfin (unspun_or fun hs => hy.elim (fun hp => Or.inl (by rw [applyOp_poisoned c0 op hps]; exact hp))
      (fun hY => hend hY hs)), CK11_nocounts _ _ (by rw [fx_applyOp isCnt_execQuiet c0 op hps, hobs0]; rfl)⟩
  induction op using op_cases with
  | poll =>
    have e : c.now + opAdv SOp.pollServer = c0.now := by rw [hnow0]; rfl
    rw [e] at hNN hy
    have hck : ∀ chk, CK chk (opBook b .pollServer) c0.s.obs := fun _ => by rw [hobs0]; trivial
    have hNP : Btw (NYp (opBook b .pollServer) c0.now rest) c0.s := by
      rcases hy with hp | hY
      · exact Or.inr ⟨hp, pend, Or.inr ⟨hp, hck _, hNN⟩⟩
      · rcases hpp with rfl | hpo
        · exact Or.inl (Or.inl ⟨⟨hNN, hck _, Or.inr (by rw [hobs0]; exact hY)⟩, trivial⟩)
        · exact Or.inr ⟨hpo, pend, Or.inr ⟨hpo, hck _, hNN⟩⟩
    have hcd : (bo (opBook b .pollServer) (applyOp c0 .pollServer).s.obs).curDropExec = none := by
      rw [bo_curDropExec, opBook_cd]
    rcases NY_pollServer hf (by rw [← e]; exact hn) hobs0 hs0 hq0 hdd0 hNP (BL_opBook_poll b h.blim) hl0 hcfg0.1 hcfg0.2 with
      (⟨hny, _⟩ | ⟨hpo, hck, _⟩) | ⟨hpo, _, h⟩
    · refine ⟨hfin (unspun_or fun hs => Or.inr ?_), hny.ck⟩
      rw [bw_endOp_none _ hcd, e]; exact of_unspun hny.y hs
    · exact ⟨hfin (Or.inr (Or.inl hpo)), hck⟩
    · exact ⟨hfin (Or.inr (Or.inl hpo)), h.ck⟩
  | drop =>
    refine other nofun (fun hY hs => ?_)
    -- not poisoned: nothing is pending
    rcases hpp with rfl | hpo
    · have hNY : NY (opBook b .dropServer) (c.now + opAdv .dropServer) none rest c0.s :=
        ⟨hNN, by rw [hobs0]; trivial, Or.inr (by rw [hobs0]; exact hY)⟩
      have hcd : (bo (opBook b .dropServer) (applyOp c0 .dropServer).s.obs).curDropExec = none := by
        rw [bo_curDropExec, opBook_cd]
      right
      rw [bw_endOp_none _ hcd]
      exact of_unspun (NY_dropServer hNY (by rw [hobs0]; exact Or.inr (opBook_dropped b))).y hs
    · exact Or.inl (by rw [applyOp_poisoned c0 .dropServer nofun]; exact hpo)
  | pexec v => exact other nofun (fun hY _ => Or.inr (Y_pollExec v c0.now hobs0 (by rw [opBook_cd]) hK hY))
  | dexec v => exact other nofun (fun hY _ => Or.inr (Y_dropExec v c0.now hobs0 (by rw [opBook_cd]) hK hX hY))
  | ext op he =>
    refine other he.1 (fun hY hs => Or.inr ?_)
    obtain ⟨hxw, hcd⟩ := he.facts hobs0 b
    obtain ⟨_, _, hle⟩ := bo_extW_unspun (opBook b op) hxw hs
    rw [bw_endOp_none _ hcd]
    rw [hobs0] at hle
    exact (Y_applyOp_ext c0 op he.1 he.2.1 he.2.2.1 he.2.2.2 hnear hY).le hle

def NearOps (ops : List SOp) : Prop := ∀ op ∈ ops, NearOp op

theorem chk11_eq : chk11 = chkOf checkC11Idle := rfl

theorem Y_init (limit : Option Nat) (respCap tcap : Nat) (coupled : Bool) :
    Y 0 none (bw ({ limit := limit } : Book).endOp) (mv (initSys limit respCap tcap coupled).s) := by
  refine ⟨fun a ha => (by cases ha), fun a ha => (by cases ha), fun a ha => (by cases ha), fun r i hp => (by cases hp),
    fun a ha => (by cases ha), fun a ha => (by cases ha), fun i d tr b hm => (by cases hm), fun a ha => (by cases ha),
    fun _ a ha => (by cases ha), fun _ p hp => (by cases hp)⟩

theorem oinvY_init (respCap tcap : Nat) (coupled : Bool) (rest : List Nat) (h : rest.Nodup) :
    OInvY ({ limit := none } : Book) (initSys none respCap tcap coupled) rest :=
  ⟨oinvT_init none respCap tcap coupled rest h rfl, rfl, Or.inr (Or.inr (Y_init none respCap tcap coupled))⟩

theorem c11_idle_accepts (hf : ClampFits) (respCap tcap : Nat) (coupled : Bool) (ops : List SOp)
    (hT : advSum ops < panicFreeNs) (hd : DistinctIds ops) (hnear : NearOps ops) :
    (Mon.run none checkC11Idle () (trace (initSys none respCap tcap coupled) ops)).bad = none :=
  trace_accepts (I := OInvY) (Near := NearOp) (fun _ _ => rfl) (op_stepY hf) ops _ _ rfl
    (oinvY_init respCap tcap coupled _ hd) (by
      show 0 + advSum ops < panicFreeNs
      omega) hnear

end TarpcModel.Server.Tab
