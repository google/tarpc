import TarpcModel.Lemmas.ClientMon
import TarpcModel.Lemmas.ClientFlowSink
import TarpcModel.Lemmas.ClientPoison
import TarpcModel.Monitors.NoPanic
/-!
The client dispatch never panics and is never poisoned while the clock is below `panicFreeNs` (2^35 ms) — glue
between the three client proof families:

* `Lemmas/ClientInv.lean` (`StInv`, `ObsGood`): the only panic site ever reached is the `DelayQueue::insert` range
  check, and — the armed timeout being clamped (`ClampFits`) — not before `panicFreeNs`
  (`insert_panic_late`: `when - wheelElapsed ≤ ceilMs (now + clampNs) ≤ now_ms + clamp_ms + 1 ≤ 2^36 - 1`);
* `Lemmas/ClientFlowSink.lean` (`Flow.NoSpinStep`): with the fixed `ensure_writeable` no `Obs.spin` is ever emitted;
* `Lemmas/ClientPoison.lean` (`reach_poisoned_stop`): `poisoned` is set only together with a `panic` / `spin` observation.
-/
namespace TarpcModel.Client

/-- No panic observation is on record in a state reached before `panicFreeNs`. -/
theorem reach_no_panic_obs (hf : ClampFits) (m b tc : Nat) (coupled : Bool) (ops : List COp)
    (hT : advSum ops < panicFreeNs) (t : TaskId) (site : String) :
    Obs.panic t site ∉ (ops.foldl applyOp (initSys m b tc coupled)).s.obs := by
  intro hm
  have hg := (inv_reach m b tc coupled ops).o _ hm
  rw [now_reach] at hg
  have := hg.2 hf
  omega

/-- No panic observation in the event trace of a script that stays before `panicFreeNs`. -/
theorem trace_no_panic (hf : ClampFits) (m b tc : Nat) (coupled : Bool) (ops : List COp)
    (hT : advSum ops < panicFreeNs) (t : TaskId) (site : String) :
    CEv.obs (.panic t site) ∉ trace (initSys m b tc coupled) ops := by
  intro hm
  obtain ⟨calls, now, hn, hg⟩ :=
    trace_obs_good m ops (initSys m b tc coupled) (inv_init 0 m b tc coupled 0) rfl _ hm
  have := hg.2 hf
  have h0 : (initSys m b tc coupled).now = 0 := rfl
  omega

/-- No spin observation is on record in a reachable state (fixed `ensure_writeable`). -/
theorem reach_no_spin_obs (hel : Gen.clientEnsureLoop = false) (m b tc : Nat) (coupled : Bool) (ops : List COp)
    (t : TaskId) : Obs.spin t ∉ (ops.foldl applyOp (initSys m b tc coupled)).s.obs := by
  intro hm
  have h := (Flow.foldl_applyOp_noSpinStep ops (initSys m b tc coupled) hel).spin
  have : Obs.spin t ∈ (ops.foldl applyOp (initSys m b tc coupled)).s.obs.filter Flow.isSpinObs :=
    List.mem_filter.mpr ⟨hm, rfl⟩
  rw [h] at this
  simp [initSys, init] at this

/-- **Never poisoned before `panicFreeNs`.** -/
theorem reach_not_poisoned (hf : ClampFits) (hel : Gen.clientEnsureLoop = false) (m b tc : Nat) (coupled : Bool)
    (ops : List COp) (hT : advSum ops < panicFreeNs) :
    (ops.foldl applyOp (initSys m b tc coupled)).s.poisoned = false := by
  cases hp : (ops.foldl applyOp (initSys m b tc coupled)).s.poisoned with
  | false => rfl
  | true =>
    exfalso
    obtain ⟨o, ho, hs⟩ := reach_poisoned_stop m b tc coupled ops hp
    cases o <;> simp [isStop] at hs
    · exact reach_no_spin_obs hel m b tc coupled ops _ ho
    · exact reach_no_panic_obs hf m b tc coupled ops hT _ _ ho

/-! ### monitor form (`Monitors/NoPanic.lean`) -/

/-- the observations of an event trace, in order -/
def obsOf (evs : List CEv) : List Obs := evs.filterMap (fun e => match e with | .obs o => some o | _ => none)

/-- the update of the `c16` field in `CliMon.feed` (`Driver/Cli.lean`) -/
def c16Step (acc : Option String) (e : CEv) : Option String :=
  acc.orElse (fun _ => match e with | .obs o => panicOf o | _ => none)

theorem firstPanic_none_of {evs : List CEv} (h : ∀ t site, CEv.obs (.panic t site) ∉ evs) :
    firstPanic (obsOf evs) = none := by
  unfold firstPanic
  rw [List.findSome?_eq_none_iff]
  intro o ho
  obtain ⟨e, he, heq⟩ := List.mem_filterMap.mp ho
  cases e with
  | op _ => simp at heq
  | obs o' =>
    simp only [Option.some.injEq] at heq
    subst heq
    cases o' <;> try rfl
    rename_i t site
    exact absurd he (h t site)

theorem c16Step_foldl_none_of {evs : List CEv} (h : ∀ t site, CEv.obs (.panic t site) ∉ evs) :
    evs.foldl c16Step none = none := by
  induction evs with
  | nil => rfl
  | cons e evs ih =>
    have h1 : c16Step none e = none := by
      cases e with
      | op _ => rfl
      | obs o =>
        cases o <;> try rfl
        rename_i t site
        exact absurd List.mem_cons_self (h t site)
    rw [List.foldl_cons, h1]
    exact ih (fun t site hm => h t site (List.mem_cons_of_mem _ hm))

end TarpcModel.Client
