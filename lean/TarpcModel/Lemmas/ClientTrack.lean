import TarpcModel.Lemmas.ClientCq
import TarpcModel.Lemmas.ClientDrain
import TarpcModel.Lemmas.ClientOwed
/-!
# What the dispatch does with a tracked request, read off its observations

`TR now s s'` relates the state before and after a step of the dispatch:

* the transport observations only grow; every new observation is a transport observation, a `wake` or a `panic`
  (in particular no `ret` / `counts` / `resolved` is emitted by the pumps);
* every entry of the in-flight table is still there (same id, same deadline) — or there is an *excuse* (`Exc`): a
  `Response id` was read, a `Cancel id` was written, a transport failure was observed, the deadline has passed, the
  dispatch was dropped, panicked, or is shutting down with a terminal error;
* every `Request id` written successfully in this step is tracked (or excused).

Proved for every action of a round of `run` (`Step.tr`, over the actions of `Lemmas/ClientSteps.lean`), from there up to
`pollDispatch`, and for one op of a script (`tr0_applyOp`).
-/
namespace TarpcModel.Client

theorem keep_only (obs0 : List Obs) (s : St) (r : Ret) : ∃ os po dn, (s.poisoned = true → po = true) ∧
    Flow.keepDone r (Flow.keepFinish obs0 s r) = { s with obs := os, poisoned := po, done := dn } := by
  have done : ∀ s1 : St, ∃ dn, Flow.keepDone r s1 = { s1 with done := dn } := fun s1 => by
    unfold Flow.keepDone; split
    · exact ⟨s1.done, rfl⟩
    · exact ⟨_, rfl⟩
  unfold Flow.keepFinish
  split
  · obtain ⟨dn, e⟩ := done { s with obs := .spin (tid s) :: obs0, poisoned := true }
    exact ⟨_, true, dn, fun _ => rfl, e⟩
  · split
    · obtain ⟨dn, e⟩ := done s
      exact ⟨s.obs, s.poisoned, dn, id, e⟩
    · obtain ⟨dn, e⟩ := done (emit (emit s (.ret (tid s) r)) (.counts (tid s) s.inflight.length s.timers.len))
      exact ⟨_, s.poisoned, dn, id, e⟩

/-- what the pumps emit: transport observations, wakes, panics (and `noop`) -/
def dispObs : Obs → Bool
  | .wake _ => true
  | .panic _ _ => true
  | .noop => true
  | o => Flow.isT o

/-- `Request id` with deadline `dl` was written successfully -/
def isReqOk (id dl : Nat) : Obs → Bool
  | .tSend _ (.request i d _ _) true => i == id && d == dl
  | _ => false

/-- why a transmitted request need not be tracked (any more) -/
def Exc (now id dl : Nat) (s : St) : Prop :=
  HasT (isRead id) s ∨ HasT (isCancelOk id) s ∨ HasT isFail s ∨ dl ≤ now ∨ s.dDropped = true ∨ s.poisoned = true ∨
    s.termErr.isSome = true

/-- the request is tracked -/
def Kept (id dl : Nat) (s : St) : Prop := ∃ e ∈ s.inflight, e.id = id ∧ e.ctx.deadline = dl

/-- one step of the dispatch at clock `now`: the clauses of the head, and the flags an excuse reads only go up -/
structure TR (now : Nat) (s s' : St) : Prop where
  mono : ∀ o ∈ s.obs.filter Flow.isT, o ∈ s'.obs.filter Flow.isT
  disp : ∀ o ∈ s'.obs, o ∈ s.obs ∨ dispObs o = true
  dd : s'.dDropped = s.dDropped
  po : s.poisoned = true → s'.poisoned = true
  te : s.termErr.isSome = true → s'.termErr.isSome = true
  keep : ∀ e ∈ s.inflight, Kept e.id e.ctx.deadline s' ∨ Exc now e.id e.ctx.deadline s'
  new : ∀ o ∈ s'.obs.filter Flow.isT, ∀ id dl, isReqOk id dl o = true →
    o ∈ s.obs.filter Flow.isT ∨ Kept id dl s' ∨ Exc now id dl s'

theorem HasT.mono {p : Obs → Bool} {s s' : St} (h : HasT p s) (hm : ∀ o ∈ s.obs.filter Flow.isT, o ∈ s'.obs.filter Flow.isT) :
    HasT p s' := by
  obtain ⟨o, ho, hp⟩ := h
  exact ⟨o, hm o ho, hp⟩

/-- `TR` without the clause about the shape of the observations (the end of a poll emits `ret` / `counts`), and with
`dDropped` only going up: what a whole poll, the drop of the dispatch and the other ops satisfy.  The excuses and the
composition are proved for it; `TR` adds `disp`. -/
structure TR0 (now : Nat) (s s' : St) : Prop where
  mono : ∀ o ∈ s.obs.filter Flow.isT, o ∈ s'.obs.filter Flow.isT
  dd : s.dDropped = true → s'.dDropped = true
  po : s.poisoned = true → s'.poisoned = true
  te : s.termErr.isSome = true → s'.termErr.isSome = true
  keep : ∀ e ∈ s.inflight, Kept e.id e.ctx.deadline s' ∨ Exc now e.id e.ctx.deadline s'
  new : ∀ o ∈ s'.obs.filter Flow.isT, ∀ id dl, isReqOk id dl o = true →
    o ∈ s.obs.filter Flow.isT ∨ Kept id dl s' ∨ Exc now id dl s'

theorem TR.tr0 {now : Nat} {s s' : St} (h : TR now s s') : TR0 now s s' :=
  ⟨h.mono, fun hd => by rw [h.dd]; exact hd, h.po, h.te, h.keep, h.new⟩

theorem Exc.step0 {now id dl : Nat} {s s' : St} (h : Exc now id dl s) (t : TR0 now s s') : Exc now id dl s' := by
  rcases h with h | h | h | h | h | h | h
  · exact Or.inl (h.mono t.mono)
  · exact Or.inr (Or.inl (h.mono t.mono))
  · exact Or.inr (Or.inr (Or.inl (h.mono t.mono)))
  · exact Or.inr (Or.inr (Or.inr (Or.inl h)))
  · exact Or.inr (Or.inr (Or.inr (Or.inr (Or.inl (t.dd h)))))
  · exact Or.inr (Or.inr (Or.inr (Or.inr (Or.inr (Or.inl (t.po h))))))
  · exact Or.inr (Or.inr (Or.inr (Or.inr (Or.inr (Or.inr (t.te h))))))

theorem Exc.step {now id dl : Nat} {s s' : St} (h : Exc now id dl s) (t : TR now s s') : Exc now id dl s' := h.step0 t.tr0

theorem TR.refl (now : Nat) (s : St) : TR now s s :=
  ⟨fun _ h => h, fun _ h => Or.inl h, rfl, id, id, fun e he => Or.inl ⟨e, he, rfl, rfl⟩, fun _ h _ _ _ => Or.inl h⟩

theorem TR0.refl (now : Nat) (s : St) : TR0 now s s := (TR.refl now s).tr0

theorem TR0.trans {now : Nat} {a b c : St} (h1 : TR0 now a b) (h2 : TR0 now b c) : TR0 now a c := by
  refine ⟨fun o ho => h2.mono o (h1.mono o ho), fun h => h2.dd (h1.dd h), fun h => h2.po (h1.po h),
    fun h => h2.te (h1.te h), ?_, ?_⟩
  · intro e he
    rcases h1.keep e he with ⟨e1, he1, hid, hdl⟩ | hx
    · rcases h2.keep e1 he1 with hk | hx
      · rw [hid, hdl] at hk; exact Or.inl hk
      · rw [hid, hdl] at hx; exact Or.inr hx
    · exact Or.inr (hx.step0 h2)
  · intro o ho id dl hr
    rcases h2.new o ho id dl hr with h | h | h
    · rcases h1.new o h id dl hr with h' | ⟨e1, he1, hid, hdl⟩ | h'
      · exact Or.inl h'
      · rcases h2.keep e1 he1 with hk | hx
        · rw [hid, hdl] at hk; exact Or.inr (Or.inl hk)
        · rw [hid, hdl] at hx; exact Or.inr (Or.inr hx)
      · exact Or.inr (Or.inr (h'.step0 h2))
    · exact Or.inr (Or.inl h)
    · exact Or.inr (Or.inr h)

theorem TR.trans {now : Nat} {a b c : St} (h1 : TR now a b) (h2 : TR now b c) : TR now a c :=
  have t := h1.tr0.trans h2.tr0
  ⟨t.mono, fun o ho => (h2.disp o ho).elim (h1.disp o) Or.inr, h2.dd.trans h1.dd, t.po, t.te, t.keep, t.new⟩

theorem TR.after {now : Nat} {a b c : St} (h2 : TR now b c) (h1 : TR now a b) : TR now a c := h1.trans h2

/-! ### steps that do not call the transport -/

/-- `s'` differs from `s` by wakes / panics and in fields the tracking does not read (the table may differ) -/
structure TB (s s' : St) : Prop where
  tobs : s'.obs.filter Flow.isT = s.obs.filter Flow.isT
  disp : ∀ o ∈ s'.obs, o ∈ s.obs ∨ dispObs o = true
  dd : s'.dDropped = s.dDropped
  po : s.poisoned = true → s'.poisoned = true
  te : s'.termErr = s.termErr

theorem TB.refl (s : St) : TB s s := ⟨rfl, fun _ h => Or.inl h, rfl, id, rfl⟩

theorem TB.trans {a b c : St} (h1 : TB a b) (h2 : TB b c) : TB a c :=
  ⟨h2.tobs.trans h1.tobs, fun o ho => (h2.disp o ho).elim (h1.disp o) Or.inr, h2.dd.trans h1.dd,
   fun h => h2.po (h1.po h), h2.te.trans h1.te⟩

theorem TB.after {a b c : St} (h2 : TB b c) (h1 : TB a b) : TB a c := h1.trans h2

theorem TB.of_same {s s' : St} (h1 : s'.obs = s.obs := by rfl) (h2 : s'.dDropped = s.dDropped := by rfl)
    (h3 : s.poisoned = true → s'.poisoned = true := by exact fun h => h) (h4 : s'.termErr = s.termErr := by rfl) : TB s s' :=
  ⟨by rw [h1], fun o ho => Or.inl (h1 ▸ ho), h2, h3, h4⟩

theorem tb_emit (s : St) (o : Obs) (hd : dispObs o = true) (ht : Flow.isT o = false) : TB s (emit s o) :=
  ⟨by simp [emit, ht], fun x hx => by
    rcases List.mem_cons.mp hx with rfl | h
    · exact Or.inr hd
    · exact Or.inl h, rfl, id, rfl⟩

theorem tb_foldl {α : Type} (f : St → α → St) (hf : ∀ s a, TB s (f s a)) (l : List α) (s : St) : TB s (l.foldl f s) := by
  induction l generalizing s with
  | nil => exact TB.refl _
  | cons a l ih => exact (hf s a).trans (ih _)

theorem tb_wakeDispatch (s : St) : TB s (wakeDispatch s) := by
  rcases Flow.wakeDispatch_out s with ⟨_, e⟩ | ⟨_, e⟩ <;> rw [e]
  · exact TB.refl _
  · exact (tb_emit _ _ rfl rfl).after .of_same

theorem tb_updCall (s : St) (cid : Nat) (f : Call → Call) : TB s (updCall s cid f) := .of_same

theorem tb_wakeCall (s : St) (cid : Nat) : TB s (wakeCall s cid) := by
  rcases Flow.wakeCall_out s cid with ⟨_, _, _, e⟩ | ⟨_, e⟩ <;> rw [e]
  · exact (tb_emit _ _ rfl rfl).after (tb_updCall _ _ _)
  · exact TB.refl _

theorem tb_osSend (s : St) (cid : Nat) (o : Outcome) : TB s (osSend s cid o) := by
  rcases Flow.osSend_out s cid o with ⟨_, e⟩ | ⟨_, _, _, e⟩ <;> rw [e]
  · exact TB.refl _
  · split
    · exact (tb_wakeCall _ _).after (tb_updCall _ _ _)
    · exact tb_updCall _ _ _

theorem tb_osDropTx (s : St) (cid : Nat) : TB s (osDropTx s cid) := by
  rcases Flow.osDropTx_out s cid with ⟨_, e⟩ | ⟨_, _, _, e⟩ <;> rw [e]
  · exact TB.refl _
  · split
    · exact (tb_wakeCall _ _).after (tb_updCall _ _ _)
    · exact tb_updCall _ _ _

theorem tb_pqRelease (s : St) : TB s (pqRelease s) := by
  rcases Flow.pqRelease_out s with ⟨_, _, _, e⟩ | ⟨_, e⟩ <;> rw [e]
  · exact (tb_wakeCall _ _).after .of_same
  · exact .of_same

theorem tb_pqRecv (s : St) : TB s (pqRecv s).1 := by
  rcases Flow.pqRecv_out s with ⟨_, _, _, e⟩ | ⟨_, e, _⟩ | ⟨_, e⟩ <;> rw [e]
  · exact (tb_pqRelease _).after .of_same
  · exact TB.refl _
  · exact .of_same

theorem tb_cqRecv (s : St) : TB s (cqRecv s).1 := by
  rcases Flow.cqRecv_out s with ⟨_, _, _, e⟩ | ⟨_, e, _⟩ | ⟨_, e⟩ <;> rw [e]
  · exact .of_same
  · exact TB.refl _
  · exact .of_same

theorem tb_pqClose (s : St) : TB s (pqClose s) := by
  unfold pqClose
  simp only
  exact (tb_foldl _ (fun s w => tb_wakeCall s w) _ _).after .of_same

theorem tb_removeTimer (s : St) (k : Nat) : TB s (removeTimer s k) := by
  rcases Flow.removeTimer_out s k with ⟨_, _, _, e⟩ | ⟨_, e⟩ <;> rw [e]
  · split
    · exact (tb_wakeDispatch _).after .of_same
    · exact .of_same
  · exact (tb_emit _ _ rfl rfl).after (.of_same (h3 := fun _ => rfl))

/-- a step that leaves the table alone -/
theorem TB.tr {s s' : St} (h : TB s s') (now : Nat) (hinf : s'.inflight = s.inflight) : TR now s s' :=
  ⟨fun o ho => h.tobs ▸ ho, h.disp, h.dd, h.po, fun ht => by rw [h.te]; exact ht,
   fun e he => Or.inl ⟨e, hinf ▸ he, rfl, rfl⟩, fun o ho _ _ _ => Or.inl (h.tobs ▸ ho)⟩

/-- a step that takes entries out of the table (or re-keys them), each removal with an excuse -/
theorem TB.tr_remove {s s' : St} (h : TB s s') (now : Nat)
    (hinf : ∀ e ∈ s.inflight, Kept e.id e.ctx.deadline s' ∨ Exc now e.id e.ctx.deadline s') : TR now s s' :=
  ⟨fun o ho => h.tobs ▸ ho, h.disp, h.dd, h.po, fun ht => by rw [h.te]; exact ht,
   hinf, fun o ho _ _ _ => Or.inl (h.tobs ▸ ho)⟩

/-! ### transport calls -/

theorem dispObs_of_isT {o : Obs} (h : Flow.isT o = true) : dispObs o = true := by
  cases o <;> simp_all [dispObs, Flow.isT]

theorem isT_of_isReqOk {id dl : Nat} {o : Obs} (h : isReqOk id dl o = true) : Flow.isT o = true := by
  unfold isReqOk at h
  split at h
  · rfl
  · cases h

/-- a transport call: one transport observation (plus violations / a wake); a successful `Request` write must be for
a tracked request -/
theorem tr_tEmit (now : Nat) (s : St) (t' : SimT) (o : Obs) (w : Bool) (hT : Flow.isT o = true)
    (hnew : ∀ id dl, isReqOk id dl o = true → Kept id dl s) : TR now s (Flow.tEmit s t' o w) := by
  obtain ⟨l, dw, he, hl, _⟩ := Flow.tEmit_eq s t' o w
  rw [he]
  refine ⟨?_, ?_, rfl, id, id, fun e he => Or.inl ⟨e, he, rfl, rfl⟩, ?_⟩
  · intro x hx
    simp only [List.filter_append]
    exact List.mem_append_right _ hx
  · intro x hx
    rcases List.mem_append.mp hx with hx | hx
    · right
      rcases hl x hx with rfl | rfl | ⟨v, _, rfl⟩
      · exact dispObs_of_isT hT
      · rfl
      · rfl
    · exact Or.inl hx
  · intro x hx id dl hr
    simp only [List.filter_append] at hx
    rcases List.mem_append.mp hx with hx | hx
    · have hx' := (List.mem_filter.mp hx).1
      rcases hl x hx' with rfl | rfl | ⟨v, _, rfl⟩
      · exact Or.inr (Or.inl (hnew id dl hr))
      · simp [isReqOk] at hr
      · simp [isReqOk] at hr
    · exact Or.inl hx

theorem tr_tReady (now : Nat) (s : St) : TR now s (tReady s).1 := by
  rw [Flow.tReady_eq]
  exact tr_tEmit now s s.t.pollReady.1 (.tReady (tid s) s.t.pollReady.2.1) s.t.pollReady.2.2 rfl
    (fun _ _ h => by simp [isReqOk] at h)
theorem tr_tFlush (now : Nat) (s : St) : TR now s (tFlush s).1 := by
  rw [Flow.tFlush_eq]
  exact tr_tEmit now s s.t.pollFlush.1 (.tFlush (tid s) s.t.pollFlush.2.1) s.t.pollFlush.2.2 rfl
    (fun _ _ h => by simp [isReqOk] at h)
theorem tr_tClose (now : Nat) (s : St) : TR now s (tClose s).1 := by
  rw [Flow.tClose_eq]
  exact tr_tEmit now s s.t.pollClose.1 (.tClose (tid s) s.t.pollClose.2.1) s.t.pollClose.2.2 rfl
    (fun _ _ h => by simp [isReqOk] at h)
theorem tr_tSend_cancel (now : Nat) (s : St) (id : Nat) (tr : Trace) : TR now s (tSend s (.cancel id tr)).1 := by
  rw [Flow.tSend_eq]
  exact tr_tEmit now s (s.t.startSend (.cancel id tr)).1 (.tSend (tid s) (.cancel id tr) (s.t.startSend (.cancel id tr)).2)
    false rfl (fun _ _ h => by simp [isReqOk] at h)

/-- a transport call that is not a successful `Request` write adds no such observation -/
theorem tEmit_reqOk_old (s : St) (t' : SimT) (o : Obs) (w : Bool) {x : Obs} {id dl : Nat}
    (hx : x ∈ (Flow.tEmit s t' o w).obs.filter Flow.isT) (hr : isReqOk id dl x = true) (hno : isReqOk id dl o = false) :
    x ∈ s.obs.filter Flow.isT := by
  obtain ⟨l, dw, he, hl, _⟩ := Flow.tEmit_eq s t' o w
  rw [he] at hx
  simp only [List.filter_append] at hx
  rcases List.mem_append.mp hx with hx | hx
  · have hx' := (List.mem_filter.mp hx).1
    rcases hl x hx' with rfl | rfl | ⟨v, _, rfl⟩
    · rw [hno] at hr; cases hr
    · simp [isReqOk] at hr
    · simp [isReqOk] at hr
  · exact hx

theorem tr_tSend_request (now : Nat) (s : St) (id dl : Nat) (tr : Trace) (body : Nat)
    (hk : (tSend s (.request id dl tr body)).2 = true → Kept id dl s) : TR now s (tSend s (.request id dl tr body)).1 := by
  rw [Flow.tSend_eq]
  refine tr_tEmit now s (s.t.startSend (.request id dl tr body)).1
    (.tSend (tid s) (.request id dl tr body) (s.t.startSend (.request id dl tr body)).2) false rfl ?_
  intro id' dl' hr
  rw [Flow.tSend_res] at hk
  cases hok : (s.t.startSend (.request id dl tr body)).2 with
  | false => simp [isReqOk, hok] at hr
  | true =>
    simp only [isReqOk, hok, Bool.and_eq_true, beq_iff_eq] at hr
    rw [← hr.1, ← hr.2]; exact hk hok

theorem tr_tNext (now : Nat) (s : St) : TR now s (tNext s).1 := by
  rw [Flow.tNext_eq]
  split
  · exact TR.refl _ _
  · refine ⟨?_, ?_, rfl, id, id, fun e he => Or.inl ⟨e, he, rfl, rfl⟩, ?_⟩
    · intro x hx
      simp only [List.filter_cons, Flow.isT_tNext, ↓reduceIte]
      exact List.mem_cons_of_mem _ hx
    · intro x hx
      rcases List.mem_cons.mp hx with rfl | hx
      · exact Or.inr rfl
      · exact Or.inl hx
    · intro x hx id dl hr
      simp only [List.filter_cons, Flow.isT_tNext, ↓reduceIte] at hx
      rcases List.mem_cons.mp hx with rfl | hx
      · simp [isReqOk] at hr
      · exact Or.inl hx

theorem tr_emit_spin (now : Nat) (s : St) (t : TaskId) : TR now s (emit s (.spin t)) := by
  refine ⟨?_, ?_, rfl, id, id, fun e he => Or.inl ⟨e, he, rfl, rfl⟩, ?_⟩
  · intro x hx
    simp only [Flow.emit_obs, List.filter_cons, Flow.isT_spin, ↓reduceIte]
    exact List.mem_cons_of_mem _ hx
  · intro x hx
    rcases List.mem_cons.mp hx with rfl | hx
    · exact Or.inr rfl
    · exact Or.inl hx
  · intro x hx id dl hr
    simp only [Flow.emit_obs, List.filter_cons, Flow.isT_spin, ↓reduceIte] at hx
    rcases List.mem_cons.mp hx with rfl | hx
    · simp [isReqOk] at hr
    · exact Or.inl hx

/-! ### the request side of the write pump -/

theorem tr_pqRecv (now : Nat) (s : St) : TR now s (pqRecv s).1 := (tb_pqRecv s).tr now (Flow.pqRecv_inflight s)

theorem insertRequest_outcome {s s' : St} {now : Nat} {r : DReq} (h : insertRequest s now r = some s') :
    (∃ site, s' = emit { s with poisoned := true } (.panic (tid s) site)) ∨
    (findEntry s r.id = none ∧ ∃ (q : DelayQ) (e : Entry) (w : Bool), e.id = r.id ∧ e.cid = r.cid ∧ e.ctx = r.ctx ∧
      s' = if w then wakeDispatch { s with timers := q, inflight := s.inflight ++ [e] }
           else { s with timers := q, inflight := s.inflight ++ [e] }) := by
  rcases insertRequest_some h with ⟨_, e⟩ | ⟨_, _, _, _, e⟩ | ⟨hf, q, key, w, _, e⟩
  · exact Or.inl ⟨_, e⟩
  · exact Or.inl ⟨_, e⟩
  · exact Or.inr ⟨hf, q, _, w, rfl, rfl, rfl, e⟩

/-- `insert_request`: the table grows by the entry of the request (unless the insert panics) -/
theorem insertRequest_track {s s' : St} {now : Nat} {r : DReq} (h : insertRequest s now r = some s') :
    TB s s' ∧ (∀ e ∈ s.inflight, e ∈ s'.inflight) ∧
    (s'.poisoned = true ∨
      (Kept r.id r.ctx.deadline s' ∧ findEntry s r.id = none ∧
        ∀ e ∈ s'.inflight, e ∈ s.inflight ∨ (e.id = r.id ∧ e.cid = r.cid))) := by
  rcases insertRequest_outcome h with ⟨site, rfl⟩ | ⟨hf, q, en, w, e1, e2, e3, rfl⟩
  · exact ⟨(tb_emit _ _ rfl rfl).after (.of_same (h3 := fun _ => rfl)), fun e he => he, Or.inl rfl⟩
  · have tb : TB s (if w then wakeDispatch { s with timers := q, inflight := s.inflight ++ [en] }
        else { s with timers := q, inflight := s.inflight ++ [en] }) := by
      split
      · exact (tb_wakeDispatch _).after .of_same
      · exact .of_same
    have hinf : (if w then wakeDispatch { s with timers := q, inflight := s.inflight ++ [en] }
        else { s with timers := q, inflight := s.inflight ++ [en] }).inflight = s.inflight ++ [en] := by
      split
      · rw [Flow.wakeDispatch_inflight]
      · rfl
    refine ⟨tb, fun e he => by rw [hinf]; exact List.mem_append_left _ he,
      Or.inr ⟨⟨en, by rw [hinf]; exact List.mem_append_right _ (List.mem_singleton_self _), e1, by rw [e3]⟩, hf, ?_⟩⟩
    intro e he
    rw [hinf] at he
    rcases List.mem_append.mp he with he | he
    · exact Or.inl he
    · rw [List.mem_singleton.mp he]; exact Or.inr ⟨e1, e2⟩

/-- `complete_request`: the entries other than `id` stay -/
theorem completeRequest_track (s : St) (id : Nat) (o : Outcome) :
    TB s (completeRequest s id o).1 ∧ (∀ e ∈ s.inflight, e.id ≠ id → e ∈ (completeRequest s id o).1.inflight) := by
  rcases Flow.completeRequest_out s id o with ⟨_, e⟩ | ⟨_, _, e⟩ <;> rw [e]
  · exact ⟨TB.refl _, fun e he _ => he⟩
  · refine ⟨(tb_osSend _ _ _).after ((tb_removeTimer _ _).after .of_same), ?_⟩
    intro e he hne
    rw [osSend_inflight, (qc_removeTimer _ _).inflight]
    exact List.mem_filter.mpr ⟨he, by simpa using hne⟩

theorem tr_insertRequest {now : Nat} {s1 s2 : St} {r : DReq} (hins : insertRequest s1 now r = some s2) : TR now s1 s2 := by
  obtain ⟨tb, hk, _⟩ := insertRequest_track hins
  exact tb.tr_remove now (fun e he => Or.inl ⟨e, hk e he, rfl, rfl⟩)

theorem tr_req_sent {now : Nat} {s1 s2 s3 : St} {r : DReq} {ok : Bool} (hins : insertRequest s1 now r = some s2)
    (hpo : s2.poisoned = false) (hs : tSend s2 (.request r.id r.ctx.deadline r.ctx.trace r.body) = (s3, ok)) :
    TR now s1 s3 := by
  obtain ⟨_, _, hr⟩ := insertRequest_track hins
  have hkept : Kept r.id r.ctx.deadline s2 := by
    rcases hr with h | ⟨h, _⟩
    · rw [hpo] at h; cases h
    · exact h
  have h3 := tr_tSend_request now s2 r.id r.ctx.deadline r.ctx.trace r.body (fun _ => hkept)
  rw [hs] at h3
  exact (tr_insertRequest hins).trans h3

theorem tr_req_failed {now : Nat} {s1 s2 s3 : St} {r : DReq} (hins : insertRequest s1 now r = some s2)
    (hpo : s2.poisoned = false) (hs : tSend s2 (.request r.id r.ctx.deadline r.ctx.trace r.body) = (s3, false)) :
    TR now s1 (completeRequest s3 r.id .send).1 := by
  obtain ⟨tb, hk, hr⟩ := insertRequest_track hins
  have hfe : findEntry s1 r.id = none := by
    rcases hr with h | ⟨_, h, _⟩
    · rw [hpo] at h; cases h
    · exact h
  -- the write fails: the entry just inserted is taken out again; nothing else changes
  have h3 := tr_tSend_request now s2 r.id r.ctx.deadline r.ctx.trace r.body
    (fun hok => by rw [hs] at hok; cases hok)
  rw [hs] at h3
  have hinf3 : s3.inflight = s2.inflight := by
    have := Flow.tSend_inflight s2 (.request r.id r.ctx.deadline r.ctx.trace r.body); rw [hs] at this; exact this
  have hold : ∀ x ∈ s3.obs.filter Flow.isT, ∀ id dl, isReqOk id dl x = true → x ∈ s2.obs.filter Flow.isT := by
    intro x hx id dl hr'
    have e3 : s3 = (tSend s2 (.request r.id r.ctx.deadline r.ctx.trace r.body)).1 := by rw [hs]
    have r3 : (tSend s2 (.request r.id r.ctx.deadline r.ctx.trace r.body)).2 = false := by rw [hs]
    rw [e3, Flow.tSend_eq] at hx
    rw [Flow.tSend_res] at r3
    exact tEmit_reqOk_old s2 _ _ _ hx hr' (by simp [isReqOk, r3])
  obtain ⟨tb4, hk4⟩ := completeRequest_track s3 r.id .send
  refine ⟨?_, ?_, ?_, ?_, ?_, ?_, ?_⟩
  · intro o ho; rw [tb4.tobs]; exact h3.mono o (tb.tobs ▸ ho)
  · intro o ho
    rcases tb4.disp o ho with h | h
    · rcases h3.disp o h with h | h
      · exact tb.disp o h
      · exact Or.inr h
    · exact Or.inr h
  · exact tb4.dd.trans (h3.dd.trans tb.dd)
  · intro hp'; exact tb4.po (h3.po (tb.po hp'))
  · intro ht; rw [tb4.te]; exact h3.te (by rw [tb.te]; exact ht)
  · intro e he
    exact Or.inl ⟨e, hk4 e (hinf3 ▸ hk e he) (findEntry_none hfe e he), rfl, rfl⟩
  · intro o ho id dl hr'
    rw [tb4.tobs] at ho
    left
    have := hold o ho id dl hr'
    rw [tb.tobs] at this; exact this

/-! ### the cancellation side of the write pump -/

theorem cancelRequest_track (s : St) (id : Nat) :
    TB s (cancelRequest s id).1 ∧
    ∀ e ∈ s.inflight, e ∈ (cancelRequest s id).1.inflight ∨ ∃ e0, (cancelRequest s id).2 = some e0 ∧ e0.id = e.id := by
  rcases Flow.cancelRequest_out s id with ⟨_, e⟩ | ⟨e0, hf, e⟩ <;> rw [e]
  · exact ⟨TB.refl _, fun e he => Or.inl he⟩
  · refine ⟨(tb_removeTimer _ _).after .of_same, ?_⟩
    intro e he
    rw [(qc_removeTimer _ _).inflight]
    by_cases hid : e.id = id
    · exact Or.inr ⟨e0, rfl, by rw [(findEntry_some hf).2, hid]⟩
    · exact Or.inl (List.mem_filter.mpr ⟨he, by simpa using hid⟩)

theorem hasT_tSend_new {p : Obs → Bool} (s : St) (m : Msg) (hp : p (.tSend (tid s) m (tSend s m).2) = true) :
    HasT p (tSend s m).1 := by
  rw [Flow.tSend_eq]
  rw [Flow.tSend_res] at hp
  exact hasT_tEmit_new s _ _ rfl hp

theorem tr_cancel {now : Nat} {s s1 s2 s3 : St} {i : Nat} {oe : Option Entry} (hr : cqRecv s = (s1, .item i))
    (hc : cancelRequest s1 i = (s2, oe))
    (hs : ∀ e0, oe = some e0 → ∃ ok, tSend s2 (.cancel e0.id e0.ctx.trace) = (s3, ok)) (hn : oe = none → s3 = s2) :
    TR now s s3 := by
  have tb0 : TB s s1 := by have := tb_cqRecv s; rwa [hr] at this
  have hinf0 : s1.inflight = s.inflight := by obtain ⟨_, _, rfl⟩ := cqRecv_item hr; rfl
  obtain ⟨tb1, k1⟩ := cancelRequest_track s1 i
  rw [hc] at tb1 k1
  simp only at tb1 k1
  have tb1 := tb0.trans tb1
  have k1 : ∀ e ∈ s.inflight, e ∈ s2.inflight ∨ ∃ e0, oe = some e0 ∧ e0.id = e.id := fun e he => k1 e (hinf0 ▸ he)
  cases oe with
  | none =>
    rw [hn rfl]
    refine tb1.tr_remove now (fun e he => ?_)
    rcases k1 e he with h | ⟨e0, h, _⟩
    · exact Or.inl ⟨e, h, rfl, rfl⟩
    · cases h
  | some e0 =>
    obtain ⟨ok, hs⟩ := hs e0 rfl
    have h2 := tr_tSend_cancel now s2 e0.id e0.ctx.trace
    have hinf2 := Flow.tSend_inflight s2 (.cancel e0.id e0.ctx.trace)
    have hx : HasT (isCancelOk e0.id) (tSend s2 (.cancel e0.id e0.ctx.trace)).1 ∨
        HasT isFail (tSend s2 (.cancel e0.id e0.ctx.trace)).1 := by
      cases hok : (tSend s2 (.cancel e0.id e0.ctx.trace)).2 with
      | true => exact Or.inl (hasT_tSend_new s2 _ (by rw [hok]; simp [isCancelOk]))
      | false => exact Or.inr (hasT_tSend_new s2 _ (by rw [hok]; rfl))
    have h12 : TR now s (tSend s2 (.cancel e0.id e0.ctx.trace)).1 := by
      refine ⟨fun o ho => h2.mono o (tb1.tobs ▸ ho), ?_, h2.dd.trans tb1.dd,
        fun hp => h2.po (tb1.po hp), fun ht => h2.te (by rw [tb1.te]; exact ht), ?_, ?_⟩
      · intro o ho
        rcases h2.disp o ho with h | h
        · exact tb1.disp o h
        · exact Or.inr h
      · intro e he
        rcases k1 e he with h | ⟨e1, h1, hid⟩
        · exact Or.inl ⟨e, hinf2 ▸ h, rfl, rfl⟩
        · injection h1 with h1; subst h1
          right
          rw [← hid]
          rcases hx with hx | hx
          · exact Or.inr (Or.inl hx)
          · exact Or.inr (Or.inr (Or.inl hx))
      · intro o ho id dl hr
        rcases h2.new o ho id dl hr with h | h | h
        · exact Or.inl (tb1.tobs ▸ h)
        · exact Or.inr (Or.inl h)
        · exact Or.inr (Or.inr h)
    rw [hs] at h12; exact h12

/-! ### expiry (the one place that depends on how the deadline timers are armed) -/

theorem expireWith_outcomes {motive : ExpStep → Prop} (s : St) (now : Nat) (r : DelayQ × DelayQ.PollRes)
    (timers : ∀ q y, motive (.done { s with timers := q } y))
    (panic : motive (.done (emit { s with poisoned := true } (.panic (tid s) "DelayQueue::insert: invalid deadline")) false))
    (rearmed : ∀ q e en q' key t due (w : Bool), r = (q, .expired e) → findEntry s e.val = some en →
      motive (.again (if w then wakeDispatch { s with timers := q', inflight := s.inflight.map (rearmEntry e.val key t due) }
        else { s with timers := q', inflight := s.inflight.map (rearmEntry e.val key t due) })))
    (expired : ∀ q e en, r = (q, .expired e) → findEntry s e.val = some en → en.remainder - (now - en.dueAt) = 0 →
      motive (.done (osSend { s with timers := q, inflight := s.inflight.filter (·.id != e.val) } en.cid .deadline) true)) :
    motive (expireWith s now r) := by
  refine expireWith_cases s now r (fun _ => timers _ _) (fun _ _ _ => timers _ _) ?_ (fun _ _ _ _ _ _ _ _ => panic) ?_
  · intro e en hr hf hz; exact expired r.1 e en (Prod.ext rfl hr) hf hz
  · intro e en q' key w hr hf _ _; exact rearmed r.1 e en q' key _ _ w (Prod.ext rfl hr) hf

/-- One iteration of `poll_expired`: an entry stays (possibly re-keyed), or its deadline has passed, or the re-arming
insert panicked. -/
theorem expireWith_track {x : Option Nat} {b : Snap} {s : St} {now : Nat} (hi : Inv' x b s now)
    (r : DelayQ × DelayQ.PollRes) (hr : r = s.timers.pollExpired now) :
    TB s (expireWith s now r).st ∧
    ∀ e ∈ s.inflight, Kept e.id e.ctx.deadline (expireWith s now r).st ∨ e.ctx.deadline ≤ now ∨
      (expireWith s now r).st.poisoned = true := by
  obtain ⟨hsome, _⟩ := hi.t.expired hi.i.inNodup
  rw [← hr] at hsome
  refine expireWith_outcomes (motive := fun st => TB s st.st ∧ ∀ e ∈ s.inflight, Kept e.id e.ctx.deadline st.st ∨
    e.ctx.deadline ≤ now ∨ st.st.poisoned = true) s now r ?_ ?_ ?_ ?_
  · intro q _
    exact ⟨.of_same, fun e' he' => Or.inl ⟨e', he', rfl, rfl⟩⟩
  · exact ⟨(tb_emit _ _ rfl rfl).after (.of_same (h3 := fun _ => rfl)), fun _ _ => Or.inr (Or.inr rfl)⟩
  · intro q e en q' key t due w _ _
    -- re-keying leaves id and deadline of every entry alone
    have hk : ∀ s2 : St, s2.inflight = s.inflight.map (rearmEntry e.val key t due) →
        ∀ e' ∈ s.inflight, Kept e'.id e'.ctx.deadline s2 := by
      intro s2 h2 e' he'
      refine ⟨rearmEntry e.val key t due e', by rw [h2]; exact List.mem_map_of_mem he', ?_, ?_⟩
      · exact (rearmEntry_same _ _ _ _ e').1
      · rw [(rearmEntry_same _ _ _ _ e').2.2]
    cases w with
    | true =>
      exact ⟨(tb_wakeDispatch _).after .of_same,
        fun e' he' => Or.inl (hk _ (Flow.wakeDispatch_inflight _) e' he')⟩
    | false => exact ⟨.of_same, fun e' he' => Or.inl (hk _ rfl e' he')⟩
  · intro q e en hre hf hz
    -- the timer that fired is the one the entry holds: its deadline has passed
    obtain ⟨en0, hen0, hid0, _, hdue, _, hdl, _, hdue2, _⟩ := hsome e (by rw [hre])
    obtain ⟨hen, hid⟩ := findEntry_some hf
    have heq : en = en0 := eq_of_map_nodup (f := (·.id)) hi.i.inNodup hen hen0 (by rw [hid, hid0])
    subst heq
    refine ⟨(tb_osSend _ _ _).after .of_same, ?_⟩
    intro e' he'
    by_cases hx : e'.id = e.val
    · have : e' = en := eq_of_map_nodup (f := (·.id)) hi.i.inNodup he' hen (by rw [hx, hid])
      subst this
      right; left; omega
    · left
      refine ⟨e', ?_, rfl, rfl⟩
      show e' ∈ (osSend _ _ _).inflight
      rw [osSend_inflight]
      exact List.mem_filter.mpr ⟨he', by simpa using hx⟩

theorem tr_of_expire {now : Nat} {s s' : St} (tb : TB s s')
    (hk : ∀ e ∈ s.inflight, Kept e.id e.ctx.deadline s' ∨ e.ctx.deadline ≤ now ∨ s'.poisoned = true) : TR now s s' :=
  tb.tr_remove now (fun e he => by
    rcases hk e he with h | h | h
    · exact Or.inl h
    · exact Or.inr (Or.inr (Or.inr (Or.inr (Or.inl h))))
    · exact Or.inr (Or.inr (Or.inr (Or.inr (Or.inr (Or.inr (Or.inl h)))))))

theorem hasT_tNext_item {s s1 : St} {m : Msg} (h : tNext s = (s1, .item m)) :
    Obs.tNext (tid s) (.item m) ∈ s1.obs.filter Flow.isT := by
  have e1 : s1 = (tNext s).1 := by rw [h]
  have r1 : (tNext s).2 = .item m := by rw [h]
  rw [e1]
  rw [Flow.tNext_eq] at r1 ⊢
  split at r1
  · cases r1
  · rename_i hf
    rw [if_neg hf]
    simp only at r1 ⊢
    rw [r1]
    simp

theorem tr_read {now : Nat} {s s1 : St} {id : Nat} {res : Res} (e1 : tNext s = (s1, .item (.response id res))) :
    TR now s (completeRequest s1 id (outcomeOf res)).1 := by
  have h1 := tr_tNext now s
  rw [e1] at h1
  obtain ⟨tb, hk⟩ := completeRequest_track s1 id (outcomeOf res)
  refine h1.trans (tb.tr_remove now (fun e he => ?_))
  by_cases hx : e.id = id
  · right; left
    refine ⟨.tNext (tid s) (.item (.response id res)), ?_, by simp [isRead, hx]⟩
    rw [tb.tobs]; exact hasT_tNext_item e1
  · exact Or.inl ⟨e, hk e he hx, rfl, rfl⟩

theorem Step.tr {x : Option Nat} {b : Snap} {now : Nat} {a : Act} {s s' : St} (ha : RoundK a) (st : Step now a s s')
    (hi : Inv' x b s now) : TR now s s' := by
  have recv : ∀ {s s1 : St} {r : DReq}, pqRecv s = (s1, .item r) → TR now s s1 := fun {s _ _} e => by
    have := tr_pqRecv now s; rwa [e] at this
  cases st with
  | ready => exact tr_tReady now _
  | flush => exact tr_tFlush now _
  | spin => exact tr_emit_spin now _ _
  | close => exact tr_tClose now _
  | pqIdle hx => exact tr_pqRecv now _
  | pqSkip e hc => exact recv e
  | reqPanic hr e hc hins hp => exact (recv e).trans (tr_insertRequest hins)
  | reqSent hr e hc hins hp ht => exact (recv e).trans (tr_req_sent hins hp ht)
  | reqFailed hr e hc hins hp ht => exact (recv e).trans (tr_req_failed hins hp ht)
  | cqIdle hx => exact (tb_cqRecv _).tr now (qc_cqRecv_noItem s hx).inflight
  | cqMiss e hc => exact tr_cancel e hc (fun _ h => by cases h) (fun _ => rfl)
  | cancel e hc ht => exact tr_cancel e hc (fun _ h => by cases h; exact ⟨_, ht⟩) (fun h => by cases h)
  | expire =>
    obtain ⟨tb, hk⟩ := expireWith_track hi (s.timers.pollExpired now) rfl
    exact tr_of_expire tb hk
  | readIdle hx => exact tr_tNext now _
  | read e => exact tr_read e
  | _ => exact False.elim ha

theorem tr_run {x : Option Nat} {b : Snap} {now : Nat} (fuel : Nat) (s : St) (hi : Inv' x b s now) :
    TR now s (run fuel s now).1 :=
  ((run_steps now fuel s).kept (P := fun s' => Inv' x b s' now ∧ TR now s s')
    (fun ha st h => ⟨Inv'.step (round_le_core _ ha) st h.1, h.2.trans (Step.tr ha st h.1)⟩) ⟨hi, TR.refl now s⟩).2

/-! ### shutdown, `RequestDispatch::poll` -/

theorem tb_failAll (s : St) (a : Activity) : TB s (failAll s a) := by
  unfold failAll
  simp only
  exact (tb_foldl _ (fun s (e : Entry) => tb_osSend s e.cid _) _ _).after .of_same

theorem tb_drainLoop (fuel : Nat) (s : St) (a : Activity) : TB s (drainLoop fuel s a).1 :=
  (drainLoop_steps 0 fuel s a).lift TB.refl TB.trans fun {_ s0 _} ha st => by
    cases st with
    | pqIdle hx => exact tb_pqRecv _
    | pqSkip e hc => have := tb_pqRecv s0; rwa [e] at this
    | drainFail a e hc => have := tb_pqRecv s0; rw [e] at this; exact this.trans (tb_osSend _ _ _)
    | _ => exact False.elim ha

/-- shutting down with a terminal error: everything tracked is failed — the excuse is the terminal error -/
theorem tr_shutDown (now : Nat) (s : St) (a : Activity) (ht : s.termErr.isSome = true) : TR now s (shutDown s a).1 := by
  have tb : TB s (shutDown s a).1 := by
    unfold shutDown
    simp only
    exact (tb_drainLoop _ _ a).after ((tb_failAll _ a).after (tb_pqClose s))
  refine tb.tr_remove now (fun e he => Or.inr ?_)
  refine Or.inr (Or.inr (Or.inr (Or.inr (Or.inr (Or.inr ?_)))))
  rw [tb.te]; exact ht

theorem tr_pollDispatchCore {x : Option Nat} {b : Snap} {now : Nat} {s : St} (hi : Inv' x b s now) :
    TR now s (pollDispatchCore s now).1 := by
  have hr := tr_run (runFuel s) s hi
  -- `shutDown` runs only with the terminal error set: that is the excuse for what it fails
  refine Flow.pollDispatchCore_cases (motive := fun p => TR now s p.1) s now ?_ ?_ ?_ ?_ ?_
  · intro a s1 fin hta e1; exact of_fst e1 (tr_shutDown now s a (by rw [hta]; rfl))
  · intro s1 _ e1; exact of_fst e1 hr
  · intro s1 _ e1; exact of_fst e1 hr
  · intro s1 _ e1
    exact (of_fst e1 hr).trans ((.of_same (h3 := fun _ => rfl) : TB s1 { s1 with poisoned := true }).tr now rfl)
  · intro s1 a s2 fin _ e1 e2
    have h1 : TR now s1 { s1 with termErr := some a } :=
      ⟨fun _ h => h, fun _ h => Or.inl h, rfl, fun h => h, fun _ => rfl,
       fun e he => Or.inl ⟨e, he, rfl, rfl⟩, fun _ h _ _ _ => Or.inl h⟩
    exact ((of_fst e1 hr).trans h1).trans (of_fst e2 (tr_shutDown now { s1 with termErr := some a } a rfl))

/-! ### a whole poll, the drop of the dispatch, the other ops -/

theorem TR0.of_same {now : Nat} {s s' : St} (h1 : s'.obs.filter Flow.isT = s.obs.filter Flow.isT := by rfl)
    (h2 : s'.inflight = s.inflight := by rfl) (h3 : s'.dDropped = s.dDropped := by rfl)
    (h4 : s'.poisoned = s.poisoned := by rfl) (h5 : s'.termErr = s.termErr := by rfl) : TR0 now s s' :=
  ⟨fun o ho => h1 ▸ ho, fun h => by rw [h3]; exact h, fun h => by rw [h4]; exact h, fun h => by rw [h5]; exact h,
   fun e he => Or.inl ⟨e, h2 ▸ he, rfl, rfl⟩, fun o ho _ _ _ => Or.inl (h1 ▸ ho)⟩

theorem tr0_emit (now : Nat) (s : St) (o : Obs) (h : Flow.isT o = false) : TR0 now s (emit s o) :=
  .of_same (by rw [Flow.emit_obs, List.filter_cons, h]; rfl)

/-- the end of a dispatch poll: the bookkeeping of `pollDispatchKeep` after `pollDispatchCore` -/
theorem tr0_keepFinish {now : Nat} {s c1 : St} (h : TR now s c1) (r : Ret) : TR0 now s (Flow.keepFinish s.obs c1 r) := by
  unfold Flow.keepFinish
  split
  · -- the poll spun: its observations are replaced by one `spin`, the dispatch is poisoned
    refine ⟨?_, fun hd => by rw [← h.dd] at hd; exact hd, fun _ => rfl, h.te, ?_, ?_⟩
    · intro o ho
      simp only [List.filter_cons, Flow.isT_spin, ↓reduceIte]
      exact List.mem_cons_of_mem _ ho
    · intro e _
      exact Or.inr (Or.inr (Or.inr (Or.inr (Or.inr (Or.inr (Or.inl rfl))))))
    · intro o ho id dl hr
      simp only [List.filter_cons, Flow.isT_spin, ↓reduceIte] at ho
      rcases List.mem_cons.mp ho with rfl | ho
      · simp [isReqOk] at hr
      · exact Or.inl ho
  · split
    · exact h.tr0
    · exact (h.tr0.trans (tr0_emit now _ _ rfl)).trans (tr0_emit now _ _ rfl)

theorem tr0_keepDone (now : Nat) (r : Ret) (s : St) : TR0 now s (Flow.keepDone r s) := by
  unfold Flow.keepDone
  split
  · exact TR0.refl _ _
  · exact .of_same

theorem dropStages_dDropped (s : St) : (dropI (dropQ (pqClose s))).dDropped = s.dDropped := by
  have h1 : ∀ s, (dropI s).dDropped = s.dDropped := fun s => by
    unfold dropI; exact foldl_field (·.dDropped) (fun s (e : Entry) => osDropTx s e.cid) (fun s e => osDropTx_dDropped s e.cid) _ _
  have h2 : ∀ s, (dropQ s).dDropped = s.dDropped := fun s => by
    unfold dropQ; exact foldl_field (·.dDropped) (fun s (r : DReq) => osDropTx s r.cid) (fun s r => osDropTx_dDropped s r.cid) _ _
  have h3 : ∀ s, (pqClose s).dDropped = s.dDropped := fun s => by
    unfold pqClose; exact foldl_field (·.dDropped) wakeCall (fun s w => wakeCall_dDropped s w) _ _
  rw [h1, h2, h3]

theorem dropStages_poisoned (s : St) : (dropI (dropQ (pqClose s))).poisoned = s.poisoned := by
  have h1 : ∀ s, (dropI s).poisoned = s.poisoned := fun s => by
    unfold dropI; exact foldl_field (·.poisoned) (fun s (e : Entry) => osDropTx s e.cid) (fun s e => osDropTx_poisoned s e.cid) _ _
  have h2 : ∀ s, (dropQ s).poisoned = s.poisoned := fun s => by
    unfold dropQ; exact foldl_field (·.poisoned) (fun s (r : DReq) => osDropTx s r.cid) (fun s r => osDropTx_poisoned s r.cid) _ _
  have h3 : ∀ s, (pqClose s).poisoned = s.poisoned := fun s => by
    unfold pqClose; exact foldl_field (·.poisoned) wakeCall (fun s w => wakeCall_poisoned s w) _ _
  rw [h1, h2, h3]

theorem tr0_dropDispatch (now : Nat) (s : St) : TR0 now s (dropDispatch s) := by
  have hA := Flow.dropDispatch_frameA s
  rw [dropDispatch_stages] at hA ⊢
  split
  · exact tr0_emit now _ _ rfl
  · rename_i hg
    rw [if_neg hg] at hA
    have hdd : ({ dropI (dropQ (pqClose { s with dDropped := true, dWoken := false })) with cq := [] } : St).dDropped = true := by
      show (dropI (dropQ (pqClose { s with dDropped := true, dWoken := false }))).dDropped = true
      rw [dropStages_dDropped]
    have hpo : ({ dropI (dropQ (pqClose { s with dDropped := true, dWoken := false })) with cq := [] } : St).poisoned = s.poisoned := by
      show (dropI (dropQ (pqClose { s with dDropped := true, dWoken := false }))).poisoned = s.poisoned
      rw [dropStages_poisoned]
    refine ⟨fun o ho => hA.tobs ▸ ho, fun _ => hdd, fun h => by rw [hpo]; exact h, fun h => by rw [hA.termErr]; exact h, ?_,
      fun o ho _ _ _ => Or.inl (hA.tobs ▸ ho)⟩
    intro e _
    exact Or.inr (Or.inr (Or.inr (Or.inr (Or.inr (Or.inl hdd)))))

theorem tr0_pollDispatchKeep {x : Option Nat} {b : Snap} {now : Nat} {s : St} (hi : Inv' x b s now) :
    TR0 now s (pollDispatchKeep s now) := by
  rw [Flow.pollDispatchKeep_eq]
  split
  · exact tr0_emit now _ _ rfl
  · have h0 : TR now s { s with dWoken := false } := (.of_same : TB s { s with dWoken := false }).tr now rfl
    have i0 : Inv' x b { s with dWoken := false } now := hi.quiet (by exact .of_same)
    have h1 := h0.trans (tr_pollDispatchCore i0)
    exact (tr0_keepFinish h1 _).trans (tr0_keepDone now _ _)

theorem tr0_pollDispatch {x : Option Nat} {b : Snap} {now : Nat} {s : St} (hi : Inv' x b s now) :
    TR0 now s (pollDispatch s now) := by
  rw [Flow.pollDispatch_eq]
  split
  · exact (tr0_pollDispatchKeep hi).trans (tr0_dropDispatch now _)
  · exact tr0_pollDispatchKeep hi

/-! ### the call futures and the other ops leave the table and the flags alone -/

structure SameFl (s s' : St) : Prop where
  inflight : s'.inflight = s.inflight
  dDropped : s'.dDropped = s.dDropped
  poisoned : s'.poisoned = s.poisoned

theorem SameFl.refl (s : St) : SameFl s s := ⟨rfl, rfl, rfl⟩
theorem SameFl.trans {a b c : St} (h1 : SameFl a b) (h2 : SameFl b c) : SameFl a c :=
  ⟨h2.inflight.trans h1.inflight, h2.dDropped.trans h1.dDropped, h2.poisoned.trans h1.poisoned⟩
theorem SameFl.after {a b c : St} (h2 : SameFl b c) (h1 : SameFl a b) : SameFl a c := h1.trans h2

theorem same_emit (s : St) (o : Obs) : SameFl s (emit s o) := ⟨rfl, rfl, rfl⟩
theorem same_wakeDispatch (s : St) : SameFl s (wakeDispatch s) := ⟨by simp, by simp, by simp⟩
theorem same_osSend (s : St) (cid : Nat) (o : Outcome) : SameFl s (osSend s cid o) := ⟨by simp, by simp, by simp⟩
theorem SameFl.tr0 {s s' : St} (h : SameFl s s') (hA : Flow.FrameA s s') (now : Nat) : TR0 now s s' :=
  TR0.of_same hA.tobs h.inflight h.dDropped h.poisoned hA.termErr

/-- one step outside the dispatch: the dispatch's own state is left alone, it may get woken, and the request queue
changes under a sleeping dispatch only if the dispatch was not registered on it and it was not closed -/
structure PQS (s s' : St) : Prop where
  dd : s'.dDropped = s.dDropped
  dn : s'.done = s.done
  po : s'.poisoned = s.poisoned
  te : s'.termErr = s.termErr
  wok : s.dWoken = true → s'.dWoken = true
  inf : s'.inflight = s.inflight
  mx : s'.maxInFlight = s.maxInFlight
  t : s'.t = s.t
  cl : s'.pqClosed = s.pqClosed
  pq : s'.dWoken = false → s.dDropped = false → s.done = none →
    (s'.pq = s.pq ∧ s'.pqRxWaker = s.pqRxWaker) ∨ (s.pqRxWaker = false ∧ s.pqClosed = false)

theorem PQS.of_same {s s' : St} (dd : s'.dDropped = s.dDropped := by rfl) (dn : s'.done = s.done := by rfl)
    (po : s'.poisoned = s.poisoned := by rfl) (te : s'.termErr = s.termErr := by rfl) (wk : s'.dWoken = s.dWoken := by rfl)
    (inf : s'.inflight = s.inflight := by rfl) (mx : s'.maxInFlight = s.maxInFlight := by rfl) (t : s'.t = s.t := by rfl)
    (cl : s'.pqClosed = s.pqClosed := by rfl) (pq : s'.pq = s.pq := by rfl) (rx : s'.pqRxWaker = s.pqRxWaker := by rfl) :
    PQS s s' :=
  ⟨dd, dn, po, te, fun h => by rw [wk]; exact h, inf, mx, t, cl, fun _ _ _ => Or.inl ⟨pq, rx⟩⟩

theorem PQS.refl (s : St) : PQS s s := .of_same

theorem PQS.trans {a b c : St} (h1 : PQS a b) (h2 : PQS b c) : PQS a c := by
  refine ⟨h2.dd.trans h1.dd, h2.dn.trans h1.dn, h2.po.trans h1.po, h2.te.trans h1.te, fun h => h2.wok (h1.wok h),
    h2.inf.trans h1.inf, h2.mx.trans h1.mx, h2.t.trans h1.t, h2.cl.trans h1.cl, ?_⟩
  intro wk dd dn
  have wk1 : b.dWoken = false := by
    cases hb : b.dWoken with
    | false => rfl
    | true => have := h2.wok hb; rw [wk] at this; cases this
  rcases h2.pq wk (by rw [h1.dd]; exact dd) (by rw [h1.dn]; exact dn) with ⟨a1, a2⟩ | ⟨b1, b2⟩
  · rcases h1.pq wk1 dd dn with ⟨c1, c2⟩ | c
    · exact Or.inl ⟨a1.trans c1, a2.trans c2⟩
    · exact Or.inr c
  · rcases h1.pq wk1 dd dn with ⟨c1, c2⟩ | c
    · exact Or.inr ⟨by rw [← c2]; exact b1, by rw [← h1.cl]; exact b2⟩
    · exact Or.inr c

theorem PQS.after {a b c : St} (h2 : PQS b c) (h1 : PQS a b) : PQS a c := h1.trans h2

theorem PQS.same {s s' : St} (h : PQS s s') : SameFl s s' := ⟨h.inf, h.dd, h.po⟩

/-! ### the primitives of the call side -/

theorem pqs_emit (s : St) (o : Obs) : PQS s (emit s o) := .of_same
theorem pqs_updCall (s : St) (cid : Nat) (f : Call → Call) : PQS s (updCall s cid f) :=
  .of_same
theorem pqs_wakeCall (s : St) (cid : Nat) : PQS s (wakeCall s cid) := by
  obtain ⟨cs, os, e⟩ := Flow.wakeCall_only s cid
  rw [e]; exact .of_same
theorem pqs_osDropTx (s : St) (cid : Nat) : PQS s (osDropTx s cid) := by
  rcases Flow.osDropTx_out s cid with ⟨_, e⟩ | ⟨_, _, _, e⟩ <;> rw [e]
  · exact PQS.refl _
  · split
    · exact (pqs_wakeCall _ _).after (pqs_updCall _ _ _)
    · exact pqs_updCall _ _ _

theorem pqs_wakeDispatch (s : St) : PQS s (wakeDispatch s) :=
  ⟨by simp, by simp, by simp, by simp, Flow.wakeDispatch_dWoken_mono s, by simp, by simp, by simp, by simp,
   fun _ _ _ => Or.inl ⟨by simp, by simp⟩⟩

theorem pqs_woken {s x : St} (dd : x.dDropped = s.dDropped := by rfl) (dn : x.done = s.done := by rfl)
    (po : x.poisoned = s.poisoned := by rfl) (te : x.termErr = s.termErr := by rfl) (wk : x.dWoken = s.dWoken := by rfl)
    (inf : x.inflight = s.inflight := by rfl) (mx : x.maxInFlight = s.maxInFlight := by rfl) (t : x.t = s.t := by rfl)
    (cl : x.pqClosed = s.pqClosed := by rfl) : PQS s (wakeDispatch x) := by
  refine ⟨by simp [dd], by simp [dn], by simp [po], by simp [te], fun h => Flow.wakeDispatch_dWoken_mono x (by rw [wk]; exact h),
    by simp [inf], by simp [mx], by simp [t], by simp [cl], ?_⟩
  intro wk' dd0 dn0
  have := Flow.wakeDispatch_woken x (by rw [dd]; exact dd0) (by rw [dn]; exact dn0)
  rw [wk'] at this; cases this

theorem pqs_cqPush (s : St) (id : Nat) : PQS s (cqPush s id) := by
  unfold cqPush
  split
  · exact PQS.refl _
  · simp only
    split
    · exact (pqs_wakeDispatch _).after .of_same
    · exact .of_same

/-- a push onto the (open) request queue: a dispatch registered on it is woken -/
theorem pqs_pqPush (s : St) (r : DReq) (hcl : s.pqClosed = false) : PQS s (pqPush s r) := by
  unfold pqPush
  simp only
  split
  · exact pqs_woken
  · rename_i hw
    exact ⟨rfl, rfl, rfl, rfl, id, rfl, rfl, rfl, rfl, fun _ _ _ => Or.inr ⟨by simpa using hw, hcl⟩⟩

theorem pqs_pqRelease (s : St) : PQS s (pqRelease s) := by
  rcases Flow.pqRelease_out s with ⟨_, _, _, e⟩ | ⟨_, e⟩ <;> rw [e]
  · exact (pqs_wakeCall _ _).after .of_same
  · exact .of_same

theorem pqs_act {now : Nat} {a : Act} {s s' : St} (ha : CallK a) (st : Step now a s s') : PQS s s' := by
  cases st with
  | emit s o => exact pqs_emit s o
  | updCall s cid f => exact pqs_updCall s cid f
  | permits hp => obtain ⟨_, _, _, _, _, rfl⟩ := hp; exact .of_same
  | wakePq s => exact pqs_woken
  | wakeCq s => exact (pqs_wakeDispatch _).after .of_same
  | osDropTx s cid => exact pqs_osDropTx s cid
  | pqRelease s => exact pqs_pqRelease s
  | pqPush s r hcl => exact pqs_pqPush s r hcl
  | cqPush s id => exact pqs_cqPush s id
  | _ => exact False.elim ha

theorem pqs_afterCallGone (s : St) : PQS s (afterCallGone s) :=
  ((afterCallGone_steps 0 s).mono gone_le_call).lift PQS.refl PQS.trans pqs_act
theorem pqs_pollCall (s : St) (cid now : Nat) : PQS s (pollCall s cid now) := (pollCall_steps s cid now).lift PQS.refl PQS.trans pqs_act
theorem pqs_dropPre (s : St) (cid : Nat) : PQS s (dropPre s cid) := (dropPre_steps 0 s cid).lift PQS.refl PQS.trans pqs_act
theorem pqs_dropClose (s : St) (cid : Nat) : PQS s (dropClose s cid) := (dropClose_steps 0 s cid).lift PQS.refl PQS.trans pqs_act
theorem pqs_dropCancel (s : St) (cid : Nat) : PQS s (dropCancel s cid) := (dropCancel_steps 0 s cid).lift PQS.refl PQS.trans pqs_act
theorem pqs_dropFinish (s : St) (cid : Nat) : PQS s (dropFinish s cid) := (dropFinish_steps 0 s cid).lift PQS.refl PQS.trans pqs_act

theorem tr0_dropCall {x : Option Nat} {b : Snap} {now : Nat} {s : St} (hi : Inv' x b s now) (cid : Nat) (at_ : DropAt) :
    TR0 now s (dropCall s cid at_ now) := by
  have poll : ∀ s', Inv' x b s' now ∧ TR0 now s s' → Inv' x b (pollDispatch s' now) now ∧ TR0 now s (pollDispatch s' now) :=
    fun s' h => ⟨h.1.pollDispatch, h.2.trans (tr0_pollDispatch h.1)⟩
  refine dropCall_walk (I₁ := fun s' => Inv' x b s' now ∧ TR0 now s s') (I₂ := fun s' => Inv' x b s' now ∧ TR0 now s s')
    (I₃ := fun s' => Inv' x b s' now ∧ TR0 now s s') s cid at_ now ?_ poll ?_ poll ?_ poll ?_
  · exact ⟨hi.quiet (quiet_dropPre s cid), (pqs_dropPre s cid).same.tr0 (Flow.dropPre_frameA s cid) now⟩
  · intro s' h
    exact ⟨h.1.quiet (quiet_dropClose s' cid), h.2.trans ((pqs_dropClose s' cid).same.tr0 (Flow.dropClose_frameA s' cid) now)⟩
  · intro s' h
    exact ⟨h.1.quiet (quiet_dropCancel s' cid), h.2.trans ((pqs_dropCancel s' cid).same.tr0 (Flow.dropCancel_frameA s' cid) now)⟩
  · intro s' h
    exact h.2.trans ((pqs_dropFinish s' cid).same.tr0 (Flow.dropFinish_frameA s' cid) now)

/-! ### one op -/

theorem tobs_foldl_took (ms : List Msg) (s : St) :
    (ms.foldl (fun s m => emit s (.took (tid s) m)) s).obs.filter Flow.isT = s.obs.filter Flow.isT ∧
    SameFl s (ms.foldl (fun s m => emit s (.took (tid s) m)) s) ∧
    (ms.foldl (fun s m => emit s (.took (tid s) m)) s).termErr = s.termErr := by
  induction ms generalizing s with
  | nil => exact ⟨rfl, SameFl.refl _, rfl⟩
  | cons m ms ih =>
    simp only [List.foldl_cons]
    obtain ⟨a, b, c⟩ := ih (emit s (.took (tid s) m))
    exact ⟨by rw [a]; simp [emit], (same_emit _ _).trans b, by rw [c]; rfl⟩

theorem tr0_liftT (now : Nat) (s : St) (r : SimT × Bool) : TR0 now s (liftT s r) := by
  unfold liftT
  simp only
  split
  · refine TR0.of_same ?_ (by simp) (by simp) (by simp) (by simp)
    rcases Flow.wakeDispatch_out { s with t := r.1 } with ⟨_, e⟩ | ⟨_, e⟩ <;> rw [e]
    simp [emit]
  · exact .of_same

/-- **One op of a script**, as far as the tracking of transmitted requests is concerned. -/
theorem tr0_applyOp {c : Sys} (hi : StInv c.s c.now) (op : COp) : TR0 (applyOp c op).now c.s (applyOp c op).s := by
  refine Flow.applyOp_cases (P := fun now s' => TR0 now c.s s') c op ?_ ?_ ?_ ?_ ?_ ?_ ?_ ?_ ?_ ?_ ?_
  · intro hd ctx b
    refine SameFl.tr0 ?_ (Flow.newCall_frameA c.s hd ctx b) _
    unfold newCall; split
    · exact ⟨rfl, rfl, rfl⟩
    · exact same_emit _ _
  · intro cid; exact (pqs_pollCall c.s cid c.now).same.tr0 (Flow.pollCall_frameA _ _ _) _
  · intro cid site; exact tr0_dropCall hi cid site
  · intro hd
    refine SameFl.tr0 ?_ (Flow.cloneHandle_frameA c.s hd) _
    unfold cloneHandle; split
    · exact ⟨rfl, rfl, rfl⟩
    · exact same_emit _ _
  · intro hd
    refine SameFl.tr0 ?_ (Flow.dropHandle_frameA c.s hd) _
    unfold dropHandle; split
    · exact (pqs_afterCallGone _).same.after ⟨rfl, rfl, rfl⟩
    · exact same_emit _ _
  · exact tr0_pollDispatch hi
  · exact tr0_dropDispatch _ _
  · intro r; exact tr0_liftT _ _ _
  · intro t; exact .of_same
  · intro t ms
    obtain ⟨a, b, d⟩ := tobs_foldl_took ms { c.s with t := t }
    exact TR0.of_same a b.inflight b.dDropped b.poisoned d
  · intro n
    refine SameFl.tr0 ?_ (Flow.onAdvance_frameA c.s _) _
    unfold onAdvance
    split
    · split
      · exact (same_wakeDispatch _).after ⟨rfl, rfl, rfl⟩
      · exact SameFl.refl _
    · exact SameFl.refl _

/-! ### the terminal error is set only after an observed failure -/

/-- how the terminal error comes about: it was there, or a failing transport call (or a spin) was observed -/
structure TE (s s' : St) : Prop where
  mono : ∀ o ∈ s.obs.filter Flow.isT, o ∈ s'.obs.filter Flow.isT
  te : s'.termErr.isSome = true → s.termErr.isSome = true ∨ HasT isFail s' ∨ HasT Flow.isSpinObs s'

theorem TE.trans {a b c : St} (h1 : TE a b) (h2 : TE b c) : TE a c := by
  refine ⟨fun o ho => h2.mono o (h1.mono o ho), fun h => ?_⟩
  rcases h2.te h with h | h | h
  · rcases h1.te h with h | h | h
    · exact Or.inl h
    · exact Or.inr (Or.inl (h.mono h2.mono))
    · exact Or.inr (Or.inr (h.mono h2.mono))
  · exact Or.inr (Or.inl h)
  · exact Or.inr (Or.inr h)

theorem TE.of_frameA {s s' : St} (h : Flow.FrameA s s') : TE s s' :=
  ⟨fun o ho => h.tobs ▸ ho, fun ht => Or.inl (by rw [← h.termErr]; exact ht)⟩

theorem isFail_of_errObs {a : Activity} {o : Obs} (h : Flow.errObs a o = true) : isFail o = true := by
  unfold Flow.errObs at h
  split at h
  all_goals first | rfl | cases h

theorem liftT_termErr (s : St) (r : SimT × Bool) : (liftT s r).termErr = s.termErr := by
  unfold liftT; simp only; split <;> simp

theorem te_pollDispatchCore {x : Option Nat} {b : Snap} {now : Nat} {s : St} (hi : Inv' x b s now) :
    TE s (pollDispatchCore s now).1 := by
  have hm := (tr_pollDispatchCore hi).mono
  refine ⟨hm, ?_⟩
  revert hm
  have keep : ∀ {p}, run (runFuel s) s now = p → p.1.termErr.isSome = true → s.termErr.isSome = true := fun e ht => by
    subst e; rwa [Flow.run_termErr] at ht
  refine Flow.pollDispatchCore_cases (motive := fun p => (∀ o ∈ s.obs.filter Flow.isT, o ∈ p.1.obs.filter Flow.isT) →
    p.1.termErr.isSome = true → s.termErr.isSome = true ∨ HasT isFail p.1 ∨ HasT Flow.isSpinObs p.1) s now ?_ ?_ ?_ ?_ ?_
  · intro a s1 fin hta _ _ _; exact Or.inl (by rw [hta]; rfl)
  · intro s1 _ h1 _ ht; exact Or.inl (keep h1 ht)
  · intro s1 _ h1 _ ht; exact Or.inl (keep h1 ht)
  · intro s1 _ h1 _ ht; exact Or.inl (keep h1 ht)
  · intro s1 a s2 fin _ h1 h2 _ _
    right; left
    have ht := Flow.run_errTagged (runFuel s) s now a (by rw [h1])
    rw [h1] at ht
    obtain ⟨o, hl, he⟩ := ht
    have hA := Flow.shutDown_frameA { s1 with termErr := some a } a
    rw [h2] at hA
    refine ⟨o, ?_, isFail_of_errObs he⟩
    rw [hA.tobs]
    exact List.mem_of_mem_head? hl

theorem te_pollDispatch {x : Option Nat} {b : Snap} {now : Nat} {s : St} (hi : Inv' x b s now) :
    TE s (pollDispatch s now) := by
  refine ⟨(tr0_pollDispatch hi).mono, ?_⟩
  have hkd : ∀ (r : Ret) (s2 : St), (Flow.keepDone r s2).termErr = s2.termErr ∧ (Flow.keepDone r s2).obs = s2.obs := by
    intro r s2; unfold Flow.keepDone; split <;> exact ⟨rfl, rfl⟩
  have core : ∀ {s1 r}, pollDispatchCore { s with dWoken := false } now = (s1, r) → TE s s1 := fun e => by
    have := te_pollDispatchCore (s := { s with dWoken := false }) (hi.quiet (by exact .of_same))
    rw [e] at this; exact ⟨this.mono, this.te⟩
  have key : (pollDispatchKeep s now).termErr.isSome = true →
      s.termErr.isSome = true ∨ HasT isFail (pollDispatchKeep s now) ∨ HasT Flow.isSpinObs (pollDispatchKeep s now) := by
    refine Flow.pollDispatchKeep_cases (motive := fun s' => s'.termErr.isSome = true →
      s.termErr.isSome = true ∨ HasT isFail s' ∨ HasT Flow.isSpinObs s') s now (fun _ h => Or.inl h) ?_ ?_ ?_
    · intro s1 r _ _ _ _
      exact Or.inr (Or.inr ⟨.spin (tid s1), by rw [(hkd _ _).2]; simp, rfl⟩)
    · intro s1 r _ e _ _ ht
      rw [(hkd _ _).1] at ht
      unfold HasT; rw [(hkd _ _).2]
      exact (core e).te ht
    · intro s1 r _ e _ _ ht
      rw [(hkd _ _).1] at ht
      unfold HasT; rw [(hkd _ _).2]
      rcases (core e).te ht with h | ⟨o, ho, hp⟩ | ⟨o, ho, hp⟩
      · exact Or.inl h
      · exact Or.inr (Or.inl ⟨o, by simpa [Flow.emit_obs, List.filter_cons] using ho, hp⟩)
      · exact Or.inr (Or.inr ⟨o, by simpa [Flow.emit_obs, List.filter_cons] using ho, hp⟩)
  refine Flow.pollDispatch_cases (motive := fun s' => s'.termErr.isSome = true →
    s.termErr.isSome = true ∨ HasT isFail s' ∨ HasT Flow.isSpinObs s') s now key ?_
  intro ht
  have hA := Flow.dropDispatch_frameA (pollDispatchKeep s now)
  rw [hA.termErr] at ht
  rcases key ht with h | h | h
  · exact Or.inl h
  · exact Or.inr (Or.inl ((HasT.frameA hA).mpr h))
  · exact Or.inr (Or.inr ((HasT.frameA hA).mpr h))

theorem te_dropCall {x : Option Nat} {b : Snap} {now : Nat} {s : St} (hi : Inv' x b s now) (cid : Nat) (at_ : DropAt) :
    TE s (dropCall s cid at_ now) := by
  have poll : ∀ s', Inv' x b s' now ∧ TE s s' → Inv' x b (pollDispatch s' now) now ∧ TE s (pollDispatch s' now) :=
    fun s' h => ⟨h.1.pollDispatch, h.2.trans (te_pollDispatch h.1)⟩
  refine dropCall_walk (I₁ := fun s' => Inv' x b s' now ∧ TE s s') (I₂ := fun s' => Inv' x b s' now ∧ TE s s')
    (I₃ := fun s' => Inv' x b s' now ∧ TE s s') s cid at_ now ?_ poll ?_ poll ?_ poll ?_
  · exact ⟨hi.quiet (quiet_dropPre s cid), TE.of_frameA (Flow.dropPre_frameA s cid)⟩
  · intro s' h; exact ⟨h.1.quiet (quiet_dropClose s' cid), h.2.trans (TE.of_frameA (Flow.dropClose_frameA s' cid))⟩
  · intro s' h; exact ⟨h.1.quiet (quiet_dropCancel s' cid), h.2.trans (TE.of_frameA (Flow.dropCancel_frameA s' cid))⟩
  · intro s' h; exact h.2.trans (TE.of_frameA (Flow.dropFinish_frameA s' cid))

/-- **One op of a script**: a terminal error that appears was preceded by an observed failure (or a spin). -/
theorem te_applyOp {c : Sys} (hi : StInv c.s c.now) (op : COp) :
    (applyOp c op).s.termErr.isSome = true →
      c.s.termErr.isSome = true ∨ HasT isFail (applyOp c op).s ∨ HasT Flow.isSpinObs (applyOp c op).s := by
  -- all ops but the two that poll the dispatch leave `termErr` alone
  have same : ∀ s' : St, s'.termErr = c.s.termErr →
      s'.termErr.isSome = true → c.s.termErr.isSome = true ∨ HasT isFail s' ∨ HasT Flow.isSpinObs s' :=
    fun s' e h => Or.inl (e ▸ h)
  refine Flow.applyOp_cases (P := fun _ s' => s'.termErr.isSome = true → c.s.termErr.isSome = true ∨ HasT isFail s' ∨ HasT Flow.isSpinObs s')
    c op ?_ ?_ ?_ ?_ ?_ ?_ ?_ ?_ ?_ ?_ ?_
  · intro hd ctx b; exact same _ (Flow.newCall_frameA c.s hd ctx b).termErr
  · intro cid; exact same _ (Flow.pollCall_frameA c.s cid c.now).termErr
  · intro cid site; exact (te_dropCall hi cid site).te
  · intro hd; exact same _ (Flow.cloneHandle_frameA c.s hd).termErr
  · intro hd; exact same _ (Flow.dropHandle_frameA c.s hd).termErr
  · exact (te_pollDispatch hi).te
  · exact same _ (Flow.dropDispatch_frameA c.s).termErr
  · intro r; exact same _ (liftT_termErr _ _)
  · intro t; exact same _ rfl
  · intro t ms; exact same _ (tobs_foldl_took ms { c.s with t := t }).2.2
  · intro n; exact same _ (Flow.onAdvance_frameA c.s (c.now + n)).termErr

end TarpcModel.Client
