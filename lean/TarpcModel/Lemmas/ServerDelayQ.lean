import TarpcModel.Lemmas.DelayQFacts
/-!
The `(key, value)` pairs a `DelayQueue` holds (`DelayQ.kv`), as the server's table invariant `TableWF` sees them.  `kv` is
`cores` (`Lemmas/DelayQFacts.lean`) without the tick, `KvWF` is `KeysOk`; how `remove` and `pollExpired` change the pairs is
read off what they do to the cores.
-/
namespace TarpcModel.DelayQ

/-- `(key, value)` pairs of a list of queue entries. -/
def kvOf (l : List DqEntry) : List (Nat × Nat) := l.map (fun d => (d.key, d.val))

/-- The `(key, value)` pairs a queue holds (wheel first, then the already-expired stack). -/
def kv (q : DelayQ) : List (Nat × Nat) := kvOf (q.entries ++ q.expired)

@[simp] theorem kvOf_nil : kvOf [] = [] := rfl
@[simp] theorem kvOf_cons (d : DqEntry) (l : List DqEntry) : kvOf (d :: l) = (d.key, d.val) :: kvOf l := rfl

theorem kv_length (q : DelayQ) : q.kv.length = q.len := by simp [kv, kvOf, len]

/-- Well-formed queue: keys are pairwise distinct and below the key allocator. -/
structure KvWF (q : DelayQ) : Prop where
  nodup : (q.kv.map (·.1)).Nodup
  lt : ∀ p ∈ q.kv, p.1 < q.nextKey

/-! ### the pairs are the cores without the tick -/

theorem kv_eq_cores (q : DelayQ) : q.kv = q.cores.map (fun c => (c.1, c.2.1)) := by
  simp only [kv, kvOf, cores, items, List.map_map]; rfl

theorem kv_keys (q : DelayQ) : q.kv.map (·.1) = q.items.map (·.key) := by
  simp only [kv, kvOf, items, List.map_map]; rfl

theorem mem_kv {q : DelayQ} {p : Nat × Nat} : p ∈ q.kv ↔ ∃ c ∈ q.cores, (c.1, c.2.1) = p := by
  rw [kv_eq_cores, List.mem_map]

theorem kvWF_iff (q : DelayQ) : KvWF q ↔ KeysOk q := by
  constructor
  · intro h
    exact ⟨kv_keys q ▸ h.nodup, fun e he => h.lt (e.key, e.val) (List.mem_map.mpr ⟨e, he, rfl⟩)⟩
  · intro h
    refine ⟨(kv_keys q).symm ▸ h.nodup, fun p hp => ?_⟩
    obtain ⟨e, he, rfl⟩ := List.mem_map.mp hp
    exact h.lt e he

theorem KvWF.nodup_kv {q : DelayQ} (h : KvWF q) : q.kv.Nodup :=
  (List.pairwise_map.mp h.nodup).imp fun hne he => hne (congrArg (·.1) he)

/-! ### `pollExpired`, `remove` -/

theorem pollExpired_wf (q : DelayQ) (now : Nat) (hw : KvWF q) : KvWF (q.pollExpired now).1 :=
  (kvWF_iff _).mpr (pollExpired_WF (r := (q.pollExpired now).2) rfl ((kvWF_iff q).mp hw))

theorem remove_isSome_iff (q : DelayQ) (key : Nat) :
    (q.remove key).isSome = true ↔ key ∈ q.kv.map (·.1) := by
  rw [kv_keys, ← Decidable.not_iff_not, ← remove_none_iff]
  cases q.remove key <;> simp

theorem remove_some_spec (q : DelayQ) (key : Nat) (q' : DelayQ) (w : Bool)
    (h : q.remove key = some (q', w)) :
    q'.kv = q.kv.filter (·.1 != key) ∧ q'.nextKey = q.nextKey := by
  obtain ⟨_, e1, e2, e3, _⟩ := remove_cases h
  refine ⟨?_, e3⟩
  simp only [kv, kvOf, e1, e2, List.map_append, List.filter_append, List.filter_map]
  rfl

theorem remove_some_wf (q : DelayQ) (key : Nat) (q' : DelayQ) (w : Bool)
    (h : q.remove key = some (q', w)) (hw : KvWF q) : KvWF q' :=
  (kvWF_iff _).mpr (remove_WF h ((kvWF_iff q).mp hw))

end TarpcModel.DelayQ
