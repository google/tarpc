import TarpcModel.Lemmas.Basic
/-!
The induction behind "the monitor accepts every trace of the model".

Client and server define `stepOp` and `trace` by the same text over their own types (`Client/Run.lean`,
`Server/Run.lean`): every op contributes its event and then the observations it emitted.  `TraceOf` is that shape;
`TraceOf.fold` says that a relation `K` between the accumulator of any fold over the trace and the system — indexed by
the ops still to run — that every op carries across its own segment holds at the end.  `Z` is an absorbing set of
accumulators (the monitors' "a task spun: nothing is judged any more"), in which the relation may be given up.
`fold_final` also names the system the trace ends in; `forall_mem` is the form for a property of the single events.
-/
namespace TarpcModel

structure TraceOf {C Op Ev O : Type} (stepOp : C → Op → C × List O) (evOp : Op → Ev) (evObs : O → Ev)
    (trace : C → List Op → List Ev) : Prop where
  nil : ∀ c, trace c [] = []
  cons : ∀ c op ops, trace c (op :: ops) = evOp op :: ((stepOp c op).2.map evObs ++ trace (stepOp c op).1 ops)

/-- the system after the ops -/
def TraceOf.final {C Op O : Type} (stepOp : C → Op → C × List O) (c : C) (ops : List Op) : C :=
  ops.foldl (fun c op => (stepOp c op).1) c

theorem TraceOf.fold_final {C Op Ev O : Type} {stepOp : C → Op → C × List O} {evOp : Op → Ev} {evObs : O → Ev}
    {trace : C → List Op → List Ev} (ht : TraceOf stepOp evOp evObs trace) {A : Type} {f : A → Ev → A}
    {Z : A → Prop} (hZ : ∀ a e, Z a → Z (f a e)) {K : A → C → List Op → Prop}
    (hop : ∀ a c op ops, K a c (op :: ops) →
      Z (((stepOp c op).2.map evObs).foldl f (f a (evOp op))) ∨
      K (((stepOp c op).2.map evObs).foldl f (f a (evOp op))) (stepOp c op).1 ops)
    (ops : List Op) (a : A) (c : C) (h : Z a ∨ K a c ops) :
    Z ((trace c ops).foldl f a) ∨ K ((trace c ops).foldl f a) (TraceOf.final stepOp c ops) [] := by
  induction ops generalizing a c with
  | nil => rw [ht.nil]; exact h
  | cons op ops ih =>
    rcases h with h | h
    · exact .inl (foldl_keeps hZ _ h)
    · rw [ht.cons, List.foldl_cons, List.foldl_append]
      exact ih _ _ (hop a c op ops h)

/-- `fold_final` for a user who does not care which system the trace ends in -/
theorem TraceOf.fold {C Op Ev O : Type} {stepOp : C → Op → C × List O} {evOp : Op → Ev} {evObs : O → Ev}
    {trace : C → List Op → List Ev} (ht : TraceOf stepOp evOp evObs trace) {A : Type} {f : A → Ev → A}
    {Z : A → Prop} (hZ : ∀ a e, Z a → Z (f a e)) {K : A → C → List Op → Prop}
    (hop : ∀ a c op ops, K a c (op :: ops) →
      Z (((stepOp c op).2.map evObs).foldl f (f a (evOp op))) ∨
      K (((stepOp c op).2.map evObs).foldl f (f a (evOp op))) (stepOp c op).1 ops)
    (ops : List Op) (a : A) (c : C) (h : Z a ∨ K a c ops) :
    Z ((trace c ops).foldl f a) ∨ ∃ c', K ((trace c ops).foldl f a) c' [] :=
  (ht.fold_final hZ hop ops a c h).imp id (fun h => ⟨_, h⟩)

theorem TraceOf.forall_mem {C Op Ev O : Type} {stepOp : C → Op → C × List O} {evOp : Op → Ev} {evObs : O → Ev}
    {trace : C → List Op → List Ev} (ht : TraceOf stepOp evOp evObs trace) {Q : Ev → Prop} {K : C → List Op → Prop}
    (hop : ∀ c op ops, K c (op :: ops) → Q (evOp op) ∧ (∀ o ∈ (stepOp c op).2, Q (evObs o)) ∧ K (stepOp c op).1 ops)
    (ops : List Op) (c : C) (h : K c ops) : ∀ e ∈ trace c ops, Q e := by
  induction ops generalizing c with
  | nil => rw [ht.nil]; exact fun _ h => nomatch h
  | cons op ops ih =>
    obtain ⟨q1, q2, k'⟩ := hop c op ops h
    rw [ht.cons]
    intro e he
    rcases List.mem_cons.mp he with rfl | he
    · exact q1
    · rcases List.mem_append.mp he with he | he
      · obtain ⟨o, ho, rfl⟩ := List.mem_map.mp he; exact q2 o ho
      · exact ih _ k' e he

end TarpcModel
