import TarpcModel.Lemmas.ClientTop
import TarpcModel.Lemmas.ClientMech
/-!
# C18 (client side) — the trace context follows the request

Property theorems only.  The model is `TarpcModel.Client` (`Client/Model.lean`, `Client/Run.lean`), the monitor is
`monC18` (`Monitors/Client.lean`), the same decidable predicate the check evaluates on the implementation's
trace.  State-level statements are phrased over `view s` (`Lemmas/ClientIds.lean`): `(view s).get cid` is the
record of call `cid` (its context, phase, request id, child trace context, oneshot state, outcome),
`(view s).sentLog` is the transport's ghost log of accepted writes, `(view s).inflight` the in-flight table. A configuration is `initSys m b c coupled`: in-flight limit `m`, capacity `b` of the request
channel, capacity `c` of the transport's write buffer, readiness of the sink coupled to flushing or not.

The monitor identifies a request with its call through the request *body* (the harness makes bodies unique) and
expects callers to pass span ids of their own; both are hypotheses of the acceptance theorem and the two
`example`s at the end show that each is needed.
-/
namespace TarpcModel.Client

/-- **C18 (monitor form).**  For every configuration and every op sequence whose calls have pairwise distinct
bodies and caller-chosen (`given`) span ids, `monC18` accepts the model's trace: every request carries the
caller's trace id and sampling decision under a fresh span id of its own, and every `Cancel` carries the trace
context of the `Request` with the same id. -/
theorem C18_monitor_accepts (m b c : Nat) (coupled : Bool) (ops : List COp)
    (hbodies : (callBodies ops).Nodup) (hspans : ∀ op ∈ ops, SpanOk op) :
    (monC18 (trace (initSys m b c coupled) ops)).ok = true :=
  (combined_ok (combined_accepts m b c coupled ops hbodies hspans)).1

/-- **C18 (wire form).**  In every reachable state, a written `Request id` carries the child context of the one
call that owns `id`: the caller's trace id and sampling flag, and the span id `fresh id` drawn at the first poll
of that call — so two requests never share a span id, and none reuses its caller's. -/
theorem C18_request_carries_child_context (m b c : Nat) (coupled : Bool) (ops : List COp)
    (s : St) (hs : s = (ops.foldl applyOp (initSys m b c coupled)).s)
    (id dl : Nat) (tr : Trace) (body : Nat) (h : Msg.request id dl tr body ∈ (view s).sentLog) :
    ∃ cid cv, (view s).get cid = some cv ∧ cv.id = id ∧ cv.body = body ∧ cv.ctx.deadline = dl ∧
      tr = cv.trace ∧ tr.traceId = cv.ctx.trace.traceId ∧ tr.sampled = cv.ctx.trace.sampled ∧ tr.span = .fresh id := by
  subst hs
  have hi := reach_inv m b c coupled ops
  obtain ⟨i, cv, hg, hen, hid, htr, hb, hd⟩ := hi.reqCall id dl tr body h
  have ht := hi.tr i cv hg hen.polled
  refine ⟨i, cv, hg, hid, hb.symm, hd.symm, htr, ?_, ?_, ?_⟩ <;> rw [htr, ht] <;> simp [hid]

/-- **C18: a `Cancel` reuses the request's context.**  In every reachable state, a `Cancel id` on the wire
carries exactly the trace context of the `Request id` on the wire. -/
theorem C18_cancel_reuses_ctx (m b c : Nat) (coupled : Bool) (ops : List COp)
    (s : St) (hs : s = (ops.foldl applyOp (initSys m b c coupled)).s)
    (id dl : Nat) (tr tr' : Trace) (body : Nat)
    (hc : Msg.cancel id tr ∈ (view s).sentLog) (hr : Msg.request id dl tr' body ∈ (view s).sentLog) : tr = tr' := by
  subst hs
  have hi := reach_inv m b c coupled ops
  obtain ⟨i, cv, hg, hen, hid, htr, _, _⟩ := hi.reqCall id dl tr' body hr
  obtain ⟨_, _, j, cv', hg', hp', hid', htr', _⟩ := hi.canCall id tr hc
  have : i = j := hi.idInj i j cv cv' hg hg' hen.polled hp' (by omega)
  subst this
  rw [hg] at hg'; injection hg' with hg'; subst hg'
  rw [htr, htr']

/-- **C18 (mechanism).**  The context stored in an in-flight entry is the one its `Request` was written with
(`pollWriteRequest` inserts `r.ctx` and writes `r.ctx`), and `pollWriteCancel` (next theorem) writes the stored
context back. -/
theorem C18_entry_ctx_is_request_ctx (m b c : Nat) (coupled : Bool) (ops : List COp)
    (s : St) (hs : s = (ops.foldl applyOp (initSys m b c coupled)).s)
    (e : Entry) (he : e ∈ (view s).inflight) (dl : Nat) (tr : Trace) (body : Nat)
    (hr : Msg.request e.id dl tr body ∈ (view s).sentLog) : tr = e.ctx.trace ∧ dl = e.ctx.deadline := by
  subst hs
  have hi := reach_inv m b c coupled ops
  obtain ⟨i, cv, hg, hen, hid, htr, _, hd⟩ := hi.reqCall e.id dl tr body hr
  obtain ⟨cv', hg', hen', hid', hctx, _⟩ := hi.inf e he
  have : i = e.cid := hi.idInj i e.cid cv cv' hg hg' hen.polled hen'.polled (by omega)
  subst this
  rw [hg] at hg'; injection hg' with hg'; subst hg'
  rw [hctx]; exact ⟨htr, hd⟩

/-- **C18 (mechanism): `pollWriteCancel` writes the stored context.**  One call of `pollWriteCancel` either
writes nothing, or writes `Cancel e.id e.ctx.trace` for an entry `e` that was in flight, and removes it. -/
theorem C18_cancel_writes_stored_ctx (s : St) :
    (pollWriteCancel s).1.t.sentLog = s.t.sentLog ∨
    ∃ e, findEntry s e.id = some e ∧
      (pollWriteCancel s).1.t.sentLog = s.t.sentLog ++ [Msg.cancel e.id e.ctx.trace] ∧
      findEntry (pollWriteCancel s).1 e.id = none :=
  pollWriteCancel_spec s

/-! ### the hypotheses are needed, and satisfiable -/

/-- Two calls with the same body: the monitor attributes the second request to the first call and rejects. -/
example :
    (monC18 (trace (initSys 4 4 4 true)
      [.call 0 1000000000 ⟨7, .given 1, true⟩ 5, .call 0 1000000000 ⟨9, .given 2, false⟩ 5,
       .pollCall 0, .pollCall 1, .pollDispatch, .pollDispatch])).ok = false := by decide

/-- A caller that passes a span id of the form the code under test draws itself (`fresh 0`). -/
example :
    (monC18 (trace (initSys 4 4 4 true)
      [.call 0 1000000000 ⟨7, .fresh 0, true⟩ 5, .pollCall 0, .pollDispatch])).ok = false := by decide

/-- Non-vacuity: a request and its cancel are written, with the same (child) context. -/
example :
    ([COp.call 0 1000000000 ⟨7, .given 1, true⟩ 5, .pollCall 0, .pollDispatch, .dropCall 0 .none, .pollDispatch].foldl
        applyOp (initSys 4 4 4 true)).s.t.sentLog =
      [.request 0 1000000000 ⟨7, .fresh 0, true⟩ 5, .cancel 0 ⟨7, .fresh 0, true⟩] := by decide

end TarpcModel.Client
