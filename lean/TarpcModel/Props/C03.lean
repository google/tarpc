import TarpcModel.Lemmas.ClientTop
import TarpcModel.Lemmas.ClientMech
import TarpcModel.Lemmas.ClientStable
/-!
# C03 — abandoned calls are cancelled on the wire, exactly when needed

Property theorems only.  Model: `TarpcModel.Client`; monitor: `monC03` (`Monitors/Client.lean`).  State-level
statements are phrased over `view s` (`Lemmas/ClientIds.lean`); `reqIds` / `cancelIds` are the ids of the
`Request` / `Cancel` messages in the transport's ghost log `sentLog` of accepted writes.  A configuration is
`initSys m b c coupled`: in-flight limit `m`, capacity `b` of the request channel, capacity `c` of the transport's
write buffer, readiness of the sink coupled to flushing or not.

`s.poisoned` says that the dispatch task panicked (`deadlines.remove: invalid key`, `Request IDs should be unique`,
`DelayQueue::insert: invalid deadline`) or spun; the model keeps executing the rest of that poll, which the real
code does not, so the statements that relate the in-flight table to the wire are made for `poisoned = false`.

The monitor theorem covers the first two clauses of `checkC03` (no request after abandonment; preconditions of
every cancel).  The third clause (a cancel is owed after a writable dispatch poll that goes idle) is proved in `Props/C03Full.lean` (`C03_cancel_owed : C03FullStatement`).
-/
namespace TarpcModel.Client

/-! ### mechanism -/

/-- **C03: requests of abandoned calls are skipped.**  The dequeue loop of `poll_next_request` never hands out a
request whose oneshot receiver is closed. -/
theorem C03_skip_closed (fuel : Nat) (s : St) (r : DReq) (h : (nextRequestLoop fuel s).2 = .some r) :
    osIsClosed (nextRequestLoop fuel s).1 r.cid = false :=
  nextRequestLoop_skip_closed fuel s r h

/-- **C03: a `Cancel` is written only for a tracked request, once.**  One call of `pollWriteCancel` either writes
nothing, or writes `Cancel id` for an id that was in the in-flight table, and removes that entry (so a second
`Cancel id` would need a second insertion). -/
theorem C03_cancel_only_if_tracked (s : St) :
    (pollWriteCancel s).1.t.sentLog = s.t.sentLog ∨
    ∃ e, findEntry s e.id = some e ∧
      (pollWriteCancel s).1.t.sentLog = s.t.sentLog ++ [Msg.cancel e.id e.ctx.trace] ∧
      findEntry (pollWriteCancel s).1 e.id = none :=
  pollWriteCancel_spec s

/-! ### the wire, over all op sequences -/

/-- **C03: a request is written at most once**, and never while it is still queued. -/
theorem C03_request_written_at_most_once (m b c : Nat) (coupled : Bool) (ops : List COp)
    (s : St) (hs : s = (ops.foldl applyOp (initSys m b c coupled)).s) :
    (reqIds s.t.sentLog).Nodup ∧ ∀ r ∈ s.pq, r.id ∉ reqIds s.t.sentLog := by
  subst hs
  have h := reach_inv m b c coupled ops
  exact ⟨h.reqNodup, h.pqNotSent⟩

/-- **C03: what is in flight has been written.** -/
theorem C03_in_flight_was_written (m b c : Nat) (coupled : Bool) (ops : List COp)
    (s : St) (hs : s = (ops.foldl applyOp (initSys m b c coupled)).s) (hp : s.poisoned = false) :
    ∀ e ∈ s.inflight, e.id ∈ reqIds s.t.sentLog := by
  subst hs
  have h := reach_inv m b c coupled ops
  exact fun e he => h.infSent hp e he (by simp)

/-- **C03: every `Cancel` on the wire is justified.**  In every reachable state, for a `Cancel id` in the sent log:
`Cancel id` occurs once; the id is no longer in flight; the call that owns the id has closed its receiver and
neither holds nor was resolved from a server reply; and (unless the dispatch panicked) `Request id` was written
earlier. -/
theorem C03_cancel_justified (m b c : Nat) (coupled : Bool) (ops : List COp)
    (s : St) (hs : s = (ops.foldl applyOp (initSys m b c coupled)).s)
    (id : Nat) (tr : Trace) (h : Msg.cancel id tr ∈ s.t.sentLog) :
    (cancelIds s.t.sentLog).Nodup ∧ (∀ e ∈ s.inflight, e.id ≠ id) ∧
    (∃ cid cv, (view s).get cid = some cv ∧ cv.polled ∧ cv.id = id ∧ cv.rxClosed = true ∧
      okLike cv.outcome = false ∧ okLike cv.val = false) ∧
    (s.poisoned = false → id ∈ reqIds s.t.sentLog ∧
      ∀ l1 l2, s.t.sentLog = l1 ++ Msg.cancel id tr :: l2 → id ∈ reqIds l1) := by
  subst hs
  have hi := reach_inv m b c coupled ops
  obtain ⟨a, b', i, cv, hg, hp, hid, _, hrx, ho, hv⟩ := hi.canCall id tr h
  exact ⟨hi.canNodup, b', ⟨i, cv, hg, hp, hid, hrx, ho, hv⟩, fun hp' => ⟨a hp', fun l1 l2 hl => hi.canAfter hp' l1 id tr l2 hl⟩⟩

/-- **C03: the receiver is closed before the cancellation is queued.**  In every reachable state, every id in the
cancellation queue belongs to a polled call whose oneshot receiver is closed (the guard closes first; the
failed-`send` path closes, then queues).  Together with `C03_skip_closed` this is the argument of the source
comment: once the cancellation of an id is queued, `poll_next_request` will not hand that id out any more. -/
theorem C03_receiver_closed_before_cancel (m b c : Nat) (coupled : Bool) (ops : List COp)
    (s : St) (hs : s = (ops.foldl applyOp (initSys m b c coupled)).s) :
    ∀ id ∈ s.cq, ∃ cid cv, (view s).get cid = some cv ∧ cv.polled ∧ cv.id = id ∧ cv.rxClosed = true := by
  subst hs
  exact (reach_inv m b c coupled ops).cq

/-- **C03: a queued request with an open receiver belongs to a call that is still waiting.**  (A dropped or
resolved call has closed its receiver, so its queued request is one of those `C03_skip_closed` skips.) -/
theorem C03_open_receiver_means_waiting (m b c : Nat) (coupled : Bool) (ops : List COp)
    (s : St) (hs : s = (ops.foldl applyOp (initSys m b c coupled)).s) :
    ∀ r ∈ s.pq, ∃ cv, (view s).get r.cid = some cv ∧ cv.id = r.id ∧ (cv.rxClosed = false → cv.phase = .awaiting) := by
  subst hs
  intro r hr
  obtain ⟨cv, a1, _, a3, _, _, _, _, a8⟩ := (reach_inv m b c coupled ops).pq r hr
  exact ⟨cv, a1, a3, a8⟩

/-- **C03: a cancellation that finds nothing is final.**  If, in a reachable state, the cancellation of `id` is
queued (or the owner of `id` has otherwise closed its receiver) while `id` is not in flight — the request
completed, or was never transmitted — then `id` is never inserted into the in-flight table afterwards, whatever
ops follow: the cancellation dequeued without effect is not followed by an insertion it should have removed. -/
theorem C03_no_insertion_after_cancel_without_effect (m b c : Nat) (coupled : Bool) (ops : List COp)
    (c1 : Sys) (hc1 : c1 = ops.foldl applyOp (initSys m b c coupled))
    (id : Nat) (hcq : id ∈ c1.s.cq) (hnot : ∀ e ∈ c1.s.inflight, e.id ≠ id) (ops' : List COp) :
    ∀ e ∈ (ops'.foldl applyOp c1).s.inflight, e.id ≠ id := by
  subst hc1
  have hi := reach_inv m b c coupled ops
  have hst : Stable id none (view (ops.foldl applyOp (initSys m b c coupled)).s) := ⟨hi, hi.cq id hcq, hnot⟩
  exact (foldl_stable ops' hst).2.2

/-! ### the monitor -/

/-- `checkC03ab` (`Lemmas/ClientBook.lean`) is `checkC03` minus its third clause: they agree on every event that
is not the return of a dispatch poll. -/
theorem checkC03ab_eq (b : Book) (u : Unit) (e : CEv) (h : ∀ k r, e ≠ .obs (.ret (.dispatch k) r)) :
    checkC03ab b u e = checkC03 b u e := by
  cases e with
  | op o => rfl
  | obs o =>
    cases o with
    | ret t r => cases t <;> first | rfl | exact absurd rfl (h _ _)
    | _ => rfl

/-- **C03, first two clauses (monitor form).**  For every configuration and every op sequence (calls with pairwise
distinct bodies and caller-chosen span ids), the monitor made of the first two clauses of `checkC03` accepts the
model's trace: no `Request` is written for a call after a completed `drop-call` on it, and every `Cancel id` —
successful or not — follows a successful `Request id`, is the first `Cancel id`, and concerns a call that was not
resolved from a server reply. -/
theorem C03_monitor_accepts_first_two_clauses (m b c : Nat) (coupled : Bool) (ops : List COp)
    (hbodies : (callBodies ops).Nodup) (hspans : ∀ op ∈ ops, SpanOk op) :
    (monC03ab (trace (initSys m b c coupled) ops)).ok = true :=
  (combined_ok (combined_accepts m b c coupled ops hbodies hspans)).2.2

/-- The full property, third clause included (after a top-level dispatch poll during which the transport was
writable throughout, every abandoned call whose request is on the wire and has not ended has its `Cancel` on the
wire).  Proved in `Props/C03Full.lean` (`C03_cancel_owed`): on top of the invariants above it needs that `run`, with the
fuel `runFuel`, drains the cancellation queue. -/
def C03FullStatement : Prop :=
  ∀ (m b c : Nat) (coupled : Bool) (ops : List COp), (callBodies ops).Nodup → (∀ op ∈ ops, SpanOk op) →
    (monC03 (trace (initSys m b c coupled) ops)).ok = true

/-! ### non-vacuity -/

/-- An abandoned call whose request is on the wire gets its `Cancel`; `monC03` (all three clauses) accepts. -/
example :
    ([COp.call 0 1000000000 ⟨7, .given 1, true⟩ 5, .pollCall 0, .pollDispatch, .dropCall 0 .none, .pollDispatch].foldl
        applyOp (initSys 4 4 4 true)).s.t.sentLog =
      [.request 0 1000000000 ⟨7, .fresh 0, true⟩ 5, .cancel 0 ⟨7, .fresh 0, true⟩] ∧
    (monC03 (trace (initSys 4 4 4 true)
      [COp.call 0 1000000000 ⟨7, .given 1, true⟩ 5, .pollCall 0, .pollDispatch, .dropCall 0 .none, .pollDispatch])).ok = true := by
  decide

/-- A call abandoned before the dispatch ran: its request is skipped, nothing at all is written. -/
example :
    ([COp.call 0 1000000000 ⟨7, .given 1, true⟩ 5, .pollCall 0, .dropCall 0 .none, .pollDispatch].foldl
        applyOp (initSys 4 4 4 true)).s.t.sentLog = [] := by
  decide

end TarpcModel.Client
