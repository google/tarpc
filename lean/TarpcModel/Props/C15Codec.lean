import TarpcModel.Lemmas.C15Bincode
/-!
# C15 (value level, bincode) — shipped transports deliver messages intact

Property theorems only.  Model: `Wire/Varint.lean` (bincode 1.3 varint integer encoding),
`Wire/Bincode.lean` (tarpc's protocol types under `tokio_serde::formats::Bincode`),
`Wire/ErrorKind.lean` (the `io::ErrorKind` tables of `tarpc/src/util/serde.rs`, generated).

Everything here holds whatever integer type the kind is written as: the kind only ever appears as
`decodeKind (encodeKind k)`.  That the 18 portable kinds map to themselves (the source writes a `u32`,
`Gen.ekSerTy`) is `Props/C15ErrorKinds.lean`; that they would not if the kind were written as an untyped (`i32`)
literal is `Props/C15Witness.lean`.
-/
namespace TarpcModel.Bincode
open TarpcModel.Gen

/-! ## Varint integers -/

/-- Every `u64` round-trips, in front of any following bytes. -/
theorem C15_varint_roundtrip_u64 (v : Nat) (h : v < 2 ^ 64) (rest : Bytes) :
    decU64 (encU64 v ++ rest) = some (v, rest) := decU64_encU64 v rest h

theorem C15_varint_roundtrip_u32 (v : Nat) (h : v < 2 ^ 32) (rest : Bytes) :
    decU32 (encU32 v ++ rest) = some (v, rest) := decU32_encU32 v rest h

theorem C15_varint_roundtrip_u16 (v : Nat) (h : v < 2 ^ 16) (rest : Bytes) :
    decU16 (encU16 v ++ rest) = some (v, rest) := decU16_encU16 v rest h

theorem C15_varint_roundtrip_u128 (v : Nat) (h : v < 2 ^ 128) (rest : Bytes) :
    decU128 (encU128 v ++ rest) = some (v, rest) := decVarint128_encVarint128 v rest h

/-- Every `i32` round-trips (zigzag). -/
theorem C15_varint_roundtrip_i32 (i : Int) (h : -(2 ^ 31 : Int) ≤ i ∧ i < (2 ^ 31 : Int))
    (rest : Bytes) : decI32 (encI32 i ++ rest) = some (i, rest) :=
  decSigned_encSigned 32 (by decide) (by decide) i rest h

theorem C15_varint_roundtrip_i16 (i : Int) (h : -(2 ^ 15 : Int) ≤ i ∧ i < (2 ^ 15 : Int))
    (rest : Bytes) : decI16 (encI16 i ++ rest) = some (i, rest) :=
  decSigned_encSigned 16 (by decide) (by decide) i rest h

theorem C15_varint_roundtrip_i64 (i : Int) (h : -(2 ^ 63 : Int) ≤ i ∧ i < (2 ^ 63 : Int))
    (rest : Bytes) : decI64 (encI64 i ++ rest) = some (i, rest) :=
  decSigned_encSigned 64 (by decide) (by decide) i rest h

/-- Zigzag is a bijection between the integers and the naturals. -/
theorem C15_zigzag_bijective (i : Int) (n : Nat) :
    unzigzag (zigzag i) = i ∧ zigzag (unzigzag n) = n :=
  ⟨unzigzag_zigzag i, zigzag_unzigzag n⟩

/-- Whatever a `u64`-range varint read returns fits 64 bits (no reader can smuggle a wider value
into an id or a length). -/
theorem C15_varint_read_in_range (bs : Bytes) (v : Nat) (r : Bytes)
    (h : decU64 bs = some (v, r)) : v < 2 ^ 64 := decVarint_lt h

/-! ### What the reader accepts and rejects (checked against bincode 1.3.3) -/

/-- Non-canonical encodings are accepted: `fb 05 00` reads as `5`. -/
example : decU64 [0xfb, 5, 0] = some (5, []) := by decide +kernel
/-- …also with the widest prefix, and for a `u32` target as long as the *value* fits. -/
example : decU32 [0xfd, 5, 0, 0, 0, 0, 0, 0, 0] = some (5, []) := by decide +kernel
/-- A `u32` read of a value `≥ 2^32` is an error. -/
example : decU32 [0xfd, 5, 0, 0, 0, 1, 0, 0, 0] = none := by decide +kernel
/-- Prefix `254` (u128) is rejected by a `u64` read, `255` always, a short buffer always. -/
example : decU64 (0xfe :: List.replicate 16 0) = none ∧ decU64 [0xff] = none ∧
    decU128 [0xff] = none ∧ decU64 [0xfc, 1, 2, 3] = none ∧ decU64 [] = none := by decide +kernel
/-- Boundary encodings. -/
example : encU64 250 = [250] ∧ encU64 251 = [0xfb, 251, 0] ∧ encU64 65535 = [0xfb, 255, 255] ∧
    encU64 65536 = [0xfc, 0, 0, 1, 0] ∧ encU64 (2 ^ 32 - 1) = [0xfc, 255, 255, 255, 255] ∧
    encU64 (2 ^ 32) = [0xfd, 0, 0, 0, 0, 1, 0, 0, 0] ∧
    encU64 (2 ^ 64 - 1) = [0xfd, 255, 255, 255, 255, 255, 255, 255, 255] ∧
    encI32 (-1) = [1] ∧ encI32 1 = [2] ∧ encI32 (-2 ^ 31) = [0xfc, 255, 255, 255, 255] := by decide +kernel

/-! ## Body codecs used by the driver / harness -/

/-- `String` bodies: `u64` varint byte length + UTF-8 bytes. -/
theorem C15_body_string : BodyCodec encStr decStr strValid :=
  fun s rest h => decStr_encStr s rest h

/-- `u64` bodies. -/
theorem C15_body_u64 : BodyCodec encU64 decU64 (· < 2 ^ 64) :=
  fun v rest h => decU64_encU64 v rest h

/-! ## Messages -/

section
variable {T : Type} {encT : T → Bytes} {decT : Parser T} {PT : T → Prop}

/-- **C15 (client → server).**  Every `ClientMessage` — any request id, any deadline duration with
`nanos < 10^9`, any 128-bit trace id, any span id, either sampling decision, any body the body codec
round-trips — is read back exactly, from a stream (any bytes may follow) … -/
theorem C15_bincode_roundtrip_client_stream (hT : BodyCodec encT decT PT) (m : ClientMessage T)
    (hm : m.Valid PT) (rest : Bytes) :
    decClientMessage decT (encClientMessage encT m ++ rest) = some (m, rest) :=
  decClientMessage_encClientMessage hT m rest hm

/-- … and as a frame (`RejectTrailing`: the whole buffer is the message). -/
theorem C15_bincode_roundtrip_client (hT : BodyCodec encT decT PT) (m : ClientMessage T)
    (hm : m.Valid PT) : decodeClientMessage decT (encClientMessage encT m) = some m := by
  have := decClientMessage_encClientMessage hT m [] hm
  simp only [List.append_nil] at this
  simp [decodeClientMessage, complete, this]

/-- **C15 (server → client).**  Every `Response` is read back exactly, except that the kind `k` of an
error arrives as whatever `decodeKind (encodeKind k)` is (`k'`); ids, bodies and details are exact. -/
theorem C15_bincode_roundtrip_response_stream (hT : BodyCodec encT decT PT) (r : Response T)
    (hr : r.Valid PT) (k' : String)
    (hk : ∀ e, r.message = .err e → decodeKind (encodeKind e.kind) = some k') (rest : Bytes) :
    decResponse decT (encResponse encT r ++ rest) = some (r.withKind k', rest) :=
  decResponse_encResponse hT r hr k' hk rest

theorem C15_bincode_roundtrip_response (hT : BodyCodec encT decT PT) (r : Response T)
    (hr : r.Valid PT) (k' : String)
    (hk : ∀ e, r.message = .err e → decodeKind (encodeKind e.kind) = some k') :
    decodeResponse decT (encResponse encT r) = some (r.withKind k') := by
  have := C15_bincode_roundtrip_response_stream hT r hr k' hk []
  simp only [List.append_nil] at this
  simp [decodeResponse, complete, this]

/-- Successful responses need no assumption about kinds at all. -/
theorem C15_bincode_roundtrip_response_ok (hT : BodyCodec encT decT PT) (id : Nat) (t : T)
    (hid : id < 2 ^ 64) (ht : PT t) :
    decodeResponse decT (encResponse encT { requestId := id, message := .ok t }) =
      some { requestId := id, message := .ok t } := by
  have := C15_bincode_roundtrip_response hT { requestId := id, message := .ok t } ⟨hid, ht⟩ ""
    (by intro e h; cases h)
  simpa [Response.withKind] using this

/-- **C15, both directions** in one statement. -/
theorem C15_bincode_roundtrip (hT : BodyCodec encT decT PT) :
    (∀ m : ClientMessage T, m.Valid PT → decodeClientMessage decT (encClientMessage encT m) = some m) ∧
    (∀ (r : Response T) (k' : String), r.Valid PT →
      (∀ e, r.message = .err e → decodeKind (encodeKind e.kind) = some k') →
      decodeResponse decT (encResponse encT r) = some (r.withKind k')) :=
  ⟨fun m hm => C15_bincode_roundtrip_client hT m hm,
   fun r k' hr hk => C15_bincode_roundtrip_response hT r hr k' hk⟩

/-- Prefix-freeness (corollary): a client message's encoding determines the message and where it
ends — no encoding is a proper prefix of another, and encoding is injective. -/
theorem C15_prefix_free_client (hT : BodyCodec encT decT PT) (m₁ m₂ : ClientMessage T)
    (h₁ : m₁.Valid PT) (h₂ : m₂.Valid PT) (r₁ r₂ : Bytes)
    (h : encClientMessage encT m₁ ++ r₁ = encClientMessage encT m₂ ++ r₂) : m₁ = m₂ ∧ r₁ = r₂ := by
  have e₁ := decClientMessage_encClientMessage hT m₁ r₁ h₁
  have e₂ := decClientMessage_encClientMessage hT m₂ r₂ h₂
  rw [h, e₂] at e₁
  simp at e₁
  exact ⟨e₁.1.symm, e₁.2.symm⟩

/-- Same for responses (the kinds are compared after the wire mapping). -/
theorem C15_prefix_free_response (hT : BodyCodec encT decT PT) (a b : Response T)
    (ha : a.Valid PT) (hb : b.Valid PT) (ka kb : String)
    (hka : ∀ e, a.message = .err e → decodeKind (encodeKind e.kind) = some ka)
    (hkb : ∀ e, b.message = .err e → decodeKind (encodeKind e.kind) = some kb) (r₁ r₂ : Bytes)
    (h : encResponse encT a ++ r₁ = encResponse encT b ++ r₂) :
    a.withKind ka = b.withKind kb ∧ r₁ = r₂ := by
  have e₁ := C15_bincode_roundtrip_response_stream hT a ha ka hka r₁
  have e₂ := C15_bincode_roundtrip_response_stream hT b hb kb hkb r₂
  rw [h, e₂] at e₁
  simp at e₁
  exact ⟨e₁.1.symm, e₁.2.symm⟩

/-- The reader as the harness observes it (`readClientMessage`: value / error / panic) returns the
message for every valid message whose deadline is representable as an `Instant`
(`secs < 2^63`); cancels always are. -/
theorem C15_read_client_message (hT : BodyCodec encT decT PT) (m : ClientMessage T)
    (hm : m.Valid PT)
    (hd : ∀ r, m = .request r → r.context.deadline.secs < 2 ^ 63) :
    readClientMessage decT (encClientMessage encT m) = .value m := by
  have hdec := C15_bincode_roundtrip_client hT m hm
  cases m with
  | request r =>
    have hv : r.context.deadline.Valid := hm.1.1
    have hlt := hd r rfl
    simp only [readClientMessage, hdec]
    simp [encClientMessage, encRequest, encContext, List.append_assoc,
      decU32_encU32 0 _ (by decide), decDuration_encDuration _ _ hv, instantAddPanics]
    omega
  | cancel t id =>
    simp only [readClientMessage, hdec]
    simp [encClientMessage, List.append_assoc, decU32_encU32 1 _ (by decide)]

end

/-- Instances the driver runs: `String` and `u64` bodies. -/
theorem C15_bincode_roundtrip_string (m : ClientMessage String) (hm : m.Valid strValid) :
    decodeClientMessage decStr (encClientMessage encStr m) = some m :=
  C15_bincode_roundtrip_client C15_body_string m hm

theorem C15_bincode_roundtrip_u64 (m : ClientMessage Nat) (hm : m.Valid (· < 2 ^ 64)) :
    decodeClientMessage decU64 (encClientMessage encU64 m) = some m :=
  C15_bincode_roundtrip_client C15_body_u64 m hm

/-! ## Error kinds: the part that does not depend on the written integer type -/

/-- **C15: other kinds degrade to the generic kind.**  Every kind without its own arm in the write
table is written exactly like `Other` (the table's default, 16) and is read back as `Other`. -/
theorem C15_other_kinds_degrade (k : String) (hk : k ∉ portableKinds) :
    kindNum k = ekSerDefault ∧ encodeKind k = encodeKind "Other" ∧
      decodeKind (encodeKind k) = some "Other" := by
  have h1 : kindNum k = ekSerDefault := lookupSer_of_not_mem k _ _ hk
  have h2 : kindNum "Other" = ekSerDefault := by decide
  have h3 : encodeKind k = encodeKind "Other" := by
    simp only [encodeKind, encodeKindWith, h1, h2]
  refine ⟨h1, h3, ?_⟩
  rw [h3]
  decide +kernel

/-- Read side: every integer without its own arm in the read table is read as the default kind. -/
theorem C15_unknown_numbers_degrade (i : Int) (h : ∀ n ∈ ekDeTable.map (·.1), i ≠ (n : Int)) :
    kindOfNum i = ekDeDefault := by
  unfold kindOfNum
  split
  · rfl
  · next hneg =>
    refine lookupDe_of_not_mem _ _ _ fun hm => ?_
    obtain ⟨p, hp, e⟩ := List.mem_map.mp hm
    exact h _ (List.mem_map.mpr ⟨p, hp, rfl⟩) (by omega)

/-! ## Non-vacuity: concrete messages and their exact bytes (as produced by the real crate) -/

/-- There are 18 portable kinds, `Other` among them, and e.g. `OutOfMemory` is not. -/
example : portableKinds.length = 18 ∧ "Other" ∈ portableKinds ∧ "OutOfMemory" ∉ portableKinds :=
  portableKinds_sample

/-- `ClientMessage::Cancel { trace_context: {0x0102…10, 300, Unsampled}, request_id: 70000 }`. -/
example :
    encClientMessage encU64
      (.cancel { traceId := 0x0102030405060708090a0b0c0d0e0f10, spanId := 300, sampled := false } 70000) =
      [0x01, 0x10, 0x0f, 0x0e, 0x0d, 0x0c, 0x0b, 0x0a, 0x09, 0x08, 0x07, 0x06, 0x05, 0x04, 0x03, 0x02,
       0x01, 0xfb, 0x2c, 0x01, 0x01, 0xfc, 0x70, 0x11, 0x01, 0x00] := by decide +kernel

/-- A `u64`-bodied request: deadline 5 s + 7 ns, id 251, body `2^32`; bytes and read-back. -/
def exampleRequest : ClientMessage Nat := .request
  { context := { deadline := { secs := 5, nanos := 7 },
                 trace := { traceId := 1, spanId := 300, sampled := true } },
    id := 251, message := 2 ^ 32 }

example :
    let m := exampleRequest
    encClientMessage encU64 m =
      [0x00, 0x05, 0x07, 1, 0, 0, 0, 0, 0, 0, 0, 0, 0, 0, 0, 0, 0, 0, 0, 0xfb, 0x2c, 0x01, 0x00,
       0xfb, 0xfb, 0x00, 0xfd, 0, 0, 0, 0, 1, 0, 0, 0] ∧
    decodeClientMessage decU64 (encClientMessage encU64 m) = some m ∧
    readClientMessage decU64 (encClientMessage encU64 m ++ [0]) = .error := by decide +kernel

/-- A `String`-bodied request (body `"hé"`, trace id `0x0102…10`, Unsampled): the exact bytes the real
crate produces, and the read-back (UTF-8 validated). -/
def exampleStringRequest : ClientMessage String := .request
  { context := { deadline := { secs := 5, nanos := 7 },
                 trace := { traceId := 0x0102030405060708090a0b0c0d0e0f10, spanId := 300,
                            sampled := false } },
    id := 251, message := "hé" }

def exampleStringRequestBytes : Bytes :=
  [0x00, 0x05, 0x07, 0x10, 0x0f, 0x0e, 0x0d, 0x0c, 0x0b, 0x0a, 0x09, 0x08, 0x07, 0x06, 0x05, 0x04, 0x03,
   0x02, 0x01, 0xfb, 0x2c, 0x01, 0x01, 0xfb, 0xfb, 0x00, 0x03, 0x68, 0xc3, 0xa9]

example : encClientMessage encStr exampleStringRequest = exampleStringRequestBytes ∧
    decodeClientMessage decStr exampleStringRequestBytes = some exampleStringRequest := by decide +kernel

/-- Invalid UTF-8 and a length running past the buffer are errors. -/
example : decStr [2, 0xff, 0xfe] = none ∧ decStr [0xfd, 255, 255, 255, 255, 255, 255, 255, 255, 1] = none ∧
    decStr [2, 0x68] = none := by decide +kernel

/-- The validity hypotheses are satisfiable (and this message is covered by the theorem). -/
example : (ClientMessage.request (T := String)
      { context := { deadline := { secs := 2 ^ 64 - 1, nanos := 999999999 },
                     trace := { traceId := 2 ^ 128 - 1, spanId := 2 ^ 64 - 1, sampled := true } },
        id := 2 ^ 64 - 1, message := "" }).Valid strValid := by
  refine ⟨⟨⟨by decide, by decide⟩, ⟨by decide, by decide⟩⟩, by decide, ?_⟩
  simp [strValid, strBytes]

/-- Serde's `Duration` reader normalises `nanos ≥ 10^9` and rejects a `secs` overflow. -/
example : decDuration [1, 0xfc, 0xff, 0xff, 0xff, 0xff] = some ({ secs := 5, nanos := 294967295 }, []) ∧
    decDuration [0xfd, 255, 255, 255, 255, 255, 255, 255, 255, 0xfc, 0xff, 0xff, 0xff, 0xff] = none := by
  decide +kernel

/-- A request whose deadline does not fit an `Instant` is not a panic for the reader (C16's concern: a reader that added
the duration to `Instant::now()` unchecked would panic here). -/
example : readClientMessage decU64
    ([0x00, 0xfd, 0, 0, 0, 0, 0, 0, 0, 0x80, 0] ++ List.replicate 16 0 ++ [0, 1, 0, 0]) ≠
      .panic := by decide +kernel

/-- Unknown enum variant indices are errors. -/
example : decodeClientMessage decU64 [2, 0] = none ∧ decodeResponse decU64 [0, 2, 0] = none := by
  decide +kernel

/-- An error response with a kind that is written as `0` under every integer type:
`Response { request_id: 1, message: Err(ServerError { kind: NotFound, detail: "x" }) }`. -/
example : encResponse encU64 { requestId := 1, message := .err { kind := "NotFound", detail := "x" } } =
    [0x01, 0x01, 0x00, 0x01, 0x78] := by decide +kernel

end TarpcModel.Bincode
