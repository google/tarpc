import TarpcModel.Lemmas.ClientFlowSink
/-
C09 (client half): transport failures are contained and reported with the right tag.

* `run` returns `Err(a)` immediately after the transport call that failed, and `a` is that call's activity
  (`poll_ready ↦ Ready`, `poll_flush ↦ Flush`, `poll_close ↦ Close`, `poll_next ↦ Read`, the `start_send` of a
  *cancel* message ↦ `Write`); the dispatch stores exactly this tag and reports exactly the stored tag.
* a failing `start_send` of a *request* does not end the dispatch: it completes that one call with
  `RpcError::Send` and leaves everything else alone.
-/
namespace TarpcModel.Client
open Flow

/-- **C09, error tag (inside `run`).**  `run` returns `Err(a)` right after the failing transport call: the most
recent transport observation is that call's, and it failed with the activity `a`. -/
theorem C09_run_error_tag (fuel : Nat) (s : St) (now : Nat) (a : Activity) (h : (run fuel s now).2 = .err a) :
    ∃ o, ((run fuel s now).1.obs.filter isT).head? = some o ∧ errObs a o = true :=
  run_errTagged fuel s now a h

/-- **C09, error tag (where it is stored).**  A poll that starts without a terminal error and ends with one (`a`)
made, as its last transport call, the call that failed, and `a` is the activity of that call. -/
theorem C09_error_tag (s : St) (now : Nat) (a : Activity) (ht : s.termErr = none)
    (h : (pollDispatchCore s now).1.termErr = some a) : ErrTagged (pollDispatchCore s now).1 a := by
  revert h
  have hrun : ∀ s1 r, run (runFuel s) s now = (s1, r) → ¬ s1.termErr = some a := by
    intro s1 r h1
    have hr := run_termErr (runFuel s) s now; rw [h1] at hr
    show ¬ s1.termErr = some a
    rw [hr, ht]; simp
  refine pollDispatchCore_cases (motive := fun p => p.1.termErr = some a → ErrTagged p.1 a) s now ?_ ?_ ?_ ?_ ?_
  · intro a' _ _ h' _ _; rw [ht] at h'; cases h'
  · intro s1 _ h1 h; exact absurd h (hrun _ _ h1)
  · intro s1 _ h1 h; exact absurd h (hrun _ _ h1)
  · intro s1 _ h1 h; exact absurd h (hrun s1 _ h1)
  · intro s1 a' s2 fin _ h1 h2 h
    have hA := shutDown_frameA { s1 with termErr := some a' } a'; rw [h2] at hA
    have ha : a' = a := by
      have := hA.termErr; rw [h] at this; cases this; rfl
    subst ha
    have hr := run_errTagged (runFuel s) s now a'; rw [h1] at hr
    obtain ⟨o, ho, he⟩ := hr rfl
    exact ⟨o, LastT.of_frameA hA ho, he⟩

/-- **C09, error tag (what is reported).**  The dispatch completes with `Err(a)` only with the stored terminal
error, which a poll never changes once set. -/
theorem C09_reports_stored_tag (s : St) (now : Nat) (a : Activity) :
    ((pollDispatchCore s now).2 = .readyErr a → (pollDispatchCore s now).1.termErr = some a) ∧
    (s.termErr = some a → (pollDispatchCore s now).1.termErr = some a) := by
  refine pollDispatchCore_cases (motive := fun p => (p.2 = .readyErr a → p.1.termErr = some a) ∧
    (s.termErr = some a → p.1.termErr = some a)) s now ?_ ?_ ?_ ?_ ?_
  · intro a' s1 fin ht h1
    have hA := shutDown_frameA s a'; rw [h1] at hA
    refine ⟨fun h => ?_, fun h => by rw [hA.termErr]; exact h⟩
    cases fin <;> simp at h
    subst h; rw [hA.termErr]; exact ht
  · intro s1 ht _; exact ⟨by simp, fun h => by rw [ht] at h; cases h⟩
  · intro s1 ht _; exact ⟨by simp, fun h => by rw [ht] at h; cases h⟩
  · intro s1 ht _; exact ⟨by simp, fun h => by rw [ht] at h; cases h⟩
  · intro s1 a' s2 fin ht _ h2
    have hA := shutDown_frameA { s1 with termErr := some a' } a'; rw [h2] at hA
    refine ⟨fun h => ?_, fun h => by rw [ht] at h; cases h⟩
    cases fin <;> simp at h
    subst h; rw [hA.termErr]

/-- **C09, a failing request write is local.**  When `start_send` of a request fails, `poll_write_request` still
returns `Ready(Some(Ok))` (the dispatch goes on), the in-flight table is as before the request was taken, no
panic site is hit, the terminal error is untouched, every other call is untouched, and exactly the call that
issued the request finds `RpcError::Send` in its oneshot. -/
theorem C09_send_failure_local {s s1 s2 s3 : St} {now : Nat} {r : DReq}
    (h1 : pollNextRequest s = (s1, .some r)) (h2 : insertRequest s1 now r = some s2)
    (hp : s2.poisoned = false)
    (h3 : tSend s2 (.request r.id r.ctx.deadline r.ctx.trace r.body) = (s3, false)) :
    pollWriteRequest s now = ((completeRequest s3 r.id .send).1, .some ()) ∧
    (completeRequest s3 r.id .send).1.inflight = s1.inflight ∧
    (completeRequest s3 r.id .send).1.poisoned = false ∧
    (completeRequest s3 r.id .send).1.termErr = s.termErr ∧
    (completeRequest s3 r.id .send).1.calls.filter (·.cid != r.cid) = s1.calls.filter (·.cid != r.cid) ∧
    (getCall (completeRequest s3 r.id .send).1 r.cid).map (·.os.val) = some (some .send) :=
  send_failure_local h1 h2 hp h3

/-! ### instances -/

def c09Trace : Trace := { traceId := 1, span := .given 0, sampled := false }

/-- two calls; the first request's `start_send` fails, the second is written; then the calls are polled -/
def c09SendFailOps : List COp :=
  [.call 0 1000000000 c09Trace 1, .call 0 1000000000 c09Trace 2, .pollCall 0, .pollCall 1, .fault .send,
   .pollDispatch, .pollCall 0, .pollCall 1]

/-- Non-trivial instance of `C09_send_failure_local`: the first call resolves with `RpcError::Send`, the second
request is in flight, the dispatch has no terminal error and is not poisoned. -/
example : ((c09SendFailOps.foldl applyOp (initSys 2 2 4 true)).s.calls.map (·.outcome)) = [some .send, none] ∧
    (c09SendFailOps.foldl applyOp (initSys 2 2 4 true)).s.inflight.length = 1 ∧
    (c09SendFailOps.foldl applyOp (initSys 2 2 4 true)).s.termErr = none ∧
    (c09SendFailOps.foldl applyOp (initSys 2 2 4 true)).s.poisoned = false := by decide

/-- a request is written, then `poll_flush` fails -/
def c09FlushFailOps : List COp :=
  [.call 0 1000000000 c09Trace 1, .pollCall 0, .fault .flush, .pollDispatch, .pollCall 0]

/-- Non-trivial instance of `C09_error_tag`: the failing `poll_flush` gives the terminal error `Flush`, the
dispatch completes with `Err(Flush)` and the call resolves with `RpcError::Channel(Flush)`. -/
example : (c09FlushFailOps.foldl applyOp (initSys 1 1 1 true)).s.termErr = some .flush ∧
    (c09FlushFailOps.foldl applyOp (initSys 1 1 1 true)).s.done = some (.readyErr .flush) ∧
    ((c09FlushFailOps.foldl applyOp (initSys 1 1 1 true)).s.calls.map (·.outcome)) = [some (.channel .flush)] := by
  decide

end TarpcModel.Client
