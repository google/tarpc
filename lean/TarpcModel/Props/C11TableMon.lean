import TarpcModel.Lemmas.ServerTab5
import TarpcModel.Props.C16Server
/-!
# C11 (server side) — the table clauses of the run-time monitor `monC11`

Property theorems only.  `Props/C11ServerMon.lean` has the counting clauses of `checkC11` (`checkC11Counts`) for every
configuration and script; what remained (`checkC11Rest`, `Lemmas/ServerMon11.lean`) compares the reported count with the
monitor's own table of yielded, unfinished requests.  `checkC11Rest` is three clauses (`C11S_rest_split`):

* `checkC11Bound`: never more requests in flight than the table lists (transport not failed);
* `checkC11Idle`: the stalled-limiter clause (finding F7; without limiter it has nothing to judge), and the idle clause:
  when a non-stalled poll of the request stream went idle — every queued guard cancellation and every due expiration has
  then been processed — *exactly* the requests of the table are in flight (ids re-used after a cancellation, an
  abandonment, an abort or an expiry excepted: `Book.reuseTainted`).

**Proved here**: `checkC11Idle` never fires (`C11S_idle_accepts`), for scripts with

* `limit = none` (F7);
* `advSum ops < 2^35 ms` (the timer wheel is complete below this clock bound);
* `DistinctIds ops`: the injected requests carry pairwise distinct ids (used by the proof; no counter-example is known
  for this clause — the monitor exempts tainted re-use itself);
* `NearOps ops`: every injected deadline lies within the clamp horizon (`≤ clampNs`, one year), so that no timer is ever
  re-armed.  This hypothesis cannot be dropped: `C11S_rearm_witness` — after a late re-arm poll the model aborts at the
  exact deadline while the monitor waits for the deadline's millisecond tick.

**The bound clause** `checkC11Bound` (judged at polls that do not go idle too) is in `Props/C11BoundMon.lean`
(`C11S_bound_accepts`), together with `checkC11Rest` (`C11S_table_accepts`) and the whole monitor
(`C11S_monitor_accepts`): the monitor's `sweepOne` removes from its table, at every transport read, "the due entry with
the smallest tick, if unique"; that this is the entry the model expired is a statement about the *order* in which the
timer wheel yields several due timers (`Lemmas/DelayQOrder.lean`).  `C11S_alarm_is_bound_clause`: on the scripts above,
whatever `monC11` reports is that clause.

The proof couples the book with the model a third time (`Tab.Y`, `Lemmas/ServerTabY.lean`; walked in
`Lemmas/ServerTab4.lean`, `ServerTab5.lean`): the book's `gone` marks are the executions' liveness; the ids in the
guard-cancellation queue belong to executions the book knows as abandoned, and every tracked abandoned request has its
cancellation queued; every table entry of the book is tracked by the model, or due, or abandoned; and
(`idle_count`) at an idle poll — no due timer (`requestsPollNext_idle_timers`), empty cancellation queue
(`requestsPollNext_idle_cq`) — the swept table and the model's table have the same ids.
-/
namespace TarpcModel.Server
open TarpcModel TarpcModel.Server.Flow TarpcModel.Server.Mon06 TarpcModel.Server.Mon11 TarpcModel.Server.Tab

/-- the monitor with the stalled-limiter and idle-channel clauses of `checkC11` only -/
def monC11Idle (limit : Option Nat) (evs : List SEv) : Mon Unit := Mon.run limit checkC11Idle () evs

/-- `checkC11Rest` is the bound clause followed by the stalled-limiter / idle-channel clauses. -/
theorem C11S_rest_split (b : Book) (u : Unit) (e : SEv) :
    (checkC11Rest b u e).2 = (checkC11Bound b u e).2.orElse fun _ => (checkC11Idle b u e).2 :=
  checkC11Rest_split b u e

/-- **C11 (server), monitor form, the idle channel.**  Without a limiter, for every script over all ops whose total
advanced time is below `2^35` ms, whose injected requests carry pairwise distinct ids and deadlines within the clamp
horizon — with cancellations, abandoned executions, expirations, transport faults — the idle clause of the C11 monitor
never fires on the model's trace: whenever a poll of the request stream goes idle, the number of requests the channel
reports in flight is the number of yielded requests that are unanswered, uncancelled, unexpired and not abandoned. -/
theorem C11S_idle_accepts (respCap tcap : Nat) (coupled : Bool) (ops : List SOp)
    (hT : advSum ops < 2 ^ 35 * nsPerMs) (hd : DistinctIds ops) (hnear : NearOps ops) :
    (monC11Idle none (trace (initSys none respCap tcap coupled) ops)).ok = true := by
  unfold Mon.ok monC11Idle
  rw [c11_idle_accepts C16_server_flags respCap tcap coupled ops hT hd hnear]; rfl

/-- what `NearOps` says, unfolded -/
theorem C11S_nearOps_iff (ops : List SOp) :
    NearOps ops ↔ ∀ id d tr b, SOp.injectReq id d tr b ∈ ops → d ≤ Gen.serverTimerClampSecs * 1000000000 := by
  constructor
  · intro h id d tr b hm
    exact h _ hm
  · intro h op hop
    cases op with
    | injectReq id d tr b => exact h id d tr b hop
    | _ => trivial

/-- Hence: on those scripts, whenever the full C11 monitor fires, the clause that fired is the bound clause — at the
event at which `checkC11` fires, with the book the monitor has there, if the counting clauses and the idle clauses are
silent then `checkC11Bound` fires with the same message. -/
theorem C11S_alarm_is_bound_clause (b : Book) (u : Unit) (e : SEv) (why : String)
    (hc : (checkC11Counts b u e).2 = none) (hi : (checkC11Idle b u e).2 = none) (h : (checkC11 b u e).2 = some why) :
    (checkC11Bound b u e).2 = some why := by
  rw [checkC11_split, hc] at h
  have h' : (checkC11Rest b u e).2 = some why := h
  rw [checkC11Rest_split, hi] at h'
  cases hb : (checkC11Bound b u e).2 with
  | none => rw [hb] at h'; cases h'
  | some w => rw [hb] at h'; exact h'

/-- a deadline half a millisecond beyond the clamp; the re-arm poll is 0.7 ms late -/
def c11RearmOps : List SOp :=
  [.injectReq 1 (Gen.serverTimerClampSecs * 1000000000 + 500000) ⟨7, .given 0, true⟩ 0, .pollServer,
   .advance (Gen.serverTimerClampSecs * 1000000000 + 700000), .pollServer]

set_option maxRecDepth 100000 in
/-- **The hypothesis `NearOps` cannot be dropped** (no limiter, distinct ids, clock below the bound): the request's
deadline lies 0.5 ms beyond the clamp, so its timer is armed for the clamp and 0.5 ms remain; the poll at which that
timer fires comes 0.7 ms late: nothing remains, the request expires and is aborted at once (at its deadline, not early) —
but the monitor expects it gone only at the deadline's millisecond tick, 0.3 ms later, and its idle clause reports one
request too few in flight. -/
theorem C11S_rearm_witness :
    (monC11Idle none (trace (initSys none 1 8 false) c11RearmOps)).ok = false ∧ DistinctIds c11RearmOps ∧
    advSum c11RearmOps < 2 ^ 35 * nsPerMs ∧ ¬ NearOps c11RearmOps := by
  refine ⟨by decide +kernel, by decide, by decide, ?_⟩
  intro h
  have : Gen.serverTimerClampSecs * 1000000000 + 500000 ≤ clampNs := h _ (List.mem_cons_self ..)
  unfold clampNs at this
  omega

set_option maxRecDepth 100000 in
/-- Non-vacuity: polls that go idle with one tracked request, after its expiry, after an abandonment — the idle clause
judges each `counts` observation and accepts. -/
example :
    let ops : List SOp :=
      [.injectReq 1 5000000 ⟨0, .given 0, false⟩ 0, .injectReq 2 9000000 ⟨0, .given 0, false⟩ 0, .pollServer, .pollServer,
       .pollServer, .dropExec 1, .pollServer, .advance 6000000, .pollServer]
    (monC11Idle none (trace (initSys none 1 4 true) ops)).ok = true ∧ (monC11 none (trace (initSys none 1 4 true) ops)).ok = true ∧
    SEv.obs (.counts (.server 0) 2 2) ∈ trace (initSys none 1 4 true) ops ∧
    SEv.obs (.counts (.server 0) 0 0) ∈ trace (initSys none 1 4 true) ops := by
  decide +kernel

/-- The clause is not vacuous: an idle poll that reports fewer requests in flight than the table lists is rejected. -/
example :
    (monC11Idle none
      [.op .pollServer, .obs (.yielded 0 1 5000000 ⟨0, .fresh 0, false⟩), .obs (.ret (.server 0) .readyItem),
       .obs (.counts (.server 0) 1 1), .op .pollServer, .obs (.ret (.server 0) .pending),
       .obs (.counts (.server 0) 0 0)]).ok = false := by
  decide +kernel

end TarpcModel.Server
