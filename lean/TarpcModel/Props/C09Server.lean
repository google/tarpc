import TarpcModel.Lemmas.ServerTable
/-!
# C09 (server side) — transport failures are reported through the request stream

Property theorems only.  `fails s` is the list (most recent first) of the transport failures observed
so far, each mapped to the activity of the failing call: `poll_next → Err` ↦ `read`,
`poll_ready → Err` ↦ `ready`, `poll_flush → Err` ↦ `flush`, `start_send → Err` ↦ `write`
(`Lemmas/ServerFlow.lean`).
-/
namespace TarpcModel.Server
open TarpcModel TarpcModel.Server.Flow

/-- **C09 (server): the error item carries the tag of the failing call.**  From any state, one
`Requests::poll_next`:
* returns `.err a` exactly when one transport call failed during it, and then `a` is that call's
  activity (`read` for `poll_next`, `ready` for `poll_ready` — the write pump's or the limiter's —,
  `flush` for `poll_flush`, `write` for a failing `start_send` of a response or throttle reply); it
  stops at that first failure;
* otherwise no transport call failed during it. -/
theorem C09_server_failure_tag (s : St) (now fuel : Nat) :
    match (requestsPollNext fuel s now).2 with
    | .err a => fails (requestsPollNext fuel s now).1 = a :: fails s
    | _ => fails (requestsPollNext fuel s now).1 = fails s := by
  have h := requestsPollNext_shape now fuel s
  unfold ErrShape at h
  cases hr : (requestsPollNext fuel s now).2 <;> rw [hr] at h <;> exact h

/-- **A transport call fails iff its armed fault fires** (`SimT.fires`: the kind is armed and its
countdown `faultSkip` has run out — "the `(faultSkip+1)`-th call of the kind fails"); a read also fails on an
injected read error.  These are the failures `fails` counts (`failOf`), so `C09_server_failure_tag` reads: the
poll returns `.err a` exactly when a fault of activity `a` fired (or a read error arrived) during it. -/
theorem C09_call_fails_iff_fires (t : SimT) (m : Msg) :
    (t.pollReady.2.1 = .err ↔ t.fires t.faultReady = true) ∧
    (t.pollFlush.2.1 = .err ↔ t.fires t.faultFlush = true) ∧
    ((t.startSend m).2 = false ↔ t.fires t.faultSend = true) ∧
    (t.pollNext.2 = .err ↔ t.fires t.faultNext = true ∨ ∃ rest, t.inbound = .err :: rest) := by
  have hu : ∀ w : String, (t.useAfter w).fires (t.useAfter w).faultReady = t.fires t.faultReady ∧
      (t.useAfter w).fires (t.useAfter w).faultFlush = t.fires t.faultFlush ∧
      (t.useAfter w).fires (t.useAfter w).faultSend = t.fires t.faultSend := by
    intro w
    exact ⟨by rw [SimT.useAfter_fires, SimT.useAfter_faultReady], by rw [SimT.useAfter_fires, SimT.useAfter_faultFlush],
      by rw [SimT.useAfter_fires, SimT.useAfter_faultSend]⟩
  refine ⟨?_, ?_, ?_, ?_⟩
  · obtain ⟨_, _, rfl, rfl, hout⟩ := SimT.pollReady_out t
    rcases hout with ⟨hf, he⟩ | ⟨hf, _, he⟩ | ⟨hf, _, he⟩ <;> rw [(hu "ready").1] at hf <;>
      rw [he, hf] <;> simp
  · obtain ⟨_, _, rfl, rfl, hout⟩ := SimT.pollFlush_out t
    rcases hout with ⟨hf, he⟩ | ⟨hf, _, he⟩ | ⟨hf, _, he⟩ <;> rw [(hu "flush").2.1] at hf <;>
      rw [he, hf] <;> simp
  · unfold SimT.startSend
    simp only
    have hv : ∀ u : SimT, (if u.gotReady = true then u else u.violate "send-without-ready").fires
        (if u.gotReady = true then u else u.violate "send-without-ready").faultSend = u.fires u.faultSend := by
      intro u; split <;> rfl
    rw [hv, (hu "send").2.2]
    cases t.fires t.faultSend <;> simp
  · rcases SimT.pollNext_out t with ⟨hf, he⟩ | ⟨hf, u, _, hi, he⟩
    · rw [he, hf]; simp
    · rw [he, hf, ← hi]
      cases hq : u.inbound with
      | nil => simp only; split <;> simp
      | cons a rest => cases a <;> simp

/-- **C09 (server): the poll records what it reports.**  For a poll of a live request stream (from any
state, in particular any reachable one) that does not poison the model: if it records
`done = some (readyItemErr a)` then exactly the failure `a` was observed during this poll, and if it
records anything else (still running, or the orderly end) no transport call failed during it. -/
theorem C09_server_poll_reports (s : St) (now : Nat)
    (hlive : (s.dropped || s.done.isSome || s.poisoned) = false)
    (hp : (pollServerKeep s now).poisoned = false) :
    match (pollServerKeep s now).done with
    | some (.readyItemErr a) => fails (pollServerKeep s now) = a :: fails s
    | _ => fails (pollServerKeep s now) = fails s :=
  pollServerKeep_reports s now hlive hp

/-- **C09 (server): after the end or an error item the stream is dropped.**  In every reachable state,
once `done` is recorded (`Ready(None)` or `Ready(Some(Err))` was returned) the request stream has been
dropped. -/
theorem C09_server_done_dropped (limit : Option Nat) (respCap tcap : Nat) (coupled : Bool) (ops : List SOp) :
    (ops.foldl applyOp (initSys limit respCap tcap coupled)).s.done.isSome = true →
    (ops.foldl applyOp (initSys limit respCap tcap coupled)).s.dropped = true :=
  DoneDropped_reach (initSys limit respCap tcap coupled) (by intro h; cases h) ops

/-- **C09 (server): dropping the stream aborts every tracked handler.**  In any state where the stream
is still held (not dropped, model not poisoned), after `dropServer` every execution that owned an
in-flight entry has its abort flag set. -/
theorem C09_drop_aborts_all (s : St) (hlive : (s.dropped || s.poisoned) = false) :
    ∀ en ∈ s.inflight, ∀ ex ∈ (dropServer s).execs, ex.rid = en.rid → ex.aborted = true :=
  dropServer_aborts_all s hlive

/-- … in particular when a poll of a live request stream ends it (error item or end of stream): the
stream is dropped and every execution owning an entry that was still in flight when the poll
returned is aborted. -/
theorem C09_server_error_aborts_all (s : St) (now : Nat)
    (hlive : (s.dropped || s.done.isSome || s.poisoned) = false)
    (hdone : (pollServerKeep s now).done.isSome = true) :
    (pollServer s now).dropped = true ∧
    ∀ en ∈ (pollServerKeep s now).inflight, ∀ ex ∈ (pollServer s now).execs, ex.rid = en.rid →
      ex.aborted = true := by
  rcases pollServer_cases s now hlive with ⟨hd, _⟩ | ⟨_, hdr, hp, heq⟩
  · rw [hd] at hdone; cases hdone
  · rw [heq]
    exact ⟨dropServer_dropped _ (by simp [hdr, hp]), dropServer_aborts_all _ (by simp [hdr, hp])⟩

/-- **C09 (server): no panic** other than the `DelayQueue` range panic (`insert` with a timer more
than `2^36 - 1` ms ahead of the wheel): in every reachable state, every `Obs.panic` observed carries
that message.  In particular `deadlines.remove(&key)` is never called with an unknown key (the table /
timer bijection of `Lemmas/ServerTable.lean`).  Since `start_request` clamps the timeout it arms, the
range panic itself is unreachable for any deadline while the clock is below `2^35` ms:
`C16_server_no_panic` (`Props/C16Server.lean`) strengthens this theorem to "no panic at all". -/
theorem C09_server_no_other_panic (limit : Option Nat) (respCap tcap : Nat) (coupled : Bool) (ops : List SOp) :
    ∀ ep m, Obs.panic ep m ∈ (ops.foldl applyOp (initSys limit respCap tcap coupled)).s.obs →
      m = "DelayQueue::insert: invalid deadline" := by
  exact fun ep m hm => ((sinv_reach true limit respCap tcap coupled ops).panics ep m hm).1

/-- **Why the clamp is needed (the obligation of `C16_server_no_panic` is not vacuous).**  *Without* the
clamp — arming the timer with the full `deadline - now` — `DelayQueue::insert` panics for every request
whose deadline lies more than `2^36 - 1` ms ahead of the wheel (`invalid deadline`): from any queue,
at any clock, for any timeout with `ceilMs (now + timeout) > wheelElapsed + (2^36 - 1)`.  (With the
clamp the script `[injectReq 1 (2^36 ms + 1) …, pollServer]` arms a one-year timer:
`C16_server_far_deadline_ok`.) -/
theorem C09_server_range_panic_witness (q : DelayQ) (now timeout val : Nat)
    (h : q.wheelElapsed + delayQMaxMs < ceilMs (now + timeout)) :
    (q.insert now timeout val).2.1 = .panic := by
  unfold DelayQ.insert
  have h1 : max (ceilMs (now + timeout)) q.wheelElapsed = ceilMs (now + timeout) := Nat.max_eq_left (by omega)
  simp only [h1]
  rw [if_pos (by simp only [Bool.and_eq_true, decide_eq_true_eq]; omega)]

/-- … concretely: a timeout of `2^36` ms + 1 ns on a fresh queue. -/
example : (({} : DelayQ).insert 0 (2 ^ 36 * 1000000 + 1) 1).2.1 = .panic := by decide

/-- Non-vacuity of the tag theorem: a read fault, a ready fault, a flush fault and a write fault each
end the stream with their own tag. -/
example :
    (([SOp.fault .next, .pollServer].foldl applyOp (initSys none 1 1 true)).s.done,
     ([SOp.fault .ready, .pollServer].foldl applyOp (initSys none 1 1 true)).s.done,
     ([SOp.fault .flush, .pollServer].foldl applyOp (initSys none 1 1 true)).s.done,
     ([SOp.injectReq 1 1000000000 ⟨0, .given 0, false⟩ 0, .pollServer, .finish 0 (.ok 0), .pollExec 0, .fault .send,
        .pollServer].foldl applyOp (initSys none 1 1 true)).s.done) =
    (some (.readyItemErr .read), some (.readyItemErr .ready), some (.readyItemErr .flush),
     some (.readyItemErr .write)) := by
  decide

/-- Fault countdown: `fault ready` with `faultSkip 2` lets two `poll_ready` calls through and fails the
third.  Each poll of an idle request stream calls `poll_ready` once (the write pump): the first two polls go
idle, the third ends the stream with the `ready` tag. -/
example :
    (([SOp.fault .ready, .faultSkip 2, .pollServer].foldl applyOp (initSys none 1 1 true)).s.done,
     ([SOp.fault .ready, .faultSkip 2, .pollServer, .pollServer].foldl applyOp (initSys none 1 1 true)).s.done,
     ([SOp.fault .ready, .faultSkip 2, .pollServer, .pollServer, .pollServer].foldl applyOp (initSys none 1 1 true)).s.done) =
    (none, none, some (.readyItemErr .ready)) := by
  decide

end TarpcModel.Server
