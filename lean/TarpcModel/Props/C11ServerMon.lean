import TarpcModel.Lemmas.ServerMon11
import TarpcModel.Props.C11Server
/-!
# C11 (server side) — the counting clauses of the run-time monitor `monC11` accept every trace of the model

Property theorems only.  `checkC11` (`Monitors/Server.lean`) judges each `counts (server _) inflight timers`
observation (emitted at the end of every poll of the request stream).  Its first two clauses do not depend on the
monitor's approximate table of yielded requests:

1. `inflight = timers` — as many tracked requests as armed deadline timers;
2. once the request stream has ended (`Book.streamDone`: a `Ready(None)` was observed), `inflight = 0`.

`checkC11Counts` (`Lemmas/ServerMon11.lean`) is `checkC11` restricted to these two clauses, `checkC11Rest` the
remaining clauses; `C11S_check_split`: `checkC11` fires iff `checkC11Counts` fires or, that failing, `checkC11Rest`
does — so the theorem below says: on a trace of the model an alarm of the C11 monitor can only come from the clauses
that compare the count with the monitor's table (where the known findings F2 / F7 and id re-use live).
-/
namespace TarpcModel.Server
open TarpcModel TarpcModel.Server.Mon11

/-- `checkC11` is its two counting clauses followed by the remaining ones. -/
theorem C11S_check_split (b : Book) (u : Unit) (e : SEv) :
    (checkC11 b u e).2 = (checkC11Counts b u e).2.orElse fun _ => (checkC11Rest b u e).2 :=
  checkC11_split b u e

/-- **C11 (server), monitor form, counting clauses.**  For every configuration and every script over all ops the
clauses "`inflight` = `timers`" and "stream ended ⇒ `inflight` = 0" of the C11 monitor never fire on the model's
trace: the in-flight table and the timer queue are in bijection whenever a poll ends, the poll that ends the
request stream reports 0 (it ends only with nothing in flight), and after it no poll reports anything. -/
theorem C11S_monitor_accepts_counts (limit : Option Nat) (respCap tcap : Nat) (coupled : Bool) (ops : List SOp) :
    (monC11Counts limit (trace (initSys limit respCap tcap coupled) ops)).ok = true := by
  have h := mon11_accepts_of (trace (initSys limit respCap tcap coupled) ops)
    { st := (), book := { limit := limit } } {} rfl rfl
    (inv11_trace ops _ _ ⟨rfl, fun h => by cases h⟩)
    (fun k a b hm => C11_counts_always_equal limit respCap tcap coupled ops k a b hm)
  unfold Mon.ok monC11Counts Mon.run
  rw [h]; rfl

/-- Hence: whenever the full C11 monitor rejects a trace of the model, the clause that fired is one of those
comparing the reported count with the monitor's own table (`checkC11Rest`) — at the first event at which
`checkC11` fires (with the book the monitor has at that event), `checkC11Rest` fires with the same message. -/
theorem C11S_alarm_is_table_clause (b : Book) (u : Unit) (e : SEv) (why : String)
    (hc : (checkC11Counts b u e).2 = none) (h : (checkC11 b u e).2 = some why) :
    (checkC11Rest b u e).2 = some why := by
  rw [checkC11_split, hc] at h
  exact h

/-- Non-vacuity: the monitor runs over a trace with several polls (a request tracked, answered, end of stream,
one more poll of the ended stream) and its `counts` clauses are exercised with a non-zero count and at the end of
the stream. -/
example :
    let evs := trace (initSys none 1 4 true)
      [.injectReq 1 5000000 ⟨7, .given 1, true⟩ 0, .pollServer, .finish 0 (.ok 3), .pollExec 0, .eof, .pollServer,
       .pollServer]
    (monC11Counts none evs).ok = true ∧ (monC11Counts none evs).book.streamDone = true ∧
    evs.filter (fun e => match e with | .obs (.counts _ _ _) => true | _ => false)
      = [.obs (.counts (.server 0) 1 1), .obs (.counts (.server 0) 0 0)] := by
  decide

/-- The clause is not vacuous: a `counts` observation with a non-zero count after the end of the stream is rejected. -/
example :
    (monC11Counts none [.op .pollServer, .obs (.ret (.server 0) .readyNone), .obs (.counts (.server 0) 1 1)]).ok = false ∧
    (monC11Counts none [.op .pollServer, .obs (.ret (.server 0) .pending), .obs (.counts (.server 0) 1 2)]).ok = false := by
  decide

end TarpcModel.Server
