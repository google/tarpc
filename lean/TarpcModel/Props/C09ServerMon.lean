import TarpcModel.Lemmas.ServerMon14
import TarpcModel.Props.C16Server
/-!
# C09 (server side) — the run-time monitor `monC09` accepts every trace of the server model

Property theorems only.  `monC09` (`Monitors/Server.lean`, `checkC09`) remembers the first transport failure of
the current op (`poll_ready` / `poll_flush` / `poll_next → Err`, a failed `start_send`) and demands that the poll
of the request stream reports exactly it (`Ready(Some(Err))` with the matching tag), reports nothing when nothing
failed, and that nothing panics.

Its last clause ("panic") is true of the model only while the clock is below `2^35` ms (finding F9,
`C16_server_late_panic_witness`): `checkC09np` (`Lemmas/ServerMon14.lean`) is `checkC09` with that clause
removed; it accepts every trace; the removed clause is the only difference (`C09S_check_eq_np`), so `monC09`
itself accepts every trace without a panic — in particular every script below the bound of `C16_server_no_panic`.
-/
namespace TarpcModel.Server
open TarpcModel TarpcModel.Server.Flow TarpcModel.Server.FlowMon

/-- **C09 (server), monitor form, all clauses but "panic".**  For every configuration and every script over all
ops the failure-reporting clauses of the C09 monitor accept the model's trace: an error item carries the tag of
the transport call that failed in that poll, and a poll in which a transport call failed does not end otherwise
than by `Pending` or that error item. -/
theorem C09S_monitor_accepts_np (limit : Option Nat) (respCap tcap : Nat) (coupled : Bool) (ops : List SOp) :
    (monC09np limit (trace (initSys limit respCap tcap coupled) ops)).ok = true :=
  (monitors_accept none limit none limit respCap tcap coupled ops).2.1

/-- the clause removed from `checkC09` is the only difference: on every event but a `panic` observation the two
checks agree (and on a `panic` observation `checkC09` fires, `checkC09np` does not) -/
theorem C09S_check_eq_np (b : Book) (exp : C09St) (e : SEv) (h : ∀ t site, e ≠ .obs (.panic t site)) :
    checkC09np b exp e = checkC09 b exp e := by
  unfold checkC09np
  split
  · next t site => exact absurd rfl (h t site)
  · rfl

/-- … hence on a trace without `panic` observations `monC09` and `monC09np` are the same run -/
theorem C09S_mon_eq_np (limit : Option Nat) (evs : List SEv) (h : ∀ t site, SEv.obs (.panic t site) ∉ evs) :
    monC09 limit evs = monC09np limit evs :=
  run_congr checkC09 checkC09np evs
    (fun e he b st => (C09S_check_eq_np b st e (fun t site heq => h t site (heq ▸ he))).symm) _

/-- **C09 (server), monitor form.**  For every configuration and every script whose total advanced time is below
`2^35` ms (the bound of `C16_server_no_panic`; it cannot be dropped, see below) the C09 monitor — all clauses —
accepts the model's trace. -/
theorem C09S_monitor_accepts (limit : Option Nat) (respCap tcap : Nat) (coupled : Bool) (ops : List SOp)
    (hT : advSum ops < 2 ^ 35 * nsPerMs) :
    (monC09 limit (trace (initSys limit respCap tcap coupled) ops)).ok = true := by
  rw [C09S_mon_eq_np limit _ (C16_server_no_panic limit respCap tcap coupled ops hT).1]
  exact C09S_monitor_accepts_np limit respCap tcap coupled ops

/-- … more generally: on every trace of the model that contains no `panic` observation. -/
theorem C09S_monitor_accepts_of_no_panic (limit : Option Nat) (respCap tcap : Nat) (coupled : Bool) (ops : List SOp)
    (h : ∀ t site, SEv.obs (.panic t site) ∉ trace (initSys limit respCap tcap coupled) ops) :
    (monC09 limit (trace (initSys limit respCap tcap coupled) ops)).ok = true := by
  rw [C09S_mon_eq_np limit _ h]
  exact C09S_monitor_accepts_np limit respCap tcap coupled ops

set_option maxRecDepth 100000 in
/-- **The "panic" clause does fire on a trace of the model** (finding F9, the script of
`C16_server_late_panic_witness`: the clock jumps by `2^36` ms before the first request is read, and
`DelayQueue::insert` panics): `monC09` rejects that trace, `monC09np` accepts it.  The alarm is genuine — the
script replays on the real code with the same outcome. -/
theorem C09S_monitor_panic_witness :
    (monC09 none (trace (initSys none 1 2 true) c16LateOps)).ok = false ∧
    (monC09np none (trace (initSys none 1 2 true) c16LateOps)).ok = true := by decide

/-- Non-vacuity: the monitor runs over traces in which each kind of transport call fails (a read fault; a
`poll_ready` fault on the third call; a flush fault; a write fault while a response is being sent; a write fault
on a throttle reply of the limiter) and accepts them. -/
example :
    (monC09 none (trace (initSys none 1 1 true) [.fault .next, .pollServer])).ok = true ∧
    (monC09 none (trace (initSys none 1 1 true) [.fault .ready, .faultSkip 2, .pollServer, .pollServer, .pollServer])).ok = true ∧
    (monC09 none (trace (initSys none 1 1 true) [.fault .flush, .pollServer])).ok = true ∧
    (monC09 none (trace (initSys none 1 1 true)
      [.injectReq 1 1000000000 ⟨0, .given 0, false⟩ 0, .pollServer, .finish 0 (.ok 0), .pollExec 0, .fault .send,
       .pollServer])).ok = true ∧
    (monC09 (some 1) (trace (initSys (some 1) 1 1 true)
      [.injectReq 1 1000000000 ⟨0, .given 0, false⟩ 0, .pollServer, .injectReq 2 1000000000 ⟨0, .given 0, false⟩ 0,
       .fault .send, .pollServer])).ok = true := by
  decide

/-- … and the final state of the monitor shows the failure it tracked in the last op. -/
example :
    (monC09 none (trace (initSys none 1 1 true)
      [.injectReq 1 1000000000 ⟨0, .given 0, false⟩ 0, .pollServer, .finish 0 (.ok 0), .pollExec 0, .fault .send,
       .pollServer])).st = some .write := by
  decide

end TarpcModel.Server
