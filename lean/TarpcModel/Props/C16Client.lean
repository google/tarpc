import TarpcModel.Lemmas.ClientPanic
import TarpcModel.Props.C03
/-!
# C16 (client) — the request dispatch never panics

Property theorems only.  The client model has three panicking sites (`Client/Model.lean`): the uniqueness check of
`insert_request`, `DelayQueue::remove` with an unknown key, and the range check of `DelayQueue::insert` (a timer more
than `2^36 - 1` ms ahead of the wheel).  The first two are unreachable outright (`C11_only_insert_range_panic`,
`C11_no_uniqueness_panic` in `Props/C11Client.lean`).  The third has two call sites — `insert_request` and the re-arm
in `poll_expired` — and is unreachable at both because each clamps the timeout it arms (`clampTimeout`,
`Gen.clientTimerClampSecs` seconds): for a clock below `2^35` ms
`when - wheelElapsed ≤ ceilMs (now + clamp) ≤ now_ms + clamp_ms + 1 ≤ 2^36 - 1` whatever deadline the caller asks for.

The scripts quantified over are all op lists whose total advanced virtual time `advSum ops` (the sum of their
`advance` amounts — the clock starts at 0 and only `advance` moves it) is below `2^35` ms ≈ 397 days.
-/
namespace TarpcModel.Client

/-- The two facts about the generated constants the theorems below rest on (re-checked by `decide` whenever
`Gen/Flags.lean` is regenerated): the client clamps its deadline timers and the clamp fits the `DelayQueue` range
with `2^35` ms to spare (`clamp_ms + 2^35 + 1 ≤ 2^36 - 1`); and `ensure_writeable` is the fixed, non-looping one. -/
theorem C16_client_flags :
    (Gen.clientTimerClampSecs ≠ 0 ∧ Gen.clientTimerClampSecs * 1000 + 2 ^ 35 + 1 ≤ delayQMaxMs) ∧
    Gen.clientEnsureLoop = false := by decide

/-- **C16 (client), no panic.**  For every configuration and every script whose total advanced time is below
`2^35` ms, whatever deadlines the calls carry: no `Obs.panic` occurs in the event trace, and the dispatch is not
poisoned (neither by a panic nor by a spin) in the state the script ends in. -/
theorem C16_client_no_panic (m bufCap tcap : Nat) (coupled : Bool) (ops : List COp)
    (hT : advSum ops < 2 ^ 35 * nsPerMs) :
    (∀ t site, CEv.obs (.panic t site) ∉ trace (initSys m bufCap tcap coupled) ops) ∧
    (ops.foldl applyOp (initSys m bufCap tcap coupled)).s.poisoned = false :=
  ⟨fun t site => trace_no_panic C16_client_flags.1 m bufCap tcap coupled ops hT t site,
   reach_not_poisoned C16_client_flags.1 C16_client_flags.2 m bufCap tcap coupled ops hT⟩

/-- **C16 (client), monitor form.**  The C16 monitor of the `cli` family (`Monitors/NoPanic.lean`: `firstPanic`, the
first `Obs.panic` among the observations) finds nothing in the model's trace, for every configuration and every
script whose total advanced time is below `2^35` ms; likewise the `c16` field of the driver's `CliMon`
(`Driver/Cli.lean`), which is `c16Step` folded over the trace, stays `none`.  (The bound on the clock is needed: the
`DelayQueue` range is relative to the wheel's `elapsed`, which only a poll of the queue moves, so a script that lets
more than `2^36` ms pass un-polled before the next `insert_request` does reach the range panic — in the real queue
as in the model; see `C16_client_panic_only_late` for what holds without the bound.) -/
theorem C16_client_monitor_accepts (m bufCap tcap : Nat) (coupled : Bool) (ops : List COp)
    (hT : advSum ops < 2 ^ 35 * nsPerMs) :
    firstPanic (obsOf (trace (initSys m bufCap tcap coupled) ops)) = none ∧
    (trace (initSys m bufCap tcap coupled) ops).foldl c16Step none = none :=
  ⟨firstPanic_none_of (C16_client_no_panic m bufCap tcap coupled ops hT).1,
   c16Step_foldl_none_of (C16_client_no_panic m bufCap tcap coupled ops hT).1⟩

/-- … and in every state the script passes through (every prefix of the script). -/
theorem C16_client_never_poisoned (m bufCap tcap : Nat) (coupled : Bool) (ops : List COp)
    (hT : advSum ops < 2 ^ 35 * nsPerMs) (pre : List COp) (hpre : pre <+: ops) :
    (pre.foldl applyOp (initSys m bufCap tcap coupled)).s.poisoned = false ∧
    ∀ t site, Obs.panic t site ∉ (pre.foldl applyOp (initSys m bufCap tcap coupled)).s.obs := by
  have hT' : advSum pre < panicFreeNs := Nat.lt_of_le_of_lt (advSum_prefix_le hpre) hT
  exact ⟨reach_not_poisoned C16_client_flags.1 C16_client_flags.2 m bufCap tcap coupled pre hT',
    fun t site => reach_no_panic_obs C16_client_flags.1 m bufCap tcap coupled pre hT' t site⟩

/-- The same with the facts about the generated constants as hypotheses (so that the statement survives a
regenerated `Gen/Flags.lean` even if `C16_client_flags` then fails). -/
theorem C16_client_no_panic_of (hclamp : ClampFits) (hel : Gen.clientEnsureLoop = false)
    (m bufCap tcap : Nat) (coupled : Bool) (ops : List COp) (hT : advSum ops < 2 ^ 35 * nsPerMs) :
    (∀ t site, CEv.obs (.panic t site) ∉ trace (initSys m bufCap tcap coupled) ops) ∧
    (ops.foldl applyOp (initSys m bufCap tcap coupled)).s.poisoned = false :=
  ⟨fun t site => trace_no_panic hclamp m bufCap tcap coupled ops hT t site,
   reach_not_poisoned hclamp hel m bufCap tcap coupled ops hT⟩

/-- At any time: a panic observation can only be the `DelayQueue::insert` range check, and only at or after
`2^35` ms (state form; the trace form of the first half is `C11_only_insert_range_panic`). -/
theorem C16_client_panic_only_late (m bufCap tcap : Nat) (coupled : Bool) (ops : List COp) (t : TaskId) (site : String)
    (h : Obs.panic t site ∈ (ops.foldl applyOp (initSys m bufCap tcap coupled)).s.obs) :
    site = "DelayQueue::insert: invalid deadline" ∧ 2 ^ 35 * nsPerMs ≤ advSum ops := by
  have hg := (inv_reach m bufCap tcap coupled ops).o _ h
  rw [now_reach] at hg
  exact ⟨hg.1, hg.2 C16_client_flags.1⟩

/-! ### consequence: the `poisoned = false` guards of C03 are discharged -/

/-- **C03 "what is in flight has been written", without the guard.**  `C03_in_flight_was_written` assumes that the
dispatch is not poisoned (the model keeps executing a poll after a panic, the real code does not); before `2^35` ms
that never happens. -/
theorem C16_C03_in_flight_was_written (m bufCap tcap : Nat) (coupled : Bool) (ops : List COp)
    (hT : advSum ops < 2 ^ 35 * nsPerMs)
    (s : St) (hs : s = (ops.foldl applyOp (initSys m bufCap tcap coupled)).s) :
    ∀ e ∈ s.inflight, e.id ∈ reqIds s.t.sentLog :=
  C03_in_flight_was_written m bufCap tcap coupled ops s hs
    (by subst hs; exact (C16_client_no_panic m bufCap tcap coupled ops hT).2)

/-- **C03 "a `Cancel` comes after its `Request`", without the guard** (last clause of `C03_cancel_justified`). -/
theorem C16_C03_cancel_after_request (m bufCap tcap : Nat) (coupled : Bool) (ops : List COp)
    (hT : advSum ops < 2 ^ 35 * nsPerMs)
    (s : St) (hs : s = (ops.foldl applyOp (initSys m bufCap tcap coupled)).s)
    (id : Nat) (tr : Trace) (h : Msg.cancel id tr ∈ s.t.sentLog) :
    id ∈ reqIds s.t.sentLog ∧ ∀ l1 l2, s.t.sentLog = l1 ++ Msg.cancel id tr :: l2 → id ∈ reqIds l1 :=
  (C03_cancel_justified m bufCap tcap coupled ops s hs id tr h).2.2.2
    (by subst hs; exact (C16_client_no_panic m bufCap tcap coupled ops hT).2)

/-! ### non-vacuity -/

/-- A call with the largest deadline the wire format can carry (`u64::MAX` ns), far beyond the `DelayQueue`'s range
(`2^36` ms ≈ 6.9e16 ns): the request is written, its timer is armed (with the clamped timeout), nothing panics. -/
example :
    let ops := [COp.call 0 18446744073709551615 ⟨1, .given 1, true⟩ 7, .pollCall 0, .pollDispatch, .advance 1000000,
      .pollDispatch]
    advSum ops < 2 ^ 35 * nsPerMs ∧
    (ops.foldl applyOp (initSys 1 1 1 true)).s.inflight.length = 1 ∧
    (ops.foldl applyOp (initSys 1 1 1 true)).s.timers.len = 1 ∧
    (ops.foldl applyOp (initSys 1 1 1 true)).s.poisoned = false := by
  decide +kernel

/-- the clock jumps by `2^36` ms before the dispatch is polled for the first time -/
def c16LateOps : List COp :=
  [.call 0 18446744073709551615 ⟨1, .given 1, true⟩ 7, .pollCall 0, .advance (2 ^ 36 * nsPerMs), .pollDispatch]

set_option maxRecDepth 100000 in
/-- **The bound on the clock cannot simply be dropped (model-level witness).**  The `DelayQueue` range check is
relative to the wheel's `elapsed`, which only a poll of the queue advances.  If `2^36` ms pass before the dispatch
polls for the first time, the first `insert_request` computes `when = now_ms + clamp_ms > 2^36 - 1` with
`elapsed = 0` and hits `DelayQueue::insert: invalid deadline` — clamp or no clamp.  (`Prim/DelayQ.lean` follows
tokio-util's `when - elapsed > MAX_DURATION` check; reaching this needs a process that does not poll its dispatch
for more than two years, so it is a statement about the model's range of validity rather than a practical defect.) -/
theorem C16_client_late_panic_witness :
    CEv.obs (.panic (.dispatch 0) "DelayQueue::insert: invalid deadline") ∈ trace (initSys 1 1 1 true) c16LateOps ∧
    ¬ advSum c16LateOps < 2 ^ 35 * nsPerMs := by decide +kernel

end TarpcModel.Client
