import TarpcModel.Lemmas.ClientOwedMon
import TarpcModel.Props.C03
/-!
# C03, third clause — a cancel is owed after a writable dispatch poll

The third clause of `checkC03` judges a top-level dispatch poll that returns `Pending`, during which no
`poll_ready → Pending` was observed and before which the transport never failed: every abandoned call whose request
was transmitted and has not ended has its `Cancel` on the wire.

The clause does not judge polls that *complete* with `Ready(Ok)` after the last sender went away: a clause that did
(`checkC03Old`) is **false** on the model (`C03_full_statement_readyOk_false`): `run` returns `Ready(Ok)`
on `(Poll::Ready(None), _)` after a *single* `pump_write`, which writes at most one `Cancel`; when the peer closes the
read half while two cancellations are queued, the second one is never written.  The peer has closed — the connection
is lost and no cancel is owed (completions after the last handle went away are covered by C10: every queued cancel is
written before `poll_close`).

`C03_cancel_owed : C03FullStatement` — `monC03`, all three clauses, accepts every trace of the model (scripts with
pairwise distinct call bodies and caller-chosen span ids).  The proof (`Lemmas/ClientOwedMon.lean`) carries along
the trace, next to the coupling of `Lemmas/ClientTop.lean`: (i) the invariant `CqI` (`Lemmas/ClientCq.lean`: an entry's
call is awaiting it, or its id is in the cancellation queue), (ii) `Tracked`: a request written successfully, neither
answered nor cancelled nor expired — with no transport failure observed and the dispatch alive — is in the in-flight
table (`Lemmas/ClientTrack.lean`), (iii) a terminal error of the dispatch was preceded by an observed failure; and
at the `ret` of a top-level poll it uses that `run → Pending` has drained the cancellation queue unless a
`poll_ready → Pending` was observed (`Lemmas/ClientDrain.lean`).

State-level results, for every reachable state:

* `C03_cancellation_queued` — every in-flight entry belongs to a call that is still awaiting its response, or its
  request id is in the cancellation queue (the invariant `CqI`, `Lemmas/ClientCq.lean`);
* `C03_cancel_owed_state` — after a top-level dispatch poll that returned `Pending` (no terminal error, no panic)
  during which no `poll_ready → Pending` was observed, the cancellation queue is empty and every request still
  tracked belongs to a call that is awaiting it: nothing is tracked any more for an abandoned call.  (Each entry that
  left the table through the cancellation queue had its `Cancel` written: `C03_cancel_only_if_tracked`.)
-/
namespace TarpcModel.Client

/-! ### the arm for completed polls fails -/

/-- `checkC03` with a third clause that also judges a poll that completes with `Ready(Ok)` once no sender is left -/
def checkC03Old (b : Book) (u : Unit) : CEv → Unit × Option String
  | .obs (.ret (.dispatch _) r) =>
      if b.topPoll && !b.pollReadyP && !b.failed && (r == .pending || (r == .readyOk && b.senders == 0)) then
        let owed := b.calls.filter fun ci =>
          ci.dropped && match b.sendOfBody ci.body with
            | some sd => !reqEnded b sd && !(b.cancels.any (·.1 == sd.id))
            | none => false
        match owed with
        | ci :: _ => ((), some s!"abandoned call {ci.cid}: request transmitted, not ended, yet no cancel after a writable dispatch poll")
        | [] => ((), none)
      else ((), none)
  | e => checkC03 b u e

def monC03Old (evs : List CEv) : Mon Unit := Mon.run checkC03Old () evs

/-- two transmitted calls, both abandoned, the last handle dropped, the peer closes, one dispatch poll -/
def c03EofOps : List COp :=
  [.call 0 1000000000 ⟨1, .given 1, true⟩ 1, .call 0 1000000000 ⟨2, .given 2, true⟩ 2, .pollCall 0, .pollCall 1,
   .pollDispatch, .dropCall 0 .none, .dropCall 1 .none, .dropHandle 0, .eof, .pollDispatch]

set_option maxRecDepth 100000 in
/-- The last poll reads `eof`, writes `Cancel 0`, and completes with `Ready(Ok)`; `Cancel 1` is never written. -/
theorem c03EofOps_trace :
    (c03EofOps.foldl applyOp (initSys 4 4 4 true)).s.t.sentLog.length = 3 ∧
    (c03EofOps.foldl applyOp (initSys 4 4 4 true)).s.done = some .readyOk ∧
    (monC03Old (trace (initSys 4 4 4 true) c03EofOps)).ok = false := by decide

/-- **The `Ready(Ok)` arm of the old third clause is false** (scripts with pairwise distinct bodies and caller-chosen
span ids, as in `C03FullStatement`). -/
theorem C03_full_statement_readyOk_false :
    ¬ ∀ (m b c : Nat) (coupled : Bool) (ops : List COp), (callBodies ops).Nodup → (∀ op ∈ ops, SpanOk op) →
      (monC03Old (trace (initSys m b c coupled) ops)).ok = true := by
  intro h
  have h1 : (callBodies c03EofOps).Nodup := by decide
  have h2 : ∀ op ∈ c03EofOps, SpanOk op := by
    intro op hop
    simp only [c03EofOps, List.mem_cons, List.not_mem_nil, or_false] at hop
    rcases hop with rfl | rfl | rfl | rfl | rfl | rfl | rfl | rfl | rfl | rfl <;>
      first | exact ⟨_, rfl⟩ | trivial
  have := h 4 4 4 true c03EofOps h1 h2
  rw [c03EofOps_trace.2.2] at this
  cases this

/-! ### the monitor, all three clauses -/

/-- **C03, all three clauses (monitor form).**  For every configuration and every op sequence (calls with pairwise
distinct bodies and caller-chosen span ids) `monC03` accepts the model's trace; in particular (third clause) at the
end of every top-level dispatch poll that returns `Pending`, during which no `poll_ready → Pending` was observed and
before which the transport never reported a failure, every abandoned call whose request was written successfully and
has not ended (no response read, deadline not reached) has its `Cancel` on the wire. -/
theorem C03_cancel_owed : C03FullStatement :=
  fun m b c coupled ops hb hsp => monC03_accepts m b c coupled ops hb hsp

/-! ### what holds in every state: polls that return `Pending` -/

/-- **C03: an abandoned call's tracked request is queued for cancellation.**  In every reachable state every
in-flight entry either has its request id in the cancellation queue, or belongs to a call future that is still
awaiting the response (phase `awaiting`, oneshot sender alive). -/
theorem C03_cancellation_queued (m b c : Nat) (coupled : Bool) (ops : List COp)
    (s : St) (hs : s = (ops.foldl applyOp (initSys m b c coupled)).s) :
    ∀ e ∈ s.inflight, e.id ∈ s.cq ∨
      ∃ cl ∈ s.calls, cl.cid = e.cid ∧ cl.phase = .awaiting ∧ cl.os.txDropped = false := by
  subst hs
  exact fun e he => (reach_cq m b c coupled ops).ent_call he

/-- … and a dropped dispatch tracks nothing. -/
theorem C03_dropped_dispatch_tracks_nothing (m b c : Nat) (coupled : Bool) (ops : List COp)
    (s : St) (hs : s = (ops.foldl applyOp (initSys m b c coupled)).s) (hd : s.dDropped = true) :
    s.inflight = [] ∧ s.pq = [] := by
  subst hs; exact (reach_cq m b c coupled ops).dd hd

theorem reach_cq_clr (m b c : Nat) (coupled : Bool) (ops : List COp) (op : COp) :
    Inv none (view (applyOp (clr (ops.foldl applyOp (initSys m b c coupled))) op).s) ∧
    CqI none (applyOp (clr (ops.foldl applyOp (initSys m b c coupled))) op).s := by
  have hi := reach_inv m b c coupled ops
  have hq := reach_cq m b c coupled ops
  have hi' : Inv none (view (clr (ops.foldl applyOp (initSys m b c coupled))).s) := by
    have : view (clr (ops.foldl applyOp (initSys m b c coupled))).s
        = { view (ops.foldl applyOp (initSys m b c coupled)).s with rel := [] } := by simp [clr, view]
    rw [this]; exact hi.of_rel []
  exact ⟨applyOp_inv hi' op, applyOp_cq hi' (cqi_clr hq) op⟩

/-- **C03, third clause (state form), for polls that return `Pending`.**  Take any reachable state in which the
dispatch is alive and run one top-level `poll-dispatch` (`stepOp`: the op with its observations).  If the poll
returned `Pending` (the dispatch is not done afterwards), ended without terminal error and without a panic, and no
`poll_ready → Pending` was observed during it, then afterwards the cancellation queue is empty and every request still
in flight belongs to a call future that is still awaiting it.  In particular no request of an abandoned (dropped)
call is tracked any more: its entry was taken out by `cancel_request`, whose `Cancel` write is
`C03_cancel_only_if_tracked`. -/
theorem C03_cancel_owed_state (m b c : Nat) (coupled : Bool) (ops : List COp)
    (c0 : Sys) (hc0 : c0 = ops.foldl applyOp (initSys m b c coupled))
    (halive : (c0.s.dDropped || c0.s.done.isSome || c0.s.poisoned) = false)
    (hpending : (stepOp c0 .pollDispatch).1.s.done = none)
    (hnoerr : (stepOp c0 .pollDispatch).1.s.termErr = none)
    (hnopanic : (stepOp c0 .pollDispatch).1.s.poisoned = false)
    (hwritable : ∀ ep, Obs.tReady ep .pending ∉ (stepOp c0 .pollDispatch).2) :
    (stepOp c0 .pollDispatch).1.s.cq = [] ∧
    ∀ e ∈ (stepOp c0 .pollDispatch).1.s.inflight,
      ∃ cl ∈ (stepOp c0 .pollDispatch).1.s.calls, cl.cid = e.cid ∧ cl.phase = .awaiting ∧ cl.os.txDropped = false := by
  subst hc0
  rw [stepOp_fst] at hpending hnoerr hnopanic ⊢
  rw [stepOp_snd] at hwritable
  obtain ⟨_, hq⟩ := reach_cq_clr m b c coupled ops .pollDispatch
  generalize hcc : clr (ops.foldl applyOp (initSys m b c coupled)) = cc at *
  have ha : (cc.s.dDropped || cc.s.done.isSome || cc.s.poisoned) = false := by rw [← hcc]; exact halive
  -- one `rfl` for the whole state (under each projection the op would be unfolded again)
  have hS : (clr (applyOp cc .pollDispatch)).s = { pollDispatch cc.s cc.now with obs := [] } := rfl
  rw [hS] at hpending hnoerr hnopanic ⊢
  have hq : CqI none (pollDispatch cc.s cc.now) := hq
  have hwritable : ∀ ep, Obs.tReady ep .pending ∉ (pollDispatch cc.s cc.now).obs.reverse := hwritable
  have hdr := pollDispatch_drained ha hnopanic hpending hnoerr
  generalize pollDispatch cc.s cc.now = S at hq hwritable hdr ⊢
  have hcq : S.cq = [] := by
    rcases hdr with ⟨o, ho, hp⟩ | h
    · exfalso
      have hm : o ∈ S.obs := (List.mem_filter.mp ho).1
      cases o with
      | tReady ep r =>
        cases r with
        | pending => exact hwritable ep (List.mem_reverse.mpr hm)
        | _ => simp [readyP] at hp
      | _ => simp [readyP] at hp
    · exact h
  refine ⟨hcq, ?_⟩
  intro e he
  rcases hq.ent_call he with h | h
  · rw [hcq] at h; cases h
  · exact h

/-! ### non-vacuity -/

/-- The hypotheses of `C03_cancel_owed_state` hold for the poll that follows an abandonment; the `Cancel` is on the wire. -/
example :
    let ops := [COp.call 0 1000000000 ⟨7, .given 1, true⟩ 5, .pollCall 0, .pollDispatch, .dropCall 0 .none]
    let c0 := ops.foldl applyOp (initSys 4 4 4 true)
    c0.s.cq = [0] ∧ c0.s.inflight.map (·.id) = [0] ∧
    (c0.s.dDropped || c0.s.done.isSome || c0.s.poisoned) = false ∧
    (stepOp c0 .pollDispatch).1.s.done = none ∧ (stepOp c0 .pollDispatch).1.s.termErr = none ∧
    (stepOp c0 .pollDispatch).1.s.poisoned = false ∧
    (stepOp c0 .pollDispatch).2.all (fun o => match o with | .tReady _ .pending => false | _ => true) = true ∧
    (stepOp c0 .pollDispatch).1.s.cq = [] ∧ (stepOp c0 .pollDispatch).1.s.inflight = [] ∧
    (stepOp c0 .pollDispatch).1.s.t.sentLog =
      [.request 0 1000000000 ⟨7, .fresh 0, true⟩ 5, .cancel 0 ⟨7, .fresh 0, true⟩] := by
  decide

/-- `monC03` (all clauses) accepts the script with the abandoned call; the third clause is exercised at the last `ret`. -/
example :
    (monC03 (trace (initSys 4 4 4 true)
      [COp.call 0 1000000000 ⟨7, .given 1, true⟩ 5, .pollCall 0, .pollDispatch, .dropCall 0 .none, .pollDispatch])).ok = true ∧
    CEv.obs (.ret (.dispatch 0) .pending) ∈ trace (initSys 4 4 4 true)
      [COp.call 0 1000000000 ⟨7, .given 1, true⟩ 5, .pollCall 0, .pollDispatch, .dropCall 0 .none, .pollDispatch] := by
  decide

end TarpcModel.Client
