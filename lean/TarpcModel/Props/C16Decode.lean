import TarpcModel.Wire.Bincode
/-!
# C16 (decoders) — no byte string presented to a decoder can crash the endpoint

The framed decoder and the bincode reader of the model are total functions: malformed or truncated
input is an `error`/`truncated`/`failed` outcome.  The one place where the real reader could panic —
`now + d` while the deadline field is read — is modelled explicitly (`readClientMessage`), and whether
the source saturates there is read off `tarpc/src/context.rs` by the translator
(`Gen.deadlineSaturates`).  These theorems therefore stop building if the saturation is removed.
That third-party decoders (`serde_json`, `bincode`, `LengthDelimitedCodec`) never panic on arbitrary
bytes is not provable here; it is tested by the `c16dec` family under `catch_unwind`.
-/
namespace TarpcModel.Bincode

/-- The source as translated saturates the decoded deadline. -/
theorem C16_deadline_decode_saturates : Gen.deadlineSaturates = true := by decide

theorem outcome_ite_ne_panic {α : Type} (c : Prop) [Decidable c] (a b : Outcome α)
    (ha : a ≠ .panic) (hb : b ≠ .panic) : (if c then a else b) ≠ .panic := by
  split <;> assumption

/-- **No panic for any byte string**: whatever bytes a peer sends as a `ClientMessage`, the reader's
outcome is a message or an error, never a panic. -/
theorem C16_reader_never_panics {T : Type} (decT : Parser T) (bs : Bytes) :
    readClientMessage decT bs ≠ .panic := by
  have h := C16_deadline_decode_saturates
  simp only [readClientMessage, h, ↓reduceIte]
  cases hd : decodeClientMessage decT bs with
  | none => exact outcome_ite_ne_panic _ _ _ (by simp) (by simp)
  | some m => cases m <;> exact outcome_ite_ne_panic _ _ _ (by simp) (by simp)

/-- The defect as first found, as a theorem about the pre-fix reading (`now + d` unchecked): a
well-formed request whose `secs` is `2^63` overflows the `Instant`. -/
theorem C16_deadline_overflow_witness : instantAddPanics { secs := 2 ^ 63, nanos := 0 } = true := by decide

end TarpcModel.Bincode
