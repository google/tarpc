import TarpcModel.Props.C02
import TarpcModel.Props.C16Client
import TarpcModel.Lemmas.ClientAccount
/-!
# C02 — the global statement: what is false, and the accounting half of the true one

`C02NoStuckStatement` (`Props/C02.lean`) as written is **false** on the model (`C02NoStuckStatement_false`): once the
dispatch task has panicked (`poisoned`) it is never polled again, and every call whose request it had not written yet
stays pending for ever with nothing that excuses it.  The only reachable panic is the range check of
`DelayQueue::insert`, which fails once the clock is 2^36 ms past the (idle) timer wheel's `elapsed` — the lag F9.
(In the model a panicked task is *frozen*; the real runtime drops it, which closes the channel and wakes the callers:
the witness is an artefact of the model, not a lost wakeup of tarpc.)  The statement needs the hypothesis under which
the C16 theorems show the dispatch never panics: `advSum ops < 2^35 ms` (`C16_client_never_poisoned`).
`C02NoStuckStatement'` is the statement with that hypothesis; it is proved as `C02_no_stuck` in `Props/C02NoStuck.lean`.

Here: the accounting invariant, `C02_call_accounted` — in every reachable state every call future that waits has
something that can wake it on record:

* an `awaiting` call (receiver open) has its request in the request queue, or an entry in the in-flight table, or its
  oneshot already holds a value, or the oneshot's sender was dropped (or the dispatch has panicked);
* a `reserving` call is in the wait queue of the request channel or has been handed a permit (or the channel is closed,
  in which case `C02_close_wakes_all_waiters` applies; or its `Acquire` is being dropped).

With the clock bound of the C16 theorems the "panicked" alternative disappears (`C02_call_accounted_no_panic`).
Together with `C02_terminal_fanout_partial`, `C02_completion_wakes_caller`, `C02_sender_drop_wakes_caller`,
`C02_capacity_wakes_waiter` this says that whatever the dispatch does next with a waiting call's request reaches the
call.  The other half is the wake-up discipline `C02WakeInv` below: a quiescent state that keeps both has no stuck call
(`quiescent_not_stuck`), and `C02_no_stuck_of_wake_inv` reduces the statement to it; the dispatch's own parking is `Props/C02Park.lean`, the call futures and the channel `Props/C02NoStuck.lean`.
-/
namespace TarpcModel.Client

/-- the clock jumps 2^36 ms while the timer wheel is idle; the first request makes `DelayQueue::insert` panic; a second
call is enqueued afterwards -/
def c02PoisonOps : List COp :=
  [.advance (2 ^ 36 * 1000000), .call 0 (2 ^ 36 * 1000000 + 1000000000) ⟨1, .given 1, true⟩ 1, .pollCall 0, .pollDispatch,
   .call 0 (2 ^ 36 * 1000000 + 1000000000) ⟨2, .given 2, true⟩ 2, .pollCall 1]

set_option maxRecDepth 100000 in
/-- The dispatch is poisoned by the panic; both calls are stuck: nothing written, transport writable, table empty,
no terminal error. -/
theorem c02PoisonOps_stuck :
    (c02PoisonOps.foldl applyOp (initSys 4 4 4 true)).s.poisoned = true ∧
    (c02PoisonOps.foldl applyOp (initSys 4 4 4 true)).s.t.sentLog = [] ∧
    (settle (c02PoisonOps.foldl applyOp (initSys 4 4 4 true))).2 = [0, 1] := by decide

/-- **`C02NoStuckStatement` is false** (the dispatch may have panicked). -/
theorem C02NoStuckStatement_false : ¬ C02NoStuckStatement := by
  intro h
  have := h 4 4 4 true c02PoisonOps (by decide) (by decide) (by decide)
  rw [c02PoisonOps_stuck.2.2] at this
  cases this

/-- The global statement with the hypothesis that keeps the dispatch from panicking (the clock stays below
2^35 ms, as in `C16_client_never_poisoned`).  Proved: `C02_no_stuck` (`Props/C02NoStuck.lean`). -/
def C02NoStuckStatement' : Prop :=
  ∀ (m b c : Nat) (coupled : Bool) (ops : List COp), 1 ≤ m → 1 ≤ b → 1 ≤ c → advSum ops < 2 ^ 35 * nsPerMs →
    (settle (ops.foldl applyOp (initSys m b c coupled))).2 = []

/-- the witness violates the clock bound, as it must -/
example : ¬ advSum c02PoisonOps < 2 ^ 35 * nsPerMs := by decide

/-! ### every waiting call is accounted for -/

/-- **C02: every waiting call is accounted for**, in every reachable state. -/
theorem C02_call_accounted (m b c : Nat) (coupled : Bool) (ops : List COp)
    (s : St) (hs : s = (ops.foldl applyOp (initSys m b c coupled)).s) :
    (∀ cl ∈ s.calls, cl.phase = .awaiting → cl.os.rxClosed = false →
      (∃ r ∈ s.pq, r.cid = cl.cid) ∨ (∃ e ∈ s.inflight, e.cid = cl.cid) ∨ cl.os.val.isSome = true ∨
        cl.os.txDropped = true ∨ s.poisoned = true) ∧
    (∀ cl ∈ s.calls, cl.phase = .reserving →
      cl.cid ∈ s.pqWaiters ∨ cl.cid ∈ s.pqAssigned ∨ cl.os.txDropped = true ∨ s.pqClosed = true) := by
  subst hs
  have h := reach_acc m b c coupled ops
  constructor
  · intro cl hcl hph hrx
    have hm : (cl.cid, Phase.awaiting, cl.os.txDropped, false, cl.os.val.isSome) ∈
        acores (ops.foldl applyOp (initSys m b c coupled)).s := by
      have := mem_acores_of_mem hcl
      simpa [acore, hph, hrx] using this
    rcases h.acc _ _ _ hm with y | y | y | y | y | y
    · exact Or.inl y
    · exact Or.inr (Or.inl y)
    · exact Or.inr (Or.inr (Or.inl y))
    · exact Or.inr (Or.inr (Or.inr (Or.inl y)))
    · exact Or.inr (Or.inr (Or.inr (Or.inr y)))
    · cases y
  · intro cl hcl hph
    have hm : (cl.cid, Phase.reserving, cl.os.txDropped, cl.os.rxClosed, cl.os.val.isSome) ∈
        acores (ops.foldl applyOp (initSys m b c coupled)).s := by
      have := mem_acores_of_mem hcl
      simpa [acore, hph] using this
    exact h.res _ _ _ _ hm

/-- … and while the clock stays below 2^35 ms the dispatch has not panicked: an `awaiting` call's request is queued,
in flight, answered, or its sender is gone. -/
theorem C02_call_accounted_no_panic (m b c : Nat) (coupled : Bool) (ops : List COp) (hT : advSum ops < 2 ^ 35 * nsPerMs)
    (s : St) (hs : s = (ops.foldl applyOp (initSys m b c coupled)).s) :
    ∀ cl ∈ s.calls, cl.phase = .awaiting → cl.os.rxClosed = false →
      (∃ r ∈ s.pq, r.cid = cl.cid) ∨ (∃ e ∈ s.inflight, e.cid = cl.cid) ∨ cl.os.val.isSome = true ∨
        cl.os.txDropped = true := by
  intro cl hcl hph hrx
  have hp : s.poisoned = false := by
    rw [hs]; exact (C16_client_never_poisoned m b c coupled ops hT ops (List.prefix_refl _)).1
  rcases (C02_call_accounted m b c coupled ops s hs).1 cl hcl hph hrx with y | y | y | y | y
  · exact Or.inl y
  · exact Or.inr (Or.inl y)
  · exact Or.inr (Or.inr (Or.inl y))
  · exact Or.inr (Or.inr (Or.inr y))
  · rw [hp] at y; cases y

/-- the accounting on a concrete script: one request in flight, one still queued behind a full table, one caller
waiting for a permit -/
example :
    let ops := [COp.call 0 1000000000 ⟨1, .given 1, false⟩ 7, .call 0 1000000000 ⟨2, .given 2, false⟩ 8,
      .call 0 1000000000 ⟨3, .given 3, false⟩ 9, .pollCall 0, .pollDispatch, .pollCall 1, .pollCall 2]
    let s := (ops.foldl applyOp (initSys 1 1 4 true)).s
    s.inflight.map (·.cid) = [0] ∧ s.pq.map (·.cid) = [1] ∧ s.pqWaiters = [2] ∧
    s.calls.map (·.phase) = [.awaiting, .awaiting, .reserving] := by
  decide

/-! ### from the accounting to "nobody is stuck" -/

/-- The wake-up discipline of a quiescent state — the part of `C02NoStuckStatement'` beyond the accounting (it holds in
every reachable state: `Lemmas/ClientWake.lean`, `Lemmas/ClientParkQ.lean`).
`np`, `rs`, `aw`: a call future that is not woken is parked where it will be woken (a fresh future is born woken; a
future waiting for a permit is in the wait queue; a future waiting for its response has an open, empty oneshot whose
sender is alive).  `gone`: a dispatch that was dropped or has completed leaves no waiter and no queued request behind.
`full`: callers wait for permits only while the queue holds requests (permits handed out wake their owner).  `park`:
**a parked dispatch does not sit on a queued request** unless the in-flight table is full or the sink is not ready. -/
structure C02WakeInv (s : St) : Prop where
  np : ∀ cl ∈ s.calls, cl.phase = .notPolled → cl.woken = true
  rs : ∀ cl ∈ s.calls, cl.phase = .reserving → cl.woken = false → cl.cid ∈ s.pqWaiters
  aw : ∀ cl ∈ s.calls, cl.phase = .awaiting → cl.woken = false →
    cl.os.rxClosed = false ∧ cl.os.val = none ∧ cl.os.txDropped = false
  gone : (s.dDropped = true ∨ s.done.isSome = true) → s.pqWaiters = [] ∧ s.pq = []
  full : s.pqWaiters ≠ [] → (∀ cl ∈ s.calls, callLive cl = true → cl.woken = false) → s.pq ≠ []
  park : s.dDropped = false → s.done = none → s.dWoken = false → s.termErr = none → s.pq ≠ [] →
    s.inflight.length ≥ s.maxInFlight ∨ s.t.isReadyNow = false

/-- `settle` only polls: the state it stops in is reachable by a script that does not advance the clock (`settle` runs
`settleLoop` with fuel 400, `Client/Settle.lean`) -/
theorem settleLoop_reach (fuel : Nat) (c : Sys) : ∃ ops', settleLoop fuel c = ops'.foldl applyOp c ∧ advSum ops' = 0 := by
  induction fuel generalizing c with
  | zero => exact ⟨[], rfl, rfl⟩
  | succ fuel ih =>
    unfold settleLoop
    split
    · obtain ⟨ops', h1, h2⟩ := ih { c with s := pollDispatch c.s c.now }
      exact ⟨.pollDispatch :: ops', by rw [h1]; rfl, by simp [advSum, opAdv, h2]⟩
    · split
      · rename_i cid _
        obtain ⟨ops', h1, h2⟩ := ih { c with s := pollCall c.s cid c.now }
        exact ⟨.pollCall cid :: ops', by rw [h1]; rfl, by simp [advSum, opAdv, h2]⟩
      · exact ⟨[], rfl, rfl⟩

/-- the request of a tracked call has been written (by body, as `requestWritten` looks it up) -/
theorem requestWritten_of_entry {s : St} (hi : Inv none (view s)) (hp : s.poisoned = false) {cl : Call}
    (hcl : cl ∈ s.calls) {e : Entry} (he : e ∈ s.inflight) (hc : e.cid = cl.cid) : requestWritten s cl = true := by
  have hid : e.id ∈ reqIds s.t.sentLog := hi.infSent hp e he (by simp)
  unfold reqIds at hid
  obtain ⟨msg, hmsg, hm⟩ := List.mem_filterMap.mp hid
  cases msg with
  | request id dl tr body =>
    simp only [Option.some.injEq] at hm
    subst hm
    obtain ⟨i, cv, hgi, henq, hcvid, _, hbody, _⟩ := hi.reqCall _ dl tr body hmsg
    obtain ⟨cv', hgv', henq', hcv'id, _⟩ := hi.inf e he
    have hij : i = e.cid := hi.idInj i e.cid cv cv' hgi hgv' henq.polled henq'.polled (by rw [hcvid, hcv'id])
    subst hij
    rw [hgv'] at hgi; injection hgi with hgi; subst hgi
    have hclv : (view s).get cl.cid = some cl.v := view_getCall_some (getCall_of_mem_inv hi hcl)
    rw [hc, hclv] at hgv'; injection hgv' with hgv'
    unfold requestWritten
    rw [List.any_eq_true]
    refine ⟨_, hmsg, ?_⟩
    simp only [beq_iff_eq]
    rw [hbody, ← hgv']; rfl
  | cancel _ _ => simp at hm
  | response _ _ => simp at hm

/-- **A quiescent state has no stuck call**: with the wake-up discipline and the accounting, no runnable dispatch and no
woken call future, every live call has an excuse. -/
theorem quiescent_not_stuck {s : St} (hw : C02WakeInv s) (hi : Inv none (view s)) (hp : s.poisoned = false)
    (hacc : ∀ cl ∈ s.calls, cl.phase = .awaiting → cl.os.rxClosed = false →
      (∃ r ∈ s.pq, r.cid = cl.cid) ∨ (∃ e ∈ s.inflight, e.cid = cl.cid) ∨ cl.os.val.isSome = true ∨
        cl.os.txDropped = true)
    (hrun : dispatchRunnable s = false) (hwok : firstWokenCall s = none) : stuckCalls s = [] := by
  have hquiet := firstWokenCall_none s hwok
  -- the dispatch is gone, or parked
  have hdisp : (s.dDropped = true ∨ s.done.isSome = true) ∨ (s.dDropped = false ∧ s.done = none ∧ s.dWoken = false) := by
    unfold dispatchRunnable at hrun
    rw [hp] at hrun
    cases hd : s.dDropped with
    | true => exact Or.inl (Or.inl rfl)
    | false =>
      cases hdn : s.done with
      | some r => exact Or.inl (Or.inr rfl)
      | none =>
        right
        refine ⟨rfl, rfl, ?_⟩
        simpa [hd, hdn] using hrun
  -- a queued request excuses every call (or contradicts a dispatch that is gone)
  have hqueued : s.pq ≠ [] → ∀ cl : Call, excused s cl = true := by
    intro hpq cl
    rcases hdisp with hg | ⟨h1, h2, h3⟩
    · exact absurd (hw.gone hg).2 hpq
    · unfold excused
      cases hte : s.termErr with
      | some a => simp
      | none =>
        rcases hw.park h1 h2 h3 hte hpq with h' | h'
        · simp [h']
        · simp [h']
  unfold stuckCalls
  rw [List.map_eq_nil_iff, List.filter_eq_nil_iff]
  intro cl hcl hbad
  simp only [Bool.and_eq_true, Bool.not_eq_true'] at hbad
  obtain ⟨hlive, hnex⟩ := hbad
  have hnw : cl.woken = false := hquiet cl hcl hlive
  have hex : excused s cl = true := by
    cases hph : cl.phase with
    | notPolled => rw [hw.np cl hcl hph] at hnw; cases hnw
    | reserving =>
      have hwt := hw.rs cl hcl hph hnw
      have hne : s.pqWaiters ≠ [] := fun h => by rw [h] at hwt; cases hwt
      exact hqueued (hw.full hne (fun c' hc' hl => hquiet c' hc' hl)) cl
    | awaiting =>
      obtain ⟨hrx, hv, htx⟩ := hw.aw cl hcl hph hnw
      rcases hacc cl hcl hph hrx with ⟨r, hr, _⟩ | ⟨e, he, hce⟩ | h' | h'
      · exact hqueued (fun h => by rw [h] at hr; cases hr) cl
      · unfold excused
        rw [requestWritten_of_entry hi hp hcl he hce]; simp
      · rw [hv] at h'; cases h'
      · rw [htx] at h'; cases h'
    | resolved => simp [callLive, hph] at hlive
    | dropped => simp [callLive, hph] at hlive
  rw [hex] at hnex; cases hnex

/-- **C02, the global statement, reduced to the wake-up discipline**: if every reachable state (clock below 2^35 ms)
satisfies `C02WakeInv`, then after `settle` no call is stuck: the state `settle` stops in is reachable without advancing
the clock (`settleLoop_reach`) and quiescent (`quiescent_not_stuck`). -/
theorem C02_no_stuck_of_wake_inv
    (hW : ∀ (m b c : Nat) (coupled : Bool) (ops : List COp), 1 ≤ m → 1 ≤ b → 1 ≤ c → advSum ops < 2 ^ 35 * nsPerMs →
      C02WakeInv (ops.foldl applyOp (initSys m b c coupled)).s) : C02NoStuckStatement' := by
  intro m b c coupled ops hm hb hc hT
  unfold settle
  simp only
  split
  · rfl
  · rename_i hq
    simp only [Bool.or_eq_true, not_or, Bool.not_eq_true, Option.isSome_eq_false_iff, Option.isNone_iff_eq_none] at hq
    obtain ⟨hrun, hwok⟩ := hq
    obtain ⟨ops', hreach, hadv⟩ := settleLoop_reach 400 (ops.foldl applyOp (initSys m b c coupled))
    have hfold : settleLoop 400 (ops.foldl applyOp (initSys m b c coupled)) = (ops ++ ops').foldl applyOp (initSys m b c coupled) := by
      rw [hreach, List.foldl_append]
    have hT' : advSum (ops ++ ops') < 2 ^ 35 * nsPerMs := by rw [advSum_append, hadv]; simpa using hT
    rw [hfold] at hrun hwok ⊢
    exact quiescent_not_stuck (hW m b c coupled (ops ++ ops') hm hb hc hT') (reach_inv m b c coupled (ops ++ ops'))
      (C16_client_never_poisoned m b c coupled (ops ++ ops') hT' _ (List.prefix_refl _)).1
      (C02_call_accounted_no_panic m b c coupled (ops ++ ops') hT' _ rfl) hrun hwok

end TarpcModel.Client
