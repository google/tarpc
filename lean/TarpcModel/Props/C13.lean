import TarpcModel.Lemmas.C13
/-!
# C13 — Per-key channel limit is never exceeded nor over-applied

Property theorems only.  The model is `TarpcModel.CPK` (`Limits/ChannelsPerKey.lean`), the
monitor `TarpcModel.CPK.mon` (`Monitors/C13.lean`) is the same decidable predicate that the
check evaluates on the implementation's observation stream.
-/
namespace TarpcModel.CPK

/-- **C13 (monitor form).**  For every limit `n ≥ 1` and every finite sequence of arrivals, closes,
listener polls and listener end, the monitor accepts the model's trace: after every yield at most
`n` live channels share the key, and every shed happens with `n` alive. -/
theorem C13_monitor_accepts (n : Nat) (hn : 1 ≤ n) (ops : List Op) :
    (mon n (run (initCurrent n) ops).2).ok = true :=
  (run_good ops (initCurrent_good hn)).ok

/-- **C13 (state form): never exceeded.**  In every reachable state, every key has at most `n`
live yielded channels. -/
theorem C13_never_exceeded (n : Nat) (hn : 1 ≤ n) (ops : List Op) (k : Nat) :
    aliveForKey k (run (initCurrent n) ops).1.chans ≤ n := by
  have g := run_good ops (initCurrent_good hn)
  have := g.inv.bound k
  rw [g.lim] at this
  exact this

/-- **C13: shed only when full** (one-step form, any reachable state): if polling the listener
sheds an arrival with key `k`, then `n` channels with key `k` were alive at that moment. -/
theorem C13_shed_only_when_full (n : Nat) (hn : 1 ≤ n) (ops : List Op) (k : Nat)
    (s : St) (hs : s = (run (initCurrent n) ops).1) :
    (increment s k).2 = none → n ≤ aliveForKey k s.chans := by
  intro h
  subst hs
  generalize hs' : (run (initCurrent n) ops).1 = s at *
  have g : Good n s _ := hs' ▸ run_good ops (initCurrent_good hn)
  unfold increment at h
  cases hl : lookup k s.keyCounts with
  | none => rw [hl] at h; simp at h
  | some t =>
    rw [hl] at h
    have hsc := strongCount_eq_alive g.inv hl
    have := g.lim
    by_cases hfull : strongCount t s.chans ≥ s.limit
    · omega
    · simp only [hfull, ↓reduceIte] at h
      split at h <;> simp at h

/-- **C13: a close frees capacity.**  In any reachable state, once fewer than `n` channels with key
`k` are alive, the next arrival with key `k` is admitted (so capacity released by a close is never
lost, whatever notifications are still queued). -/
theorem C13_close_frees (n : Nat) (hn : 1 ≤ n) (ops : List Op) (k : Nat)
    (s : St) (hs : s = (run (initCurrent n) ops).1) :
    aliveForKey k s.chans < n → (increment s k).2 ≠ none := by
  intro hlt h
  have := C13_shed_only_when_full n hn ops k s hs h
  omega

/-- The defect the `fix:` commit repairs, as a theorem about the pre-fix variant of the model
(`guardStale := false`): with `n = 1`, channel A(key 7) closes, B(7) arrives, one poll admits B
and then consumes A's stale notification (erasing B's entry); C(7) is then admitted while B is
alive — two live channels for a limit of one.  The monitor rejects that trace. -/
theorem C13_stale_notification_witness :
    let ops := [Op.arrive 7, .poll, .close 0, .arrive 7, .poll, .arrive 7, .poll]
    (mon 1 (run (init 1 false) ops).2).ok = false ∧
    aliveForKey 7 (run (init 1 false) ops).1.chans = 2 := by
  decide +kernel

/-- The same history on the current (fixed) model is accepted: C is shed. -/
example :
    let ops := [Op.arrive 7, .poll, .close 0, .arrive 7, .poll, .arrive 7, .poll]
    (mon 1 (run (init 1) ops).2).ok = true ∧
    (run (init 1) ops).2 =
      [.arrived 0 7, .yielded 0 7, .closed 0, .arrived 1 7, .yielded 1 7, .arrived 2 7,
       .shed 2 7, .pending] := by
  decide +kernel

/-- Non-vacuity: a reachable state with a full key, a shed, and a later admission after a close. -/
example :
    (run (init 2) [.arrive 1, .arrive 1, .arrive 1, .poll, .poll, .poll, .close 0, .arrive 1, .poll]).2 =
      [.arrived 0 1, .arrived 1 1, .arrived 2 1, .yielded 0 1, .yielded 1 1, .shed 2 1, .pending,
       .closed 0, .arrived 3 1, .yielded 3 1] := by
  decide +kernel

end TarpcModel.CPK
