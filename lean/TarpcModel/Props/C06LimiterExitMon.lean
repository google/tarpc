import TarpcModel.Lemmas.ServerStallWalk
/-!
# C06 / C04 (server side) — the limiter's early exit is taken at the limit only: the general theorem

Property theorems only.  `Props/C06LimiterExit.lean` describes the clause of `checkC06Stall` that rejects a top-level
poll of the request stream in which the limiter returned on `poll_ready → Pending` without polling the inner channel
although the poll began below the limit (`Book.belowLimitStall`), with examples.  Here: **that clause never fires on a
trace of the model** — every configuration (any limit or none, any capacities), every script over all ops, every fault,
no bound on the clock (`C06S_limiter_exit_accepts`).

The proof (`Lemmas/ServerStallWalk.lean`) is an observation-precise walk through one poll: between the calls of the
pumps the book's flag is clear and a pending `poll_ready` as last transport call implies that the limit is at most the
count the poll began with (`LG`); every part of the poll that makes no `poll_ready` call keeps that (`ObsRel`,
`or_basePollNext` …); the write pump's own pending `poll_ready` is always followed by its `poll_flush`
(`LG_ensureOnce`, `LG_pumpWrite`); the limiter calls `poll_ready` only behind its `in_flight ≥ limit` test
(`LG_legacy`), and the table does not grow while no request is accepted (`basePollNext_len`), so at the limit now means
at the limit when the poll began; and the count the book remembers (`lastCounts`) is the size of the table when the next
channel poll begins (`OIL`: requests in flight change inside channel polls only, `applyOp_inflight_len`).
-/
namespace TarpcModel.Server
open TarpcModel TarpcModel.Server.Tab

/-- the monitor with the limiter-exit clause of `checkC06Stall` only -/
def monLimiterExit (limit : Option Nat) (evs : List SEv) : Mon Unit := Mon.run limit checkLimiterExit () evs

/-- **On the model the limiter takes its early exit at the limit only.**  For every configuration and every script over
all ops, the limiter-exit clause never fires on the model's trace: no top-level poll of the request stream in which
`poll_ready → Pending` is followed at once by the write pump's `poll_ready` began with fewer requests in flight than the
limit. -/
theorem C06S_limiter_exit_accepts (limit : Option Nat) (respCap tcap : Nat) (coupled : Bool) (ops : List SOp) :
    (monLimiterExit limit (trace (initSys limit respCap tcap coupled) ops)).ok = true := by
  unfold Mon.ok monLimiterExit
  rw [limiter_exit_accepts limit respCap tcap coupled ops]; rfl

/-- The sub-monitor is the first clause of `checkC06Stall`: whenever it objects, so does `checkC06Stall`, with the same
message. -/
theorem C06S_limiter_exit_first_clause (b : Book) (s : C06StallSt) (e : SEv) (why : String)
    (h : (checkLimiterExit b () e).2 = some why) : (checkC06Stall b s e).2 = some why := by
  cases e with
  | op o => cases h
  | obs o =>
    cases o with
    | ret t r =>
      cases t with
      | server k =>
        simp only [checkLimiterExit, checkC06Stall] at h ⊢
        by_cases hc : (b.topPoll && b.belowLimitStall) = true
        · rw [if_pos hc] at h ⊢; exact h
        · rw [if_neg hc] at h; cases h
      | _ => cases h
    | _ => cases h

/-- … and where it is silent, `checkC06Stall` judges a `ret` of the request stream by its stalled-poll clause alone
(which never objects at a `ret`). -/
theorem C06S_stall_ret_silent (b : Book) (s : C06StallSt) (k : Nat) (r : Ret)
    (h : (checkLimiterExit b () (.obs (.ret (.server k) r))).2 = none) :
    (checkC06Stall b s (.obs (.ret (.server k) r))).2 = none := by
  simp only [checkLimiterExit, checkC06Stall] at h ⊢
  by_cases hc : (b.topPoll && b.belowLimitStall) = true
  · rw [if_pos hc] at h; cases h
  · rw [if_neg hc]
    split <;> rfl

set_option maxRecDepth 100000 in
/-- Non-vacuity: the sub-monitor rejects the synthetic trace of `Props/C06LimiterExit.lean` (exit taken with 0 of 2 in
flight) and accepts a model trace in which the limiter does take the exit, at its limit. -/
example :
    (monLimiterExit (some 2)
      [.op .pollServer, .obs (.tReady (.server 0) .pending), .obs (.tReady (.server 0) .pending),
       .obs (.tFlush (.server 0) .pending), .obs (.ret (.server 0) .pending), .obs (.counts (.server 0) 0 0)]).ok = false ∧
    (let tr : Trace := ⟨0, .given 0, false⟩
     (monLimiterExit (some 1) (trace (initSys (some 1) 1 8 false)
        [.injectReq 1 50000000 tr 0, .pollServer, .setReady false, .injectReq 2 60000000 tr 0, .pollServer,
         .pollServer])).ok = true) := by
  decide

end TarpcModel.Server
