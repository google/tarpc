import TarpcModel.Lemmas.C19
/-!
# C19 — Request hooks run in order and short-circuit correctly

Property theorems only.  The model is `TarpcModel.Hooks` (`Hooks.lean`): `eval s c q` is
`Serve::serve` of the wrapper stack `s` (built from `HookThenServe`, `ServeThenHook`,
`HookThenServeThenHook`, `BeforeRequestCons/Nil`) on context `c` and request `q`; it returns every
hook / handler invocation in order (with the context, request and response it saw) and the response.
All statements are for every stack (any depth, any nesting order), every hook script (any failing
position, any context / response edit), every context and request.

Vocabulary: `runList hs c q` is a cons-list of before-hooks used as one hook; `applyEdits hs c` is `c`
after the context edits of `hs` in order; `allPass hs` says no hook of `hs` fails; `thenL`/`chain`/
`serving` model `BeforeRequestList::then`, `before().then(..)…` and `serving`.
-/
namespace TarpcModel.Hooks

/-! ## before-hooks run in order, each seeing its predecessors' context edits -/

/-- **C19 (list order).**  In a chained list `pre ++ h :: post` whose hooks `pre` all pass, hook `h` is
invoked exactly after the `|pre|` invocations of `pre` (which are the run of `pre` alone, all passing
before-events) and sees the context as edited by every hook of `pre`, in order.  Applied to every
split of the list this fixes the whole order left to right. -/
theorem C19_list_order (pre post : List Hook) (h : Hook) (c : Ctx) (q : Req) (hpre : allPass pre) :
    ∃ evPost, (runList (pre ++ h :: post) c q).1 =
        (runList pre c q).1 ++ .before h.tag (applyEdits pre c) q h.fail :: evPost ∧
      (runList pre c q).1.length = pre.length ∧
      (∀ e ∈ (runList pre c q).1, e.isBeforeOk = true) := by
  have hp := runList_allPass pre c q hpre
  rcases Bool.eq_false_or_eq_true h.fail with hf | hf'
  · exact ⟨[], by rw [runList_first_failure pre post h c q hpre hf, hf], hp.2.1, hp.2.2⟩
  · exact ⟨_, by rw [runList_pass_at pre post h c q hpre hf', hf'], hp.2.1, hp.2.2⟩

/-- **C19 (list order, positional form).**  If hooks `0..i-1` of the list pass, the `i`-th invocation
is hook `i`, seeing the context edited by hooks `0..i-1` in order. -/
theorem C19_list_order_at (hs : List Hook) (c : Ctx) (q : Req) (i : Nat) (hi : i < hs.length)
    (hp : allPass (hs.take i)) :
    (runList hs c q).1[i]? =
      some (.before hs[i].tag (applyEdits (hs.take i) c) q hs[i].fail) := by
  have hd : hs = hs.take i ++ hs[i] :: hs.drop (i + 1) := by simp
  obtain ⟨evPost, h1, h2, _⟩ := C19_list_order (hs.take i) (hs.drop (i + 1)) hs[i] c q hp
  rw [← hd] at h1
  have hlen : (runList (hs.take i) c q).1.length = i := by
    rw [h2, List.length_take]; omega
  rw [h1, List.getElem?_append_right (by omega), hlen]
  simp

/-- **C19 (list, all pass).**  When every hook of the list passes, all of them run (one invocation
each), and what the list wraps is served with the context edited by all of them in order. -/
theorem C19_list_all_pass (hs : List Hook) (s : Serve) (c : Ctx) (q : Req) (hp : allPass hs) :
    eval (.beforeList hs s) c q =
        ((runList hs c q).1 ++ (eval s (applyEdits hs c) q).1, (eval s (applyEdits hs c) q).2) ∧
      (runList hs c q).1.length = hs.length := by
  have h := runList_allPass hs c q hp
  exact ⟨eval_beforeList_ok _ _ _ _ _ h.1, h.2.1⟩

/-- **C19 (order across the whole stack).**  Whatever the nesting of before / list / after /
before-and-after wrappers, the before-invocations of a call are exactly those of the single flat list
of all before-hooks of the stack (outermost wrapper first): same order, each seeing the edits of all
those before it, stopping at the first failure.  The handler is invoked iff that flat list passes —
then exactly once, with the fully edited context and the request unchanged. -/
theorem C19_stack_order (s : Serve) (c : Ctx) (q : Req) :
    (eval s c q).1.filter Event.isBefore = (runList (befores s) c q).1 ∧
    (eval s c q).1.filter Event.isHandler =
      (match (runList (befores s) c q).2 with
       | .ok c' => [.handler (handlerTag s) c' q]
       | .err _ => []) := by
  have h := eval_befores s c q
  refine ⟨h.1, ?_⟩
  rw [h.2]
  cases (runList (befores s) c q).2 <;> rfl

/-! ## the first failing before-hook stops the chain -/

/-- **C19 (first failure stops).**  If `h` is the first failing hook of a chained list, the wrapper's
invocations are those of the hooks before it followed by `h`'s and nothing else: no later hook of
the list, nothing of what the list wraps (in particular not the handler); the wrapper's response is
`h`'s error.  The same for a single before-hook and for the before part of a combined hook. -/
theorem C19_first_failure_stops (pre post : List Hook) (h : Hook) (s : Serve) (c : Ctx) (q : Req)
    (hpre : allPass pre) (hf : h.fail = true) :
    eval (.beforeList (pre ++ h :: post) s) c q =
        ((runList pre c q).1 ++ [.before h.tag (applyEdits pre c) q true], .err h.tag) ∧
    eval (.before h s) c q = ([.before h.tag c q true], .err h.tag) ∧
    eval (.both h s) c q = ([.before h.tag c q true], .err h.tag) := by
  refine ⟨?_, eval_before_fail _ _ _ _ hf, eval_both_fail _ _ _ _ hf⟩
  have h1 := runList_first_failure pre post h c q hpre hf
  rw [eval_beforeList_err _ _ _ _ h.tag (by rw [h1]), h1]

/-- **C19 (a failure stops everything inside, any stack).**  The invocations of any call have the form
`passing before-hooks*, then exactly one of {handler, failing before-hook}, then after-hooks only`.
So once a before-hook fails no other before-hook runs and the handler is not invoked; its error is
what the next after-hook outside sees, or — with no after-hook outside — the response of the call. -/
theorem C19_failure_shape (s : Serve) (c : Ctx) (q : Req) :
    ∃ bs m as, (eval s c q).1 = bs ++ m :: as ∧
      (∀ e ∈ bs, e.isBeforeOk = true) ∧ (∀ e ∈ as, e.isAfter = true) ∧
      ((∃ t c' q', m = .handler t c' q') ∨
       (∃ t c' q', m = .before t c' q' true ∧
          ((as = [] ∧ (eval s c q).2 = .err t) ∨ (∃ t' c'' as', as = .after t' c'' (.err t) :: as')))) :=
  eval_shape s c q

/-- **C19 (handler not invoked).**  If some before-hook of the call failed, there is no handler
invocation in it, whatever the stack. -/
theorem C19_failure_no_handler (s : Serve) (c : Ctx) (q : Req) (t : Nat) (c' : Ctx) (q' : Req)
    (hm : Event.before t c' q' true ∈ (eval s c q).1) :
    (eval s c q).1.filter Event.isHandler = [] := by
  obtain ⟨bs, m, as, he, hb, ha, hx⟩ := eval_shape s c q
  rw [he] at hm ⊢
  have hbs : bs.filter Event.isHandler = [] :=
    List.filter_eq_nil_iff.mpr fun e he => not_isHandler_of_isBeforeOk (hb e he)
  have has : as.filter Event.isHandler = [] :=
    List.filter_eq_nil_iff.mpr fun e he => not_isHandler_of_isAfter (ha e he)
  rcases hx with ⟨t0, c0, q0, rfl⟩ | ⟨t0, c0, q0, rfl, _⟩
  · rcases List.mem_append.mp hm with h1 | h1
    · have := hb _ h1; simp [Event.isBeforeOk] at this
    · rcases List.mem_cons.mp h1 with h2 | h2
      · cases h2
      · have := ha _ h2; simp at this
  · simp [List.filter_append, hbs, has]

/-- Wrappers without an after part hand the inner response through unchanged (so a failing hook's
error travels outwards until an after-hook edits it). -/
theorem C19_before_passes_result_through (h : Hook) (hs : List Hook) (s : Serve) (c : Ctx) (q : Req)
    (hf : h.fail = false) (hp : allPass hs) :
    (eval (.before h s) c q).2 = (eval s (h.edit.apply c) q).2 ∧
    (eval (.beforeList hs s) c q).2 = (eval s (applyEdits hs c) q).2 := by
  rw [eval_before_pass _ _ _ _ hf, (C19_list_all_pass hs s c q hp).1]
  exact ⟨rfl, rfl⟩

/-! ## after-hooks -/

/-- **C19 (after once).**  An after wrapper's invocations are all invocations of what it wraps followed
by exactly one invocation of its hook (the after-count grows by one); the hook sees the result of
what it wraps — whatever that is — and the wrapper's response is what the hook left. -/
theorem C19_after_once (s : Serve) (h : Hook) (c : Ctx) (q : Req) :
    (eval (.after s h) c q).1 = (eval s c q).1 ++ [.after h.tag c (eval s c q).2] ∧
    (eval (.after s h) c q).2 = h.redit.apply (eval s c q).2 ∧
    afterCount (eval (.after s h) c q).1 = afterCount (eval s c q).1 + 1 := by
  rw [eval_after]
  refine ⟨rfl, rfl, ?_⟩
  simp [afterCount, List.filter_append, List.filter_cons]

/-- **C19 (after sees an inner before-hook's error).**  An after-hook around a failing before-hook
(single, combined or in a list): the after-hook runs once, right after the failing hook, sees that
hook's error, and its edit of the result is the response. -/
theorem C19_after_sees_inner_error (b h : Hook) (s : Serve) (c : Ctx) (q : Req) (hf : b.fail = true) :
    eval (.after (.before b s) h) c q =
      ([.before b.tag c q true, .after h.tag c (.err b.tag)], h.redit.apply (.err b.tag)) ∧
    eval (.after (.both b s) h) c q =
      ([.before b.tag c q true, .after h.tag c (.err b.tag)], h.redit.apply (.err b.tag)) ∧
    eval (.after (.beforeList [b] s) h) c q =
      ([.before b.tag c q true, .after h.tag c (.err b.tag)], h.redit.apply (.err b.tag)) := by
  rw [eval_after, eval_after, eval_after, eval_before_fail _ _ _ _ hf, eval_both_fail _ _ _ _ hf,
    eval_beforeList_cons, eval_before_fail _ _ _ _ hf]
  exact ⟨rfl, rfl, rfl⟩

/-- **C19 (plain after-hook sees its caller's context).**  `Context` is `Copy` and `ServeThenHook`
passes a copy inwards: the hook of an after wrapper sees the context the wrapper was called with, not
the edits made by before-hooks inside it — while those edits do reach the handler. -/
theorem C19_plain_after_sees_callers_ctx (s : Serve) (h b : Hook) (t : Nat) (r : Res) (c : Ctx) (q : Req) :
    (eval (.after s h) c q).1.getLast? = some (.after h.tag c (eval s c q).2) ∧
    (b.fail = false →
      eval (.after (.before b (.leaf t r)) h) c q =
        ([.before b.tag c q false, .handler t (b.edit.apply c) q, .after h.tag c r], h.redit.apply r)) := by
  constructor
  · rw [eval_after]; simp
  · intro hf
    rw [eval_after, eval_before_pass _ _ _ _ hf, eval_leaf]
    rfl

/-- **C19 (before-and-after).**  If the before part fails, the after part is skipped (no after
invocation of this wrapper, nothing inside runs, the error is the response); otherwise the inner
serve and the after part both get the context produced by the before part, the after part runs last,
sees the inner result, and what it leaves is the response. -/
theorem C19_both (h : Hook) (s : Serve) (c : Ctx) (q : Req) :
    (h.fail = true → eval (.both h s) c q = ([.before h.tag c q true], .err h.tag)) ∧
    (h.fail = false →
      eval (.both h s) c q =
        (.before h.tag c q false ::
            ((eval s (h.edit.apply c) q).1 ++
              [.after h.tag (h.edit.apply c) (eval s (h.edit.apply c) q).2]),
          h.redit.apply (eval s (h.edit.apply c) q).2)) ∧
    ((∃ c' r, (eval (.both h s) c q).1.getLast? = some (.after h.tag c' r)) ↔ h.fail = false) := by
  refine ⟨eval_both_fail _ _ _ _, eval_both_pass _ _ _ _, ?_⟩
  rcases Bool.eq_false_or_eq_true h.fail with hf | hf'
  · rw [eval_both_fail _ _ _ _ hf]; simp [hf]
  · rw [eval_both_pass _ _ _ _ hf']
    simp [hf', List.getLast?_cons]

/-- **C19 (combined hook = before wrapper inside an after wrapper, up to the context shown).**  A
passing combined hook behaves like `inner.before(h).after(h)` except that its after part is shown the
context edited by its own before part. -/
theorem C19_both_vs_nested (h : Hook) (s : Serve) (c : Ctx) (q : Req) (hf : h.fail = false) :
    (eval (.both h s) c q).2 = (eval (.after (.before h s) h) c q).2 ∧
    (eval (.both h s) c q).1.dropLast = (eval (.after (.before h s) h) c q).1.dropLast ∧
    (eval (.both h s) c q).1.getLast? =
      some (.after h.tag (h.edit.apply c) (eval s (h.edit.apply c) q).2) ∧
    (eval (.after (.before h s) h) c q).1.getLast? =
      some (.after h.tag c (eval s (h.edit.apply c) q).2) := by
  rw [eval_both_pass _ _ _ _ hf, eval_after, eval_before_pass _ _ _ _ hf]
  refine ⟨rfl, ?_, ?_, ?_⟩
  · simp only [← List.cons_append, List.dropLast_concat]
  · simp [List.getLast?_cons]
  · simp [List.getLast?_cons]

/-- An after part's edit of its `&mut Context` is invisible: replacing every hook's after-context
edit by anything else changes neither the invocations (and what they see) nor the response. -/
theorem C19_after_ctx_edit_unobservable (f : Hook → CtxEdit) (s : Serve) (c : Ctx) (q : Req) :
    eval (setAedits f s) c q = eval s c q :=
  eval_setAedits f s c q

/-! ## `then` and `serving` -/

/-- **C19 (`then` / `serving`).**  `then` appends at the end; `before().then(h1)…then(hn)` is the list
`[h1..hn]`; serving `l.then(h)` around `s` is serving `l` around (`h` before `s`); serving `l1 ++ l2` is
serving `l1` around (serving `l2` around `s`); a one-element list is a plain before wrapper; the empty
list is the serve itself; and `serving` agrees with `serve.before(list)`. -/
theorem C19_then_assoc (l l1 l2 hs : List Hook) (h : Hook) (s : Serve) (c : Ctx) (q : Req) :
    thenL l h = l ++ [h] ∧
    chain hs = hs ∧
    eval (serving (thenL l h) s) c q = eval (serving l (.before h s)) c q ∧
    eval (serving (l1 ++ l2) s) c q = eval (serving l1 (serving l2 s)) c q ∧
    eval (serving [h] s) c q = eval (.before h s) c q ∧
    serving [] s = s ∧
    eval (serving hs s) c q = eval (.beforeList hs s) c q := by
  refine ⟨thenL_eq_append l h, chain_eq hs, ?_, ?_, ?_, rfl, eval_serving hs s c q⟩
  · rw [thenL_eq_append, eval_serving, eval_serving, eval_beforeList_append]
    exact eval_beforeList_congr l (fun c => eval_beforeList_singleton h s c q) c
  · rw [eval_serving, eval_serving, eval_beforeList_append]
    exact eval_beforeList_congr l1 (fun c => (eval_serving l2 s c q).symm) c
  · rw [eval_serving]; exact eval_beforeList_singleton h s c q

/-! ## the monitor -/

/-- **C19 (monitor form).**  The monitor that the check runs on the implementation's trace
(`shapeOk` and `conforms` per call) accepts the model's observations of every sequence of calls. -/
theorem C19_monitor_accepts (calls : List (Serve × Ctx × Req)) :
    monVerdictOk (mon (callsObs calls)) = true := by
  have key : ∀ m : MonSt, m.ok = true → m.cur = none → m.evs = [] →
      (callsObs calls).foldl monStep m = m := by
    induction calls with
    | nil => intros; rfl
    | cons x xs ih =>
      intro m h1 h2 h3
      simp only [callsObs, List.foldl_append]
      rw [mon_callObs m h1 h2 h3, ih m h1 h2 h3]
  unfold mon
  rw [key {} rfl rfl rfl]
  rfl

/-- **C19 (the monitor is exact).**  `conforms` accepts a sequence of invocations and a response for
a stack iff they are exactly the model's: the per-wrapper reading of the property (order, context
seen, result seen, short-circuit, response) determines the behaviour completely. -/
theorem C19_conforms_iff (s : Serve) (c : Ctx) (q : Req) (evs : List Event) (r : Res) :
    conforms s c q evs r = true ↔ eval s c q = (evs, r) :=
  conforms_iff s c q evs r

/-! ## non-vacuity: concrete stacks -/

/-- A three-deep stack: after-hook 1 around failing before-hook 2 around
before-hook 3 around the handler.  Only hook 2 and then hook 1 run; hook 1 sees `Err(hook 2)`. -/
example :
    eval (.after (.before { tag := 2, fail := true } (.before { tag := 3 } (.leaf 9 (.ok 1)))) { tag := 1 })
        5 7 =
      ([.before 2 5 7 true, .after 1 5 (.err 2)], .err 2) := by
  decide

/-- Context threading through a list and a combined hook, the `Copy` subtlety of the plain after-hook
(sees 10, the handler sees 10+1+2+4), and response edits: the inner after-hook replaces `ok 0` by
`err 50`, the combined hook sees that and replaces it by `ok 8`, the outer one keeps it. -/
example :
    eval (.after
            (.beforeList [{ tag := 1, edit := .add 1 }, { tag := 2, edit := .add 2 }]
              (.both { tag := 3, edit := .add 4, redit := .ok 8 }
                (.after (.leaf 9 (.ok 0)) { tag := 4, redit := .err 50 })))
            { tag := 5 })
        10 0 =
      ([.before 1 10 0 false, .before 2 11 0 false, .before 3 13 0 false, .handler 9 17 0,
        .after 4 17 (.ok 0), .after 3 17 (.err 50), .after 5 10 (.ok 8)], .ok 8) := by
  decide +kernel

/-- A failure in the middle of a list under a combined hook: hooks 2 (passes), 3 (fails) run, hook 4
and the handler do not, the combined hook 1 sees `err 3` with the context its before part made. -/
example :
    eval (.both { tag := 1, edit := .set 100, redit := .keep }
            (serving (chain [{ tag := 2, edit := .add 1 }, { tag := 3, fail := true }, { tag := 4 }])
              (.leaf 9 (.ok 0))))
        0 6 =
      ([.before 1 0 6 false, .before 2 100 6 false, .before 3 101 6 true, .after 1 100 (.err 3)],
        .err 3) := by
  decide +kernel

/-- The monitor rejects a trace in which the handler ran although a before-hook failed, and one in
which an after-hook is shown the inner hooks' context instead of its caller's. -/
example :
    shapeOk [.before 2 5 7 true, .handler 9 5 7, .after 1 5 (.ok 1)] (.ok 1) = false ∧
    conforms (.after (.before { tag := 2, edit := .add 1 } (.leaf 9 (.ok 1))) { tag := 1 }) 5 7
      [.before 2 5 7 false, .handler 9 6 7, .after 1 6 (.ok 1)] (.ok 1) = false ∧
    conforms (.after (.before { tag := 2, edit := .add 1 } (.leaf 9 (.ok 1))) { tag := 1 }) 5 7
      [.before 2 5 7 false, .handler 9 6 7, .after 1 5 (.ok 1)] (.ok 1) = true := by
  decide +kernel

end TarpcModel.Hooks
