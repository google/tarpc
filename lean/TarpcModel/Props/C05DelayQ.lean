import TarpcModel.Lemmas.DelayQIdle
/-!
# C05 / C06 — the timer wheel (`DelayQueue`) is complete: entries are not yielded late

Property theorems only.  `Prim/DelayQ.lean` emulates tokio-util's `DelayQueue` (hashed hierarchical timer wheel).
`Lemmas/DelayQFacts.lean` has the one-sided result (*never early*: `pollExpired_not_early`); this file has the other
side, on which the *not late* clauses of C05 (a call fails with `DeadlineExceeded` no later than …) and C06 (the
server aborts at the deadline) rest.

**Reachability.**  `Reach P ops q now` (`Lemmas/DelayQReach.lean`): `q` and the clock `now` (ns) result from running the
op list `ops` (`insert timeout val`, `remove key`, `poll`, `advance dt`) from the empty queue at clock 0; inserts and
polls happen at the current clock, the clock only grows, each `insert` satisfies the range predicate `P`, each
`remove` is for a present key.

**Range.**  The library's own check (`InRange`: `when - elapsed ≤ 2^36 - 1`, otherwise `insert` panics) is *not*
enough: `C05_delayq_late_witness`.  What is enough is `InRangeStrict`: `when < (elapsed - elapsed % 2^30) + 2^36`
(less than one rotation of the top level after the start of the top-level slot the wheel clock is in).  It is implied
by `when - elapsed ≤ 63·2^30` ms (≈ 2.14 years; `C05_delayq_strict_of_le`) and by `when < 2^36` ms (all deadlines
within ≈ 2.18 years of the queue's creation; `C05_delayq_strict_of_horizon`).

Time conventions are those of `pollExpired_not_early`: an entry `e` is due at clock `now` (ns) iff
`e.whenMs * nsPerMs ≤ now`, where `whenMs` is the deadline rounded up to a millisecond.
-/
namespace TarpcModel.DelayQ

/-- The completeness statement for the range predicate `P`: in every reachable state,
(1) a poll that reports nothing (`pending`/`none`) leaves no due entry in the queue, has stored the waker, and the
registered `Sleep` (`nextFire`) is in the future and not after any remaining deadline;
(2) if some entry is due, the poll yields an entry. -/
def DelayQCompleteFor (P : DelayQ → Nat → Nat → Prop) : Prop :=
  ∀ (ops : List DOp) (q : DelayQ) (now : Nat), Reach P ops q now →
    (∀ q' r, q.pollExpired now = (q', r) → (r = .pending ∨ r = .none) →
      (∀ e ∈ items q', now < e.whenMs * nsPerMs) ∧ q'.waker = true ∧
      (∀ e ∈ items q', ∃ t, nextFire q' = some t ∧ now < t ∧ t ≤ e.whenMs * nsPerMs)) ∧
    ((∃ e ∈ items q, e.whenMs * nsPerMs ≤ now) → ∃ e', (q.pollExpired now).2 = .expired e')

/-- The naive statement: completeness whenever no `insert` panics. **False** — see
`C05_delayq_complete_statement_false`. -/
def DelayQCompleteStatement : Prop := DelayQCompleteFor InRange

/-- **Completeness of the timer wheel.**  For every op list whose inserts are in the strict range, in the state
reached: a poll that reports nothing leaves nothing due, stores the waker and leaves the `Sleep` registered no
later than the earliest remaining deadline; and if something is due, the poll yields an entry.  In particular the
internal loops (`wheelPoll`, `cascade`, `pollIdx`) never run out of their fuel on reachable states. -/
theorem C05_delayq_complete : DelayQCompleteFor InRangeStrict := by
  intro ops q now hr
  obtain ⟨hc, hk, _⟩ := reach_inv hr
  refine ⟨fun q' r h hpn => pollExpired_nothing_due hc h hpn, ?_⟩
  rintro ⟨e, he, hdue⟩
  exact pollExpired_due hc hk he hdue

/-- **Not late.**  Reachable state, poll reports nothing ⇒ no queued entry is due. -/
theorem C05_delayq_not_late (ops : List DOp) (q q' : DelayQ) (now : Nat) (r : PollRes)
    (hr : Reach InRangeStrict ops q now) (h : q.pollExpired now = (q', r)) (hpn : r = .pending ∨ r = .none) :
    ∀ e ∈ items q', now < e.whenMs * nsPerMs :=
  ((C05_delayq_complete ops q now hr).1 q' r h hpn).1

/-- **The wake-up is not late.**  Reachable state, poll reports nothing ⇒ the waker is stored, and at any later
clock `now'` at which some remaining entry is due, `nextFire` has been reached — so `onAdvance` (which wakes the
owner iff `nextFire ≤ now' && waker`) wakes the owner no later than the earliest deadline. -/
theorem C05_delayq_wakeup_not_late (ops : List DOp) (q q' : DelayQ) (now now' : Nat) (r : PollRes)
    (hr : Reach InRangeStrict ops q now) (h : q.pollExpired now = (q', r)) (hpn : r = .pending ∨ r = .none)
    (e : DqEntry) (he : e ∈ items q') (hdue : e.whenMs * nsPerMs ≤ now') :
    ∃ t, nextFire q' = some t ∧ (decide (t ≤ now') && q'.waker) = true :=
  (Idle.of_poll (reach_inv hr).1 h hpn).wakes he hdue

/-- **The `Sleep` is exact enough.**  Reachable state, poll reports nothing and entries remain ⇒ `nextFire` is
`some t` with `now < t ≤ whenMs·10^6` for every remaining entry (not yet fired, not after the earliest deadline). -/
theorem C05_delayq_nextFire_le (ops : List DOp) (q q' : DelayQ) (now : Nat) (r : PollRes)
    (hr : Reach InRangeStrict ops q now) (h : q.pollExpired now = (q', r)) (hpn : r = .pending ∨ r = .none)
    (e : DqEntry) (he : e ∈ items q') : ∃ t, nextFire q' = some t ∧ now < t ∧ t ≤ e.whenMs * nsPerMs :=
  ((C05_delayq_complete ops q now hr).1 q' r h hpn).2.2 e he

/-- **Due ⇒ yielded, and what is yielded is due.**  In a reachable state, the poll yields an entry iff some queued
entry is due; the yielded entry is itself due and was in the queue (that it has the earliest tick is `pollExpired_min`,
`Lemmas/DelayQOrder.lean`, for queues that also keep `StackEq`). -/
theorem C05_delayq_expired_iff_due (ops : List DOp) (q : DelayQ) (now : Nat)
    (hr : Reach InRangeStrict ops q now) :
    (∃ e', (q.pollExpired now).2 = .expired e') ↔ ∃ e ∈ items q, e.whenMs * nsPerMs ≤ now := by
  obtain ⟨hc, hk, hs⟩ := reach_inv hr
  constructor
  · rintro ⟨e', he'⟩
    have hp : q.pollExpired now = ((q.pollExpired now).1, .expired e') := Prod.ext rfl he'
    have hdue := pollExpired_not_early hp hs
    obtain ⟨e, he, hce⟩ := mem_cores_iff.1 (pollExpired_expired hp hk).1
    exact ⟨e, he, by rw [whenMs_eq_of_core_eq hce]; exact hdue⟩
  · rintro ⟨e, he, hdue⟩
    exact pollExpired_due hc hk he hdue

/-- **Repeated polling returns all due entries.**  In a reachable state, polling until the queue reports nothing —
at most `len` times — leaves no due entry; the queue's content (as `(key, value, whenMs)` triples) is exactly
what remains plus what came out; and everything that came out was due. -/
theorem C05_delayq_drain_all_due (ops : List DOp) (q : DelayQ) (now : Nat) (hr : Reach InRangeStrict ops q now) :
    (∀ e ∈ items (drain q.len q now).1, now < e.whenMs * nsPerMs) ∧
    (∀ c, c ∈ q.cores ↔ c ∈ (drain q.len q now).1.cores ∨ c ∈ (drain q.len q now).2.map core) ∧
    (∀ e ∈ items q, e.whenMs * nsPerMs ≤ now → core e ∈ (drain q.len q now).2.map core) := by
  obtain ⟨hc, hk, _⟩ := reach_inv hr
  obtain ⟨_, _, h3, h4⟩ := drain_complete now q.len q hc hk (Nat.le_refl _)
  refine ⟨h3, h4, ?_⟩
  intro e he hdue
  rcases (h4 (core e)).1 (mem_cores_iff.2 ⟨e, he, rfl⟩) with h | h
  · exfalso
    obtain ⟨e', he', hce⟩ := mem_cores_iff.1 h
    have := h3 e' he'
    rw [whenMs_eq_of_core_eq hce] at this
    omega
  · exact h

/-- The invariant behind all of the above holds in every reachable state: two-sided wheel invariant (`Complete`:
every wheel entry is filed in the slot its deadline hashes to within its level's window relative to `wheelElapsed`,
strictly in the future at levels ≥ 1; the `Sleep` exists iff needed and is not after any wheel entry; the `expired`
stack holds only elapsed entries), distinct keys, and the one-sided invariant with
`wheelElapsed, wheelNow ≤ now`. -/
theorem C05_delayq_invariant (ops : List DOp) (q : DelayQ) (now : Nat) (hr : Reach InRangeStrict ops q now) :
    Complete q ∧ KeysOk q ∧ Sound q now := reach_inv hr

/-- **Fuel adequacy.**  In a reachable state the fuel constants of the emulation are never exhausted: giving
`Wheel::poll` (at any poll time `t`) or the `poll_idx` loop of `pollExpired` any amount `k` of additional fuel does not
change the result, and the inner `cascade` (fuel `entries.length + 1`) empties the slot it is applied to.  The bound
behind it: every round of either loop moves at least one entry one level down, and the potential
`Σ level ≤ 5 · entries.length` (`pot`, `potL_le`) bounds the number of such moves; `wheelFuel = 8 · (entries.length + 1)`. -/
theorem C05_delayq_fuel_adequate (ops : List DOp) (q : DelayQ) (now : Nat) (hr : Reach InRangeStrict ops q now)
    (k t : Nat) :
    wheelPoll (wheelFuel q + k) q t = wheelPoll (wheelFuel q) q t ∧
    pollIdx (wheelFuel { q with waker := true } + 8 + k) { q with waker := true } now =
      pollIdx (wheelFuel { q with waker := true } + 8) { q with waker := true } now ∧
    (∀ ex, nextExpiration q = some ex → ex.level ≠ 0 →
      ∀ x ∈ (cascade (q.entries.length + 1) q ex.level ex.slot).entries, atSlot ex.level ex.slot x = false) := by
  obtain ⟨hc, _, _⟩ := reach_inv hr
  have hs0 : WStrict { q with waker := true } := hc.strict.of_eq rfl rfl
  refine ⟨wheelPoll_fuel_irrel t _ q (hc.strict.loop t) (wheelFuel_ok hc.strict) k,
    pollIdx_fuel_irrel now _ _ hs0 ⟨hc.dok.dsome, hc.dok.dle⟩ (pollFuel_ok hs0) k, ?_⟩
  intro ex _ hl0
  exact cnt_eq_zero (cascade_clears ex.level ex.slot (by omega) _ q
    (Nat.le_trans (cnt_le_len _ _ _) (Nat.le_succ _)))

/-- the strict range implies the library's range: such inserts do not panic -/
theorem C05_delayq_strict_no_panic (q : DelayQ) (now timeout val : Nat) (h : InRangeStrict q now timeout) :
    (q.insert now timeout val).2.1 ≠ .panic := by
  have h' := h.inRange
  unfold InRange whenOf at h'
  intro hp
  rcases insert_cases (triple_eta (q.insert now timeout val)) with ⟨_, _, hgt⟩ | ⟨hk, _⟩
  · omega
  · rw [hk] at hp; cases hp

/-- deadlines at most `63·2^30` ms (≈ 2.14 years) after the wheel clock are in the strict range -/
theorem C05_delayq_strict_of_le (q : DelayQ) (now timeout : Nat)
    (h : max (ceilMs (now + timeout)) q.wheelElapsed - q.wheelElapsed ≤ 63 * 2 ^ 30) :
    InRangeStrict q now timeout :=
  inRangeStrict_of_le q (by simpa [whenOf] using h)

/-- deadlines before `2^36` ms (≈ 2.18 years after the queue's creation) are in the strict range -/
theorem C05_delayq_strict_of_horizon (q : DelayQ) (now timeout : Nat) (h : ceilMs (now + timeout) < 2 ^ 36) :
    InRangeStrict q now timeout :=
  inRangeStrict_of_horizon q (by simpa using h)

/-- … hence completeness for every op list all of whose deadlines are before `2^36` ms. -/
theorem C05_delayq_complete_of_horizon :
    DelayQCompleteFor (fun _ now timeout => ceilMs (now + timeout) < 2 ^ 36) := by
  intro ops q now hr
  exact C05_delayq_complete ops q now (hr.mono (fun q n t h => C05_delayq_strict_of_horizon q n t h))

/-! ### the finding: an entry that is due but not returned -/

/-- All inserts pass the library's range check (no panic), yet the last poll misses a due entry.  Times in ms since
the queue's creation (`1 ms = 10^6` clock units):

* `t = 0`: `insert(v0, 64 ms)`; advance to `t = 64`; `poll_expired` yields `v0` — the wheel clock (`elapsed`) is now 64,
  i.e. *inside* slot 0 of the top level (slots of `2^30` ms);
* `t = 64`: `insert(v1, 2^36 - 62 ms)` → deadline `2^36 + 2` ms, within the range (`2^36 + 2 - 64 ≤ 2^36 - 1`),
  filed in top-level slot 0 (one rotation ahead);
* `t = 64`: `insert(v2, 2^30 - 57 ms)` → deadline `2^30 + 7` ms, top-level slot 1;
* advance to `t = 2^30 + 7` ms (≈ 12.4 days). -/
def lateWitnessOps : List DOp :=
  [.insert (64 * nsPerMs) 0, .advance (64 * nsPerMs), .poll,
   .insert ((2 ^ 36 - 62) * nsPerMs) 1, .insert ((2 ^ 30 - 57) * nsPerMs) 2, .advance ((2 ^ 30 - 57) * nsPerMs)]

/-- what the witness shows, as a decidable check on the outcome of the run -/
def lateCheck : Option (DelayQ × Nat) → Bool
  | none => false
  | some (q, now) =>
    (q.pollExpired now).2 == .pending &&
    (items q).any (fun e => e.val == 2 && decide (e.whenMs * nsPerMs ≤ now)) &&
    nextFire (q.pollExpired now).1 == some ((2 ^ 36 + 2 ^ 30) * nsPerMs)

/-- **Finding (tokio-util `DelayQueue`, top wheel level).**  After `lateWitnessOps` — every insert within the
library's range — the clock is `2^30 + 7` ms, entry `v2` (deadline `2^30 + 7` ms) is due, but the poll returns
`pending` and re-arms the `Sleep` for `2^36 + 2^30` ms (≈ 2.2 years): `v2` is yielded ≈ 2.2 years late.
Cause: `Level::next_expiration` picks the first occupied slot in rotation order starting at the slot of `elapsed`
*inclusive*; at the top level that slot can hold an entry of the *next* rotation (here `v1`), whose deadline is then
(correctly) computed as one rotation ahead — and taken as the wheel's next expiration although slot 1 (`v2`) comes
`2^36 - 2^30` ms earlier.  `insert`'s range check (`when - elapsed ≤ 2^36 - 1`) accepts such an entry whenever
`elapsed` is not at the start of a top-level slot; `when - (elapsed - elapsed % 2^30) < 2^36` would exclude it.
Replayed on the real tokio-util 0.7.19 (`DelayQueue<u64>`, paused tokio clock, the five calls above): the last
`poll_expired` returns `Pending` with `v2` due, and still `Pending` one day later.  (It needs a timeout of more than
`2^36 - 2^30` ms ≈ 2.14 years beyond the wheel clock in the queue; tarpc clamps its timeouts to one year, so its own
queues stay in the strict range (`C05_delayq_strict_of_le`) as long as the known lag of `elapsed` behind the real
clock stays below ≈ 1.14 years.) -/
theorem C05_delayq_late_witness :
    ∃ q now, Reach InRange lateWitnessOps q now ∧ (q.pollExpired now).2 = .pending ∧
      (∃ e ∈ items q, e.whenMs * nsPerMs ≤ now) ∧
      nextFire (q.pollExpired now).1 = some ((2 ^ 36 + 2 ^ 30) * nsPerMs) := by
  have h : lateCheck (runOps InRange lateWitnessOps) = true := by decide
  cases hrun : runOps InRange lateWitnessOps with
  | none => rw [hrun] at h; cases h
  | some c =>
    obtain ⟨q, now⟩ := c
    rw [hrun] at h
    simp only [lateCheck, Bool.and_eq_true, beq_iff_eq, List.any_eq_true, decide_eq_true_eq] at h
    obtain ⟨⟨h1, e, he, _, hdue⟩, h3⟩ := h
    exact ⟨q, now, reach_of_runOps hrun, h1, ⟨e, he, hdue⟩, h3⟩

/-- **The completeness statement under the library's own range check is false.** -/
theorem C05_delayq_complete_statement_false : ¬ DelayQCompleteStatement := by
  intro hst
  obtain ⟨q, now, hr, hp, hdue, _⟩ := C05_delayq_late_witness
  obtain ⟨e', he'⟩ := (hst lateWitnessOps q now hr).2 hdue
  rw [hp] at he'
  cases he'

/-- The witness run is rejected by the strict range (its second insert is outside). -/
example : runOps InRangeStrict lateWitnessOps = none := by decide

/-! ### the hypotheses are satisfiable: small concrete runs -/

/-- what the poll at the end of a run returns -/
def pollAfter (ops : List DOp) : Option (PollRes × Option Nat) :=
  (runOps InRangeStrict ops).map (fun c => ((c.1.pollExpired c.2).2, nextFire (c.1.pollExpired c.2).1))

/-- level 0: two timers 5 ms and 3 ms, polled at 2 ms: nothing due, the `Sleep` is at 3 ms. -/
example : pollAfter [.insert (5 * nsPerMs) 1, .insert (3 * nsPerMs) 2, .advance (2 * nsPerMs)] =
    some (.pending, some (3 * nsPerMs)) := by decide

/-- … polled at 4 ms: the 3 ms timer comes out; the `Sleep` moves to 5 ms. -/
example : pollAfter [.insert (5 * nsPerMs) 1, .insert (3 * nsPerMs) 2, .advance (4 * nsPerMs)] =
    some (.expired { key := 1, val := 2, whenMs := 3, level := 0, seq := 1 }, some (5 * nsPerMs)) := by decide

/-- cascades: a 5000 ms timer (level 2) polled at 4999.9 ms is pending with the `Sleep` at its exact deadline
(after cascading down to level 0), and comes out at 5000 ms. -/
example : pollAfter [.insert (5000 * nsPerMs) 7, .advance (4999 * nsPerMs + 900000)] =
    some (.pending, some (5000 * nsPerMs)) := by decide

example : pollAfter [.insert (5000 * nsPerMs) 7, .advance (4999 * nsPerMs + 900000), .poll, .advance 100000] =
    some (.expired { key := 0, val := 7, whenMs := 5000, level := 0, seq := 2 }, none) := by decide

/-- lag of the wheel clock: the 70 ms timer comes out at 70 ms while `wheelElapsed` stays at 64; a 10 ms timer is
then inserted (key 2, `Sleep` moved to 80 ms) and removed again (`Sleep` re-armed for 100 ms by `remove`); the poll at
200 ms yields the 100 ms timer. -/
example : pollAfter [.insert (70 * nsPerMs) 1, .insert (100 * nsPerMs) 2, .advance (70 * nsPerMs), .poll,
      .insert (10 * nsPerMs) 3, .remove 2, .advance (130 * nsPerMs)] =
    some (.expired { key := 1, val := 2, whenMs := 100, level := 0, seq := 2 }, none) := by decide

/-- repeated polling: three timers, two of them due at 10 ms; `drain` returns exactly those two. -/
example :
    (runOps InRangeStrict [.insert (10 * nsPerMs) 1, .insert (4000 * nsPerMs) 2, .insert (7 * nsPerMs) 3,
      .advance (10 * nsPerMs)]).map (fun c => ((drain c.1.len c.1 c.2).2.map core, (drain c.1.len c.1 c.2).1.cores)) =
    some ([(2, 3, 7), (0, 1, 10)], [(1, 2, 4000)]) := by decide

end TarpcModel.DelayQ
