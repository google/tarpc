import TarpcModel.Lemmas.ServerTable
/-!
# C10 (server side) — the request stream ends only when the connection is drained

Property theorems only (model `TarpcModel.Server`; lemmas in `Lemmas/ServerFlow.lean`).
-/
namespace TarpcModel.Server
open TarpcModel TarpcModel.Server.Flow

/-- **C10 (server).**  From any state (in particular every reachable one, for every configuration),
`Requests::poll_next` ends the stream (`None`) only if the inbound side reported end-of-stream
(`readFused`), no request is in flight any more and the last `poll_flush` completed (nothing is left
buffered in the sink). -/
theorem C10_server_ends_only_when_drained (s : St) (now fuel : Nat) (s' : St)
    (h : requestsPollNext fuel s now = (s', .none)) :
    s'.readFused = true ∧ s'.inflight = [] ∧ s'.t.buffered = [] := by
  have := (requestsPollNext_spec now fuel s).2
  rw [h] at this
  exact this rfl

/-- The same at the level of the application's poll: when a poll of the request stream records the end
of the stream (`done = some readyNone`), the resulting state has seen end-of-stream on the inbound
side, tracks no request and no timer entry, and has flushed everything it wrote. -/
theorem C10_server_done_means_drained (limit : Option Nat) (respCap tcap : Nat) (coupled : Bool)
    (ops : List SOp) (c : Sys) (hc : c = ops.foldl applyOp (initSys limit respCap tcap coupled))
    (hlive : c.s.done = none) (hend : (pollServerKeep c.s c.now).done = some .readyNone) :
    (pollServerKeep c.s c.now).readFused = true ∧ (pollServerKeep c.s c.now).inflight = [] ∧
    (pollServerKeep c.s c.now).t.buffered = [] ∧ (pollServerKeep c.s c.now).timers.len = 0 := by
  subst hc
  exact pollServerKeep_done_drained (sinv_reach true limit respCap tcap coupled ops) hlive hend

/-- Non-vacuity: end-of-stream with nothing in flight ends the request stream… -/
example :
    (stepOp ([SOp.eof].foldl applyOp (initSys none 1 1 true)) .pollServer).2 =
      [.tNext (.server 0) .eof, .tReady (.server 0) .ready, .tFlush (.server 0) .ready,
       .ret (.server 0) .readyNone, .counts (.server 0) 0 0] := by
  decide

/-- … whereas with a request still in flight the stream stays `Pending` after end-of-stream, and ends
once the handler's response has been written and flushed. -/
example :
    let c := [SOp.injectReq 1 1000000000 ⟨0, .given 0, false⟩ 0, .pollServer, .eof, .pollServer].foldl applyOp
      (initSys none 1 1 true)
    c.s.done = none ∧ c.s.readFused = true ∧ c.s.inflight.length = 1 ∧
    ([SOp.finish 0 (.ok 7), .pollExec 0, .pollServer].foldl applyOp c).s.done = some .readyNone ∧
    ([SOp.finish 0 (.ok 7), .pollExec 0, .pollServer].foldl applyOp c).s.t.wire = [.response 1 (.ok 7)] := by
  decide

end TarpcModel.Server
