import TarpcModel.Props.C02Park
import TarpcModel.Lemmas.ClientWake
/-!
# C02 — nobody is stuck

`C02_no_stuck : C02NoStuckStatement'`: on the client model, after any script that keeps the clock below 2^35 ms
(the hypothesis under which the dispatch does not panic, `C16_client_never_poisoned`; without it the statement is false,
`C02NoStuckStatement_false`), once `settle` has polled everything that is woken, **no live call future is left without
an excuse**: every call that is still pending is waiting for a response to a request that has been written, or the
dispatch is parked behind a full in-flight table / a sink that is not ready / a terminal error with requests queued.

The proof: a quiescent state that keeps the accounting and the six clauses of `C02WakeInv` has no stuck call
(`quiescent_not_stuck`, `C02_no_stuck_of_wake_inv`, `Props/C02Account.lean`); with `park` discharged the five clauses of
`C02CallWakeInv` are left (`C02_no_stuck_of_call_wake_inv`, `Props/C02Park.lean`), and they hold in every reachable state:

* `park` is `C02_dispatch_parked` (`Props/C02Park.lean`, from `reach_pk`);
* `np`, `rs`, `aw`, `full` and the wait-queue half of `gone` (`WkI.callWake`, of any state) come from the invariant `WkI` of
  `Lemmas/ClientWake.lean` (`reach_wk`): a future that was never polled is woken; a future waiting for a permit is in
  the wait queue or has been woken with the permit in hand; a future waiting for its response that is not woken has
  its waker registered on an open, empty oneshot whose sender is alive; permits add up
  (`pqAvail + |pq| + |pqAssigned| = bufCap`), nobody waits while a permit is available, every permit handed over belongs
  to a woken future;
* the queue half of `gone` is `CqI.dd` (`reach_cq`) together with `reach_dn`: a dispatch whose `poll` returned `Ready`
  has been dropped.
-/
namespace TarpcModel.Client

/-- the call side of the wake-up discipline, of any state in which the dispatch has not panicked -/
theorem WkI.callWake {s : St} (hw : WkI none 0 s) (hq : CqI none s) (hd : DnI s) (hp : s.poisoned = false)
    (hbc : 1 ≤ s.bufCap) : C02CallWakeInv s := by
  have hdd : (s.dDropped = true ∨ s.done.isSome = true) → s.dDropped = true := by
    intro h
    rcases h with h | h
    · exact h
    · rcases hd h with x | x
      · exact x
      · rw [hp] at x; cases x
  refine ⟨?_, ?_, ?_, ?_, ?_⟩
  · intro cl hcl hph
    exact ((hw.calls cl hcl).1 hph).1
  · intro cl hcl hph hwk
    rcases ((hw.calls cl hcl).2.1 hph (by simp)).2 with x | ⟨x, _⟩
    · exact x
    · rw [hwk] at x; cases x
  · intro cl hcl hph hwk
    obtain ⟨a, b'⟩ := (hw.calls cl hcl).2.2 hph (by simp)
    obtain ⟨_, b2, b3⟩ := b' hwk
    exact ⟨a, b2, b3⟩
  · intro h
    have hdr := hdd h
    refine ⟨?_, (hq.dd hdr).2⟩
    cases hwt : s.pqWaiters with
    | nil => rfl
    | cons w r =>
      have := (hw.ch.p1 (by rw [hwt]; simp)).2
      rw [hw.ch.dc hdr] at this; cases this
  · intro hne hall hpq
    obtain ⟨h1, h2⟩ := hw.ch.p1 hne
    have h3 := hw.ch.p2 h2
    rw [h1, hpq] at h3
    cases has : s.pqAssigned with
    | nil => rw [has] at h3; simp at h3; omega
    | cons w r =>
      obtain ⟨cl, hcl, _, e2, e3⟩ := hw.asg w (by rw [has]; simp)
      have := hall cl hcl (by simp [callLive, e2])
      rw [e3] at this; cases this

/-- **The call side of the wake-up discipline holds in every reachable state** (clock below 2^35 ms). -/
theorem C02_call_wake_inv (m b c : Nat) (coupled : Bool) (ops : List COp) (hb : 1 ≤ b)
    (hT : advSum ops < 2 ^ 35 * nsPerMs) : C02CallWakeInv (ops.foldl applyOp (initSys m b c coupled)).s :=
  (reach_wk m b c coupled ops).callWake (reach_cq m b c coupled ops) (reach_dn m b c coupled ops)
    (C16_client_never_poisoned m b c coupled ops hT ops (List.prefix_refl _)).1 (by rw [reach_bufCap]; exact hb)

/-- **C02, the global statement**: after `settle`, no live call future is stuck (clock below 2^35 ms). -/
theorem C02_no_stuck : C02NoStuckStatement' :=
  C02_no_stuck_of_call_wake_inv (fun m b c coupled ops _ hb _ hT => C02_call_wake_inv m b c coupled ops hb hT)

/-- the permit accounting on a concrete script: capacity 2, one request queued, one permit handed to a waiter that
has not been polled since (woken), one caller still waiting -/
example :
    let ops := [COp.call 0 1000000000 ⟨1, .given 1, false⟩ 7, .call 0 1000000000 ⟨2, .given 2, false⟩ 8,
      .call 0 1000000000 ⟨3, .given 3, false⟩ 9, .call 0 1000000000 ⟨4, .given 4, false⟩ 10,
      .pollCall 0, .pollCall 1, .pollCall 2, .pollCall 3, .pollDispatch]
    let s := (ops.foldl applyOp (initSys 1 2 4 true)).s
    s.pqAvail + s.pq.length + s.pqAssigned.length = s.bufCap ∧ s.pqAssigned = [2] ∧ s.pqWaiters = [3] ∧
    s.calls.map (·.woken) = [false, false, true, false] := by
  decide

end TarpcModel.Client
