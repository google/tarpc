import TarpcModel.Lemmas.ClientDue
import TarpcModel.Lemmas.ClientParked
import TarpcModel.Props.C05
import TarpcModel.Props.C16Client
/-!
# C05 (client) — request deadlines are enforced, not late

Property theorems only.  `Props/C05.lean` has the *never early* half of C05 and keeps the monitor with the *not late*
clauses as a statement (`C05_monitor_full_Statement`).  The not-late half rests on the completeness of the timer-wheel
emulation (`Lemmas/DelayQComplete.lean`, `Lemmas/DelayQReach.lean`, `Props/C05DelayQ.lean`);
`Lemmas/ClientDelayQBridge.lean` shows that the dispatch's queue satisfies its hypotheses (the client model only applies
`insert` of a clamped timeout at the current clock, `remove`, `poll_expired`, `clear`, a reset, and takes the stored waker),
and `Lemmas/ClientNotLate.lean` follows the control flow: `poll_expired` loops until the queue reports nothing,
`pump_write` calls it before it gives up whatever the transport's readiness, `run` goes round again while anything
made progress.

**Scripts quantified over**: all op lists whose total advanced time `advSum ops` is below `2^35` ms (as in
`C16_client_no_panic`).  Beyond the strict range the timer wheel itself can miss a due entry
(`DelayQ.C05_delayq_late_witness`).

**Time convention**: the *tick* of an in-flight request is the `whenMs` of its armed timer; it is due at clock `now`
(ns) iff `tick * 10^6 ≤ now`.  `C05_timer_not_before_deadline` relates tick (+ `remainder`) and deadline from below.

**What is proved, what is not.**  Proved: when a dispatch poll goes back to waiting, *no in-flight request has a due
timer* (`C05_dispatch_idle_not_late`) — every timer that was due was handled in that poll: its request failed with
`DeadlineExceeded`, or (time still to be armed) re-armed for a later tick — and the wake-up is armed no later than the
earliest remaining tick; the pre/post forms (`C05_due_request_gone_exact`, `C05_due_request_gone`); and, on the exact
invariant `TInv.due` (`Lemmas/ClientInv.lean`: `deadline ≤ dueAt + remainder ≤ max deadline now`, timer = millisecond
ceiling of `dueAt`), the same in terms of deadlines: after an idle poll every in-flight request is before
the millisecond tick of its deadline unless it was armed after its deadline less than a millisecond ago
(`C05_idle_deadline_tick`), and a request armed before its deadline is gone after the first idle poll at or after that
tick (`C05_deadline_passed_gone`).  Not proved: the monitor form.  `C05_monitor_full_Statement` (all scripts) is **false**
beyond the bound on the clock (`C05_wheel_lag_witness`: the timer-wheel defect surfaces through tarpc after ≈ 430 days);
with the bound it is kept as `C05_monitor_bounded_Statement` (a re-arm that measures the lateness from the exact due time does
not round up a second time: `C05_rearm_late_witness_fixed`).
-/
set_option linter.unusedSimpArgs false
namespace TarpcModel.Client
open TarpcModel

/-- **What the client does to its `DelayQueue`.**  Every family `Q now` of predicates on timer queues that is closed
under the operations the client model applies to its queue at clock `now` (`QClosed`: `insert` of a clamped timeout at
`now`, `remove`, `poll_expired now`, `clear`, reset to the empty queue, taking the waker) and monotone in the clock
holds of the queue of every reachable state: the model does nothing else to the queue. -/
theorem C05_queue_ops_only (Q : Nat → DelayQ → Prop) (hQ : ∀ now, QClosed now (Q now))
    (hmono : ∀ now now' q, now ≤ now' → Q now q → Q now' q) (hinit : Q 0 {})
    (m bufCap tcap : Nat) (coupled : Bool) (ops : List COp) :
    Q (ops.foldl applyOp (initSys m bufCap tcap coupled)).now (ops.foldl applyOp (initSys m bufCap tcap coupled)).s.timers :=
  QClosed.reach Q hQ hmono _ hinit ops

/-- **Bridge.**  In every reachable state of every configuration, for every script whose total advanced time is below
`2^35` ms, the dispatch's timer queue satisfies the two-sided wheel invariant (`DelayQ.Complete`) — next to the key /
one-sided invariants of `Lemmas/DelayQInv.lean` that `Client.StInv` carries. -/
theorem C05_timers_complete (m bufCap tcap : Nat) (coupled : Bool) (ops : List COp)
    (hT : advSum ops < 2 ^ 35 * nsPerMs) :
    DelayQ.Complete (ops.foldl applyOp (initSys m bufCap tcap coupled)).s.timers ∧
    (ops.foldl applyOp (initSys m bufCap tcap coupled)).s.timers.WF ∧
    (ops.foldl applyOp (initSys m bufCap tcap coupled)).s.timers.Timely (advSum ops) := by
  have hq := qc_reach C16_client_flags.1 m bufCap tcap coupled ops
  have hi := (inv_reach m bufCap tcap coupled ops).t
  rw [now_reach] at hq hi
  exact ⟨hq hT, hi.wf, hi.timely⟩

/-- … hence, in every such state: if some timer is due, the queue yields one (not late); what it yields is due
(never early: `C05_expiry_only_when_due`). -/
theorem C05_queue_yields_if_due (m bufCap tcap : Nat) (coupled : Bool) (ops : List COp)
    (hT : advSum ops < 2 ^ 35 * nsPerMs) (c : Sys) (hc : c = ops.foldl applyOp (initSys m bufCap tcap coupled))
    (k v w : Nat) (hk : c.s.timers.Has k v w) (hdue : w * nsPerMs ≤ c.now) :
    ∃ e, (c.s.timers.pollExpired c.now).2 = .expired e := by
  subst hc
  obtain ⟨d, hd, _, _, rfl⟩ := hk
  have hq := (C05_timers_complete m bufCap tcap coupled ops hT).1
  have hwf := (inv_reach m bufCap tcap coupled ops).t.wf
  have hko : DelayQ.KeysOk (ops.foldl applyOp (initSys m bufCap tcap coupled)).s.timers :=
    ⟨by
      have := hwf.keys
      unfold DelayQ.KeysDistinct at this
      rw [List.nodup_iff_pairwise_ne, List.pairwise_map]
      exact this, hwf.keyLt⟩
  exact DelayQ.pollExpired_due hq hko hd hdue

/-- **C05: not late — nothing due is left behind.**  From every reachable state with a live dispatch (clock below
`2^35` ms): if a poll of the dispatch leaves it not done — it returned `Pending`, i.e. goes back to waiting — then in
the state it leaves behind *no in-flight request has a due timer*: every in-flight entry has its timer in the queue
(tick `w`) and `now < w * 10^6`, whatever the entry's `remainder` — and this whatever the transport did during the poll
(readiness, flush and write failures of requests are irrelevant: `pump_write` polls `poll_expired` before it gives up).
So every request that was due in that poll (tick passed, nothing left to arm after taking off the lateness) has been
failed with `DeadlineExceeded` in it (`expireWith`), unless it was completed or cancelled first; a timer that fired
with time still to arm has been re-armed for a later tick.  Moreover the dispatch's waker is stored in the queue and
the queue's `Sleep` is registered for an instant `t` with `now < t ≤ w * 10^6` for every remaining tick `w`, so the
timer (`onAdvance`) wakes the dispatch no later than the earliest remaining tick. -/
theorem C05_dispatch_idle_not_late (m bufCap tcap : Nat) (coupled : Bool) (ops : List COp)
    (hT : advSum ops < 2 ^ 35 * nsPerMs) (c : Sys) (hc : c = ops.foldl applyOp (initSys m bufCap tcap coupled))
    (hlive : c.s.dDropped = false ∧ c.s.done = none) (hd : (pollDispatchKeep c.s c.now).done = none) :
    pollDispatch c.s c.now = pollDispatchKeep c.s c.now ∧
    (pollDispatch c.s c.now).poisoned = false ∧
    (∀ en ∈ (pollDispatch c.s c.now).inflight, ∃ w, (pollDispatch c.s c.now).timers.Has en.timerKey en.id w ∧
      c.now < w * nsPerMs ∧ en.ctx.deadline ≤ w * nsPerMs + en.remainder) ∧
    (∀ d ∈ (pollDispatch c.s c.now).timers.all, c.now < d.whenMs * nsPerMs ∧
      (pollDispatch c.s c.now).timers.waker = true ∧
      ∃ t, (pollDispatch c.s c.now).timers.nextFire = some t ∧ c.now < t ∧ t ≤ d.whenMs * nsPerMs) := by
  have su := pollDispatch_setup C16_client_flags.1 C16_client_flags.2 m bufCap tcap coupled ops hT c hc hlive hd
  have hidle := (pollDispatch_timers_idle su.closed su.complete su.live hd su.notPoisoned).2
  refine ⟨su.keep, su.keep ▸ su.notPoisoned, ?_, ?_⟩
  · intro en hen
    obtain ⟨w, hw, hdl⟩ := su.inv'.t.e2t en hen
    obtain ⟨d, hdm, hdk, hdv, hdw⟩ := hw
    exact ⟨w, ⟨d, hdm, hdk, hdv, hdw⟩, by rw [← hdw]; exact hidle.notDue d hdm, hdl⟩
  · intro d hdm
    obtain ⟨hw, t, ht⟩ := hidle.armed d hdm
    exact ⟨hidle.notDue d hdm, hw, t, ht⟩

/-- **C05: not late, pre/post form (exact lateness).**  From every reachable state with a live dispatch (clock below
`2^35` ms): if a poll of the dispatch leaves it not done (it returned `Pending`), then every request that was in flight
and *due* when the poll began — its timer tick `w` had passed and its `remainder` does not exceed the lateness
`now − dueAt` measured, as the code measures it, from the exact time the timer was due (so `poll_expired` fails it rather
than re-arming it) — is no longer in flight afterwards: it was failed with `DeadlineExceeded` by `poll_expired` in that
poll, unless a response for it was read, its write failed, its call was cancelled or the connection failed first (each of
which also removes it and tells the call).  A due request is never re-armed, and no other request can take its id. -/
theorem C05_due_request_gone_exact (m bufCap tcap : Nat) (coupled : Bool) (ops : List COp)
    (hT : advSum ops < 2 ^ 35 * nsPerMs) (c : Sys) (hc : c = ops.foldl applyOp (initSys m bufCap tcap coupled))
    (hlive : c.s.dDropped = false ∧ c.s.done = none) (hd : (pollDispatchKeep c.s c.now).done = none)
    (en : Entry) (hen : en ∈ c.s.inflight) (w : Nat) (hw : c.s.timers.Has en.timerKey en.id w)
    (hdue : w * nsPerMs ≤ c.now) (hrem : en.remainder ≤ c.now - en.dueAt) :
    ∀ en' ∈ (pollDispatch c.s c.now).inflight, en'.id ≠ en.id := by
  have su := pollDispatch_setup C16_client_flags.1 C16_client_flags.2 m bufCap tcap coupled ops hT c hc hlive hd
  rw [su.keep]
  exact pollDispatchKeep_due_gone su.closed su.inv su.complete su.live hd su.notPoisoned ⟨en, hen, rfl, w, hw, hdue, hrem⟩

/-- **C05: not late, pre/post form.**  The same with the lateness measured from the timer's millisecond tick `w`
(which is less than a millisecond after `dueAt`, so this hypothesis is the stronger one): in particular every in-flight
request with `remainder = 0` whose tick has passed is gone after a poll that returns `Pending`. -/
theorem C05_due_request_gone (m bufCap tcap : Nat) (coupled : Bool) (ops : List COp)
    (hT : advSum ops < 2 ^ 35 * nsPerMs) (c : Sys) (hc : c = ops.foldl applyOp (initSys m bufCap tcap coupled))
    (hlive : c.s.dDropped = false ∧ c.s.done = none) (hd : (pollDispatchKeep c.s c.now).done = none)
    (en : Entry) (hen : en ∈ c.s.inflight) (w : Nat) (hw : c.s.timers.Has en.timerKey en.id w)
    (hdue : w * nsPerMs ≤ c.now) (hrem : en.remainder ≤ c.now - w * nsPerMs) :
    ∀ en' ∈ (pollDispatch c.s c.now).inflight, en'.id ≠ en.id := by
  have hle : en.dueAt ≤ w * nsPerMs := by
    subst hc
    exact ((inv_reach m bufCap tcap coupled ops).t.due en hen w hw).2.2.1
  exact C05_due_request_gone_exact m bufCap tcap coupled ops hT c hc hlive hd en hen w hw hdue (by omega)

/-! ### in terms of deadlines -/

/-- **C05: not late, in terms of the deadline.**  After a dispatch poll that returns `Pending` at clock `now` (live
dispatch, clock below `2^35` ms), for every request still in flight: *the millisecond tick of its deadline has not been
reached* (`now < ceil_ms deadline`) — or its timer was armed when its deadline had already passed (`deadline < dueAt`:
the request was taken off the queue after its deadline, `dueAt` is that instant) less than a millisecond ago
(`dueAt ≤ now < dueAt + 1 ms`; the timer fires at the next millisecond tick).  This holds for every deadline, however far
away and however often the timer was re-armed: the exact due time does not drift
(`C05_timer_is_ceiling_of_due`). -/
theorem C05_idle_deadline_tick (m bufCap tcap : Nat) (coupled : Bool) (ops : List COp)
    (hT : advSum ops < 2 ^ 35 * nsPerMs) (c : Sys) (hc : c = ops.foldl applyOp (initSys m bufCap tcap coupled))
    (hlive : c.s.dDropped = false ∧ c.s.done = none) (hd : (pollDispatchKeep c.s c.now).done = none) :
    ∀ en ∈ (pollDispatch c.s c.now).inflight,
      c.now < ceilMs en.ctx.deadline * nsPerMs ∨
      (en.ctx.deadline < en.dueAt ∧ en.dueAt ≤ c.now ∧ c.now < en.dueAt + nsPerMs) := by
  intro en hen
  obtain ⟨-, -, h3, -⟩ := C05_dispatch_idle_not_late m bufCap tcap coupled ops hT c hc hlive hd
  obtain ⟨w, hw, hlt, -⟩ := h3 en hen
  have su := pollDispatch_setup C16_client_flags.1 C16_client_flags.2 m bufCap tcap coupled ops hT c hc hlive hd
  obtain ⟨h1, h2, h3', h4⟩ := su.inv'.t.due en hen w hw
  by_cases hle : en.dueAt ≤ en.ctx.deadline
  · left
    exact Nat.lt_of_lt_of_le hlt (tick_le_ceil h4 hle)
  · right
    refine ⟨by omega, ?_, by omega⟩
    rcases Nat.le_total en.ctx.deadline c.now with hdn | hdn
    · rw [Nat.max_eq_right hdn] at h2; omega
    · rw [Nat.max_eq_left hdn] at h2; omega

/-- **C05: not late, in terms of the deadline (pre/post).**  If a request is in flight when the dispatch is polled at a
clock `now` at or after the millisecond tick of its deadline, and its timer was armed no later than its deadline
(`dueAt ≤ deadline`: it was taken off the queue before its deadline), then after a poll that returns `Pending` it is no
longer in flight: it has been failed with `DeadlineExceeded` in that poll (or completed / cancelled / failed with the
connection first). -/
theorem C05_deadline_passed_gone (m bufCap tcap : Nat) (coupled : Bool) (ops : List COp)
    (hT : advSum ops < 2 ^ 35 * nsPerMs) (c : Sys) (hc : c = ops.foldl applyOp (initSys m bufCap tcap coupled))
    (hlive : c.s.dDropped = false ∧ c.s.done = none) (hd : (pollDispatchKeep c.s c.now).done = none)
    (en : Entry) (hen : en ∈ c.s.inflight) (hpast : ceilMs en.ctx.deadline * nsPerMs ≤ c.now)
    (harmed : en.dueAt ≤ en.ctx.deadline) :
    ∀ en' ∈ (pollDispatch c.s c.now).inflight, en'.id ≠ en.id := by
  have hi0 := inv_reach m bufCap tcap coupled ops
  rw [← hc] at hi0
  obtain ⟨w, hw, -⟩ := hi0.t.e2t en hen
  obtain ⟨h1, h2, h3, h4⟩ := hi0.t.due en hen w hw
  have hdn : en.ctx.deadline ≤ c.now := by
    exact Nat.le_trans (le_ceil_tick _) hpast
  rw [Nat.max_eq_right hdn] at h2
  exact C05_due_request_gone_exact m bufCap tcap coupled ops hT c hc hlive hd en hen w hw
    (Nat.le_trans (tick_le_ceil h4 harmed) hpast) (by omega)

/-! ### re-armed timers do not drift -/

/-- a call made at 1 ns whose deadline is one clamp + 10 ms away; the dispatch is polled when the first timer fires
(at `clampNs + 1 ms`, the millisecond tick of `1 ns + clampNs`), and again exactly at the deadline -/
def c05RearmLateOps : List COp :=
  [.advance 1, .call 0 (clampNs + 10000000) ⟨1, .given 1, true⟩ 7, .pollCall 0, .pollDispatch,
   .advance (clampNs + 1000000 - 1), .pollDispatch, .advance 9000000, .pollDispatch, .pollCall 0]

set_option maxRecDepth 100000 in
/-- **A re-arm does not round up twice.**  The call is made at `t0 = 1 ns` with deadline
`D = clampNs + 10 ms`.  `insert_request` arms `clampNs`, records the exact due time `dueAt = 1 ns + clampNs` and keeps
`remainder = 10 ms − 1 ns`; the timer's tick is `clampNs + 1 ms`.  Polled exactly then, `poll_expired` measures the
lateness from `dueAt` (`late = 1 ms − 1 ns`), so `rest = 9 ms` and the new tick is `clampNs + 10 ms = D`: the dispatch
polled at `D` fails the call there, and the full C05 monitor accepts the trace.  (With the lateness measured from the
queue's *rounded* tick, `late` is 0 here, the re-arm rounds up a second time, the call is still pending at `D` — the
monitor rejects the trace — and fails at `D + 1 ms`.  The same script as `c05DriftOps` of `Props/C05.lean`.) -/
theorem C05_rearm_late_witness_fixed :
    advSum c05RearmLateOps < 2 ^ 35 * nsPerMs ∧
    (c05RearmLateOps.foldl applyOp (initSys 1 1 1 true)).now = clampNs + 10000000 ∧
    (c05RearmLateOps.foldl applyOp (initSys 1 1 1 true)).s.inflight = [] ∧
    (monC05 (trace (initSys 1 1 1 true) c05RearmLateOps)).ok = true ∧
    CEv.obs (.resolved 0 .deadline (clampNs + 10000000)) ∈ trace (initSys 1 1 1 true) c05RearmLateOps := by
  decide +kernel

/-! ### the wake-up: a due timer never waits for an unrelated event -/

/-- **A parked dispatch has its timers armed.**  In every reachable state (clock below `2^35` ms): if the dispatch is
alive and has not been woken since its last poll (`dWoken = false`: it is parked), then no timer is due, the dispatch's
waker is stored in the timer queue and the queue's `Sleep` is registered for an instant `t` with `now < t ≤ tick` for every
remaining tick.  (A poll that returns `Pending` establishes this — `C05_dispatch_idle_not_late`; the calls, the handles
and the transport do not touch the queue and can only wake the dispatch; when the clock reaches the `Sleep`, the timer
wakes the dispatch.) -/
theorem C05_parked_dispatch_armed (m bufCap tcap : Nat) (coupled : Bool) (ops : List COp)
    (hT : advSum ops < 2 ^ 35 * nsPerMs) (c : Sys) (hc : c = ops.foldl applyOp (initSys m bufCap tcap coupled))
    (hlive : c.s.dDropped = false ∧ c.s.done = none) (hparked : c.s.dWoken = false) :
    ∀ d ∈ c.s.timers.all, c.now < d.whenMs * nsPerMs ∧ c.s.timers.waker = true ∧
      ∃ t, c.s.timers.nextFire = some t ∧ c.now < t ∧ t ≤ d.whenMs * nsPerMs := by
  subst hc
  have hf := C16_client_flags
  have hp0 := reach_not_poisoned hf.1 hf.2 m bufCap tcap coupled ops hT
  have hi := parked_reach hf.1 m bufCap tcap coupled ops hT hlive.1 hlive.2 hp0 hparked
  intro d hd
  obtain ⟨hw, t, ht⟩ := hi.armed d hd
  exact ⟨hi.notDue d hd, hw, t, ht⟩

/-- **A due timer has woken the dispatch.**  In every reachable state (clock below `2^35` ms) with a live dispatch: if
the timer of some in-flight request is due (`tick ≤ now`), the dispatch has been woken (`dWoken = true`) — it will be
polled, and that poll handles every due timer (`C05_dispatch_idle_not_late`).  So a deadline never waits for an
unrelated event (a response, a new call, the transport becoming writable) to be noticed. -/
theorem C05_due_timer_wakes_dispatch (m bufCap tcap : Nat) (coupled : Bool) (ops : List COp)
    (hT : advSum ops < 2 ^ 35 * nsPerMs) (c : Sys) (hc : c = ops.foldl applyOp (initSys m bufCap tcap coupled))
    (hlive : c.s.dDropped = false ∧ c.s.done = none)
    (en : Entry) (hen : en ∈ c.s.inflight) (w : Nat) (hw : c.s.timers.Has en.timerKey en.id w)
    (hdue : w * nsPerMs ≤ c.now) : c.s.dWoken = true := by
  cases hwk : c.s.dWoken with
  | true => rfl
  | false =>
    exfalso
    obtain ⟨d, hd, _, _, rfl⟩ := hw
    have := (C05_parked_dispatch_armed m bufCap tcap coupled ops hT c hc hlive hwk d hd).1
    omega

/-- **… in terms of the deadline.**  If the millisecond tick of the deadline of an in-flight request (armed before its
deadline) has been reached, the dispatch has been woken. -/
theorem C05_deadline_passed_wakes_dispatch (m bufCap tcap : Nat) (coupled : Bool) (ops : List COp)
    (hT : advSum ops < 2 ^ 35 * nsPerMs) (c : Sys) (hc : c = ops.foldl applyOp (initSys m bufCap tcap coupled))
    (hlive : c.s.dDropped = false ∧ c.s.done = none)
    (en : Entry) (hen : en ∈ c.s.inflight) (hpast : ceilMs en.ctx.deadline * nsPerMs ≤ c.now)
    (harmed : en.dueAt ≤ en.ctx.deadline) : c.s.dWoken = true := by
  have hi0 := inv_reach m bufCap tcap coupled ops
  rw [← hc] at hi0
  obtain ⟨w, hw, -⟩ := hi0.t.e2t en hen
  obtain ⟨-, -, -, h4⟩ := hi0.t.due en hen w hw
  exact C05_due_timer_wakes_dispatch m bufCap tcap coupled ops hT c hc hlive en hen w hw
    (Nat.le_trans (tick_le_ceil h4 harmed) hpast)

/-! ### the monitor form: false without the bound on the clock -/

/-- the clock (ms) from which a one-year timeout lands in the top wheel level's slot 0 of the *next* rotation -/
def c05WheelLagStartMs : Nat := 2 ^ 36 + 2 - clampNs / nsPerMs

/-- call 0 (deadline 64 ms) times out at 64 ms — the only time the wheel clock (`elapsed`) ever moves: it stays at 64;
≈ 430 days later call 1 is made with a deadline two years away (its timer is armed with the one-year clamp: tick
`2^36 + 2` ms) and call 2 with a deadline 5 ms away; 5 ms later the dispatch is polled -/
def c05WheelLagOps : List COp :=
  [.call 0 (64 * nsPerMs) ⟨1, .given 1, true⟩ 1, .pollCall 0, .pollDispatch, .advance (64 * nsPerMs), .pollDispatch,
   .pollCall 0, .advance ((c05WheelLagStartMs - 64) * nsPerMs),
   .call 0 (c05WheelLagStartMs * nsPerMs + 2 * clampNs) ⟨1, .given 1, true⟩ 2, .pollCall 1, .pollDispatch,
   .call 0 ((c05WheelLagStartMs + 5) * nsPerMs) ⟨1, .given 1, true⟩ 3, .pollCall 2, .pollDispatch,
   .advance (5 * nsPerMs), .pollDispatch, .pollCall 2]

set_option maxRecDepth 1000000 in
/-- **Finding (tarpc-level consequence of the timer-wheel defect `DelayQ.C05_delayq_late_witness` and of the lag of the
wheel clock, F9): beyond `2^35` ms a short deadline can go unenforced for years.**  A client whose timer wheel last
advanced within its first 12 days (one early timeout; every later request completed in time, and only an *expiring* timer
moves `wheel.elapsed`) is, after ≈ 430 days (`2^36 ms − 1 year`), asked for a call with a deadline at least a year away.
The clamped timer (tick `2^36 + 2` ms) passes `DelayQueue::insert`'s range check (`when − elapsed ≤ 2^36 − 1`, `elapsed =
64`) and is filed in slot 0 of the top wheel level — one rotation ahead.  From then on `Level::next_expiration`, which
starts its search at the slot of `elapsed` *inclusive*, takes that entry for the wheel's next expiration: a call with a
5 ms deadline made next is not failed when the dispatch is polled at its deadline (nothing is yielded, the `Sleep` is
re-armed for `2^36 + 34·2^30` ms ≈ 3.3 years); the full C05 monitor rejects the trace.  The script's clock is beyond the
`2^35` ms for which the not-late theorems above are stated — it shows that their bound is not an artefact. -/
theorem C05_wheel_lag_witness :
    ¬ advSum c05WheelLagOps < 2 ^ 35 * nsPerMs ∧
    (c05WheelLagOps.foldl applyOp (initSys 2 2 2 true)).now = (c05WheelLagStartMs + 5) * nsPerMs ∧
    (c05WheelLagOps.foldl applyOp (initSys 2 2 2 true)).s.poisoned = false ∧
    (c05WheelLagOps.foldl applyOp (initSys 2 2 2 true)).s.inflight.map (fun e => (e.id, e.ctx.deadline, e.remainder)) =
      [(1, c05WheelLagStartMs * nsPerMs + 2 * clampNs, clampNs), (2, (c05WheelLagStartMs + 5) * nsPerMs, 0)] ∧
    (c05WheelLagOps.foldl applyOp (initSys 2 2 2 true)).s.timers.nextFire = some ((2 ^ 36 + 34 * 2 ^ 30) * nsPerMs) ∧
    (monC05 (trace (initSys 2 2 2 true) c05WheelLagOps)).ok = false := by
  decide +kernel

/-- **`C05_monitor_full_Statement` (all scripts, no bound on the clock) is false.** -/
theorem C05_monitor_full_statement_false : ¬ C05_monitor_full_Statement := by
  intro h
  have := h 2 2 2 true c05WheelLagOps
  rw [C05_wheel_lag_witness.2.2.2.2.2] at this
  cases this

/-- The monitor form with the bound on the clock under which the state-level theorems of this file hold.  Not proved:
beyond `C05_dispatch_idle_not_late` / `C05_idle_deadline_tick` it needs the ownership coupling between the monitor's book
and the in-flight table (a call that is awaiting, whose request was written and not answered, has its request in
flight — C01 / C03 territory) for the third clause of `checkC05`, and the analogous coupling of `reads` for the second.
No counterexample is known (`c05RearmLateOps`, where a re-arm meets a millisecond boundary, is accepted:
`C05_rearm_late_witness_fixed`). -/
def C05_monitor_bounded_Statement : Prop :=
  ∀ (m bufCap tcap : Nat) (coupled : Bool) (ops : List COp), advSum ops < 2 ^ 35 * nsPerMs →
    (monC05 (trace (initSys m bufCap tcap coupled) ops)).ok = true

/-! ### non-vacuity -/

/-- two calls (deadlines 5 ms and 50 ms) are sent; the clock moves to 6 ms -/
def c05TwoOps : List COp :=
  [.call 0 5000000 ⟨1, .given 1, true⟩ 7, .call 0 50000000 ⟨1, .given 1, true⟩ 8, .pollCall 0, .pollCall 1,
   .pollDispatch, .advance 6000000]

set_option maxRecDepth 100000 in
/-- The hypotheses of `C05_dispatch_idle_not_late` are satisfiable and its conclusion is not vacuous: after `c05TwoOps`
(`maxInFlight = 2`) both requests are in flight, the first one's timer (tick 5 ms) is due at 6 ms; the dispatch is live;
the poll leaves it not done; afterwards only request 1 is in flight, its tick (50 ms) lies after the clock, call 0 has
been sent `DeadlineExceeded`, the queue's waker is stored and its `Sleep` fires at 50 ms. -/
example :
    advSum c05TwoOps < 2 ^ 35 * nsPerMs ∧
    (c05TwoOps.foldl applyOp (initSys 2 2 2 true)).now = 6000000 ∧
    (c05TwoOps.foldl applyOp (initSys 2 2 2 true)).s.inflight.map (fun e => (e.id, e.timerKey, e.remainder)) =
      [(0, 0, 0), (1, 1, 0)] ∧
    (c05TwoOps.foldl applyOp (initSys 2 2 2 true)).s.timers.all.map (fun d => (d.key, d.val, d.whenMs)) =
      [(0, 0, 5), (1, 1, 50)] ∧
    (c05TwoOps.foldl applyOp (initSys 2 2 2 true)).s.dDropped = false ∧
    (c05TwoOps.foldl applyOp (initSys 2 2 2 true)).s.done = none ∧
    (pollDispatchKeep (c05TwoOps.foldl applyOp (initSys 2 2 2 true)).s 6000000).done = none ∧
    (pollDispatch (c05TwoOps.foldl applyOp (initSys 2 2 2 true)).s 6000000).inflight.map (fun e => (e.id, e.timerKey)) =
      [(1, 1)] ∧
    (pollDispatch (c05TwoOps.foldl applyOp (initSys 2 2 2 true)).s 6000000).timers.all.map
      (fun d => (d.key, d.val, d.whenMs)) = [(1, 1, 50)] ∧
    (pollDispatch (c05TwoOps.foldl applyOp (initSys 2 2 2 true)).s 6000000).calls.map (fun cl => (cl.cid, cl.os.val)) =
      [(0, some .deadline), (1, none)] ∧
    (pollDispatch (c05TwoOps.foldl applyOp (initSys 2 2 2 true)).s 6000000).timers.waker = true ∧
    (pollDispatch (c05TwoOps.foldl applyOp (initSys 2 2 2 true)).s 6000000).timers.nextFire = some 50000000 := by
  decide +kernel

/-- the wake-up: two calls are sent (the first poll of the dispatch wakes itself by arming timers), the second poll
parks the dispatch (`dWoken = false`) with its waker in the queue and the `Sleep` at 5 ms; advancing the clock to 4 ms
leaves it parked, advancing it to 6 ms wakes it -/
def c05ParkOps : List COp :=
  [.call 0 5000000 ⟨1, .given 1, true⟩ 7, .call 0 50000000 ⟨1, .given 1, true⟩ 8, .pollCall 0, .pollCall 1,
   .pollDispatch, .pollDispatch]

example :
    (c05ParkOps.foldl applyOp (initSys 2 2 2 true)).s.dWoken = false ∧
    (c05ParkOps.foldl applyOp (initSys 2 2 2 true)).s.timers.waker = true ∧
    (c05ParkOps.foldl applyOp (initSys 2 2 2 true)).s.timers.nextFire = some 5000000 ∧
    ((c05ParkOps ++ [COp.advance 4000000]).foldl applyOp (initSys 2 2 2 true)).s.dWoken = false ∧
    ((c05ParkOps ++ [COp.advance 6000000]).foldl applyOp (initSys 2 2 2 true)).s.dWoken = true := by
  decide +kernel

end TarpcModel.Client
