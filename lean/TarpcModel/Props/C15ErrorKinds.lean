import TarpcModel.Props.C15Codec
/-!
# C15 — the 18 portable error kinds round-trip exactly (bincode)

Stated for the **generated** tables and serialized integer types (`Gen/ErrorKindTable.lean`, produced
from `tarpc/src/util/serde.rs`), with no hypothesis: the source writes the kind as a `u32` (`ekSerTy = "u32"`) and the
reader reads a `u32`.  With an untyped literal in the write table (an `i32`, zigzag-encoded) the theorems below are false
and this file does not build: `Props/C15Witness.lean` states that failure as a theorem.
-/
namespace TarpcModel.Bincode
open TarpcModel.Gen

/-- **C15: every portable kind arrives as itself.** -/
theorem C15_error_kinds_bincode : ∀ k ∈ portableKinds, decodeKind (encodeKind k) = some k := by
  decide +kernel

/-- Hence every kind whatsoever arrives as itself if portable and as `Other` if not. -/
theorem C15_error_kinds_total (k : String) :
    decodeKind (encodeKind k) = some (if k ∈ portableKinds then k else "Other") := by
  by_cases h : k ∈ portableKinds
  · simp only [h, ↓reduceIte]; exact C15_error_kinds_bincode k h
  · simp only [h, ↓reduceIte]; exact (C15_other_kinds_degrade k h).2.2

/-- **C15 (server → client), unconditional**: every valid `Response` is read back with its id, body and
detail exact and its error kind exact if portable, `Other` if not. -/
theorem C15_bincode_roundtrip_response_exact {T : Type} {encT : T → Bytes} {decT : Parser T}
    {PT : T → Prop} (hT : BodyCodec encT decT PT) (r : Response T) (hr : r.Valid PT) :
    decodeResponse decT (encResponse encT r) =
      some (match r.message with
        | .ok _ => r
        | .err e => r.withKind (if e.kind ∈ portableKinds then e.kind else "Other")) := by
  cases hm : r.message with
  | ok t =>
    have := C15_bincode_roundtrip_response hT r hr "" (by intro e h; rw [hm] at h; cases h)
    simpa [Response.withKind, hm] using this
  | err e =>
    exact C15_bincode_roundtrip_response hT r hr _
      (by intro e' h; rw [hm] at h; cases h; exact C15_error_kinds_total e.kind)

/-- In particular a response carrying a portable kind is delivered intact. -/
theorem C15_bincode_roundtrip_response_portable {T : Type} {encT : T → Bytes} {decT : Parser T}
    {PT : T → Prop} (hT : BodyCodec encT decT PT) (id : Nat) (e : ServerError) (hid : id < 2 ^ 64)
    (hd : strValid e.detail) (hk : e.kind ∈ portableKinds) :
    decodeResponse decT (encResponse encT { requestId := id, message := .err e }) =
      some { requestId := id, message := .err e } := by
  have := C15_bincode_roundtrip_response_exact hT { requestId := id, message := .err e } ⟨hid, hd⟩
  simpa [Response.withKind, hk] using this

/-- Exact bytes of `Response { request_id: 1, message: Err(PermissionDenied, "x") }` (the kind is written as a `u32`). -/
example : encResponse encU64 { requestId := 1, message := .err { kind := "PermissionDenied", detail := "x" } } =
    [0x01, 0x01, 0x01, 0x01, 0x78] := by decide

end TarpcModel.Bincode
