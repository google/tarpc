import TarpcModel.Lemmas.ClientOwed
import TarpcModel.Lemmas.ClientMon14
import TarpcModel.Props.C16Client
/-!
# C14 (client side) — the run-time monitor `monC14` on traces of the client model: the write clauses

Property theorems only.  `Props/C14Client.lean` has the state-level half (the instrumented transport records none of
the violations `sendViols`; flush before idle; no spin).  Here the **monitor form** of the write clauses of `checkC14`
(`checkC14Obs`, `.tSend`): *no write after the transport reported a failure, none after the close, none without a
preceding `poll_ready → Ready`* — for every configuration, every script over all ops (calls, polls, drops — including
the dispatch polls a `drop-call` runs at the guard's yield points —, injections, faults of every kind, readiness
switches), no bound on the clock (`C14C_write_clauses_accept`).

How: the monitor's state is a fold over the transport observations; its fields `gotReady`, `closed`, `failed` are,
at every point of every poll, the fields of the same name of the instrumented transport `SimT` (`M14.Cpl`).  That needs
the closure principle `Flow.TRel` / `Flow.applyOp_trel` (`Lemmas/ClientTRel.lean`): the dispatch does nothing to its
transport but the five calls `poll_ready`, `start_send`, `poll_flush`, `poll_close`, `poll_next`, and emits transport
observations nowhere else — so any relation kept by transport-free steps and by those calls is kept by every op.  A
write the monitor would object to is one at which `SimT` records `send-after-failure`, `send-after-close` or
`send-without-ready` (`M14.startSend_bad_viol`); the log only grows, and in every reachable state it is free of them
(`Flow.Inv`, `C14_no_violation_partial`).

Also here, from trace-level theorems that existed: the spin clause of `checkC14` (`C14C_spin_clause_accepts`, from
`C14_no_spin`) and the panic clause of `checkC09` (`C09C_panic_clause_accepts`, clock below `2^35` ms, from
`C16_client_no_panic`).

The remaining clauses of `checkC14` (`poll_ready` retried more than four times without returning to the executor; going
idle with written items neither flushed nor being flushed — `C14_flush_before_idle` is the state-level statement) are
not in monitor form yet; `C14C_write_clause` says
that wherever the sub-monitor is silent at a write, so is `checkC14` (same state: `C14C_write_state`).
-/
namespace TarpcModel.Client
open M14

/-- the monitor with the write clauses of `checkC14` only -/
def monC14Write (evs : List CEv) : Mon C14St := Mon.run checkC14Write {} evs

/-- **C14 (client), monitor form, the write clauses.**  On every trace of the client model the dispatch writes to its
transport only after `poll_ready → Ready`, never after the transport reported a failure and never after the close: the
write clauses of the C14 monitor never fire. -/
theorem C14C_write_clauses_accept (m bufCap tcap : Nat) (coupled : Bool) (ops : List COp) :
    (monC14Write (trace (initSys m bufCap tcap coupled) ops)).ok = true := by
  unfold Mon.ok monC14Write
  rw [c14_write_accepts m bufCap tcap coupled ops]; rfl

/-- The sub-monitor has the state of `checkC14` … -/
theorem C14C_write_state (b : Book) (s : C14St) (e : CEv) : (checkC14Write b s e).1 = (checkC14 b s e).1 := by
  cases e <;> rfl

/-- … and its verdict at a write is `checkC14`'s: whenever `checkC14` objects to a `start_send`, so does the
sub-monitor; hence (`C14C_write_clauses_accept`) `checkC14` objects to no write of the model. -/
theorem C14C_write_clause (b : Book) (s : C14St) (ep : TaskId) (msg : Msg) (ok : Bool)
    (h : (checkC14Write b s (.obs (.tSend ep msg ok))).2 = none) : (checkC14 b s (.obs (.tSend ep msg ok))).2 = none := by
  have hb : (s.failed || s.closed || !s.gotReady) = false := by
    cases hc : (s.failed || s.closed || !s.gotReady) with
    | false => rfl
    | true =>
      have hbs : badSend s (.tSend ep msg ok) = true := hc
      have : (checkC14Write b s (.obs (.tSend ep msg ok))).2 =
          some "write after a reported failure, after the close, or without a preceding poll_ready → Ready" := by
        show (if badSend s (.tSend ep msg ok) = true then _ else none) = _
        rw [if_pos hbs]
      rw [this] at h; cases h
  simp only [Bool.or_eq_false_iff, Bool.not_eq_false'] at hb
  obtain ⟨⟨h1, h2⟩, h3⟩ := hb
  simp [checkC14, checkC14Obs, h1, h2, h3]

set_option maxRecDepth 100000 in
/-- Non-vacuity: the sub-monitor rejects a write without readiness and a write after a reported failure, and judges the
writes of a model trace with a request, a cancellation and a failing flush. -/
example :
    (monC14Write [.op .pollDispatch, .obs (.tSend (.dispatch 0) (.cancel 1 ⟨0, .given 0, false⟩) true)]).ok = false ∧
    (monC14Write [.op .pollDispatch, .obs (.tFlush (.dispatch 0) .err), .obs (.tReady (.dispatch 0) .ready),
      .obs (.tSend (.dispatch 0) (.cancel 1 ⟨0, .given 0, false⟩) true)]).ok = false ∧
    (monC14Write (trace (initSys 2 2 2 true)
      [.call 0 5000000 ⟨1, .given 1, true⟩ 7, .pollCall 0, .pollDispatch, .dropCall 0 .none, .fault .flush,
       .pollDispatch, .pollDispatch])).ok = true := by
  decide


/-! ### the spin clause of `checkC14`, the panic clause of `checkC09` -/

/-- the spin clause of `checkC14` alone (the state is `checkC14`'s) -/
def checkC14Spin (b : Book) (s : C14St) (e : CEv) : C14St × Option String :=
  ((checkC14 b s e).1, match e with
    | .obs (.spin _) => some "busy loop: poll_ready/poll_flush retried without returning to the executor"
    | _ => none)

def monC14Spin (evs : List CEv) : Mon C14St := Mon.run checkC14Spin {} evs

/-- **C14 (client), monitor form, the spin clause**: never fires on a trace of the model (no `Obs.spin` is ever
observed, `C14_no_spin`). -/
theorem C14C_spin_clause_accepts (m bufCap tcap : Nat) (coupled : Bool) (ops : List COp) :
    (monC14Spin (trace (initSys m bufCap tcap coupled) ops)).ok = true := by
  have h : (Mon.run checkC14Spin {} (trace (initSys m bufCap tcap coupled) ops)).bad = none := by
    refine mon_accepts_of_splits checkC14Spin { st := {} } _ rfl ?_
    intro pre e post he st _
    cases e with
    | op o => rfl
    | obs o =>
      cases o with
      | spin t =>
        exfalso
        have hel : (initSys m bufCap tcap coupled).s.ensureLoop = false := by
          show Gen.clientEnsureLoop = false; decide
        refine Flow.trace_no_spin ops hel t ?_
        rw [he]; exact List.mem_append_right _ (List.mem_cons_self ..)
      | _ => rfl
  unfold Mon.ok monC14Spin
  rw [h]; rfl

/-- the panic clause of `checkC09` alone (the state is `checkC09`'s) -/
def checkC09Panic (b : Book) (s : C09St) (e : CEv) : C09St × Option String :=
  ((checkC09 b s e).1, match e with
    | .obs (.panic _ site) => some s!"panic: {site}"
    | _ => none)

def monC09Panic (evs : List CEv) : Mon C09St := Mon.run checkC09Panic none evs

/-- **C09 (client), monitor form, the panic clause**: never fires on a trace of the model whose total advanced time is
below `2^35` ms (`C16_client_no_panic`; beyond the bound it does: `C16_client_late_panic_witness`). -/
theorem C09C_panic_clause_accepts (m bufCap tcap : Nat) (coupled : Bool) (ops : List COp)
    (hT : advSum ops < 2 ^ 35 * nsPerMs) :
    (monC09Panic (trace (initSys m bufCap tcap coupled) ops)).ok = true := by
  have h : (Mon.run checkC09Panic none (trace (initSys m bufCap tcap coupled) ops)).bad = none := by
    refine mon_accepts_of_splits checkC09Panic { st := none } _ rfl ?_
    intro pre e post he st _
    cases e with
    | op o => rfl
    | obs o =>
      cases o with
      | panic t site =>
        exfalso
        refine (C16_client_no_panic m bufCap tcap coupled ops hT).1 t site ?_
        rw [he]; exact List.mem_append_right _ (List.mem_cons_self ..)
      | _ => rfl
  unfold Mon.ok monC09Panic
  rw [h]; rfl

end TarpcModel.Client
