import TarpcModel.Lemmas.C17
/-!
# C17 — Generated service glue connects each method to itself

Property theorems only.  The model is `TarpcModel.Macro` (`Macro.lean`): `generate` produces the name
tables the attribute macro emits, `clientBuild` / `serverDispatch` / `requestName` / `clientUnwrap` are
rustc's name resolution on them, `accepted` is the parser's checks together with the explicit (trusted)
list of what rustc enforces on the expansion.  All theorems quantify over **all** service definitions:
any number of methods, any argument lists, raw identifiers, any cfg pattern, any derive option.
-/
namespace TarpcModel.Macro

/-! ## The round trip -/

/-- **C17 (request path).**  For every accepted service, every method `i` that survives cfg and every
argument tuple of its arity: the request built by client method `i` is the variant
`snakeToCamel (unraw m)` carrying the arguments under the parameter names in order, and the server's
`match` sends it to trait method `i` with exactly those arguments in the same order. -/
theorem C17_roundtrip {V : Type} (s : Service) (hacc : accepted s) (i : Nat) (m : Method)
    (hm : s.methods[i]? = some m) (hact : m.active = true) (args : List V)
    (hlen : args.length = m.args.length) :
    clientBuild (generate s) i args = some ⟨snakeToCamel m.ident.name, m.argNames.zip args⟩ ∧
    (clientBuild (generate s) i args).bind (serverDispatch (generate s)) =
      some (i, args, snakeToCamel m.ident.name) := by
  have h1 := clientBuild_generate hacc hm hact args hlen
  refine ⟨h1, ?_⟩
  rw [h1]
  exact serverDispatch_generate hacc hm hact args hlen

/-- **C17 (response path).**  The response variant that server arm `i` wraps the result in is the one
client method `i` unwraps, and it yields the same value. -/
theorem C17_response_roundtrip {V : Type} (s : Service) (hacc : accepted s) (i : Nat) (m : Method)
    (hm : s.methods[i]? = some m) (hact : m.active = true) (args : List V)
    (hlen : args.length = m.args.length) (v : V) :
    ∃ rv, (clientBuild (generate s) i args).bind (serverDispatch (generate s)) = some (i, args, rv) ∧
      clientUnwrap (generate s) i ⟨rv, v⟩ = some v :=
  ⟨m.variant, (C17_roundtrip s hacc i m hm hact args hlen).2, clientUnwrap_generate hm v⟩

/-- **C17 (whole call).**  Calling method `i` on the generated client with `args` and context `ctx`
invokes exactly the implementor's method `i` with the same arguments in the same order and that context,
and the caller gets that invocation's result. -/
theorem C17_call {V C : Type} (s : Service) (hacc : accepted s) (i : Nat) (m : Method)
    (hm : s.methods[i]? = some m) (hact : m.active = true) (impl : Impl V C) (ctx : C) (args : List V)
    (hlen : args.length = m.args.length) :
    ∃ t, call (generate s) impl i ctx args = some t ∧
      t.ranMethod = i ∧ t.ranCtx = ctx ∧ t.ranArgs = args ∧
      t.produced = impl i ctx args ∧ t.returned = impl i ctx args ∧
      t.request.fields.map (·.2) = args :=
  ⟨_, call_generate hacc hm hact impl ctx args hlen, rfl, rfl, rfl, rfl, rfl,
    map_snd_zip _ _ (by rw [argNames_length, hlen])⟩

/-- **C17 (exactness, no hypotheses on `i`).**  Whatever call goes through on an accepted service ran
the method that was called — never another one — with the caller's arguments and context. -/
theorem C17_call_exact {V C : Type} (s : Service) (hacc : accepted s) (impl : Impl V C) (i : Nat)
    (ctx : C) (args : List V) (t : CallTrace V C) (h : call (generate s) impl i ctx args = some t) :
    t.ranMethod = i ∧ t.ranCtx = ctx ∧ t.ranArgs = args ∧ t.returned = impl i ctx args := by
  cases hm : s.methods[i]? with
  | none => simp [call, clientBuild, generate, hm] at h
  | some m =>
    by_cases hact : m.active = true
    · by_cases hlen : args.length = m.args.length
      · rw [call_generate hacc hm hact impl ctx args hlen] at h
        cases h
        exact ⟨rfl, rfl, rfl, rfl⟩
      · simp [call, clientBuild, generate, hm, Method.argNames, hlen] at h
    · simp [call, clientBuild, generate, hm, hact] at h

/-! ## The reported name -/

/-- **C17 (name).**  The request's reported name is `<Service>.<method>` with both identifiers as
written. -/
theorem C17_name {V : Type} (s : Service) (hacc : accepted s) (i : Nat) (m : Method)
    (hm : s.methods[i]? = some m) (hact : m.active = true) (args : List V)
    (hlen : args.length = m.args.length) :
    (clientBuild (generate s) i args).bind (requestName (generate s)) =
      some (s.ident.printed ++ ['.'] ++ m.ident.printed) := by
  rw [clientBuild_generate hacc hm hact args hlen]
  exact requestName_generate hacc hm hact _

/-- What "as written" means: a raw identifier keeps its `r#` prefix (the name of `r#type` in service
`Svc` is `Svc.r#type`), a plain one is printed unchanged. -/
theorem C17_name_printed (n : Name) :
    (Ident.mk true n).printed = 'r' :: '#' :: n ∧ (Ident.mk false n).printed = n := ⟨rfl, rfl⟩

/-! ## Collisions of mangled names -/

/-- **C17 (collisions rejected).**  Two different methods whose identifiers mangle to the same variant
name are never accepted (whatever their cfg: the response enum keeps every variant). -/
theorem C17_camel_collisions (s : Service) (i j : Nat) (a b : Method) (hij : i ≠ j)
    (hi : s.methods[i]? = some a) (hj : s.methods[j]? = some b)
    (hcol : snakeToCamel a.ident.name = snakeToCamel b.ident.name) : ¬ accepted s :=
  fun hacc => hij (idx_eq_of_nodup_map (·.variant) s.methods hacc.variantsNodup i j a b hi hj hcol)

/-- In particular `r#foo` next to `foo` (same text once unrawed) is rejected. -/
theorem C17_raw_plain_collision (s : Service) (i j : Nat) (a b : Method) (hij : i ≠ j)
    (hi : s.methods[i]? = some a) (hj : s.methods[j]? = some b)
    (hname : a.ident.name = b.ident.name) : ¬ accepted s :=
  C17_camel_collisions s i j a b hij hi hj (by rw [hname])

/-- **Exact characterisation of collisions.**  The mangled name is the concatenation of the capitalised
words between underscores; two identifiers collide iff those concatenations coincide. -/
theorem C17_camel_words (a : Name) : snakeToCamel a = (words a).flatMap cap := by
  have := wordsAux_flatMap_cap [] a
  simp only [if_true] at this
  exact this.symm

theorem C17_camel_collision_iff (a b : Name) :
    snakeToCamel a = snakeToCamel b ↔ (words a).flatMap cap = (words b).flatMap cap := by
  rw [C17_camel_words, C17_camel_words]

/-- Collision sources: letter case is ignored ... -/
theorem C17_camel_case_insensitive (a : Name) :
    snakeToCamel (a.map Char.toLower) = snakeToCamel a ∧ snakeToCamel (a.map Char.toUpper) = snakeToCamel a :=
  ⟨camelAux_map_toLower true a, camelAux_map_toUpper true a⟩

/-- ... and so are leading, trailing and repeated underscores. -/
theorem C17_camel_underscore_insensitive (a b : Name) :
    snakeToCamel ('_' :: a) = snakeToCamel a ∧
    snakeToCamel (a ++ ['_']) = snakeToCamel a ∧
    snakeToCamel (a ++ '_' :: '_' :: b) = snakeToCamel (a ++ '_' :: b) := by
  refine ⟨by simp [snakeToCamel, camelAux_cons], ?_, ?_⟩
  · simp [snakeToCamel, camelAux_append_us, camelAux_nil]
  · simp [snakeToCamel, camelAux_append_us, camelAux_cons]

/-- Concrete collisions and non-collisions (`fooBar` is *not* `foo_bar`: an inner capital is
lower-cased; a digit is caseless, so `a_1` and `a1` do collide). -/
theorem C17_camel_examples :
    snakeToCamel "foo_bar".toList = "FooBar".toList ∧
    snakeToCamel "foo__bar".toList = "FooBar".toList ∧
    snakeToCamel "_foo_bar_".toList = "FooBar".toList ∧
    snakeToCamel "FOO_BAR".toList = "FooBar".toList ∧
    snakeToCamel "fooBar".toList = "Foobar".toList ∧
    snakeToCamel "foobar".toList = "Foobar".toList ∧
    snakeToCamel "a_1".toList = "A1".toList ∧
    snakeToCamel "a1".toList = "A1".toList ∧
    snakeToCamel "__".toList = [] ∧
    snakeToCamel "_1x".toList = "1x".toList ∧
    snakeToCamel "self_".toList = "Self".toList := by
  decide +kernel

/-! ## `snake_to_camel` facts -/

theorem C17_camel_no_underscore (a : Name) : '_' ∉ snakeToCamel a := camelAux_no_underscore true a

theorem C17_camel_length (a : Name) :
    (snakeToCamel a).length = (a.filter (· ≠ '_')).length ∧ (snakeToCamel a).length ≤ a.length :=
  ⟨camelAux_length true a, camelAux_length_le true a⟩

/-- Not idempotent (`foo_bar ↦ FooBar ↦ Foobar`), but it stabilises after two steps. -/
theorem C17_camel_stabilises (a : Name) :
    snakeToCamel (snakeToCamel (snakeToCamel a)) = snakeToCamel (snakeToCamel a) := by
  have h1 := C17_camel_no_underscore a
  cases ht : snakeToCamel a with
  | nil => simp [snakeToCamel, camelAux_nil]
  | cons c cs =>
    rw [ht] at h1
    have e1 : snakeToCamel (c :: cs) = c.toUpper :: cs.map Char.toLower := camelAux_true_clean c cs h1
    have h2 := C17_camel_no_underscore (c :: cs)
    rw [e1] at h2 ⊢
    have e2 := camelAux_true_clean c.toUpper (cs.map Char.toLower) h2
    simp only [snakeToCamel] at e2 ⊢
    rw [e2]
    simp [toUpper_toUpper, toLower_toLower]

/-- Capitalised underscore-free words are fixed points. -/
theorem C17_camel_fixed_point (c : Char) (cs : Name) (h : '_' ∉ c :: cs) (hc : c.toUpper = c)
    (hcs : ∀ d ∈ cs, d.toLower = d) : snakeToCamel (c :: cs) = c :: cs := by
  have e := camelAux_true_clean c cs h
  simp only [snakeToCamel, e, hc, List.cons.injEq, true_and]
  clear e h
  induction cs with
  | nil => rfl
  | cons d ds ih =>
    simp only [List.map_cons, hcs d (by simp), List.cons.injEq, true_and]
    exact ih (fun x hx => hcs x (by simp [hx]))

/-! ## Rejections -/

/-- **C17 (reserved names).**  A method written `new` or `serve` (the generated table of names the
parser refuses) is rejected, under any cfg. -/
theorem C17_reserved_rejected (s : Service) (m : Method) (hm : m ∈ s.methods)
    (hres : m.ident.printed ∈ reservedNames) : ¬ accepted s :=
  fun hacc => hacc.printedNotReserved hm hres

/-- The raw spellings `r#new` / `r#serve` slip through the parser's comparison but a method that
survives cfg then clashes with the generated fn of that name, so rustc rejects the expansion. -/
theorem C17_reserved_raw_rejected (s : Service) (m : Method) (hm : m ∈ s.methods)
    (hact : m.active = true) (hres : m.ident.name ∈ reservedNames) : ¬ accepted s :=
  fun hacc => hacc.nameNotReserved hm hact hres

/-- The table really contains the two names generated items use. -/
theorem C17_reserved_names_are : nameNew ∈ reservedNames ∧ nameServe ∈ reservedNames := by decide

/-- Patterns, decorated identifiers and `self` receivers are rejected. -/
theorem C17_non_ident_arg_rejected (s : Service) (m : Method) (hm : m ∈ s.methods) (a : Arg)
    (ha : a ∈ m.args) (hk : a.kind ≠ .plain) : ¬ accepted s := by
  intro hacc
  have h1 := hacc.argsParsed hm ha
  have h2 := hacc.argsPlain hm ha
  cases hkind : a.kind <;> simp_all

/-- An argument named `ctx` (the client fn's own parameter), or two arguments with one name, on a method
that survives cfg, are rejected — so binding by name in the server arm can never pick a different value
than positional passing would. -/
theorem C17_arg_name_clash_rejected (s : Service) (m : Method) (hm : m ∈ s.methods)
    (hact : m.active = true) (h : ctxName ∈ m.argNames ∨ ¬ m.argNames.Nodup) : ¬ accepted s := by
  intro hacc
  cases h with
  | inl h => exact hacc.noCtxArg hm hact h
  | inr h => exact h (hacc.argNamesNodup hm hact)

/-- A mangled name that is not an identifier (`__ ↦ ""`, `_1 ↦ "1"`) or is the keyword `Self`
(`self_ ↦ Self`) is rejected. -/
theorem C17_bad_variant_rejected (s : Service) (m : Method) (hm : m ∈ s.methods)
    (h : validIdent (snakeToCamel m.ident.name) = false ∨ snakeToCamel m.ident.name = selfVariant) :
    ¬ accepted s := by
  intro hacc
  cases h with
  | inl h => have := hacc.variantValid hm; simp [Method.variant, h] at this
  | inr h => exact hacc.variantNotSelf hm h

/-- A service none of whose methods survives cfg — in particular one with no methods — is rejected
(the generated `name()` would be `match self {}` on a reference). -/
theorem C17_no_active_method_rejected (s : Service) (h : ∀ m ∈ s.methods, m.active = false) :
    ¬ accepted s := by
  intro hacc
  obtain ⟨m, hm, ha⟩ := hacc.someActive
  rw [h m hm] at ha
  cases ha

/-- The rejection classes the check observes refine `accepted` exactly. -/
theorem C17_classify_accepted_iff (s : Service) : classify s = .accepted ↔ accepted s := by
  unfold classify accepted
  by_cases h1 : parserOk s
  · have h0 : firstArgErrs s.methods = [] := by
      have hp := h1.1
      generalize s.methods = ms at hp
      induction ms with
      | nil => rfl
      | cons m ms ih =>
        have hm : argErrs m = [] := by
          unfold argErrs
          rw [List.filterMap_eq_nil_iff]
          intro a ha
          have := hp m (by simp) a ha
          cases hk : a.kind with
          | plain => rfl
          | decorated => rfl
          | pattern => exact absurd hk this.1
          | receiver => exact absurd hk this.2
        rw [firstArgErrs, if_pos hm]
        exact ih fun m' hm' => hp m' (by simp [hm'])
    by_cases h2 : macroOk s
    · by_cases h3 : rustcOk s <;> simp [h0, h1, h2, h3]
    · simp [h0, h1, h2]
  · split <;> simp [h1]

/-! ## The monitor accepts the model -/

/-- **C17 (monitor form).**  For every accepted service and every invocation, the monitor that the check
runs on the implementation's observations accepts the model's observations. -/
theorem C17_monitor_accepts {V C : Type} [DecidableEq V] [DecidableEq C] (s : Service)
    (hacc : accepted s) (impl : Impl V C) (i : Nat) (ctx : C) (args : List V) :
    (mon (invokeObs s impl i ctx args)).ok = true := by
  unfold invokeObs
  cases hm : s.methods[i]? with
  | none => simp [mon, monStep]
  | some m =>
    cases hc : call (generate s) impl i ctx args with
    | none => simp [mon, monStep]
    | some t =>
      by_cases hact : m.active = true
      · by_cases hlen : args.length = m.args.length
        · rw [call_generate hacc hm hact impl ctx args hlen] at hc
          cases hc
          simp [mon, monStep, MonSt.fail, requestNameStr, Method.variant,
            map_snd_zip m.argNames args (by rw [argNames_length, hlen])]
        · simp [call, clientBuild, generate, hm, Method.argNames, hlen] at hc
      · simp [call, clientBuild, generate, hm, hact] at hc

/-! ## Non-vacuity: a concrete service (four methods, three of which survive cfg) -/

/-- `trait Svc { async fn r#type(a: u8, r#match: String) -> u64; #[cfg(all())] async fn _get__Thing_(x: u8, y: u8);
async fn ping(); #[cfg(any())] async fn off(a: u8, a: u8, ctx: u8) -> u8; }` -/
def exampleSvc : Service where
  ident := ⟨false, "Svc".toList⟩
  derive := 0
  methods := [
    ⟨⟨true, "type".toList⟩, [⟨.plain, ⟨false, "a".toList⟩, .u8⟩, ⟨.plain, ⟨true, "match".toList⟩, .string⟩],
      some .u64, .none⟩,
    ⟨⟨false, "_get__Thing_".toList⟩, [⟨.plain, ⟨false, "x".toList⟩, .u8⟩, ⟨.plain, ⟨false, "y".toList⟩, .u8⟩],
      none, .on⟩,
    ⟨⟨false, "ping".toList⟩, [], none, .none⟩,
    ⟨⟨false, "off".toList⟩, [⟨.plain, ⟨false, "a".toList⟩, .u8⟩, ⟨.plain, ⟨false, "a".toList⟩, .u8⟩,
      ⟨.plain, ⟨false, "ctx".toList⟩, .u8⟩], some .u8, .off⟩]

example : accepted exampleSvc := by decide +kernel

/-- The implementor used in the examples: returns `1000·method + 10·first + second`. -/
def exampleImpl : Impl Nat Nat := fun i _ args => 1000 * i + 10 * args.headD 0 + (args.drop 1).headD 0

example :
    call (generate exampleSvc) exampleImpl 1 77 [3, 4] =
      some ⟨⟨"GetThing".toList, [("x".toList, 3), ("y".toList, 4)]⟩, "Svc._get__Thing_".toList,
            1, 77, [3, 4], 1034, 1034⟩ := by
  decide +kernel

example :
    (call (generate exampleSvc) exampleImpl 0 5 [8, 9]).map (fun t => (t.request.variant, t.name, t.returned)) =
      some ("Type".toList, "Svc.r#type".toList, 89) := by
  decide +kernel

/-- The cfg'd-out method has no client fn; a wrong arity does not type-check. -/
example : call (generate exampleSvc) exampleImpl 3 0 [1, 2, 3] = none ∧
    call (generate exampleSvc) exampleImpl 2 0 [1] = none := by
  decide +kernel

/-- Rejected variants of the example. -/
example : classify { exampleSvc with methods := exampleSvc.methods ++
    [⟨⟨false, "get_thing".toList⟩, [], none, .off⟩] } = .rustc := by decide +kernel
example : classify { exampleSvc with methods := exampleSvc.methods ++
    [⟨⟨false, "new".toList⟩, [], none, .off⟩, ⟨⟨false, "serve".toList⟩, [], none, .none⟩] } =
    .parser [.new, .serve] := by decide +kernel
example : classify { exampleSvc with methods := exampleSvc.methods ++
    [⟨⟨true, "new".toList⟩, [], none, .none⟩] } = .rustc := by decide +kernel
example : classify { exampleSvc with methods := exampleSvc.methods ++
    [⟨⟨true, "new".toList⟩, [], none, .off⟩] } = .accepted := by decide +kernel
example : classify { exampleSvc with methods := exampleSvc.methods ++
    [⟨⟨false, "__".toList⟩, [], none, .none⟩] } = .macroPanic := by decide +kernel
example : classify { exampleSvc with methods :=
    [⟨⟨false, "a".toList⟩, [⟨.receiver, ⟨false, "self".toList⟩, .u8⟩, ⟨.pattern, ⟨false, "p".toList⟩, .u8⟩], none, .none⟩,
     ⟨⟨false, "new".toList⟩, [], none, .none⟩] } = .parser [.receiver, .pattern] := by decide +kernel
example : classify { exampleSvc with methods := [] } = .rustc := by decide +kernel

end TarpcModel.Macro
