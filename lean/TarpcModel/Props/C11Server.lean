import TarpcModel.Lemmas.ServerTrace
/-!
# C11 (server side) — tracked state is well-formed: the in-flight table and the deadline timers
always agree

Property theorems only.  Model: `Server/Model.lean`; ops and traces: `Server/Run.lean`.
`run c ops` is the state after `ops` (each op starts with an empty observation buffer, exactly as
`trace` computes it).  The invariants (`TableWF`, `ExecWF`) and their preservation proofs are in
`Lemmas/ServerInv.lean` / `Lemmas/ServerTrace.lean`.
-/
namespace TarpcModel.Server

/-- **C11/B: the in-flight table is well-formed after every op sequence**: request ids pairwise
distinct; the entries' `(timerKey, id)` pairs are, as a multiset, exactly the `(key, value)` pairs
of the `DelayQueue` (wheel ++ expired stack); the queue's keys are pairwise distinct and below its
key allocator. -/
theorem C11_table_wellformed (limit : Option Nat) (respCap tcap : Nat) (coupled : Bool) (ops : List SOp) :
    TableWF (run (initSys limit respCap tcap coupled) ops).s :=
  (run_top limit respCap tcap coupled ops).table

/-- **C11/B: as many armed timers as tracked requests**, after every op sequence. -/
theorem C11_timers_eq_inflight (limit : Option Nat) (respCap tcap : Nat) (coupled : Bool) (ops : List SOp) :
    (run (initSys limit respCap tcap coupled) ops).s.timers.len
      = (run (initSys limit respCap tcap coupled) ops).s.inflight.length :=
  (C11_table_wellformed limit respCap tcap coupled ops).len_eq

/-- **C11/B: every entry has its own timer, keyed by `timerKey` and carrying the entry's id; every
timer belongs to an entry.** -/
theorem C11_timer_bijection (limit : Option Nat) (respCap tcap : Nat) (coupled : Bool) (ops : List SOp)
    (s : St) (hs : s = (run (initSys limit respCap tcap coupled) ops).s) :
    (∀ e ∈ s.inflight, (e.timerKey, e.id) ∈ s.timers.kv)
    ∧ (∀ p ∈ s.timers.kv, ∃ e ∈ s.inflight, e.timerKey = p.1 ∧ e.id = p.2)
    ∧ (s.inflight.map (·.timerKey)).Nodup ∧ (s.timers.kv.map (·.1)).Nodup := by
  subst hs
  exact (C11_table_wellformed limit respCap tcap coupled ops).bijection

/-- **C11/B: the `counts` observation never shows two different numbers**, in any trace. -/
theorem C11_counts_always_equal (limit : Option Nat) (respCap tcap : Nat) (coupled : Bool) (ops : List SOp)
    (k a b : Nat) (h : SEv.obs (.counts (.server k) a b) ∈ trace (initSys limit respCap tcap coupled) ops) :
    a = b := by
  obtain ⟨l1, l2, hsplit⟩ := List.append_of_mem h
  have hok := trace_gok limit respCap tcap coupled ops
  rw [hsplit] at hok
  have := hok.at_split.counts
  simp only [gev, gstep, Bool.and_eq_true, beq_iff_eq] at this
  exact this.2

/-- **C11/B: entries ↔ executions**: execution `i` has `rid = i`; every entry names an existing
execution with the same request id whose abort flag is clear; no execution owns two entries. -/
theorem C11_execs_wellformed (limit : Option Nat) (respCap tcap : Nat) (coupled : Bool) (ops : List SOp) :
    ExecWF (run (initSys limit respCap tcap coupled) ops).s :=
  (run_top limit respCap tcap coupled ops).execs

/-- … spelled out with `getExec`: the execution an entry names exists, has the entry's request id
and has not been aborted; and an aborted execution owns no entry. -/
theorem C11_entry_owner (limit : Option Nat) (respCap tcap : Nat) (coupled : Bool) (ops : List SOp)
    (s : St) (hs : s = (run (initSys limit respCap tcap coupled) ops).s) :
    (∀ e ∈ s.inflight, ∃ x, getExec s e.rid = some x ∧ x.id = e.id ∧ x.aborted = false)
    ∧ (∀ x ∈ s.execs, x.aborted = true → ∀ e ∈ s.inflight, e.rid ≠ x.rid)
    ∧ (s.inflight.map (·.rid)).Nodup := by
  subst hs
  exact (C11_execs_wellformed limit respCap tcap coupled ops).entry_owner

/-! ### monitor sub-check (gold): the `inflight ≠ timers` clause of `checkC11` accepts every trace -/

/-- the first clause of `checkC11`, stand-alone (it does not depend on the monitor's approximate table) -/
def checkC11Equal (_ : Book) (_ : Unit) : SEv → Unit × Option String
  | .obs (.counts (.server _) inflight timers) =>
      if inflight != timers then ((), some s!"{inflight} tracked requests but {timers} armed timers")
      else ((), none)
  | _ => ((), none)

/-- **C11 monitor sub-check accepted**: on every trace of the model the `counts` clause
"`inflight` = `timers`" of the C11 monitor never fires. -/
theorem C11_checkEqual_accepts (limit : Option Nat) (respCap tcap : Nat) (coupled : Bool) (ops : List SOp) :
    (Mon.run limit checkC11Equal () (trace (initSys limit respCap tcap coupled) ops)).ok = true := by
  unfold Mon.ok Mon.run
  rw [Mon.foldl_bad_none]
  · rfl
  · rfl
  · intro b st e he
    cases e with
    | op o => rfl
    | obs o =>
      cases o with
      | counts ep a b' =>
        cases ep with
        | server k =>
          have := C11_counts_always_equal limit respCap tcap coupled ops k a b' he
          simp [checkC11Equal, this]
        | _ => rfl
      | _ => rfl

/-- the hypotheses are satisfiable on a concrete script: two requests read and handed out, one
cancelled; the trace contains `counts` observations and they are equal -/
example :
    (trace (initSys none 1 4 true)
      [.injectReq 1 5000000 ⟨7, .given 1, true⟩ 0, .pollServer, .injectReq 2 5000000 ⟨7, .given 2, true⟩ 0,
       .pollServer, .injectCancel 1 ⟨7, .given 1, true⟩, .pollServer]).filter
        (fun e => match e with | .obs (.counts _ _ _) => true | _ => false)
      = [.obs (.counts (.server 0) 1 1), .obs (.counts (.server 0) 2 2), .obs (.counts (.server 0) 1 1)] := by
  decide

end TarpcModel.Server
