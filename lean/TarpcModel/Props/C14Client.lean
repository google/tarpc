import TarpcModel.Lemmas.ClientFlowSink
import TarpcModel.Lemmas.ClientExpire
/-
C14 (client half): the request dispatch honours the `Sink` contract of its transport.

The instrumented transport `SimT` records every contract violation by its owner in `t.violations`
(and the model surfaces each as an `Obs.tViolation`).  The theorems quantify over all configurations
and all op scripts.
-/
namespace TarpcModel.Client
open Flow

/-- **C14 (1), write only after readiness.**  In every reachable state the transport has recorded no
`start_send` that was not preceded by `poll_ready → Ready(Ok)`, and no such violation is ever observed. -/
theorem C14_write_only_after_ready (m b c : Nat) (coupled : Bool) (ops : List COp) :
    "send-without-ready" ∉ (ops.foldl applyOp (initSys m b c coupled)).s.t.violations ∧
    ∀ ep, CEv.obs (.tViolation ep "send-without-ready") ∉ trace (initSys m b c coupled) ops := by
  refine ⟨fun hm => ?_, fun ep hm => ?_⟩
  · exact (foldl_applyOp_inv ops (initSys_inv m b c coupled)).base.sv _ hm (by decide)
  · exact trace_no_send_violation ops (initSys_inv m b c coupled) ep _ hm (by decide)

/-- **C14 (2), silent after failure or close.**  The dispatch never writes to the transport after the
transport reported a failure (`poll_ready / poll_flush / poll_close → Err`) nor after `poll_close → Ready(Ok)`. -/
theorem C14_silent_after_failure_or_close (m b c : Nat) (coupled : Bool) (ops : List COp) :
    ("send-after-failure" ∉ (ops.foldl applyOp (initSys m b c coupled)).s.t.violations ∧
     "send-after-close" ∉ (ops.foldl applyOp (initSys m b c coupled)).s.t.violations) ∧
    ∀ ep, CEv.obs (.tViolation ep "send-after-failure") ∉ trace (initSys m b c coupled) ops ∧
          CEv.obs (.tViolation ep "send-after-close") ∉ trace (initSys m b c coupled) ops := by
  have hi := foldl_applyOp_inv ops (initSys_inv m b c coupled)
  refine ⟨⟨fun hm => hi.base.sv _ hm (by decide), fun hm => hi.base.sv _ hm (by decide)⟩, fun ep => ⟨fun hm => ?_, fun hm => ?_⟩⟩
  · exact trace_no_send_violation ops (initSys_inv m b c coupled) ep _ hm (by decide)
  · exact trace_no_send_violation ops (initSys_inv m b c coupled) ep _ hm (by decide)

/-- **C14 (2), strengthened: nothing at all after a failure.**  After the transport reported a failure the
dispatch makes no further call on its sink: neither `poll_ready`, `start_send`, `poll_flush` nor `poll_close`. -/
theorem C14_no_use_after_failure (m b c : Nat) (coupled : Bool) (ops : List COp) (w : String)
    (hw : w ∈ ["ready-after-failure", "send-after-failure", "flush-after-failure", "close-after-failure"]) :
    w ∉ (ops.foldl applyOp (initSys m b c coupled)).s.t.violations ∧
    ∀ ep, CEv.obs (.tViolation ep w) ∉ trace (initSys m b c coupled) ops := by
  have hs : w ∈ sendViols := by
    simp only [List.mem_cons, List.not_mem_nil, or_false] at hw
    rcases hw with rfl | rfl | rfl | rfl <;> decide
  exact ⟨fun hm => (foldl_applyOp_inv ops (initSys_inv m b c coupled)).base.sv _ hm hs,
    fun ep hm => trace_no_send_violation ops (initSys_inv m b c coupled) ep _ hm hs⟩

/-- The full contract: the transport never records any violation.  Beyond `C14_no_violation_partial` this needs
that `poll_ready / poll_flush / poll_close` are not called again after `poll_close → Ready(Ok)`; that is the case
iff the in-flight table is empty whenever both queues report closed, which needs the ownership invariant
relating in-flight entries to live calls / queued cancellations (property C01 / C03 territory) and is not proved
here.  No counterexample is known. -/
def C14NoViolationStatement : Prop :=
  ∀ (m b c : Nat) (coupled : Bool) (ops : List COp), (ops.foldl applyOp (initSys m b c coupled)).s.t.violations = []

/-- What is proved of `C14NoViolationStatement`: six of the nine kinds of violation never occur (all but
`ready-after-close`, `flush-after-close`, `close-after-close`), for either `ensure_writeable` variant. -/
theorem C14_no_violation_partial (el : Bool) (m b c : Nat) (coupled : Bool) (ops : List COp)
    (w : String) (hw : w ∈ sendViols) :
    w ∉ (ops.foldl applyOp (initSysWith el m b c coupled)).s.t.violations ∧
    ∀ ep, CEv.obs (.tViolation ep w) ∉ trace (initSysWith el m b c coupled) ops :=
  ⟨fun hm => (foldl_applyOp_inv ops (initSysWith_inv el m b c coupled)).base.sv _ hm hw,
   fun ep hm => trace_no_send_violation ops (initSysWith_inv el m b c coupled) ep _ hm hw⟩

/-- The mechanism behind (2): once the transport has reported a failure the dispatch has a terminal error,
and from then on a poll only runs the shutdown path, which makes no transport call. -/
theorem C14_failure_is_terminal (m b c : Nat) (coupled : Bool) (ops : List COp) :
    (ops.foldl applyOp (initSys m b c coupled)).s.t.failed = true →
    (ops.foldl applyOp (initSys m b c coupled)).s.termErr.isSome = true :=
  (foldl_applyOp_inv ops (initSys_inv m b c coupled)).ft

/-- … a poll that starts with a terminal error leaves the transport and the transport observations as they are. -/
theorem C14_terminal_poll_is_silent (s : St) (now : Nat) (a : Activity) (h : s.termErr = some a) :
    (pollDispatchCore s now).1.t = s.t ∧
    (pollDispatchCore s now).1.obs.filter isT = s.obs.filter isT := by
  unfold pollDispatchCore
  simp only [h]
  exact ⟨shutDown_t _ _, shutDown_tObs _ _⟩

/-! ### (4) flush before idle -/

/-- **C14 (4), flush before idle.**  When a dispatch poll goes back to waiting (`Pending`: the future is not done)
in good health (no terminal error, not poisoned by a spin / panic), every message written in this or an earlier
poll has been flushed onto the wire, or a flush is in progress with the dispatch's waker registered. -/
theorem C14_flush_before_idle (s : St) (now : Nat)
    (hrun : (s.dDropped || s.done.isSome || s.poisoned) = false)
    (hd : (pollDispatchKeep s now).done = none) (hp : (pollDispatchKeep s now).poisoned = false)
    (ht : (pollDispatchKeep s now).termErr = none) :
    (pollDispatchKeep s now).t.buffered = [] ∨ (pollDispatchKeep s now).t.writeWaker = true := by
  obtain ⟨s1, hc, hpo, e⟩ := pollDispatchKeep_pending hrun hd hp
  have hcore := pollDispatchCore_pending_flushed { s with dWoken := false } now
  rw [hc] at hcore
  rw [e] at ht ⊢
  exact hcore rfl ht hpo

/-- The same for the executor's `pollDispatch` (which only adds dropping a completed future). -/
theorem C14_flush_before_idle' (s : St) (now : Nat)
    (hrun : (s.dDropped || s.done.isSome || s.poisoned) = false)
    (hd : (pollDispatchKeep s now).done = none) (hp : (pollDispatchKeep s now).poisoned = false)
    (ht : (pollDispatchKeep s now).termErr = none) :
    pollDispatch s now = pollDispatchKeep s now ∧
    ((pollDispatch s now).t.buffered = [] ∨ (pollDispatch s now).t.writeWaker = true) := by
  exact ⟨pollDispatch_of_keep hd, by rw [pollDispatch_of_keep hd]; exact C14_flush_before_idle s now hrun hd hp ht⟩

/-! ### (3) no spin -/

/-- With the fixed `ensure_writeable` (`ensureLoop = false`) that function never reports a spin and observes none. -/
theorem C14_ensureWriteable_no_spin (s : St) (hel : s.ensureLoop = false) :
    (ensureWriteable s).2 ≠ .spin ∧ (ensureWriteable s).1.obs.filter isSpinObs = s.obs.filter isSpinObs := by
  refine ⟨?_, (ensureWriteable_mstep s hel).spin⟩
  unfold ensureWriteable; rw [hel]
  refine ensureOnce_cases (motive := fun p => p.2 ≠ .spin) s ?_ ?_ ?_ ?_ ?_ <;> intros <;> try simp
  rename_i r _ _ _; cases r <;> simp [readyEW]

/-- `run`'s fuel always suffices: `runFuel s = runMeasure s + 4`, where `runMeasure s` (inbound items + 2 × queued
requests + queued cancellations + armed timers) bounds the number of iterations of `run` that loop — every such
iteration consumes at least one unit of it (`run_no_spin`).  (The real loop has no bound; the fuel is a model
device.) -/
theorem C14_run_fuel_suffices (s : St) : runMeasure s < runFuel s := runMeasure_lt_runFuel s

/-- **The loop of `poll_expired` ends by itself.**  `in_flight_requests.poll_expired` loops (`continue`) when it
re-arms a clamped deadline timer; every re-arm takes at least 1 ns off the entry's `deadline_remainder`, so the loop
runs at most `expiredFuel s - 1` = (sum of the remainders) times more than once: giving the model's loop more fuel
than `expiredFuel s` changes nothing — it never ends because the fuel ran out.  Holds in every state. -/
theorem C14_poll_expired_fuel_suffices (s : St) (now fuel : Nat) (h : expiredFuel s ≤ fuel) :
    pollExpiredLoop fuel s now = pollExpired s now :=
  pollExpired_fuel_adequate s now fuel h

/-- **C14 (3), no spin, one poll.**  With the fixed `ensure_writeable`, a dispatch poll started in *any* state
observes no `Obs.spin`. -/
theorem C14_no_spin_poll (s : St) (now : Nat) (hel : s.ensureLoop = false) :
    (pollDispatch s now).obs.filter isSpinObs = s.obs.filter isSpinObs :=
  pollDispatch_no_spin s now hel

/-- The statement asked for: with the current `ensure_writeable`, no reachable dispatch poll observes a spin. -/
def C14NoSpinStatement : Prop :=
  ∀ (m b c : Nat) (coupled : Bool) (ops : List COp) (t : TaskId),
    CEv.obs (.spin t) ∉ trace (initSysWith false m b c coupled) ops

/-- **C14 (3), no spin.**  For all configurations and all op scripts, the fixed `ensure_writeable` never makes the
dispatch spin: no `Obs.spin` occurs in the event trace. -/
theorem C14_no_spin : C14NoSpinStatement :=
  fun m b c coupled ops t => trace_no_spin ops (c := initSysWith false m b c coupled) rfl t

/-- The same for the generated configuration `initSys` (whose `ensure_writeable` variant is the flag
`Gen.clientEnsureLoop` read off the source), as long as that flag says "fixed". -/
theorem C14_no_spin_initSys (hflag : Gen.clientEnsureLoop = false) (m b c : Nat) (coupled : Bool) (ops : List COp)
    (t : TaskId) : CEv.obs (.spin t) ∉ trace (initSys m b c coupled) ops :=
  trace_no_spin ops (c := initSys m b c coupled) hflag t

/-! ### instances, witnesses, findings -/

def c14Trace : Trace := { traceId := 1, span := .given 0, sampled := false }

/-- a request is written, a flush fails, the dispatch is polled again -/
def c14FailOps : List COp :=
  [.call 0 1000000000 c14Trace 1, .pollCall 0, .fault .flush, .pollDispatch, .pollDispatch]

/-- Non-trivial instance of (1), (2): the script writes, fails and is polled again; nothing is violated. -/
example : (c14FailOps.foldl applyOp (initSys 1 1 1 true)).s.t.failed = true ∧
    (c14FailOps.foldl applyOp (initSys 1 1 1 true)).s.t.sentLog.length = 1 ∧
    (c14FailOps.foldl applyOp (initSys 1 1 1 true)).s.t.violations = [] := by decide

/-- one queued call, the transport's readiness (independent of flushing) switched off, one dispatch poll -/
def c14SpinOps : List COp := [.setReady false, .call 0 1000000000 c14Trace 1, .pollCall 0, .pollDispatch]

set_option maxRecDepth 100000 in
/-- **Witness for the `ensure_writeable` busy loop.**  With the looping `ensure_writeable` (`ensureLoop = true`), a transport whose readiness does not depend on flushing (`coupled := false`) and is currently
not ready, and one queued call, a single dispatch poll spins — `poll_ready → Pending`, `poll_flush → Ready`, again
and again, without returning to the executor — and `monC14` rejects the trace. -/
theorem C14_spin_witness :
    CEv.obs (.spin (.dispatch 0)) ∈ trace (initSysWith true 1 1 1 false) c14SpinOps ∧
    (monC14 (trace (initSysWith true 1 1 1 false) c14SpinOps)).ok = false := by decide

set_option maxRecDepth 100000 in
/-- The same script with the fixed `ensure_writeable`: no spin, the monitor accepts. -/
theorem C14_spin_witness_fixed :
    CEv.obs (.spin (.dispatch 0)) ∉ trace (initSysWith false 1 1 1 false) c14SpinOps ∧
    (monC14 (trace (initSysWith false 1 1 1 false) c14SpinOps)).ok = true := by decide

/-- four calls whose deadline has already passed are queued, then the dispatch is polled once -/
def c14FuelOps : List COp :=
  [.call 0 0 c14Trace 1, .call 0 0 c14Trace 2, .call 0 0 c14Trace 3, .call 0 0 c14Trace 4,
   .pollCall 0, .pollCall 1, .pollCall 2, .pollCall 3, .pollDispatch]

set_option maxRecDepth 100000 in
/-- **The fuel of `run` counts a queued request twice.**  Four queued requests whose deadlines have already passed: `run`
needs 4 iterations to write them, 4 more to expire them and one to finish — a fuel that counts queued requests once
(4 + 4) runs out here and reports a spurious spin.  With `runFuel = runMeasure + 4` the poll terminates normally, as
the real (unbounded) loop does: no spin, nothing left in flight, the dispatch is not poisoned, and `monC14` accepts. -/
theorem C14_run_fuel_witness_fixed :
    CEv.obs (.spin (.dispatch 0)) ∉ trace (initSysWith false 4 4 4 true) c14FuelOps ∧
    (c14FuelOps.foldl applyOp (initSysWith false 4 4 4 true)).s.inflight = [] ∧
    (c14FuelOps.foldl applyOp (initSysWith false 4 4 4 true)).s.poisoned = false ∧
    (monC14 (trace (initSysWith false 4 4 4 true) c14FuelOps)).ok = true := by decide

/-- a request is written but its flush is blocked; its call is dropped; the cancel's `start_send` fails -/
def c14CancelFailOps : List COp :=
  [.call 0 1000000000 c14Trace 1, .call 0 1000000000 c14Trace 2, .pollCall 0, .pollCall 1, .setFlush false,
   .pollDispatch, .dropCall 0 .none, .fault .send, .pollDispatch]

set_option maxRecDepth 100000 in
/-- **Corner case the monitor must accept.**  A *cancel* `start_send` that fails while an earlier write is still
waiting for its flush: the dispatch records the terminal error `Write` and — a request-queue permit being still
out — returns `Pending` from the shutdown path without flushing.  The transport recorded no violation, the real
code has the same control flow (a failed write ends the connection, nothing is flushed any more), and `monC14`
counts a failed cancel write as the end of the connection, so it accepts this trace. -/
theorem C14_monitor_cancel_write_failure_witness :
    (c14CancelFailOps.foldl applyOp (initSys 1 1 4 true)).s.termErr = some .write ∧
    (c14CancelFailOps.foldl applyOp (initSys 1 1 4 true)).s.t.violations = [] ∧
    (monC14 (trace (initSys 1 1 4 true) c14CancelFailOps)).ok = true := by decide

end TarpcModel.Client
