import TarpcModel.Lemmas.ServerTable
/-!
# C14 (server side) — the server honours the transport (`Sink`) contract

Property theorems only.  Model: `TarpcModel.Server` (`Server/Model.lean`, ops in `Server/Run.lean`);
the instrumented transport `SimT` (`Sim/Transport.lean`) records contract violations by its owner in
`t.violations`.  Lemmas: `Lemmas/ServerFlow.lean`.
-/
namespace TarpcModel.Server
open TarpcModel TarpcModel.Server.Flow

/-- **C14 (server): never `start_send` without a preceding `poll_ready → Ready`.**  In every reachable
state of every configuration the transport has recorded no `send-without-ready` violation: the write
pump sends only right after `ensure_writeable` returned ready, and the `MaxRequests` limiter sends its
throttle reply only after its own `poll_ready → Ready` with nothing but the inner channel's
`poll_next` (which leaves the sink alone) in between; each further throttle reply in the same poll
is preceded by a fresh `poll_ready`. -/
theorem C14_server_send_after_ready (limit : Option Nat) (respCap tcap : Nat) (coupled : Bool) (ops : List SOp) :
    "send-without-ready" ∉ (ops.foldl applyOp (initSys limit respCap tcap coupled)).s.t.violations :=
  W_reach (initSys limit respCap tcap coupled) (by unfold W SimT.NoSWR; simp [initSys, init]) rfl ops

/-- **C14 (server): no busy loop.**  With the current `ensure_writeable` (one retry, no loop) no
operation ever exhausts the fuel of a model loop: no `Obs.spin` is recorded in any reachable state… -/
theorem C14_server_no_spin (limit : Option Nat) (respCap tcap : Nat) (coupled : Bool) (ops : List SOp) :
    ∀ t, Obs.spin t ∉ (ops.foldl applyOp (initSys limit respCap tcap coupled)).s.obs := by
  intro t ht
  have := ns_reach limit respCap tcap coupled ops
  unfold hasSpin at this
  rw [List.any_eq_false] at this
  exact absurd rfl (this _ ht)

/-- … nor emitted in any trace. -/
theorem C14_server_no_spin_trace (limit : Option Nat) (respCap tcap : Nat) (coupled : Bool) (ops : List SOp) :
    ∀ t, SEv.obs (Obs.spin t) ∉ trace (initSys limit respCap tcap coupled) ops :=
  trace_no_spin ops _ rfl rfl

/-- `ensure_writeable` with a retry loop (model flag `ensureLoop := true`; tarpc's has none): on a
transport whose readiness is independent of flushing (`coupled = false`) and currently closed, with a
response queued, one poll of the request stream retries `poll_ready` / `poll_flush` until the model's
spin limit — a busy loop inside a single `poll_next`. -/
theorem C14_server_spin_witness :
    hasSpin ([SOp.injectReq 1 1000000000 ⟨0, .given 0, false⟩ 0, .pollServer, .finish 0 (.ok 0), .pollExec 0,
        .setReady false, .pollServer].foldl applyOp
      { s := { (init 0 none 1 1 false) with ensureLoop := true } }).s.obs = true := by
  decide

/-- The same script on the current model: the poll returns `Pending` after one retry. -/
example :
    (stepOp ([SOp.injectReq 1 1000000000 ⟨0, .given 0, false⟩ 0, .pollServer, .finish 0 (.ok 0), .pollExec 0,
        .setReady false].foldl applyOp (initSys none 1 1 false)) .pollServer).2 =
      [.tNext (.server 0) .pending, .tReady (.server 0) .pending, .tFlush (.server 0) .ready,
       .tReady (.server 0) .pending, .tFlush (.server 0) .ready, .ret (.server 0) .pending,
       .counts (.server 0) 1 1] := by
  decide

/-- **C14 (server): flush before idle.**  Whenever `Requests::poll_next` (any fuel, from any state — in
particular every reachable one) returns `Pending` or ends the stream, everything it wrote has been
flushed (`buffered = []`) or a flush is pending and the transport holds the task's waker — whether or
not a transport failure occurred on the way. -/
theorem C14_server_flush_before_idle (s : St) (now fuel : Nat) (s' : St) (r : ReqPoll)
    (h : requestsPollNext fuel s now = (s', r)) (hr : r = .pending ∨ r = .none) :
    s'.t.buffered ≠ [] → s'.t.writeWaker = true := by
  intro hb
  have := (requestsPollNext_spec now fuel s).1
  rw [h] at this
  rcases this hr with h1 | h1
  · exact absurd h1 hb
  · exact h1

/-- Non-vacuity: a poll that writes a response onto a socket-like transport whose flush is blocked
goes idle with the response buffered and the waker registered. -/
example :
    let c := [SOp.injectReq 1 1000000000 ⟨0, .given 0, false⟩ 0, .pollServer, .finish 0 (.ok 0), .pollExec 0,
        .setFlush false, .pollServer].foldl applyOp (initSys none 1 2 true)
    c.s.t.buffered = [.response 1 (.ok 0)] ∧ c.s.t.writeWaker = true ∧ c.s.t.violations = [] := by
  decide

end TarpcModel.Server
