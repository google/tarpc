import TarpcModel.Monitors.Server
/-!
# C06 / C04 (server side) — the limiter's early exit is taken at the limit only

Property examples (the general theorem is in `Props/C06LimiterExitMon.lean`).  `MaxRequests::poll_next` returns on `poll_ready → Pending`
*without polling the inner channel* only while the channel is at its limit (finding F7: cancellations and expirations
stay unprocessed meanwhile; the monitors mark such polls `stalled` and judge them by their own clauses).  The monitors
recognise the exit by its shape — a top-level poll of the request stream in which `poll_ready → Pending` is followed at
once by the write pump's own `poll_ready` — and `Book.step` checks
the count the poll began with (`lastCounts`: what the previous channel poll reported; requests in flight change inside
channel polls only): at or above the limit the poll is `stalled` as before; below it the book sets `belowLimitStall`,
and `checkC06Stall` rejects the trace at the poll's `ret` with a message of its own (not finding F7's).

The general theorem — the clause never fires on a trace of the model, for every configuration and script — is
`C06S_limiter_exit_accepts` in `Props/C06LimiterExitMon.lean` (proof: `Lemmas/ServerStallWalk.lean`); the examples below
exercise the clause on hand-written event lists and on scripts with the limiter at and below its limit.
-/
namespace TarpcModel.Server
open TarpcModel

/-- The clause is not vacuous: a top-level poll that takes the limiter's early exit (`poll_ready → Pending`, then
the write pump's `poll_ready`) although the previous poll reported 0 of 2 requests in flight is rejected, with
its own message. -/
example :
    (monC06Stall (some 2)
      [.op .pollServer, .obs (.tReady (.server 0) .pending), .obs (.tReady (.server 0) .pending),
       .obs (.tFlush (.server 0) .pending), .obs (.ret (.server 0) .pending), .obs (.counts (.server 0) 0 0)]).bad =
    some "limiter returned on poll_ready → Pending without polling the inner channel although only 0 of 2 requests were in flight" := by
  -- the kernel compares the two strings; the elaborator's evaluator is slow at it
  decide +kernel

/-- … while the same exit taken at the limit (the previous poll reported 2 of 2 in flight) is a `stalled` poll as
before, and accepted by this clause. -/
example :
    (monC06Stall (some 2)
      [.op .pollServer, .obs (.ret (.server 0) .readyItem), .obs (.counts (.server 0) 2 2),
       .op .pollServer, .obs (.tReady (.server 0) .pending), .obs (.tReady (.server 0) .pending),
       .obs (.tFlush (.server 0) .pending), .obs (.ret (.server 0) .pending), .obs (.counts (.server 0) 2 2)]).ok = true := by
  decide

/-- … and without a limiter the shape means nothing. -/
example :
    (monC06Stall none
      [.op .pollServer, .obs (.tReady (.server 0) .pending), .obs (.tReady (.server 0) .pending),
       .obs (.tFlush (.server 0) .pending), .obs (.ret (.server 0) .pending), .obs (.counts (.server 0) 0 0)]).ok = true := by
  decide

set_option maxRecDepth 100000 in
/-- On the model: limit 1, one request in flight, the sink not ready, a second request waiting — the limiter takes the
early exit in two polls (at its limit); limit 2, sink not ready from the start — the limiter never takes it (the request
is read and yielded).  `monC06Stall` accepts both traces; in the first the transport is read once (by the first poll) and
`poll_ready` is `Pending` six times (the two stalled polls). -/
example :
    let tr : Trace := ⟨0, .given 0, false⟩
    let opsAt : List SOp :=
      [.injectReq 1 50000000 tr 0, .pollServer, .setReady false, .injectReq 2 60000000 tr 0, .pollServer, .pollServer]
    let opsBelow : List SOp := [.setReady false, .injectReq 1 50000000 tr 0, .pollServer, .pollServer]
    (monC06Stall (some 1) (trace (initSys (some 1) 1 8 false) opsAt)).ok = true ∧
    (monC06Stall (some 2) (trace (initSys (some 2) 1 8 false) opsBelow)).ok = true ∧
    ((trace (initSys (some 1) 1 8 false) opsAt).filter (fun e => match e with
        | .obs (.tNext _ _) => true | _ => false)).length = 1 ∧
    ((trace (initSys (some 1) 1 8 false) opsAt).filter (fun e => match e with
        | .obs (.tReady _ .pending) => true | _ => false)).length = 6 := by
  decide +kernel

end TarpcModel.Server
