import TarpcModel.Lemmas.ServerTab3
import TarpcModel.Props.C16Server
/-!
# C06 (server side) — the "deadline enforced" clauses of the run-time monitor `monC06` accept the traces of the model

Property theorems only.  `Props/C06ServerMon.lean` has the never-early clause of `checkC06` (`checkC06Early`) for every
configuration and script.  The other two clauses (`checkC06Rest`, `Lemmas/ServerMon06.lean`) are the *enforced*
direction:

* `handler r polled t` although a non-stalled poll of the request stream went idle at or after the tick of `r`'s timer
  (`expiredSeen`, set by `Book.sweep`; the tick is `ceil_ms (max deadline yieldedAt)`);
* a response transmitted for a request whose expiry the monitor had seen in that way.

**Scripts quantified over** (each hypothesis is explicit in the theorems):

* `limit = none` — no `MaxRequests` limiter (finding F7: with the limiter at its limit and the sink not ready the channel
  is not polled at all; the monitors mark such polls `stalled` and have their own clause `checkC06Stall` for them);
* `advSum ops < 2^35 ms` — the clock bound under which the timer wheel is complete (`Props/C06NotLate.lean`;
  beyond it `monC06` does reject a trace of the model: `C06_wheel_lag_witness`);
* `DistinctIds ops` — the requests the script injects carry pairwise distinct ids.  This hypothesis cannot be dropped:
  `C06S_reuse_after_expiry_witness`.  (`checkC06`'s own exemption, `reusedAfterAbort`, covers a re-use after a `Cancel`,
  an abandonment or an abort that the handler noticed — not this one.)

The proof (`Lemmas/ServerTab1.lean` … `ServerTab3.lean`) couples the book with the model a second time (`Tab.X`, on top of
`Mon06.K`): every live, unaborted execution is tracked; the ids waiting in the guard-cancellation queue and in the
response queue belong to finished executions; the exact due time of a tracked request's timer is not after
`max deadline yieldedAt`; an execution whose expiry the monitor has seen is tracked no more.  The last clause is
established at an idle poll from the completeness of the timer wheel (`requestsPollNext_idle_timers`).
-/
namespace TarpcModel.Server
open TarpcModel TarpcModel.Server.Flow TarpcModel.Server.Mon06 TarpcModel.Server.Tab

/-- the monitor with the two "deadline enforced" clauses of `checkC06` only -/
def monC06Rest (limit : Option Nat) (evs : List SEv) : Mon Unit := Mon.run limit checkC06Rest () evs

/-- **C06 (server), monitor form, enforced.**  Without a limiter, for every script over all ops whose total advanced
time is below `2^35` ms and whose injected requests carry pairwise distinct ids — whatever deadlines the requests
carry, with cancellations, abandoned executions, transport faults — the two "deadline enforced" clauses of the C06
monitor never fire on the model's trace: once a poll of the request stream has gone idle at or after the tick of a
request's timer, its handler is never polled again and no response for it is transmitted. -/
theorem C06S_enforcement_accepts (respCap tcap : Nat) (coupled : Bool) (ops : List SOp)
    (hT : advSum ops < 2 ^ 35 * nsPerMs) (hd : DistinctIds ops) :
    (monC06Rest none (trace (initSys none respCap tcap coupled) ops)).ok = true := by
  unfold Mon.ok monC06Rest
  rw [c06_rest_accepts C16_server_flags respCap tcap coupled ops hT hd]; rfl

/-- **C06 (server), the whole monitor.**  Under the same hypotheses `monC06` — all three clauses of `checkC06` —
accepts the model's trace. -/
theorem C06S_monitor_accepts (respCap tcap : Nat) (coupled : Bool) (ops : List SOp)
    (hT : advSum ops < 2 ^ 35 * nsPerMs) (hd : DistinctIds ops) :
    (monC06 none (trace (initSys none respCap tcap coupled) ops)).ok = true := by
  unfold Mon.ok
  rw [c06_accepts C16_server_flags respCap tcap coupled ops hT hd]; rfl

/-- what `DistinctIds` says, unfolded -/
theorem C06S_distinctIds_iff (ops : List SOp) : DistinctIds ops ↔ (reqIds ops).Nodup := Iff.rfl

/-- a request id re-used after the first request with it had expired, while that request's response was still queued -/
def c06ReuseOps : List SOp :=
  [.injectReq 1 5000000 ⟨7, .given 0, true⟩ 0, .pollServer, .finish 0 (.ok 0), .pollExec 0, .advance 6000000,
   .injectReq 1 20000000 ⟨7, .given 0, true⟩ 0, .pollServer, .advance 20000000, .pollServer, .pollExec 1]

/-- **The hypothesis `DistinctIds` cannot be dropped** (no limiter, no fault, 26 ms of virtual time): request 1 (deadline
5 ms) completes, its response waits in the response queue; at 6 ms one poll of the request stream expires its table
entry, reads a second request with the same id (deadline 20 ms), starts it — and then writes the *first* request's
response, which (`BaseChannel::start_send`) removes the table entry of the id: the second request is tracked no more,
its deadline is never enforced, and `monC06` rightly reports its handler still running at 26 ms. -/
theorem C06S_reuse_after_expiry_witness :
    (monC06 none (trace (initSys none 1 8 false) c06ReuseOps)).ok = false ∧ ¬ DistinctIds c06ReuseOps ∧
    advSum c06ReuseOps < 2 ^ 35 * nsPerMs := by
  decide +kernel

/-- Non-vacuity: an idle poll past the tick marks the request (`expiredSeen`); the `poll-exec` that follows reports
the handler dropped, not polled, and the monitor accepts. -/
example :
    let ops : List SOp :=
      [.injectReq 1 1000000 ⟨0, .given 0, false⟩ 0, .pollServer, .pollExec 0, .advance 5000000, .pollServer, .pollExec 0]
    (monC06 none (trace (initSys none 1 1 true) ops)).ok = true ∧ DistinctIds ops ∧
    SEv.obs (.handler 0 .dropped 5000000) ∈ trace (initSys none 1 1 true) ops := by
  decide +kernel

/-- The clauses are not vacuous: a handler polled after an idle poll past its tick is rejected. -/
example :
    (monC06Rest none
      [.op .pollServer, .obs (.yielded 0 1 1000000 ⟨0, .fresh 0, false⟩), .obs (.ret (.server 0) .readyItem),
       .op (.advance 5000000), .op .pollServer, .obs (.ret (.server 0) .pending), .op (.pollExec 0),
       .obs (.handler 0 .polled 5000000)]).ok = false := by
  decide

end TarpcModel.Server
