import TarpcModel.Lemmas.C02
import TarpcModel.Lemmas.ClientExpire
/-!
# C02 — every call terminates; no wakeup is lost (client side)

The second sentence of the property is a list of local facts: *each event that enables progress wakes
the task that must act on it*.  Each is a theorem about the model function that performs the event
(first block), paired with the *registration* facts: a task that returns `Pending` has registered its
waker with the source it waits for (second block).
The first sentence (no call is still pending when nothing is left that could wake the system) is the
global statement `C02NoStuckStatement`, decided on every woken-only trace by the `settle` operation (model and
implementation side by side).  As written it is false on the model — a dispatch that has panicked is never polled
again (`C02NoStuckStatement_false`, `Props/C02Account.lean`); with the clock bound under which the dispatch does not
panic it is `C02NoStuckStatement'`, proved as `C02_no_stuck` in `Props/C02NoStuck.lean`.  The third block states it and
holds two facts about single states that stand beside that proof: the terminal fan-out, and what a `[]` verdict of
`settle` means.
-/
namespace TarpcModel.Client

/-! ## Events wake the task that must act on them -/

/-- **Reply arrival, peer close and read errors wake the dispatch**: any inbound item delivered while
the dispatch is parked on the transport's read side (`readWaker`) wakes it. -/
theorem C02_inbound_wakes_dispatch (s : St) (i : Inb) (h : dispatchAlive s) (hw : s.t.readWaker = true) :
    (liftT s (s.t.inject i)).dWoken = true :=
  liftT_woken s _ h hw

/-- **Peer close wakes the dispatch** parked on the read side. -/
theorem C02_eof_wakes_dispatch (s : St) (h : dispatchAlive s) (hw : s.t.readWaker = true) :
    (liftT s s.t.setEof).dWoken = true :=
  liftT_woken s _ h hw

/-- **A new request wakes the dispatch**: pushing onto the request queue while the dispatch is parked
on it. -/
theorem C02_request_wakes_dispatch (s : St) (r : DReq) (h : dispatchAlive s) (hw : s.pqRxWaker = true) :
    (pqPush s r).dWoken = true := by
  unfold pqPush
  simp only [hw, ↓reduceIte]
  exact Flow.wakeDispatch_woken _ h.1 h.2

/-- **A cancellation wakes the dispatch**: pushing onto the cancellation queue while the dispatch is
parked on it. -/
theorem C02_cancel_wakes_dispatch (s : St) (id : Nat) (h : dispatchAlive s) (hw : s.cqRxWaker = true) :
    (cqPush s id).dWoken = true := by
  unfold cqPush
  rw [if_neg (by simp [h.1])]
  simp only [hw, ↓reduceIte]
  exact Flow.wakeDispatch_woken _ h.1 h.2

/-- **Writability returning wakes the dispatch**: when the dispatch is parked on the sink (`writeWaker`)
and the environment restores readiness (there is room in the buffer), it is woken. -/
theorem C02_writability_wakes_dispatch (s : St) (h : dispatchAlive s) (hw : s.t.writeWaker = true)
    (hcap : s.t.buffered.length < s.t.cap) :
    (liftT s (s.t.setReady true)).dWoken = true := by
  apply liftT_woken s _ h
  simp [SimT.setReady, SimT.wakeIfReady, SimT.isReadyNow, hw, hcap]

/-- **Flushability returning wakes the dispatch**: a socket-like (coupled) transport that becomes
flushable again wakes the dispatch parked on the sink, whether it parked in `poll_ready` or in
`poll_flush`. -/
theorem C02_flushability_wakes_dispatch (s : St) (h : dispatchAlive s) (hw : s.t.writeWaker = true)
    (hc : s.t.coupled = true) :
    (liftT s (s.t.setFlush true)).dWoken = true := by
  apply liftT_woken s _ h
  simp only [SimT.setFlush, SimT.wakeIfReady, hw, hc, Bool.and_self, Bool.or_true, ↓reduceIte]

/-- **A flush completing wakes the task parked on readiness**: a self-waking transport (`selfWake`, the default)
wakes the registered waker whenever readiness is restored, also when the owner's own flush restored it.  (A staging
sink, `selfWake = false`, does not: see `C02_ensureWriteable_repolls` for why the dispatch does not depend on it.) -/
theorem C02_flush_restores_and_wakes (t : SimT) (hw : t.writeWaker = true) (hcap : 0 < t.cap)
    (hc : t.coupled = true ∨ t.readyOpen = true) (hsw : t.selfWake = true) : t.drain.2 = true := by
  rcases hc with hc | hc <;> simp [SimT.drain, SimT.isReadyNow, hw, hc, hcap, hsw]

/-- … and without `selfWake` the owner's own flush leaves the waker registered (an external `setReady` / `setFlush`
still finds it), reporting no wake. -/
theorem C02_flush_without_self_wake (t : SimT) (hsw : t.selfWake = false) :
    t.drain.2 = false ∧ t.drain.1.writeWaker = t.writeWaker := by
  simp [SimT.drain, hsw]

/-- … and that wake reaches the dispatch: `tFlush` turns the transport's report into a wake. -/
theorem C02_own_flush_wakes_dispatch (s : St) (h : dispatchAlive s) (hw : s.t.pollFlush.2.2 = true) :
    (tFlush s).1.dWoken = true := by
  unfold tFlush
  simp only [hw, ↓reduceIte]
  apply Flow.wakeDispatch_woken
  · simp only [emit, emitViolations_dDropped]; exact h.1
  · simp only [emit, emitViolations_done]; exact h.2

/-- **The dispatch does not rely on being woken by its own flush** (what a non-self-waking sink needs): in
`ensure_writeable`, when `poll_ready` was `Pending` and the `poll_flush` that followed returned `Ready(Ok)`, the
result is that of a *second* `poll_ready` in the same poll — not `Pending` unconditionally.  So room made by the
dispatch's own flush is noticed at once, without any wake. -/
theorem C02_ensureWriteable_repolls (s s1 s2 : St) (hel : s.ensureLoop = false)
    (h1 : tReady s = (s1, .pending)) (h2 : tFlush s1 = (s2, .ready)) :
    ensureWriteable s = ((tReady s2).1,
      match (tReady s2).2 with
      | .ready => .ready
      | .err => .err .ready
      | .pending => .pending) := by
  unfold ensureWriteable ensureOnce
  simp only [hel, Bool.false_eq_true, ↓reduceIte, h1, h2]
  cases h3 : (tReady s2).2 <;> rcases h4 : tReady s2 with ⟨s3, r3⟩ <;> rw [h4] at h3 <;> simp only at h3 <;>
    subst h3 <;> rfl

/-- **A reply (or any completion) wakes the caller**: sending on a call's oneshot while the caller is
parked on it (`rxWaker`) wakes that call, and the value is there for it to read. -/
theorem C02_completion_wakes_caller (s : St) (cid : Nat) (o : Outcome) (c : Call)
    (hg : getCall s cid = some c) (hl : callLive c = true) (hopen : c.os.rxClosed = false)
    (hw : c.os.rxWaker = true) :
    (getCall (osSend s cid o) cid).map (·.woken) = some true ∧
    (getCall (osSend s cid o) cid).map (·.os.val) = some (some o) := by
  rw [getCall_osSend_self s cid o c hg hopen]
  simp [sentC, hw, hl]

/-- **The dispatch going away wakes the caller**: dropping the oneshot's sender while the caller is parked
on it wakes that call (it then resolves with `Shutdown`). -/
theorem C02_sender_drop_wakes_caller (s : St) (cid : Nat) (c : Call)
    (hg : getCall s cid = some c) (hl : callLive c = true) (hv : c.os.val = none) (ht : c.os.txDropped = false)
    (hw : c.os.rxWaker = true) :
    (getCall (osDropTx s cid) cid).map (·.woken) = some true := by
  rw [getCall_osDropTx_self s cid c hg]
  simp [dropTxC, hv, ht, hw, hl]

/-- **Capacity returning wakes the blocked caller**: a permit released while callers wait is handed to
the oldest waiter, which is woken and owns the slot. -/
theorem C02_capacity_wakes_waiter (s : St) (w : Nat) (rest : List Nat) (c : Call)
    (hq : s.pqWaiters = w :: rest) (hg : getCall s w = some c) (hl : callLive c = true) :
    (getCall (pqRelease s) w).map (·.woken) = some true ∧ w ∈ (pqRelease s).pqAssigned := by
  unfold pqRelease
  simp only [hq]
  have hg' : getCall { s with pqWaiters := rest, pqAssigned := s.pqAssigned ++ [w] } w = some c := hg
  exact ⟨wakeCall_woken _ w c hg' hl, by simp⟩

/-- **Closing the request queue wakes every blocked caller** (they then fail with `Shutdown`). -/
theorem C02_close_wakes_all_waiters (s : St) :
    ∀ w ∈ s.pqWaiters, ∀ c, getCall s w = some c → callLive c = true →
      (getCall (pqClose s) w).map (·.woken) = some true := by
  intro w hw c hg hl
  unfold pqClose
  exact (foldl_wakeCall_wakes s.pqWaiters { s with pqClosed := true, pqWaiters := [] } w hw ⟨c, hg, hl⟩).map_woken

/-- Waking one call never un-wakes another: a woken live call stays woken through `wakeCall` of any
call. -/
theorem C02_wake_is_monotone (s : St) (x cid : Nat) (c : Call) (hg : getCall s cid = some c)
    (hl : callLive c = true) (hw : c.woken = true) :
    (getCall (wakeCall s x) cid).map (·.woken) = some true :=
  (wakeCall_wokenLive_mono s x cid ⟨c, hg, hl, hw⟩).map_woken

/-- **The last handle dropped / the last call gone wakes the dispatch** parked on either queue (both
queues then report `closed`). -/
theorem C02_last_sender_gone_wakes_dispatch (s : St) (h : dispatchAlive s) (hs : senders s = 0)
    (hw : s.pqRxWaker = true ∨ s.cqRxWaker = true) :
    (afterCallGone s).dWoken = true := by
  unfold afterCallGone
  simp only [hs, beq_self_eq_true, ↓reduceIte]
  by_cases hp : s.pqRxWaker = true
  · simp only [hp, ↓reduceIte]
    have h1 : (wakeDispatch { s with pqRxWaker := false }).dWoken = true := Flow.wakeDispatch_woken _ h.1 h.2
    split
    · exact Flow.wakeDispatch_dWoken_mono _ h1
    · exact h1
  · have hc : s.cqRxWaker = true := by
      rcases hw with hw | hw
      · exact absurd hw hp
      · exact hw
    simp only [hp, Bool.false_eq_true, ↓reduceIte, hc]
    exact Flow.wakeDispatch_woken _ h.1 h.2

/-- The same through the handle-drop operation. -/
theorem C02_last_handle_dropped_wakes_dispatch (s : St) (hnd : Nat) (h : dispatchAlive s)
    (hm : s.handles.contains hnd = true)
    (hs : senders { s with handles := s.handles.filter (· != hnd) } = 0)
    (hw : s.pqRxWaker = true ∨ s.cqRxWaker = true) :
    (dropHandle s hnd).dWoken = true := by
  unfold dropHandle
  simp only [hm, ↓reduceIte]
  exact C02_last_sender_gone_wakes_dispatch _ h hs hw

/-- **Timer expiry wakes the dispatch**: when the clock reaches the registered `Sleep`'s deadline and the
dispatch is parked on the deadline queue, it is woken. -/
theorem C02_timer_expiry_wakes_dispatch (s : St) (now t : Nat) (h : dispatchAlive s)
    (hf : s.timers.nextFire = some t) (ht : t ≤ now) (hw : s.timers.waker = true) :
    (onAdvance s now).dWoken = true := by
  unfold onAdvance
  simp only [hf, ht, decide_true, hw, Bool.and_self, ↓reduceIte]
  exact Flow.wakeDispatch_woken _ h.1 h.2

/-! ## A task that returns `Pending` is registered with what it waits for -/

/-- **A pending caller is registered**: a call that returns `Pending` while waiting for its response has
registered on its oneshot (`rxWaker`). -/
theorem C02_pending_call_is_registered (s : St) (cid : Nat) (now : Nat) (c : Call)
    (hg : getCall s cid = some c) (hv : c.os.val = none) (ht : c.os.txDropped = false) :
    (getCall (pollOneshot s cid now) cid).map (·.os.rxWaker) = some true := by
  unfold pollOneshot
  simp only [hg, hv, ht, Bool.false_eq_true, ↓reduceIte, getCall_emit]
  rw [Flow.getCall_updCall _ _ _ ?_, hg]
  · rfl
  · intro _; rfl

/-- **A caller blocked on capacity is queued**: a first poll that finds no permit leaves the call in the
FIFO of waiters (phase `reserving`), from where `pqRelease` / `pqClose` wake it. -/
theorem C02_blocked_call_is_queued (s : St) (cid : Nat) (now : Nat) (c : Call)
    (hg : getCall s cid = some c) (hph : c.phase = .notPolled) (hc : s.pqClosed = false)
    (hd : s.dDropped = false) (ha : s.pqAvail = 0) :
    cid ∈ (pollCall s cid now).pqWaiters ∧
    (getCall (pollCall s cid now) cid).map (·.phase) = some .reserving := by
  unfold pollCall
  simp only [hg, hph]
  rw [if_neg (by simp [hc, hd]), if_neg (by simp [ha])]
  refine ⟨by simp [emit, updCall], ?_⟩
  rw [getCall_emit, Flow.getCall_updCall _ _ _ ?_]
  · have : getCall (updCall { s with nextFresh := s.nextFresh + 1, nextId := s.nextId + 1 } cid
        (fun c' => { c' with id := s.nextId, trace := { c.ctx.trace with span := .fresh s.nextFresh }, woken := false })) cid
        = some { c with id := s.nextId, trace := { c.ctx.trace with span := .fresh s.nextFresh }, woken := false } := by
      rw [Flow.getCall_updCall _ _ _ ?_]
      · show Option.map _ (getCall s cid) = _
        rw [hg]; rfl
      · intro _; rfl
    show Option.map _ (Option.map _ (getCall (updCall { s with nextFresh := s.nextFresh + 1, nextId := s.nextId + 1 } cid _) cid)) = _
    rw [this]
    rfl
  · intro _; rfl

/-- A queued caller polled again without having been handed a permit stays queued. -/
theorem C02_reserving_stays_queued (s : St) (cid : Nat) (now : Nat) (c : Call)
    (hg : getCall s cid = some c) (hph : c.phase = .reserving) (hc : s.pqClosed = false)
    (hd : s.dDropped = false) (ha : s.pqAssigned.contains cid = false) :
    (pollCall s cid now).pqWaiters = s.pqWaiters := by
  unfold pollCall
  simp only [hg, hph]
  rw [if_neg (by simp [hc, hd, updCall]), if_neg (by simpa [updCall] using ha)]
  rfl

/-- **A parked dispatch is registered on the cancellation queue**. -/
theorem C02_dispatch_registers_on_cancel_queue (s : St) (h : (cqRecv s).2 = .pending) :
    (cqRecv s).1.cqRxWaker = true := by
  unfold cqRecv at h ⊢
  split
  · simp_all
  · split
    · simp_all
    · rfl

/-- **A parked dispatch is registered on the request queue**. -/
theorem C02_dispatch_registers_on_request_queue (s : St) (h : (pqRecv s).2 = .pending) :
    (pqRecv s).1.pqRxWaker = true := by
  unfold pqRecv at h ⊢
  split
  · simp_all
  · split
    · simp_all
    · split
      · simp_all
      · rfl

/-- **A parked reader is registered on the transport's read side**. -/
theorem C02_dispatch_registers_on_read (t : SimT) (h : t.pollNext.2 = .pending) :
    t.pollNext.1.readWaker = true :=
  (SimT.pollNext_pending_reg t h).2

/-- **A writer told `Pending` by `poll_ready` is registered on the sink**. -/
theorem C02_dispatch_registers_on_ready (t : SimT) (h : t.pollReady.2.1 = .pending) :
    t.pollReady.1.writeWaker = true :=
  Flow.SimT.pollReady_pending t h

/-- **A writer told `Pending` by `poll_flush` is registered on the sink**. -/
theorem C02_dispatch_registers_on_flush (t : SimT) (h : t.pollFlush.2.1 = .pending) :
    t.pollFlush.1.writeWaker = true :=
  (Flow.SimT.pollFlush_flushed t).1 h

/-- **… and by `poll_close`**. -/
theorem C02_dispatch_registers_on_close (t : SimT) (h : t.pollClose.2.1 = .pending) :
    t.pollClose.1.writeWaker = true :=
  (Flow.SimT.pollClose_flushed t).1 h

/-- **The deadline queue keeps the poller's waker**: `poll_expired` stores it first, whatever it
returns; in particular after `Pending` / `None`. -/
theorem C02_dispatch_registers_on_timers (q : DelayQ) (now : Nat)
    (_h : (q.pollExpired now).2 = .pending ∨ (q.pollExpired now).2 = .none) :
    (q.pollExpired now).1.waker = true :=
  DelayQ.pollExpired_waker q now

/-- One iteration of the dispatch's `poll_expired` that ends the loop without yielding anything — and without a
panic of the re-arming `DelayQueue::insert` — came from a queue poll that returned `Pending` / `None`: the waker is
stored. -/
theorem expireWith_registers {s s' : St} {now : Nat} {r : DelayQ × DelayQ.PollRes} (hw : r.1.waker = true)
    (h : expireWith s now r = .done s' false) (hp : s'.poisoned = false) : s'.timers.waker = true := by
  unfold expireWith at h
  split at h
  · split at h
    · split at h
      · unfold rearm at h
        generalize DelayQ.insert _ now _ _ = ri at h
        obtain ⟨q', res, w⟩ := ri
        cases res with
        | panic =>
          simp only [rearmWith, ExpStep.done.injEq, and_true] at h
          subst h; simp [emit] at hp
        | ok key => simp [rearmWith] at h
      · simp at h
    · simp at h
  · simp only [ExpStep.done.injEq, and_true] at h
    subst h; exact hw

/-- The dispatch's `poll_expired` leaves the waker stored in its deadline queue when nothing expired (and the
re-arming `DelayQueue::insert`, if any, did not panic). -/
theorem C02_pollExpired_registers (s : St) (now : Nat) (h : (pollExpired s now).2 = false)
    (hp : (pollExpired s now).1.poisoned = false) :
    (pollExpired s now).1.timers.waker = true := by
  suffices key : ∀ fuel s, remSum s < fuel → (pollExpiredLoop fuel s now).2 = false →
      (pollExpiredLoop fuel s now).1.poisoned = false → (pollExpiredLoop fuel s now).1.timers.waker = true from
    key _ s (by rw [expiredFuel_eq]; omega) h hp
  intro fuel
  induction fuel with
  | zero => intro s hf; omega
  | succ fuel ih =>
    intro s hf h hp
    cases hstep : expireStep s now with
    | again s' =>
      have hlt := expireWith_again (r := s.timers.pollExpired now) hstep
      simp only [pollExpiredLoop, hstep] at h hp ⊢
      exact ih s' (by omega) h hp
    | done s' b =>
      simp only [pollExpiredLoop, hstep] at h hp ⊢
      subst h
      exact expireWith_registers (DelayQ.pollExpired_waker s.timers now) hstep hp

/-! ## The global statement -/

/-- The global statement (first sentence of C02), in the form the `settle` operation checks: from any
reachable state, once no task is woken, no live call is stuck. -/
def C02NoStuckStatement : Prop :=
  ∀ (m b c : Nat) (coupled : Bool) (ops : List COp), 1 ≤ m → 1 ≤ b → 1 ≤ c →
    (settle (ops.foldl applyOp (initSys m b c coupled))).2 = []

/-- **Terminal fan-out**: when the dispatch is dropped
(or completes, which drops it), every live caller that is parked on its still-empty oneshot
(`rxWaker`) and whose request sits in the request queue or in the in-flight table is woken; it then
resolves with `Shutdown`.  That every `awaiting` call's request *is* in one of the two tables (or already answered),
in every reachable state, is `C02_call_accounted` (`Props/C02Account.lean`). -/
theorem C02_terminal_fanout_partial (s : St) (hd : s.dDropped = false) (hp : s.poisoned = false)
    (cid : Nat) (c : Call) (hg : getCall s cid = some c) (hl : callLive c = true)
    (hv : c.os.val = none) (ht : c.os.txDropped = false) (hw : c.os.rxWaker = true)
    (hm : (∃ r ∈ s.pq, r.cid = cid) ∨ (∃ e ∈ s.inflight, e.cid = cid)) :
    (getCall (dropDispatch s) cid).map (·.woken) = some true := by
  apply dropDispatch_wakes_parked s hd hp cid c hg ⟨hl, Or.inr ⟨hv, ht, hw⟩⟩
  rcases hm with ⟨r, hr, rfl⟩ | ⟨e, he, rfl⟩
  · exact Or.inl (List.mem_map_of_mem hr)
  · exact Or.inr (List.mem_map_of_mem he)

/-- … and a call that was already woken is not un-woken by the dispatch going away. -/
theorem C02_terminal_fanout_keeps_woken (s : St) (hd : s.dDropped = false) (hp : s.poisoned = false)
    (cid : Nat) (c : Call) (hg : getCall s cid = some c) (hl : callLive c = true) (hw : c.woken = true)
    (hm : (∃ r ∈ s.pq, r.cid = cid) ∨ (∃ e ∈ s.inflight, e.cid = cid)) :
    (getCall (dropDispatch s) cid).map (·.woken) = some true := by
  apply dropDispatch_wakes_parked s hd hp cid c hg ⟨hl, Or.inl hw⟩
  rcases hm with ⟨r, hr, rfl⟩ | ⟨e, he, rfl⟩
  · exact Or.inl (List.mem_map_of_mem hr)
  · exact Or.inr (List.mem_map_of_mem he)

/-- **`settle` stops only when nothing is woken**: unless its fuel ran out (`settle` runs its loop
with fuel 400, `Client/Settle.lean`; `settleLoopF` reports the fuel left), the state in which `settle` computes the stuck calls has no
runnable dispatch and no woken live call, and the verdict is exactly `stuckCalls` of that state.
So a `[]` verdict with fuel left really means "quiescent and nobody stuck", not "still busy". -/
theorem C02_settle_quiescent_partial (c : Sys) (hfuel : 0 < (settleLoopF 400 c).2) :
    dispatchRunnable (settle c).1.s = false ∧
    (∀ call ∈ (settle c).1.s.calls, callLive call = true → call.woken = false) ∧
    (settle c).2 = stuckCalls (settle c).1.s := by
  have hq := settleLoopF_quiescent 400 c hfuel
  refine ⟨hq.1, firstWokenCall_none _ hq.2, ?_⟩
  show (if dispatchRunnable (settleLoop 400 c).s || (firstWokenCall (settleLoop 400 c).s).isSome then []
        else stuckCalls (settleLoop 400 c).s) = _
  rw [hq.1, hq.2]
  rfl

/-! ## Non-vacuity -/

/-- A blocked caller (queue of capacity 1 full), the dispatch dequeues, the permit wakes the
waiter, both calls end up transmitted; nothing is stuck — and the settle loop had fuel left. -/
example :
    (settle ([COp.call 0 1000000000 ⟨1, .given 1, false⟩ 7, .call 0 1000000000 ⟨2, .given 2, false⟩ 8,
              .pollCall 0, .pollCall 1].foldl applyOp (initSys 2 1 2 true))).2 = [] := by
  decide +kernel

/-- In that script the second caller really is blocked (queued as a waiter, not woken) before the
dispatch runs, and really is handed the permit and woken by the dispatch's dequeue. -/
example :
    let c0 := [COp.call 0 1000000000 ⟨1, .given 1, false⟩ 7, .call 0 1000000000 ⟨2, .given 2, false⟩ 8,
               .pollCall 0, .pollCall 1].foldl applyOp (initSys 2 1 2 true)
    c0.s.pqWaiters = [1] ∧ (getCall c0.s 1).map (·.woken) = some false ∧
    (applyOp c0 .pollDispatch).s.pqAssigned = [1] ∧
    (getCall (applyOp c0 .pollDispatch).s 1).map (·.woken) = some true := by
  decide +kernel

/-- The hypotheses of the terminal fan-out theorem are satisfiable: a call awaiting its response, parked
on its oneshot, request in flight, is woken when the dispatch is dropped. -/
example :
    let c0 := [COp.call 0 1000000000 ⟨1, .given 1, false⟩ 7, .pollCall 0, .pollDispatch].foldl applyOp
               (initSys 2 1 2 true)
    (getCall c0.s 0).map (fun c => (callLive c, c.os.rxWaker, c.woken)) = some (true, true, false) ∧
    c0.s.inflight.map (·.cid) = [0] ∧
    (getCall (dropDispatch c0.s) 0).map (·.woken) = some true := by
  decide +kernel

/-- a staging sink (no self-wake) with room for one message; two calls; one poll of the dispatch -/
def c02StagingOps : List COp :=
  [.selfWake false, .call 0 1000000000 ⟨1, .given 1, true⟩ 1, .call 0 1000000000 ⟨2, .given 2, true⟩ 2,
   .pollCall 0, .pollCall 1, .pollDispatch]

/-- **Witness for `C02_ensureWriteable_repolls`.**  On a coupled transport of capacity 1 that does not wake its
owner on the owner's own flush, a single dispatch poll writes *both* requests: after the first write the sink is
full, `poll_ready` is `Pending`, the flush makes room, and the second `poll_ready` in the same poll sees it.  (A
dispatch that returned `Pending` right after the flush would leave the second request queued with nobody to wake
it.)  `settle` then finds no stuck call. -/
theorem C02_staging_sink_witness :
    (c02StagingOps.foldl applyOp (initSys 2 2 1 true)).s.t.selfWake = false ∧
    (c02StagingOps.foldl applyOp (initSys 2 2 1 true)).s.t.sentLog.length = 2 ∧
    (c02StagingOps.foldl applyOp (initSys 2 2 1 true)).s.pq = [] ∧
    (settle (c02StagingOps.foldl applyOp (initSys 2 2 1 true))).2 = [] := by decide +kernel

end TarpcModel.Client
