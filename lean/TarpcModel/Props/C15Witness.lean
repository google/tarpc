import TarpcModel.Props.C15Codec
/-!
# C15 — witness: error kinds written as an untyped (`i32`) literal do not round-trip under bincode

A `serialize_io_error_kind_as_u32` that hands serde an integer literal without a type annotation writes an
`i32`; bincode's `VarintEncoding` zigzag-encodes signed integers (`k ↦ 2k` for `k ≥ 0`), while
`deserialize_io_error_kind_from_u32` reads a plain `u32`.  Kind number `k` therefore arrives as number
`2k`.  These theorems are about the explicit `"i32"` variant of the writer (`encodeKindWith "i32"`); the source
writes a `u32` (`Props/C15ErrorKinds.lean`).
-/
namespace TarpcModel.Bincode
open TarpcModel.Gen

/-- The defect: `PermissionDenied` (1) is written as zigzag `2` and read as `ConnectionRefused`. -/
theorem C15_errorkind_witness :
    decodeKind (encodeKindWith "i32" "PermissionDenied") = some "ConnectionRefused" := by
  decide +kernel

/-- Extent of the defect: among the portable kinds only `NotFound` (0) and `Other` (16 ↦ 32 ↦ default)
survive; every kind numbered 8 or more arrives as `Other`. -/
theorem C15_errorkind_witness_extent :
    (portableKinds.filter fun k => decodeKind (encodeKindWith "i32" k) == some k) = ["NotFound", "Other"] ∧
    decodeKind (encodeKindWith "i32" "TimedOut") = some "Other" ∧
    decodeKind (encodeKindWith "i32" "UnexpectedEof") = some "Other" := by
  decide +kernel

/-- The bytes: `1` as an `i32` is the single byte `02`; as a `u32` it would be `01`. -/
example : encodeKindWith "i32" "PermissionDenied" = [2] ∧ encodeKindWith "u32" "PermissionDenied" = [1] := by
  decide

/-- Writing a `u32` is a sufficient repair: all portable kinds then round-trip. -/
example : ∀ k ∈ portableKinds, decodeKind (encodeKindWith "u32" k) = some k := by decide +kernel

end TarpcModel.Bincode
