import TarpcModel.Lemmas.ServerTable
/-!
# C06 (server side) — request deadlines are enforced, never early

Property theorems only.  Model: `TarpcModel.Server` (`Server/Model.lean`), timers: the
`tokio_util::time::DelayQueue` emulation `Prim/DelayQ.lean`.  Lemmas: `Lemmas/DelayQFacts.lean`
(never-early for the hashed timer wheel), `Lemmas/ServerTable.lean` (table / timer / execution
invariant `SInv`), `Lemmas/ServerFlow.lean`.
-/
namespace TarpcModel.Server
open TarpcModel TarpcModel.Server.Flow

/-- **C06 (a): never early.**  In every reachable state of every configuration, an execution whose
abort flag is set has a reason: a `Cancel` for its request id was read from the transport
(`cancelSeen`: an `Obs.tNext _ (.item (.cancel id _))` was observed), the request stream was dropped,
or the clock has reached the request's deadline — whatever the deadline, however far away.
The expiry path (`InFlightRequests::poll_expired`) never aborts a handler before its deadline: the timer
is armed for `max (ceil_ms (now + clampTimeout (deadline - now))) wheel.elapsed`, the part of the time
until the deadline that the clamp (`MAX_DEADLINE_TIMEOUT`) cut off is kept in the entry
(`deadline_remainder`), so that `tick + remainder ≥ deadline` throughout (`TInv.dl`); a timer that fires
while some of the remainder is still left after taking off how late the poll is (`late = now − dueAt`,
measured from the exact due time the entry records, `rest = remainder − late`) is re-armed with (the next clamped part of) the rest (`TInv.rearm`); only a timer
that fires with nothing left (`rest = 0`, hence `deadline ≤ tick + remainder ≤ now`) expires the request,
and the timer wheel never yields an entry before its tick (`DelayQ.pollExpired_not_early`). -/
theorem C06_never_early (limit : Option Nat) (respCap tcap : Nat) (coupled : Bool) (ops : List SOp)
    (c : Sys) (hc : c = ops.foldl applyOp (initSys limit respCap tcap coupled)) :
    ∀ e ∈ c.s.execs, e.aborted = true → cancelSeen e.id c.s.obs ∨ c.s.dropped = true ∨ e.deadline ≤ c.now := by
  subst hc
  intro e he ha
  have hinv := sinv_reach true limit respCap tcap coupled ops
  have hns := ns_reach limit respCap tcap coupled ops
  rcases hinv.why rfl e he ha with h | h
  · rw [hns] at h; cases h
  · exact h

/-- **C06 (a), observation form.**  From any reachable state, if polling execution `vid` at the current
clock reports `handler vid dropped t` (the `Abortable` wrapper found the abort flag set and dropped
the handler), then `t` is the current clock and the abort has a reason: a `Cancel` for the request's id
was read, the request stream was dropped, or `t ≥ deadline`. -/
theorem C06_never_early_obs (limit : Option Nat) (respCap tcap : Nat) (coupled : Bool) (ops : List SOp)
    (c : Sys) (hc : c = ops.foldl applyOp (initSys limit respCap tcap coupled)) (vid v t : Nat)
    (h : Obs.handler v .dropped t ∈ (pollExec c.s vid c.now).obs) (hnew : Obs.handler v .dropped t ∉ c.s.obs) :
    v = vid ∧ t = c.now ∧ ∃ e, getExecVis c.s vid = some e ∧
      (cancelSeen e.id c.s.obs ∨ c.s.dropped = true ∨ e.deadline ≤ t) := by
  rcases pollExec_dropped_obs c.s vid c.now v t h with h' | ⟨hv, ht, e, hg, hab, hmem⟩
  · exact absurd h' hnew
  · exact ⟨hv, ht, e, hg, ht ▸ C06_never_early limit respCap tcap coupled ops c hc e hmem hab⟩

/-- The one-step form for the expiry path alone: from a reachable state, every execution that
`poll_expired` at the current clock newly aborts has `deadline ≤ now`. -/
theorem C06_expiry_never_early (limit : Option Nat) (respCap tcap : Nat) (coupled : Bool) (ops : List SOp)
    (c : Sys) (hc : c = ops.foldl applyOp (initSys limit respCap tcap coupled)) :
    ExecsAb none c.s.execs (pollExpired c.s c.now).1.execs ∨
    ∃ r, ExecsAb (some r) c.s.execs (pollExpired c.s c.now).1.execs ∧
      ∀ ex ∈ c.s.execs, ex.rid = r → ex.deadline ≤ c.now := by
  subst hc
  exact (sinv_reach true limit respCap tcap coupled ops).t.expire_ab

/-- **The deadline invariant behind (a).**  In every reachable state, for every tracked request: the tick
(ms) of its armed timer together with the part of the time until the deadline that has not been armed yet
(`remainder`, ns; nonzero only for deadlines further away than the clamp) reaches the deadline of the
execution it guards. -/
theorem C06_timer_reaches_deadline (limit : Option Nat) (respCap tcap : Nat) (coupled : Bool) (ops : List SOp)
    (c : Sys) (hc : c = ops.foldl applyOp (initSys limit respCap tcap coupled)) :
    ∀ en ∈ c.s.inflight, ∀ k ∈ c.s.timers.cores, k.1 = en.timerKey → ∀ ex ∈ c.s.execs, ex.rid = en.rid →
      ex.deadline ≤ k.2.2 * nsPerMs + en.remainder := by
  subst hc
  intro en hen k hk hkey ex hex hr
  exact ((sinv_reach true limit respCap tcap coupled ops).t.dl en hen k hk hkey ex hex hr).reach

/-- **The deadline invariant, exact form.**  In every reachable state, for every tracked request `en`, its
armed timer (tick `k.2.2`, ms) and the execution `ex` it guards:
* the timer is due at exactly `en.dueAt` (`timer_due`), which the queue rounds up to the millisecond:
  `en.dueAt ≤ tick < en.dueAt + 1 ms`;
* `deadline ≤ en.dueAt + en.remainder` — never early;
* `en.dueAt + en.remainder ≤ max deadline now` — not late: while the deadline lies ahead,
  `dueAt + remainder = deadline` exactly (re-arming does not drift: the lateness of a poll is measured from
  `dueAt`, not from the rounded tick); for a request read after its deadline the timer is due at once.
Hence the request expires at the first poll of the channel (not stalled by the limiter) at or after
`ceilMs deadline`, whatever its deadline and however many times its timer was re-armed. -/
theorem C06_timer_exact (limit : Option Nat) (respCap tcap : Nat) (coupled : Bool) (ops : List SOp)
    (c : Sys) (hc : c = ops.foldl applyOp (initSys limit respCap tcap coupled)) :
    ∀ en ∈ c.s.inflight, ∀ k ∈ c.s.timers.cores, k.1 = en.timerKey → ∀ ex ∈ c.s.execs, ex.rid = en.rid →
      k.2.2 = ceilMs en.dueAt ∧ (en.dueAt ≤ k.2.2 * nsPerMs ∧ k.2.2 * nsPerMs < en.dueAt + nsPerMs) ∧
      ex.deadline ≤ en.dueAt + en.remainder ∧ en.dueAt + en.remainder ≤ max ex.deadline c.now := by
  subst hc
  intro en hen k hk hkey ex hex hr
  have h := (sinv_reach true limit respCap tcap coupled ops).t.dl en hen k hk hkey ex hex hr
  exact ⟨h.tick, h.tick_lt, h.lo, h.hi⟩

/-- **C06 (b): an expiry touches nothing else.**  In any state, `poll_expired` either leaves the tracked
requests (the `(id, rid)` pairs of the in-flight table, in order — a re-arm changes an entry's timer key and
remainder only) and all executions alone and reports no expiration for a tracked id, or it reports an
expiration, removes exactly the table entries with the expired id and changes only executions with the rid
of the entry it found (whose `rid` it keeps and whose `aborted` flag it never clears). -/
theorem C06_others_unaffected (s : St) (now : Nat) :
    ((pollExpired s now).1.inflight.map SEntry.ir = s.inflight.map SEntry.ir ∧ (pollExpired s now).1.execs = s.execs) ∨
    ∃ (id : Nat) (en : SEntry), findEntry s id = some en ∧ (pollExpired s now).2 = .ready ∧
      (pollExpired s now).1.inflight.map SEntry.ir = (s.inflight.filter (·.id != id)).map SEntry.ir ∧
      (∀ en' ∈ s.inflight, en'.id ≠ en.id → en'.ir ∈ (pollExpired s now).1.inflight.map SEntry.ir) ∧
      ∃ g, (pollExpired s now).1.execs = s.execs.map g ∧ (∀ x, x.rid ≠ en.rid → g x = x) ∧
        (∀ x, (g x).rid = x.rid) ∧ (∀ x, x.aborted = true → (g x).aborted = true) := by
  have h := pollExpired_touches s now
  revert h; generalize pollExpired s now = p; intro h
  obtain ⟨s', r⟩ := p
  dsimp only at h ⊢
  cases h with
  | same _ hi he hr => exact Or.inl ⟨hi, he⟩
  | orphan id hi he hf => exact Or.inl ⟨hi, he⟩
  | expired id en hf hi b he =>
    refine Or.inr ⟨id, en, hf, rfl, hi, ?_, _, he, fun _ hx => abortOne_of_ne hx, abortOne_rid _ _, fun _ => abortOne_keeps⟩
    intro en' hen' hne
    rw [hi]
    have := (findEntry_some hf).2
    refine List.mem_map.mpr ⟨en', ?_, rfl⟩
    simp only [List.mem_filter, bne_iff_ne, ne_eq]
    exact ⟨hen', fun h => hne (h.trans this.symm)⟩

/-- "Aborts at the deadline" as first written down: a channel poll that goes idle (`Pending` / end of
stream) at clock `now` has removed every tracked entry whose timer tick has passed with nothing left to
arm (`remainder = 0`) and aborted its execution.  **False as written** (`C06_statement_as_written_false`,
`Props/C06NotLate.lean`: an entry removed by a queued guard cancellation is gone but its execution need not be
aborted); `C06_aborts_at_deadline_pre_post` there is the statement that holds. -/
def C06AbortsAtDeadlineStatement : Prop :=
  ∀ (limit : Option Nat) (respCap tcap : Nat) (coupled : Bool) (ops : List SOp) (fuel : Nat),
    let c := ops.foldl applyOp (initSys limit respCap tcap coupled)
    let p := basePollNext fuel c.s c.now
    (p.2 = .pending ∨ p.2 = .none) →
    ∀ en ∈ c.s.inflight, ∀ k ∈ c.s.timers.cores, k.1 = en.timerKey → k.2.2 * nsPerMs ≤ c.now →
      en.remainder = 0 →
      (∀ en' ∈ p.1.inflight, en'.id ≠ en.id) ∧ ∀ ex ∈ p.1.execs, ex.rid = en.rid → ex.aborted = true

/-- **C06 (c), partial.**  What is proved: when the channel's `poll_next` (from any state) goes idle at
clock `now`, the `poll_expired` call of its last iteration did *not* report an expiration — the timer
queue was empty, or the last iteration of `poll_expired`'s own loop, from a state `s2` reached by re-arming
timers only, got `Pending`/`None` from `DelayQueue::poll_expired(now)` (or its `insert` panicked) — and
nothing touched the table, the timers or the executions afterwards: all expirations the queue is willing to
yield at `now` are drained before the channel goes idle.
This needs no invariant of the timer wheel.  That the queue yields every due entry (*completeness* of the wheel: the
two-sided invariants of `Lemmas/DelayQComplete.lean`) is what `Props/C06NotLate.lean` adds to reach
`C06_aborts_at_deadline`. -/
theorem C06_aborts_at_deadline_partial (s : St) (now fuel : Nat)
    (h : (basePollNext fuel s now).2 = .pending ∨ (basePollNext fuel s now).2 = .none) :
    ∃ s1, (s1.timers.isEmpty = true ∨ ∃ s2, (pollExpired s1 now).1 = (expireStep s2 now).1 ∧
        ((∀ e, (s2.timers.pollExpired now).2 ≠ .expired e) ∨ (expireStep s2 now).1.poisoned = true)) ∧
      (basePollNext fuel s now).1.timers = (pollExpired s1 now).1.timers ∧
      (basePollNext fuel s now).1.inflight = (pollExpired s1 now).1.inflight ∧
      (basePollNext fuel s now).1.execs = (pollExpired s1 now).1.execs := by
  obtain ⟨s1, h1, h2, h3, h4⟩ := basePollNext_idle now fuel s h
  exact ⟨s1, pollExpired_not_ready h1, h2, h3, h4⟩

/-- **The loop of `poll_expired` never runs out of fuel** (from any state): every `continue` re-arms a
timer, which uses up one of the finitely many re-arms the entry's remainder allows (`rearmSteps`); the call
ends in an iteration that returns, and no `spin` is recorded. -/
theorem C06_poll_expired_terminates (s : St) (now : Nat) (hne : s.timers.isEmpty = false) :
    (∃ s2 r, (expireStep s2 now).2 = some r ∧ pollExpired s now = ((expireStep s2 now).1, r)) ∧
    (hasSpin s.obs = false → hasSpin (pollExpired s now).1.obs = false) :=
  ⟨pollExpired_last s now hne, fun h => NS_pollExpired now h⟩

/-- **C06 (d): the limiter stall (known finding).**  With `MaxRequests` at its limit (`limit = some 1`)
on a transport whose readiness is independent of flushing and currently closed, a poll of the request
stream at 5 ms — 4 ms past the 1 ms deadline of the one tracked request — returns `Pending` *without*
aborting the handler and without removing the entry: `MaxRequests::poll_next` returns on
`poll_ready → Pending` before polling the inner channel, so expirations (and cancellations) are not
processed until the sink becomes ready. -/
theorem C06_limiter_stall_witness :
    let c := [SOp.injectReq 1 1000000 ⟨0, .given 0, false⟩ 0, .pollServer, .pollExec 0, .setReady false,
      .advance 5000000, .pollServer].foldl applyOp (initSys (some 1) 1 1 false)
    c.now = 5000000 ∧ c.s.execs.map (fun e => (e.deadline, e.aborted)) = [(1000000, false)] ∧
    c.s.inflight = [{ id := 1, timerKey := 0, rid := 0, dueAt := 1000000 }] ∧ c.s.done = none ∧ c.s.poisoned = false := by
  decide

/-- The stall in general form: whenever the limiter is at its limit and the sink answers
`poll_ready → Pending`, `MaxRequests::poll_next` returns `Pending` having done nothing but that
`poll_ready` — the inner channel (cancellations, expirations, reads) is not polled. -/
theorem C06_limiter_stall_general (s : St) (l fuel now : Nat) (hl : l ≤ s.inflight.length)
    (hr : (tReady s).2 = .pending) :
    limitedPollNextLegacy l (fuel + 1) s now = ((tReady s).1, .pending) ∧
    (tReady s).1.inflight = s.inflight ∧ (tReady s).1.timers = s.timers ∧ (tReady s).1.execs = s.execs ∧
    (tReady s).1.cancelQ = s.cancelQ := by
  refine ⟨?_, by simp, by simp, by simp, by simp⟩
  unfold limitedPollNextLegacy
  rw [if_pos hl]
  rcases htr : tReady s with ⟨s1, r⟩
  rw [htr] at hr
  simp only at hr
  subst hr
  rfl

/-- The same script without the limiter: the poll at 5 ms aborts the handler and forgets the request
(no `Cancel` was ever read, the stream is not dropped: the abort is the deadline's). -/
example :
    let c := [SOp.injectReq 1 1000000 ⟨0, .given 0, false⟩ 0, .pollServer, .pollExec 0, .setReady false,
      .advance 5000000, .pollServer].foldl applyOp (initSys none 1 1 false)
    c.s.execs.map (fun e => (e.deadline, e.aborted)) = [(1000000, true)] ∧ c.s.inflight = [] ∧
    c.s.obs.all (fun o => match o with | .tNext _ (.item (.cancel _ _)) => false | _ => true) = true ∧
    c.s.dropped = false := by
  decide

/-- **Far deadlines are enforced at the deadline (model-level witness).**  A request read at clock 0 with a
deadline twice the clamp away: its timer is armed with the clamp (one year) and re-armed when that fires.
One clamp later — and again one nanosecond before the deadline — the handler is still running and the
request still tracked (`remainder` paid down to 0 by the re-arm); at the deadline a poll of the request
stream aborts the handler and forgets the request.  (`tarpc/src/server/in_flight_requests.rs`:
`start_request` arms `deadline.time_until().min(MAX_DEADLINE_TIMEOUT)` and keeps the rest in
`deadline_remainder`; `poll_expired` re-arms while the remainder is nonzero.  The same script replays on the
real code with the same outcome.) -/
theorem C06_far_deadline_witness :
    let D := 2 * Gen.serverTimerClampSecs * 1000000000
    let ops1 := [SOp.injectReq 1 D ⟨0, .given 0, false⟩ 0, .pollServer, .pollExec 0,
      .advance (Gen.serverTimerClampSecs * 1000000000), .pollServer, .pollExec 0]
    let c1 := ops1.foldl applyOp (initSys none 1 1 true)
    let c2 := [SOp.advance (Gen.serverTimerClampSecs * 1000000000 - 1), .pollServer, .pollExec 0].foldl applyOp c1
    let c3 := [SOp.advance 1, .pollServer, .pollExec 0].foldl applyOp c2
    (c1.s.execs.map (fun e => (e.deadline, e.aborted, e.phase)) = [(D, false, .running)] ∧
      c1.s.inflight = [{ id := 1, timerKey := 1, rid := 0, remainder := 0, dueAt := D }]) ∧
    (c2.now = D - 1 ∧ c2.s.execs.map (fun e => (e.deadline, e.aborted, e.phase)) = [(D, false, .running)] ∧
      c2.s.inflight.length = 1) ∧
    (c3.now = D ∧ c3.s.execs.map (fun e => (e.deadline, e.aborted, e.phase)) = [(D, true, .done)] ∧
      c3.s.inflight = [] ∧ c3.s.timers.len = 0 ∧
      c3.s.obs.all (fun o => match o with | .tNext _ (.item (.cancel _ _)) => false | _ => true) = true ∧
      c3.s.dropped = false ∧ c3.s.poisoned = false) := by
  decide

/-- **A late poll does not push the deadline out (model-level witness).**  A request with a deadline three
clamps away is read at clock 0 (its timer is armed with one clamp, two clamps are kept as `remainder`); the
channel is then not polled until the deadline.  The poll at `3 · clamp` finds the timer two clamps late:
`rest = remainder − late = 0`, so the request expires at that poll — handler aborted, table and timer queue
empty — instead of being re-armed for another full clamp (as a `poll_expired` that ignored the lateness
would do).  (`tarpc/src/server/in_flight_requests.rs`, `poll_expired`:
`late = now.saturating_duration_since(expired.deadline())`, `rest = deadline_remainder.saturating_sub(late)`.) -/
theorem C06_late_poll_witness :
    let C := Gen.serverTimerClampSecs * 1000000000
    let c1 := [SOp.injectReq 1 (3 * C) ⟨0, .given 0, false⟩ 0, .pollServer, .pollExec 0].foldl applyOp
      (initSys none 1 1 true)
    let c2 := [SOp.advance (3 * C), .pollServer, .pollExec 0].foldl applyOp c1
    c1.s.inflight = [{ id := 1, timerKey := 0, rid := 0, remainder := 2 * C, dueAt := C }] ∧
    c2.now = 3 * C ∧ c2.s.execs.map (fun e => (e.deadline, e.aborted, e.phase)) = [(3 * C, true, .done)] ∧
    c2.s.inflight = [] ∧ c2.s.timers.len = 0 ∧ c2.s.dropped = false ∧ c2.s.poisoned = false := by
  decide

/-- **Re-arming does not drift (model-level witness).**  A request read at clock 1 ns with a deadline of
one clamp + 10 ms: its timer is due at `1 ns + clamp` (tick: 1 ms later, rounded up), `remainder` is
10 ms − 1 ns.  The poll 1 ns before the deadline finds the first timer fired and re-arms it with the 1 ns that
is left (lateness measured from `dueAt`, not from the rounded tick), due exactly at the deadline; the poll at
the deadline, `clamp + 10 ms`, aborts the handler.  Measuring from the tick instead would leave
1 ms − 1 ns unaccounted for and expire the request 1 ms late.  The same script replays on the real code with
the same outcome. -/
theorem C06_no_drift_witness :
    let C := Gen.serverTimerClampSecs * 1000000000
    let D := C + 10000000
    let c1 := [SOp.advance 1, .injectReq 1 D ⟨0, .given 0, false⟩ 0, .pollServer, .pollExec 0].foldl applyOp
      (initSys none 1 1 true)
    let c2 := [SOp.advance (D - 2), .pollServer, .pollExec 0].foldl applyOp c1
    let c3 := [SOp.advance 1, .pollServer, .pollExec 0].foldl applyOp c2
    c1.s.inflight = [{ id := 1, timerKey := 0, rid := 0, remainder := 9999999, dueAt := C + 1 }] ∧
    (c2.now = D - 1 ∧ c2.s.execs.map (fun e => (e.deadline, e.aborted, e.phase)) = [(D, false, .running)] ∧
      c2.s.inflight = [{ id := 1, timerKey := 1, rid := 0, remainder := 0, dueAt := D }]) ∧
    (c3.now = D ∧ c3.s.execs.map (fun e => (e.deadline, e.aborted, e.phase)) = [(D, true, .done)] ∧
      c3.s.inflight = [] ∧ c3.s.timers.len = 0 ∧ c3.s.dropped = false ∧ c3.s.poisoned = false) := by
  decide

end TarpcModel.Server
