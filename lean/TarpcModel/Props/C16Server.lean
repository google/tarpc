import TarpcModel.Lemmas.ServerPanic
/-!
# C16 (server) — the server channel never panics

Property theorems only.  The server model has three panicking sites (`Server/Model.lean`):
`DelayQueue::remove` with an unknown key (`removeTimer`) and the range check of `DelayQueue::insert` (a
timer more than `2^36 - 1` ms ahead of the wheel) in `start_request` and in the re-arm of `poll_expired`
(`rearm`).  The first is unreachable outright (the table / timer bijection of `Lemmas/ServerTable.lean`;
`C09_server_no_other_panic`).  The other two are unreachable because both arm a clamped timeout
(`clampTimeout`, `Gen.serverTimerClampSecs` seconds) at the current clock: for a clock below `2^35` ms
`when - wheelElapsed ≤ ceilMs (now + clamp) ≤ now_ms + clamp_ms + 1 ≤ 2^36 - 1` whatever deadline the peer
sends (`insert_panic_late`; the argument does not need the wheel's `elapsed` to have advanced).

The scripts quantified over are all op lists whose total advanced virtual time `advSum ops` (the sum of
their `advance` amounts — the clock starts at 0 and only `advance` moves it) is below `2^35` ms ≈ 397
days.  The bound cannot be dropped: the `DelayQueue` range is relative to the wheel's `elapsed`, which
only an expiring timer moves (`C16_server_late_panic_witness`, finding F9).
-/
namespace TarpcModel.Server
open TarpcModel TarpcModel.Server.Flow

/-- The one fact about the generated constants the theorems below rest on (re-checked by `decide`
whenever `Gen/Flags.lean` is regenerated): the server clamps its deadline timers and the clamp fits the
`DelayQueue` range with `2^35` ms to spare (`clamp_ms + 2^35 + 1 ≤ 2^36 - 1`). -/
theorem C16_server_flags :
    Gen.serverTimerClampSecs ≠ 0 ∧ Gen.serverTimerClampSecs * 1000 + 2 ^ 35 + 1 ≤ delayQMaxMs := by decide

/-- **C16 (server), no panic.**  For every configuration and every script whose total advanced time is
below `2^35` ms, whatever deadlines the requests carry: no `Obs.panic` occurs in the event trace, and none
is on record in the state the script ends in.  (Strengthens `C09_server_no_other_panic`.) -/
theorem C16_server_no_panic (limit : Option Nat) (respCap tcap : Nat) (coupled : Bool) (ops : List SOp)
    (hT : advSum ops < 2 ^ 35 * nsPerMs) :
    (∀ t site, SEv.obs (.panic t site) ∉ trace (initSys limit respCap tcap coupled) ops) ∧
    (∀ t site, Obs.panic t site ∉ (ops.foldl applyOp (initSys limit respCap tcap coupled)).s.obs) := by
  refine ⟨fun t site => trace_no_panic C16_server_flags limit respCap tcap coupled ops hT t site, ?_⟩
  intro t site hm
  have := (reach_panic_ok limit respCap tcap coupled ops t site hm).2 C16_server_flags
  exact absurd hT (Nat.not_lt.mpr this)

/-- **C16 (server), monitor form.**  The C16 monitor of the `srv` family (`Monitors/NoPanic.lean`:
`firstPanic`, the first `Obs.panic` among the observations) finds nothing in the model's trace, for
every configuration and every script whose total advanced time is below `2^35` ms; likewise the `c16`
field of the driver's `SrvMon` (`Driver/Srv.lean`), which is `c16Step` folded over the trace, stays
`none`. -/
theorem C16_server_monitor_accepts (limit : Option Nat) (respCap tcap : Nat) (coupled : Bool) (ops : List SOp)
    (hT : advSum ops < 2 ^ 35 * nsPerMs) :
    firstPanic (obsOf (trace (initSys limit respCap tcap coupled) ops)) = none ∧
    (trace (initSys limit respCap tcap coupled) ops).foldl c16Step none = none :=
  ⟨firstPanic_none_of (C16_server_no_panic limit respCap tcap coupled ops hT).1,
   c16Step_foldl_none_of (C16_server_no_panic limit respCap tcap coupled ops hT).1⟩

/-- … and in every state the script passes through (every prefix of the script). -/
theorem C16_server_never_panicked (limit : Option Nat) (respCap tcap : Nat) (coupled : Bool) (ops : List SOp)
    (hT : advSum ops < 2 ^ 35 * nsPerMs) (pre : List SOp) (hpre : pre <+: ops) :
    ∀ t site, Obs.panic t site ∉ (pre.foldl applyOp (initSys limit respCap tcap coupled)).s.obs :=
  (C16_server_no_panic limit respCap tcap coupled pre (Nat.lt_of_le_of_lt (advSum_prefix_le hpre) hT)).2

/-- The same with the fact about the generated constants as a hypothesis (so that the statement survives
a regenerated `Gen/Flags.lean` even if `C16_server_flags` then fails). -/
theorem C16_server_no_panic_of (hclamp : ClampFits)
    (limit : Option Nat) (respCap tcap : Nat) (coupled : Bool) (ops : List SOp) (hT : advSum ops < 2 ^ 35 * nsPerMs) :
    ∀ t site, SEv.obs (.panic t site) ∉ trace (initSys limit respCap tcap coupled) ops :=
  fun t site => trace_no_panic hclamp limit respCap tcap coupled ops hT t site

/-- At any time: a panic observation — in the trace or on record in the state — can only be the
`DelayQueue::insert` range check, and only at or after `2^35` ms. -/
theorem C16_server_panic_only_late (limit : Option Nat) (respCap tcap : Nat) (coupled : Bool) (ops : List SOp)
    (t : TaskId) (site : String)
    (h : SEv.obs (.panic t site) ∈ trace (initSys limit respCap tcap coupled) ops ∨
      Obs.panic t site ∈ (ops.foldl applyOp (initSys limit respCap tcap coupled)).s.obs) :
    site = "DelayQueue::insert: invalid deadline" ∧ 2 ^ 35 * nsPerMs ≤ advSum ops := by
  rcases h with h | h
  · have := trace_panic_ok ops (initSys limit respCap tcap coupled) false
      (sinv_init false limit respCap tcap coupled) t site h
    have h0 : (initSys limit respCap tcap coupled).now = 0 := rfl
    rw [h0, Nat.zero_add] at this
    exact ⟨this.1, this.2 C16_server_flags⟩
  · have := reach_panic_ok limit respCap tcap coupled ops t site h
    exact ⟨this.1, this.2 C16_server_flags⟩

/-! ### non-vacuity -/

/-- A request with the largest deadline the wire format can carry (`u64::MAX` ns after the epoch), far
beyond the `DelayQueue`'s range (`2^36` ms ≈ 6.9e16 ns), and one `2^36` ms + 1 ns away (where an
unclamped `DelayQueue::insert` panics: `C09_server_range_panic_witness`): both are tracked, their timers are armed
(with the clamped timeout), nothing panics. -/
theorem C16_server_far_deadline_ok :
    let ops := [SOp.injectReq 1 18446744073709551615 ⟨0, .given 0, false⟩ 0, .pollServer,
      .injectReq 2 (2 ^ 36 * 1000000 + 1) ⟨0, .given 0, false⟩ 0, .pollServer, .advance 1000000, .pollServer]
    advSum ops < 2 ^ 35 * nsPerMs ∧
    (ops.foldl applyOp (initSys none 1 1 true)).s.inflight.length = 2 ∧
    (ops.foldl applyOp (initSys none 1 1 true)).s.timers.len = 2 ∧
    (ops.foldl applyOp (initSys none 1 1 true)).s.poisoned = false ∧
    (ops.foldl applyOp (initSys none 1 1 true)).s.obs.all (fun o => match o with | .panic _ _ => false | _ => true) = true := by
  decide

/-- the clock jumps by `2^36` ms before the first request is read (`corpus/C16/idle-wheel-lag-server.txt`) -/
def c16LateOps : List SOp :=
  [.advance (2 ^ 36 * nsPerMs), .injectReq 1 (2 ^ 36 * nsPerMs + 10000000) ⟨0, .given 0, false⟩ 0, .pollServer]

set_option maxRecDepth 100000 in
/-- **The bound on the clock cannot simply be dropped (model-level witness; finding F9).**  The
`DelayQueue` range check is relative to the wheel's `elapsed`, which only an expiring timer advances.
If `2^36` ms pass before the channel reads its first request, `start_request` computes
`when = now_ms + timeout_ms > 2^36 - 1` with `elapsed = 0` and hits `DelayQueue::insert: invalid
deadline` although the request's deadline is only 10 ms away — clamp or no clamp.  The script replays
on the real code with the same outcome. -/
theorem C16_server_late_panic_witness :
    SEv.obs (.panic (.server 0) "DelayQueue::insert: invalid deadline") ∈ trace (initSys none 1 2 true) c16LateOps ∧
    ¬ advSum c16LateOps < 2 ^ 35 * nsPerMs := by decide

end TarpcModel.Server
