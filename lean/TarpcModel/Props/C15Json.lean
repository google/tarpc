import TarpcModel.Lemmas.C15Json
import TarpcModel.Lemmas.C15JsonOptional
import TarpcModel.Lemmas.C15Bincode
/-!
# C15 (value level, JSON) — shipped transports deliver messages intact

Property theorems only.  Model: `Wire/Json.lean` — the text layer (`render` = `serde_json`'s compact
writer, `parse` = its reader's grammar) and the schema layer (`toJson` / `fromJson` of tarpc's protocol
types as `serde` derive generates them), composed into the codec of
`tokio_serde::formats::Json`: `encode… = render ∘ toJson`, `decode… = fromJson ∘ parseDoc`.

Nothing here is partial: the text-level round trip is proved for **every** `Json` value (arbitrary
nesting, arbitrary Unicode strings and keys, every natural number), with the weakest side condition
(`numEnd`: a number literal must not be followed by a byte that would continue it).
What is *not* a theorem: that `parse` accepts exactly what `serde_json` accepts on malformed input — that
is the correspondence run of family `c15json`.
-/
namespace TarpcModel.Json
open TarpcModel.Bincode (Bytes strBytes Duration TraceContext Context Request ClientMessage ServerError
  RespBody Response portableKinds kindNum lookupSer_of_not_mem Outcome)
open TarpcModel.Gen

/-! ## Text layer -/

/-- **Text-level round trip, in front of any following bytes.**  For every JSON value `v` — any nesting,
any strings — the parser reads back exactly `v` from `render v ++ rest` and stops exactly at `rest`,
provided that, *if `v` is a number literal*, `rest` does not start with a byte that continues a number
(digit, `.`, `e`, `E`).  (Fuel is the parser's own: `parse` supplies the input length.) -/
theorem C15_json_text_roundtrip (v : Json) (rest : Bytes)
    (h : isNumTok v = true → numEnd rest = true) : parse (render v ++ rest) = some (v, rest) :=
  parseVal_render v rest _ (Nat.lt_succ_self _) h

/-- The side condition is vacuous for everything but bare numbers… -/
theorem C15_json_text_roundtrip_composite (v : Json) (rest : Bytes) (h : isNumTok v = false) :
    parse (render v ++ rest) = some (v, rest) :=
  C15_json_text_roundtrip v rest (by simp [h])

/-- …and for every value at the end of the input, or before a structural byte or whitespace. -/
theorem C15_json_text_roundtrip_end (v : Json) : parse (render v) = some (v, []) := by
  have := C15_json_text_roundtrip v [] (fun _ => rfl)
  simpa using this

/-- As a whole document (`from_reader` + `end()`). -/
theorem C15_json_text_roundtrip_doc (v : Json) : parseDoc (render v) = some v := parseDoc_render v

/-- Insignificant whitespace (space, `\n`, `\t`, `\r`) before and after a document is ignored. -/
theorem C15_json_text_whitespace (v : Json) (ws₁ ws₂ : Bytes) (h₁ : allWs ws₁) (h₂ : allWs ws₂) :
    parseDoc (ws₁ ++ render v ++ ws₂) = some v := parseDoc_ws v ws₁ ws₂ h₁ h₂

/-- The side condition cannot be dropped: `1` followed by `2` reads as `12`. -/
example : parse (render (.num 1) ++ [0x32]) = some (.num 12, []) := by rfl

/-- Corollary: the writer is injective — distinct values have distinct texts. -/
theorem C15_json_render_injective (v w : Json) (h : render v = render w) : v = w := by
  have hv := parseDoc_render v
  rw [h, parseDoc_render w] at hv
  exact (Option.some.inj hv).symm

/-- Corollary: no text of a non-number value is a proper prefix of another text (self-delimiting). -/
theorem C15_json_prefix_free (v w : Json) (r₁ r₂ : Bytes) (hv : isNumTok v = false)
    (hw : isNumTok w = false) (h : render v ++ r₁ = render w ++ r₂) : v = w ∧ r₁ = r₂ := by
  have e₁ := C15_json_text_roundtrip_composite v r₁ hv
  have e₂ := C15_json_text_roundtrip_composite w r₂ hw
  rw [h, e₂] at e₁
  simp at e₁
  exact ⟨e₁.1.symm, e₁.2.symm⟩

/-! ## Messages -/

section
variable {T : Type} {encT : T → Json} {decT : Json → Option T} {PT : T → Prop}

/-- **C15 (client → server), JSON.**  Every `ClientMessage` — any `u64` request id, any deadline
duration with `nanos < 10^9`, any 128-bit trace id, any span id, either sampling decision, any body
the body codec round-trips — is read back exactly from its encoding. -/
theorem C15_json_roundtrip_client_generic (hT : BodyCodec encT decT PT) (m : ClientMessage T)
    (hm : m.Valid PT) : decodeClientMessage decT (encodeClientMessage encT m) = some m := by
  simp [decodeClientMessage, encodeClientMessage, parseDoc_render, clientMessage_roundtrip hT m hm]

/-- **C15 (server → client), JSON.**  Every `Response` is read back exactly, except that the kind `k` of
an error arrives as whatever `kindBack k` is (`k'`); ids, bodies and details are exact. -/
theorem C15_json_roundtrip_response_generic (hT : BodyCodec encT decT PT) (r : Response T)
    (hr : ValidResponse PT r) (k' : String)
    (hk : ∀ e, r.message = .err e → kindBack e.kind = some k') :
    decodeResponse decT (encodeResponse encT r) = some (r.withKind k') := by
  simp [decodeResponse, encodeResponse, parseDoc_render, response_roundtrip hT r hr k' hk]

/-- …also when the peer's writer surrounds the document with whitespace (e.g. a trailing newline). -/
theorem C15_json_roundtrip_client_whitespace (hT : BodyCodec encT decT PT) (m : ClientMessage T)
    (hm : m.Valid PT) (ws₁ ws₂ : Bytes) (h₁ : allWs ws₁) (h₂ : allWs ws₂) :
    decodeClientMessage decT (ws₁ ++ encodeClientMessage encT m ++ ws₂) = some m := by
  have := parseDoc_ws (clientMessageToJson encT m) ws₁ ws₂ h₁ h₂
  simp only [List.append_assoc] at this
  simp [decodeClientMessage, encodeClientMessage, this, clientMessage_roundtrip hT m hm]

/-- The reader as the harness observes it (value / error / panic) returns the message for every valid
message whose deadline is representable as an `Instant`; cancels always are. -/
theorem C15_json_read_client_message (hT : BodyCodec encT decT PT) (m : ClientMessage T)
    (hm : m.Valid PT) (hd : ∀ r, m = .request r → r.context.deadline.secs < 2 ^ 63) :
    readClientMessage decT (encodeClientMessage encT m) = .value m := by
  have hdec := C15_json_roundtrip_client_generic hT m hm
  cases m with
  | request r =>
    have := hd r rfl
    simp only [readClientMessage, hdec, TarpcModel.Bincode.instantAddPanics]
    simp
    omega
  | cancel t id => simp only [readClientMessage, hdec]

end

/-- `String` bodies: a JSON string; every `String` round-trips (no length limit in this codec). -/
theorem C15_json_body_string : BodyCodec encStrBody decStrBody (fun _ => True) :=
  fun _ _ => rfl

/-- **C15, JSON, `ClientMessage<String>`** (the instance the driver and the harness run). -/
theorem C15_json_roundtrip_client (m : ClientMessage String) (hm : m.Valid (fun _ => True)) :
    decodeJson (encodeJson m) = some m :=
  C15_json_roundtrip_client_generic C15_json_body_string m hm

/-! ## Peers that omit optional members, order members differently, or add whitespace

These are the documents the `dec-must` ops of family `c15json` feed to the real reader (monitor rule
"a well-formed message a peer may send was not understood"). -/

/-- **C15 (optional members): a cancellation without trace context is understood.**  For every request id,
the document `{"Cancel":{"request_id":<id>}}` — alone or surrounded by insignificant whitespace — is read as
the cancellation of `id` with `trace::Context::default()`. -/
theorem C15_json_cancel_without_trace_context (id : Nat) (hid : id < 2 ^ 64) (ws₁ ws₂ : Bytes)
    (h₁ : allWs ws₁) (h₂ : allWs ws₂) :
    decodeJson (ws₁ ++ render (.obj [("Cancel", .obj [("request_id", .num id)])]) ++ ws₂)
      = some (.cancel defaultTrace id) := by
  have hp := parseDoc_ws (.obj [("Cancel", .obj [("request_id", .num id)])]) ws₁ ws₂ h₁ h₂
  simp only [List.append_assoc] at hp
  simp [decodeJson, decodeClientMessage, hp, clientMessageFromJson, cancelFromJson, req, opt, lookupAll,
    mkCancel, uintFromJson, hid]

/-- **C15 (optional members): a request without deadline gets the documented default.**  For every trace
context, id and body, a request whose context has no `deadline` member is read as that request with the
10-second default deadline. -/
theorem C15_json_request_without_deadline (t : TraceContext) (ht : t.Valid) (id : Nat) (hid : id < 2 ^ 64)
    (body : String) (ws₁ ws₂ : Bytes) (h₁ : allWs ws₁) (h₂ : allWs ws₂) :
    decodeJson (ws₁ ++ render (.obj [("Request", .obj [("context", .obj [("trace_context", traceToJson t)]),
        ("id", .num id), ("message", .str body)])]) ++ ws₂)
      = some (.request { context := { deadline := defaultDeadline, trace := t }, id := id, message := body }) := by
  have hp := parseDoc_ws (.obj [("Request", .obj [("context", .obj [("trace_context", traceToJson t)]),
        ("id", .num id), ("message", .str body)])]) ws₁ ws₂ h₁ h₂
  simp only [List.append_assoc] at hp
  simp [decodeJson, decodeClientMessage, hp, clientMessageFromJson, requestFromJson, contextFromJson, req, opt,
    lookupAll, mkRequest, mkContext, uintFromJson, hid, trace_roundtrip t ht, decStrBody, strFromJson]

/-- **C15 (member order).**  A peer may write the members of the message structs in any order: every
permutation of a cancellation's members, and every permutation of a request's members together with every
permutation (and optional omission of `deadline`, covered above) of its context's members, is read as the
same message. -/
theorem C15_json_member_order (m : ClientMessage String) (hm : m.Valid (fun _ => True)) :
    (∀ t id kvs, m = .cancel t id →
      kvs.Perm [("trace_context", traceToJson t), ("request_id", .num id)] →
      decodeJson (render (.obj [("Cancel", .obj kvs)])) = some m) ∧
    (∀ r kvs ckvs, m = .request r →
      ckvs.Perm [("deadline", durationToJson r.context.deadline), ("trace_context", traceToJson r.context.trace)] →
      kvs.Perm [("context", .obj ckvs), ("id", .num r.id), ("message", .str r.message)] →
      decodeJson (render (.obj [("Request", .obj kvs)])) = some m) := by
  constructor
  · rintro t id kvs rfl hk
    simp only [decodeJson, decodeClientMessage, parseDoc_render, Option.bind_some, clientMessageFromJson,
      cancelFromJson]
    rw [opt_perm _ hk, req_perm _ hk]
    simp [req, opt, lookupAll, mkCancel, trace_roundtrip _ hm.1, uintFromJson, hm.2]
  · rintro r kvs ckvs rfl hc hk
    obtain ⟨h1, h2, _⟩ := hm
    simp only [decodeJson, decodeClientMessage, parseDoc_render, Option.bind_some, clientMessageFromJson,
      requestFromJson]
    rw [req_perm _ hk, req_perm _ hk, req_perm _ hk]
    have hctx : contextFromJson (.obj ckvs) = some r.context := by
      simp only [contextFromJson]
      rw [opt_perm _ hc, req_perm _ hc]
      simp [req, opt, lookupAll, mkContext, duration_roundtrip _ h1.1, trace_roundtrip _ h1.2]
    simp [req, lookupAll, mkRequest, hctx, uintFromJson, h2, decStrBody, strFromJson]

/-! ## Error kinds -/

/-- **Every portable kind arrives as itself** (for the generated tables, whatever integer type the
writer uses: JSON writes the same digits for `1u32` and `1i32`). -/
theorem C15_error_kinds_json : ∀ k ∈ portableKinds, kindBack k = some k := by decide +kernel

/-- **Other kinds degrade to the generic kind.** -/
theorem C15_json_other_kinds_degrade (k : String) (hk : k ∉ portableKinds) :
    kindBack k = some "Other" := by
  have h1 : kindNum k = ekSerDefault := lookupSer_of_not_mem k _ _ hk
  simp only [kindBack, kindToJson, h1]
  decide

theorem C15_json_kinds_total (k : String) :
    kindBack k = some (if k ∈ portableKinds then k else "Other") := by
  by_cases h : k ∈ portableKinds
  · simp only [h, ↓reduceIte]; exact C15_error_kinds_json k h
  · simp only [h, ↓reduceIte]; exact C15_json_other_kinds_degrade k h

/-- **C15, JSON, `Response<String>`, unconditional**: id, body and detail exact; the error kind exact if
portable, `Other` if not. -/
theorem C15_json_roundtrip_response (r : Response String) (hr : r.requestId < 2 ^ 64) :
    decodeJsonResponse (encodeJsonResponse r) =
      some (match r.message with
        | .ok _ => r
        | .err e => r.withKind (if e.kind ∈ portableKinds then e.kind else "Other")) := by
  have hv : ValidResponse (fun _ : String => True) r := ⟨hr, fun _ _ => trivial⟩
  cases hm : r.message with
  | ok t =>
    have := C15_json_roundtrip_response_generic C15_json_body_string r hv ""
      (by intro e h; rw [hm] at h; cases h)
    simpa [TarpcModel.Bincode.Response.withKind, hm, decodeJsonResponse, encodeJsonResponse] using this
  | err e =>
    exact C15_json_roundtrip_response_generic C15_json_body_string r hv _
      (by intro e' h; rw [hm] at h; cases h; exact C15_json_kinds_total e.kind)

/-- In particular a response carrying a portable kind is delivered intact. -/
theorem C15_json_roundtrip_response_portable (id : Nat) (e : ServerError) (hid : id < 2 ^ 64)
    (hk : e.kind ∈ portableKinds) :
    decodeJsonResponse (encodeJsonResponse { requestId := id, message := .err e }) =
      some { requestId := id, message := .err e } := by
  have := C15_json_roundtrip_response { requestId := id, message := .err e } hid
  simpa [TarpcModel.Bincode.Response.withKind, hk] using this

/-- **C15, JSON, both directions** in one statement. -/
theorem C15_json_roundtrip :
    (∀ m : ClientMessage String, m.Valid (fun _ => True) → decodeJson (encodeJson m) = some m) ∧
    (∀ r : Response String, r.requestId < 2 ^ 64 →
      decodeJsonResponse (encodeJsonResponse r) =
        some (match r.message with
          | .ok _ => r
          | .err e => r.withKind (if e.kind ∈ portableKinds then e.kind else "Other"))) :=
  ⟨C15_json_roundtrip_client, C15_json_roundtrip_response⟩

/-! ## Non-vacuity: concrete messages, their exact bytes (as produced by the real crate), and what the
reader accepts beyond the writer's output (each line is also in the harness's fixed suite) -/

/-- A request whose body needs every kind of treatment: two-byte UTF-8, `\"`, `\\`, `\n`, a `\u00xx`
control, `/` (not escaped) and a four-byte code point (verbatim). -/
def exampleRequest : ClientMessage String := .request
  { context := { deadline := { secs := 5, nanos := 7 },
                 trace := { traceId := 0x0102030405060708090a0b0c0d0e0f10, spanId := 300,
                            sampled := false } },
    id := 251, message := "hé\"\\\n\x01/🦀" }

def exampleRequestText : String :=
  "{\"Request\":{\"context\":{\"deadline\":{\"secs\":5,\"nanos\":7},\"trace_context\":{\"trace_id\":[16,15,14,13,12,11,10,9,8,7,6,5,4,3,2,1],\"span_id\":300,\"sampling_decision\":\"Unsampled\"}},\"id\":251,\"message\":\"hé\\\"\\\\\\n\\u0001/🦀\"}}"

set_option maxRecDepth 100000 in
example : encodeJson exampleRequest = strBytes exampleRequestText ∧
    decodeJson (strBytes exampleRequestText) = some exampleRequest := by
  have enc : encodeJson exampleRequest = strBytes exampleRequestText := by
    rw [exampleRequestText, Bincode.strBytes_ofList]
    decide +kernel
  have valid : exampleRequest.Valid (fun _ => True) :=
    ⟨⟨⟨by decide, by decide⟩, ⟨by decide, by decide⟩⟩, by decide, trivial⟩
  exact ⟨enc, enc ▸ C15_json_roundtrip_client _ valid⟩

set_option maxRecDepth 100000 in
/-- The same message as another writer might send it: members reordered, whitespace, the member
`deadline` (which has a default) present; `\u` escapes (a surrogate pair for the crab, upper-case hex), `\/`; an
unknown member whose value no typed reader would take (a float, an unpaired surrogate). -/
example : decodeJson (strBytes
    " { \"Request\" : {\"message\":\"h\\u00E9\\\"\\\\\\n\\u0001\\/\\ud83e\\udd80\", \"x\":[1.5e3,\"\\ud800\",{}],\n\"id\":251,\"context\":{\"trace_context\":{\"sampling_decision\":{\"Unsampled\":null},\"span_id\":300,\"trace_id\":[16,15,14,13,12,11,10,9,8,7,6,5,4,3,2,1]},\"deadline\":{\"nanos\":7,\"secs\":5}}}}\r\n")
    = some exampleRequest := by
  rw [Bincode.strBytes_ofList]
  decide +kernel

set_option maxRecDepth 100000 in
/-- Omitted `#[serde(default)]` members: the deadline becomes `ten_seconds_from_now()`, a cancel's trace context
the all-zero unsampled one.  Structs may also come as arrays. -/
example :
    decodeJson (strBytes "{\"Cancel\":{\"request_id\":7}}") =
      some (.cancel { traceId := 0, spanId := 0, sampled := false } 7) ∧
    decodeJson (strBytes "{\"Request\":{\"context\":{\"trace_context\":[[1,0,0,0,0,0,0,0,0,0,0,0,0,0,0,0],2,\"Sampled\"]},\"id\":3,\"message\":\"\"}}") =
      some (.request { context := { deadline := defaultDeadline,
                                    trace := { traceId := 1, spanId := 2, sampled := true } },
                       id := 3, message := "" }) ∧
    decodeJson (strBytes "{\"Cancel\":[[[1,0,0,0,0,0,0,0,0,0,0,0,0,0,0,0],2,\"Sampled\"],7]}") =
      some (.cancel { traceId := 1, spanId := 2, sampled := true } 7) := by
  repeat rw [Bincode.strBytes_ofList]
  decide +kernel

set_option maxRecDepth 100000 in
/-- What the reader rejects: a repeated member, an id of `2^64`, a float where an integer is due, a
trailing comma, a second variant, trailing text, an unpaired surrogate or invalid UTF-8 in a *typed*
string (the same in a skipped member is fine), 15 trace-id bytes, an unknown `Duration` member. -/
example :
    decodeJson (strBytes "{\"Cancel\":{\"request_id\":7,\"request_id\":7}}") = none ∧
    decodeJson (strBytes "{\"Cancel\":{\"request_id\":18446744073709551616}}") = none ∧
    decodeJson (strBytes "{\"Cancel\":{\"request_id\":18446744073709551615}}") =
      some (.cancel { traceId := 0, spanId := 0, sampled := false } (2 ^ 64 - 1)) ∧
    decodeJson (strBytes "{\"Cancel\":{\"request_id\":7.0}}") = none ∧
    decodeJson (strBytes "{\"Cancel\":{\"request_id\":-0}}") = none ∧
    decodeJson (strBytes "{\"Cancel\":{\"request_id\":07}}") = none ∧
    decodeJson (strBytes "{\"Cancel\":{\"request_id\":7,}}") = none ∧
    decodeJson (strBytes "{\"Cancel\":{\"request_id\":7},\"x\":1}") = none ∧
    decodeJson (strBytes "{\"Cancel\":{\"request_id\":7}} x") = none ∧
    decodeJson (strBytes "\"Cancel\"") = none ∧
    decodeJson (strBytes "{\"Cancel\":{\"request_id\":7,\"x\":\"\\ud800\"}}") =
      some (.cancel { traceId := 0, spanId := 0, sampled := false } 7) ∧
    decodeJson (strBytes "{\"Cancel\":{\"request_id\":7,\"\\ud800\":0}}") = none ∧
    decodeJson (strBytes "{\"Cancel\":{\"request_id\":7,\"x\":\"" ++ [0xff] ++ strBytes "\"}}") =
      some (.cancel { traceId := 0, spanId := 0, sampled := false } 7) ∧
    decodeJson (strBytes "{\"Cancel\":{\"request_id\":7,\"" ++ [0xff] ++ strBytes "\":0}}") = none ∧
    decodeJson (strBytes "{\"Cancel\":{\"request_id\":7,\"trace_context\":{\"trace_id\":[1,0,0,0,0,0,0,0,0,0,0,0,0,0,0],\"span_id\":2,\"sampling_decision\":\"Sampled\"}}}") = none ∧
    decodeJson (strBytes "{\"Request\":{\"context\":{\"deadline\":{\"secs\":1,\"nanos\":2,\"x\":0},\"trace_context\":[[1,0,0,0,0,0,0,0,0,0,0,0,0,0,0,0],2,\"Sampled\"]},\"id\":3,\"message\":\"\"}}") = none := by
  repeat rw [Bincode.strBytes_ofList]
  decide +kernel

set_option maxRecDepth 100000 in
/-- Responses: exact bytes, a portable kind (`PermissionDenied` = 1), a non-portable one
(`OutOfMemory` is written as 16 and arrives as `Other`), a number outside the read table. -/
example :
    encodeJsonResponse { requestId := 1, message := .err { kind := "PermissionDenied", detail := "x" } } =
      strBytes "{\"request_id\":1,\"message\":{\"Err\":{\"kind\":1,\"detail\":\"x\"}}}" ∧
    encodeJsonResponse { requestId := 2 ^ 64 - 1, message := .ok "é" } =
      strBytes "{\"request_id\":18446744073709551615,\"message\":{\"Ok\":\"é\"}}" ∧
    decodeJsonResponse (encodeJsonResponse { requestId := 1, message := .err { kind := "OutOfMemory", detail := "" } }) =
      some { requestId := 1, message := .err { kind := "Other", detail := "" } } ∧
    decodeJsonResponse (strBytes "[1,{\"Err\":[4294967295,\"d\"]}]") =
      some { requestId := 1, message := .err { kind := "Other", detail := "d" } } ∧
    decodeJsonResponse (strBytes "{\"request_id\":1,\"message\":{\"Err\":{\"kind\":4294967296,\"detail\":\"d\"}}}") = none ∧
    decodeJsonResponse (strBytes "{\"request_id\":1,\"message\":\"Ok\"}") = none := by
  repeat rw [Bincode.strBytes_ofList]
  decide +kernel

/-- Serde's `Duration` reader normalises `nanos ≥ 10^9` and rejects a `secs` overflow. -/
example : durationFromJson (.obj [("nanos", .num 4294967295), ("secs", .num 1)]) =
      some { secs := 5, nanos := 294967295 } ∧
    durationFromJson (.obj [("secs", .num (2 ^ 64 - 1)), ("nanos", .num 1000000000)]) = none := by decide

/-- There are 18 portable kinds, `Other` among them, and e.g. `OutOfMemory` is not. -/
example : portableKinds.length = 18 ∧ "Other" ∈ portableKinds ∧ "OutOfMemory" ∉ portableKinds :=
  Bincode.portableKinds_sample

/-- The validity hypothesis is satisfiable at every boundary (and this message is covered). -/
example : (ClientMessage.request (T := String)
      { context := { deadline := { secs := 2 ^ 64 - 1, nanos := 999999999 },
                     trace := { traceId := 2 ^ 128 - 1, spanId := 2 ^ 64 - 1, sampled := true } },
        id := 2 ^ 64 - 1, message := "\x00\uffff" }).Valid (fun _ => True) := by
  refine ⟨⟨⟨by decide, by decide⟩, ⟨by decide, by decide⟩⟩, by decide, trivial⟩

set_option maxRecDepth 100000 in
/-- A request whose deadline does not fit an `Instant` is read as a far-future deadline while the
source saturates (`Gen.deadlineSaturates`), never as garbage. -/
example : readClientMessage decStrBody (strBytes
    "{\"Request\":{\"context\":{\"deadline\":{\"secs\":9223372036854775808,\"nanos\":0},\"trace_context\":[[1,0,0,0,0,0,0,0,0,0,0,0,0,0,0,0],2,\"Sampled\"]},\"id\":3,\"message\":\"\"}}")
    = (if deadlineSaturates then
        .value (.request { context := { deadline := { secs := deadlineFarFutureSecs, nanos := 0 },
                                        trace := { traceId := 1, spanId := 2, sampled := true } },
                           id := 3, message := "" })
       else .panic) := by
  rw [Bincode.strBytes_ofList]
  decide +kernel

end TarpcModel.Json
