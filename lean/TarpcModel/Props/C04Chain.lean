import TarpcModel.Lemmas.ChainMon
/-!
# C04 (second sentence) — abandoning the head of a service chain cancels every handler down the chain

"Because an aborted handler's own outstanding calls are dropped, abandoning a call at the head of a
chain of services cancels every unfinished handler down the chain."

Property theorems only; the model is `TarpcModel.Chain` (`Chain.lean`), for every chain depth, with
and without a per-channel request limit, after every op sequence.
-/
namespace TarpcModel.Chain

/-- **C04 (cascade).**  In any reachable state of a chain of any depth, with or without a request
limit: if `abandon c` takes effect (is not answered `noop`), then after the next `run` call `c` is
dead and its hop list is the old one with every running handler dropped — the cancel written at
that hop carrying that hop's request context — and everything else unchanged.  The proof is by
induction over the hops (`cascade_live_eq`) on the invariant that the running handlers of an active
call form a prefix of the chain (`Live`). -/
theorem C04_cascade (depth : Nat) (limit : Option Nat) (ops : List Op) (c : Nat)
    (s : St) (hs : s = (run (init depth limit) ops).1)
    (cl : Call) (hfind : findCall c s.calls = some cl)
    (heff : (step s (.abandon c)).2 = []) :
    ∃ cl', findCall c (step (step s (.abandon c)).1 .run).1.calls = some cl' ∧
      cl'.phase = .dead ∧ cl'.hops = cl.hops.map dropRunning := by
  have hinv : Inv s := hs ▸ run_inv depth limit ops
  have hcl := hinv.calls cl (findCall_some hfind).1
  simp only [step, hfind] at heff ⊢
  cases hph : abandonPhase s cl with
  | none => rw [hph] at heff; simp at heff
  | some ph =>
    simp only []
    have h1 : findCall c (updCall c (fun cl => { cl with phase := ph }) s.calls) =
        some { cl with phase := ph } := by
      rw [findCall_updPhase, hfind]; simp
    obtain ⟨cnt', k', h2⟩ := findCall_runCalls s.depth s.limit
      (countInFlight1 (updCall c (fun cl => { cl with phase := ph }) s.calls)) s.next c _ _ h1
    refine ⟨_, h2, ?_⟩
    rcases abandonPhase_some hph with ⟨hf, rfl⟩ | ⟨hw, rfl⟩
    · exact ⟨by simp [runCall], by simp only [runCall]; exact (map_dropRunning_blank (hcl.fresh hf)).symm⟩
    · exact ⟨by simp [runCall], by simp only [runCall]; exact cascade_live_eq _ _ _ (hcl.live (Or.inl hw))⟩

/-- **C04 (cascade), as the property words it:** after `abandon c` followed by `run`, no handler of
call `c` at any hop is running; the handlers that were running are now dropped and the others were
never started. -/
theorem C04_cascade_none_running (depth : Nat) (limit : Option Nat) (ops : List Op) (c : Nat)
    (s : St) (hs : s = (run (init depth limit) ops).1)
    (cl : Call) (hfind : findCall c s.calls = some cl)
    (heff : (step s (.abandon c)).2 = []) :
    ∃ cl', findCall c (step (step s (.abandon c)).1 .run).1.calls = some cl' ∧
      ∀ hp ∈ cl'.hops, hp.h = .dropped ∨ hp.h = .notStarted := by
  obtain ⟨cl', h1, h2, _⟩ := C04_cascade depth limit ops c s hs cl hfind heff
  have hinv : Inv (step (step s (.abandon c)).1 .run).1 :=
    step_inv _ _ (step_inv _ _ (hs ▸ run_inv depth limit ops))
  exact ⟨cl', h1, (hinv.calls cl' (findCall_some h1).1).dead h2⟩

/-- **C04 (cascade), frame.**  Abandoning `c` and running leaves every other call whose chain is
waiting exactly as it was: none of its handlers is dropped, no cancel is written for it.  (It holds of every state:
the proof does not use that `s` is reachable.) -/
theorem C04_cascade_frame (depth : Nat) (limit : Option Nat) (ops : List Op) (c c' : Nat) (hne : c' ≠ c)
    (s : St) (_hs : s = (run (init depth limit) ops).1)
    (cl' : Call) (hfind : findCall c' s.calls = some cl') (hw : cl'.phase = .waiting) :
    findCall c' (step (step s (.abandon c)).1 .run).1.calls = some cl' := by
  have h1 : findCall c' (step s (.abandon c)).1.calls = some cl' := by
    rw [step_abandon_other s hne, hfind]
  simp only [step] at h1 ⊢
  obtain ⟨cnt', k', h2⟩ := findCall_runCalls _ _ _ _ c' _ _ h1
  rw [h2]
  simp [runCall, hw]

/-- **C04 (cascade), monitor form.**  The monitor of the `chain` family — which rejects a trace in
which, at the end of a `run`, a handler of an abandoned call is still running, or in which a handler
of a call that was not abandoned is dropped — accepts every trace of the model, for every depth,
limit and op sequence.  (The same monitor carries the C18 checks; see `Props/C18Chain.lean`.) -/
theorem C04_chain_monitor_accepts (depth : Nat) (limit : Option Nat) (ops : List Op) :
    (mon depth (runTrace (init depth limit) ops).2).ok = true :=
  (foldl_monPair_coupled _ _ ops (init_inv depth limit) (monInit_coupled depth limit)).ok

/-- Non-vacuity and the shape of the cascade: depth 3, two concurrent calls with different trace
ids; call 0 is stopped at hop 2 and abandoned there (mid-chain): hops 1 and 2 are cancelled and
dropped, hop 3 was never reached; call 1 (at hop 3) is untouched and then finishes. -/
example :
    (run (init 3 none)
      [.start 0 ⟨5, .given 1, true⟩ 1000000000 2, .start 1 ⟨6, .given 2, false⟩ 2000000000 3, .run,
       .abandon 0, .run, .finish 1, .run]).2 =
    [.wireReq 1 0 ⟨5, .fresh 0, true⟩ 1000000000, .handler 1 0 ⟨5, .fresh 1, true⟩ 1000000000,
     .wireReq 2 0 ⟨5, .fresh 2, true⟩ 1000000000, .handler 2 0 ⟨5, .fresh 3, true⟩ 1000000000,
     .wireReq 1 1 ⟨6, .fresh 4, false⟩ 2000000000, .handler 1 1 ⟨6, .fresh 5, false⟩ 2000000000,
     .wireReq 2 1 ⟨6, .fresh 6, false⟩ 2000000000, .handler 2 1 ⟨6, .fresh 7, false⟩ 2000000000,
     .wireReq 3 1 ⟨6, .fresh 8, false⟩ 2000000000, .handler 3 1 ⟨6, .fresh 9, false⟩ 2000000000,
     .wireCancel 1 0 ⟨5, .fresh 0, true⟩, .dropped 1 0, .wireCancel 2 0 ⟨5, .fresh 2, true⟩, .dropped 2 0,
     .completed 3 1, .completed 2 1, .completed 1 1, .outcomeOk 1 2103] := by
  decide +kernel

/-- With a limit of one request per channel the second concurrent call is refused at hop 1 and
starts nothing downstream; abandoning the first one cascades as without a limit. -/
example :
    (run (init 2 (some 1))
      [.start 0 ⟨5, .given 1, true⟩ 1000000000 2, .start 1 ⟨6, .given 2, false⟩ 2000000000 2, .run,
       .abandon 0, .run]).2 =
    [.wireReq 1 0 ⟨5, .fresh 0, true⟩ 1000000000, .handler 1 0 ⟨5, .fresh 1, true⟩ 1000000000,
     .wireReq 2 0 ⟨5, .fresh 2, true⟩ 1000000000, .handler 2 0 ⟨5, .fresh 3, true⟩ 1000000000,
     .wireReq 1 1 ⟨6, .fresh 4, false⟩ 2000000000, .outcomeRefused 1,
     .wireCancel 1 0 ⟨5, .fresh 0, true⟩, .dropped 1 0, .wireCancel 2 0 ⟨5, .fresh 2, true⟩, .dropped 2 0] := by
  decide +kernel

end TarpcModel.Chain
