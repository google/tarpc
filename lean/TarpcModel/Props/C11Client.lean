import TarpcModel.Lemmas.ClientMon
/-!
# C11 (client) — tracked request state is bounded; timers and table agree; ids are unique

Property theorems only.  The model is `TarpcModel.Client` (`Client/Model.lean`, `Client/Run.lean`); reachable
states are `ops.foldl applyOp (initSys m bufCap tcap coupled)` for arbitrary op lists, the event trace is
`trace (initSys …) ops`.  The invariant behind all statements is `Client.StInv` (`Lemmas/ClientInv.lean`).

All statements hold for every configuration, including `m = 0` (then nothing ever enters the table); the hypothesis
`1 ≤ m` of the task is not needed and therefore not assumed.
-/
set_option linter.unusedSimpArgs false
namespace TarpcModel.Client
open TarpcModel.DelayQ

/-- **C11 (1), bounded in-flight table.**  In every reachable state the in-flight table holds at most
`max_in_flight_requests` entries (the configured `m`, which never changes). -/
theorem C11_inflight_bounded (m bufCap tcap : Nat) (coupled : Bool) (ops : List COp) :
    (ops.foldl applyOp (initSys m bufCap tcap coupled)).s.inflight.length ≤ m := by
  have h := (inv_reach m bufCap tcap coupled ops).t.bound
  rwa [maxInFlight_reach] at h

/-- the same, phrased with the state's own field -/
theorem C11_inflight_bounded_field (m bufCap tcap : Nat) (coupled : Bool) (ops : List COp)
    (s : St) (hs : s = (ops.foldl applyOp (initSys m bufCap tcap coupled)).s) :
    s.inflight.length ≤ s.maxInFlight := by
  subst hs; exact (inv_reach m bufCap tcap coupled ops).t.bound

/-- **C11 (2a), as many timers as entries.**  After every op the number of armed timers equals the number of
in-flight entries. -/
theorem C11_timers_len_eq_inflight (m bufCap tcap : Nat) (coupled : Bool) (ops : List COp) :
    (ops.foldl applyOp (initSys m bufCap tcap coupled)).s.timers.len =
      (ops.foldl applyOp (initSys m bufCap tcap coupled)).s.inflight.length := by
  have h := inv_reach m bufCap tcap coupled ops
  exact h.t.len_eq h.i.inNodup

/-- **C11 (2b), every entry has its timer.**  After every op each in-flight entry's `timerKey` is the key of an
armed timer (in the wheel or on the `expired` stack) whose value is the entry's request id, and that timer together
with the entry's `remainder` (the part of a far-away deadline not armed yet, re-armed when the timer fires) reaches
the entry's deadline; with `remainder = 0` — always the case for deadlines within the clamp — the timer is not armed
before the deadline. -/
theorem C11_entry_has_timer (m bufCap tcap : Nat) (coupled : Bool) (ops : List COp)
    (s : St) (hs : s = (ops.foldl applyOp (initSys m bufCap tcap coupled)).s) (en : Entry) (hen : en ∈ s.inflight) :
    ∃ d ∈ s.timers.entries ++ s.timers.expired,
      d.key = en.timerKey ∧ d.val = en.id ∧ en.ctx.deadline ≤ d.whenMs * nsPerMs + en.remainder := by
  subst hs
  obtain ⟨w, ⟨d, hd, h1, h2, h3⟩, hw⟩ := (inv_reach m bufCap tcap coupled ops).t.e2t en hen
  exact ⟨d, hd, h1, h2, by rw [h3]; exact hw⟩

/-- **C11 (2c), every timer has its entry.**  After every op each armed timer belongs to an in-flight entry
(same key, value = the entry's request id): no timer is leaked. -/
theorem C11_timer_has_entry (m bufCap tcap : Nat) (coupled : Bool) (ops : List COp)
    (s : St) (hs : s = (ops.foldl applyOp (initSys m bufCap tcap coupled)).s) (d : DqEntry)
    (hd : d ∈ s.timers.entries ++ s.timers.expired) :
    ∃ en ∈ s.inflight, en.timerKey = d.key ∧ en.id = d.val := by
  subst hs
  exact (inv_reach m bufCap tcap coupled ops).t.t2e d.key d.val d.whenMs ⟨d, hd, rfl, rfl, rfl⟩

/-- **C11 (2d), no key twice.**  After every op the keys of the armed timers are pairwise distinct, and so are
the `timerKey`s of the in-flight entries. -/
theorem C11_timer_keys_distinct (m bufCap tcap : Nat) (coupled : Bool) (ops : List COp)
    (s : St) (hs : s = (ops.foldl applyOp (initSys m bufCap tcap coupled)).s) :
    ((s.timers.entries ++ s.timers.expired).map (·.key)).Nodup ∧ (s.inflight.map (·.timerKey)).Nodup := by
  subst hs
  have h := inv_reach m bufCap tcap coupled ops
  exact h.t.keys_nodup h.i.inNodup

/-- **C11 (2e), the same keys.**  After every op the `timerKey`s of the in-flight entries are, up to order, exactly
the keys of the armed timers. -/
theorem C11_timer_keys_perm (m bufCap tcap : Nat) (coupled : Bool) (ops : List COp)
    (s : St) (hs : s = (ops.foldl applyOp (initSys m bufCap tcap coupled)).s) :
    (s.inflight.map (·.timerKey)).Perm ((s.timers.entries ++ s.timers.expired).map (·.key)) := by
  subst hs
  have h := inv_reach m bufCap tcap coupled ops
  exact h.t.keys_perm h.i.inNodup

/-- **C11 (3a), request ids in the queue and the table.**  After every op the request ids queued for the dispatch
or in flight are pairwise distinct and all below `nextId`. -/
theorem C11_request_ids_unique (m bufCap tcap : Nat) (coupled : Bool) (ops : List COp)
    (s : St) (hs : s = (ops.foldl applyOp (initSys m bufCap tcap coupled)).s) :
    (s.pq.map (·.id) ++ s.inflight.map (·.id)).Nodup ∧ (∀ r ∈ s.pq, r.id < s.nextId) ∧
      (∀ en ∈ s.inflight, en.id < s.nextId) := by
  subst hs
  have h := inv_reach m bufCap tcap coupled ops
  exact ⟨h.i.nodup, h.i.pqLt, h.i.inLt⟩

/-- **C11 (3b), ids of calls.**  After every op every call that has drawn its request id and has not been dropped
(phase `reserving`, `awaiting` or `resolved`) has an id below `nextId`, and two different such calls have different
ids.  (A dropped call keeps no trace of whether it was ever polled, hence the phase restriction; ids are unbounded
naturals, so no wrap-around hypothesis is needed.) -/
theorem C11_call_ids_unique (m bufCap tcap : Nat) (coupled : Bool) (ops : List COp)
    (s : St) (hs : s = (ops.foldl applyOp (initSys m bufCap tcap coupled)).s)
    (c1 c2 : Call) (h1 : c1 ∈ s.calls) (h2 : c2 ∈ s.calls)
    (p1 : c1.phase = .reserving ∨ c1.phase = .awaiting ∨ c1.phase = .resolved)
    (p2 : c2.phase = .reserving ∨ c2.phase = .awaiting ∨ c2.phase = .resolved) :
    c1.id < s.nextId ∧ (c1.id = c2.id → c1 = c2) := by
  subst hs
  have h := inv_reach m bufCap tcap coupled ops
  have a1 : Assigned none c1 := by rcases p1 with p | p | p <;> simp [Assigned, p]
  have a2 : Assigned none c2 := by rcases p2 with p | p | p <;> simp [Assigned, p]
  exact ⟨h.c.idLt c1 h1 a1, fun hid => h.c.cid_unique h1 h2 (h.c.idInj c1 h1 c2 h2 a1 a2 hid)⟩

/-- **C11 (3c), the uniqueness and key panics are unreachable.**  The only panic site any script can reach is the
range check of `DelayQueue::insert` (a deadline more than 2^36 ms ahead): no trace contains
`panic "Request IDs should be unique"` (`insert_request`) nor `panic "deadlines.remove: invalid key"`
(`DelayQueue::remove`). -/
theorem C11_only_insert_range_panic (m bufCap tcap : Nat) (coupled : Bool) (ops : List COp) (t : TaskId)
    (site : String) (h : CEv.obs (.panic t site) ∈ trace (initSys m bufCap tcap coupled) ops) :
    site = "DelayQueue::insert: invalid deadline" := by
  obtain ⟨calls, now, -, hg⟩ :=
    trace_obs_good m ops (initSys m bufCap tcap coupled) (inv_init 0 m bufCap tcap coupled 0) rfl _ h
  exact hg.1

/-- in particular neither the uniqueness panic of `insert_request` nor the invalid-key panic of `deadlines.remove` -/
theorem C11_no_uniqueness_panic (m bufCap tcap : Nat) (coupled : Bool) (ops : List COp) (t : TaskId) :
    CEv.obs (.panic t "Request IDs should be unique") ∉ trace (initSys m bufCap tcap coupled) ops ∧
    CEv.obs (.panic t "deadlines.remove: invalid key") ∉ trace (initSys m bufCap tcap coupled) ops := by
  constructor <;> intro h <;> have := C11_only_insert_range_panic m bufCap tcap coupled ops t _ h <;> simp at this

/-! ### monitor form -/

/-- The first two clauses of `checkC11`: the bound and `inflight = timers` (the third clause, "reclaimed when
idle", is liveness-flavoured and is not covered here). -/
def checkC11Bounded (maxInFlight : Nat) (_ : Book) (_ : Unit) : CEv → Unit × Option String
  | .obs (.counts (.dispatch _) inflight timers) =>
      if inflight > maxInFlight then ((), some s!"{inflight} requests in flight > max_in_flight_requests = {maxInFlight}")
      else if inflight != timers then ((), some s!"{inflight} tracked requests but {timers} armed timers")
      else ((), none)
  | _ => ((), none)

def monC11Bounded (maxInFlight : Nat) (evs : List CEv) : Mon Unit := Mon.run (checkC11Bounded maxInFlight) () evs

/-- **C11 (5), monitor acceptance of the bound and of `inflight = timers`.**  For every configuration and every
script the sub-monitor made of the first two clauses of `checkC11` accepts the model's trace. -/
theorem C11_monitor_bounded_accepts (m bufCap tcap : Nat) (coupled : Bool) (ops : List COp) :
    (monC11Bounded m (trace (initSys m bufCap tcap coupled) ops)).ok = true := by
  apply mon_accepts (T := advSum ops) (hT := Nat.le_refl _)
  · intro bk st op; rfl
  · intro c bk st o _ _ _ _ hg
    cases o <;> try rfl
    rename_i ep i t
    cases ep <;> try rfl
    obtain ⟨h1, h2⟩ := hg
    subst h2
    have h3 : ¬ i > m := by omega
    simp [checkC11Bounded, h3]

/-- `checkC11` agrees with `checkC11Bounded` except for its third clause: whenever the full monitor objects but the
sub-monitor does not, the objection is the "reclaimed when idle" one. -/
theorem checkC11_eq_bounded_or_third (m : Nat) (b : Book) (e : CEv) :
    (checkC11 m b () e).2 = (checkC11Bounded m b () e).2 ∨
    ((checkC11Bounded m b () e).2 = none ∧
      ∃ i : Nat, (checkC11 m b () e).2 =
        some s!"all calls resolved or dropped, transport writable, yet {i} requests still tracked") := by
  cases e with
  | op o => left; rfl
  | obs o =>
    cases o <;> try (left; rfl)
    rename_i ep i t
    cases ep <;> try (left; rfl)
    simp only [checkC11, checkC11Bounded]
    by_cases h1 : i > m
    · left; simp [h1]
    · by_cases h2 : (i != t) = true
      · left; simp [h1, h2]
      · simp only [h1, h2, ↓reduceIte, Bool.false_eq_true]
        split
        · right; exact ⟨trivial, i, rfl⟩
        · left; rfl

/-- `monC11` with its third clause (tracked state is fully reclaimed once every call is resolved or dropped and the
transport was writable) on every trace.  Kept as a statement: `Props/C11Reclaim.lean` proves the clause in state form
(`C11_reclaimed_state`) and the monitor form under two hypotheses on the script (`C11_monitor_full_accepts`); this
unconditional form is not derived. -/
def C11_monitor_full_Statement : Prop :=
  ∀ (m bufCap tcap : Nat) (coupled : Bool) (ops : List COp), 1 ≤ m →
    (monC11 m (trace (initSys m bufCap tcap coupled) ops)).ok = true

/-! ### non-vacuity -/

/-- A script that fills the table (`m = 1`), is refused a second slot, and frees it by a deadline expiry. -/
example :
    let ops := [COp.call 0 5000000 ⟨1, .given 1, true⟩ 7, .call 0 9000000 ⟨2, .given 2, true⟩ 8, .pollCall 0,
      .pollDispatch, .pollCall 1, .pollDispatch]
    (ops.foldl applyOp (initSys 1 2 4 true)).s.inflight.length = 1 ∧
    (ops.foldl applyOp (initSys 1 2 4 true)).s.timers.len = 1 ∧
    (ops.foldl applyOp (initSys 1 2 4 true)).s.pq.length = 1 := by
  decide +kernel

example :
    CEv.obs (.counts (.dispatch 0) 1 1) ∈
      trace (initSys 1 1 1 true) [.call 0 5000000 ⟨1, .given 1, true⟩ 7, .pollCall 0, .pollDispatch] := by
  decide +kernel

end TarpcModel.Client
