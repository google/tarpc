import TarpcModel.Lemmas.ServerNotLate
import TarpcModel.Props.C06
import TarpcModel.Props.C16Server
import TarpcModel.Monitors.Server
/-!
# C06 (server side) — request deadlines are enforced, not late

Property theorems only.  `Props/C06.lean` has the *never early* half of C06 and keeps the other half as a statement
(`C06AbortsAtDeadlineStatement`) with a partial result (`C06_aborts_at_deadline_partial`: when the channel goes idle, the
last `DelayQueue::poll_expired` of that poll yielded nothing).  The other half rests on the completeness of the timer-wheel
emulation (`Lemmas/DelayQComplete.lean`, `Lemmas/DelayQReach.lean`, `Props/C05DelayQ.lean`);
`Lemmas/ServerDelayQBridge.lean` shows that the server's queue satisfies its hypotheses: the server only applies
`insert` (a clamped timeout, at the current clock), `remove`, `poll_expired` and a reset to its `DelayQueue`, and while
the clock is below `2^35` ms every such insert is in the strict range of the wheel.

**Scripts quantified over**: all op lists whose total advanced time `advSum ops` is below `2^35` ms (as in
`C16_server_no_panic`; the clock starts at 0 and only `advance` moves it).  The bound cannot simply be dropped: beyond
the strict range the timer wheel itself can miss a due entry (`DelayQ.C05_delayq_late_witness`).

**Time convention**: the *tick* of a tracked request is the `whenMs` of its armed timer (the deadline — or, for
deadlines beyond the clamp, the end of the part of the wait armed so far — rounded up to a millisecond);
it is due at clock `now` (ns) iff `tick * 10^6 ≤ now`.  `C06_timer_reaches_deadline` relates tick and deadline from below.

**The limiter (finding F7).**  With `MaxRequests` at its limit and the sink not ready the channel's `poll_next` is not
called at all (`C06_limiter_stall_witness`), so the theorems are about `BaseChannel::poll_next` (`basePollNext`, any
fuel) and about `Requests::poll_next` for a channel without limiter (`limit = none`).
-/
namespace TarpcModel.Server
open TarpcModel TarpcModel.Server.Flow

/-- **Bridge.**  In every reachable state of every configuration, for every script whose total advanced time is below
`2^35` ms, the server's timer queue satisfies the two-sided wheel invariant (`DelayQ.Complete`), has distinct keys, and
satisfies the one-sided invariant relative to the clock: the hypotheses of the completeness results
(`DelayQ.pollExpired_nothing_due`, `DelayQ.pollExpired_due`, `DelayQ.drain_complete`). -/
theorem C06_timers_complete (limit : Option Nat) (respCap tcap : Nat) (coupled : Bool) (ops : List SOp)
    (hT : advSum ops < 2 ^ 35 * nsPerMs) :
    DelayQ.Complete (ops.foldl applyOp (initSys limit respCap tcap coupled)).s.timers ∧
    DelayQ.KeysOk (ops.foldl applyOp (initSys limit respCap tcap coupled)).s.timers ∧
    DelayQ.Sound (ops.foldl applyOp (initSys limit respCap tcap coupled)).s.timers (advSum ops) :=
  timers_reach C16_server_flags limit respCap tcap coupled ops hT

/-- … hence, in every such state: the queue yields a timer iff one is due (never early, not late). -/
theorem C06_queue_yields_iff_due (limit : Option Nat) (respCap tcap : Nat) (coupled : Bool) (ops : List SOp)
    (hT : advSum ops < 2 ^ 35 * nsPerMs) (c : Sys) (hc : c = ops.foldl applyOp (initSys limit respCap tcap coupled)) :
    (∃ e, (c.s.timers.pollExpired c.now).2 = .expired e) ↔ ∃ k ∈ c.s.timers.cores, k.2.2 * nsPerMs ≤ c.now := by
  subst hc
  obtain ⟨h1, h2, h3⟩ := C06_timers_complete limit respCap tcap coupled ops hT
  rw [reach_now]
  constructor
  · rintro ⟨e, he⟩
    have hp : (ops.foldl applyOp (initSys limit respCap tcap coupled)).s.timers.pollExpired (advSum ops) =
        (((ops.foldl applyOp (initSys limit respCap tcap coupled)).s.timers.pollExpired (advSum ops)).1, .expired e) :=
      Prod.ext rfl he
    exact ⟨DelayQ.core e, (DelayQ.pollExpired_expired hp h2).1, DelayQ.pollExpired_not_early hp h3⟩
  · rintro ⟨k, hk, hdue⟩
    obtain ⟨e, he, rfl⟩ := DelayQ.mem_cores_iff.1 hk
    exact DelayQ.pollExpired_due h1 h2 he hdue

/-- **C06 (c): aborts at the deadline — nothing due is left behind.**  From every reachable state (clock below `2^35`
ms), with any fuel: if `BaseChannel::poll_next` goes idle (`Pending`, or the end of the stream) at clock `now`, then in
the state it leaves behind *no tracked request has a due timer* — whatever its `remainder`: every tracked entry's
timer tick lies strictly after `now`.  In particular no entry with `remainder = 0` whose tick has passed is left in the
table: every request that was due (tick passed, nothing left to arm after taking off the lateness) was expired — its
entry removed, its handler aborted (`expireStep`) — in that poll, and every timer that fired with time still to
arm was re-armed for a later tick.  (This is `C06AbortsAtDeadlineStatement` read on the state after the poll; the
statement as written there, about the entries of the state *before* the poll, is false for a benign reason — see
`C06_statement_as_written_false` — and holds in the corrected form `C06_aborts_at_deadline_pre_post`.) -/
theorem C06_aborts_at_deadline (limit : Option Nat) (respCap tcap : Nat) (coupled : Bool) (ops : List SOp)
    (hT : advSum ops < 2 ^ 35 * nsPerMs) (fuel : Nat)
    (c : Sys) (hc : c = ops.foldl applyOp (initSys limit respCap tcap coupled))
    (h : (basePollNext fuel c.s c.now).2 = .pending ∨ (basePollNext fuel c.s c.now).2 = .none) :
    ∀ en ∈ (basePollNext fuel c.s c.now).1.inflight, ∀ k ∈ (basePollNext fuel c.s c.now).1.timers.cores,
      k.1 = en.timerKey → c.now < k.2.2 * nsPerMs := by
  subst hc
  have hn := reach_now_lt limit respCap tcap coupled ops hT
  have hq := qc_reach C16_server_flags limit respCap tcap coupled ops
  intro en _ k hk _
  exact (basePollNext_idle_timers C16_server_flags hn fuel _ hq h).cores k hk

/-- **… and the wake-up is armed.**  In the state an idle `BaseChannel::poll_next` leaves behind, if any timer remains:
the task's waker is stored in the queue and the queue's `Sleep` is registered for an instant `t` with
`now < t ≤ tick` for *every* remaining tick — so `onAdvance` (which wakes the server task iff `nextFire ≤ now' ∧ waker`)
wakes the task no later than the earliest remaining tick. -/
theorem C06_idle_wakeup_armed (limit : Option Nat) (respCap tcap : Nat) (coupled : Bool) (ops : List SOp)
    (hT : advSum ops < 2 ^ 35 * nsPerMs) (fuel : Nat)
    (c : Sys) (hc : c = ops.foldl applyOp (initSys limit respCap tcap coupled))
    (h : (basePollNext fuel c.s c.now).2 = .pending ∨ (basePollNext fuel c.s c.now).2 = .none) :
    ∀ e ∈ (basePollNext fuel c.s c.now).1.timers.items,
      (basePollNext fuel c.s c.now).1.timers.waker = true ∧
      ∃ t, (basePollNext fuel c.s c.now).1.timers.nextFire = some t ∧ c.now < t ∧ t ≤ e.whenMs * nsPerMs ∧
        ∀ now', e.whenMs * nsPerMs ≤ now' →
          (decide (t ≤ now') && (basePollNext fuel c.s c.now).1.timers.waker) = true := by
  subst hc
  have hn := reach_now_lt limit respCap tcap coupled ops hT
  have hq := qc_reach C16_server_flags limit respCap tcap coupled ops
  intro e he
  obtain ⟨hw, t, ht, hlt, hle⟩ := (basePollNext_idle_timers C16_server_flags hn fuel _ hq h).armed e he
  refine ⟨hw, t, ht, hlt, hle, fun now' hdue => ?_⟩
  simp only [hw, Bool.and_true, decide_eq_true_eq]
  omega

/-- **The same for the request stream** (`Requests::poll_next`: read pump and write pump) **of a channel without
limiter**: when it ends `Pending` or at the end of the stream, no tracked request has a due timer, and the wake-up is
armed no later than the earliest remaining tick. -/
theorem C06_requests_poll_not_late (respCap tcap : Nat) (coupled : Bool) (ops : List SOp)
    (hT : advSum ops < 2 ^ 35 * nsPerMs) (fuel : Nat)
    (c : Sys) (hc : c = ops.foldl applyOp (initSys none respCap tcap coupled))
    (h : (requestsPollNext fuel c.s c.now).2 = .pending ∨ (requestsPollNext fuel c.s c.now).2 = .none) :
    (∀ en ∈ (requestsPollNext fuel c.s c.now).1.inflight, ∀ k ∈ (requestsPollNext fuel c.s c.now).1.timers.cores,
      k.1 = en.timerKey → c.now < k.2.2 * nsPerMs) ∧
    (∀ e ∈ (requestsPollNext fuel c.s c.now).1.timers.items,
      (requestsPollNext fuel c.s c.now).1.timers.waker = true ∧
      ∃ t, (requestsPollNext fuel c.s c.now).1.timers.nextFire = some t ∧ c.now < t ∧ t ≤ e.whenMs * nsPerMs) := by
  subst hc
  have hn := reach_now_lt none respCap tcap coupled ops hT
  have hq := qc_reach C16_server_flags none respCap tcap coupled ops
  have hl : (ops.foldl applyOp (initSys none respCap tcap coupled)).s.limit = none :=
    (cfg_reach (initSys none respCap tcap coupled) ops).2.1
  have hi := requestsPollNext_idle_timers C16_server_flags hn fuel _ hl hq h
  exact ⟨fun en _ k hk _ => hi.cores k hk, hi.armed⟩

/-! ### the statement of `Props/C06.lean`, about the entries of the state before the poll -/

/-- **C06 (c), pre/post form with the exact lateness.**  The same with the lateness measured as the code measures it —
from the exact time the timer was due (`en.dueAt`, `timer_due`) rather than from its millisecond tick: every request
that was tracked when the poll began, whose timer tick had passed and whose `remainder` does not exceed `now − dueAt`
(i.e. `restOf now en = 0`: `poll_expired` would expire it rather than re-arm it) is gone when the poll goes idle. -/
theorem C06_aborts_at_deadline_pre_post_exact (limit : Option Nat) (respCap tcap : Nat) (coupled : Bool) (ops : List SOp)
    (hT : advSum ops < 2 ^ 35 * nsPerMs) (fuel : Nat)
    (c : Sys) (hc : c = ops.foldl applyOp (initSys limit respCap tcap coupled))
    (h : (basePollNext fuel c.s c.now).2 = .pending ∨ (basePollNext fuel c.s c.now).2 = .none) :
    ∀ en ∈ c.s.inflight, ∀ k ∈ c.s.timers.cores, k.1 = en.timerKey → k.2.2 * nsPerMs ≤ c.now →
      en.remainder ≤ c.now - en.dueAt →
      (∀ en' ∈ (basePollNext fuel c.s c.now).1.inflight, en'.id ≠ en.id) ∧
      (en.id ∈ c.s.cancelQ ∨ ∀ ex ∈ (basePollNext fuel c.s c.now).1.execs, ex.rid = en.rid → ex.aborted = true) := by
  subst hc
  have hn := reach_now_lt limit respCap tcap coupled ops hT
  have hq := qc_reach C16_server_flags limit respCap tcap coupled ops
  have hi := sinv_reach false limit respCap tcap coupled ops
  intro en hen k hk hkey hdue hrem
  exact basePollNext_due_gone C16_server_flags hn fuel hi hq ⟨en, hen, rfl, rfl, k, hk, hkey, hdue, hrem⟩ h

/-- **C06 (c), pre/post form.**  From every reachable state (clock below `2^35` ms), with any fuel: if
`BaseChannel::poll_next` goes idle at clock `now`, then every request that was tracked and *due* when the poll began —
its timer tick had passed and nothing of its `remainder` was left after taking off the lateness (in particular:
`remainder = 0`) — is no longer tracked, and every execution it guarded has been aborted, unless a guard cancellation for
its id was queued when the poll began (`cancelQ`: the application had dropped the request, or an earlier request with
the same id; `remove_request` then forgets the entry without aborting — there is nothing left to abort). -/
theorem C06_aborts_at_deadline_pre_post (limit : Option Nat) (respCap tcap : Nat) (coupled : Bool) (ops : List SOp)
    (hT : advSum ops < 2 ^ 35 * nsPerMs) (fuel : Nat)
    (c : Sys) (hc : c = ops.foldl applyOp (initSys limit respCap tcap coupled))
    (h : (basePollNext fuel c.s c.now).2 = .pending ∨ (basePollNext fuel c.s c.now).2 = .none) :
    ∀ en ∈ c.s.inflight, ∀ k ∈ c.s.timers.cores, k.1 = en.timerKey → k.2.2 * nsPerMs ≤ c.now →
      en.remainder ≤ c.now - k.2.2 * nsPerMs →
      (∀ en' ∈ (basePollNext fuel c.s c.now).1.inflight, en'.id ≠ en.id) ∧
      (en.id ∈ c.s.cancelQ ∨ ∀ ex ∈ (basePollNext fuel c.s c.now).1.execs, ex.rid = en.rid → ex.aborted = true) := by
  subst hc
  intro en hen k hk hkey hdue hrem
  -- the tick is the exact due time rounded up: lateness measured from `dueAt` is at least that from the tick
  have hge : en.dueAt ≤ k.2.2 * nsPerMs := by
    rw [(sinv_reach false limit respCap tcap coupled ops).t.tk en hen k hk hkey]; exact le_ceil_tick _
  exact C06_aborts_at_deadline_pre_post_exact limit respCap tcap coupled ops hT fuel _ rfl h en hen k hk hkey hdue
    (Nat.le_trans hrem (Nat.sub_le_sub_left hge _))

/-! ### the wake-up -/

/-- **After an idle poll, the next tick wakes the server task.**  Let `Requests::poll_next` of a channel without limiter
have ended `Pending` at clock `now` from a reachable state (clock below `2^35` ms), leaving state `p`.  Then in every later
state `s1` of a live, un-dropped stream whose timer queue is still the one the poll left behind (the executions, the
application and the transport do not touch it), as soon as the clock reaches the tick of any tracked request's timer
(`now'`), the timer wakes the server task: `(onAdvance s1 now').woken = true`.  So an expiry never waits for an unrelated
event to be noticed; the poll that follows aborts the handler (`C06_aborts_at_deadline`, `C06_deadline_passed_gone`). -/
theorem C06_idle_then_tick_wakes_server (respCap tcap : Nat) (coupled : Bool) (ops : List SOp)
    (hT : advSum ops < 2 ^ 35 * nsPerMs) (fuel : Nat)
    (c : Sys) (hc : c = ops.foldl applyOp (initSys none respCap tcap coupled))
    (h : (requestsPollNext fuel c.s c.now).2 = .pending ∨ (requestsPollNext fuel c.s c.now).2 = .none)
    (s1 : St) (hs1 : s1.timers = (requestsPollNext fuel c.s c.now).1.timers)
    (halive : s1.dropped = false ∧ s1.done = none)
    (k : Nat × Nat × Nat) (hk : k ∈ s1.timers.cores) (now' : Nat) (hdue : k.2.2 * nsPerMs ≤ now') :
    (onAdvance s1 now').woken = true := by
  subst hc
  have hn := reach_now_lt none respCap tcap coupled ops hT
  have hq := qc_reach C16_server_flags none respCap tcap coupled ops
  have hl : (ops.foldl applyOp (initSys none respCap tcap coupled)).s.limit = none :=
    (cfg_reach (initSys none respCap tcap coupled) ops).2.1
  have hi := requestsPollNext_idle_timers C16_server_flags hn fuel _ hl hq h
  rw [← hs1] at hi
  obtain ⟨e, he, rfl⟩ := DelayQ.mem_cores_iff.1 hk
  obtain ⟨t, ht, hw⟩ := hi.wakes he hdue
  simp only [Bool.and_eq_true, decide_eq_true_eq] at hw
  unfold onAdvance
  simp only [ht, hw.1, hw.2, decide_true, Bool.and_self, if_true]
  unfold wakeServer
  simp [halive.1, halive.2, emit]

/-! ### in terms of deadlines -/

/-- **C06 (c): not late, in terms of the deadline.**  After `BaseChannel::poll_next` has gone idle at clock `now` (clock
below `2^35` ms), for every request still tracked and every execution it guards: *the millisecond tick of its deadline
has not been reached* (`now < ceil_ms deadline`) — or its timer was armed when the deadline had already passed
(`deadline < dueAt`: the request was read after its deadline, `dueAt` is that instant) less than a millisecond ago
(`dueAt ≤ now < dueAt + 1 ms`; the timer fires at the next millisecond tick).  For every deadline, however far away and
however often the timer was re-armed: the exact due time does not drift (`C06_timer_exact`). -/
theorem C06_idle_deadline_tick (limit : Option Nat) (respCap tcap : Nat) (coupled : Bool) (ops : List SOp)
    (hT : advSum ops < 2 ^ 35 * nsPerMs) (fuel : Nat)
    (c : Sys) (hc : c = ops.foldl applyOp (initSys limit respCap tcap coupled))
    (h : (basePollNext fuel c.s c.now).2 = .pending ∨ (basePollNext fuel c.s c.now).2 = .none) :
    ∀ en ∈ (basePollNext fuel c.s c.now).1.inflight, ∀ ex ∈ (basePollNext fuel c.s c.now).1.execs, ex.rid = en.rid →
      c.now < ceilMs ex.deadline * nsPerMs ∨
      (ex.deadline < en.dueAt ∧ en.dueAt ≤ c.now ∧ c.now < en.dueAt + nsPerMs) := by
  subst hc
  intro en hen ex hex hr
  exact ((sinv_closed false _).toLoopClosed.basePollNext fuel _ (sinv_reach false limit respCap tcap coupled ops)).t.idle_not_late
    (basePollNext_idle_timers C16_server_flags (reach_now_lt limit respCap tcap coupled ops hT) fuel _
      (qc_reach C16_server_flags limit respCap tcap coupled ops) h) hen hex hr

/-- **… and for the request stream of a channel without limiter.**  After `Requests::poll_next` has ended `Pending`
(or at the end of the stream) at clock `now`: every request still tracked is before the millisecond tick of its deadline,
or was read after its deadline less than a millisecond ago. -/
theorem C06_requests_idle_deadline_tick (respCap tcap : Nat) (coupled : Bool) (ops : List SOp)
    (hT : advSum ops < 2 ^ 35 * nsPerMs) (fuel : Nat)
    (c : Sys) (hc : c = ops.foldl applyOp (initSys none respCap tcap coupled))
    (h : (requestsPollNext fuel c.s c.now).2 = .pending ∨ (requestsPollNext fuel c.s c.now).2 = .none) :
    ∀ en ∈ (requestsPollNext fuel c.s c.now).1.inflight, ∀ ex ∈ (requestsPollNext fuel c.s c.now).1.execs,
      ex.rid = en.rid →
      c.now < ceilMs ex.deadline * nsPerMs ∨
      (ex.deadline < en.dueAt ∧ en.dueAt ≤ c.now ∧ c.now < en.dueAt + nsPerMs) := by
  subst hc
  intro en hen ex hex hr
  exact ((sinv_closed false _).toLoopClosed.requestsPollNext fuel _ (sinv_reach false none respCap tcap coupled ops)).t.idle_not_late
    (requestsPollNext_idle_timers C16_server_flags (reach_now_lt none respCap tcap coupled ops hT) fuel _
      (cfg_reach (initSys none respCap tcap coupled) ops).2.1 (qc_reach C16_server_flags none respCap tcap coupled ops) h)
    hen hex hr

/-- **C06 (c): not late, in terms of the deadline (pre/post).**  If a request is tracked when `BaseChannel::poll_next`
is called at a clock `now` at or after the millisecond tick of its deadline, and its timer was armed no later than the
deadline (`dueAt ≤ deadline`: it was read before its deadline), then when the poll goes idle the request is no longer
tracked and its handler has been aborted (unless a guard cancellation for its id was queued: the application had
already dropped it). -/
theorem C06_deadline_passed_gone (limit : Option Nat) (respCap tcap : Nat) (coupled : Bool) (ops : List SOp)
    (hT : advSum ops < 2 ^ 35 * nsPerMs) (fuel : Nat)
    (c : Sys) (hc : c = ops.foldl applyOp (initSys limit respCap tcap coupled))
    (h : (basePollNext fuel c.s c.now).2 = .pending ∨ (basePollNext fuel c.s c.now).2 = .none)
    (en : SEntry) (hen : en ∈ c.s.inflight) (ex : Exec) (hex : ex ∈ c.s.execs) (hr : ex.rid = en.rid)
    (hpast : ceilMs ex.deadline * nsPerMs ≤ c.now) (harmed : en.dueAt ≤ ex.deadline) :
    (∀ en' ∈ (basePollNext fuel c.s c.now).1.inflight, en'.id ≠ en.id) ∧
    (en.id ∈ c.s.cancelQ ∨ ∀ ex' ∈ (basePollNext fuel c.s c.now).1.execs, ex'.rid = en.rid → ex'.aborted = true) := by
  have hi := sinv_reach false limit respCap tcap coupled ops
  rw [← hc] at hi
  obtain ⟨k, hk, hkey, -⟩ := hi.t.fwd en hen
  have hok := hi.t.dl en hen k hk hkey ex hex hr
  obtain ⟨h3, h4⟩ := hok.tick_lt
  have h2 := hok.hi
  have hdn : ex.deadline ≤ c.now := Nat.le_trans (le_ceil_tick _) hpast
  rw [Nat.max_eq_right hdn] at h2
  exact C06_aborts_at_deadline_pre_post_exact limit respCap tcap coupled ops hT fuel c hc h en hen k hk hkey
    (Nat.le_trans (tick_le_ceil h4 harmed) hpast) (Nat.le_sub_of_add_le' h2)

/-- the request is read and yielded, the application drops it (its guard queues a cancellation), 5 ms pass -/
def c06AbandonedOps : List SOp :=
  [SOp.injectReq 1 1000000 ⟨0, .given 0, false⟩ 0, .pollServer, .dropExec 0, .advance 5000000]

/-- decidable form of "the poll went idle" (`SPoll` has no decidable equality) -/
def SPoll.isIdle {α : Type} : SPoll α → Bool
  | .pending => true
  | .none => true
  | _ => false

theorem SPoll.isIdle_iff {α : Type} {r : SPoll α} (h : SPoll.isIdle r = true) : r = .pending ∨ r = .none := by
  cases r <;> simp [SPoll.isIdle] at h ⊢

/-- **`C06AbortsAtDeadlineStatement` as written is false** — for a benign reason: it demands that the execution of
every due request be *aborted*, but a request the application has already dropped (`drop-exec`; its `ResponseGuard`
queued a cancellation) is forgotten by `remove_request` when the next poll drains the cancellation queue — before the
expiry is looked at — without an abort: there is no handler left to abort.  (`c06AbandonedOps`; nothing is late or
leaked here: entry and timer are gone after the poll.)  `C06_aborts_at_deadline_pre_post` is the corrected form. -/
theorem C06_statement_as_written_false : ¬ C06AbortsAtDeadlineStatement := by
  intro h
  have h1 := h none 1 1 true c06AbandonedOps 5
  have h2 := h1 (SPoll.isIdle_iff (by decide)) { id := 1, timerKey := 0, rid := 0, dueAt := 1000000 } (by decide) (0, 1, 1) (by decide)
    rfl (by decide) rfl
  have h3 : ∃ ex ∈ (basePollNext 5 (c06AbandonedOps.foldl applyOp (initSys none 1 1 true)).s
      (c06AbandonedOps.foldl applyOp (initSys none 1 1 true)).now).1.execs, ex.rid = 0 ∧ ex.aborted = false := by decide
  obtain ⟨ex, hex, hr, ha⟩ := h3
  have := h2.2 ex hex hr
  rw [ha] at this
  cases this

/-! ### non-vacuity -/

/-- two requests (deadlines 1 ms and 3 ms) are read, yielded and started; the clock moves to 2 ms -/
def c06TwoOps : List SOp :=
  [SOp.injectReq 1 1000000 ⟨0, .given 0, false⟩ 0, .pollServer, .pollExec 0,
   .injectReq 2 3000000 ⟨0, .given 0, false⟩ 0, .pollServer, .pollExec 1, .advance 2000000]

/-- The hypotheses are satisfiable and the conclusion is not vacuous: after `c06TwoOps` (clock 2 ms `< 2^35` ms) both
requests are tracked and the first one is due (tick 1 ms, `remainder = 0`); `BaseChannel::poll_next` goes idle
(`Pending`); afterwards only request 2 is tracked, its tick (3 ms) lies after the clock, the handler of request 1 is
aborted and that of request 2 is not; the queue's waker is stored and its `Sleep` fires at 3 ms. -/
example :
    advSum c06TwoOps < 2 ^ 35 * nsPerMs ∧
    (c06TwoOps.foldl applyOp (initSys none 1 1 true)).now = 2000000 ∧
    (c06TwoOps.foldl applyOp (initSys none 1 1 true)).s.inflight.map (fun en => (en.id, en.timerKey, en.remainder)) =
      [(1, 0, 0), (2, 1, 0)] ∧
    (c06TwoOps.foldl applyOp (initSys none 1 1 true)).s.timers.cores = [(0, 1, 1), (1, 2, 3)] ∧
    SPoll.isIdle (basePollNext 5 (c06TwoOps.foldl applyOp (initSys none 1 1 true)).s 2000000).2 = true ∧
    (basePollNext 5 (c06TwoOps.foldl applyOp (initSys none 1 1 true)).s 2000000).1.inflight.map
      (fun en => (en.id, en.timerKey)) = [(2, 1)] ∧
    (basePollNext 5 (c06TwoOps.foldl applyOp (initSys none 1 1 true)).s 2000000).1.timers.cores = [(1, 2, 3)] ∧
    (basePollNext 5 (c06TwoOps.foldl applyOp (initSys none 1 1 true)).s 2000000).1.execs.map
      (fun ex => (ex.rid, ex.aborted)) = [(0, true), (1, false)] ∧
    (basePollNext 5 (c06TwoOps.foldl applyOp (initSys none 1 1 true)).s 2000000).1.timers.waker = true ∧
    (basePollNext 5 (c06TwoOps.foldl applyOp (initSys none 1 1 true)).s 2000000).1.timers.nextFire = some 3000000 := by
  decide +kernel

/-- the same through the request stream (`Requests::poll_next`), which ends `Pending` -/
example :
    (requestsPollNext 5 (c06TwoOps.foldl applyOp (initSys none 1 1 true)).s 2000000).2 = .pending ∧
    (requestsPollNext 5 (c06TwoOps.foldl applyOp (initSys none 1 1 true)).s 2000000).1.timers.cores = [(1, 2, 3)] := by
  decide +kernel

/-! ### where the tick is placed: a re-arm does not round up a second time -/

/-- a request read at 1 ns whose deadline is one clamp + 10 ms away; the channel is polled when the first timer fires (at
`clampNs + 1 ms`, the millisecond tick of `1 ns + clampNs`), and again exactly at the deadline -/
def c06RearmLateOps : List SOp :=
  [.advance 1, .injectReq 1 (clampNs + 10000000) ⟨0, .given 0, false⟩ 0, .pollServer, .pollExec 0,
   .advance (clampNs + 1000000 - 1), .pollServer, .advance 9000000, .pollServer, .pollExec 0]

/-- **A re-arm does not round up a second time.**  The request is read at `t0 = 1 ns`
with deadline `D = clampNs + 10 ms` (a whole millisecond).  `start_request` arms `clampNs` (due at `1 ns + clampNs`,
tick `clampNs + 1 ms`) and keeps `remainder = 10 ms − 1 ns`.  Polled exactly at that tick, `poll_expired` measures the
lateness from the exact due time the entry records (`dueAt`, `timer_due`): `late = 1 ms − 1 ns`, `rest = 9 ms`, new due
time `clampNs + 1 ms + 9 ms = D`, tick `D`.  The channel polled at `D` expires the request — table and timer queue empty,
handler aborted — and the server-side C06 monitor (`monC06`, whose model of the tick is `ceil_ms (max deadline yielded)`)
accepts the trace.  (Measured from the queue's *rounded* tick instead, `late` would be 0 here, the re-arm due at
`D + 1 ms − 1 ns`, and the monitor would reject the trace: each re-arm could add up to 1 ms.  `C06_timer_exact`:
`dueAt + remainder = deadline` exactly, for deadlines still ahead.) -/
theorem C06_rearm_not_late_witness :
    advSum c06RearmLateOps < 2 ^ 35 * nsPerMs ∧
    (c06RearmLateOps.foldl applyOp (initSys none 1 1 true)).now = clampNs + 10000000 ∧
    (c06RearmLateOps.foldl applyOp (initSys none 1 1 true)).s.inflight = [] ∧
    (c06RearmLateOps.foldl applyOp (initSys none 1 1 true)).s.timers.cores = [] ∧
    (c06RearmLateOps.foldl applyOp (initSys none 1 1 true)).s.execs.map (fun e => (e.deadline, e.aborted, e.phase)) =
      [(clampNs + 10000000, true, .done)] ∧
    (monC06 none (trace (initSys none 1 1 true) c06RearmLateOps)).ok = true ∧
    -- before the poll at `D`: re-armed once, due exactly at the deadline, nothing left to arm
    ((c06RearmLateOps.take 6).foldl applyOp (initSys none 1 1 true)).s.inflight =
      [{ id := 1, timerKey := 1, rid := 0, remainder := 0, dueAt := clampNs + 10000000 }] := by
  decide +kernel

/-! ### beyond the bound on the clock -/

/-- the clock (ms) from which a one-year timeout lands in the top wheel level's slot 0 of the *next* rotation -/
def c06WheelLagStartMs : Nat := 2 ^ 36 + 2 - clampNs / nsPerMs

/-- request 1 (deadline 64 ms) expires at 64 ms — the only time the wheel clock (`elapsed`) ever moves: it stays at 64;
≈ 430 days later request 2 arrives with a deadline two years away (armed with the one-year clamp: tick `2^36 + 2` ms) and
request 3 with a deadline 5 ms away; 5 ms later the channel is polled -/
def c06WheelLagOps : List SOp :=
  [.injectReq 1 (64 * nsPerMs) ⟨0, .given 0, false⟩ 0, .pollServer, .pollExec 0, .advance (64 * nsPerMs), .pollServer,
   .pollExec 0, .advance ((c06WheelLagStartMs - 64) * nsPerMs),
   .injectReq 2 (c06WheelLagStartMs * nsPerMs + 2 * clampNs) ⟨0, .given 0, false⟩ 0, .pollServer, .pollExec 1,
   .injectReq 3 ((c06WheelLagStartMs + 5) * nsPerMs) ⟨0, .given 0, false⟩ 0, .pollServer, .pollExec 2,
   .advance (5 * nsPerMs), .pollServer, .pollExec 2]

/-- **The bound on the clock is not an artefact (tarpc-level consequence of the timer-wheel defect
`DelayQ.C05_delayq_late_witness` and of the lag of the wheel clock, F9).**  A server channel whose timer wheel last
advanced within its first 12 days (one early expiry; only an *expiring* timer moves `wheel.elapsed`) reads, after ≈ 430
days (`2^36 ms − 1 year`), a request whose deadline is at least a year away.  The clamped timer (tick `2^36 + 2` ms) passes
`DelayQueue::insert`'s range check and is filed in slot 0 of the top wheel level, one rotation ahead; from then on
`Level::next_expiration` takes it for the wheel's next expiration: a request with a 5 ms deadline read next is *not*
aborted when the channel is polled at its deadline (nothing is yielded, the `Sleep` is re-armed for `2^36 + 34·2^30` ms
≈ 3.3 years; no panic, the channel is not poisoned), and `monC06` rejects the trace.  The same script shape on the client:
`Client.C05_wheel_lag_witness`. -/
theorem C06_wheel_lag_witness :
    ¬ advSum c06WheelLagOps < 2 ^ 35 * nsPerMs ∧
    (c06WheelLagOps.foldl applyOp (initSys none 2 4 true)).now = (c06WheelLagStartMs + 5) * nsPerMs ∧
    (c06WheelLagOps.foldl applyOp (initSys none 2 4 true)).s.poisoned = false ∧
    (c06WheelLagOps.foldl applyOp (initSys none 2 4 true)).s.inflight.map (fun e => (e.id, e.remainder, e.dueAt)) =
      [(2, clampNs, (2 ^ 36 + 2) * nsPerMs), (3, 0, (c06WheelLagStartMs + 5) * nsPerMs)] ∧
    (c06WheelLagOps.foldl applyOp (initSys none 2 4 true)).s.execs.map (fun e => (e.id, e.deadline, e.aborted, e.phase)) =
      [(1, 64 * nsPerMs, true, EPhase.done),
       (2, c06WheelLagStartMs * nsPerMs + 2 * clampNs, false, EPhase.running),
       (3, (c06WheelLagStartMs + 5) * nsPerMs, false, EPhase.running)] ∧
    (c06WheelLagOps.foldl applyOp (initSys none 2 4 true)).s.timers.nextFire = some ((2 ^ 36 + 34 * 2 ^ 30) * nsPerMs) ∧
    (monC06 none (trace (initSys none 2 4 true) c06WheelLagOps)).ok = false := by
  decide +kernel

end TarpcModel.Server
