import TarpcModel.Lemmas.ServerMon06
/-!
# C06 (server side) — the never-early clause of the run-time monitor `monC06` accepts every trace of the model

Property theorems only.  The first clause of `checkC06` (`Monitors/Server.lean`) judges every
`handler r dropped t` observation — the `Abortable` wrapper of an execution found its abort flag set when it was
polled, and dropped the handler — : unless the application itself is dropping the execution (`drop-exec r`), the
request stream has been dropped, or a `Cancel` for the request's id was read while the monitor's table listed the
execution, `t` must not be before the deadline the request was handed out with.

`checkC06Early` (`Lemmas/ServerMon06.lean`) is that clause alone, `checkC06Rest` the other two clauses (a handler
still *running*, a response still *transmitted*, after the channel was polled past the deadline — the "enforced"
direction, where the limiter stall F7 lives); `C06S_check_split`: `checkC06` fires iff the never-early clause fires
or, that failing, one of the others.

The proof couples the monitor's `Book` with the model's state (`Mon06.K`: the book's table lists every tracked,
unexpired, unabandoned execution under its number; every aborted execution has a reason the book knows — its
`cancelRead` mark, `dropped`, or the clock past its deadline), walks that coupling through `Requests::poll_next`
(`J_requestsPollNext`; the expiry path uses `TInv.expire_ab`: whatever `poll_expired` aborts is past its deadline)
and through every other op, and links it to `Mon.run` (`c06_trace`).
-/
namespace TarpcModel.Server
open TarpcModel TarpcModel.Server.Mon06

/-- `checkC06` is its never-early clause followed by the two "enforced" clauses. -/
theorem C06S_check_split (b : Book) (u : Unit) (e : SEv) :
    (checkC06 b u e).2 = (checkC06Early b u e).2.orElse fun _ => (checkC06Rest b u e).2 :=
  checkC06_split b u e

/-- **C06 (server), monitor form, never early.**  For every configuration and every script over all ops —
whatever deadlines the requests carry, with cancellations, abandoned executions, re-used ids, transport faults,
the limiter at its limit — the clause "handler dropped before its deadline" of the C06 monitor never fires on the
model's trace: when `poll-exec` reports a handler dropped, a `Cancel` for the request was read while the monitor
still listed it, or the request stream has been dropped, or the clock has reached the deadline the request was
handed out with. -/
theorem C06S_never_early_monitor_accepts (limit : Option Nat) (respCap tcap : Nat) (coupled : Bool) (ops : List SOp) :
    (monC06Early limit (trace (initSys limit respCap tcap coupled) ops)).ok = true := by
  unfold Mon.ok
  rw [c06_early_accepts]; rfl

/-- Hence: whenever the full C06 monitor rejects a trace of the model, the clause that fired is one of the two
"deadline enforced" clauses (`checkC06Rest`) — at the event at which `checkC06` fires, with the book the monitor
has there, if the never-early clause is silent then `checkC06Rest` fires with the same message. -/
theorem C06S_alarm_is_enforcement_clause (b : Book) (u : Unit) (e : SEv) (why : String)
    (hc : (checkC06Early b u e).2 = none) (h : (checkC06 b u e).2 = some why) :
    (checkC06Rest b u e).2 = some why := by
  rw [checkC06_split, hc] at h
  exact h

/-- Non-vacuity: the monitor runs over traces in which `poll-exec` reports dropped handlers for each of the
accepted reasons — the deadline passed (expiry at 5 ms of a 1 ms deadline), a `Cancel` read, the stream dropped —
and accepts them; the observations are there. -/
example :
    let expiry := trace (initSys none 1 1 true)
      [.injectReq 1 1000000 ⟨0, .given 0, false⟩ 0, .pollServer, .pollExec 0, .advance 5000000, .pollServer, .pollExec 0]
    let cancel := trace (initSys none 1 4 true)
      [.injectReq 1 5000000 ⟨7, .given 1, true⟩ 0, .pollServer, .pollExec 0, .injectCancel 1 ⟨7, .given 1, true⟩,
       .pollServer, .pollExec 0]
    let dropped := trace (initSys none 1 1 true)
      [.injectReq 1 5000000 ⟨0, .given 0, false⟩ 0, .pollServer, .pollExec 0, .dropServer, .pollExec 0]
    (monC06Early none expiry).ok = true ∧ SEv.obs (.handler 0 .dropped 5000000) ∈ expiry ∧
    (monC06Early none cancel).ok = true ∧ SEv.obs (.handler 0 .dropped 0) ∈ cancel ∧
    (monC06Early none dropped).ok = true ∧ SEv.obs (.handler 0 .dropped 0) ∈ dropped := by
  decide

/-- The clause is not vacuous: a handler reported dropped by `poll-exec` before its deadline, with no `Cancel`
read and the stream alive, is rejected. -/
example :
    (monC06Early none
      [.op .pollServer, .obs (.yielded 0 1 5000000 ⟨0, .fresh 0, false⟩), .op (.pollExec 0),
       .obs (.handler 0 .dropped 0)]).ok = false := by
  decide

end TarpcModel.Server
