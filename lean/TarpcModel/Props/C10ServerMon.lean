import TarpcModel.Lemmas.ServerMon14
/-!
# C10 (server side) — the run-time monitor `monC10` accepts every trace of the server model

Property theorems only.  `monC10` (`Monitors/Server.lean`, `checkC10`) counts the responses written to the sink
since the last completed flush and, when the request stream ends (`Ready(None)`), demands that the inbound side
had ended (an `eof` was read, `Book.eofSeen`) and that nothing written is left unflushed.
-/
namespace TarpcModel.Server
open TarpcModel TarpcModel.Server.FlowMon

/-- **C10 (server), monitor form.**  For every configuration and every script over all ops the C10 monitor
accepts the model's trace: whenever the model ends the request stream, an end-of-stream has been read from the
transport in this or an earlier poll, and the last write-side call before the end was a `poll_flush → Ready`
that covered every response written. -/
theorem C10S_monitor_accepts (limit : Option Nat) (respCap tcap : Nat) (coupled : Bool) (ops : List SOp) :
    (monC10 limit (trace (initSys limit respCap tcap coupled) ops)).ok = true :=
  (monitors_accept none none limit limit respCap tcap coupled ops).2.2

/-- Non-vacuity: the monitor runs over a trace in which the stream ends after a response was written and flushed
(its count is back at 0), and over one in which the end of the inbound stream was read an op earlier than the
stream's end. -/
example :
    let m := monC10 none (trace (initSys none 1 1 true)
      [.injectReq 1 1000000000 ⟨0, .given 0, false⟩ 0, .pollServer, .eof, .pollServer, .finish 0 (.ok 7), .pollExec 0,
       .pollServer])
    m.ok = true ∧ m.st = 0 ∧ m.book.streamDone = true ∧ m.book.eofSeen = true ∧ m.book.respWritten = [(1, .ok 7)] := by
  decide

/-- … while a response is written but its flush is blocked the count stays at 1 and the stream does not end. -/
example :
    let m := monC10 none (trace (initSys none 1 2 true)
      [.injectReq 1 1000000000 ⟨0, .given 0, false⟩ 0, .pollServer, .eof, .finish 0 (.ok 7), .pollExec 0,
       .setFlush false, .pollServer])
    m.ok = true ∧ m.st = 1 ∧ m.book.streamDone = false := by
  decide

end TarpcModel.Server
