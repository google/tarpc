import TarpcModel.Lemmas.ServerParkQ
import TarpcModel.Props.C02Server
/-!
# C02 (server) — nothing is stuck

`C02ServerNoStuckStatement` (`Props/C02Server.lean`) as written is **false** (`C02ServerNoStuckStatement_false`): with a
request limit, the `MaxRequests` limiter at its limit returns `Pending` from `poll_ready → Pending` *without flushing*
and relies on the sink to wake it when the write pump's own flush makes room; a sink that does not wake its owner for the
owner's own flush (`selfWake false`: a staging sink) leaves the stream task parked with an unread request and a ready
transport (the script of `C02S_limiter_needs_self_wake_witness`, here with a limit ≥ 1 as the statement demands).

`C02S_no_stuck : C02ServerNoStuckStatement'` is the statement with the missing hypothesis: **no request limit, or a
script that never switches the sink's self-wake off**.  Then, from any reachable state, once `settle` has polled
everything that is woken, no response is left queued and no inbound item unread with the sink ready.  No clock bound is
needed (`stuck` does not judge a panicked task).

The proof is the invariant `SPI` of `Lemmas/ServerParkQ.lean` (`reach_spi`): an alive stream task that has not been
woken since its last poll is parked on a sink that is not ready (holding its write waker), or registered both on the
empty response queue and on the empty inbound queue (or the read side has ended).
-/
namespace TarpcModel.Server
open Flow

/-- the global statement with the hypothesis it needs -/
def C02ServerNoStuckStatement' : Prop :=
  ∀ (limit : Option Nat) (respCap tcap : Nat) (coupled : Bool) (ops : List SOp),
    (limit = none ∨ SelfWakeOn ops) →
    (settle (ops.foldl applyOp (initSys limit respCap tcap coupled))).2 = []

/-- `settle` only polls: the state it stops in is reachable by a script of polls -/
theorem settleLoop_reach (fuel : Nat) (c : Sys) :
    ∃ ops', settleLoop fuel c = ops'.foldl applyOp c ∧ SelfWakeOn ops' := by
  induction fuel generalizing c with
  | zero => exact ⟨[], rfl, fun _ h => by cases h⟩
  | succ fuel ih =>
    unfold settleLoop
    split
    · obtain ⟨ops', h1, h2⟩ := ih { c with s := pollServer c.s c.now }
      refine ⟨.pollServer :: ops', by rw [h1]; rfl, ?_⟩
      intro op hop
      rcases List.mem_cons.mp hop with e | e
      · rw [e]; simp
      · exact h2 op e
    · split
      · rename_i v _
        obtain ⟨ops', h1, h2⟩ := ih { c with s := pollExec c.s v c.now }
        refine ⟨.pollExec v :: ops', by rw [h1]; rfl, ?_⟩
        intro op hop
        rcases List.mem_cons.mp hop with e | e
        · rw [e]; simp
        · exact h2 op e
      · exact ⟨[], rfl, fun _ h => by cases h⟩

/-- **C02 (server), the global statement**: after `settle`, no queued response and no unread inbound item is left with
the sink ready — for a server without a request limit, or a sink that keeps waking its owner. -/
theorem C02S_no_stuck : C02ServerNoStuckStatement' := by
  intro limit respCap tcap coupled ops henv
  unfold settle
  simp only
  split
  · rfl
  · rename_i hq
    simp only [Bool.or_eq_true, not_or, Bool.not_eq_true] at hq
    obtain ⟨hrun, _⟩ := hq
    obtain ⟨ops', hreach, hsw'⟩ := settleLoop_reach 400 (ops.foldl applyOp (initSys limit respCap tcap coupled))
    have hfold : settleLoop 400 (ops.foldl applyOp (initSys limit respCap tcap coupled)) =
        (ops ++ ops').foldl applyOp (initSys limit respCap tcap coupled) := by
      rw [hreach, List.foldl_append]
    have henv' : limit = none ∨ SelfWakeOn (ops ++ ops') := by
      rcases henv with e | e
      · exact Or.inl e
      · right
        intro op hop
        rcases List.mem_append.mp hop with x | x
        · exact e op x
        · exact hsw' op x
    have hI := reach_spi limit respCap tcap coupled (ops ++ ops') henv'
    rw [hfold] at hrun ⊢
    generalize ((ops ++ ops').foldl applyOp (initSys limit respCap tcap coupled)).s = s at hrun hI ⊢
    unfold stuck
    split
    · rfl
    · rename_i hc
      simp only [Bool.or_eq_true, not_or, Bool.not_eq_true, Bool.not_eq_eq_eq_not, Bool.not_true,
        Option.isSome_eq_false_iff, Option.isNone_iff_eq_none] at hc
      obtain ⟨⟨⟨⟨hd, hdn⟩, hp⟩, hr⟩, hf⟩ := hc
      have hr' : s.t.isReadyNow = true := by simpa using hr
      have hwk : s.woken = false := by
        unfold serverRunnable at hrun
        rw [hd, hdn, hp] at hrun
        simpa using hrun
      rcases hI hd hdn hp hwk with x | ⟨x, y⟩
      · rw [x.1] at hr'; cases hr'
      · rw [x.1]
        rcases y with ⟨y1, _⟩ | y
        · rw [y1]; rfl
        · rw [y]; simp

/-- the stall script with a request limit of 1: one request is being served; three more arrive; the sink does not wake
its owner for the owner's own flush -/
def limiterStallOps : List SOp :=
  [.selfWake false, .injectReq 1 1000000000 ⟨0, .given 0, false⟩ 0, .pollServer,
   .injectReq 2 1000000000 ⟨0, .given 0, false⟩ 0, .injectReq 3 1000000000 ⟨0, .given 0, false⟩ 0,
   .injectReq 4 1000000000 ⟨0, .given 0, false⟩ 0, .pollServer]

theorem limiterStallOps_stuck :
    (settle (limiterStallOps.foldl applyOp (initSys (some 1) 1 2 true))).2 = ["inbound-unread=1"] := by
  decide +kernel

/-- **The statement as first written is false**: the limiter relies on the sink's self-wake. -/
theorem C02ServerNoStuckStatement_false : ¬ C02ServerNoStuckStatement := by
  intro h
  have := h (some 1) 1 2 true limiterStallOps (by decide) (by decide) (by intro l hl; cases hl; decide)
  rw [limiterStallOps_stuck] at this
  cases this

/-- the witness violates the new hypothesis, as it must; the same script with a self-waking sink is fine -/
example : ¬ SelfWakeOn limiterStallOps := fun h => h (.selfWake false) (by simp [limiterStallOps]) rfl

example : (settle ((limiterStallOps.drop 1).foldl applyOp (initSys (some 1) 1 2 true))).2 = [] := by decide +kernel

end TarpcModel.Server
