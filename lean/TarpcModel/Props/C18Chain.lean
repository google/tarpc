import TarpcModel.Lemmas.ChainNI
/-!
# C18 (service chains) — the trace context follows the request, and only that request

"The trace id and sampling decision a request is transmitted with are what the server handler
observes, what any nested call made with the handler's context carries, and — together with the
request's span id — what that request's cancellation message carries, while each hop gets a fresh
span id.  Absent a tracing subscriber the transmitted trace id is the one the caller supplied, and
concurrent requests never exchange trace contexts."

Property theorems only, about the chain model `TarpcModel.Chain` (`Chain.lean`): chains of any
depth, any number of concurrent calls, with and without a request limit, every op sequence
(cancellation at every point the scripts can reach).  The monitor `mon` (`Monitors/Chain.lean`) is
the decidable predicate the check evaluates on the implementation's trace.
-/
namespace TarpcModel.Chain

/-- **C18 (chain).**  In every reachable state, for every call and every hop of the chain: the
request written at that hop and the context its handler observed carry the trace id and sampling
decision the caller supplied for that call (so does every nested call, which is the next hop's
request). -/
theorem C18_chain (depth : Nat) (limit : Option Nat) (ops : List Op)
    (cl : Call) (hcl : cl ∈ (run (init depth limit) ops).1.calls) (hp : Hop) (hhp : hp ∈ cl.hops) :
    (∀ t, hp.req = some t → t.traceId = cl.ctx.traceId ∧ t.sampled = cl.ctx.sampled) ∧
    (∀ t, hp.seen = some t → t.traceId = cl.ctx.traceId ∧ t.sampled = cl.ctx.sampled) := by
  have h := ((run_inv depth limit ops).calls cl hcl).tr hp hhp
  exact ⟨h.req, h.seen⟩

/-- **C18: `cl.ctx` is the caller-supplied context.**  Every call in a reachable state was created
by a `start` op of the script carrying exactly the call's id, trace context, deadline and stop. -/
theorem C18_ctx_from_start (depth : Nat) (limit : Option Nat) (ops : List Op)
    (cl : Call) (hcl : cl ∈ (run (init depth limit) ops).1.calls) :
    Op.start cl.id cl.ctx cl.deadline cl.stop ∈ ops := by
  rcases runTrace_sig (init depth limit) ops cl hcl with ⟨cl0, h0, _⟩ | h
  · simp [init] at h0
  · exact h

/-- **C18: each hop gets a fresh span id.**  All spans written or observed for a call (request and
handler, hop by hop) are pairwise distinct random spans, hence different from the caller's span. -/
theorem C18_spans_fresh (depth : Nat) (limit : Option Nat) (ops : List Op)
    (cl : Call) (hcl : cl ∈ (run (init depth limit) ops).1.calls) :
    (chainSpans cl.hops).Nodup ∧ (∀ sp ∈ chainSpans cl.hops, isFresh sp = true ∧ sp ≠ cl.ctx.span) ∧
    givenSpan cl.ctx.span = true := by
  have h := (run_inv depth limit ops).calls cl hcl
  refine ⟨h.nodup, ?_, h.given⟩
  intro sp hm
  obtain ⟨j, _, e⟩ := h.below sp hm
  subst e
  refine ⟨rfl, ?_⟩
  intro e
  have := h.given
  rw [← e] at this
  simp [givenSpan] at this

/-- **C18: request and cancel agree.**  The cancel written at hop `i` for a call carries exactly the
trace context (trace id, span id, sampling decision) of the request written at hop `i` for it. -/
theorem C18_request_cancel_agree (depth : Nat) (limit : Option Nat) (ops : List Op)
    (cl : Call) (hcl : cl ∈ (run (init depth limit) ops).1.calls) (hp : Hop) (hhp : hp ∈ cl.hops)
    (t : Trace) (ht : hp.cancel = some t) : hp.req = some t :=
  (((run_inv depth limit ops).calls cl hcl).tr hp hhp).cancel t ht

/-- **C18: concurrent requests never exchange trace contexts (non-interference).**  Replace, in
every `start` op of every call other than `c`, the trace id and sampling decision by arbitrary
other values (`A c'`, `B c'`): call `c`'s record in the final state — every request, observed
context and cancel at every hop — is unchanged, and so is every observation line about `c`. -/
theorem C18_no_exchange (depth : Nat) (limit : Option Nat) (ops : List Op) (c : Nat)
    (A : Nat → Nat) (B : Nat → Bool) :
    findCall c (run (init depth limit) (ops.map (retagOp c A B))).1.calls =
      findCall c (run (init depth limit) ops).1.calls ∧
    (run (init depth limit) (ops.map (retagOp c A B))).2.filter (fun o => o.call == some c) =
      (run (init depth limit) ops).2.filter (fun o => o.call == some c) := by
  have h := runTrace_retag c A B (init depth limit) ops
  rw [retagSt_init] at h
  simp only [run, h]
  refine ⟨findCall_retag_self c A B _, ?_⟩
  rw [List.flatMap_map, ← List.map_flatMap, filter_retagObs_self]

/-- … and the other calls change only by that replacement: the whole run commutes with it. -/
theorem C18_no_exchange_run (depth : Nat) (limit : Option Nat) (ops : List Op) (c : Nat)
    (A : Nat → Nat) (B : Nat → Bool) :
    (run (init depth limit) (ops.map (retagOp c A B))).1 = retagSt c A B (run (init depth limit) ops).1 := by
  have h := runTrace_retag c A B (init depth limit) ops
  rw [retagSt_init] at h
  simp only [run, h]

/-- **C04 + C18 (monitor form).**  For every depth, limit and op sequence the monitor accepts the
model's trace: every request and handler line carries its call's caller-supplied trace id, sampling
decision and deadline and a span never seen before in the trace; every cancel line carries exactly
its hop's request context and is written only for an abandoned call; handlers are dropped only for
abandoned calls; and at the end of every `run` no handler of an abandoned call is running. -/
theorem chain_monitor_accepts (depth : Nat) (limit : Option Nat) (ops : List Op) :
    (mon depth (runTrace (init depth limit) ops).2).ok = true :=
  (foldl_monPair_coupled _ _ ops (init_inv depth limit) (monInit_coupled depth limit)).ok

/-- Non-vacuity: depth 3, two concurrent calls with different trace ids and sampling decisions,
call 0 abandoned mid-chain (at hop 2).  Its cancels repeat its requests' contexts; call 1's lines
carry call 1's trace id throughout; every span is new. -/
example :
    (run (init 3 none)
      [.start 0 ⟨5, .given 1, true⟩ 1000000000 2, .start 1 ⟨6, .given 2, false⟩ 2000000000 3, .run,
       .abandon 0, .run]).2 =
    [.wireReq 1 0 ⟨5, .fresh 0, true⟩ 1000000000, .handler 1 0 ⟨5, .fresh 1, true⟩ 1000000000,
     .wireReq 2 0 ⟨5, .fresh 2, true⟩ 1000000000, .handler 2 0 ⟨5, .fresh 3, true⟩ 1000000000,
     .wireReq 1 1 ⟨6, .fresh 4, false⟩ 2000000000, .handler 1 1 ⟨6, .fresh 5, false⟩ 2000000000,
     .wireReq 2 1 ⟨6, .fresh 6, false⟩ 2000000000, .handler 2 1 ⟨6, .fresh 7, false⟩ 2000000000,
     .wireReq 3 1 ⟨6, .fresh 8, false⟩ 2000000000, .handler 3 1 ⟨6, .fresh 9, false⟩ 2000000000,
     .wireCancel 1 0 ⟨5, .fresh 0, true⟩, .dropped 1 0, .wireCancel 2 0 ⟨5, .fresh 2, true⟩, .dropped 2 0] := by
  decide +kernel

/-- The monitor is not vacuous: it rejects a trace whose cancel carries another trace id, one whose
handler observed another call's trace id, and one in which an abandoned call's handler survives. -/
example :
    (mon 1 [(.start 0 ⟨5, .given 1, true⟩ 1000 1, []),
            (.run, [.wireReq 1 0 ⟨5, .fresh 0, true⟩ 1000, .handler 1 0 ⟨5, .fresh 1, true⟩ 1000]),
            (.abandon 0, []),
            (.run, [.wireCancel 1 0 ⟨6, .fresh 0, true⟩, .dropped 1 0])]).ok = false ∧
    (mon 1 [(.start 0 ⟨5, .given 1, true⟩ 1000 1, []), (.start 1 ⟨6, .given 1, true⟩ 1000 1, []),
            (.run, [.wireReq 1 0 ⟨5, .fresh 0, true⟩ 1000, .handler 1 0 ⟨6, .fresh 1, true⟩ 1000])]).ok = false ∧
    (mon 1 [(.start 0 ⟨5, .given 1, true⟩ 1000 1, []),
            (.run, [.wireReq 1 0 ⟨5, .fresh 0, true⟩ 1000, .handler 1 0 ⟨5, .fresh 1, true⟩ 1000]),
            (.abandon 0, []),
            (.run, [.wireCancel 1 0 ⟨5, .fresh 0, true⟩])]).ok = false ∧
    (mon 1 [(.start 0 ⟨5, .given 1, true⟩ 1000 1, []),
            (.run, [.wireReq 1 0 ⟨5, .fresh 0, true⟩ 1000, .handler 1 0 ⟨5, .fresh 1, true⟩ 1000]),
            (.abandon 0, []),
            (.run, [.wireCancel 1 0 ⟨5, .fresh 0, true⟩, .dropped 1 0])]).ok = true := by
  decide +kernel

end TarpcModel.Chain
