import TarpcModel.Lemmas.C15Stream
/-!
# C15 (stream-level half) — transports deliver every message, whole, once, in order, then end-of-stream

Property theorems only.  Models: `Wire/Frame.lean` (the length-delimited framing of
`tarpc::serde_transport` as a streaming decoder) and `Wire/Queue.lean` (the FIFO that a transport pair is
at the message level: the in-memory channels, and the framed transport once bytes are abstracted away).
Both models are tied to the real code by the `c15frame` / `c15e2e` correspondence families
(`Driver/C15Stream.lean`, `harness/src/c15stream.rs`).

All theorems are for every maximum frame length `max < 2^32` (tokio-util clamps `max_frame_len` to what
the 4-byte length field can express; the default is 8 MiB), every number of frames, every payload and
**every** way of cutting the byte stream into chunks, empty chunks (reads that made no progress) included.
-/
namespace TarpcModel.Wire

/-! ## Framing -/

/-- The encoder accepts exactly the payloads of at most `max` bytes, and writes `frame p`. -/
theorem C15_encode_accepts_iff (max : Nat) (p : Payload) :
    (encode max p = some (frame p) ↔ p.length ≤ max) ∧ (encode max p = none ↔ max < p.length) := by
  unfold encode
  by_cases h : p.length > max <;> simp [h] <;> omega

/-- **C15, framing, complete streams.**  Take any payloads `ps` the encoder accepts, concatenate their
frames, and hand the bytes to the decoder in chunks `cs` cut anywhere (inside headers, inside bodies,
several frames per chunk, empty chunks).  The decoder emits exactly `ps`, in order, is back in its
initial state (nothing buffered), and an EOF now is a clean end of stream. -/
theorem C15_frame_stream (max : Nat) (hmax : max < 4294967296) (ps : List Payload)
    (hlen : ∀ p ∈ ps, p.length ≤ max) (cs : List (List UInt8))
    (hcs : cs.flatten = (ps.map frame).flatten) :
    feedAll (initDec max) cs = (initDec max, ps) ∧
    finish (feedAll (initDec max) cs).1 = .clean := by
  have h : feedAll (initDec max) cs = (initDec max, ps) := by
    rw [feedAll_frames_tail max hmax ps hlen [] cs (by simpa using hcs), push_nil, initDec_drained]
    simp
  exact ⟨h, by rw [h]; rfl⟩

/-- **C15, framing: chunk boundaries are invisible.**  For *any* bytes (valid or not), two ways of
cutting the same byte stream give the same frames and the same decoder state. -/
theorem C15_frame_prefix_independent (max : Nat) (cs cs' : List (List UInt8))
    (h : cs.flatten = cs'.flatten) :
    feedAll (initDec max) cs = feedAll (initDec max) cs' := by
  rw [feedAll_eq _ (initDec_drained max), feedAll_eq _ (initDec_drained max), h]

/-- Same, for the emitted frames and the verdict at EOF. -/
theorem C15_frame_prefix_independent' (max : Nat) (cs cs' : List (List UInt8))
    (h : cs.flatten = cs'.flatten) :
    (feedAll (initDec max) cs).2 = (feedAll (initDec max) cs').2 ∧
    finish (feedAll (initDec max) cs).1 = finish (feedAll (initDec max) cs').1 := by
  rw [C15_frame_prefix_independent max cs cs' h]; exact ⟨rfl, rfl⟩

/-- **C15, framing, truncated streams.**  Cut the stream strictly inside a frame (`0 < k < |frame p|`
bytes of it arrive).  The frames emitted are exactly the complete ones before the cut — never a short
message — and EOF is reported as an error, **except** when the cut falls exactly between the 4-byte
header and a non-empty body (`k = 4`): the read buffer is then empty and
`Decoder::decode_eof` (which looks at the buffer, not at the codec's `Data(n)` state) reports a clean end
of stream. -/
theorem C15_frame_truncated (max : Nat) (hmax : max < 4294967296) (ps : List Payload)
    (hlen : ∀ p ∈ ps, p.length ≤ max) (p : Payload) (hp : p.length ≤ max)
    (k : Nat) (hk0 : 0 < k) (hk : k < (frame p).length) (cs : List (List UInt8))
    (hcs : cs.flatten = (ps.map frame).flatten ++ (frame p).take k) :
    (feedAll (initDec max) cs).2 = ps ∧
    finish (feedAll (initDec max) cs).1 = if k = 4 then .clean else .truncated := by
  rw [feedAll_frames_tail max hmax ps hlen _ cs hcs]
  rw [frame_length] at hk
  by_cases h4 : k < 4
  · rw [drainAll_cut_header (initDec max) p k rfl rfl h4]
    have hne : k ≠ 4 := by omega
    refine ⟨by simp, ?_⟩
    have : ((frame p).take k) ≠ [] :=
      List.ne_nil_of_length_pos (by simp [frame_length]; omega)
    simp [finish, initDec, DecState.push, hne, this]
  · obtain ⟨j, rfl⟩ : ∃ j, k = j + 4 := ⟨k - 4, by omega⟩
    rw [drainAll_cut_body (initDec max) p j rfl rfl rfl hp hmax (by omega)]
    refine ⟨by simp, ?_⟩
    by_cases hj : j = 0
    · subst hj; simp [finish, initDec]
    · have : p.take j ≠ [] := List.ne_nil_of_length_pos (by simp; omega)
      simp [finish, initDec, this, hj]

/-- The naive statement: *every* cut strictly inside a frame is reported as an error. -/
def C15FrameTruncatedAlwaysErrorStatement : Prop :=
  ∀ (max : Nat), max < 4294967296 → ∀ (ps : List Payload), (∀ p ∈ ps, p.length ≤ max) →
  ∀ (p : Payload), p.length ≤ max → ∀ (k : Nat), 0 < k → k < (frame p).length →
  ∀ (cs : List (List UInt8)), cs.flatten = (ps.map frame).flatten ++ (frame p).take k →
    finish (feedAll (initDec max) cs).1 = .truncated

/-- It holds for every cut except the one right after a header … -/
theorem C15_frame_truncated_partial (max : Nat) (hmax : max < 4294967296) (ps : List Payload)
    (hlen : ∀ p ∈ ps, p.length ≤ max) (p : Payload) (hp : p.length ≤ max)
    (k : Nat) (hk0 : 0 < k) (hk : k < (frame p).length) (hk4 : k ≠ 4) (cs : List (List UInt8))
    (hcs : cs.flatten = (ps.map frame).flatten ++ (frame p).take k) :
    (feedAll (initDec max) cs).2 = ps ∧ finish (feedAll (initDec max) cs).1 = .truncated := by
  have := C15_frame_truncated max hmax ps hlen p hp k hk0 hk cs hcs
  simpa [hk4] using this

/-- … and fails there: the stream `00 00 00 02` (a header announcing two bytes, then EOF) is reported
as a clean end of stream by the model of tokio-util's `FramedRead` + `LengthDelimitedCodec`.  The
`c15frame` correspondence family shows the real code doing the same.  No short message is delivered,
but the reader cannot tell this truncation from an orderly close. -/
theorem C15_frame_truncated_after_header_witness :
    ¬ C15FrameTruncatedAlwaysErrorStatement := by
  intro h
  have := h defaultMaxFrameLen (by decide) [] (by simp) [1, 2] (by decide) 4 (by decide) (by decide)
    [[0, 0, 0, 2]] (by decide)
  revert this
  decide

/-- **C15, framing, oversize header.**  A length prefix above `max` after any number of good frames:
the good frames are delivered, the stream fails (it is never re-synchronised), nothing else is
emitted whatever follows. -/
theorem C15_frame_oversize (max : Nat) (hmax : max < 4294967296) (ps : List Payload)
    (hlen : ∀ p ∈ ps, p.length ≤ max) (n : Nat) (hn : max < n) (hn32 : n < 4294967296)
    (junk : List UInt8) (cs : List (List UInt8))
    (hcs : cs.flatten = (ps.map frame).flatten ++ (be32 n ++ junk)) :
    (feedAll (initDec max) cs).2 = ps ∧ finish (feedAll (initDec max) cs).1 = .failed := by
  rw [feedAll_frames_tail max hmax ps hlen _ cs hcs]
  have hv := be32Val_be32 n hn32
  have hbuf : ((initDec max).push (be32 n ++ junk)).buf =
      UInt8.ofNat (n / 16777216 % 256) :: UInt8.ofNat (n / 65536 % 256) ::
        UInt8.ofNat (n / 256 % 256) :: UInt8.ofNat (n % 256) :: junk := by
    simp [initDec, be32]
  have hd : decode ((initDec max).push (be32 n ++ junk)) =
      ((initDec max).push (be32 n ++ junk), .oversize) := by
    rw [decode_head_eq (s := (initDec max).push (be32 n ++ junk)) rfl rfl hbuf, hv]
    have : n > max := hn
    simp [initDec, this]
  rw [drainAll_of_oversize hd]
  simp [finish]

/-! ### Non-vacuity: concrete bytes -/

/-- Two frames (`"hi"` and the empty payload) and a third (`[7]`), cut into awkward chunks — inside the
first header, an empty chunk, across a frame boundary. -/
example :
    feedAll (initDec) [[0, 0], [], [0, 2, 0x68], [0x69, 0, 0, 0], [0, 0, 0, 0, 1], [], [7]]
      = (initDec, [[0x68, 0x69], [], [7]]) := by
  decide

/-- … and those chunks are a chunking of the three frames. -/
example : [[0, 0], [], [0, 2, 0x68], [0x69, 0, 0, 0], [0, 0, 0, 0, 1], [], [7]].flatten
    = ([[0x68, 0x69], [], [7]].map frame).flatten := by
  decide +kernel

/-- Cut inside a body: the complete frame comes out, EOF is an error. -/
example :
    (feedAll (initDec) [[0, 0, 0, 1, 9, 0, 0, 0, 3, 1], [2]]).2 = [[9]] ∧
    finish (feedAll (initDec) [[0, 0, 0, 1, 9, 0, 0, 0, 3, 1], [2]]).1 = .truncated := by
  decide +kernel

/-- Cut inside a header. -/
example : finish (feedAll (initDec) [[0, 0, 0, 1, 9, 0, 0]]).1 = .truncated := by decide +kernel

/-- Cut exactly after a header: reported as a clean EOF (see `C15_frame_truncated`). -/
example : (feedAll (initDec) [[0, 0, 0, 1, 9, 0, 0, 0, 3]]).2 = [[9]] ∧
    finish (feedAll (initDec) [[0, 0, 0, 1, 9, 0, 0, 0, 3]]).1 = .clean := by decide +kernel

/-- 8 MiB is accepted as a length, 8 MiB + 1 is not. -/
example : (feedAll (initDec) [[0, 0x80, 0, 0, 1]]).1.failed = false ∧
    finish (feedAll (initDec) [[0, 0x80, 0, 1], [1]]).1 = .failed := by decide +kernel

example : encode 2 [1, 2] = some [0, 0, 0, 2, 1, 2] ∧ encode 2 [1, 2, 3] = none := by decide +kernel

/-! ## The message-level FIFO -/

section Pipe
variable {α : Type}

/-- **C15, FIFO: no loss, no duplication, no reordering.**  For every configuration (unbounded,
bounded, buffered-until-flush), and every interleaving of sends, flushes, receives, close and drop:
the items the writer had accepted are, in order, exactly the items delivered so far, followed by the
items in flight, followed by the items staged in the write buffer, followed by the staged items that
died with a dropped writer. -/
theorem C15_queue_fifo (cfg : PipeCfg) (ops : List (POp α)) :
    accepted ((Pipe.init cfg).run ops).2 =
      delivered ((Pipe.init cfg).run ops).2 ++ ((Pipe.init cfg).run ops).1.queue
        ++ ((Pipe.init cfg).run ops).1.staged ++ ((Pipe.init cfg).run ops).1.lost := by
  have := ((PipeInv.init cfg).run ops).cons
  simpa using this

/-- Without a write buffer (the in-memory channels) nothing is ever staged or lost:
accepted = delivered ++ in flight. -/
theorem C15_queue_fifo_unbuffered (cfg : PipeCfg) (hb : cfg.buffered = false) (ops : List (POp α)) :
    accepted ((Pipe.init cfg).run ops).2 =
      delivered ((Pipe.init cfg).run ops).2 ++ ((Pipe.init cfg).run ops).1.queue := by
  have inv := (PipeInv.init (α := α) cfg).run ops
  have hu := inv.unbuffered (by rw [run_cfg]; exact hb)
  have := inv.cons
  simpa [hu.1, hu.2] using this

/-- Items are lost only by dropping a writer that still has unflushed items: while the writer exists
nothing is lost, and a flush (or close) right before the drop loses nothing. -/
theorem C15_queue_loss_only_unflushed (cfg : PipeCfg) (ops : List (POp α)) :
    (((Pipe.init cfg).run ops).1.writer ≠ .dropped → ((Pipe.init cfg).run ops).1.lost = []) ∧
    ((Pipe.init cfg).run (ops ++ [.flush, .drop])).1.lost = ((Pipe.init cfg).run ops).1.lost := by
  have inv := (PipeInv.init (α := α) cfg).run ops
  refine ⟨inv.lostNil, ?_⟩
  rw [run_append]
  generalize ((Pipe.init cfg).run ops).1 = p at inv
  have hs := inv.stagedNil
  simp only [Pipe.run, Pipe.step]
  by_cases hw : p.writer = .opened
  · simp [hw, Pipe.flushStaged]
  · have := hs hw
    by_cases hd : p.writer = .dropped <;> simp [hw, hd, this]

/-- A receive never skips and never stalls: if something is in flight, the oldest item comes out. -/
theorem C15_queue_recv_head (p : Pipe α) (a : α) (q : List α) (h : p.queue = a :: q) :
    (p.step .recv).2 = [.recv a] := by
  by_cases hw : p.writer = .opened <;> simp [Pipe.step, Pipe.pop, hw, Pipe.flushStaged, h]

/-- **End of stream only after the last message.**  In any reachable state, if a receive reports
end-of-stream then the writer is gone (dropped, or closed on a medium that can signal a close) and
every accepted item — other than unflushed ones that died with a dropped writer — has been delivered. -/
theorem C15_queue_eof_after_last (cfg : PipeCfg) (ops : List (POp α)) (p : Pipe α) (obs : List (PObs α))
    (hrun : (Pipe.init cfg).run ops = (p, obs)) (heof : (p.step .recv).2 = [.eof]) :
    (p.writer = .dropped ∨ (p.writer = .closed ∧ cfg.closeSignals = true)) ∧
    accepted obs = delivered obs ++ p.lost := by
  have inv := (PipeInv.init (α := α) cfg).run ops
  have hcfg := run_cfg (Pipe.init cfg : Pipe α) ops
  rw [hrun] at inv hcfg
  simp only [List.nil_append] at inv
  have hcfg' : p.cfg = cfg := hcfg
  simp only [Pipe.step, Pipe.pop] at heof
  by_cases hw : p.writer = .opened
  · simp only [hw, ↓reduceIte] at heof
    split at heof
    · simp at heof
    · simp [Pipe.eofVisible, Pipe.flushStaged, hw] at heof
  · simp only [hw, ↓reduceIte] at heof
    have hs := inv.stagedNil hw
    split at heof
    · simp at heof
    · rename_i hq
      have hv : p.eofVisible = true := by
        by_cases hv : p.eofVisible = true
        · exact hv
        · simp [hv] at heof
      refine ⟨?_, by simpa [hq, hs] using inv.cons⟩
      unfold Pipe.eofVisible at hv
      cases hwr : p.writer with
      | opened => exact absurd hwr hw
      | dropped => exact .inl rfl
      | closed => rw [hwr] at hv; exact .inr ⟨rfl, by rw [← hcfg']; exact hv⟩

/-- **After the writer is dropped the reader gets the remaining items, in order, then end-of-stream.** -/
theorem C15_queue_drain_after_drop (p : Pipe α) (hw : p.writer = .dropped) :
    (p.run (List.replicate (p.queue.length + 1) .recv)).2 = p.queue.map .recv ++ [.eof] :=
  run_recv_drain p (by simp [hw]) (by simp [Pipe.eofVisible, hw])

/-- Same for a writer that closed, on a medium where close is signalled. -/
theorem C15_queue_drain_after_close (p : Pipe α) (hw : p.writer = .closed)
    (hc : p.cfg.closeSignals = true) :
    (p.run (List.replicate (p.queue.length + 1) .recv)).2 = p.queue.map .recv ++ [.eof] :=
  run_recv_drain p (by simp [hw]) (by simp [Pipe.eofVisible, hw, hc])

/-- `bounded(c)`: never more than `c + 1` items in flight (futures' mpsc gives each sender one slot on
top of the shared buffer), and a sender that is not parked has at most `c` in flight. -/
theorem C15_queue_bounded (cfg : PipeCfg) (c : Nat) (hc : cfg.cap = some c) (hb : cfg.buffered = false)
    (ops : List (POp α)) :
    ((Pipe.init cfg).run ops).1.queue.length ≤ c + 1 := by
  have inv := (PipeInv.init (α := α) cfg).run ops
  exact (inv.capOk c (by rw [run_cfg]; exact hc) (by rw [run_cfg]; exact hb)).1

end Pipe

/-! ### Non-vacuity -/

/-- Unbounded channel: interleaved sends and receives, then drop: remaining item, then EOF. -/
example :
    ((Pipe.init { closeSignals := false }).run
      [.send 1, .send 2, .recv, .send 3, .recv, .close, .recv, .recv, .drop, .recv]).2 =
      [.sent 1, .sent 2, .recv 1, .sent 3, .recv 2, .closed, .recv 3, .pending, .dropped 0, .eof] := by
  decide

/-- `bounded(1)`: the second send parks the sender, the third is refused until a receive. -/
example :
    ((Pipe.init { cap := some 1 }).run
      [.send 1, .send 2, .send 3, .recv, .send 3, .close, .recv, .recv, .recv]).2 =
      [.sent 1, .sent 2, .full, .recv 1, .sent 3, .closed, .recv 2, .recv 3, .eof] := by
  decide +kernel

/-- Framed transport: an unflushed item dies with the writer; flushed ones are still delivered. -/
example :
    ((Pipe.init { buffered := true }).run
      [.send 1, .flush, .send 2, .drop, .recv, .recv]).2 =
      [.sent 1, .flushed, .sent 2, .dropped 1, .recv 1, .eof] := by
  decide +kernel

end TarpcModel.Wire
