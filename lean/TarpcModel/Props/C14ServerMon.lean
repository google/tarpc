import TarpcModel.Lemmas.ServerMon14
/-!
# C14 (server side) — the run-time monitor `monC14` accepts every trace of the server model

Property theorems only.  `monC14` (`Monitors/Server.lean`: `checkC14` = `Client.checkC14Obs` over the
observations, `readyP` reset at every op) judges the transport contract on a trace: every `start_send` is
preceded by a `poll_ready → Ready` with no other write in between, nothing is written after the transport
reported a failure or was closed, `poll_ready → Pending` is not retried more than `c14ReadyPLimit` times in a
row without returning to the executor, no busy loop (`spin`), and the owner goes idle (`Pending`, end of the
request stream) only with everything it wrote flushed or a flush pending.

The proof (`Lemmas/ServerMon14.lean`) runs the monitor's state as a fold over the observations of each op
(`FlowMon.fstep`), walks through `Requests::poll_next` with pre/postconditions on that fold
(`FlowMon.ok_requestsPollNext`), and links the fold to `Mon.run` (`FlowMon.sim14_run`).
-/
namespace TarpcModel.Server
open TarpcModel TarpcModel.Server.FlowMon

/-- **C14 (server), monitor form.**  For every configuration (request limit or none, response-queue capacity,
sink capacity, coupled or independent readiness) and every script over all ops — including the fault countdown
`faultSkip` and the non-self-waking sink `selfWake false` — the C14 monitor accepts the model's trace: none of
its clauses (write without ready, write after failure / close, `poll_ready` retried more than four times in a
row, busy loop, idle with unflushed writes) ever fires. -/
theorem C14S_monitor_accepts (limit : Option Nat) (respCap tcap : Nat) (coupled : Bool) (ops : List SOp) :
    (monC14 limit (trace (initSys limit respCap tcap coupled) ops)).ok = true :=
  (monitors_accept limit none none limit respCap tcap coupled ops).1

/-- The verdict does not depend on the limit the monitor is told about (the C14 check does not look at it). -/
theorem C14S_monitor_accepts_any_limit (mlimit limit : Option Nat) (respCap tcap : Nat) (coupled : Bool)
    (ops : List SOp) : (monC14 mlimit (trace (initSys limit respCap tcap coupled) ops)).ok = true :=
  (monitors_accept mlimit none none limit respCap tcap coupled ops).1

/-- On a concrete script the monitor's final state shows what it has seen: one response written, its flush
pending (the transport holds the waker), a `poll_ready → Ready` since. -/
example :
    let m := monC14 none (trace (initSys none 1 2 true)
      [.injectReq 1 1000000000 ⟨0, .given 0, false⟩ 0, .pollServer, .finish 0 (.ok 0), .pollExec 0,
       .setFlush false, .pollServer])
    m.ok = true ∧ m.st.unflushed = 1 ∧ m.st.flushPendingAfterWrite = true ∧ m.st.gotReady = true := by
  decide

/-- Non-vacuity: the monitor runs over a non-trivial trace (a response written onto a socket-like transport
whose flush is blocked: ready, send, ready, flush → Pending, idle) and accepts it; with faults on the way
(a `poll_ready` fault after one call let through; a write fault) it accepts, too. -/
example :
    (monC14 none (trace (initSys none 1 2 true)
      [.injectReq 1 1000000000 ⟨0, .given 0, false⟩ 0, .pollServer, .finish 0 (.ok 0), .pollExec 0,
       .setFlush false, .pollServer])).ok = true ∧
    (monC14 none (trace (initSys none 1 1 true)
      [.fault .ready, .faultSkip 1, .pollServer, .pollServer, .pollServer])).ok = true ∧
    (monC14 (some 1) (trace (initSys (some 1) 1 1 false)
      [.injectReq 1 1000000000 ⟨0, .given 0, false⟩ 0, .pollServer, .injectReq 2 1000000000 ⟨0, .given 0, false⟩ 0,
       .selfWake false, .setReady false, .pollServer, .fault .send, .setReady true, .pollServer])).ok = true := by
  decide

/-- The monitor is not vacuous: on the model variant with the loop that was removed from `ensure_writeable`
(`ensureLoop := true`, the script of `C14_server_spin_witness`) it rejects the trace. -/
example :
    (monC14 none (trace { s := { (init 0 none 1 1 false) with ensureLoop := true } }
      [.injectReq 1 1000000000 ⟨0, .given 0, false⟩ 0, .pollServer, .finish 0 (.ok 0), .pollExec 0,
       .setReady false, .pollServer])).ok = false := by
  decide

end TarpcModel.Server
