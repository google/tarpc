import TarpcModel.Lemmas.ClientTop
import TarpcModel.Lemmas.ClientMech
/-!
# C01 — a response reaches exactly the call that asked

Property theorems only.  Model: `TarpcModel.Client`; monitor: `monC01` (`Monitors/Client.lean`).  State-level
statements are phrased over `view s` (`Lemmas/ClientIds.lean`): `(view s).get cid` is the record of call `cid`,
`CallV.polled` says the call has been polled at least once (it owns a request id), `CallV.enq` that its request
was handed to the request queue. A configuration is `initSys m b c coupled`: in-flight limit `m`, capacity `b` of the request
channel, capacity `c` of the transport's write buffer, readiness of the sink coupled to flushing or not.
-/
namespace TarpcModel.Client

/-! ### mechanism -/

/-- **C01: a response with an unknown id is a no-op.**  `complete_request` for an id that is not in flight
returns `false` and the state is untouched. -/
theorem C01_unknown_id_is_noop (s : St) (id : Nat) (o : Outcome) (h : findEntry s id = none) :
    completeRequest s id o = (s, false) :=
  completeRequest_unknown s id o h

/-- **C01: ... discarded without disturbing any other call.**  When the read pump takes a `response id res` whose
id is not in flight off the transport, nothing changes but the transport's inbound queue and the observation log:
no oneshot, no in-flight entry, no timer, no queue. -/
theorem C01_unknown_response_discarded (s : St) (id : Nat) (res : Res) (rest : List Inb)
    (hf : s.readFused = false) (hfault : s.t.faultNext = false)
    (hin : s.t.inbound = .msg (.response id res) :: rest) (hun : findEntry s id = none) :
    (pumpRead s).1 =
      { s with t := { s.t with inbound := rest }, obs := .tNext (tid s) (.item (.response id res)) :: s.obs } :=
  pumpRead_unknown_id s id res rest hf hfault hin hun

/-- **C01: completing a request touches its own call only.**  `complete_request id` for an in-flight id removes
exactly the entries with that id, leaves the request queue, the cancellation queue and the transport alone, and
every call other than the one recorded in the entry (`e.cid`) keeps its record — phase, oneshot, outcome —
unchanged (`OtherCallsSame`). -/
theorem C01_complete_targets_own_call (s : St) (id : Nat) (e : Entry) (hf : findEntry s id = some e) (o : Outcome) :
    (completeRequest s id o).2 = true ∧
    (completeRequest s id o).1.inflight = s.inflight.filter (·.id != id) ∧
    (completeRequest s id o).1.pq = s.pq ∧ (completeRequest s id o).1.cq = s.cq ∧
    (completeRequest s id o).1.t = s.t ∧
    OtherCallsSame e.cid s (completeRequest s id o).1 :=
  completeRequest_targets hf o

/-! ### request ids, over all op sequences -/

/-- **C01: request ids are unique.**  In every reachable state, two polled calls with the same request id are the
same call, and every id handed out is below the counter. -/
theorem C01_request_ids_distinct (m b c : Nat) (coupled : Bool) (ops : List COp)
    (s : St) (hs : s = (ops.foldl applyOp (initSys m b c coupled)).s)
    (i j : Nat) (ci cj : CallV) (hi : (view s).get i = some ci) (hj : (view s).get j = some cj)
    (pi : ci.polled) (pj : cj.polled) :
    ci.id < s.nextId ∧ (ci.id = cj.id → i = j) := by
  subst hs
  have h := reach_inv m b c coupled ops
  exact ⟨h.idLt i ci hi pi, h.idInj i j ci cj hi hj pi pj⟩

/-- **C01: every tracked id belongs to exactly one call.**  In every reachable state, each queued request and
each in-flight entry carries the `cid` and the request id of one call whose request was enqueued and whose
oneshot holds no value yet; the queued ids are pairwise distinct, so are the in-flight ids, and no id is both
queued and in flight. -/
theorem C01_tracked_ids_owned (m b c : Nat) (coupled : Bool) (ops : List COp)
    (s : St) (hs : s = (ops.foldl applyOp (initSys m b c coupled)).s) :
    (∀ r ∈ s.pq, ∃ cv, (view s).get r.cid = some cv ∧ cv.enq ∧ cv.id = r.id ∧ cv.val = none) ∧
    (∀ e ∈ s.inflight, ∃ cv, (view s).get e.cid = some cv ∧ cv.enq ∧ cv.id = e.id ∧ cv.val = none) ∧
    (s.pq.map (·.id)).Nodup ∧ (s.inflight.map (·.id)).Nodup ∧
    (∀ r ∈ s.pq, ∀ e ∈ s.inflight, r.id ≠ e.id) := by
  subst hs
  have h := reach_inv m b c coupled ops
  refine ⟨fun r hr => ?_, fun e he => ?_, h.pqNodup, h.infNodup, h.disj⟩
  · obtain ⟨cv, a1, a2, a3, _, _, a6, _⟩ := h.pq r hr
    exact ⟨cv, a1, a2, a3, a6⟩
  · obtain ⟨cv, a1, a2, a3, _, a5, _⟩ := h.inf e he
    exact ⟨cv, a1, a2, a3, a5⟩

/-! ### the monitor -/

/-- **C01 (monitor form).**  For every configuration and every op sequence (calls with pairwise distinct bodies,
which is how the monitor tells requests apart, and caller-chosen span ids), `monC01` accepts the model's trace:
whenever a call resolves with `Ok` / a server error, its request had been written, a `Response` with that request's
id and exactly that result had been read after the request was written, and no other call was resolved from a
response with that id. -/
theorem C01_monitor_accepts (m b c : Nat) (coupled : Bool) (ops : List COp)
    (hbodies : (callBodies ops).Nodup) (hspans : ∀ op ∈ ops, SpanOk op) :
    (monC01 (trace (initSys m b c coupled) ops)).ok = true :=
  (combined_ok (combined_accepts m b c coupled ops hbodies hspans)).2.1

set_option maxRecDepth 20000 in
/-- Non-vacuity: a call is resolved from the response carrying its id; a response with a foreign id (17) that
arrives first is discarded; the monitor accepts and has recorded the id as used. -/
example :
    let ops := [COp.call 0 1000000000 ⟨7, .given 1, true⟩ 5, .pollCall 0, .pollDispatch, .injectResp 17 (.ok 1),
      .injectResp 0 (.ok 42), .pollDispatch, .pollCall 0]
    (monC01 (trace (initSys 4 4 4 true) ops)).ok = true ∧
    (monC01 (trace (initSys 4 4 4 true) ops)).st = [0] ∧
    ((ops.foldl applyOp (initSys 4 4 4 true)).s.calls.map (·.outcome)) = [some (.ok 42)] := by decide

end TarpcModel.Client
