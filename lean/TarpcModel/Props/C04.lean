import TarpcModel.Lemmas.ServerInv
/-!
# C04 (server side) — a cancelled request is forgotten and its handler is never polled again

Property theorems only (mechanism level).  `cancel_request` is `cancelRequest`, `AbortHandle::abort`
is `abortExec`, polling the `Abortable` execute future is `pollExec` (`Server/Model.lean`).
That entries and executions are linked one-to-one in every reachable state (so that "the execution
recorded in the entry" is the handler of that request) is `C11_execs_wellformed` / `C11_entry_owner`.
-/
namespace TarpcModel.Server

/-- **C04 mechanism: a `Cancel` for a tracked id forgets the request and aborts exactly its
handler.**  With `e` the entry of `id`: the entry is removed (no entry with that id is left); the
abort flag of every execution with `rid = e.rid` is set and the `(rid, id, aborted)` keys of all
others are untouched — indeed every other execution is untouched; the entry's timer is removed
(when `remove` finds the key — always, on a well-formed table: `C08_tracked_timer_removed`'s
argument); queues, limiter configuration, end-of-stream flags are untouched. -/
theorem C04_cancel_aborts_and_forgets (s : St) (id : Nat) (e : SEntry) (h : findEntry s id = some e) :
    (cancelRequest s id).2 = true
    ∧ (cancelRequest s id).1.inflight = s.inflight.filter (·.id != id)
    ∧ findEntry (cancelRequest s id).1 id = none
    ∧ (cancelRequest s id).1.execs.map ekey = abortKeys e.rid (s.execs.map ekey)
    ∧ (∀ x ∈ (cancelRequest s id).1.execs, x.rid = e.rid → x.aborted = true)
    ∧ (∀ r, r ≠ e.rid → getExec (cancelRequest s id).1 r = getExec s r)
    ∧ (∀ q w, s.timers.remove e.timerKey = some (q, w) → (cancelRequest s id).1.timers = q)
    ∧ (cancelRequest s id).1.respQ = s.respQ ∧ (cancelRequest s id).1.cancelQ = s.cancelQ
    ∧ (cancelRequest s id).1.limit = s.limit ∧ (cancelRequest s id).1.dropped = s.dropped
    ∧ (cancelRequest s id).1.done = s.done := by
  rcases Flow.cancelRequest_out s id with ⟨hn, _⟩ | ⟨e', hf, h1⟩
  · rw [hn] at h; cases h
  · rw [h] at hf; cases hf
    have hk : (cancelRequest s id).1.execs.map ekey = abortKeys e.rid (s.execs.map ekey) := by
      rw [h1]; simp
    refine ⟨by rw [h1], by rw [h1]; simp, ?_, hk, ?_, ?_, ?_, by simp, by simp, by simp, by simp, by simp⟩
    · rw [h1]
      simp only [findEntry, Flow.removeTimer_inflight, Flow.abortExec_inflight, List.find?_filter]
      simp [List.find?_eq_none]
    · intro x hx hr
      have : ekey x ∈ abortKeys e.rid (s.execs.map ekey) := hk ▸ List.mem_map.mpr ⟨x, hx, rfl⟩
      exact abortKeys_flagged this hr
    · intro r hr
      rw [h1]
      have : ∀ (s1 : St) k, getExec (removeTimer s1 k) r = getExec s1 r := by
        intro s1 k; unfold getExec; rw [Flow.removeTimer_execs]
      rw [this, getExec_abortExec_ne _ _ _ (Ne.symm hr)]
      rfl
    · intro q w hq
      rw [h1]
      rw [removeTimer_of_some (s := abortExec { s with inflight := s.inflight.filter (·.id != id) } e.rid)
        (by simpa using hq)]
      cases w <;> simp

/-- **C04 mechanism: a `Cancel` for an untracked id is the identity.** -/
theorem C04_cancel_untracked_identity (s : St) (id : Nat) (h : findEntry s id = none) :
    cancelRequest s id = (s, false) := by
  unfold cancelRequest; simp [h]

/-- **C04 mechanism: an aborted handler is never polled.**  Polling an execution whose abort flag
is set emits no `handler … polled` / `handler … completed` observation, queues no response, and
leaves it finished (`done`) with its guard disarmed. -/
theorem C04_aborted_handler_not_polled (s : St) (vid now : Nat) (e : Exec)
    (hv : getExecVis s vid = some e) (hl : execLive e = true) (ha : e.aborted = true) :
    (pollExec s vid now).obs.filter handlerRuns = s.obs.filter handlerRuns
    ∧ (pollExec s vid now).respQ = s.respQ
    ∧ (∀ x ∈ (pollExec s vid now).execs, x.rid = e.rid → x.phase = .done ∧ x.guardArmed = false) := by
  have hfin : ∀ (s1 : St), ∀ x ∈ (emit (updExec s1 e.rid (fun x => { x with phase := .done, guardArmed := false }))
      (.ret (.exec vid) .readyOk)).execs, x.rid = e.rid → x.phase = .done ∧ x.guardArmed = false := by
    intro s1 x hx hr
    obtain ⟨y, _, rfl⟩ := mem_updExec (show x ∈ (updExec s1 e.rid _).execs from hx)
    by_cases hy : y.rid = e.rid
    · simp [hy]
    · simp [hy] at hr
  have ho := Flow.pollExec_out s vid now
  generalize pollExec s vid now = s' at ho ⊢
  cases ho with
  | aborted e' h _ _ =>
    -- the only path of an aborted, live execution: its future is dropped (a pending send returns its permit), `ret readyOk`
    rw [hv] at h; cases h
    refine ⟨?_, ?_, hfin _⟩ <;> unfold Flow.peAborted Flow.peDrop Flow.unsend
    · split
      · split <;> simp [emit, updExec, handlerRuns, rqRelease_runs]
      · split <;> simp [emit, updExec, handlerRuns]
    · split
      · split <;> simp [emit, updExec]
      · split <;> simp [emit, updExec]
  | noVis h => rw [hv] at h; cases h
  | dead e' h hl' => rw [hv] at h; cases h; rw [hl] at hl'; cases hl'
  | sendNone e' h _ ha' _ _ | send e' _ h _ ha' _ _ | finish e' _ h _ ha' _ _ | pending e' h _ ha' _ _ =>
    rw [hv] at h; cases h; rw [ha] at ha'; cases ha'

/-- the hypotheses are satisfiable: request 1 is handed out, its handler polled once, a `Cancel` is
read; polling the execution again shows no `polled` (the handler is dropped instead) -/
example :
    ((trace (initSys none 1 4 true)
      [.injectReq 1 5000000 ⟨7, .given 1, true⟩ 0, .pollServer, .pollExec 0,
       .injectCancel 1 ⟨7, .given 1, true⟩, .pollServer, .pollExec 0]).filter
        (fun e => match e with | .obs (.handler _ _ _) => true | _ => false))
      = [.obs (.handler 0 .polled 0), .obs (.handler 0 .dropped 0)] := by
  decide

end TarpcModel.Server
