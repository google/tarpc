import TarpcModel.Lemmas.C07
/-!
# C07 — Deadlines propagate across hops without stretching

Property theorems only.  The model is `TarpcModel.Ctx` (`Context.lean`): time is `Nat` nanoseconds,
`ser d now = d - now` (saturating, `Instant::duration_since`), `de x now' = now' + x`,
`hop d tSend tRecv = de (ser d tSend) tRecv`, `chain` folds `hop` over the (send, receive) times of
the hops.  All theorems hold for every `Nat` value (every remaining duration from zero upward, every
transit delay) and chains of every length (so in particular one to three hops).  The monitor
`TarpcModel.Ctx.mon` (`Monitors/C07.lean`) is the decidable predicate the check evaluates on the
implementation's observation stream.
-/
namespace TarpcModel.Ctx

/-- **C07, one hop.**  A request written at `tSend` and read at `tRecv ≥ tSend` gives the handler
the deadline `max d tSend + (tRecv - tSend)`.  Hence it is never earlier than the caller's deadline,
never in the receiver's past, at most `d + transit` (in fact exactly that) when the deadline had not
passed when the request was written, and exactly "now" (`tRecv`) when it had: an expired deadline is
delivered, it is not an error. -/
theorem C07_one_hop (d tSend tRecv : Nat) (h : tSend ≤ tRecv) :
    hop d tSend tRecv = max d tSend + (tRecv - tSend) ∧
    d ≤ hop d tSend tRecv ∧
    tRecv ≤ hop d tSend tRecv ∧
    (tSend ≤ d → hop d tSend tRecv = d + (tRecv - tSend)) ∧
    (tSend ≤ d → hop d tSend tRecv ≤ d + (tRecv - tSend)) ∧
    (d ≤ tSend → hop d tSend tRecv = tRecv) := by
  have := hop_eq d tSend tRecv h
  omega

/-- **C07, chains of any length** (exact form).  For causally ordered hops (each received no earlier
than sent, each nested request sent no earlier than the enclosing one was received) the last
handler's deadline is `max (d + accumulated transit) (last receive time)`.  Hence it is never earlier
than the original, never in the last receiver's past, and if it had not already expired on arrival it
exceeds the original by exactly the accumulated transit time. -/
theorem C07_chain (d : Nat) (hops : List (Nat × Nat)) (h : Ordered 0 hops) :
    chain d hops = max (d + totalTransit hops) (lastRecv 0 hops) ∧
    d ≤ chain d hops ∧
    lastRecv 0 hops ≤ chain d hops ∧
    (chain d hops ≤ d + totalTransit hops ∨ chain d hops = lastRecv 0 hops) ∧
    (lastRecv 0 hops ≤ d + totalTransit hops → chain d hops = d + totalTransit hops) := by
  have := chain_closed d 0 hops h
  omega

/-- **C07, chains whose handlers are alive when they call on** (the server aborts a handler at its
deadline, so a nested request is written while the handler's deadline has not passed): the last
handler's deadline is `max d (first send) + accumulated transit`; the `max` accounts for a caller
whose deadline had already passed when it sent the first request. -/
theorem C07_chain_live (d s₀ r₀ : Nat) (rest : List (Nat × Nat))
    (h : Ordered 0 ((s₀, r₀) :: rest)) (hl : Live (hop d s₀ r₀) rest) :
    chain d ((s₀, r₀) :: rest) = max d s₀ + totalTransit ((s₀, r₀) :: rest) ∧
    d ≤ chain d ((s₀, r₀) :: rest) ∧
    chain d ((s₀, r₀) :: rest) ≤ max d s₀ + totalTransit ((s₀, r₀) :: rest) := by
  obtain ⟨_, hsr, ht⟩ := h
  have h1 := chain_live (hop d s₀ r₀) r₀ rest ht hl
  have h2 := hop_eq d s₀ r₀ hsr
  simp only [chain, totalTransit]
  omega

/-- **C07: a nested call never outlives the original deadline by more than accumulated transit.**
A nested call issued with the handler's context carries the deadline `chain d hops` (the client uses
and sends `ctx.deadline` unchanged).  At every instant `t` from the moment the handler received its
request, the time left to the nested call is exactly the time left until `d + accumulated transit`;
so any instant at which the nested call has not yet timed out lies before `d + accumulated transit`. -/
theorem C07_nested_call_bound (d : Nat) (hops : List (Nat × Nat)) (h : Ordered 0 hops)
    (t : Nat) (ht : lastRecv 0 hops ≤ t) :
    remaining (chain d hops) t = remaining (d + totalTransit hops) t ∧
    (t < chain d hops → t < d + totalTransit hops) ∧
    (lastRecv 0 hops < chain d hops → chain d hops ≤ d + totalTransit hops) := by
  have := chain_closed d 0 hops h
  unfold remaining
  omega

/-- The next hop of such a nested call (sent at `s ≥` last receive, received at `r ≥ s`): the chain
bound extends by exactly that hop's transit. -/
theorem C07_nested_call_next_hop (d : Nat) (hops : List (Nat × Nat)) (h : Ordered 0 hops)
    (s r : Nat) (hs : lastRecv 0 hops ≤ s) (hsr : s ≤ r) :
    hop (chain d hops) s r = max (d + totalTransit hops + (r - s)) r := by
  have h1 := chain_closed d 0 hops h
  have h2 := hop_eq_max (chain d hops) s r hsr
  omega

/-- **C07: no clock skew enters.**  Let the receiving host's clock read `skew` more (or less) than
the sender's.  The remaining duration the receiver computes on its own clock equals the remaining
duration the sender computed on its clock, and the decoded deadline, translated back to the sender's
clock, is the skew-free `hop`. -/
theorem C07_skew_free (d tSend tRecv : Nat) (skew : Int) (hpos : 0 ≤ (tRecv : Int) + skew)
    (nowR : Nat) (hnow : nowR = ((tRecv : Int) + skew).toNat) :
    remaining (de (ser d tSend) nowR) nowR = remaining d tSend ∧
    ((de (ser d tSend) nowR : Nat) : Int) - skew = (hop d tSend tRecv : Nat) := by
  unfold remaining hop de ser
  omega

/-- The remaining duration after decoding does not depend on the receiver's clock reading at all. -/
theorem C07_skew_free_any_clock (d tSend nowR : Nat) :
    remaining (de (ser d tSend) nowR) nowR = remaining d tSend := by
  unfold remaining de ser
  omega

/-- **C07: default deadline.**  A request without a `deadline` field decoded at `tRecv` gets
`tRecv + defaultDeadlineSecs · 10⁹` ns, and the constant read from the source is the documented 10
seconds. -/
theorem C07_default (tRecv : Nat) :
    defaultDeadline tRecv = tRecv + Gen.defaultDeadlineSecs * 10 ^ 9 ∧
    remaining (defaultDeadline tRecv) tRecv = 10 * 10 ^ 9 ∧
    Gen.defaultDeadlineSecs = 10 := by
  refine ⟨?_, ?_, rfl⟩
  · simp [defaultDeadline, nsPerSec_eq]
  · have : Gen.defaultDeadlineSecs * nsPerSec = 10 * 10 ^ 9 := by decide
    unfold remaining defaultDeadline
    omega

/-- **C07: the in-memory transport** moves the instant unchanged, over any number of hops. -/
theorem C07_mem_identity (d : Nat) (hops : List (Nat × Nat)) (s r : Nat) :
    hopVia .mem d s r = d ∧ chainVia .mem d hops = d ∧
    ∀ x ∈ chainSeen .mem d hops, x = d := by
  refine ⟨rfl, rfl, ?_⟩
  induction hops with
  | nil => simp [chainSeen]
  | cons hd t ih =>
    obtain ⟨s', r'⟩ := hd
    intro x hx
    simp only [chainSeen, hopVia, Codec.serialises, Bool.false_eq_true, ↓reduceIte, List.mem_cons] at hx
    rcases hx with rfl | hx
    · rfl
    · exact ih x hx

/-- Both shipped codecs behave as `hop`/`chain`; every handler on the way sees a deadline no earlier
than the original. -/
theorem C07_every_handler_ge (c : Codec) (d p : Nat) (hops : List (Nat × Nat)) (h : Ordered p hops) :
    ∀ x ∈ chainSeen c d hops, d ≤ x := by
  induction hops generalizing d p with
  | nil => simp [chainSeen]
  | cons hd t ih =>
    obtain ⟨s, r⟩ := hd
    obtain ⟨_, hsr, ht⟩ := h
    intro x hx
    have h1 : d ≤ hopVia c d s r := by
      have := hop_eq d s r hsr
      cases hs : c.serialises <;> simp [hopVia, hs] <;> omega
    simp only [chainSeen, List.mem_cons] at hx
    rcases hx with rfl | hx
    · exact h1
    · exact Nat.le_trans h1 (ih _ r ht x hx)

/-- **C07 (monitor form).**  For every sequence of operations the monitor accepts the model's
observations. -/
theorem C07_monitor_accepts (ops : List Op) : (mon (run ops)).ok = true :=
  foldl_monStep_ok _ _ rfl (run_check ops)

/-- **C07: what an accepted hop observation means** (for the implementation's trace): the observed
handler deadline is the model's prediction, is never earlier than the caller's deadline nor in the
receiver's past, exceeds the caller's deadline by at most the transit time if that had not passed,
and is "now" if it had. -/
theorem C07_monitor_sound (seen : Nat) (c : Codec) (d s r : Nat) (h : checkHop seen c d s r = true) :
    s ≤ r ∧ seen = hopVia c d s r ∧ d ≤ seen ∧
    (c.serialises = true → r ≤ seen ∧ (s ≤ d → seen ≤ d + (r - s)) ∧ (d ≤ s → seen = r)) := by
  have hh := hop_eq d s r
  cases hs : c.serialises <;> simp [checkHop, hopVia, hs] at h ⊢ <;> omega

/-- Accepted chain observation: ordered hops, final deadline as in `C07_chain`. -/
theorem C07_monitor_sound_chain (final : Nat) (c : Codec) (d : Nat) (hops : List (Nat × Nat))
    (h : checkChain final c d hops = true) :
    Ordered 0 hops ∧ final = chainVia c d hops ∧ d ≤ final ∧
    (c.serialises = true → final ≤ d + totalTransit hops ∨ final = lastRecv 0 hops) := by
  simp only [checkChain, Bool.and_eq_true, decide_eq_true_eq, orderedB_iff] at h
  obtain ⟨⟨⟨ho, hf⟩, hd⟩, hc⟩ := h
  refine ⟨ho, hf, hd, ?_⟩
  intro hs
  simp only [hs, ↓reduceIte, decide_eq_true_eq] at hc
  omega

/-- A single rejected observation makes the verdict `FAIL` whatever follows. -/
theorem C07_monitor_rejects (pre post : List Obs) (o : Obs) (h : check o = false) :
    (mon (pre ++ o :: post)).ok = false := by
  unfold mon
  rw [List.foldl_append, List.foldl_cons]
  apply foldl_monStep_bad
  simp [monStep, h]

/-! ### Non-vacuity -/

/-- A hop with transit 3 and a live deadline: shifted by exactly the transit. -/
example : hop 100 10 13 = 103 := by decide

/-- An already-passed deadline (5 < 10) arrives as "now" (13). -/
example : hop 5 10 13 = 13 := by decide

/-- Zero remaining and zero transit. -/
example : hop 10 10 10 = 10 := by decide

/-- The hypotheses of `C07_chain` / `C07_chain_live` are satisfiable: three ordered, live hops. -/
example : Ordered 0 [(10, 13), (20, 21), (30, 36)] ∧ Live (hop 100 10 13) [(20, 21), (30, 36)] ∧
    chain 100 [(10, 13), (20, 21), (30, 36)] = 110 ∧ totalTransit [(10, 13), (20, 21), (30, 36)] = 10 := by
  decide

/-- A chain in which a handler calls on after its deadline passed: the next handler sees "now", which
exceeds `d + transit` — the reason `C07_chain` is stated with `max … (last receive)`. -/
example : Ordered 0 [(0, 0), (100, 100)] ∧ chain 10 [(0, 0), (100, 100)] = 100 ∧
    totalTransit [(0, 0), (100, 100)] = 0 ∧ ¬ Live (hop 10 0 0) [(100, 100)] := by
  decide

/-- Skew: receiver clock 1000 ahead; remaining 90 either way. -/
example : remaining (de (ser 100 10) 1013) 1013 = 90 ∧ remaining 100 10 = 90 := by decide

/-- The model's trace for one of each operation, and the monitor's verdict on it. -/
example :
    run [.hop .json 100 10 13, .hop .mem 5 10 13, .dflt 7, .chain .bincode 100 [(10, 13), (20, 21)]] =
      [.deadline 103 .json 100 10 13, .deadline 5 .mem 5 10 13, .dflt 10000000007 7,
       .deadline 103 .bincode 100 10 13, .deadline 104 .bincode 103 20 21,
       .chain 104 .bincode 100 [(10, 13), (20, 21)]] := by
  decide

/-- The monitor rejects a stretched deadline, an early one, an error-like "zero", a wrong default. -/
example : check (.deadline 104 .json 100 10 13) = false ∧ check (.deadline 102 .json 100 10 13) = false ∧
    check (.deadline 0 .json 5 10 13) = false ∧ check (.dflt 17 7) = false ∧
    check (.chain 105 .bincode 100 [(10, 13), (20, 21)]) = false ∧
    check (.deadline 6 .mem 5 10 13) = false := by
  decide

end TarpcModel.Ctx
