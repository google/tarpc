import TarpcModel.Trace.SpanDeadline
import TarpcModel.Gen.Flags
/-!
# C16, subscriber clause: rendering the deadline into the RPC span never panics

Property theorems only.  `Gen.spanDeadlineChecked` / `Gen.spanDeadlineCapSecs` are regenerated from
`tarpc/src/{util,client,server}.rs` on every run; the theorem is about what the source says now.  The `cli` / `srv`
correspondence families run the real endpoints with a formatting and with an OpenTelemetry subscriber installed
(`sub=1|2`) on deadlines up to 2^63 − 2^33 s away, under `catch_unwind`.
-/
namespace TarpcModel.Span

/-- The rendering as the current source performs it. -/
def spanDeadline (nowUnix remaining : Nat) : Out :=
  spanDeadlineWith Gen.spanDeadlineChecked Gen.spanDeadlineCapSecs nowUnix remaining

/-- **C16 (span field).** Whatever deadline a peer or a local caller supplies (any `remaining`, without bound), at
any wall-clock time, the `rpc.deadline` field is rendered: no panic in the task that creates the
span. -/
theorem C16_span_deadline_never_panics (nowUnix remaining : Nat) :
    ∃ t, spanDeadline nowUnix remaining = .rendered t ∧ t ≤ rfc3339Max := by
  have hc : Gen.spanDeadlineChecked = true := by decide
  have hcap : Gen.spanDeadlineCapSecs ≠ 0 ∧ Gen.spanDeadlineCapSecs ≤ rfc3339Max := by decide
  unfold spanDeadline spanDeadlineWith
  simp only [hc, if_true, if_neg hcap.1]
  refine ⟨_, if_pos ?_, ?_⟩ <;> (split <;> omega)

/-- Deadlines that are representable are rendered exactly (the cap changes nothing up to its own value). -/
theorem C16_span_deadline_exact (nowUnix remaining : Nat) (h : nowUnix + remaining ≤ Gen.spanDeadlineCapSecs) :
    spanDeadline nowUnix remaining = .rendered (nowUnix + remaining) := by
  have hc : Gen.spanDeadlineChecked = true := by decide
  have hcap : Gen.spanDeadlineCapSecs ≠ 0 ∧ Gen.spanDeadlineCapSecs ≤ rfc3339Max := by decide
  have hmax : rfc3339Max ≤ systemTimeMax := by decide
  unfold spanDeadline spanDeadlineWith
  simp only [hc, if_true, if_neg hcap.1]
  have h1 : nowUnix + remaining ≤ systemTimeMax := by omega
  have h2 : min (nowUnix + remaining) Gen.spanDeadlineCapSecs = nowUnix + remaining := by omega
  rw [if_pos h1, h2, if_pos (by omega)]

/-- Why the check and the cap are needed (finding F8): the unchecked, uncapped rendering panics for a deadline
2^38 s away (formatting) and for one 2^63 − 2^30 s away (overflow) at today's wall-clock time; checking the sum
without capping the result still panics in the formatter. -/
theorem C16_span_deadline_witness :
    spanDeadlineWith false 0 1790000000 (2 ^ 38) = .panic "a formatting trait implementation returned an error" ∧
    spanDeadlineWith false 0 1790000000 (2 ^ 63 - 2 ^ 30) = .panic "overflow when adding duration to instant" ∧
    spanDeadlineWith true 0 1790000000 (2 ^ 38) = .panic "a formatting trait implementation returned an error" := by
  decide +kernel

end TarpcModel.Span
