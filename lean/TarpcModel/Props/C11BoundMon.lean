import TarpcModel.Lemmas.ServerTab8
import TarpcModel.Props.C11ServerMon
import TarpcModel.Props.C11TableMon
/-!
# C11 (server side) — the bound clause, the table clauses and the whole run-time monitor `monC11`

Property theorems only.  `Props/C11ServerMon.lean` has the counting clauses of `checkC11` for every configuration and
script, `Props/C11TableMon.lean` the stalled-limiter / idle-channel clauses (`checkC11Idle`).  Here: the remaining clause
`checkC11Bound` — *never more requests in flight than the monitor's table lists* (transport not failed), judged at the end
of **every** poll of the request stream, idle or not — and with it `checkC11Rest` (`C11S_table_accepts`) and the whole
monitor (`C11S_monitor_accepts`).

Hypotheses (the same as for the idle clause, explicit in the statements):

* `limit = none` (finding F7 / F2: with a limiter the monitor's stalled-poll reasoning and the limiter's over-throttling
  are C12 territory);
* `advSum ops < 2^35 ms` (below this clock bound the timer wheel is complete: every due timer is found);
* `DistinctIds ops`: the injected requests carry pairwise distinct ids (used by the proof — the model removes table
  entries by id, the monitor by execution; no counter-example with re-used ids is known for these clauses);
* `NearOps ops`: every injected deadline lies within the clamp horizon (`≤ clampNs`), so that no timer is re-armed.  It
  cannot be dropped: `C11S_rearm_rejected` (the script of `C11S_rearm_witness`) — the whole monitor rejects a trace of
  the model.

What the clause needs, beyond the earlier couplings:

* **the order in which the timer wheel yields due timers** (`Lemmas/DelayQOrder.lean`): `DelayQ.pollExpired_min` — what
  `poll_expired` returns has the earliest tick of the queue (`wheelPoll_min` for the wheel; the `expired` stack only holds
  entries whose tick is the wheel clock, `StackEq`, an invariant of every reachable queue: `sq_closed`).  Hence the
  channel's `poll_expired` expires the tracked request with the earliest tick (`pollExpired_minS`), which is what the
  monitor's `sweepOne` ("the due entry with the smallest tick, if unique", `sweepOne_min`) assumes at every transport read;
* a fourth coupling `Tab.Z` (`Lemmas/ServerTab6.lean`; walked through one poll in `ServerTab7.lean`, over scripts in
  `ServerTab8.lean`): every tracked request that has been handed out is in the book's table; the book's abandonment order
  is, position by position, the channel's queue of guard cancellations (the head taken by the channel in the current
  iteration of its loop is the head the book removes at the iteration's read); once the read side has ended the book sees
  no more reads and claims nothing about the order;
* a failing write pump (`poll_ready` / `start_send` / `poll_flush`) is recorded by the book (`failed_of_shape`,
  `NZ_pumpWrite`): the request it drops is tracked without ever having been yielded, and the clause is off.
-/
namespace TarpcModel.Server
open TarpcModel TarpcModel.Server.Flow TarpcModel.Server.Mon06 TarpcModel.Server.Mon11 TarpcModel.Server.Tab

/-- the monitor with the bound clause of `checkC11` only -/
def monC11Bound (limit : Option Nat) (evs : List SEv) : Mon Unit := Mon.run limit checkC11Bound () evs

/-- the monitor with the table clauses of `checkC11` (bound, stalled limiter, idle channel) -/
def monC11Rest (limit : Option Nat) (evs : List SEv) : Mon Unit := Mon.run limit checkC11Rest () evs

/-- **C11 (server), monitor form, the bound.**  Without a limiter, for every script over all ops whose total advanced
time is below `2^35` ms, whose injected requests carry pairwise distinct ids and deadlines within the clamp horizon —
with cancellations, abandoned executions, expirations, transport faults — the bound clause of the C11 monitor never
fires on the model's trace: at the end of every poll of the request stream, the channel reports no more requests in
flight than the monitor's table of yielded requests lists (the table from which the monitor has removed, at every
transport read, the abandoned execution at the head of its order and the due execution with the earliest tick). -/
theorem C11S_bound_accepts (respCap tcap : Nat) (coupled : Bool) (ops : List SOp)
    (hT : advSum ops < 2 ^ 35 * nsPerMs) (hd : DistinctIds ops) (hnear : NearOps ops) :
    (monC11Bound none (trace (initSys none respCap tcap coupled) ops)).ok = true :=
  Option.isNone_iff_eq_none.mpr (c11_bound_accepts C16_server_flags respCap tcap coupled ops hT hd hnear)

/-- **C11 (server), monitor form, all table clauses** (`checkC11Rest`: bound, stalled limiter, idle channel), under
the same hypotheses. -/
theorem C11S_table_accepts (respCap tcap : Nat) (coupled : Bool) (ops : List SOp)
    (hT : advSum ops < 2 ^ 35 * nsPerMs) (hd : DistinctIds ops) (hnear : NearOps ops) :
    (monC11Rest none (trace (initSys none respCap tcap coupled) ops)).ok = true :=
  Option.isNone_iff_eq_none.mpr (c11_rest_accepts C16_server_flags respCap tcap coupled ops hT hd hnear)

/-- **C11 (server), the whole run-time monitor accepts every trace of the model** — no limiter, clock below `2^35` ms,
pairwise distinct request ids, deadlines within the clamp horizon; every op, every fault. -/
theorem C11S_monitor_accepts (respCap tcap : Nat) (coupled : Bool) (ops : List SOp)
    (hT : advSum ops < 2 ^ 35 * nsPerMs) (hd : DistinctIds ops) (hnear : NearOps ops) :
    (monC11 none (trace (initSys none respCap tcap coupled) ops)).ok = true :=
  Option.isNone_iff_eq_none.mpr (c11_accepts C16_server_flags respCap tcap coupled ops hT hd hnear
    (Option.isNone_iff_eq_none.mp (C11S_monitor_accepts_counts none respCap tcap coupled ops)))

/-- **The hypothesis `NearOps` cannot be dropped** for the whole monitor either: on the script of `C11S_rearm_witness`
(one request whose deadline lies half a millisecond beyond the clamp, the re-arm poll 0.7 ms late) `monC11` and
`monC11Rest` reject the model's trace, while the bound clause alone accepts it. -/
theorem C11S_rearm_rejected :
    (monC11 none (trace (initSys none 1 8 false) c11RearmOps)).ok = false ∧
    (monC11Rest none (trace (initSys none 1 8 false) c11RearmOps)).ok = false ∧
    (monC11Bound none (trace (initSys none 1 8 false) c11RearmOps)).ok = true := by
  decide +kernel

set_option maxRecDepth 100000 in
/-- Non-vacuity: two requests are yielded; the execution of the first is dropped by the application (its guard queues a
cancellation), the clock passes the second one's deadline, a third request arrives: one poll of the request stream
processes the guard cancellation, expires the second request, reads and yields the third — it does not go idle, and
reports 1 in flight; the monitor's table (after `sweepOne` at that read) lists exactly that one.  The bound clause judges
every `counts` observation and accepts, and so does the whole monitor. -/
example :
    let ops : List SOp :=
      [.injectReq 1 5000000 ⟨0, .given 0, false⟩ 0, .pollServer, .injectReq 2 6000000 ⟨0, .given 0, false⟩ 0, .pollServer,
       .dropExec 0, .advance 10000000, .injectReq 3 90000000 ⟨0, .given 0, false⟩ 0, .pollServer]
    (monC11Bound none (trace (initSys none 1 8 false) ops)).ok = true ∧
    (monC11 none (trace (initSys none 1 8 false) ops)).ok = true ∧
    SEv.obs (.counts (.server 0) 2 2) ∈ trace (initSys none 1 8 false) ops ∧
    SEv.obs (.counts (.server 0) 1 1) ∈ trace (initSys none 1 8 false) ops ∧
    SEv.obs (.ret (.server 0) .readyItem) ∈ trace (initSys none 1 8 false) ops := by
  decide +kernel

/-- The clause is not vacuous: a poll that reports more requests in flight than the table lists is rejected. -/
example :
    (monC11Bound none
      [.op .pollServer, .obs (.yielded 0 1 5000000 ⟨0, .fresh 0, false⟩), .obs (.ret (.server 0) .readyItem),
       .obs (.counts (.server 0) 2 2)]).ok = false := by
  decide

end TarpcModel.Server
