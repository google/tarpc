import TarpcModel.Lemmas.ServerTrace
/-!
# C08 (server side) — at most one response per accepted request, none for requests never read

Property theorems only.  `BaseChannel::start_send` is `baseStartSend`, `start_request` is
`startRequest` (`Server/Model.lean`).  The trace theorems quantify over all configurations and all
op lists; they are read off a ghost folded over the trace (`Lemmas/ServerTrace.lean`).
-/
namespace TarpcModel.Server

/-! ### mechanism -/

/-- **C08 mechanism: a response is written only while its id is tracked, and writing it untracks
the id.**  Either the id is untracked and `start_send` changes nothing and writes nothing, or it is
tracked by entry `e`: then exactly one `start_send` reaches the transport (it is the newest
observation), the entry is removed (no entry with that id is left) and — `remove` of its key
succeeding — so is its timer. -/
theorem C08_response_only_if_tracked (s : St) (id : Nat) (res : Res) :
    (findEntry s id = none ∧ baseStartSend s id res = (s, none))
    ∨ (∃ e ok, findEntry s id = some e
        ∧ (baseStartSend s id res).2 = some ok
        ∧ (baseStartSend s id res).1.obs.head? = some (.tSend (tid s) (.response id res) ok)
        ∧ (baseStartSend s id res).1.inflight = s.inflight.filter (·.id != id)
        ∧ findEntry (baseStartSend s id res).1 id = none
        ∧ (∀ q w, s.timers.remove e.timerKey = some (q, w) → (baseStartSend s id res).1.timers = q)) :=
  baseStartSend_spec s id res

/-- … and the number of `start_send` calls `baseStartSend` makes is exactly one if the id is tracked,
zero otherwise (counted by the ghost over the observations). -/
theorem C08_sends_iff_tracked (L : Option Nat) (g0 : Ghost) (s : St) (id : Nat) (res : Res) :
    (gh L g0 (baseStartSend s id res).1.obs).sends
      = (gh L g0 s.obs).sends + (if (findEntry s id).isSome then 1 else 0) := by
  rw [baseStartSend_gh]
  rcases Flow.removeRequest_out s id with ⟨hf, h1⟩ | ⟨e, hf, h1⟩
  · simp [h1, hf]
  · simp [h1, hf, gstep]

/-- on a well-formed table the timer of the answered request is always there to be removed: the
queue loses exactly that key, and nothing panics -/
theorem C08_tracked_timer_removed (s : St) (id : Nat) (res : Res) (e : SEntry) (hw : TableWF s)
    (hf : findEntry s id = some e) :
    (baseStartSend s id res).1.timers.kv = s.timers.kv.filter (·.1 != e.timerKey)
    ∧ (baseStartSend s id res).1.poisoned = s.poisoned := by
  obtain ⟨he, _⟩ := Flow.findEntry_some hf
  have hmem : e.kv ∈ s.timers.kv := hw.perm.mem_iff.mp (List.mem_map.mpr ⟨e, he, rfl⟩)
  have hsome : (s.timers.remove e.timerKey).isSome = true := by
    rw [DelayQ.remove_isSome_iff]; exact List.mem_map.mpr ⟨_, hmem, rfl⟩
  obtain ⟨⟨q, w⟩, hq⟩ := Option.isSome_iff_exists.mp hsome
  rcases C08_response_only_if_tracked s id res with ⟨hn, _⟩ | ⟨e', ok, hf', _, _, _, _, ht⟩
  · rw [hn] at hf; cases hf
  · rw [hf] at hf'; cases hf'
    refine ⟨by rw [ht q w hq]; exact (DelayQ.remove_some_spec _ _ _ _ hq).1, ?_⟩
    rcases Flow.removeRequest_out s id with ⟨hf2, _⟩ | ⟨e2, hf2, h1⟩ <;> rw [hf] at hf2 <;> cases hf2
    rcases baseStartSend_cases s id res with ⟨h0, _⟩ | ⟨_, h2⟩
    · rw [h1] at h0; cases h0
    · rw [h2, Flow.tSend_poisoned, h1, removeTimer_of_some (s := { s with inflight := s.inflight.filter (·.id != id) }) hq]
      split
      · exact Flow.wakeServer_poisoned _
      · rfl

/-- **C08 mechanism: a duplicate request id is ignored** — no execution, no timer, nothing changes. -/
theorem C08_duplicate_ignored (s : St) (now id d : Nat) (tr : Trace) (b : Nat) (e : SEntry)
    (h : findEntry s id = some e) : startRequest s now id d tr b = (s, none) := by
  unfold startRequest; simp [h]

/-! ### over all op sequences -/

/-- **C08: no orphan responses.**  In every trace, every response written to the transport answers
a `Request` message with that id read earlier in the same trace. -/
theorem C08_no_orphans (limit : Option Nat) (respCap tcap : Nat) (coupled : Bool) (ops : List SOp)
    (l1 l2 : List SEv) (ep : TaskId) (id : Nat) (res : Res) (ok : Bool)
    (h : trace (initSys limit respCap tcap coupled) ops = l1 ++ SEv.obs (.tSend ep (.response id res) ok) :: l2) :
    ∃ ep' d tr b, SEv.obs (.tNext ep' (.item (.request id d tr b))) ∈ l1 := by
  have hok := trace_gok limit respCap tcap coupled ops
  rw [h] at hok
  have := hok.at_split.orphan
  simp only [gev, gstep, Bool.and_eq_true, List.contains_iff_mem] at this
  rcases mem_reads_traceGhost limit {} l1 id (by simpa using this.2) with h0 | h1
  · cases h0
  · exact h1

/-- **C08: at most one response per acceptance.**  In every trace, between two responses for the
same id a `Request` with that id was read (a request is only accepted — inserted into the table —
when it is read, so: at most one response between two insertions of an id). -/
theorem C08_at_most_one_response (limit : Option Nat) (respCap tcap : Nat) (coupled : Bool) (ops : List SOp)
    (l1 l2 l3 : List SEv) (ep1 ep2 : TaskId) (id : Nat) (r1 r2 : Res) (ok1 ok2 : Bool)
    (h : trace (initSys limit respCap tcap coupled) ops
          = l1 ++ SEv.obs (.tSend ep1 (.response id r1) ok1) :: (l2 ++ SEv.obs (.tSend ep2 (.response id r2) ok2) :: l3)) :
    ∃ ep d tr b, SEv.obs (.tNext ep (.item (.request id d tr b))) ∈ l2 := by
  have hok := trace_gok limit respCap tcap coupled ops
  have h' : trace (initSys limit respCap tcap coupled) ops
      = (l1 ++ SEv.obs (.tSend ep1 (.response id r1) ok1) :: l2) ++ SEv.obs (.tSend ep2 (.response id r2) ok2) :: l3 := by
    rw [h]; simp
  rw [h'] at hok
  have h2 := hok.at_split.once
  simp only [gev, gstep, Bool.and_eq_true, Bool.not_eq_true'] at h2
  -- after the first response the id is marked answered; it is unmarked at the second
  apply Classical.byContradiction
  intro hno
  have hmem : id ∈ (traceGhost limit {} (l1 ++ SEv.obs (.tSend ep1 (.response id r1) ok1) :: l2)).sent := by
    rw [traceGhost_append]
    show id ∈ (traceGhost limit (gev limit (traceGhost limit {} l1) (SEv.obs (.tSend ep1 (.response id r1) ok1))) l2).sent
    apply traceGhost_sent_persist
    · simp [gev, gstep]
    · intro ep d tr b hm
      exact hno ⟨ep, d, tr, b, hm⟩
  have := h2.2
  simp [hmem] at this

/-! ### monitor sub-check (gold) -/

/-- the first clause of the send branch of `checkC08`, stand-alone: a response for an id that was
never read on this channel -/
def checkC08NoOrphan (b : Book) (_ : Unit) : SEv → Unit × Option String
  | .obs (.tSend _ (.response id _) _) =>
      if !(b.reqReads.any (·.1 == id)) then ((), some s!"response for id {id}, which was never read on this channel")
      else ((), none)
  | _ => ((), none)

/-- **C08 monitor sub-check accepted** on every trace of the model. -/
theorem C08_checkNoOrphan_accepts (limit : Option Nat) (respCap tcap : Nat) (coupled : Bool) (ops : List SOp) :
    (Mon.run limit checkC08NoOrphan () (trace (initSys limit respCap tcap coupled) ops)).ok = true := by
  unfold Mon.ok Mon.run
  rw [Mon.sim limit checkC08NoOrphan ReadsKnown (readsKnown_step limit) _ _ _ {} rfl
    (by intro x hx; cases hx) (trace_gok limit respCap tcap coupled ops)]
  · rfl
  · intro b g st e hr hok
    cases e with
    | op o => rfl
    | obs o =>
      cases o with
      | tSend ep m ok =>
        cases m with
        | response id res =>
          have := hok.orphan
          simp only [gev, gstep, Bool.and_eq_true, List.contains_iff_mem] at this
          have hk := hr id (by simpa using this.2)
          simp only [FlowMon.bookOf, checkC08NoOrphan, hk]
          rfl
        | _ => rfl
      | _ => rfl

/-- the hypotheses are satisfiable: a script in which a request is read, handed out, finished and
answered — the trace contains a response, preceded by the read of its request -/
example :
    (trace (initSys none 1 4 true)
      [.injectReq 1 5000000 ⟨7, .given 1, true⟩ 0, .pollServer, .finish 0 (.ok 3), .pollExec 0, .pollServer]).filter
        (fun e => match e with
          | .obs (.tSend _ _ _) => true
          | .obs (.tNext _ (.item _)) => true
          | _ => false)
      = [.obs (.tNext (.server 0) (.item (.request 1 5000000 ⟨7, .given 1, true⟩ 0))),
         .obs (.tSend (.server 0) (.response 1 (.ok 3)) true)] := by
  decide

end TarpcModel.Server
