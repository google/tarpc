import TarpcModel.Lemmas.ClientMon
/-!
# C05 — the client enforces request deadlines, never early

Property theorems only.  A call fails with `DeadlineExceeded` (`Outcome.deadline`) only through
`InFlightRequests::poll_expired`, i.e. when the `DelayQueue` yields the timer armed for the request *and* nothing of
the time until the deadline is left to be armed.  The proof goes through `DelayQ.pollExpired_spec`
(`Lemmas/DelayQInv.lean`: the timer wheel emulation never yields an entry before `whenMs`, given
`wheelElapsed ≤ now`) and the client invariant `Client.StInv` (`Lemmas/ClientInv.lean`: for every in-flight entry
`deadline ≤ whenMs * 1e6 + remainder`, where `whenMs` is its armed timer and `remainder` its `deadline_remainder`).

**The clamp and the re-arm.**  `insert_request` arms the timer with `min (deadline - now) MAX_DEADLINE_TIMEOUT`
(`clampTimeout`) and keeps the rest as the entry's `remainder`; when the timer fires with `remainder ≠ 0`,
`poll_expired` arms a new timer with (a clamped part of) what is left of the remainder after subtracting how late
the expiry is handled (measured from the entry's exact due time `dueAt`), instead of failing the request
(`Client.rearm`); if nothing is left it fails the request.  The witnesses at the end say what each part is for: a call with
a deadline two clamps away is pending after one clamp and fails at its deadline (`C05_far_deadline_witness`; without
the re-arm it fails a clamp early, `C05_clamp_without_rearm_witness`), a late dispatch does not postpone the deadline
(`C05_late_dispatch_witness`), re-arming does not drift (`C05_no_drift_witness`).

Only the *never early* half of C05 is covered here.  The *not late* half (second and third clause of `checkC05`) is in
`Props/C05NotLate.lean`: proved in state form, while `C05_monitor_full_Statement` below, which asks it of every trace
without a bound on the clock, is refuted there (`C05_monitor_full_statement_false`).
-/
set_option linter.unusedSimpArgs false
namespace TarpcModel.Client

/-- **C05 never early, state form (oneshot).**  In every reachable state, if the oneshot of a call holds
`DeadlineExceeded`, the virtual clock has reached the deadline the caller gave (`ctx.deadline`, ns). -/
theorem C05_oneshot_deadline_not_early (m bufCap tcap : Nat) (coupled : Bool) (ops : List COp)
    (c : Sys) (hc : c = ops.foldl applyOp (initSys m bufCap tcap coupled)) (cl : Call) (hcl : cl ∈ c.s.calls)
    (h : cl.os.val = some .deadline) : cl.ctx.deadline ≤ c.now := by
  subst hc; exact (inv_reach m bufCap tcap coupled ops).c.osDl cl hcl h

/-- **C05 never early, state form (resolution).**  In every reachable state, a call that resolved with
`DeadlineExceeded` has its deadline behind the clock. -/
theorem C05_outcome_deadline_not_early (m bufCap tcap : Nat) (coupled : Bool) (ops : List COp)
    (c : Sys) (hc : c = ops.foldl applyOp (initSys m bufCap tcap coupled)) (cl : Call) (hcl : cl ∈ c.s.calls)
    (h : cl.outcome = some .deadline) : cl.ctx.deadline ≤ c.now := by
  subst hc; exact (inv_reach m bufCap tcap coupled ops).c.outDl cl hcl h

/-- **C05 never early, the timers.**  In every reachable state the armed timer of an in-flight request (`whenMs`, in
ms) together with the part of the time until the deadline that has not been armed yet (`remainder`, ns) reaches the
request's deadline.  In particular an entry with `remainder = 0` has its timer at or after the deadline. -/
theorem C05_timer_not_before_deadline (m bufCap tcap : Nat) (coupled : Bool) (ops : List COp)
    (s : St) (hs : s = (ops.foldl applyOp (initSys m bufCap tcap coupled)).s) (en : Entry) (hen : en ∈ s.inflight)
    (d : DqEntry) (hd : d ∈ s.timers.entries ++ s.timers.expired) (hk : d.key = en.timerKey) :
    en.ctx.deadline ≤ d.whenMs * nsPerMs + en.remainder ∧
    (en.remainder = 0 → en.ctx.deadline ≤ d.whenMs * nsPerMs) := by
  subst hs
  have h := inv_reach m bufCap tcap coupled ops
  obtain ⟨w, hw, hdl⟩ := h.t.e2t en hen
  have := (DelayQ.Has.functional h.t.wf hw ⟨d, hd, hk, rfl, rfl⟩).2
  rw [this] at hdl; exact ⟨hdl, fun h0 => by omega⟩

/-- **The armed timer and the exact due time.**  In every reachable state, for an in-flight entry and its armed
timer: the entry's `dueAt` (`timer_due`, the exact `now + timeout` recorded when the timer was armed) plus its
`remainder` reach the deadline and do not exceed `max deadline now` (the sum is `max deadline (time of insertion)` and
constant across re-arms), and the queue's timer is the millisecond ceiling of `dueAt`. -/
theorem C05_timer_is_ceiling_of_due (m bufCap tcap : Nat) (coupled : Bool) (ops : List COp)
    (c : Sys) (hc : c = ops.foldl applyOp (initSys m bufCap tcap coupled)) (en : Entry) (hen : en ∈ c.s.inflight)
    (d : DqEntry) (hd : d ∈ c.s.timers.entries ++ c.s.timers.expired) (hk : d.key = en.timerKey) :
    en.ctx.deadline ≤ en.dueAt + en.remainder ∧ en.dueAt + en.remainder ≤ max en.ctx.deadline c.now ∧
    en.dueAt ≤ d.whenMs * nsPerMs ∧ d.whenMs * nsPerMs < en.dueAt + nsPerMs := by
  subst hc
  have h := inv_reach m bufCap tcap coupled ops
  obtain ⟨w, hw, -⟩ := h.t.e2t en hen
  have hv := (DelayQ.Has.functional h.t.wf hw ⟨d, hd, hk, rfl, rfl⟩)
  exact h.t.due en hen d.whenMs ⟨d, hd, hk, hv.1.symm, rfl⟩

/-- **C05 never early, the expiry itself.**  In every reachable state, if polling the `DelayQueue` at the current
time yields a timer, that timer is due (`whenMs * 1e6 ≤ now`) and belongs to exactly one in-flight entry — the one
`poll_expired` finds —, whose exact due time `dueAt` is at most one millisecond before the timer and, with the
`remainder`, reaches the deadline.  `late = now - dueAt` is how late the expiry is handled.  If the entry's `remainder`
exceeds the lateness the iteration does *not* fail the request (it re-arms the timer with what is left, or panics in
`DelayQueue::insert`); the iteration fails the request only if `remainder ≤ late`, and then the request's deadline has
passed. -/
theorem C05_expiry_only_when_due (m bufCap tcap : Nat) (coupled : Bool) (ops : List COp)
    (c : Sys) (hc : c = ops.foldl applyOp (initSys m bufCap tcap coupled)) (e : DqEntry)
    (h : (c.s.timers.pollExpired c.now).2 = .expired e) :
    e.whenMs * nsPerMs ≤ c.now ∧ ∃ en ∈ c.s.inflight, en.id = e.val ∧ findEntry c.s e.val = some en ∧
      en.ctx.deadline ≤ en.dueAt + en.remainder ∧
      en.dueAt ≤ e.whenMs * nsPerMs ∧ e.whenMs * nsPerMs < en.dueAt + nsPerMs ∧
      (c.now - en.dueAt < en.remainder → ∀ s', expireStep c.s c.now ≠ .done s' true) ∧
      (en.remainder ≤ c.now - en.dueAt → en.ctx.deadline ≤ c.now) := by
  subst hc
  have hi := inv_reach m bufCap tcap coupled ops
  obtain ⟨en, hen, e1, e2, e3, -, d1, d2, d3, d4⟩ := (hi.t.expired hi.i.inNodup).1 e h
  have hf : findEntry (ops.foldl applyOp (initSys m bufCap tcap coupled)).s e.val = some en := by
    cases hf : findEntry (ops.foldl applyOp (initSys m bufCap tcap coupled)).s e.val with
    | none => exact absurd e1 (findEntry_none hf en hen)
    | some en' =>
      obtain ⟨hen', hid'⟩ := findEntry_some hf
      rw [eq_of_map_nodup (f := (·.id)) hi.i.inNodup hen' hen (by rw [hid', e1])]
  refine ⟨e3, en, hen, e1, hf, d1, d3, d4, ?_, fun h0 => by omega⟩
  intro hlt s'
  rw [expireStep_of_expired h hf, if_pos (by simp only [bne_iff_ne, ne_eq]; omega)]
  exact rearm_ne_done_true _ _ _ _ _ _ _

/-- The *never early* clause of `checkC05` (its first test), as a monitor of its own. -/
def checkC05NeverEarly (b : Book) (last : C05St) : CEv → C05St × Option String
  | .obs (.resolved c .deadline t) =>
      match b.calls.find? (·.cid == c) with
      | none => (last, none)
      | some ci =>
          if t < ci.deadline then (last, some s!"call {c} failed with DeadlineExceeded at {t} before its deadline {ci.deadline}")
          else (last, none)
  | _ => (last, none)

def monC05NeverEarly (evs : List CEv) : Mon C05St := Mon.run checkC05NeverEarly none evs

/-- **C05 never early, monitor form.**  For every configuration and every script, the monitor made of the first
clause of `checkC05` accepts the model's trace: every `resolved c DeadlineExceeded t` observation carries a time `t`
not before the deadline given in the `call` op that created call `c`. -/
theorem C05_monitor_never_early_accepts (m bufCap tcap : Nat) (coupled : Bool) (ops : List COp) :
    (monC05NeverEarly (trace (initSys m bufCap tcap coupled) ops)).ok = true := by
  apply mon_accepts (m := m) (T := advSum ops) (hT := Nat.le_refl _)
  · intro bk st op; rfl
  · intro c bk st o _ _ hi hcpl hg
    cases o <;> try rfl
    rename_i cid oc t
    cases oc <;> try rfl
    simp only [checkC05NeverEarly]
    cases hf : bk.calls.find? (·.cid == cid) with
    | none => rfl
    | some ci =>
      obtain ⟨cl, hcl, e1, e2, -⟩ := hg rfl
      obtain ⟨cl', hcl', f1, f2⟩ := hcpl.find hf
      have : cl = cl' := hi.c.cid_unique hcl hcl' (by rw [e1, f1])
      subst this
      have : ¬ t < ci.deadline := by omega
      simp [this]

/-- The first clause of `checkC05` is exactly `checkC05NeverEarly`: whenever the sub-monitor objects, so does
`checkC05`, with the same message. -/
theorem checkC05_first_clause (b : Book) (last : C05St) (e : CEv) (why : String)
    (h : (checkC05NeverEarly b last e).2 = some why) : (checkC05 b last e).2 = some why := by
  unfold checkC05NeverEarly at h
  split at h
  · rename_i c t
    unfold checkC05
    dsimp only at h ⊢
    split at h
    · cases h
    · rename_i ci hf
      rw [hf]
      dsimp only
      split at h
      · rename_i hlt; rw [if_pos hlt]; exact h
      · cases h
  · cases h

/-- The full C05 monitor (never early *and* not late) on every trace.  False as it stands — see `Props/C05NotLate.lean`
(`C05_monitor_full_statement_false`; the bounded form is `C05_monitor_bounded_Statement` there). -/
def C05_monitor_full_Statement : Prop :=
  ∀ (m bufCap tcap : Nat) (coupled : Bool) (ops : List COp),
    (monC05 (trace (initSys m bufCap tcap coupled) ops)).ok = true

/-! ### non-vacuity -/

/-- A call with deadline 5 ms expires: the dispatch polled at 6 ms fails it with `DeadlineExceeded`, and the call
resolves with it at 6 ms ≥ 5 ms.  Polled at 4.5 ms the dispatch does not. -/
example :
    CEv.obs (.resolved 0 .deadline 6000000) ∈
      trace (initSys 1 1 1 true) [.call 0 5000000 ⟨1, .given 1, true⟩ 7, .pollCall 0, .pollDispatch,
        .advance 6000000, .pollDispatch, .pollCall 0] := by
  decide +kernel

example :
    CEv.obs (.ret (.call 0) .pending) ∈
      (trace (initSys 1 1 1 true) [.call 0 5000000 ⟨1, .given 1, true⟩ 7, .pollCall 0, .pollDispatch,
        .advance 4500000, .pollDispatch, .pollCall 0]).drop 20 := by
  decide +kernel

/-- a call whose deadline is two clamps away; the clock is advanced by one clamp, then by another -/
def c05FarOps1 : List COp :=
  [.call 0 (2 * clampNs) ⟨1, .given 1, true⟩ 7, .pollCall 0, .pollDispatch, .advance clampNs, .pollDispatch, .pollCall 0]

def c05FarOps2 : List COp := c05FarOps1 ++ [.advance clampNs, .pollDispatch, .pollCall 0]

set_option maxRecDepth 100000 in
/-- **A deadline beyond the clamp is honoured.**  A call whose deadline is
`2 * clampNs`: after `clampNs` the timer armed by `insert_request` fires, `poll_expired` re-arms it with the
remainder (one timer stays armed, the entry's remainder is used up) and the call is still pending; after another
`clampNs` it fails with `DeadlineExceeded` exactly at its deadline, and `monC05NeverEarly` accepts the trace.  (With
the clamp but without the re-arm this call fails at `clampNs`, a year early: `C05_clamp_without_rearm_witness`.) -/
theorem C05_far_deadline_witness :
    clampNs < 2 * clampNs ∧
    (∀ t, CEv.obs (.resolved 0 .deadline t) ∉ trace (initSys 1 1 1 true) c05FarOps1) ∧
    (c05FarOps1.foldl applyOp (initSys 1 1 1 true)).s.timers.len = 1 ∧
    ((c05FarOps1.foldl applyOp (initSys 1 1 1 true)).s.inflight.map (·.remainder)) = [0] ∧
    CEv.obs (.resolved 0 .deadline (2 * clampNs)) ∈ trace (initSys 1 1 1 true) c05FarOps2 ∧
    (monC05NeverEarly (trace (initSys 1 1 1 true) c05FarOps2)).ok = true := by
  refine ⟨by decide +kernel, ?_, by decide +kernel, by decide +kernel, by decide +kernel, by decide +kernel⟩
  intro t hm
  have : (trace (initSys 1 1 1 true) c05FarOps1).any
      (fun ev => match ev with | .obs (.resolved _ .deadline _) => true | _ => false) = false := by decide +kernel
  rw [List.any_eq_false] at this
  exact this _ hm (by rfl)

/-- a call whose deadline is three clamps away is polled at 0 and then not before its deadline -/
def c05LateOps : List COp :=
  [.call 0 (3 * clampNs) ⟨1, .given 1, true⟩ 7, .pollCall 0, .pollDispatch, .advance (3 * clampNs), .pollDispatch,
   .pollCall 0]

set_option maxRecDepth 100000 in
/-- **A late dispatch does not postpone the deadline.**  The timer armed at 0 (one clamp) is handled two clamps
late, which uses up the entry's remainder (two clamps): `poll_expired` fails the request right away and the call
resolves with `DeadlineExceeded` at exactly its deadline `3 * clampNs`.  (A re-arm that ignores the
lateness arms another full clamp here.) -/
theorem C05_late_dispatch_witness :
    CEv.obs (.resolved 0 .deadline (3 * clampNs)) ∈ trace (initSys 1 1 1 true) c05LateOps ∧
    (c05LateOps.foldl applyOp (initSys 1 1 1 true)).s.timers.len = 0 ∧
    (monC05NeverEarly (trace (initSys 1 1 1 true) c05LateOps)).ok = true := by decide +kernel

/-- a call made at 1 ns with deadline `clampNs + 10 ms`; the dispatch is polled just before the first timer's tick
would be 1 ms late, then 9 ms later -/
def c05DriftOps : List COp :=
  [.advance 1, .call 0 (clampNs + 10000000) ⟨1, .given 1, true⟩ 7, .pollCall 0, .pollDispatch,
   .advance (clampNs + 1000000 - 1), .pollDispatch, .advance 9000000, .pollDispatch, .pollCall 0]

set_option maxRecDepth 100000 in
/-- **No drift.**  The first timer (one clamp, armed at 1 ns) is due at `clampNs + 1 ns`, fires at the next
millisecond tick and is re-armed there for the rest (10 ms − 1 ns) *minus the lateness measured from the exact due
time*; the call resolves with `DeadlineExceeded` at exactly its deadline `clampNs + 10 ms`.  (Measuring the lateness
from the queue's ms-rounded deadline loses the sub-millisecond part at every re-arm: the call then resolves 1 ms
late.) -/
theorem C05_no_drift_witness :
    CEv.obs (.resolved 0 .deadline (clampNs + 10000000)) ∈ trace (initSys 1 1 1 true) c05DriftOps ∧
    (monC05NeverEarly (trace (initSys 1 1 1 true) c05DriftOps)).ok = true := by decide +kernel

/-- The model variant "clamp without re-arm": every entry forgets its remainder. -/
def forgetRemainders (c : Sys) : Sys :=
  { c with s := { c.s with inflight := c.s.inflight.map (fun e => { e with remainder := 0 }) } }

set_option maxRecDepth 100000 in
/-- **Without the re-arm, as a statement about that variant.**  If the entry's remainder is dropped after the request
was inserted (a client without `deadline_remainder`), the same call — deadline
`2 * clampNs` — fails with `DeadlineExceeded` at `clampNs`, a whole clamp before its deadline, and `monC05NeverEarly`
rejects the trace.  So the `remainder` is what restores "never early" beyond the clamp. -/
theorem C05_clamp_without_rearm_witness :
    clampNs < 2 * clampNs ∧
    CEv.obs (.resolved 0 .deadline clampNs) ∈
      trace (forgetRemainders ((c05FarOps1.take 3).foldl applyOp (initSys 1 1 1 true))) (c05FarOps1.drop 3) := by
  decide +kernel

end TarpcModel.Client
