import TarpcModel.Lemmas.C02
/-!
# C02 — no wakeup is lost (server side)

Tasks: the request stream (`St.woken`) and one task per execution the application holds
(`Exec.woken`; an execution is a task only once it has been yielded, i.e. has a `vis` number, and
until it completes: `wakeable`).  First block: each event that enables progress wakes the task that
must act on it.  Second block: a task that returns `Pending` is registered with what it waits for.
Third block: the global statement checked by `Server.settle` (false as written, see its docstring) and a partial result.
-/
namespace TarpcModel.Server

/-! ## Events wake the task that must act on them -/

/-- **An inbound request / cancel message / read error wakes the stream task** parked on the
transport's read side. -/
theorem C02S_inbound_wakes_server (s : St) (i : Inb) (h : serverAlive s) (hw : s.t.readWaker = true) :
    (liftT s (s.t.inject i)).woken = true :=
  liftT_woken s _ h hw

/-- **Peer close wakes the stream task** parked on the read side. -/
theorem C02S_eof_wakes_server (s : St) (h : serverAlive s) (hw : s.t.readWaker = true) :
    (liftT s s.t.setEof).woken = true :=
  liftT_woken s _ h hw

/-- **Writability returning wakes the stream task** parked on the sink. -/
theorem C02S_writability_wakes_server (s : St) (h : serverAlive s) (hw : s.t.writeWaker = true)
    (hcap : s.t.buffered.length < s.t.cap) :
    (liftT s (s.t.setReady true)).woken = true := by
  apply liftT_woken s _ h
  simp [SimT.setReady, SimT.wakeIfReady, SimT.isReadyNow, hw, hcap]

/-- **Flushability returning wakes the stream task** parked on a socket-like sink. -/
theorem C02S_flushability_wakes_server (s : St) (h : serverAlive s) (hw : s.t.writeWaker = true)
    (hc : s.t.coupled = true) :
    (liftT s (s.t.setFlush true)).woken = true := by
  apply liftT_woken s _ h
  simp only [SimT.setFlush, SimT.wakeIfReady, hw, hc, Bool.and_self, Bool.or_true, ↓reduceIte]

/-- **Timer expiry wakes the stream task** parked on the deadline queue. -/
theorem C02S_timer_expiry_wakes_server (s : St) (now t : Nat) (h : serverAlive s)
    (hf : s.timers.nextFire = some t) (ht : t ≤ now) (hw : s.timers.waker = true) :
    (onAdvance s now).woken = true := by
  unfold onAdvance
  simp only [hf, ht, decide_true, hw, Bool.and_self, ↓reduceIte]
  exact wakeServer_woken _ h.1 h.2

/-- **A queued response wakes the stream task** parked on the response queue, and the response is in
the queue for it to write. -/
theorem C02S_response_wakes_server (s : St) (e : Exec) (res : Res) (now : Nat) (h : serverAlive s)
    (hw : s.rqRxWaker = true) :
    (queueAndFinish s e res now).woken = true ∧ (e.id, res) ∈ (queueAndFinish s e res now).respQ := by
  unfold queueAndFinish
  rw [if_neg (by rw [h.1]; exact Bool.false_ne_true), if_pos hw]
  simp only [emit, updExec, Flow.wakeServer_respQ]
  exact ⟨wakeServer_woken _ h.1 h.2, List.mem_append_right _ (List.mem_singleton.mpr rfl)⟩

/-- **A guard cancellation wakes the stream task** parked on the cancellation queue (an execution
dropped or finished without its response having been written). -/
theorem C02S_guard_cancel_wakes_server (s : St) (e : Exec) (h : serverAlive s) (ha : e.guardArmed = true)
    (hw : s.cancelRxWaker = true) :
    (guardDrop s e).woken = true ∧ e.id ∈ (guardDrop s e).cancelQ := by
  unfold guardDrop
  rw [if_pos (by simp [ha, h.1])]
  simp only [hw, ↓reduceIte]
  constructor
  · exact wakeServer_woken _ h.1 h.2
  · rw [Flow.wakeServer_cancelQ]; simp

/-- The same for a request dropped by `Requests` itself because the write pump failed. -/
theorem C02S_dropOffered_wakes_server (s : St) (rid id : Nat) (h : serverAlive s)
    (hw : s.cancelRxWaker = true) :
    (dropOffered s rid id).woken = true ∧ id ∈ (dropOffered s rid id).cancelQ := by
  unfold dropOffered
  simp only [updExec_cancelRxWaker, hw, ↓reduceIte]
  constructor
  · exact wakeServer_woken _ h.1 h.2
  · rw [Flow.wakeServer_cancelQ]; simp

/-- **A response-queue slot returning wakes the oldest execution waiting for one**, which then owns it. -/
theorem C02S_slot_wakes_waiter (s : St) (w : Nat) (rest : List Nat) (e : Exec)
    (hq : s.rqWaiters = w :: rest) (hg : getExec s w = some e) (hw : wakeable e = true) :
    (getExec (rqRelease s) w).map (·.woken) = some true ∧ w ∈ (rqRelease s).rqAssigned := by
  unfold rqRelease
  simp only [hq]
  have hg' : getExec { s with rqWaiters := rest, rqAssigned := s.rqAssigned ++ [w] } w = some e := hg
  constructor
  · rw [getExec_wakeExec_self _ w e hg' hw]; rfl
  · rw [(ExecsOnly.rqAssigned (Flow.wakeExec_eq _ w))]; simp

/-- **An abort (client cancellation, deadline, stream dropped) wakes the execution** parked on its abort
waker, with the abort flag set. -/
theorem C02S_abort_wakes_exec (s : St) (rid : Nat) (e : Exec) (hg : getExec s rid = some e)
    (hl : wakeable e = true) (hw : e.abortWaker = true) :
    (getExec (abortExec s rid) rid).map (·.woken) = some true ∧
    (getExec (abortExec s rid) rid).map (·.aborted) = some true := by
  rw [getExec_abortExec_self s rid e hg]
  simp [abortedE, hw, hl]

/-- **The handler becoming ready wakes its execution** (the script's stand-in for whatever the handler
awaits). -/
theorem C02S_finish_wakes_exec (s : St) (vid : Nat) (res : Res) (e : Exec)
    (hv : getExecVis s vid = some e) (hg : getExec s e.rid = some e) (hl : wakeable e = true)
    (hd : e.hDone = false) (hp : e.phase = .running) :
    (getExec (finishHandler s vid res) e.rid).map (·.woken) = some true := by
  have hlive : execLive e = true := by
    simp only [wakeable, Bool.and_eq_true] at hl; exact hl.1
  unfold finishHandler
  simp only [hv, hlive, hd, Bool.not_true, Bool.or_self, Bool.false_eq_true, ↓reduceIte, hp, beq_self_eq_true]
  have hg' : getExec (updExec s e.rid (fun x => { x with finishCmd := some res })) e.rid
      = some { e with finishCmd := some res } := by
    rw [getExec_updExec _ _ _ ?_, hg]
    · rfl
    · intro _; rfl
  rw [getExec_wakeExec_self _ e.rid _ hg' (by simpa [wakeable, execLive] using hl)]
  rfl

/-- **Dropping the stream wakes every execution waiting for a response-queue slot** (their `send` then
fails and they finish). -/
theorem C02S_drop_wakes_all_waiters (s : St) (hd : s.dropped = false) (hp : s.poisoned = false) :
    ∀ w ∈ s.rqWaiters, ∀ e, getExec s w = some e → wakeable e = true →
      (getExec (dropServer s) w).map (·.woken) = some true := by
  intro w hm e hg hw
  obtain ⟨e', hg', _, hw'⟩ := dropServer_wakes_waiter s hd hp w hm e hg hw
  simp [hg', hw']

/-- **Dropping the stream aborts every execution owning an in-flight entry**, and wakes it if it is
parked on its abort waker. -/
theorem C02S_drop_aborts_all_inflight (s : St) (hd : s.dropped = false) (hp : s.poisoned = false) :
    ∀ en ∈ s.inflight, ∀ e, getExec s en.rid = some e →
      (getExec (dropServer s) en.rid).map (·.aborted) = some true ∧
      (e.abortWaker = true → wakeable e = true → (getExec (dropServer s) en.rid).map (·.woken) = some true) := by
  intro en hm e hg
  obtain ⟨e', hg', _, ha', hw'⟩ := dropServer_aborts_inflight s hd hp en.rid (List.mem_map_of_mem hm) e hg
  refine ⟨by simp [hg', ha'], fun ha hw => ?_⟩
  simp [hg', hw' ha hw]

/-! ## A task that returns `Pending` is registered with what it waits for -/

/-- **An execution whose handler is not finished registers its abort waker** (the `Abortable` wrapper
stores the waker before polling the handler; the handler's own wake source is `finishHandler`). -/
theorem C02S_running_exec_registers (s : St) (vid now : Nat) (e : Exec)
    (hv : getExecVis s vid = some e) (hg : getExec s e.rid = some e) (hl : execLive e = true)
    (ha : e.aborted = false) (hp : e.phase ≠ .sending) (hf : e.finishCmd = none) :
    (getExec (pollExec s vid now) e.rid).map (·.abortWaker) = some true := by
  unfold pollExec
  simp only [hv, hl, Bool.not_true, Bool.false_eq_true, ↓reduceIte, ha, hf]
  rw [getExec_emit, getExec_updExec _ _ _ ?_, getExec_emit, getExec_updExec _ _ _ ?_,
    getExec_updExec _ _ _ ?_, hg]
  · rfl
  all_goals (intro _; rfl)

/-- **An execution that finds the response queue full queues up for a slot and registers its abort
waker**: `rqRelease` (a slot returning) and `dropServer` wake it through the waiter list, an abort
through the abort waker. -/
theorem C02S_blocked_send_registers (s : St) (e e0 : Exec) (res : Res) (now : Nat)
    (hd : s.dropped = false) (hg : getExec s e.rid = some e0)
    (hna : s.rqAssigned.contains e.rid = false)
    (hfull : s.rqWaiters.contains e.rid = true ∨ s.rqAvail = 0) :
    (getExec (trySend s e res now) e.rid).map (·.abortWaker) = some true ∧
    e.rid ∈ (trySend s e res now).rqWaiters := by
  unfold trySend
  simp only [hd, Bool.false_eq_true, ↓reduceIte, hna]
  by_cases hw : s.rqWaiters.contains e.rid = true
  · simp only [hw, ↓reduceIte]
    constructor
    · rw [getExec_emit, getExec_updExec _ _ _ ?_, hg]
      · rfl
      · intro _; rfl
    · show e.rid ∈ s.rqWaiters
      simpa using hw
  · have h0 : s.rqAvail = 0 := by
      rcases hfull with h | h
      · exact absurd h hw
      · exact h
    simp only [hw, Bool.false_eq_true, ↓reduceIte, h0, Nat.lt_irrefl, gt_iff_lt]
    constructor
    · rw [getExec_emit, getExec_updExec _ _ _ ?_]
      · show Option.map _ (Option.map _ (getExec s e.rid)) = _
        rw [hg]; rfl
      · intro _; rfl
    · show e.rid ∈ s.rqWaiters ++ [e.rid]
      simp

/-- The same at the level of one poll of an execution already waiting for a slot (phase `sending`): it
returns `Pending` registered and queued. -/
theorem C02S_sending_exec_registers (s : St) (vid now : Nat) (e : Exec) (res : Res)
    (hv : getExecVis s vid = some e) (hg : getExec s e.rid = some e) (hl : execLive e = true)
    (ha : e.aborted = false) (hp : e.phase = .sending) (hr : e.resp = some res)
    (hd : s.dropped = false) (hna : s.rqAssigned.contains e.rid = false)
    (hfull : s.rqWaiters.contains e.rid = true ∨ s.rqAvail = 0) :
    (getExec (pollExec s vid now) e.rid).map (·.abortWaker) = some true ∧
    e.rid ∈ (pollExec s vid now).rqWaiters := by
  unfold pollExec
  simp only [hv, hl, Bool.not_true, Bool.false_eq_true, ↓reduceIte, ha, hp, hr]
  have hg' : getExec (updExec s e.rid (fun x => { x with woken := false })) e.rid = some { e with woken := false } := by
    rw [getExec_updExec _ _ _ ?_, hg]
    · rfl
    · intro _; rfl
  exact C02S_blocked_send_registers _ e _ res now hd hg' hna hfull

/-- … and of the poll in which the handler finishes and finds the response queue full. -/
theorem C02S_finishing_exec_registers (s : St) (vid now : Nat) (e : Exec) (res : Res)
    (hv : getExecVis s vid = some e) (hg : getExec s e.rid = some e) (hl : execLive e = true)
    (ha : e.aborted = false) (hp : e.phase ≠ .sending) (hf : e.finishCmd = some res)
    (hd : s.dropped = false) (hna : s.rqAssigned.contains e.rid = false)
    (hfull : s.rqWaiters.contains e.rid = true ∨ s.rqAvail = 0) :
    (getExec (pollExec s vid now) e.rid).map (·.abortWaker) = some true ∧
    e.rid ∈ (pollExec s vid now).rqWaiters := by
  unfold pollExec
  simp only [hv, hl, Bool.not_true, Bool.false_eq_true, ↓reduceIte, ha, hf]
  have hg' : ∃ e0, getExec (updExec (emit (emit (updExec (updExec s e.rid (fun x => { x with woken := false })) e.rid
      (fun x => { x with phase := .running })) (.handler vid .polled now)) (.handler vid .completed now)) e.rid
      (fun x => { x with hDone := true, finishCmd := none })) e.rid = some e0 := by
    rw [getExec_updExec _ _ _ ?_, getExec_emit, getExec_emit, getExec_updExec _ _ _ ?_,
      getExec_updExec _ _ _ ?_, hg]
    · exact ⟨_, rfl⟩
    all_goals (intro _; rfl)
  obtain ⟨e0, hg0⟩ := hg'
  refine C02S_blocked_send_registers _ _ e0 res now ?_ ?_ ?_ ?_
  · simp only [Flow.updExec_dropped, emit]; exact hd
  · exact hg0
  · simp only [updExec_rqAssigned, emit]; exact hna
  · simp only [updExec_rqWaiters, updExec_rqAvail, emit]; exact hfull

/-- **The stream task registers on the guard-cancellation queue** whenever it finds it empty, and the
registration is still there when `BaseChannel::poll_next` returns. -/
theorem C02S_server_registers_on_cancel_queue (fuel : Nat) (s : St) (now : Nat) (hq : s.cancelQ = []) :
    (basePollNext (fuel + 1) s now).1.cancelRxWaker = true :=
  basePollNext_registers fuel s now hq

/-- **The stream task registers on the response queue** whenever the sink is writable and it finds the
queue empty. -/
theorem C02S_server_registers_on_response_queue (s : St) (rc : Bool) (hq : s.respQ = [])
    (hr : (ensureWriteable s).2 = .ready) :
    (pumpWrite s rc).1.rqRxWaker = true := by
  unfold pumpWrite
  have hk := ensureWriteable_rk s
  revert hr hk
  cases ensureWriteable s with
  | mk s1 r =>
    intro hr hk
    simp only at hr
    subst hr
    simp only
    have hq1 : s1.respQ = [] := hk.1.trans hq
    split
    · rename_i h; rw [hq1] at h; cases h
    · exact (flushArm_rk { s1 with rqRxWaker := true } rc).2

/-- **A parked reader is registered on the transport's read side** (shared with the client:
`SimT.pollNext`), restated for the server's `tNext`. -/
theorem C02S_server_registers_on_read (s : St) (h : (tNext s).2 = .pending) :
    (tNext s).1.t.readWaker = true := by
  have key := fun h => (SimT.pollNext_pending_reg s.t h).2
  unfold tNext at h ⊢
  by_cases hf : s.readFused = true
  · rw [if_pos hf] at h; cases h
  · rw [if_neg hf] at h ⊢
    revert key h
    generalize s.t.pollNext = p
    obtain ⟨t', r⟩ := p
    intro h key
    cases (show r = .pending from h)
    exact key rfl

/-! ## The global statement and a first partial result -/

/-- The global statement in the form the server's `settle` operation checks: from any reachable state,
once no task is woken, no queued response and no unread inbound item is left with the sink ready.
**False as written** (`C02ServerNoStuckStatement_false`, `Props/C02ServerNoStuck.lean`: the limiter at its limit relies
on the sink to wake it); `C02S_no_stuck` there is the statement with the missing hypothesis. -/
def C02ServerNoStuckStatement : Prop :=
  ∀ (limit : Option Nat) (respCap tcap : Nat) (coupled : Bool) (ops : List SOp),
    1 ≤ respCap → 1 ≤ tcap → (∀ l, limit = some l → 1 ≤ l) →
    (settle (ops.foldl applyOp (initSys limit respCap tcap coupled))).2 = []

/-- **`settle` stops only when nothing is woken** (partial result): unless its fuel ran out, the state in
which `settle` computes what is stuck has no runnable stream task and no woken execution task, and
the verdict is exactly `stuck` of that state. -/
theorem C02S_settle_quiescent_partial (c : Sys) (hfuel : 0 < (settleLoopF 400 c).2) :
    serverRunnable (settle c).1.s = false ∧
    (∀ e ∈ (settle c).1.s.execs, wakeable e = true → e.woken = false) ∧
    (settle c).2 = stuck (settle c).1.s := by
  have hq := settleLoopF_quiescent 400 c hfuel
  refine ⟨hq.1, firstWokenExec_none _ hq.2, ?_⟩
  show (if serverRunnable (settleLoop 400 c).s || (firstWokenExec (settleLoop 400 c).s).isSome then []
        else stuck (settleLoop 400 c).s) = _
  rw [hq.1, hq.2]
  rfl

/-! ## Non-vacuity -/

/-- A request arrives, is yielded and executed; the handler finishes; the execution queues the
response, which wakes the stream task parked on the response queue; `settle` (polling only woken
tasks) lets it write the response: nothing is stuck and the response is on the wire. -/
example :
    let c0 := [SOp.injectReq 5 1000000000 ⟨1, .given 1, false⟩ 7, .pollServer, .pollExec 0, .pollServer,
               .finish 0 (.ok 9)].foldl applyOp (initSys none 1 2 true)
    c0.s.woken = false ∧ c0.s.rqRxWaker = true ∧
    (getExec c0.s 0).map (·.woken) = some true ∧
    (settle c0).2 = [] ∧ (settle c0).1.s.t.sentLog = [.response 5 (.ok 9)] ∧
    0 < (settleLoopF 400 c0).2 := by
  decide +kernel

/-- the stall script: the transport does not wake its owner when the owner's own flush makes room
(`selfWake b`), three requests arrive, the request stream is polled once -/
def limiterSelfWakeOps (b : Bool) : List SOp :=
  [.selfWake b, .injectReq 1 1000000000 ⟨0, .given 0, false⟩ 0, .injectReq 2 1000000000 ⟨0, .given 0, false⟩ 0,
   .injectReq 3 1000000000 ⟨0, .given 0, false⟩ 0, .pollServer]

/-- **`MaxRequests` relies on the sink waking it (model-level witness; reported, not repaired).**  With a
request limit (`limit = some 0`: every request is refused with the throttle error), a sink of capacity 2 and a
transport that does *not* wake its owner when the owner's own flush restores readiness (`selfWake false` —
a staging sink): the poll refuses requests 1 and 2 (two replies fill the sink), then
`MaxRequests::poll_next` gets `poll_ready → Pending` and returns `Pending` *without flushing*; the write pump
then flushes (making the sink ready again) and finds nothing to write.  The poll returns `Pending` with the
stream task parked although request 3 is unread and the transport is ready — only the write waker it left
registered at the sink could wake it, and this sink never fires it for the owner's own flush: `settle`
reports the unread inbound item as stuck.  With a self-waking transport (`selfWake true`) the same poll
leaves the task woken and `settle` reads request 3. -/
theorem C02S_limiter_needs_self_wake_witness :
    let c := (limiterSelfWakeOps false).foldl applyOp (initSys (some 0) 1 2 true)
    let c' := (limiterSelfWakeOps true).foldl applyOp (initSys (some 0) 1 2 true)
    (c.s.woken = false ∧ c.s.t.inbound.length = 1 ∧ c.s.t.isReadyNow = true ∧ c.s.t.writeWaker = true ∧
      c.s.done = none ∧ c.s.dropped = false ∧ c.s.poisoned = false ∧ c.s.t.wire.length = 2 ∧
      (settle c).2 = ["inbound-unread=1"]) ∧
    (c'.s.woken = true ∧ (settle c').2 = [] ∧ (settle c').1.s.t.inbound = []) := by
  decide +kernel

end TarpcModel.Server
