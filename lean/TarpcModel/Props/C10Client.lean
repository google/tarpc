import TarpcModel.Lemmas.ClientFlowSink
/-
C10 (client half): the dispatch shuts the connection down in order.

* `poll_close` is called only when no sender (handle or live call future) is left and both the request and
  the cancellation queue are empty; a closed transport implies that, for good.
* once the inbound side has ended (`poll_next → None`) the dispatch does not go back to waiting: the same
  `run` returns `Ok`, or the write pump reports an error / spin in that very iteration.
-/
namespace TarpcModel.Client
open Flow

/-- **C10, close only when drained (the call site).**  One `pump_write` either observes no `poll_close` at all,
or it is exactly: the steps before (which observe none) followed by `poll_close` in a state `s3` in which no
sender is left and both queues are empty. -/
theorem C10_close_only_when_drained (s : St) (now : Nat) :
    (pumpWrite s now).1.obs.filter isCloseObs = s.obs.filter isCloseObs ∨
    ∃ s3, senders s3 = 0 ∧ s3.pq = [] ∧ s3.cq = [] ∧ s3.obs.filter isCloseObs = s.obs.filter isCloseObs ∧
      pumpWrite s now = ((tClose s3).1, closePW (tClose s3).2) := by
  rcases pumpWrite_rel_or_close frameP_wrel s now with h | ⟨s1, s2, s3, h1, h2, h3, h, he⟩
  · exact .inl h.closeObs
  · obtain ⟨d1, d2, d3⟩ := pumpWrite_close_drained h1 h2 h3
    exact .inr ⟨s3, d1, d2, d3, h.closeObs, he⟩

/-- No other part of `run` calls `poll_close`: the read pump observes none. -/
theorem C10_pumpRead_no_close (s : St) : (pumpRead s).1.obs.filter isCloseObs = s.obs.filter isCloseObs := by
  have key := tNext_closeObs s
  refine pumpRead_cases (motive := fun p => p.1.obs.filter isCloseObs = s.obs.filter isCloseObs) s ?_ ?_ ?_ ?_ ?_
  · intro s1 h1; rw [h1] at key; exact key
  · intro s1 h1; rw [h1] at key; exact key
  · intro s1 h1; rw [h1] at key; exact key
  · intro s1 id res h1; rw [h1] at key
    exact ((completeRequest_frameA s1 id (outcomeOf res)).toP.closeObs).trans key
  · intro s1 m h1 _; rw [h1] at key; exact key

/-- **C10, close only when drained (all reachable states).**  Whenever the transport is closed, no handle and no
live call future exists and both queues are empty — in every state reachable by any script. -/
theorem C10_closed_implies_drained (m b c : Nat) (coupled : Bool) (ops : List COp) :
    (ops.foldl applyOp (initSys m b c coupled)).s.t.closed = true →
    senders (ops.foldl applyOp (initSys m b c coupled)).s = 0 ∧
    (ops.foldl applyOp (initSys m b c coupled)).s.pq = [] ∧
    (ops.foldl applyOp (initSys m b c coupled)).s.cq = [] :=
  (foldl_applyOp_inv ops (initSys_inv m b c coupled)).base.cd

/-- Once no sender is left, none comes back: every call / handle operation is a no-op (the stability
behind `C10_closed_implies_drained`). -/
theorem C10_no_sender_is_stable (s : St) (hd : senders s = 0) :
    (∀ h ctx body, newCall s h ctx body = emit s .noop) ∧ (∀ h, cloneHandle s h = emit s .noop) ∧
    (∀ cid now, senders (pollCall s cid now) = 0 ∧ (pollCall s cid now).pq = s.pq) := by
  refine ⟨?_, ?_, ?_⟩
  · intro h ctx body; unfold newCall; rw [(dead_of_senders hd).1]; rfl
  · intro h; unfold cloneHandle; rw [(dead_of_senders hd).1]; rfl
  · intro cid now
    obtain ⟨h1, h2, _⟩ := (pollCall_callStep s cid now).dead hd
    exact ⟨h1, h2⟩

/-! ### inbound end of stream -/

/-- **C10, stop when the inbound side has ended.**  If `run` goes back to waiting (`Pending`), the inbound
stream has not ended: once `poll_next` has returned `None` (in this or any earlier poll) `run` returns
`Ok`, or the error / spin the write pump hit in that same iteration. -/
theorem C10_run_pending_not_fused (fuel : Nat) (s : St) (now : Nat) :
    (run fuel s now).2 = .pending → (run fuel s now).1.readFused = false := by
  intro h
  obtain ⟨s0, s1, r, _, h1, h2, _⟩ := run_idle fuel (s := s) (s' := (run fuel s now).1) (now := now) (Prod.ext rfl h)
  have key := pumpRead_fused_iff s0
  rw [h1] at key
  have f := pumpWrite_frameW s1 now
  rw [h2] at f
  rw [f.readFused]
  cases hr : s1.readFused
  · rfl
  · have := key.mp hr; cases this

/-- The same at the level of one dispatch poll: if the inbound side has ended by the end of a poll that began
without a terminal error, the poll returned `Ready(Ok)`, or it hit a transport error in that same poll (it is
then shutting down with that error), or the task is poisoned (spin / panic).  It never just goes back to
`Pending`. -/
theorem C10_eof_stops_dispatch (s : St) (now : Nat) (ht : s.termErr = none)
    (hf : (pollDispatchCore s now).1.readFused = true) :
    (pollDispatchCore s now).2 = .readyOk ∨ (pollDispatchCore s now).1.termErr.isSome = true ∨
      (pollDispatchCore s now).1.poisoned = true := by
  revert hf
  refine pollDispatchCore_cases (motive := fun p => p.1.readFused = true →
    p.2 = .readyOk ∨ p.1.termErr.isSome = true ∨ p.1.poisoned = true) s now ?_ ?_ ?_ ?_ ?_
  · intro a _ _ h; rw [ht] at h; cases h
  · intro s1 _ h1 hf
    have := C10_run_pending_not_fused (runFuel s) s now; rw [h1] at this
    rw [this rfl] at hf; cases hf
  · intro _ _ _ _; exact .inl rfl
  · intro _ _ _ _; exact .inr (.inr rfl)
  · intro s1 a s2 fin _ _ h2 _
    have := shutDown_termErr { s1 with termErr := some a } a; rw [h2] at this
    exact .inr (.inl (by rw [this]; rfl))

/-! ### instances, witnesses -/

def c10Trace : Trace := { traceId := 1, span := .given 0, sampled := false }

/-- a call is made and transmitted; the last handle and the call go away; the dispatch is polled -/
def c10CloseOps : List COp :=
  [.call 0 1000000000 c10Trace 1, .pollCall 0, .pollDispatch, .dropHandle 0, .dropCall 0 .none, .pollDispatch]

/-- Non-trivial instance of the close path: the cancel is written, the transport is closed, the dispatch
completes with `Ok`, nothing is violated. -/
example : (c10CloseOps.foldl applyOp (initSys 2 1 4 true)).s.t.closed = true ∧
    (c10CloseOps.foldl applyOp (initSys 2 1 4 true)).s.done = some .readyOk ∧
    (c10CloseOps.foldl applyOp (initSys 2 1 4 true)).s.t.violations = [] := by decide

/-- two calls on a one-slot request queue (the second is handed the freed permit and not polled again), the
inbound side ends, a flush fault is armed, the dispatch is polled -/
def c10EofErrOps : List COp :=
  [.call 0 1000000000 c10Trace 1, .call 0 1000000000 c10Trace 2, .pollCall 0, .pollCall 1, .pollDispatch, .eof,
   .fault .flush, .pollDispatch]

/-- **Corner case the monitor must accept.**  When the inbound side ends *and* the write pump fails in the same
poll while a request-queue permit is still out (a caller was handed a permit and has not been polled since),
`shut_down_with_terminal_error` cannot finish draining: the poll observes `poll_next → None`, records the terminal
error and returns `Pending` (the second disjunct of `C10_eof_stops_dispatch`); the real `RequestDispatch::poll`
has the same control flow.  `monC10` exempts a poll in which the transport failed, so it accepts this trace. -/
theorem C10_eof_then_error_pending_witness :
    (trace (initSys 2 1 4 true) c10EofErrOps).drop 21 =
      [.obs (.tNext (.dispatch 0) .eof), .obs (.tReady (.dispatch 0) .ready), .obs (.tReady (.dispatch 0) .ready),
       .obs (.tFlush (.dispatch 0) .err), .obs (.wake (.call 0)), .obs (.ret (.dispatch 0) .pending),
       .obs (.counts (.dispatch 0) 0 0)] ∧
    (c10EofErrOps.foldl applyOp (initSys 2 1 4 true)).s.termErr = some .flush ∧
    (monC10 (trace (initSys 2 1 4 true) c10EofErrOps)).ok = true := by decide

end TarpcModel.Client
